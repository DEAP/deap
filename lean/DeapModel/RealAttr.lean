/-
The simp set `real_bridge`: every lemma that rewrites an operation of the scalar class `RealLike`, or a list helper
defined from them, at `ℝ` to Mathlib's own.  Declared apart because an attribute cannot be used in the module that
declares it; `RealInst.lean` tags the class operations, the modules of the real-valued properties tag the helpers of
their models and the few library lemmas their normal form needs (`Real.rpow_two` in `C13Basic`, `Nat.cast_add` /
`Nat.cast_mul` in `C20Real`), so above a property's files the set is that property's.  `simp only [real_bridge]` is how a
proof over `ℝ` leaves the model's vocabulary.
-/
import Lean.Meta.Tactic.Simp.RegisterCommand

/-- rewrites the `RealLike` operations at `ℝ`, and the models' helpers defined from them, to Mathlib's -/
register_simp_attr real_bridge
