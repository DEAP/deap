/-
The `ℝ` instance of `RealLike` (Mathlib): the scalar the real-valued theorems are about.
-/
import DeapModel.Core.Scalar
import DeapModel.RealAttr
import Mathlib.Analysis.SpecialFunctions.Pow.Real

noncomputable instance : RealLike ℝ where
  ofNat n := (n : ℝ)
  ofRatio n d := (n : ℝ) / (d : ℝ)
  sqrt := Real.sqrt
  exp := Real.exp
  log := Real.log
  sin := Real.sin
  cos := Real.cos
  pi := Real.pi
  pow := fun x y => x ^ y
  abs := fun x => |x|
  decLt := fun _ _ => Classical.dec _
  decLe := fun _ _ => Classical.dec _

namespace RealLike
@[simp] theorem real_ofNat (n : Nat) : (RealLike.ofNat n : ℝ) = (n : ℝ) := rfl
@[simp] theorem real_ofRatio (n : Int) (d : Nat) : (RealLike.ofRatio n d : ℝ) = (n : ℝ) / (d : ℝ) := rfl
@[simp] theorem real_sqrt (x : ℝ) : RealLike.sqrt x = Real.sqrt x := rfl
@[simp] theorem real_exp (x : ℝ) : RealLike.exp x = Real.exp x := rfl
@[simp] theorem real_log (x : ℝ) : RealLike.log x = Real.log x := rfl
@[simp] theorem real_sin (x : ℝ) : RealLike.sin x = Real.sin x := rfl
@[simp] theorem real_cos (x : ℝ) : RealLike.cos x = Real.cos x := rfl
@[simp] theorem real_pi : (RealLike.pi : ℝ) = Real.pi := rfl
@[simp] theorem real_pow (x y : ℝ) : RealLike.pow x y = x ^ y := rfl
@[simp] theorem real_abs (x : ℝ) : RealLike.abs x = |x| := rfl
@[simp] theorem real_add (a b : ℝ) : @HAdd.hAdd ℝ ℝ ℝ (@instHAdd ℝ RealLike.toAdd) a b = a + b := rfl
@[simp] theorem real_sub (a b : ℝ) : @HSub.hSub ℝ ℝ ℝ (@instHSub ℝ RealLike.toSub) a b = a - b := rfl
@[simp] theorem real_mul (a b : ℝ) : @HMul.hMul ℝ ℝ ℝ (@instHMul ℝ RealLike.toMul) a b = a * b := rfl
@[simp] theorem real_div (a b : ℝ) : @HDiv.hDiv ℝ ℝ ℝ (@instHDiv ℝ RealLike.toDiv) a b = a / b := rfl
@[simp] theorem real_neg (a : ℝ) : @Neg.neg ℝ RealLike.toNeg a = -a := rfl
@[simp] theorem real_lt (a b : ℝ) : @LT.lt ℝ RealLike.toLT a b ↔ a < b := Iff.rfl
@[simp] theorem real_le (a b : ℝ) : @LE.le ℝ RealLike.toLE a b ↔ a ≤ b := Iff.rfl

/-- a literal of the model at ℝ is Mathlib's literal (stated through the cast `((n : ℕ) : ℝ)` it would, with
`Nat.cast_ofNat`, loop as a simp lemma, because that also matches Mathlib's own literals) -/
@[real_bridge] theorem real_lit_ofNat (n : ℕ) [n.AtLeastTwo] :
    @OfNat.ofNat ℝ n (RealLike.instOfNat n) = OfNat.ofNat n := rfl
@[real_bridge] theorem real_lit_zero : @OfNat.ofNat ℝ 0 (RealLike.instOfNat 0) = 0 := Nat.cast_zero
@[real_bridge] theorem real_lit_one : @OfNat.ofNat ℝ 1 (RealLike.instOfNat 1) = 1 := Nat.cast_one

attribute [real_bridge] real_ofNat real_ofRatio real_sqrt real_exp real_log real_sin real_cos real_pi real_pow
  real_abs real_add real_sub real_mul real_div real_neg real_lt real_le
  Nat.cast_ofNat Nat.cast_zero Nat.cast_one Int.cast_ofNat Int.cast_neg Int.cast_zero Int.cast_one

theorem foldl_add (l : List ℝ) (a : ℝ) : l.foldl (· + ·) a = a + l.sum := by
  induction l generalizing a with
  | nil => simp
  | cons x t ih => rw [List.foldl_cons, ih, List.sum_cons, add_assoc]

@[simp, real_bridge] theorem real_sum (l : List ℝ) : RealLike.sum l = l.sum := by
  show l.foldl (· + ·) ((0 : ℕ) : ℝ) = l.sum
  rw [foldl_add, Nat.cast_zero, zero_add]

@[simp, real_bridge] theorem real_prod (init : ℝ) (l : List ℝ) : RealLike.prod init l = init * l.prod := by
  unfold RealLike.prod
  induction l generalizing init with
  | nil => simp
  | cons x t ih => rw [List.foldl_cons, ih, List.prod_cons, mul_assoc]

/-- Python's `min(a, b)` / `max(a, b)` (first argument wins ties) at ℝ -/
@[real_bridge] theorem real_pmin (a b : ℝ) : RealLike.pmin a b = min a b := by
  show (if b < a then b else a) = min a b
  split
  · next h => exact (min_eq_right h.le).symm
  · next h => exact (min_eq_left (not_lt.1 h)).symm

@[real_bridge] theorem real_pmax (a b : ℝ) : RealLike.pmax a b = max a b := by
  show (if a < b then b else a) = max a b
  split
  · next h => exact (max_eq_right h.le).symm
  · next h => exact (max_eq_left (not_lt.1 h)).symm
end RealLike
