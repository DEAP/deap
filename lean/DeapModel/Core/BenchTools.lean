/-
C20 — the evaluation-transforming decorators of `deap/benchmarks/tools.py:26-277`
(`translate`, `rotate`, `noise`, `scale`, `bound`).  The wrapped function is a parameter; the
`…Arg` functions are the list handed to it.  Polymorphic in `RealLike α`.  Mathlib-free.
-/
import DeapModel.Core.Scalar

namespace BenchTools
open RealLike

variable {α : Type} [RealLike α] {β : Type}

/-- `translate.__call__.wrapper` (`tools.py:60-65`): `[v - t for v, t in zip(individual, self.vector)]`. -/
def translateArg (vector x : List α) : List α := (x.zip vector).map fun p => p.1 - p.2

def translate (f : List α → β) (vector x : List α) : β := f (translateArg vector x)

/-- `scale.__init__` (`tools.py:206-209`): `tuple(1.0 / f for f in factor)`; a zero factor raises
ZeroDivisionError. -/
def scaleFactor (factor : List α) : Option (List α) :=
  factor.mapM fun f => if f < 0 ∨ 0 < f then some (1 / f) else none

/-- `scale.__call__.wrapper` (`:214-216`): `[v * f for v, f in zip(individual, self.factor)]`. -/
def scaleArg (factor x : List α) : Option (List α) :=
  (scaleFactor factor).map fun inv => (x.zip inv).map fun p => p.1 * p.2

def scale (f : List α → β) (factor x : List α) : Option β := (scaleArg factor x).map f

/-- `numpy.dot(matrix, individual)` for a 2-D matrix and a 1-D vector: one inner product per row;
shapes must agree. -/
def matVec (m : List (List α)) (x : List α) : Option (List α) :=
  m.mapM fun row =>
    if row.length = x.length then some (sum ((row.zip x).map fun p => p.1 * p.2)) else none

/-- `rotate` (`tools.py:100-115`): `__init__` stores `numpy.linalg.inv(matrix)` (the parameter `inv`,
trusted with the contract `inv R · R = I`), the wrapper hands `numpy.dot(self.matrix, individual)`
to the function. -/
def rotateArg (inv : List (List α) → List (List α)) (R : List (List α)) (x : List α) : Option (List α) :=
  matVec (inv R) x

def rotate (f : List α → β) (inv : List (List α) → List (List α)) (R : List (List α)) (x : List α) :
    Option β := (rotateArg inv R x).map f

/-- the stack `@translate(t) @rotate(R) @scale(f)` (outermost first): each wrapper hands its list to the
next one, so the innermost function receives `scale⁻¹(rotate⁻¹(translate⁻¹ x))`. -/
def stackArg (vector : List α) (minv : List (List α)) (factor : List α) (x : List α) : Option (List α) :=
  match matVec minv (translateArg vector x) with
  | none => none
  | some y => scaleArg factor y

/-- `noise.rand_funcs` (`tools.py:150-154`): one callable (or `None`) repeated for every objective,
or a tuple with one entry per objective; the flag says "is a function" (not `None`). -/
inductive NoiseSpec where
  | rep (hasFn : Bool)
  | each (fs : List Bool)

def NoiseSpec.flags (n : Nat) : NoiseSpec → List Bool
  | .rep b => List.replicate n b
  | .each fs => fs

/-- the loop `for r, f in zip(result, self.rand_funcs)` (`:161-166`): `r` or `r + f()`, every call
of a noise function takes the next draw of the tape. -/
def noiseGo : List (α × Bool) → List α → Option (List α × List α)
  | [], tape => some ([], tape)
  | (r, false) :: t, tape => (noiseGo t tape).map fun o => (r :: o.1, o.2)
  | (_, true) :: _, [] => none
  | (r, true) :: t, d :: tape => (noiseGo t tape).map fun o => ((r + d) :: o.1, o.2)

/-- `noise.__call__.wrapper` applied to the wrapped function's result. -/
def noise (spec : NoiseSpec) (result : List α) (tape : List α) : Option (List α × List α) :=
  noiseGo (result.zip (spec.flags result.length)) tape

/-- `bound` (`tools.py:224-264`): `_clip`, `_wrap` and `_mirror` all `return individual`
unchanged in this snapshot, so the decorated operator's result is passed through. -/
inductive BoundKind where
  | mirror | wrap | clip

def bound {γ : Type} (_kind : BoundKind) (individuals : γ) : γ := individuals

/-! ### histories: a decorated function re-parameterised through its setter

`evaluate = translate(v0)(f)`, then any interleaving of `evaluate.translate(v)` and `evaluate(x)`
(likewise `rotate`, `scale`, and the three of them stacked).  The decorator object holds ONE current
parameter; a setter call replaces it (`tools.py:51-63, 101-117, 200-214`), whatever object the caller
passes — a new one, the one passed before, or the one passed before with new contents — and every
evaluation uses the parameter installed last. -/

inductive HOp (P X : Type) where
  | set (p : P)
  | call (x : X)

/-- `install p` = what the setter stores for the argument `p` (`none`: the setter raises, e.g. a zero
scale factor); `apply s x` = what the wrapped function receives under the stored parameter `s`.
Returns the list handed to the wrapped function by every call, in order. -/
def runHist {P S X Y : Type} (install : P → Option S) (apply : S → X → Option Y) :
    S → List (HOp P X) → Option (List Y)
  | _, [] => some []
  | _, .set p :: ops =>
    match install p with
    | none => none
    | some s' => runHist install apply s' ops
  | s, .call x :: ops =>
    match apply s x with
    | none => none
    | some y =>
      match runHist install apply s ops with
      | none => none
      | some ys => some (y :: ys)

/-- the stored parameter after a history -/
def stateAfter {P S X : Type} (install : P → Option S) : S → List (HOp P X) → Option S
  | s, [] => some s
  | _, .set p :: ops =>
    match install p with
    | none => none
    | some s' => stateAfter install s' ops
  | s, .call _ :: ops => stateAfter install s ops

def translateHist (v0 : List α) (ops : List (HOp (List α) (List α))) : Option (List (List α)) :=
  runHist some (fun v x => some (translateArg v x)) v0 ops

/-- the stored parameter is the tuple of reciprocals -/
def scaleHist (f0 : List α) (ops : List (HOp (List α) (List α))) : Option (List (List α)) :=
  match scaleFactor f0 with
  | none => none
  | some r0 => runHist scaleFactor (fun r x => some ((x.zip r).map fun p => p.1 * p.2)) r0 ops

/-- the stored parameter is `inv matrix` -/
def rotateHist (inv : List (List α) → List (List α)) (R0 : List (List α))
    (ops : List (HOp (List (List α)) (List α))) : Option (List (List α)) :=
  runHist (fun R => some (inv R)) matVec (inv R0) ops

/-- setters of the stack `@translate @rotate @scale` -/
inductive StackParam (α : Type) where
  | t (v : List α)
  | r (R : List (List α))
  | s (f : List α)

structure StackState (α : Type) where
  vector : List α
  minv : List (List α)
  recip : List α

def stackInstall (inv : List (List α) → List (List α)) (st : StackState α) : StackParam α → Option (StackState α)
  | .t v => some { st with vector := v }
  | .r R => some { st with minv := inv R }
  | .s f => (scaleFactor f).map fun r => { st with recip := r }

def stackApply (st : StackState α) (x : List α) : Option (List α) :=
  (matVec st.minv (translateArg st.vector x)).map fun y => (y.zip st.recip).map fun p => p.1 * p.2

/-- histories on the stacked function: every setter changes its own decorator's parameter only -/
def stackHist (inv : List (List α) → List (List α)) : StackState α → List (HOp (StackParam α) (List α)) →
    Option (List (List α))
  | _, [] => some []
  | st, .set p :: ops =>
    match stackInstall inv st p with
    | none => none
    | some st' => stackHist inv st' ops
  | st, .call x :: ops =>
    match stackApply st x with
    | none => none
    | some y =>
      match stackHist inv st ops with
      | none => none
      | some ys => some (y :: ys)

end BenchTools
