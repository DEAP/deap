/-
Model of `deap/tools/selection.py` (all ten operators) and of `selTournamentDCD`
(`deap/tools/emo.py:147-197`) — property C06.

Conventions
* Exact scalars: `Rat`.  An individual is the record of the attributes the operators read:
  its fitness' weighted values (`fitness.wvalues`), `len(ind)` and `fitness.crowding_dist`.
* Object identity: an operator returns *population indices* — "the very objects of the input";
  a model that returned anything else (a copy) could not be expressed.  The population itself is
  an immutable argument (the operators are pure functions of population, parameters and tape).
* Randomness: the tape lists the *results* of the `random.*` calls in call order.  A draw of the
  wrong kind, a draw outside what the call can return (choice index ≥ len, a shuffle / sample
  result that is no permutation, `random()` outside [0,1)), an exhausted tape, and every Python
  exception of the transcribed code (IndexError, ValueError, the `assert`) yield `none`.
Mathlib-free (core Lean and `Core/Py`, `Core/Fitness` only).
-/
import DeapModel.Core.Py
import DeapModel.Core.Fitness

namespace Selection

/-- What the selection operators read of an individual. -/
structure Ind where
  /-- `getattr(ind, fit_attr).wvalues` — the fitness attribute the operator is told to use
  (`fit_attr`, default `"fitness"`; the lexicase family and the crowding tournament always read
  `ind.fitness`) -/
  wv : List Rat
  /-- `len(ind)` (double tournament) -/
  size : Nat := 0
  /-- `ind.fitness.crowding_dist` (dominance / crowding tournament) -/
  cd : Rat := 0
deriving Repr, DecidableEq, Inhabited

abbrev Pop := List Ind

/-- One recorded call of the `random` module (its *result*). -/
inductive Draw where
  /-- `random.choice(seq)`: index of the chosen element -/
  | choice (i : Nat)
  /-- `random.sample(seq, k)`: indices of the sampled elements in order -/
  | sample (idx : List Nat)
  /-- `random.shuffle(x)`: `new[j] = old[perm[j]]` -/
  | shuffle (perm : List Nat)
  /-- `random.random()`; also the draw underlying `random.uniform(a, b) = a + (b-a)*random()` -/
  | random (r : Rat)
deriving Repr, DecidableEq

abbrev Tape := List Draw

/-! ### Tape access -/

/-- `random.choice(seq)` with `len(seq) = n` (`IndexError` on an empty sequence). -/
def popChoice (n : Nat) : Tape → Option (Nat × Tape)
  | Draw.choice i :: t => if i < n then some (i, t) else none
  | _ => none

/-- `random.random()`, a double in `[0, 1)`. -/
def popRandom : Tape → Option (Rat × Tape)
  | Draw.random r :: t => if 0 ≤ r ∧ r < 1 then some (r, t) else none
  | _ => none

/-- `random.shuffle(list(range(n)))`: the resulting list, a permutation of `range(n)`. -/
def popShuffle (n : Nat) : Tape → Option (List Nat × Tape)
  | Draw.shuffle p :: t => if p.isPerm (List.range n) then some (p, t) else none
  | _ => none

/-- `random.sample(seq, len(seq))` with `len(seq) = n`: a permutation of the positions. -/
def popSample (n : Nat) : Tape → Option (List Nat × Tape)
  | Draw.sample p :: t => if p.isPerm (List.range n) then some (p, t) else none
  | _ => none

/-- `[step() for _ in range(k)]` / `for i in range(k): chosen.append(step())`. -/
def repeatM {α : Type} (step : Tape → Option (α × Tape)) : Nat → Tape → Option (List α × Tape)
  | 0, t => some ([], t)
  | k + 1, t =>
    match step t with
    | none => none
    | some (x, t1) =>
      match repeatM step k t1 with
      | none => none
      | some (l, t2) => some (x :: l, t2)

/-! ### Attribute access by population index -/

/-- `individuals[i].fitness.wvalues` (indices handed out by the tape readers are `< len`). -/
def wvAt (pop : Pop) (i : Nat) : List Rat := (pop[i]?.map Ind.wv).getD []
def sizeAt (pop : Pop) (i : Nat) : Nat := (pop[i]?.map Ind.size).getD 0
def cdAt (pop : Pop) (i : Nat) : Rat := (pop[i]?.map Ind.cd).getD 0

/-- `a.fitness < b.fitness` (`Fitness.__lt__`, base.py: `self.wvalues < other.wvalues`). -/
def fitLt (pop : Pop) (i j : Nat) : Bool := Fitness.lt ⟨wvAt pop i⟩ ⟨wvAt pop j⟩
/-- `a.fitness > b.fitness` (`Fitness.__gt__` = `not __le__`). -/
def fitGt (pop : Pop) (i j : Nat) : Bool := Fitness.gt ⟨wvAt pop i⟩ ⟨wvAt pop j⟩
/-- `a.fitness.dominates(b.fitness)` on all objectives. -/
def fitDom (pop : Pop) (i j : Nat) : Bool := Fitness.dominatesLoop (wvAt pop i) (wvAt pop j) false

/-- `fitness.values` (base.py:184-185): `map(truediv, wvalues, weights)`. -/
def values (w : List Rat) (x : Ind) : List Rat := List.zipWith (· / ·) x.wv w

/-! ### Python built-ins used -/

/-- `sorted(range(n), key=…)`: stable, uses only `<` of the keys (ascending). -/
def sortedAsc (lt : Nat → Nat → Bool) (l : List Nat) : List Nat := l.mergeSort (fun a b => !lt b a)
/-- `sorted(…, reverse=True)`: descending, equal elements keep their relative order. -/
def sortedDesc (lt : Nat → Nat → Bool) (l : List Nat) : List Nat := l.mergeSort (fun a b => !lt a b)

/-- `max(seq, key=…)`: the *first* maximal element (`item > best` replaces); `ValueError` on `[]`. -/
def pyMax (gt : Nat → Nat → Bool) : List Nat → Option Nat
  | [] => none
  | x :: xs => some (xs.foldl (fun best y => if gt y best then y else best) x)

/-- `max(values)` of numbers (0 for the empty list, which the callers never pass). -/
def listMax : List Rat → Rat
  | [] => 0
  | x :: xs => xs.foldl (fun m y => if y > m then y else m) x

def listMin : List Rat → Rat
  | [] => 0
  | x :: xs => xs.foldl (fun m y => if y < m then y else m) x

/-- `sum(iterable)`: left fold from `0`. -/
def pySum (l : List Rat) : Rat := l.foldl (· + ·) 0

/-- `numpy.median` of a 1-d list: sort; the middle element, or the mean of the two middle ones. -/
def median (l : List Rat) : Rat :=
  let s := l.mergeSort (fun a b => decide (a ≤ b))
  let m := s.length
  if m = 0 then 0
  else if m % 2 = 1 then s.getD (m / 2) 0
  else (s.getD (m / 2 - 1) 0 + s.getD (m / 2) 0) / 2

def absRat (x : Rat) : Rat := if x < 0 then -x else x

/-! ### selRandom, selBest, selWorst, selTournament  (selection.py:12-69) -/

/-- `selRandom(individuals, k)` (l.24) with `n = len(individuals)`. -/
def selRandom (n k : Nat) (t : Tape) : Option (List Nat × Tape) := repeatM (popChoice n) k t

/-- `selBest` (l.36): `sorted(individuals, key=fitness, reverse=True)[:k]`. -/
def selBest (pop : Pop) (k : Nat) : List Nat :=
  (sortedDesc (fitLt pop) (List.range pop.length)).take k

/-- `selWorst` (l.48): `sorted(individuals, key=fitness)[:k]`. -/
def selWorst (pop : Pop) (k : Nat) : List Nat :=
  (sortedAsc (fitLt pop) (List.range pop.length)).take k

/-- One tournament (l.67-68): `max(selRandom(individuals, tournsize), key=fitness)`. -/
def tournStep (pop : Pop) (tournsize : Nat) (t : Tape) : Option (Nat × Tape) :=
  match selRandom pop.length tournsize t with
  | none => none
  | some (aspirants, t1) =>
    match pyMax (fitGt pop) aspirants with
    | none => none
    | some w => some (w, t1)

/-- `selTournament` (l.65-69). -/
def selTournament (pop : Pop) (k tournsize : Nat) (t : Tape) : Option (List Nat × Tape) :=
  repeatM (tournStep pop tournsize) k t

/-! ### selRoulette  (selection.py:72-103) -/

/-- `getattr(ind, fit_attr).values[0]` for every individual (`IndexError` if one has no value). -/
def firstVals (w : List Rat) (pop : Pop) : Option (List Rat) := pop.mapM (fun x => (values w x).head?)

/-- The inner `for ind in s_inds` loop (l.97-101): first individual whose running sum exceeds `u`;
`none` when the loop ends without `break` (nothing is appended). -/
def spin (fs : List Rat) (u : Rat) : List Nat → Rat → Option Nat
  | [], _ => none
  | i :: rest, s =>
    let s' := s + fs.getD i 0
    if s' > u then some i else spin fs u rest s'

/-- One turn of the wheel (l.95-101). -/
def rouletteStep (fs : List Rat) (sInds : List Nat) (sumFits : Rat) (t : Tape) :
    Option (Option Nat × Tape) :=
  match popRandom t with
  | none => none
  | some (r, t1) => some (spin fs (r * sumFits) sInds 0, t1)

/-- `selRoulette` (l.91-103). -/
def selRoulette (w : List Rat) (pop : Pop) (k : Nat) (t : Tape) : Option (List Nat × Tape) :=
  match firstVals w pop with
  | none => none
  | some fs =>
    let sInds := sortedDesc (fitLt pop) (List.range pop.length)
    let sumFits := pySum fs
    match repeatM (rouletteStep fs sInds sumFits) k t with
    | none => none
    | some (l, t1) => some (l.filterMap id, t1)

/-! ### selStochasticUniversalSampling  (selection.py:184-217) -/

/-- The `while sum_ < p` walk (l.210-215): `cur` = `s_inds[i]`, `s` = `sum_`, the list = `s_inds[i+1:]`;
`none` = `IndexError` (walking past the end). -/
def susWalk (fs : List Rat) (p : Rat) : Nat → Rat → List Nat → Option Nat
  | cur, s, [] => if s < p then none else some cur
  | cur, s, j :: rest => if s < p then susWalk fs p j (s + fs.getD j 0) rest else some cur

def susPoint (fs : List Rat) (sInds : List Nat) (p : Rat) : Option Nat :=
  match sInds with
  | [] => none
  | i :: rest => susWalk fs p i (fs.getD i 0) rest

/-- `points = [start + i*distance for i in range(k)]` (l.206). -/
def susPoints (start distance : Rat) (k : Nat) : List Rat :=
  (List.range k).map (fun (i : Nat) => start + (i : Rat) * distance)

/-- `selStochasticUniversalSampling` (l.198-217). -/
def selSUS (w : List Rat) (pop : Pop) (k : Nat) (t : Tape) : Option (List Nat × Tape) :=
  if k = 0 then some ([], t)
  else
    match firstVals w pop with
    | none => none
    | some fs =>
      let sInds := sortedDesc (fitLt pop) (List.range pop.length)
      let sumFits := pySum fs
      let distance := sumFits / (k : Rat)
      match popRandom t with
      | none => none
      | some (r, t1) =>
        let start := 0 + (distance - 0) * r      -- random.uniform(0, distance)
        match (susPoints start distance k).mapM (susPoint fs sInds) with
        | none => none
        | some chosen => some (chosen, t1)

/-! ### selDoubleTournament  (selection.py:106-181) -/

/-- One round of `_sizeTournament` (l.151-165); `select` is `select(individuals, k=·)`. -/
def sizeTournStep (pop : Pop) (ps : Rat) (select : Nat → Tape → Option (List Nat × Tape)) (t : Tape) :
    Option (Nat × Tape) :=
  match select 2 t with
  | some ([i1, i2], t1) =>
    let swap : Bool := decide (sizeAt pop i1 > sizeAt pop i2)        -- l.157-158
    let tie : Bool := decide (sizeAt pop i1 = sizeAt pop i2)         -- l.159 (exclusive with swap)
    let a := if swap then i2 else i1
    let b := if swap then i1 else i2
    let prob : Rat := if tie then 1 / 2 else ps / 2                  -- l.154, 161
    match popRandom t1 with
    | none => none
    | some (r, t2) => some (if r < prob then a else b, t2)
  | _ => none

def sizeTournament (pop : Pop) (ps : Rat) (select : Nat → Tape → Option (List Nat × Tape)) (k : Nat) (t : Tape) :
    Option (List Nat × Tape) := repeatM (sizeTournStep pop ps select) k t

/-- One round of `_fitTournament` (l.171-173). -/
def fitTournStep (pop : Pop) (fitnessSize : Nat) (select : Nat → Tape → Option (List Nat × Tape)) (t : Tape) :
    Option (Nat × Tape) :=
  match select fitnessSize t with
  | none => none
  | some (aspirants, t1) =>
    match pyMax (fitGt pop) aspirants with
    | none => none
    | some w => some (w, t1)

def fitTournament (pop : Pop) (fitnessSize : Nat) (select : Nat → Tape → Option (List Nat × Tape)) (k : Nat) (t : Tape) :
    Option (List Nat × Tape) := repeatM (fitTournStep pop fitnessSize select) k t

/-- `selDoubleTournament` (l.147, 176-181). -/
def selDoubleTournament (pop : Pop) (k fitnessSize : Nat) (ps : Rat) (fitnessFirst : Bool) (t : Tape) :
    Option (List Nat × Tape) :=
  if 1 ≤ ps ∧ ps ≤ 2 then
    if fitnessFirst then
      sizeTournament pop ps (fitTournament pop fitnessSize (selRandom pop.length)) k t
    else
      fitTournament pop fitnessSize (sizeTournament pop ps (selRandom pop.length)) k t
  else none

/-! ### The lexicase family  (selection.py:220-324) -/

/-- Which filter the `while` body applies. -/
inductive Rule where
  /-- `selLexicase`: keep `== best` -/
  | exact
  /-- `selEpsilonLexicase`: keep within `epsilon` of the best -/
  | eps (e : Rat)
  /-- `selAutomaticEpsilonLexicase`: keep within the median absolute deviation of the best -/
  | auto
deriving Repr, DecidableEq

/-- `x.fitness.values[c]` for individual `i`. -/
def valAt (vals : List (List Rat)) (i c : Nat) : Rat := (vals.getD i []).getD c 0

/-- The tolerance a rule applies, given the candidates' values on the case
(l.309-310: `median_absolute_deviation`). -/
def tolOf : Rule → List Rat → Rat
  | .exact, _ => 0
  | .eps e, _ => e
  | .auto, errs => let med := median errs; median (errs.map (fun x => absRat (x - med)))

/-- The filter of one case (l.239-242 / 271-278 / 308-318). -/
def filterCase (rule : Rule) (w : List Rat) (vals : List (List Rat)) (c : Nat) (cands : List Nat) : List Nat :=
  let errs := cands.map (fun i => valAt vals i c)
  let maximise := decide (w.getD c 0 > 0)
  let best := if maximise then listMax errs else listMin errs
  match rule with
  | .exact => cands.filter (fun i => decide (valAt vals i c = best))
  | _ =>
    let tol := tolOf rule errs
    if maximise then cands.filter (fun i => decide (valAt vals i c ≥ best - tol))
    else cands.filter (fun i => decide (valAt vals i c ≤ best + tol))

/-- `while len(cases) > 0 and len(candidates) > 1` (the list argument is `cases`). -/
def lexLoop (rule : Rule) (w : List Rat) (vals : List (List Rat)) : List Nat → List Nat → List Nat
  | [], cands => cands
  | c :: cs, cands =>
    if cands.length > 1 then lexLoop rule w vals cs (filterCase rule w vals c cands) else cands

/-- One selection (body of `for i in range(k)`). -/
def lexStep (rule : Rule) (w : List Rat) (pop : Pop) (t : Tape) : Option (Nat × Tape) :=
  let vals := pop.map (values w)
  match vals with
  | [] => none                                  -- individuals[0]: IndexError
  | v0 :: _ =>
    -- evaluated individuals of one fitness class (else values[c] raises IndexError)
    if vals.all (fun v => v.length = v0.length) then
      match popShuffle v0.length t with
      | none => none
      | some (cases, t1) =>
        let cands := lexLoop rule w vals cases (List.range pop.length)
        match popChoice cands.length t1 with
        | none => none
        | some (j, t2) => some (cands.getD j 0, t2)
    else none

/-- `selLexicase` / `selEpsilonLexicase` / `selAutomaticEpsilonLexicase`. -/
def selLexicaseWith (rule : Rule) (w : List Rat) (pop : Pop) (k : Nat) (t : Tape) : Option (List Nat × Tape) :=
  repeatM (lexStep rule w pop) k t

/-! ### selTournamentDCD  (emo.py:147-197) -/

/-- `tourn(ind1, ind2)` (emo.py:172-185). -/
def dcdTourn (pop : Pop) (a b : Nat) (t : Tape) : Option (Nat × Tape) :=
  if fitDom pop a b then some (a, t)
  else if fitDom pop b a then some (b, t)
  else if cdAt pop a < cdAt pop b then some (b, t)
  else if cdAt pop a > cdAt pop b then some (a, t)
  else
    match popRandom t with
    | none => none
    | some (r, t1) => some (if r ≤ 1 / 2 then a else b, t1)

/-- `for i in range(0, k, 4)` (emo.py:191-195): the lists are `individuals_1[i:]`, `individuals_2[i:]`;
fewer than four remaining elements = `IndexError`. -/
def dcdLoop (pop : Pop) : Nat → List Nat → List Nat → Tape → Option (List Nat × Tape)
  | 0, _, _, t => some ([], t)
  | m + 1, a :: b :: c :: d :: r1, e :: f :: g :: h :: r2, t =>
    match dcdTourn pop a b t with
    | none => none
    | some (w1, t1) =>
      match dcdTourn pop c d t1 with
      | none => none
      | some (w2, t2) =>
        match dcdTourn pop e f t2 with
        | none => none
        | some (w3, t3) =>
          match dcdTourn pop g h t3 with
          | none => none
          | some (w4, t4) =>
            match dcdLoop pop m r1 r2 t4 with
            | none => none
            | some (l, t5) => some (w1 :: w2 :: w3 :: w4 :: l, t5)
  | _ + 1, _, _, _ => none

/-- `selTournamentDCD` (emo.py:166-197). -/
def selTournamentDCD (pop : Pop) (k : Nat) (t : Tape) : Option (List Nat × Tape) :=
  let n := pop.length
  if k > n then none                                  -- ValueError
  else if k = n ∧ k % 4 ≠ 0 then none                 -- ValueError
  else
    match popSample n t with
    | none => none
    | some (ind1, t1) =>
      match popSample n t1 with
      | none => none
      | some (ind2, t2) => dcdLoop pop ((k + 3) / 4) ind1 ind2 t2

end Selection
