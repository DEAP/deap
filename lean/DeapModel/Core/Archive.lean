/-
Model of `deap/tools/support.py` `HallOfFame` (lines 492-590) and `ParetoFront` (593-642) (C08).

The archive is exactly the code's two parallel lists: `keys` (fitnesses, ascending, maintained
with `bisect_right`) and `items` (individuals, best first).  Individuals carry an object id, a
genome and a fitness; `insert` deep-copies, i.e. stores a new object whose id is taken from the
archive's allocation counter `next`.  The similarity operator is a parameter.  A Python exception
(`IndexError` of `self[-1]` / `del items[index]`, `ZeroDivisionError` of `index % len(self)`)
is the result `none`.

Generic in the scalar type; the driver instantiates it at `Rat`, the theorems are proved for
every linear order.  Mathlib-free (core Lean only).
-/
import DeapModel.Core.Py
import DeapModel.Core.Fitness

namespace Archive
open Fitness

variable {G α : Type} [LT α] [LE α] [DecidableEq α] [DecidableLT α] [DecidableLE α]

/-- An individual as the archive sees it: an object (identity `oid`) with a genome and a
`fitness` attribute. -/
structure Ind (G α : Type) where
  oid : Nat
  genome : G
  fit : Fit α

/-- `a < b` on fitness objects is `Fitness.__lt__` — what `bisect_right(self.keys, item.fitness)`
evaluates. -/
scoped instance fitLT : LT (Fit α) := ⟨fun a b => Fitness.lt a b = true⟩
scoped instance fitDecLT : DecidableLT (Fit α) :=
  fun a b => inferInstanceAs (Decidable (Fitness.lt a b = true))

/-- State of a `HallOfFame` object (support.py:513-517) plus the allocation counter that hands
out the identities of the deep copies.  `ParetoFront.__init__` (611-612) passes `maxsize=None`,
which `ParetoFront.update`, `insert`, `remove`, `clear` never read; it is modelled as `0`. -/
structure HoF (G α : Type) where
  maxsize : Nat
  keys : List (Fit α)
  items : List (Ind G α)
  next : Nat

/-- `HallOfFame(maxsize, similar)`; `base` = first identity the copies will get. -/
def empty (maxsize base : Nat) : HoF G α := ⟨maxsize, [], [], base⟩

/-- `deepcopy(item)` (support.py:559): a new object with the same genome and a copy of the fitness. -/
def copyInd (fresh : Nat) (item : Ind G α) : Ind G α := ⟨fresh, item.genome, deepcopy item.fit⟩

/-- The loop of `bisect.bisect_right(a, x)` as CPython runs it (Lib/bisect.py:34-39, the same loop
in `_bisectmodule.c`): binary search with `x < a[mid]` as the only comparison.
```
while lo < hi:
    mid = (lo + hi) // 2
    if x < a[mid]: hi = mid
    else: lo = mid + 1
return lo
```
`fuel` bounds the number of iterations (`hi - lo + 1` suffices; `mid < hi ≤ len(a)`, so the
`none` branch is unreachable). -/
def bisectLoop (a : List (Fit α)) (x : Fit α) : Nat → Nat → Nat → Nat
  | 0, lo, _ => lo
  | fuel + 1, lo, hi =>
    if lo < hi then
      let mid := (lo + hi) / 2
      match a[mid]? with
      | some y => if x < y then bisectLoop a x fuel lo mid else bisectLoop a x fuel (mid + 1) hi
      | none => lo
    else lo

/-- `bisect_right(self.keys, item.fitness)` with the defaults `lo=0, hi=len(a)`.  On an ascending
list it is the position found by the linear scan `Py.bisectRight` (`C08L.bisectRight_eq`). -/
def bisectRight (a : List (Fit α)) (x : Fit α) : Nat := bisectLoop a x (a.length + 1) 0 a.length

/-- `insert` (support.py:559-562).
```
item = deepcopy(item)
i = bisect_right(self.keys, item.fitness)
self.items.insert(len(self) - i, item)
self.keys.insert(i, item.fitness)
```
`len(self)` is `len(self.items)` (577-578).  `i ≤ len(self.keys)`, and `len(self.keys) = len(self.items)`
in every reachable state (theorem `C08.mirror`), so the natural-number subtraction never truncates. -/
def insert (h : HoF G α) (item : Ind G α) : HoF G α :=
  let c := copyInd h.next item
  let i := bisectRight h.keys c.fit
  { h with items := Py.insertAt h.items (h.items.length - i) c
           keys := Py.insertAt h.keys i c.fit
           next := h.next + 1 }

/-- Resolve a Python list index for `del l[index]`: negative indices count from the end;
`none` = `IndexError`. -/
def pyIndex (len : Nat) (index : Int) : Option Nat :=
  if 0 ≤ index then (if index < len then some index.toNat else none)
  else (if -(len : Int) ≤ index then some (index + len).toNat else none)

/-- `remove` (support.py:569-570).
```
del self.keys[len(self) - (index % len(self) + 1)]
del self.items[index]
```
`index % len(self)` raises for an empty archive; for `len > 0` Python's `%` is `Int.emod`, so the
key position is in range; `del self.items[index]` raises for an out-of-range index. -/
def remove (h : HoF G α) (index : Int) : Option (HoF G α) :=
  let len := h.items.length
  if len = 0 then none else
  let k := len - ((index % (len : Int)).toNat + 1)
  match pyIndex len index with
  | none => none
  | some j => some { h with keys := Py.removeAt h.keys k, items := Py.removeAt h.items j }

/-- `clear` (support.py:574-575). -/
def clear (h : HoF G α) : HoF G α := { h with items := [], keys := [] }

/-- One iteration of the loop of `HallOfFame.update` (support.py:528-545); `pop0` is `population[0]`.
```
if len(self) == 0 and self.maxsize != 0:
    self.insert(population[0]); continue
if ind.fitness > self[-1].fitness or len(self) < self.maxsize:
    for hofer in self:
        if self.similar(ind, hofer): break
    else:
        if len(self) >= self.maxsize: self.remove(-1)
        self.insert(ind)
```
`self[-1]` on an empty archive (only possible for `maxsize = 0`) is an `IndexError`. -/
def step (sim : Ind G α → Ind G α → Bool) (pop0 : Ind G α) (h : HoF G α) (ind : Ind G α) :
    Option (HoF G α) :=
  if h.items.length = 0 ∧ h.maxsize ≠ 0 then some (insert h pop0)
  else match h.items.getLast? with
    | none => none
    | some worst =>
      if Fitness.gt ind.fit worst.fit || decide (h.items.length < h.maxsize) then
        if h.items.any (fun hofer => sim ind hofer) then some h
        else if h.items.length ≥ h.maxsize then
          match remove h (-1) with
          | none => none
          | some h' => some (insert h' ind)
        else some (insert h ind)
      else some h

/-- The `for ind in population` loop. -/
def updateLoop (sim : Ind G α → Ind G α → Bool) (pop0 : Ind G α) :
    HoF G α → List (Ind G α) → Option (HoF G α)
  | h, [] => some h
  | h, ind :: rest =>
    match step sim pop0 h ind with
    | none => none
    | some h' => updateLoop sim pop0 h' rest

/-- `HallOfFame.update(population)` (support.py:519-545). -/
def update (sim : Ind G α → Ind G α → Bool) (h : HoF G α) (population : List (Ind G α)) :
    Option (HoF G α) :=
  match population with
  | [] => some h
  | p0 :: _ => updateLoop sim p0 h population

/-- A history of `update` calls on one archive. -/
def run (sim : Ind G α → Ind G α → Bool) : HoF G α → List (List (Ind G α)) → Option (HoF G α)
  | h, [] => some h
  | h, b :: bs =>
    match update sim h b with
    | none => none
    | some h' => run sim h' bs

/-! ### ParetoFront -/

/-- `a.dominates(b)` with the default `obj=slice(None)` (base.py:206-223). -/
def dom (a b : Fit α) : Bool :=
  Fitness.dominates a b (List.range a.wvalues.length) (List.range b.wvalues.length)

/-- The local variables of one iteration of `ParetoFront.update` (support.py:624-627). -/
structure Scan where
  isDominated : Bool := false
  dominatesOne : Bool := false
  hasTwin : Bool := false
  toRemove : List Nat := []

/-- The scan `for i, hofer in enumerate(self)` (support.py:628-637); `i` is the index of the head
of the list still to be visited; returning without recursion is `break`.
```
if not dominates_one and hofer.fitness.dominates(ind.fitness):
    is_dominated = True; break
elif ind.fitness.dominates(hofer.fitness):
    dominates_one = True; to_remove.append(i)
elif ind.fitness == hofer.fitness and self.similar(ind, hofer):
    has_twin = True; break
``` -/
def scan (sim : Ind G α → Ind G α → Bool) (ind : Ind G α) : List (Ind G α) → Nat → Scan → Scan
  | [], _, s => s
  | hofer :: rest, i, s =>
    if !s.dominatesOne && dom hofer.fit ind.fit then { s with isDominated := true }
    else if dom ind.fit hofer.fit then
      scan sim ind rest (i + 1) { s with dominatesOne := true, toRemove := s.toRemove ++ [i] }
    else if Fitness.eq ind.fit hofer.fit && sim ind hofer then { s with hasTwin := true }
    else scan sim ind rest (i + 1) s

/-- `for i in <indices>: self.remove(i)` (support.py:639-640; the caller passes `reversed(to_remove)`). -/
def removeAll : HoF G α → List Nat → Option (HoF G α)
  | h, [] => some h
  | h, i :: is =>
    match remove h (i : Int) with
    | none => none
    | some h' => removeAll h' is

/-- One iteration of the loop of `ParetoFront.update` (support.py:623-642). -/
def pfStep (sim : Ind G α → Ind G α → Bool) (h : HoF G α) (ind : Ind G α) : Option (HoF G α) :=
  let s := scan sim ind h.items 0 {}
  match removeAll h s.toRemove.reverse with
  | none => none
  | some h' => some (if !s.isDominated && !s.hasTwin then insert h' ind else h')

/-- `ParetoFront.update(population)`. -/
def pfUpdate (sim : Ind G α → Ind G α → Bool) : HoF G α → List (Ind G α) → Option (HoF G α)
  | h, [] => some h
  | h, ind :: rest =>
    match pfStep sim h ind with
    | none => none
    | some h' => pfUpdate sim h' rest

/-- A history of `update` calls on one Pareto archive. -/
def pfRun (sim : Ind G α → Ind G α → Bool) : HoF G α → List (List (Ind G α)) → Option (HoF G α)
  | h, [] => some h
  | h, b :: bs =>
    match pfUpdate sim h b with
    | none => none
    | some h' => pfRun sim h' bs

end Archive
