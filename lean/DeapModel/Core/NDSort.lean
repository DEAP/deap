/-
Model of the two non-dominated sorting procedures of `deap/tools/emo.py` (C04):

* spec        `nondom` / `dominatedPart` / `peel` / `depth` / `leading` (the Pareto ranking by peeling)
* certificate `checkCert` / `checkRanking` (executable checker of the two local ranking conditions)
* model A     `sortStd`  = `sortNondominated`      (emo.py:53-117)
* model B     `sortLog`  = `sortLogNondominated`   (emo.py:201-453, with `isDominated`, `median`,
              `sortNDHelperA/B`, `splitA/B`, `sweepA/B`)

Import-free apart from `DeapModel.Core.Fitness` (dominance loop of `base.py`).  Generic in the scalar.
An individual is its identity `id` (position in the caller's list / Python object identity) and the
weighted values `w` of its fitness.  Python `dict`s are association lists in insertion order.
-/
import DeapModel.Core.Fitness

set_option linter.unusedVariables false

namespace NDSort

/-- An individual: object identity and `ind.fitness.wvalues`. -/
structure Ind (α : Type) where
  id : Nat
  w : List α
deriving Repr, DecidableEq

/-! ### Python `dict` / `defaultdict` as an insertion-ordered association list -/
section Dict
variable {κ ν : Type} [DecidableEq κ]

/-- `d[k]` (`dflt` = the `defaultdict` default; for plain dicts every looked-up key is present). -/
def dget : List (κ × ν) → ν → κ → ν
  | [], dflt, _ => dflt
  | (k', v) :: r, dflt, k => if k' = k then v else dget r dflt k

/-- `d[k] = v`: overwrite in place, or append a new key at the end (insertion order). -/
def dset : List (κ × ν) → κ → ν → List (κ × ν)
  | [], k, v => [(k, v)]
  | (k', v') :: r, k, v => if k' = k then (k', v) :: r else (k', v') :: dset r k v

/-- `list(d.keys())`. -/
def dkeys (d : List (κ × ν)) : List κ := d.map Prod.fst

/-- `list(d.values())`. -/
def dvalues (d : List (κ × ν)) : List ν := d.map Prod.snd

end Dict

/-! ### Specification: Pareto ranking by peeling -/
section Spec
variable {β : Type}

/-- The elements of `S` dominated by nobody in `S`. -/
def nondom (dom : β → β → Bool) (S : List β) : List β :=
  S.filter (fun x => !S.any (fun y => dom y x))

/-- The elements of `S` dominated by somebody in `S` (what is left once the front is removed). -/
def dominatedPart (dom : β → β → Bool) (S : List β) : List β :=
  S.filter (fun x => S.any (fun y => dom y x))

/-- `fuel` rounds of "remove the non-dominated elements". -/
def peelAux (dom : β → β → Bool) : Nat → List β → List (List β)
  | 0, _ => []
  | n + 1, S => if S.isEmpty then [] else nondom dom S :: peelAux dom n (dominatedPart dom S)

/-- The fronts of `S`: repeatedly remove the non-dominated elements.  `S.length` rounds always
suffice for a strict partial order (theorem `C04L.peel_eq`: every round removes at least one element
because a finite strict partial order has a maximal element). -/
def peel (dom : β → β → Bool) (S : List β) : List (List β) := peelAux dom S.length S

/-- Index of the first front containing `x` (`fronts.length` if there is none). -/
def frontIdx [DecidableEq β] : List (List β) → β → Nat
  | [], _ => 0
  | f :: fs, x => if x ∈ f then 0 else frontIdx fs x + 1

/-- Dominance depth of `x` in `S`. -/
def depth [DecidableEq β] (dom : β → β → Bool) (S : List β) (x : β) : Nat := frontIdx (peel dom S) x

/-- The leading fronts needed to reach `k` elements: none for `k = 0`, otherwise the first front and
then the leading fronts needed for the `k - |first|` elements still missing. -/
def leading : List (List β) → Nat → List (List β)
  | [], _ => []
  | f :: fs, k => if k = 0 then [] else f :: leading fs (k - f.length)

/-- The two local conditions that characterise the ranking (certificate, left-hand side of
`C04.ranking_unique`): a dominator has a strictly smaller rank, and every element of positive rank
has a dominator exactly one rank below. -/
def checkCert (dom : β → β → Bool) (S : List β) (r : β → Nat) : Bool :=
  S.all (fun x => S.all (fun y => !dom y x || decide (r y < r x))) &&
  S.all (fun x => decide (r x = 0) || S.any (fun y => dom y x && decide (r y + 1 = r x)))

/-- Checker for a complete list of fronts returned by an implementation: the fronts are non-empty,
contain every element of `S` exactly once (`isPerm`), and the rank function "index of my front"
satisfies the certificate. -/
def checkRanking [DecidableEq β] (dom : β → β → Bool) (S : List β) (fronts : List (List β)) : Bool :=
  fronts.all (fun f => !f.isEmpty) && fronts.flatten.isPerm S && checkCert dom S (frontIdx fronts)

end Spec

variable {α : Type} [LT α] [LE α] [DecidableEq α] [DecidableLT α] [DecidableLE α]

/-- `fit_a.dominates(fit_b)` with the default `obj=slice(None)` (base.py:203-223): the loop of C01
over the complete weighted-value tuples. -/
def domW (a b : List α) : Bool := Fitness.dominatesLoop a b false

/-- Dominance between individuals = dominance between their fitnesses. -/
def domI (a b : Ind α) : Bool := domW a.w b.w

/-! ### Model A: `sortNondominated` (emo.py:53-117) -/

/-- emo.py:75-77 `map_fit_ind[ind.fitness].append(ind)`; a `Fitness` hashes and compares equal by
its `wvalues`, so the key is the weighted-value tuple. -/
def mapFitInd (pop : List (Ind α)) : List (List α × List (Ind α)) :=
  pop.foldl (fun d ind => dset d ind.w (dget d [] ind.w ++ [ind])) []

structure StdState (α : Type) where
  /-- `dominating_fits` (emo.py:82), a `defaultdict(int)` -/
  cnt : List (List α × Int)
  /-- `dominated_fits` (emo.py:83), a `defaultdict(list)` -/
  dominated : List (List α × List (List α))
  /-- `current_front` (emo.py:80) -/
  current : List (List α)

/-- emo.py:88-93, the body of the inner loop for the pair `(fit_i, fit_j)`. -/
def pairStep (fi fj : List α) (s : StdState α) : StdState α :=
  if domW fi fj then
    { s with cnt := dset s.cnt fj (dget s.cnt 0 fj + 1),
             dominated := dset s.dominated fi (dget s.dominated [] fi ++ [fj]) }
  else if domW fj fi then
    { s with cnt := dset s.cnt fi (dget s.cnt 0 fi + 1),
             dominated := dset s.dominated fj (dget s.dominated [] fj ++ [fi]) }
  else s

/-- emo.py:86-95 `for i, fit_i in enumerate(fits): for fit_j in fits[i+1:]: …; if
dominating_fits[fit_i] == 0: current_front.append(fit_i)`. -/
def rankFirst : List (List α) → StdState α → StdState α
  | [], s => s
  | fi :: rest, s =>
    let s1 := rest.foldl (fun s fj => pairStep fi fj s) s
    let s2 := if dget s1.cnt 0 fi = 0 then { s1 with current := s1.current ++ [fi] } else s1
    rankFirst rest s2

structure LoopState (α : Type) where
  cnt : List (List α × Int)
  /-- `next_front` -/
  next : List (List α)
  /-- `fronts[-1]` -/
  front : List (Ind α)
  /-- `pareto_sorted` -/
  sorted : Nat

/-- emo.py:109-113, the body of `for fit_d in dominated_fits[fit_p]`. -/
def decStep (grp : List (List α × List (Ind α))) (st : LoopState α) (fd : List α) : LoopState α :=
  let c := dget st.cnt 0 fd - 1
  let cnt := dset st.cnt fd c
  if c = 0 then
    { cnt := cnt, next := st.next ++ [fd], sorted := st.sorted + (dget grp [] fd).length,
      front := st.front ++ dget grp [] fd }
  else { st with cnt := cnt }

/-- emo.py:107-108 the two nested `for` loops of one `while` iteration. -/
def sweepFront (grp : List (List α × List (Ind α))) (dominated : List (List α × List (List α)))
    (current : List (List α)) (cnt : List (List α × Int)) (sorted : Nat) : LoopState α :=
  current.foldl (fun st fp => (dget dominated [] fp).foldl (decStep grp) st) ⟨cnt, [], [], sorted⟩

/-- emo.py:105-115 `while pareto_sorted < N`.  Python's loop has no bound; `fuel` counts the
iterations still allowed and `none` means "did not finish" (`C04.sortStd_eq_peel` shows it never
happens with the fuel `sortStd` passes). -/
def whileLoop (grp : List (List α × List (Ind α))) (dominated : List (List α × List (List α)))
    (N : Nat) : Nat → List (List α × Int) → List (List α) → List (List (Ind α)) → Nat →
    Option (List (List (Ind α)))
  | fuel, cnt, current, fronts, sorted =>
    if sorted < N then
      match fuel with
      | 0 => none
      | fuel + 1 =>
        let st := sweepFront grp dominated current cnt sorted
        whileLoop grp dominated N fuel st.cnt st.next (fronts ++ [st.front]) st.sorted
    else some fronts

/-- `sortNondominated(individuals, k, first_front_only)` for `k ≥ 0`. -/
def sortStd (pop : List (Ind α)) (k : Nat) (firstFrontOnly : Bool) : Option (List (List (Ind α))) :=
  if k = 0 then some []                                              -- emo.py:72-73
  else
    let grp := mapFitInd pop                                         -- 75-77
    let fits := dkeys grp                                            -- 78
    let s := rankFirst fits ⟨[], [], []⟩                              -- 80-95
    let front0 := s.current.foldl (fun acc f => acc ++ dget grp [] f) []   -- 97-99
    if firstFrontOnly then some [front0]                             -- 104
    else whileLoop grp s.dominated (min pop.length k) fits.length s.cnt s.current [front0]
      front0.length                                                  -- 100, 105-117

/-! ### Model B: `sortLogNondominated` (emo.py:201-453) -/

variable [Add α] [Neg α] [Inhabited α]

/-- `fit[i]` on a tuple.  All tuples have the same length `m > i` wherever the code indexes them;
the driver and the theorems require it (Python would raise `IndexError`). -/
def nth (f : List α) (i : Nat) : α := f.getD i default

/-- emo.py:209-225 `isDominated(wvalues1, wvalues2)`: "wvalues2 dominates wvalues1". -/
def isDominatedLoop : List α → List α → Bool → Bool
  | a :: as, b :: bs, notEqual =>
      if b < a then false
      else if a < b then isDominatedLoop as bs true
      else isDominatedLoop as bs notEqual
  | _, _, notEqual => notEqual

def isDominated (w1 w2 : List α) : Bool := isDominatedLoop w1 w2 false

/-- `sorted(seq, key=key)`: stable, only `<` on keys is used. -/
def pySortedBy {β : Type} (key : β → α) (l : List β) : List β :=
  l.mergeSort (fun a b => !decide (key b < key a))

/-- emo.py:228-238 `median(seq, key)` — returned as **twice** the median so that no division is
needed: `key(mid) + key(mid)` for odd length, `key(lo) + key(hi)` for even length (Python returns
that sum `/ 2.0`).  A comparison `x > median_` is modelled as `x + x > median2`. -/
def median2 {β : Type} [Inhabited β] (seq : List β) (key : β → α) : α :=
  let sseq := pySortedBy key seq
  let length := seq.length
  if length % 2 = 1 then
    key (sseq.getD ((length - 1) / 2) default) + key (sseq.getD ((length - 1) / 2) default)
  else
    key (sseq.getD ((length - 1) / 2) default) + key (sseq.getD (length / 2) default)

/-- `bisect.bisect_right(a, x)` as CPython implements it (binary search; no sortedness assumed). -/
def bisectRightBin (a : List α) (x : α) (lo hi : Nat) : Nat :=
  if h : lo < hi then
    let mid := (lo + hi) / 2
    if x < a.getD mid default then bisectRightBin a x lo mid
    else bisectRightBin a x (mid + 1) hi
  else lo
termination_by hi - lo
decreasing_by all_goals omega

def bisectRight (a : List α) (x : α) : Nat := bisectRightBin a x 0 a.length

/-- Python `max(seq, key=key)`: the first maximal element. -/
def pyMaxBy {β γ : Type} [LT γ] [DecidableLT γ] (key : β → γ) : List β → Option β
  | [] => none
  | x :: xs => some (xs.foldl (fun best y => if key best < key y then y else best) x)

/-- Python `min(seq, key=key)`: the first minimal element. -/
def pyMinBy {β γ : Type} [LT γ] [DecidableLT γ] (key : β → γ) : List β → Option β
  | [] => none
  | x :: xs => some (xs.foldl (fun best y => if key y < key best then y else best) x)

abbrev FrontDict (α : Type) := List (List α × Nat)

/-- `front[a] = max(front[a], front[b] + 1)`. -/
def bump (front : FrontDict α) (a b : List α) : FrontDict α :=
  dset front a (max (dget front 0 a) (dget front 0 b + 1))

/-- emo.py:302-319 `splitA`.  The four lists are filled by one pass of `append`s, i.e. they are the
order-preserving filters written here. -/
def splitA (fits : List (List α)) (obj : Nat) : List (List α) × List (List α) :=
  let med2 := median2 fits (fun f => nth f obj)
  let gt := fun (f : List α) => decide (med2 < nth f obj + nth f obj)
  let lt := fun (f : List α) => decide (nth f obj + nth f obj < med2)
  let best_a := fits.filter (fun f => gt f || !lt f)       -- `>` or equal
  let worst_a := fits.filter (fun f => !gt f && lt f)
  let best_b := fits.filter gt
  let worst_b := fits.filter (fun f => !gt f)               -- `<` or equal
  let balance_a := ((best_a.length : Int) - worst_a.length).natAbs
  let balance_b := ((best_b.length : Int) - worst_b.length).natAbs
  if balance_a ≤ balance_b then (best_a, worst_a) else (best_b, worst_b)

/-- emo.py:367-400 `splitB`. -/
def splitB (best worst : List (List α)) (obj : Nat) :
    List (List α) × List (List α) × List (List α) × List (List α) :=
  let med2 := median2 (if best.length > worst.length then best else worst) (fun f => nth f obj)
  let gt := fun (f : List α) => decide (med2 < nth f obj + nth f obj)
  let lt := fun (f : List α) => decide (nth f obj + nth f obj < med2)
  let best1_a := best.filter (fun f => gt f || !lt f)
  let best2_a := best.filter (fun f => !gt f && lt f)
  let best1_b := best.filter gt
  let best2_b := best.filter (fun f => !gt f)
  let worst1_a := worst.filter (fun f => gt f || !lt f)
  let worst2_a := worst.filter (fun f => !gt f && lt f)
  let worst1_b := worst.filter gt
  let worst2_b := worst.filter (fun f => !gt f)
  let balance_a := ((best1_a.length : Int) - best2_a.length + worst1_a.length - worst2_a.length).natAbs
  let balance_b := ((best1_b.length : Int) - best2_b.length + worst1_b.length - worst2_b.length).natAbs
  if balance_a ≤ balance_b then (best1_a, best2_a, worst1_a, worst2_a)
  else (best1_b, best2_b, worst1_b, worst2_b)

structure Stairs (α : Type) where
  stairs : List α
  fstairs : List (List α)

/-- emo.py:327-339, the body of `for fit in fitnesses[1:]` of `sweepA`. -/
def sweepAStep (st : Stairs α × FrontDict α) (fit : List α) : Stairs α × FrontDict α :=
  let (s, front) := st
  let idx := bisectRight s.stairs (-(nth fit 1))
  let front :=
    if 0 < idx ∧ idx ≤ s.stairs.length then
      match pyMaxBy (fun f => dget front 0 f) (s.fstairs.take idx) with
      | some fstair => bump front fit fstair
      | none => front
    else front
  -- `for i, fstair in enumerate(fstairs[idx:], idx): if front[fstair] == front[fit]: del …; break`
  let s := match (s.fstairs.drop idx).findIdx? (fun f => dget front 0 f == dget front 0 fit) with
    | some j => { stairs := s.stairs.eraseIdx (idx + j), fstairs := s.fstairs.eraseIdx (idx + j) : Stairs α }
    | none => s
  ({ stairs := Py.insertAt s.stairs idx (-(nth fit 1)), fstairs := Py.insertAt s.fstairs idx fit }, front)

/-- emo.py:322-339 `sweepA` (called with at least three fitnesses). -/
def sweepA (fits : List (List α)) (front : FrontDict α) : FrontDict α :=
  match fits with
  | [] => front
  | f0 :: rest => (rest.foldl sweepAStep ({ stairs := [-(nth f0 1)], fstairs := [f0] }, front)).2

/-- emo.py:413-425: the body of `while next_best and h[:2] <= next_best[:2]` for one `next_best`. -/
def sweepBInsert (s : Stairs α) (front : FrontDict α) (nb : List α) : Stairs α :=
  let hit := s.fstairs.findIdx? (fun f => dget front 0 f == dget front 0 nb)
  let (insert, s) := match hit with
    | some i =>
      if nth nb 1 < nth (s.fstairs.getD i []) 1 then (false, s)
      else (true, { stairs := s.stairs.eraseIdx i, fstairs := s.fstairs.eraseIdx i : Stairs α })
    | none => (true, s)
  if insert then
    let idx := bisectRight s.stairs (-(nth nb 1))
    { stairs := Py.insertAt s.stairs idx (-(nth nb 1)), fstairs := Py.insertAt s.fstairs idx nb }
  else s

/-- The `while` loop of `sweepB` for one `h`: consume `best` while `h[:2] <= next_best[:2]`.
Returns the stairs and the not yet consumed part of `best` (the iterator state). -/
def sweepBWhile (h : List α) (front : FrontDict α) : List (List α) → Stairs α → Stairs α × List (List α)
  | [], s => (s, [])
  | nb :: rest, s =>
    if Py.tupleLe (h.take 2) (nb.take 2) then sweepBWhile h front rest (sweepBInsert s front nb)
    else (s, nb :: rest)

/-- emo.py:403-431 `sweepB`. -/
def sweepB (best worst : List (List α)) (front : FrontDict α) : FrontDict α :=
  (worst.foldl (fun (st : (Stairs α × List (List α)) × FrontDict α) h =>
    let ((s, bs), front) := st
    let (s, bs) := sweepBWhile h front bs s
    let idx := bisectRight s.stairs (-(nth h 1))
    let front :=
      if 0 < idx ∧ idx ≤ s.stairs.length then
        match pyMaxBy (fun f => dget front 0 f) (s.fstairs.take idx) with
        | some fstair => bump front h fstair
        | none => front
      else front
    ((s, bs), front)) (({ stairs := [], fstairs := [] }, best), front)).2

/-- `key(min(best, key=key))` etc. of emo.py:355-360 (`none` only for an empty list). -/
def minKey (l : List (List α)) (obj : Nat) : Option α := (pyMinBy (fun f => nth f obj) l).map (nth · obj)
def maxKey (l : List (List α)) (obj : Nat) : Option α := (pyMaxBy (fun f => nth f obj) l).map (nth · obj)

/-- `a >= b` on the two optional keys (both present in the branch where it is evaluated). -/
def optGe : Option α → Option α → Bool
  | some a, some b => decide (b ≤ a)
  | _, _ => false

/-- emo.py:346-351 direct comparison branch of `sortNDHelperB`. -/
def helperBDirect (best worst : List (List α)) (obj : Nat) (front : FrontDict α) : FrontDict α :=
  worst.foldl (fun front hi => best.foldl (fun front li =>
    if isDominated (hi.take (obj + 1)) (li.take (obj + 1)) || hi.take (obj + 1) == li.take (obj + 1)
    then bump front hi li else front) front) front

/-- emo.py:292 `len(frozenset(map(itemgetter(obj), fitnesses))) == 1`. -/
def objConstant (fits : List (List α)) (obj : Nat) : Bool :=
  ((fits.map (fun f => nth f obj)).eraseDups).length == 1

/-- emo.py:342-364 `sortNDHelperB(best, worst, obj, front)`.  `none` = the Python recursion would not
make progress (a split returning the input) or `obj` fell to 0 (outside the modelled domain: it
never happens when the top-level call has at least two objectives). -/
def helperB (best worst : List (List α)) (obj : Nat) (front : FrontDict α) : Option (FrontDict α) :=
  if worst.length = 0 ∨ best.length = 0 then some front
  else if best.length = 1 ∨ worst.length = 1 then some (helperBDirect best worst obj front)
  else if h1 : obj = 1 then some (sweepB best worst front)
  else if h0 : obj = 0 then none
  else if optGe (minKey best obj) (maxKey worst obj) then helperB best worst (obj - 1) front
  else if optGe (maxKey best obj) (minKey worst obj) then
    match hs : splitB best worst obj with
    | (best1, best2, worst1, worst2) =>
      if hg : best1.length + worst1.length < best.length + worst.length ∧
              best2.length + worst2.length < best.length + worst.length ∧
              best1.length + worst2.length ≤ best.length + worst.length then
        (helperB best1 worst1 obj front).bind fun front =>
        (helperB best1 worst2 (obj - 1) front).bind fun front =>
        helperB best2 worst2 obj front
      else none
  else some front
termination_by best.length + worst.length + obj
decreasing_by all_goals omega

/-- emo.py:281-299 `sortNDHelperA(fitnesses, obj, front)`. -/
def helperA (fits : List (List α)) (obj : Nat) (front : FrontDict α) : Option (FrontDict α) :=
  if fits.length < 2 then some front
  else if fits.length = 2 then
    let s1 := fits.getD 0 []
    let s2 := fits.getD 1 []
    if isDominated (s2.take (obj + 1)) (s1.take (obj + 1)) then some (bump front s2 s1) else some front
  else if h1 : obj = 1 then some (sweepA fits front)
  else if h0 : obj = 0 then none
  else if objConstant fits obj then helperA fits (obj - 1) front
  else
    match hs : splitA fits obj with
    | (best, worst) =>
      if hg : best.length < fits.length ∧ worst.length < fits.length ∧
              best.length + worst.length ≤ fits.length then
        (helperA best obj front).bind fun front =>
        (helperB best worst (obj - 1) front).bind fun front =>
        helperA worst obj front
      else none
termination_by fits.length + obj
decreasing_by all_goals omega

/-- emo.py:262-272: ranks of the distinct weighted-value tuples and the tuples sorted
lexicographically descending. -/
def logRanks (pop : List (Ind α)) : Option (List (List α) × FrontDict α × List (List α × List (Ind α))) :=
  match pop with
  | [] => none                                                       -- `individuals[0]` raises
  | ind0 :: _ =>
    let unique_fits := pop.foldl (fun d ind => dset d ind.w (dget d [] ind.w ++ [ind])) []   -- 263-265
    let obj := ind0.w.length - 1                                      -- 268
    let fitnesses := dkeys unique_fits                                -- 269
    let front : FrontDict α := fitnesses.map (fun f => (f, 0))        -- 270 `dict.fromkeys`
    -- 273 `fitnesses.sort(reverse=True)`: stable, descending tuple order
    let fitnesses := fitnesses.mergeSort (fun a b => !Py.tupleLt a b)
    (helperA fitnesses obj front).map fun front => (fitnesses, front, unique_fits)   -- 274

/-- emo.py:277-281: distribute the individuals over `max(front.values()) + 1` fronts. -/
def logFronts (fitnesses : List (List α)) (front : FrontDict α)
    (unique_fits : List (List α × List (Ind α))) : List (List (Ind α)) :=
  let nbfronts := (dvalues front).foldl max 0 + 1
  fitnesses.foldl (fun pf fit => pf.modify (dget front 0 fit) (· ++ dget unique_fits [] fit))
    (List.replicate nbfronts [])

/-- emo.py:284-290: `pareto_fronts[:i+1]` for the first `i` with `count >= k`, else all. -/
def logTruncate (fronts : List (List (Ind α))) (k : Nat) : List (List (Ind α)) :=
  let rec go : List (List (Ind α)) → Nat → List (List (Ind α))
    | [], _ => []
    | f :: fs, count => if count + f.length ≥ k then [f] else f :: go fs (count + f.length)
  go fronts 0

/-- `sortLogNondominated(individuals, k)` (`first_front_only=False`) for `k ≥ 0`. -/
def sortLog (pop : List (Ind α)) (k : Nat) : Option (List (List (Ind α))) :=
  if k = 0 then some []
  else (logRanks pop).map fun (fitnesses, front, uf) => logTruncate (logFronts fitnesses front uf) k

/-- `sortLogNondominated(individuals, k, first_front_only=True)`: Python returns the bare first
front (`pareto_fronts[0]`), and `[]` for `k == 0`. -/
def sortLogFirst (pop : List (Ind α)) (k : Nat) : Option (List (Ind α)) :=
  if k = 0 then some []
  else (logRanks pop).map fun (fitnesses, front, uf) => (logFronts fitnesses front uf).headD []

end NDSort
