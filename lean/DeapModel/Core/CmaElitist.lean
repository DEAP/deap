/-
Model of the elitist and multi-objective CMA-ES strategies of `deap/cma.py` (C14):
`StrategyOnePlusLambda` (cma.py:211-328), `StrategyMultiObjective` (cma.py:331-550) and
`StrategyActiveOnePlusLambda` (cma.py:553-868), transcribed statement by statement from the
repaired tree (F9: `numpy.abs(w).max()` in `_rankOneUpdate`; F14: `outer(w, w)·invA` in
`_rank1update`).

Core Lean only.  Scalars are polymorphic in `RealLike α` (`Float` for the driver, `ℝ` for the
theorems); vectors are `List α`, matrices are lists of rows.  Everything numpy/LAPACK does that is
not plain arithmetic is an explicit *parameter*: `chol` (numpy.linalg.cholesky), `inv`
(numpy.linalg.inv, `none` = LinAlgError), `around` (numpy.around), the non-dominated sort, the
hypervolume indicator (returns an index) and every random draw.  Fitness objects are an abstract
type `φ` compared through a `FitOrd φ` (the `__le__`/`__lt__` of the fitness class).
Functions return `Option` where the Python code raises (empty population, missing mid front,
index out of range); nothing is silently defaulted.
-/
import DeapModel.Core.Scalar

namespace CmaElitist
open RealLike

/-! ### numpy-style linear algebra on lists (operation order of the C loops: left to right) -/
namespace LA
variable {α : Type} [RealLike α]

def vadd (u v : List α) : List α := List.zipWith (· + ·) u v
def vsub (u v : List α) : List α := List.zipWith (· - ·) u v
def vmul (u v : List α) : List α := List.zipWith (· * ·) u v
def vscale (c : α) (v : List α) : List α := v.map (fun x => c * x)
def vdivs (v : List α) (c : α) : List α := v.map (fun x => x / c)
def vzero (n : Nat) : List α := List.replicate n 0
/-- `numpy.dot(u, v)` for two vectors. -/
def dot (u v : List α) : α := RealLike.sum (vmul u v)
/-- `numpy.sum(w ** 2)`. -/
def normSq (w : List α) : α := RealLike.sum (w.map (fun x => x * x))
/-- `numpy.abs(w).max()` (0 for the empty vector, which numpy rejects; dimensions are ≥ 1). -/
def maxAbs (w : List α) : α := w.foldl (fun m x => RealLike.pmax m (RealLike.abs x)) 0
/-- `numpy.dot(M, v)`. -/
def matVec (M : List (List α)) (v : List α) : List α := M.map (fun r => dot r v)
def col (M : List (List α)) (j : Nat) : List α := M.map (fun r => r.getD j 0)
/-- `numpy.dot(v, M)` for an `? × n` matrix. -/
def vecMat (n : Nat) (v : List α) (M : List (List α)) : List α :=
  (List.range n).map (fun j => dot v (col M j))
/-- `numpy.outer(u, v)`. -/
def outer (u v : List α) : List (List α) := u.map (fun a => v.map (fun b => a * b))
def madd (A B : List (List α)) : List (List α) := List.zipWith vadd A B
def msub (A B : List (List α)) : List (List α) := List.zipWith vsub A B
def mscale (c : α) (A : List (List α)) : List (List α) := A.map (vscale c)
def mdivs (A : List (List α)) (c : α) : List (List α) := A.map (fun r => vdivs r c)
/-- `numpy.dot(A, B)` for an `? × n` matrix `B`. -/
def matMul (n : Nat) (A B : List (List α)) : List (List α) := A.map (fun r => vecMat n r B)
def transpose (n : Nat) (A : List (List α)) : List (List α) := (List.range n).map (col A)
def identity (n : Nat) : List (List α) :=
  (List.range n).map (fun i => (List.range n).map (fun j => if i = j then (1 : α) else 0))
/-- `numpy.diag(M)`. -/
def diag (M : List (List α)) : List α := (List.zipIdx M).map (fun p => p.1.getD p.2 0)

end LA
open LA

/-- The comparison operators of the individuals' fitness class (`Fitness.__le__`, `__lt__`). -/
structure FitOrd (φ : Type) where
  le : φ → φ → Bool
  lt : φ → φ → Bool

/-- An evaluated individual of the (1+λ) strategies: `id` names the Python object, `x` is the
genome, `fit` its fitness; `y`, `z` stand for `_y`/`_z` attributes and are read nowhere (the active strategy, which
sets them, is modelled with `AInd`). -/
structure Ind (φ α : Type) where
  id : Nat
  x : List α
  fit : φ
  y : List α := []
  z : List α := []

/-- `population.sort(key=lambda ind: ind.fitness, reverse=True)`: stable, descending (`list.sort`
uses `__lt__` only; `reverse=True` keeps the original order of equal keys). -/
def sortDesc {φ α : Type} (ord : FitOrd φ) (pop : List (Ind φ α)) : List (Ind φ α) :=
  pop.mergeSort (fun a b => !ord.lt a.fit b.fit)

/-- `sum(self.parent.fitness <= ind.fitness for ind in population)`. -/
def countSucc {φ α : Type} (ord : FitOrd φ) (pf : φ) (pop : List (Ind φ α)) : Nat :=
  (pop.filter (fun i => ord.le pf i.fit)).length

/-! ### `StrategyOnePlusLambda` (cma.py:211-328) -/
namespace OnePlus
variable {α : Type} [RealLike α]

structure Params (α : Type) where
  lambda : Nat
  d : α
  ptarg : α
  cp : α
  cc : α
  ccov : α
  pthresh : α

/-- `computeParams` with no overrides (cma.py:262-279). -/
def defaultParams (dim lambda : Nat) : Params α :=
  let n : α := RealLike.ofNat dim
  let lam : α := RealLike.ofNat lambda
  let ptarg : α := 1 / (5 + RealLike.sqrt lam / 2)          -- :273
  { lambda := lambda
    d := 1 + n / (2 * lam)                                    -- :272
    ptarg := ptarg
    cp := ptarg * lam / (2 + ptarg * lam)                     -- :274
    cc := 2 / (n + 2)                                         -- :277
    ccov := 2 / (RealLike.ofNat (dim * dim) + 6)              -- :278 (dim ** 2 is an int)
    pthresh := RealLike.ofRatio 44 100 }                      -- :279

structure State (φ α : Type) where
  parent : Ind φ α
  sigma : α
  C : List (List α)
  A : List (List α)
  pc : List α
  psucc : α
  prm : Params α

/-- `__init__` (cma.py:249-260). -/
def init {φ : Type} (parent : Ind φ α) (sigma : α) (prm : Params α) : State φ α :=
  let dim := parent.x.length
  { parent := parent, sigma := sigma, C := identity dim, A := identity dim, pc := vzero dim,
    psucc := prm.ptarg, prm := prm }

/-- `generate` (cma.py:290-292): row `i` of `parent + sigma * dot(arz, A.T)`. -/
def generate {φ : Type} (s : State φ α) (arz : List (List α)) : List (List α) :=
  arz.map (fun z => vadd s.parent.x (vscale s.sigma (matVec s.A z)))

/-- The smoothed success rate, cma.py:303-304. -/
def psuccUpdate (prm : Params α) (psucc : α) (lambdaSucc : Nat) : α :=
  let p_succ : α := RealLike.ofNat lambdaSucc / RealLike.ofNat prm.lambda
  (1 - prm.cp) * psucc + prm.cp * p_succ

/-- cma.py:316. -/
def sigmaUpdate (prm : Params α) (sigma psucc : α) : α :=
  sigma * RealLike.exp (1 / prm.d * (psucc - prm.ptarg) / (1 - prm.ptarg))

/-- The covariance step taken on success, cma.py:307-314: new `(pc, C)`. -/
def covUpdate (prm : Params α) (psucc : α) (pc : List α) (C : List (List α)) (xStep : List α) :
    List α × List (List α) :=
  if psucc < prm.pthresh then
    let pc' := vadd (vscale (1 - prm.cc) pc) (vscale (RealLike.sqrt (prm.cc * (2 - prm.cc))) xStep)   -- :310
    (pc', madd (mscale (1 - prm.ccov) C) (mscale prm.ccov (outer pc' pc')))                            -- :311
  else
    let pc' := vscale (1 - prm.cc) pc                                                                  -- :313
    (pc', madd (mscale (1 - prm.ccov) C)
            (mscale prm.ccov (madd (outer pc' pc') (mscale (prm.cc * (2 - prm.cc)) C))))              -- :314

/-- Result of `update`: the new state, the caller's list as sorted in place, `lambda_succ`. -/
structure UpdOut (φ α : Type) where
  st : State φ α
  sorted : List (Ind φ α)
  lambdaSucc : Nat
  replaced : Bool

/-- `update` (cma.py:294-328).  `none` = the `IndexError` of `population[0]` on an empty list. -/
def update {φ : Type} (ord : FitOrd φ) (chol : List (List α) → List (List α))
    (s : State φ α) (population : List (Ind φ α)) : Option (UpdOut φ α) :=
  let sorted := sortDesc ord population                                       -- :301
  let lambdaSucc := countSucc ord s.parent.fit sorted                         -- :302
  let psucc := psuccUpdate s.prm s.psucc lambdaSucc                           -- :303-304
  match sorted with
  | [] => none
  | best :: _ =>
    let sigma' := sigmaUpdate s.prm s.sigma psucc                             -- :316
    if ord.le s.parent.fit best.fit then                                      -- :306
      let xStep := vdivs (vsub best.x s.parent.x) s.sigma                     -- :307
      let (pc', C') := covUpdate s.prm psucc s.pc s.C xStep                   -- :309-314
      some { st := { s with parent := best, sigma := sigma', C := C', A := chol C', pc := pc',
                            psucc := psucc },
             sorted := sorted, lambdaSucc := lambdaSucc, replaced := true }
    else
      some { st := { s with sigma := sigma', A := chol s.C, psucc := psucc },   -- :328
             sorted := sorted, lambdaSucc := lambdaSucc, replaced := false }

/-- Any number of `update` calls on evaluated populations (the `generate` in between only
decides which genomes are evaluated; the theorems quantify over all of them). -/
def run {φ : Type} (ord : FitOrd φ) (chol : List (List α) → List (List α))
    (s : State φ α) : List (List (Ind φ α)) → Option (State φ α)
  | [] => some s
  | pop :: rest =>
    match update ord chol s pop with
    | none => none
    | some o => run ord chol o.st rest

end OnePlus

/-! ### `StrategyMultiObjective` (cma.py:331-550) -/
namespace MO
variable {α : Type} [RealLike α]

/-! #### `_select` (cma.py:433-472), generic in the element type -/

/-- The loop over the fronts, cma.py:447-456.  State: `chosen`, `mid_front`, `not_chosen`, `full`. -/
def fillFronts {ι : Type} (mu : Nat) :
    List (List ι) → List ι → Option (List ι) → List ι → Bool → List ι × Option (List ι) × List ι
  | [], c, m, nc, _ => (c, m, nc)
  | f :: fs, c, m, nc, full =>
    if c.length + f.length ≤ mu ∧ full = false then fillFronts mu fs (c ++ f) m nc full      -- :449-450
    else if m.isNone ∧ c.length < mu then fillFronts mu fs c (some f) nc true                -- :451-454
    else fillFronts mu fs c m (nc ++ f) full                                                 -- :456

/-- cma.py:466-468: `cnt` times, `not_chosen.append(mid_front.pop(indicator(mid_front)))`.
`none` = `IndexError` of `pop`. -/
def dropLeast {ι : Type} (indicator : List ι → Nat) : Nat → List ι → List ι → Option (List ι × List ι)
  | 0, mid, nc => some (mid, nc)
  | cnt + 1, mid, nc =>
    let idx := indicator mid
    match mid[idx]? with
    | none => none
    | some x => dropLeast indicator cnt (mid.eraseIdx idx) (nc ++ [x])

/-- `_select` with the sort result and the indicator (already closed over `ref`) as parameters.
`none` = exception (`len(None)` when no mid front was found although `k > 0`; bad index). -/
def selectFronts {ι : Type} (mu : Nat) (fronts : List (List ι)) (indicator : List ι → Nat)
    (candidates : List ι) : Option (List ι × List ι) :=
  if candidates.length ≤ mu then some (candidates, [])                         -- :434-435
  else
    let r := fillFronts mu fronts [] none [] false
    let chosen := r.1
    let k := mu - chosen.length                                                -- :459
    if 0 < k then                                                              -- :460
      match r.2.1 with
      | none => none
      | some mid =>
        match dropLeast indicator (mid.length - k) mid r.2.2 with              -- :466-468
        | none => none
        | some (mid', nc') => some (chosen ++ mid', nc')                       -- :470
    else some (chosen, r.2.2)

/-- An individual as the MO strategy sees it: genome, weighted fitness values, `_ps` tag
(`off = true` for `"o"`, `pidx` the parent index). -/
structure MInd (α : Type) where
  id : Nat
  x : List α
  wv : List α
  off : Bool
  pidx : Nat

/-- cma.py:463-464: `numpy.max(wvalues * -1, axis=0) + 1` over all candidates
(`nobj` = number of objectives). -/
def refPoint (nobj : Nat) (cands : List (MInd α)) : List α :=
  (List.range nobj).map (fun j =>
    match cands.map (fun c => c.wv.getD j 0 * (-(1 : α))) with
    | [] => (1 : α)
    | v :: vs => vs.foldl (fun m x => RealLike.pmax m x) v + 1)

/-- `_select` on MO individuals. -/
def select (mu nobj : Nat) (sortND : List (MInd α) → List (List (MInd α)))
    (indicator : List (MInd α) → List α → Nat) (cands : List (MInd α)) :
    Option (List (MInd α) × List (MInd α)) :=
  selectFronts mu (sortND cands) (fun l => indicator l (refPoint nobj cands)) cands

/-! #### `_rankOneUpdate` (cma.py:474-488) -/

/-- Returns `(invCholesky', A')`.  `n` is the dimension. -/
def rankOneUpdate (n : Nat) (invCh A : List (List α)) (alpha beta : α) (v : List α) :
    List (List α) × List (List α) :=
  let w := matVec invCh v                                                     -- :475
  if RealLike.ofRatio 1 100000000000000000000 < maxAbs w then                 -- :478 (1e-20)
    let wInv := vecMat n w invCh                                              -- :479
    let normW2 := normSq w                                                    -- :480
    let a := RealLike.sqrt alpha                                              -- :481
    let root := RealLike.sqrt (1 + beta / alpha * normW2)                     -- :482
    let b := a / normW2 * (root - 1)                                          -- :483
    let A' := madd (mscale a A) (mscale b (outer v w))                        -- :485
    let inv' := msub (mscale (1 / a) invCh)
                  (mscale (b / (a * a + a * b * normW2)) (outer w wInv))      -- :486
    (inv', A')
  else (invCh, A)

/-! #### the strategy state and `generate`/`update` -/

structure Params (α : Type) where
  mu : Nat
  lambda : Nat
  d : α
  ptarg : α
  cp : α
  cc : α
  ccov : α
  pthresh : α

/-- Defaults of `__init__` (cma.py:373-384). -/
def defaultParams (dim mu lambda : Nat) : Params α :=
  let n : α := RealLike.ofNat dim
  let ptarg : α := 1 / (5 + RealLike.ofRatio 1 2)
  { mu := mu, lambda := lambda
    d := 1 + n / 2
    ptarg := ptarg
    cp := ptarg / (2 + ptarg)
    cc := 2 / (n + 2)
    ccov := 2 / (RealLike.ofNat (dim * dim) + 6)
    pthresh := RealLike.ofRatio 44 100 }

structure State (α : Type) where
  dim : Nat
  parents : List (MInd α)
  sigmas : List α
  A : List (List (List α))
  invCh : List (List (List α))
  pc : List (List α)
  psucc : List α
  prm : Params α

/-- `__init__` (cma.py:368-395). -/
def init (population : List (MInd α)) (sigma : α) (dim : Nat) (prm : Params α) : State α :=
  let m := population.length
  { dim := dim, parents := population, sigmas := List.replicate m sigma,
    A := List.replicate m (identity dim), invCh := List.replicate m (identity dim),
    pc := List.replicate m (vzero dim), psucc := List.replicate m prm.ptarg, prm := prm }

/-- One offspring of parent `p` from the normal vector `z` (cma.py:419/428). -/
def offspringX (s : State α) (p : Nat) (z : List α) : List α :=
  vadd ((s.parents.getD p ⟨0, [], [], false, 0⟩).x)
    (vscale (s.sigmas.getD p 0) (matVec (s.A.getD p []) z))

/-- cma.py:412-413: `generate` tags every parent `("p", i)` before anything else. -/
def retag (s : State α) : State α :=
  { s with parents := (List.zipIdx s.parents).map (fun p => { p.1 with off := false, pidx := p.2 }) }

/-- The `_ps` attributes the individuals handed to `__init__` may already carry: individuals that
went through another `StrategyMultiObjective` (a restart from its parents after sorting / filtering
them, or from its last offspring) keep that strategy's tags, `("p", old index)` or `("o", index of
the old parent)`.  `setTags s tags` is `s` with the tag of parent `i` replaced by `tags[i]` (parents
beyond the end of `tags` keep theirs); nothing else of the state depends on the tags.  A fresh
individual (no `_ps` attribute) is any value here: `retag` overwrites it before it is read. -/
def setTags (s : State α) (tags : List (Bool × Nat)) : State α :=
  { s with parents := (List.zipIdx s.parents).map (fun p =>
      match tags[p.2]? with
      | some t => { p.1 with off := t.1, pidx := t.2 }
      | none => p.1) }

/-- `generate` (cma.py:397-431).  `arz` = the `lambda_ × dim` normal draws, `firstFront` = the
non-dominated front of the (re-tagged) parents, `draws` = the `numpy.random.randint` results.
Returns the re-tagged parents and, per offspring, its genome and parent index (`"o", p_idx`). -/
def generate (s : State α) (arz : List (List α)) (firstFront : List (MInd α) → List (MInd α))
    (draws : List Nat) : List (MInd α) × List (List α × Nat) :=
  let s' := retag s                                                                           -- :412-413
  let parents := s'.parents
  if s.prm.lambda = s.prm.mu then                                                               -- :416
    (parents, (List.zipIdx (arz.take s.prm.lambda)).map (fun zi => (offspringX s' zi.2 zi.1, zi.2)))   -- :417-420
  else
    let ndom := firstFront parents                                                              -- :424
    (parents, (List.zip (arz.take s.prm.lambda) draws).map (fun zj =>
      let pIdx := (ndom.getD zj.2 ⟨0, [], [], false, 0⟩).pidx                                   -- :426-427
      (offspringX s' pIdx zj.1, pIdx)))                                                         -- :428-429

/-- The per-offspring temporaries of `update` for one chosen individual (cma.py:503-528), computed by
`offspringTmp`; a chosen old parent has none (the Python lists hold `None` there: the `Option` in `realign`). -/
structure Tmp (α : Type) where
  sigma : α
  invCh : List (List α)
  A : List (List α)
  pc : List α
  psucc : α

def offspringTmp (s : State α) (ind : MInd α) : Tmp α :=
  let p := s.prm
  let j := ind.pidx
  let lastStep := s.sigmas.getD j 0                                           -- :503
  let psucc := (1 - p.cp) * s.psucc.getD j 0 + p.cp                           -- :517
  let sigma := s.sigmas.getD j 0 * RealLike.exp ((psucc - p.ptarg) / (p.d * (1 - p.ptarg)))   -- :518
  if psucc < p.pthresh then                                                   -- :520
    let xp := ind.x
    let x := (s.parents.getD j ⟨0, [], [], false, 0⟩).x
    let pc := vadd (vscale (1 - p.cc) (s.pc.getD j []))
                (vdivs (vscale (RealLike.sqrt (p.cc * (2 - p.cc))) (vsub xp x)) lastStep)     -- :523
    let r := rankOneUpdate s.dim (s.invCh.getD j []) (s.A.getD j []) (1 - p.ccov) p.ccov pc   -- :524
    { sigma := sigma, invCh := r.1, A := r.2, pc := pc, psucc := psucc }
  else
    let pc := vscale (1 - p.cc) (s.pc.getD j [])                              -- :526
    let pcWeight := p.cc * (2 - p.cc)                                         -- :527
    let r := rankOneUpdate s.dim (s.invCh.getD j []) (s.A.getD j [])
               (1 - p.ccov + pcWeight) p.ccov pc                              -- :528
    { sigma := sigma, invCh := r.1, A := r.2, pc := pc, psucc := psucc }

/-- In-place adjustment of `self.psucc[p_idx]`, `self.sigmas[p_idx]` for one offspring,
cma.py:530-531 (`succ = true`, chosen) and 540-541 (`succ = false`, not chosen). -/
def adjustParent (p : Params α) (succ : Bool) (ps : List α × List α) (j : Nat) : List α × List α :=
  let psj := if succ then (1 - p.cp) * ps.1.getD j 0 + p.cp else (1 - p.cp) * ps.1.getD j 0
  let sgj := ps.2.getD j 0 * RealLike.exp ((psj - p.ptarg) / (p.d * (1 - p.ptarg)))
  (ps.1.set j psj, ps.2.set j sgj)

/-- The two loops cma.py:511-541 as far as they mutate `self.psucc` / `self.sigmas`. -/
def adjustAll (p : Params α) (chosen notChosen : List (MInd α)) (psucc sigmas : List α) :
    List α × List α :=
  let r1 := chosen.foldl (fun acc ind => if ind.off then adjustParent p true acc ind.pidx else acc)
              (psucc, sigmas)
  notChosen.foldl (fun acc ind => if ind.off then adjustParent p false acc ind.pidx else acc) r1

/-- `[tmp[i] if ind._ps[0] == "o" else self.old[ind._ps[1]] for i, ind in enumerate(chosen)]`. -/
def pick {β : Type} (chosen : List (MInd α)) (tmp : List (Option (Tmp α))) (fromTmp : Tmp α → β)
    (old : Nat → β) : List β :=
  (List.zip chosen tmp).map (fun it => match it.2 with
    | some t => fromTmp t
    | none => old it.1.pidx)

/-- The realignment cma.py:545-550 given the selection result. -/
def realign (s : State α) (chosen notChosen : List (MInd α)) : State α :=
  let adj := adjustAll s.prm chosen notChosen s.psucc s.sigmas
  let tmp := chosen.map (fun ind => if ind.off then some (offspringTmp s ind) else none)
  { s with
    parents := chosen                                                          -- :545
    sigmas := pick chosen tmp (·.sigma) (fun j => adj.2.getD j 0)              -- :546
    invCh := pick chosen tmp (·.invCh) (fun j => s.invCh.getD j [])            -- :547
    A := pick chosen tmp (·.A) (fun j => s.A.getD j [])                        -- :548
    pc := pick chosen tmp (·.pc) (fun j => s.pc.getD j [])                     -- :549
    psucc := pick chosen tmp (·.psucc) (fun j => adj.1.getD j 0) }             -- :550

/-- `update` (cma.py:490-550).  `nobj` = number of objectives. -/
def update (s : State α) (nobj : Nat) (sortND : List (MInd α) → List (List (MInd α)))
    (indicator : List (MInd α) → List α → Nat) (population : List (MInd α)) :
    Option (State α × List (MInd α)) :=
  match select s.prm.mu nobj sortND indicator (population ++ s.parents) with   -- :497
  | none => none
  | some (chosen, notChosen) => some (realign s chosen notChosen, notChosen)

/-- One generate/update round as `update` sees it: `generate` has overwritten the tag of EVERY
parent with `("p", i)` (cma.py:412-413, unconditionally — whatever `_ps` the individual carried),
then `update` selects among `population ++ parents` and realigns the per-parent lists by the tags. -/
def round (s : State α) (nobj : Nat) (sortND : List (MInd α) → List (List (MInd α)))
    (indicator : List (MInd α) → List α → Nat) (population : List (MInd α)) :
    Option (State α × List (MInd α)) :=
  update (retag s) nobj sortND indicator population

/-- Any number of generate/update rounds: `generate` re-tags the parents (its sampling only decides
which genomes are evaluated; the theorems quantify over all offspring lists), `update` selects and
realigns.  `none` = an exception of `_select`. -/
def run (s : State α) (nobj : Nat) (sortND : List (MInd α) → List (List (MInd α)))
    (indicator : List (MInd α) → List α → Nat) : List (List (MInd α)) → Option (State α)
  | [] => some s
  | pop :: rest =>
    match update (retag s) nobj sortND indicator pop with
    | none => none
    | some r => run r.1 nobj sortND indicator rest

end MO

/-! ### `StrategyActiveOnePlusLambda` (cma.py:553-868) -/
namespace Active
variable {α : Type} [RealLike α]

structure Params (α : Type) where
  lambda : Nat
  cc : α
  ccovp : α
  ccovn : α
  cconst : α
  pthresh : α
  d : α
  ptarg : α
  cp : α
  beta : α

/-- Defaults of `__init__`/`_compute_lambda_parameters` (cma.py:630-666).  `dim ** 1.6` is a float
power, supplied through `RealLike.pow`. -/
def defaultParams (dim lambda : Nat) : Params α :=
  let n : α := RealLike.ofNat dim
  let lam : α := RealLike.ofNat lambda
  let ptarg : α := 1 / (5 + RealLike.sqrt lam / 2)                            -- :661
  { lambda := lambda
    cc := 2 / (n + 2)                                                         -- :630
    ccovp := 2 / (RealLike.ofNat (dim * dim) + 6)                             -- :631
    ccovn := RealLike.ofRatio 4 10 / (RealLike.pow n (RealLike.ofRatio 16 10) + 1)   -- :632
    cconst := 1 / (n + 2)                                                     -- :633
    pthresh := RealLike.ofRatio 44 100                                        -- :634
    d := 1 + n / (2 * lam)                                                    -- :660
    ptarg := ptarg
    cp := ptarg * lam / (2 + ptarg * lam)                                     -- :663
    beta := RealLike.ofRatio 1 10 / (lam * (n + 2)) }                         -- :666

/-- An offspring of the active strategy: `fit = none` when `fitness.valid` is false; `cv` the
`constraint_violation` flags. -/
structure AInd (φ α : Type) where
  id : Nat
  x : List α
  fit : Option φ
  cv : List Bool
  y : List α
  z : List α
  /-- `hasattr(individual.fitness, "constraint_violation")` (false for a plain `Fitness`) -/
  hasCv : Bool := true

structure State (φ α : Type) where
  dim : Nat
  parentId : Nat
  parentX : List α
  /-- `none` while `self.parent` has no `fitness` attribute (a bare array) -/
  parentFit : Option φ
  sigma : α
  A : List (List α)
  invA : List (List α)
  pc : List α
  psucc : α
  sInt : List α
  iIR : List Nat
  constraintVecs : Option (List (List α))
  ancestors : List φ
  prm : Params α

/-- `numpy.flatnonzero(2 * sigma * diagC ** 0.5 < S_int)` (cma.py:640, 867). -/
def integerIdx (sigma : α) (diagC sInt : List α) : List Nat :=
  ((List.zipIdx (List.zip diagC sInt)).filter
    (fun p => decide (2 * sigma * RealLike.sqrt p.1.1 < p.1.2))).map (·.2)

/-- `__init__` (cma.py:615-644). -/
def init {φ : Type} (pid : Nat) (px : List α) (pfit : Option φ) (sigma : α) (steps : List α)
    (prm : Params α) : State φ α :=
  let dim := px.length
  { dim := dim, parentId := pid, parentX := px, parentFit := pfit, sigma := sigma,
    A := identity dim, invA := identity dim, pc := vzero dim, psucc := prm.ptarg, sInt := steps,
    iIR := integerIdx sigma (diag (identity dim : List (List α))) steps,
    constraintVecs := none, ancestors := [], prm := prm }

/-- `_integer_mutation` (cma.py:695-736).  `rands` = the `numpy.random.rand()` draws (one per
row), `geoms` = the `numpy.random.geometric` draws (consumed on success only), `signs` = the
`randint(0, 2, (lambda_, dim))` matrix.  Returns `R_int`. -/
def integerMutation {φ : Type} (s : State φ α) (rands : List α) (geoms : List Nat)
    (signs : List (List Nat)) : List (List α) :=
  let lam := s.prm.lambda
  let nIR := s.iIR.length
  if nIR = 0 then List.replicate lam (vzero s.dim)                            -- :704-705
  else
    let lamF : α := RealLike.ofNat lam
    let p : α :=
      if nIR = s.dim then lamF / 2 / lamF                                     -- :707
      else RealLike.pmin (lamF / 2) (lamF / 10 + RealLike.ofNat nIR / RealLike.ofNat s.dim) / lamF   -- :710
    -- :721-725, rows of Rp + Rpp
    let rows := (List.range lam).foldl (fun (acc : List (List α) × List Nat) i =>
        let j := s.iIR.getD (i % nIR) 0
        if rands.getD i 1 < p then
          let g := acc.2.headD 1
          let row := (List.range s.dim).map (fun c =>
            if c = j then (1 : α) + (RealLike.ofNat g - 1) else 0)
          (acc.1 ++ [row], acc.2.drop 1)
        else (acc.1 ++ [vzero s.dim], acc.2)) ([], geoms)
    -- :727-728
    (List.zip rows.1 signs).map (fun rs =>
      (List.zipIdx rs.1).map (fun vc =>
        (if rs.2.getD vc.2 0 % 2 = 0 then (1 : α) else -(1 : α)) * vc.1))

/-- `generate` (cma.py:668-693): `(x, y)` per offspring; `around` = `numpy.around`. -/
def generate {φ : Type} (s : State φ α) (around : α → α) (zs : List (List α)) (rInt : List (List α)) :
    List (List α × List α) :=
  let anyInt := s.sInt.any (fun st => decide ((0 : α) < st))
  (List.zip zs rInt).map (fun zr =>
    let y := matVec s.A zr.1                                                  -- :677
    let x := vadd (vadd s.parentX (vscale s.sigma y)) (vmul s.sInt zr.2)      -- :678
    let x := if anyInt then
        (List.zip x s.sInt).map (fun xs => if (0 : α) < xs.2 then xs.2 * around (xs.1 / xs.2) else xs.1)   -- :680-685
      else x
    (x, y))

/-- `numpy.allclose(pc, 0)`: every `|pc_i| ≤ 1e-8`. -/
def allClose0 (v : List α) : Bool :=
  v.all (fun x => decide (RealLike.abs x ≤ RealLike.ofRatio 1 100000000))

/-- `numpy.linalg.norm(w) ** 2`. -/
def normSqrd (w : List α) : α := let nrm := RealLike.sqrt (normSq w); nrm * nrm

/-- The common `A` / `invA` formulas, cma.py:791-794 (F14-repaired: `outer(w, w)·invA`). -/
def applyAB (n : Nat) (A invA : List (List α)) (a b wNormSqrd : α) (w : List α) :
    List (List α) × List (List α) :=
  let A' := madd (mscale a A) (mscale b (outer (matVec A w) w))               -- :791
  let invA' := msub (mscale (1 / a) invA)
                 (mscale (b / (a * a + a * b * wNormSqrd)) (matMul n (outer w w) invA))   -- :792-794
  (A', invA')

/-- What each of the three branches of `_rank1update` computes for `applyAB`: `(a, b, w, w_norm_sqrd)`. -/
structure ABW (α : Type) where
  a : α
  b : α
  w : List α
  nrm : α

/-- Successful branch, cma.py:750-770, given the updated `psucc`. -/
def positiveABW (p : Params α) (psucc : α) (pc : List α) (invA : List (List α)) (y : List α) :
    List α × ABW α :=
  if psucc < p.pthresh ∨ allClose0 pc = true then                             -- :750
    let pc' := vadd (vscale (1 - p.cc) pc) (vscale (RealLike.sqrt (p.cc * (2 - p.cc))) y)   -- :751-752
    let a := RealLike.sqrt (1 - p.ccovp)                                      -- :754
    let w := matVec invA pc'                                                  -- :755
    let n2 := normSqrd w                                                      -- :756
    let b := RealLike.sqrt (1 - p.ccovp) / n2
               * (RealLike.sqrt (1 + p.ccovp / (1 - p.ccovp) * n2) - 1)       -- :757-759
    (pc', ⟨a, b, w, n2⟩)
  else
    let pc' := vscale (1 - p.cc) pc                                           -- :762
    let d := p.ccovp * (1 + p.cc * (2 - p.cc))                                -- :764
    let a := RealLike.sqrt (1 - d)                                            -- :765
    let w := matVec invA pc'                                                  -- :766
    let n2 := normSqrd w                                                      -- :767
    let b := RealLike.sqrt (1 - d) * (RealLike.sqrt (1 + p.ccovp * n2 / (1 - d)) - 1) / n2   -- :768-770
    (pc', ⟨a, b, w, n2⟩)

/-- Active (negative) branch, cma.py:778-787. -/
def negativeABW (p : Params α) (z : List α) : ABW α :=
  let w := z                                                                  -- :778
  let n2 := normSqrd w                                                        -- :779
  let ccovn := if 1 < p.ccovn * (2 * n2 - 1) then 1 / (2 * n2 - 1) else p.ccovn   -- :780-783
  let a := RealLike.sqrt (1 + ccovn)                                          -- :785
  let b := RealLike.sqrt (1 + ccovn) / n2
             * (RealLike.sqrt (1 - ccovn / (1 + ccovn) * n2) - 1)             -- :786-787
  ⟨a, b, w, n2⟩

/-- `_rank1update` (cma.py:738-799); `fit` is the (valid) fitness of `individual`. -/
def rank1update {φ : Type} (ord : FitOrd φ) (s : State φ α) (ind : AInd φ α) (fit : φ) (pSucc : α) :
    State φ α :=
  let p := s.prm
  let psucc := (1 - p.cp) * s.psucc + p.cp * pSucc                            -- :740
  let sigma' := s.sigma * RealLike.exp (1 / p.d * ((psucc - p.ptarg) / (1 - p.ptarg)))   -- :797-799
  let success := match s.parentFit with
    | none => true                                                            -- :742
    | some pf => ord.le pf fit                                                -- :743
  if success then
    let anc := s.ancestors ++ [fit]                                           -- :745
    let anc := if 5 < anc.length then anc.dropLast else anc                   -- :746-747 (`pop()` drops the newest)
    let r := positiveABW p psucc s.pc s.invA ind.y
    let m := applyAB s.dim s.A s.invA r.2.a r.2.b r.2.nrm r.2.w
    { s with parentId := ind.id, parentX := ind.x, parentFit := some fit, ancestors := anc,
             pc := r.1, A := m.1, invA := m.2, psucc := psucc, sigma := sigma' }
  else
    let active := match s.ancestors with
      | [] => false
      | a0 :: _ => decide (5 ≤ s.ancestors.length) && ord.lt fit a0 && decide (psucc < p.pthresh)   -- :774-776
    if active then
      let r := negativeABW p ind.z
      let m := applyAB s.dim s.A s.invA r.a r.b r.nrm r.w
      { s with A := m.1, invA := m.2, psucc := psucc, sigma := sigma' }
    else { s with psucc := psucc, sigma := sigma' }

/-- `A_prime` of `_infeasible_update`, cma.py:814-828, from the already updated constraint
vectors.  `none` when no flag is set (the Python sum over an empty list is not a matrix). -/
def aPrime (beta : α) (A invA : List (List α)) (vecs : List (List α)) (cv : List Bool) :
    Option (List (List α)) :=
  let W := vecs.map (fun v => matVec invA v)                                  -- :814
  let violation : α := RealLike.ofNat (cv.count true)                         -- :815
  let terms := ((List.zip (List.zip vecs W) cv).filter (·.2)).map
    (fun t => mdivs (outer t.1.1 t.1.2) (dot t.1.2 t.1.2))                    -- :821-824
  match terms with
  | [] => none
  | t0 :: ts => some (msub A (mscale (beta / violation) (ts.foldl madd t0)))  -- :817-827

/-- The constraint vectors after cma.py:805-812. -/
def constraintVecsUpdate {φ : Type} (s : State φ α) (ind : AInd φ α) : List (List α) :=
  let vecs0 := match s.constraintVecs with
    | none => List.replicate ind.cv.length (vzero s.dim)                      -- :805-807
    | some v => v
  (List.zip vecs0 ind.cv).map (fun vc =>
    if vc.2 then vadd (vscale (1 - s.prm.cconst) vc.1) (vscale s.prm.cconst ind.y) else vc.1)   -- :809-812

/-- `_infeasible_update` (cma.py:801-836) for an individual carrying `constraint_violation`.
`inv` = `numpy.linalg.inv` (`none` = `LinAlgError`: the update is ignored).
When no flag is set the Python code divides by zero and fills `A` with NaN; the model leaves the
matrices alone there (callers mark an individual invalid only when a constraint is violated, as
in `tests/test_convergence.py`; the theorems do not depend on this case). -/
def infeasibleUpdate {φ : Type} (inv : List (List α) → Option (List (List α)))
    (s : State φ α) (ind : AInd φ α) : State φ α :=
  if ind.hasCv = false then s else                                            -- :802-803
  let vecs := constraintVecsUpdate s ind
  match aPrime s.prm.beta s.A s.invA vecs ind.cv with
  | none => { s with constraintVecs := some vecs }
  | some A' =>
    match inv A' with                                                         -- :830-836
    | none => { s with constraintVecs := some vecs }
    | some iA => { s with constraintVecs := some vecs, A := A', invA := iA }

/-- Result of `update`: the new state and the order of the valid individuals after the sort. -/
structure UpdOut (φ α : Type) where
  st : State φ α
  sortedValid : List Nat
  lambdaSucc : Nat

/-- The valid part of a population with the fitness unwrapped (cma.py:843). -/
def validOf {φ : Type} (pop : List (AInd φ α)) : List (AInd φ α × φ) :=
  pop.filterMap (fun i => i.fit.map (fun f => (i, f)))

/-- cma.py:846-856: sort the valid individuals, count the successes, rank-one update with the
best.  Returns the state, the sorted valid individuals and `lambda_succ`. -/
def rankStep {φ : Type} (ord : FitOrd φ) (s : State φ α) (population : List (AInd φ α)) :
    State φ α × List (AInd φ α × φ) × Nat :=
  let sorted := (validOf population).mergeSort (fun a b => !ord.lt a.2 b.2)   -- :848
  let lambdaSucc := match s.parentFit with
    | none => sorted.length                                                   -- :849-850
    | some pf => (sorted.filter (fun i => ord.le pf i.2)).length              -- :852-853
  match sorted with
  | [] => (s, sorted, lambdaSucc)
  | best :: _ =>
    (rank1update ord s best.1 best.2
      (RealLike.ofNat lambdaSucc / RealLike.ofNat sorted.length), sorted, lambdaSucc)   -- :855-856

/-- `update` (cma.py:838-868); `numpy.linalg.cond` is monitoring only and not modelled.
`inv k` answers the `k`-th call of `numpy.linalg.inv` of this update (a weaker assumption than one
fixed function: every call only has to meet the contract). -/
def update {φ : Type} (ord : FitOrd φ) (inv : Nat → List (List α) → Option (List (List α)))
    (s : State φ α) (population : List (AInd φ α)) : UpdOut φ α :=
  let invalid := population.filter (fun i => i.fit.isNone)                    -- :844
  let r := rankStep ord s population
  let s2 := (List.zipIdx invalid).foldl (fun st ik => infeasibleUpdate (inv ik.2) st ik.1) r.1   -- :858-861
  let C := matMul s2.dim s2.A (transpose s2.dim s2.A)                         -- :866
  { st := { s2 with iIR := integerIdx s2.sigma (diag C) s2.sInt },            -- :867-868
    sortedValid := r.2.1.map (·.1.id), lambdaSucc := r.2.2 }

/-- Any number of `update` calls on evaluated populations. -/
def run {φ : Type} (ord : FitOrd φ) (inv : Nat → List (List α) → Option (List (List α)))
    (s : State φ α) : List (List (AInd φ α)) → State φ α
  | [] => s
  | pop :: rest => run ord inv (update ord inv s pop).st rest

end Active

end CmaElitist
