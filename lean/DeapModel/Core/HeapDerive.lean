/-
C16 — creator classes DERIVED FROM creator classes (`creator.create("Sub", creator.Ind, bound=9)`).
Mathlib-free and executable (imports only `Core/Heap.lean`).  Transcribed from `deap/creator.py:99-134`:

    class MetaCreator(type):
        def __init__(cls, name, base, dct):
            dict_inst, dict_cls = {}, {}                      # split of THIS class's keyword arguments
            ...
            def init_type(self, *args, **kargs):
                for obj_name, obj in dict_inst.items():       # the CLOSURE's dict: this class's own declarations
                    setattr(self, obj_name, obj())
                if base.__init__ is not object.__init__:
                    base.__init__(self, *args, **kargs)       # a created base: ITS init_type, with ITS closure dict
            cls.__init__ = init_type

`Sub(items)` therefore runs the `setattr` loops of `Sub`, then of `Sub`'s created parent, then of that parent's
created parent … and finally the `__init__` of the built-in root base.  Every declaration on the creator-MRO is
instantiated once per object; a name declared on several levels is instantiated on each of them and the value
set LAST — the one of the class nearest the root — is what the instance keeps (`setattr` on an existing key keeps
the key's position in `__dict__`); the objects set earlier under that name are garbage.
-/
import DeapModel.Core.Heap

namespace Heap

/-- A creator class of a derivation chain: its created parent (`none`: the base is a built-in container), the
kind of the root base (how copy / pickle treat its instances), and the split of ITS OWN keyword arguments. -/
structure DClass where
  parent : Option Nat
  kind : Kind
  dictInst : List (Name × ClsId)
  dictCls : List (Name × Val)
deriving DecidableEq, Repr

/-- The derivation hierarchy (index = class; a class is created after its parent).  The classes of the
per-instance attributes live in an ordinary `ClassTable`. -/
abbrev DTable := List DClass

/-- The `setattr(self, name, cls())` steps of `C(items)` in execution order: the class's own closure dict, then
(through `base.__init__(self, …)`) the steps of its created parent.  Fuel = length of the chain. -/
def initSteps (dt : DTable) : Nat → Nat → List (Name × ClsId)
  | 0, _ => []
  | n + 1, d =>
    match dt[d]? with
    | none => []
    | some dc =>
      dc.dictInst ++ (match dc.parent with
        | some p => initSteps dt n p
        | none => [])

/-- Every per-instance declaration on the creator-MRO of class `d`, the class's own first. -/
def mroDecl (dt : DTable) (d : Nat) : List (Name × ClsId) := initSteps dt dt.length d

/-- A sequence of `setattr`s on a `__dict__`. -/
def setAll (sets acc : List (Name × Val)) : List (Name × Val) :=
  sets.foldl (fun a p => dictSet p.1 p.2 a) acc

/-- The identity of derived class `d` as the class of an object (after the classes of `ct`). -/
def clsOfD (ct : ClassTable) (d : Nat) : ClsId := ct.length + d

/-- `creator.<derived class d>(items)`: reserve the object, run every `setattr` step of the `__init__` chain
(each an instantiation `cls()` in `ct`, `Heap.instAttrs`), then the root base's `__init__`
(`baseInitAttrs`). -/
def createD (ct : ClassTable) (dt : DTable) (st : State) (d : Nat) (items : List Val) :
    Option (State × Oid) :=
  match dt[d]? with
  | none => none
  | some dc =>
    match instAttrs ct ⟨st.objs, st.next + 1, st.memo⟩ (mroDecl dt d) with
    | none => none
    | some (sb, sets) =>
      some (⟨define sb.objs st.next
        ⟨clsOfD ct d, items, dictUpdate (setAll sets []) (baseInitAttrs dc.kind), dc.kind != .node⟩,
        sb.next, sb.memo⟩, st.next)

/-- The class the instance attribute `name` of an instance of `d` ends up with: the LAST declaration of that
name in execution order, i.e. the one of the class nearest the root. -/
def lastDecl (name : Name) : List (Name × ClsId) → Option ClsId
  | [] => none
  | p :: r =>
    match lastDecl name r with
    | some c => some c
    | none => if p.1 = name then some p.2 else none

def effClass (dt : DTable) (d : Nat) (name : Name) : Option ClsId := lastDecl name (mroDecl dt d)

/-- Class-level attributes along the MRO (`dict_cls` of the class, then of its parents). -/
def classAttr (dt : DTable) (name : Name) : Nat → Nat → Option Val
  | 0, _ => none
  | n + 1, d =>
    match dt[d]? with
    | none => none
    | some dc =>
      match lookup name dc.dictCls with
      | some v => some v
      | none => match dc.parent with
        | some p => classAttr dt name n p
        | none => none

/-- `getattr(obj, name)` for an instance of a derived class: instance `__dict__`, then the classes on the MRO. -/
def getattrD (ct : ClassTable) (dt : DTable) (objs : Oid → Option Obj) (x : Oid) (name : Name) : Option Val :=
  match objs x with
  | none => none
  | some o =>
    match lookup name o.attrs with
    | some v => some v
    | none => classAttr dt name dt.length (o.cls - ct.length)

/-- The class as copy / pickle see it: ONE class info whose `dict_inst` is the effective declaration per name
(first position, last class) — the table to give `Heap.copyVal` / `rebuild` for instances of derived
classes; no theorem is stated over it (a hook that calls the class again re-runs the whole `__init__` chain; the garbage objects of
redeclared names are unobservable). -/
def effDictInst (l : List (Name × ClsId)) : List (Name × ClsId) :=
  l.foldl (fun a p => if (lookup p.1 a).isSome then a.map (fun q => if q.1 = p.1 then (q.1, p.2) else q)
                      else a ++ [p]) []

def effInfo (dt : DTable) (d : Nat) (dc : DClass) : ClassInfo :=
  { kind := dc.kind, dictInst := effDictInst (mroDecl dt d), dictCls := dc.dictCls }

def effTableAux (dt : DTable) : Nat → List DClass → ClassTable
  | _, [] => []
  | d, dc :: r => effInfo dt d dc :: effTableAux dt (d + 1) r

def effTable (ct : ClassTable) (dt : DTable) : ClassTable := ct ++ effTableAux dt 0 dt

/-- A history over one hierarchy: `create` makes the next class of `dt` exist, `inst d items` instantiates class
`d` (which must exist by then).  Answers the created roots in order. -/
inductive DEvent where
  | create
  | inst (d : Nat) (items : List Val)

def runEvents (ct : ClassTable) (dt : DTable) :
    List DEvent → Nat → State → List Val → Option (State × List Val)
  | [], _, st, roots => some (st, roots)
  | .create :: r, made, st, roots => runEvents ct dt r (made + 1) st roots
  | .inst d items :: r, made, st, roots =>
    if d < made then
      match createD ct (dt.take made) st d items with
      | none => none
      | some (st', x) => runEvents ct dt r made st' (roots ++ [.ref x])
    else none

end Heap
