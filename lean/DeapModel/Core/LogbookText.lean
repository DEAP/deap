import DeapModel.Core.Logbook
/-
The TEXT of a logbook: `Logbook.__txt__` (deap/tools/support.py:429-486), `stream`, `__str__`,
transcribed statement by statement on top of the state model `Core/Logbook.lean`.  Import-free.

* `Fmt` says how a name (a number in the model) and a scalar value (an integer code in the model) are
  rendered: `Fmt.name` is the Python string of the name, `Fmt.val` is `"{0:n}".format(v)` for a float and
  `"{0}".format(v)` otherwise.  `Val` / `Val.format` are the value kinds the harness feeds (int, None, str,
  every finite double, the infinities, NaN) with their exact Python rendering; the driver builds `Fmt.val`
  from a code book `code ↦ Val` that travels with every protocol line.
* `columns_len` is STATE of the Python object (it only grows while the number of columns stays the same,
  it is pickled with `__dict__`).  The model keeps it in a tree `CL` that runs parallel to the chapter tree
  of the logbook (`LB` itself is untouched, so every theorem about `LB` keeps holding): `CL.len` is
  `self.columns_len`, `CL.chapters` are the `columns_len` of the chapters, in the order of `LB.chapters`.
* `txtT` answers `none` where `__txt__` raises (`IndexError` / `ValueError`: only on logbooks whose chapters
  are not aligned, see `C18.txt_shape`).  What the model does NOT follow after such a raise: `columns_len`
  entries widened by the row loop before the raising row are kept by the code and by `rowLoop`, but `stream`
  in `Core/Logbook.lean` sets `header_streamed` although the code raises before that line.
-/
namespace Logbook

/-! ### Python string functions used by `__txt__` -/

/-- `c * n` -/
def repChar (c : Char) (n : Nat) : String := String.ofList (List.replicate n c)

/-- `" " * n` -/
def spaces (n : Nat) : String := repChar ' ' n

/-- `"-" * n` -/
def dashes (n : Nat) : String := repChar '-' n

/-- `"{0:<w}".format(s)` for a string `s`: padded on the right to `w` code points, never cut -/
def ljust (s : String) (w : Nat) : String := s ++ spaces (w - s.length)

/-- `s.center(w)` (CPython `pad(self, left, marg - left, ' ')` with
`left = marg / 2 + (marg & width & 1)`) -/
def center (s : String) (w : Nat) : String :=
  if w ≤ s.length then s else
    let marg := w - s.length
    let left := marg / 2 + (marg % 2) * (w % 2)
    spaces left ++ s ++ spaces (marg - left)

/-- `len(s.expandtabs())` (tab size 8; `\n` and `\r` restart the column count) -/
def expandtabsLen (s : String) : Nat :=
  (s.toList.foldl (fun (acc : Nat × Nat) c =>
      if c = '\t' then (acc.1 + (8 - acc.2 % 8), acc.2 + (8 - acc.2 % 8))
      else if c = '\n' ∨ c = '\r' then (acc.1 + 1, 0)
      else (acc.1 + 1, acc.2 + 1)) (0, 0)).1

/-- `max(...)` of a non-empty sequence of lengths -/
def maxNat (l : List Nat) : Nat := l.foldl max 0

/-- `l[i]` with Python's index rule (a negative index counts from the end); `none` = `IndexError` -/
def pyIndex {α : Type} (l : List α) (i : Int) : Option α :=
  if 0 ≤ i then l[i.toNat]?
  else if 0 ≤ i + (l.length : Int) then l[(i + (l.length : Int)).toNat]?
  else none

/-- `template.format(*line)` with `template = "\t".join("{%i:<%i}" % (i, k) for i, k in enumerate(columns_len))`:
cell `i` left-justified to `columns_len[i]`, the cells joined by tabs.  (`line` and `columns_len` both have
one entry per column.) -/
def formatLine (widths : List Nat) (cells : List String) : String :=
  "\t".intercalate (List.zipWith ljust cells widths)

/-! ### values and their Python rendering -/

/-- the scalar values a record may carry in the correspondence runs -/
inductive Val where
  | int (i : Int)
  | none
  | str (s : String)
  /-- a finite double, by its exact value `± num / den` (`den > 0`; `neg` also tells `-0.0` from `0.0`) -/
  | float (neg : Bool) (num den : Nat)
  | inf (neg : Bool)
  | nan
deriving Repr

/-- the number of decimal digits of `n > 0` -/
def ndigits (n : Nat) : Nat := (Nat.repr n).length

/-- least `k ≥ start` with `d ≤ n * 10 ^ k` (`n > 0`; `fuel` bounds the search) -/
def scaleUp (n d : Nat) : Nat → Nat → Nat
  | 0, k => k
  | fuel + 1, k => if d ≤ n * 10 ^ k then k else scaleUp n d fuel (k + 1)

/-- `floor(log10 (n / d))` for `n, d > 0` -/
def exp10 (n d : Nat) : Int :=
  if d ≤ n then (ndigits (n / d) : Int) - 1 else - (scaleUp n d (ndigits d + 1) 1 : Int)

/-- `round(n / d)` to the nearest integer, ties to even (what a correctly rounded `%g` does on the exact value) -/
def roundHalfEven (n d : Nat) : Nat :=
  let q := n / d
  let r := n % d
  if 2 * r > d then q + 1 else if 2 * r = d then q + q % 2 else q

/-- drop the trailing `'0'` characters -/
def stripZeros (cs : List Char) : List Char := (cs.reverse.dropWhile (· == '0')).reverse

/-- `'%g' % x` (= `"{0:n}".format(x)` in the C locale) for `x = n / d > 0`: six significant digits, correctly
rounded (ties to even on the exact value), trailing zeros removed, exponent form `d.ddddde±XX` iff the decimal
exponent is `< -4` or `≥ 6`. -/
def fmtG (n d : Nat) : String :=
  let e0 := exp10 n d
  -- the six leading digits: round (x / 10^(e0-5))
  let m0 := if e0 ≤ 5 then roundHalfEven (n * 10 ^ (5 - e0).toNat) d else roundHalfEven n (d * 10 ^ (e0 - 5).toNat)
  let (m, e) := if m0 = 1000000 then (100000, e0 + 1) else (m0, e0)
  let ds := (Nat.repr m).toList                    -- exactly six digits, the first is not 0
  if e < -4 ∨ 6 ≤ e then
    let frac := stripZeros (ds.drop 1)
    let mant := String.ofList (ds.take 1 ++ (if frac.isEmpty then [] else '.' :: frac))
    let ae := e.natAbs
    mant ++ "e" ++ (if e < 0 then "-" else "+") ++ (if ae < 10 then "0" else "") ++ Nat.repr ae
  else if 0 ≤ e then
    let ip := ds.take (e.toNat + 1)
    let frac := stripZeros (ds.drop (e.toNat + 1))
    String.ofList (ip ++ (if frac.isEmpty then [] else '.' :: frac))
  else
    String.ofList ('0' :: '.' :: (List.replicate ((-e).toNat - 1) '0' ++ stripZeros ds))

/-- `"{0:n}".format(value) if isinstance(value, float) else "{0}".format(value)` (support.py:455-456) -/
def Val.format : Val → String
  | .int i => toString i
  | .none => "None"
  | .str s => s
  | .float neg n d =>
      (if neg then "-" else "") ++ (if n = 0 ∨ d = 0 then "0" else fmtG n d)
  | .inf neg => if neg then "-inf" else "inf"
  | .nan => "nan"

/-- how names and scalar values are rendered: `name k` is the Python string of the name `k`, `val v` the
formatted cell of the scalar value (code) `v` -/
structure Fmt where
  name : Name → String
  val : Int → String

/-- a code book: the values that are not plain integers travel as reserved integer codes -/
def Fmt.ofBooks (names : List (Name × String)) (vals : List (Int × Val)) : Fmt where
  name k := (names.lookup k).getD ("?" ++ toString k)
  val v := match vals.lookup v with
    | some x => x.format
    | none => (Val.int v).format

/-! ### `columns_len`, per logbook and chapter -/

/-- the `columns_len` attributes of a logbook (`len`) and of its chapters, in the order of `LB.chapters` -/
inductive CL where
  | mk (len : Option (List Nat)) (chapters : List (Name × CL))

namespace CL
def len : CL → Option (List Nat) | .mk l _ => l
def chapters : CL → List (Name × CL) | .mk _ c => c
/-- a fresh `Logbook()`: `columns_len = None`, no chapters -/
def empty : CL := .mk none []
end CL

/-- the `columns_len` tree of the chapter `k` (a chapter created since the last print has `None`) -/
def clChild (k : Name) (cs : List (Name × CL)) : CL := (cs.lookup k).getD CL.empty

/-! ### `__txt__` -/

/-- `sorted(names)` for the strings the names stand for -/
def sortNames (fmt : Fmt) (ns : List Name) : List Name :=
  ns.mergeSort (fun a b => !decide (fmt.name b < fmt.name a))

/-- `columns = self.header; if not columns: columns = sorted(self[0].keys()) + sorted(self.chapters.keys())`
(support.py:433-435) -/
def columnsOf (fmt : Fmt) (header : Option (List Name)) (rows : List Row) (chapterNames : List Name) : List Name :=
  match header with
  | some (c :: cs) => c :: cs
  | _ => sortNames fmt ((rows.headD []).map (·.1)) ++ sortNames fmt chapterNames

/-- `if not self.columns_len or len(self.columns_len) != len(columns): self.columns_len = [len(c) for c in columns]`
(support.py:436-437) -/
def initWidths (fmt : Fmt) (cols : List Name) (old : Option (List Nat)) : List Nat :=
  match old with
  | some (w :: ws) => if (w :: ws).length = cols.length then w :: ws else cols.map fun c => (fmt.name c).length
  | _ => cols.map fun c => (fmt.name c).length

/-- `value = line.get(name, ""); string.format(value)` (support.py:454-456) -/
def cellVal (fmt : Fmt) (row : Row) (name : Name) : String :=
  match dictGet row name with
  | some v => fmt.val v
  | none => ""

/-- `offsets[name]`: `len(chapters_txt[name]) - len(self)` when `startindex == 0`, else the default 0
(support.py:439-444) -/
def offsetOf (si n : Nat) (t : List String) : Int := if si = 0 then (t.length : Int) - (n : Int) else 0

/-- one cell (support.py:451-456): the chapter's line `chapters_txt[name][i + offsets[name]]` when `name` is
a chapter, else the formatted field -/
def cellAt (fmt : Fmt) (si n : Nat) (chTxt : List (Name × List String)) (row : Row) (i : Nat) (name : Name) :
    Option String :=
  match chTxt.lookup name with
  | some t => pyIndex t ((i : Int) + offsetOf si n t)
  | none => some (cellVal fmt row name)

/-- the inner loop `for j, name in enumerate(columns)` (support.py:450-458) over the remaining columns and
their `columns_len` entries; a raising cell leaves the entries widened so far -/
def cellLoop (f : Name → Option String) : List Name → List Nat → Option (List String) × List Nat
  | [], w => (some [], w)
  | _ :: _, [] => (none, [])
  | c :: cs, k :: ks =>
    match f c with
    | none => (none, k :: ks)
    | some s => let r := cellLoop f cs ks; (r.1.map (s :: ·), max k s.length :: r.2)

/-- the outer loop `for i, line in enumerate(self[startindex:])` (support.py:448-459) -/
def rowLoop (f : Row → Nat → Name → Option String) (cols : List Name) :
    List Row → Nat → List Nat → Option (List (List String)) × List Nat
  | [], _, w => (some [], w)
  | r :: rs, i, w =>
    match cellLoop (f r i) cols w with
    | (none, w') => (none, w')
    | (some line, w') => let q := rowLoop f cols rs (i + 1) w'; (q.1.map (line :: ·), q.2)

/-- The header cells of one column, top to bottom (support.py:467-481).  The code appends to the `nlines`
lists `header[0..]`; written per column:
* a chapter column (`name in chapters_txt`, text `t`, `offsets[name] = len(t) - len(self)` because
  `startindex == 0` here): `blanks = nlines - 2 - offsets[name]` lines of spaces, the centred name, the rule,
  then the chapter's own `offsets[name]` header lines.  `nlines = 2 + max offsets`, so `blanks ≥ 0` and the
  last index written is `nlines - 1` exactly when `offsets[name] ≥ 0`; with a negative offset (a chapter
  shorter than the logbook) `header[blanks + 1]` (or an earlier access) is out of range, and `max()` of an
  empty text is a `ValueError` — `none`;
* a scalar column: spaces on all lines but the last, which gets the name; `header[-1]` raises iff there is no
  line (`nlines ≤ 0`). -/
def headerCol (fmt : Fmt) (n : Nat) (nlines : Int) (chTxt : List (Name × List String))
    (matrix : List (List String)) (j : Nat) (name : Name) : Option (List String) :=
  match chTxt.lookup name with
  | some t =>
      let off : Int := (t.length : Int) - (n : Int)
      if t.isEmpty ∨ off < 0 then none else
        let length := maxNat (t.map expandtabsLen)
        some (List.replicate (nlines - 2 - off).toNat (spaces length) ++
          [center (fmt.name name) length, dashes length] ++ t.take off.toNat)
  | none =>
      if nlines ≤ 0 then none else
        let length := maxNat (matrix.map fun line => expandtabsLen (line.getD j ""))
        some (List.replicate (nlines.toNat - 1) (spaces length) ++ [fmt.name name])

/-- `nlines` (support.py:462-465) -/
def headerLines (n : Nat) (chTxt : List (Name × List String)) : Int :=
  if chTxt.isEmpty then 1 else 1 + (maxNat (chTxt.map (·.2.length)) : Int) - (n : Int) + 1

/-- all of them, or `none` when one is `none` (the first raise ends the loop) -/
def allSome {α : Type} : List (Option α) → Option (List α)
  | [] => some []
  | none :: _ => none
  | some x :: rest => (allSome rest).map (x :: ·)

/-- the `nlines` header lines, each with one cell per column (line `k` takes cell `k` of every column) -/
def headerBlock (nlines : Nat) (hcols : List (List String)) : List (List String) :=
  (List.range nlines).map fun k => hcols.map (·.getD k "")

/-- `__txt__` from the row loop on (support.py:446-486), the chapter texts being known: the matrix of cells,
the header block iff `header and startindex == 0 and self.log_header`, every line through the template.
Returns the text (`none` = raise) and the new `columns_len`. -/
def finishTxt (fmt : Fmt) (si : Nat) (hdr : Bool) (rows : List Row) (logHeader : Bool) (cols : List Name)
    (w0 : List Nat) (chTxt : List (Name × List String)) : Option (List String) × List Nat :=
  match rowLoop (cellAt fmt si rows.length chTxt) cols (rows.drop si) 0 w0 with
  | (none, w) => (none, w)
  | (some matrix, w) =>
    if hdr && si == 0 && logHeader then
      let nlines := headerLines rows.length chTxt
      match allSome (cols.zipIdx.map fun p => headerCol fmt rows.length nlines chTxt matrix p.2 p.1) with
      | none => (none, w)
      | some hcols => (some ((headerBlock nlines.toNat hcols ++ matrix).map (formatLine w)), w)
    else (some (matrix.map (formatLine w)), w)

mutual
/-- `Logbook.__txt__(startindex, header)` (support.py:429-486) on the logbook and its `columns_len` tree. -/
def txtT (fmt : Fmt) (si : Nat) (hdr : Bool) : LB → CL → Option (List String) × CL
  | .mk rows chs _ h lh _, cl =>
    if rows.length = 0 then (some [], cl)                                          -- :430-431
    else
      let cols := columnsOf fmt h rows (chs.map (·.1))                              -- :433-435
      let w0 := initWidths fmt cols cl.len                                         -- :436-437
      match chaptersT fmt si hdr chs cl.chapters with                               -- :439-444
      | (none, cs) => (none, .mk (some w0) cs)
      | (some chTxt, cs) =>
        let r := finishTxt fmt si hdr rows lh cols w0 chTxt
        (r.1, .mk (some r.2) cs)
/-- `for name, chapter in self.chapters.items(): chapters_txt[name] = chapter.__txt__(startindex, header)`;
a chapter that raises leaves the later chapters untouched.  The second component is the `columns_len` tree of
every chapter afterwards, in the order of the chapters. -/
def chaptersT (fmt : Fmt) (si : Nat) (hdr : Bool) :
    List (Name × LB) → List (Name × CL) → Option (List (Name × List String)) × List (Name × CL)
  | [], _ => (some [], [])
  | (k, ch) :: rest, cs =>
    match txtT fmt si hdr ch (clChild k cs) with
    | (none, c') => (none, (k, c') :: rest.map fun q => (q.1, clChild q.1 cs))
    | (some t, c') =>
      let r := chaptersT fmt si hdr rest cs
      (r.1.map ((k, t) :: ·), (k, c') :: r.2)
end

/-! ### operations at text level -/

/-- `logbook.stream` (support.py:381-400): the text `__txt__(startindex, not header_streamed)` next to the
state change of `Logbook.stream` -/
def streamT (fmt : Fmt) (s : LB × CL) : Option (List String) × (LB × CL) :=
  let r := txtT fmt s.1.buffindex (!s.1.headerStreamed) s.1 s.2
  (r.1, ((stream s.1).2, r.2))

/-- `str(logbook)` = `__txt__(0)` (support.py:488-490); it updates `columns_len` too -/
def strT (fmt : Fmt) (s : LB × CL) : Option (List String) × (LB × CL) :=
  let r := txtT fmt 0 true s.1 s.2
  (r.1, (s.1, r.2))

/-- the `columns_len` tree of the chapter reached by `path` -/
def clAt : List Name → CL → CL
  | [], c => c
  | n :: rest, c => clAt rest (clChild n c.chapters)

/-- replace the entry of `k` (appended when there is none yet) -/
def clSet (k : Name) (v : CL) : List (Name × CL) → List (Name × CL)
  | [] => [(k, v)]
  | (k', v') :: rest => if k' = k then (k, v) :: rest else (k', v') :: clSet k v rest

/-- put `v` at `path` -/
def clPut (v : CL) : List Name → CL → CL
  | [], _ => v
  | n :: rest, .mk l cs => .mk l (clSet n (clPut v rest (clChild n cs)) cs)

/-- what an operation lets the caller read as text: nothing, or the lines (`none` = the call raised) -/
inductive TextObs where
  | silent
  | lines (t : Option (List String))

/-- one operation on the logbook together with its `columns_len` tree; the logbook component is
`Logbook.step`, the text is `__txt__`'s -/
def stepT (fmt : Fmt) (s : LB × CL) (o : Op) : (LB × CL) × Obs × TextObs :=
  let r := step s.1 o
  match o with
  | .stream => let t := streamT fmt s; ((r.1, t.2.2), r.2, .lines t.1)
  | .str => let t := strT fmt s; ((r.1, t.2.2), r.2, .lines t.1)
  | .streamAt c rest =>
      match chapterAt (c :: rest) s.1 with
      | some l =>
          let t := streamT fmt (l, clAt (c :: rest) s.2)
          ((r.1, clPut t.2.2 (c :: rest) s.2), r.2, .lines t.1)
      | none => ((r.1, s.2), r.2, .silent)
  | _ => ((r.1, s.2), r.2, .silent)              -- record / select / pop / del / pickle / settings: `columns_len` untouched

/-- the state after a history -/
def runFromT (fmt : Fmt) (s : LB × CL) (ops : List Op) : LB × CL := ops.foldl (fun s o => (stepT fmt s o).1) s

def runT (fmt : Fmt) (ops : List Op) : LB × CL := runFromT fmt (LB.empty, CL.empty) ops

/-- the texts returned by the `stream` operations of a history, in order -/
def streamTextsFrom (fmt : Fmt) : LB × CL → List Op → List (Option (List String))
  | _, [] => []
  | s, .stream :: ops => (streamT fmt s).1 :: streamTextsFrom fmt (stepT fmt s .stream).1 ops
  | s, o :: ops => streamTextsFrom fmt (stepT fmt s o).1 ops

def streamTexts (fmt : Fmt) (ops : List Op) : List (Option (List String)) :=
  streamTextsFrom fmt (LB.empty, CL.empty) ops

end Logbook
