/-
C02 — the registered operators of `varAnd` / `varOr` as concrete models instead of parameters: the operator models of
C09 (`Core/CrossMut.lean`), C10 (`Core/RealOps.lean`) and C11 (`Core/GpTree.lean`) LIFTED to the heap
transformers `Variation.Ops` expects, and the `gp.staticLimit` decorator as a heap-level wrapper.

Import-free and executable (linked into the driver: protocol ops `andc` / `orc` run `varAnd` / `varOr`
end to end with these operators).

* Lifting (`liftMate`, `liftMutate`).  An in-place operator of `deap.tools` / `deap.gp` mutates the sequence
  objects it is given through item / slice assignment and returns them (`return ind1, ind2` / `return individual,`).
  Its model is a function from the contents before the call (and its random tape) to the contents after the
  call; the lifting writes exactly the genomes of the oids it was given, returns those oids, allocates nothing
  and leaves every `fitness` as it is.
* Views.  The heap of `Core/Variation.lean` stores a genome as `List Int`.  Integer genes are stored as they
  are; a `float` gene through a `FloatView` (the driver uses the IEEE bit pattern), an evolution-strategy
  individual as `len(genes) :: genes ++ strategy`, a `PrimitiveTree` through a `View (List Prim)`.  The
  theorems hold for EVERY view (they are parameters), so no property of a coding is assumed anywhere.
* Tape (`LTape`).  The operator draws in call order (`random()` results, integer draws of
  `randint`/`randrange`/`sample`/`choice`, `gauss` results), the GP tape of `Core/GpTree.lean`, and an `ok` flag:
  once an operator call raised (its `…Ok` guard fails, its model answers `none` / an error) or the tape does not
  fit, every later operator call is the identity and the driver answers `bad-tape`.
* `limitMate` / `limitMutate`: `gp.staticLimit(key, max_value)` (gp.py:936-979, as it is after the fixes F22/F27):
  deep copies of the arguments are kept, the operator runs, and every returned individual that is over the limit
  is replaced by a NEW deep copy of a randomly chosen kept copy.
-/
import DeapModel.Core.Variation
import DeapModel.Core.CrossMut
import DeapModel.Core.RealOps
import DeapModel.Core.GpTree

namespace Variation

/-! ## 1. Lifting of in-place genome operators -/

/-- a two-parent in-place operator: state (random tape) and the contents of both sequence objects before the
call ↦ state and contents after the call -/
abbrev GOp2 (τ : Type) := τ → List Int → List Int → τ × List Int × List Int
/-- a one-parent in-place operator -/
abbrev GOp1 (τ : Type) := τ → List Int → τ × List Int

/-- `toolbox.mate(a, b)` for an in-place operator: the genomes of `a` and `b` are overwritten
(`ind1[..] = ..`), the very arguments are returned (`return ind1, ind2`), nothing is allocated, no
fitness is read or written.  (`a = b`, the same object twice, never happens in `varAnd`/`varOr` — they pass
two different clones —; there the model lets the second write win.) -/
def liftMate {τ : Type} (f : GOp2 τ) (t : τ) (h : Heap) (n a b : Nat) : MateRes τ :=
  let r := f t (h a).genome (h b).genome
  let xa : Obj := { h a with genome := r.2.1 }
  let xb : Obj := { h b with genome := r.2.2 }
  { tape := r.1, heap := (h.set a xa).set b xb, next := n, fst := a, snd := b }

/-- `toolbox.mutate(a)` for an in-place operator (`return individual,`). -/
def liftMutate {τ : Type} (g : GOp1 τ) (t : τ) (h : Heap) (n a : Nat) : MutRes τ :=
  let r := g t (h a).genome
  let xa : Obj := { h a with genome := r.2 }
  { tape := r.1, heap := h.set a xa, next := n, ret := a }

def liftOps {τ : Type} (f : GOp2 τ) (g : GOp1 τ) : Ops τ := ⟨liftMate f, liftMutate g⟩

/-- a coding of a representation `G` as heap genomes -/
structure View (G : Type) where
  dec : List Int → G
  enc : G → List Int

def View.op2 {G τ : Type} (v : View G) (f : τ → G → G → τ × G × G) : GOp2 τ := fun t a b =>
  let r := f t (v.dec a) (v.dec b)
  (r.1, v.enc r.2.1, v.enc r.2.2)

def View.op1 {G τ : Type} (v : View G) (f : τ → G → τ × G) : GOp1 τ := fun t a =>
  let r := f t (v.dec a)
  (r.1, v.enc r.2)

/-- how a `float` gene is stored in a heap genome -/
structure FloatView where
  dec : Int → Float
  enc : Float → Int

/-- the driver's view: the IEEE-754 bit pattern -/
def bitsView : FloatView where
  dec := fun i => Float.ofBits (UInt64.ofNat i.toNat)
  enc := fun x => Int.ofNat x.toBits.toNat

/-- a text as one natural number (base 1114112 digits = the characters, leading digit 1) — the driver stores a tree
node as the number of its protocol token, one heap gene per node -/
def encStr (s : String) : Nat := s.toList.foldl (fun acc c => acc * 1114112 + c.toNat) 1

def decChars : Nat → Nat → List Char → List Char
  | 0, _, acc => acc
  | fuel + 1, n, acc => if n ≤ 1 then acc else decChars fuel (n / 1114112) (Char.ofNat (n % 1114112) :: acc)

def decStr (n : Nat) : String := String.ofList (decChars (n.log2 + 1) n [])

/-- an evolution-strategy individual (`ind`, `ind.strategy`) as one heap genome:
`len(ind) :: ind ++ ind.strategy` -/
def esView : View (List Int × List Int) where
  dec := fun l =>
    match l with
    | [] => ([], [])
    | n :: r => (r.take n.toNat, r.drop n.toNat)
  enc := fun p => Int.ofNat p.1.length :: (p.1 ++ p.2)

/-! ## 2. The operator tape -/

inductive ODraw where
  | rnd (x : Float)        -- random.random()
  | int (v : Int)          -- randint / randrange / an element of sample(range(n), k) / the index of choice
  | gauss (x : Float)      -- random.gauss(mu, sigma)

structure LTape where
  draws : List ODraw := []
  gp : GpTree.Tape := []
  ok : Bool := true

def popInt : List ODraw → Option (Int × List ODraw)
  | .int v :: d => some (v, d)
  | _ => none

def popNat : List ODraw → Option (Nat × List ODraw)
  | .int v :: d => if 0 ≤ v then some (v.toNat, d) else none
  | _ => none

/-- `k` consecutive `random()` results -/
def popRnds : Nat → List ODraw → Option (List Float × List ODraw)
  | 0, d => some ([], d)
  | k + 1, .rnd x :: d =>
    match popRnds k d with
    | some (xs, d') => some (x :: xs, d')
    | none => none
  | _ + 1, _ => none

/-- `k` rounds of `if random.random() < indpb: v = random.randint(..)`: entry `i` is `some v` when round `i`
was selected and the integer draw answered `v` -/
def popOpts (indpb : Float) : Nat → List ODraw → Option (List (Option Int) × List ODraw)
  | 0, d => some ([], d)
  | k + 1, .rnd x :: d =>
    if x < indpb then
      match d with
      | .int v :: d' =>
        match popOpts indpb k d' with
        | some (xs, d'') => some (some v :: xs, d'')
        | none => none
      | _ => none
    else
      match popOpts indpb k d with
      | some (xs, d') => some (none :: xs, d')
      | none => none
  | _ + 1, _ => none

def rndsOf : List ODraw → List Float
  | [] => []
  | .rnd x :: d => x :: rndsOf d
  | _ :: d => rndsOf d

def gaussOf : List ODraw → List Float
  | [] => []
  | .gauss x :: d => x :: gaussOf d
  | _ :: d => gaussOf d

/-- an operator of `Core/RealOps.lean` reads the `random()` results and the `gauss` results of the tape as two
queues and hands back what it did not use: it consumed `nr` + `ng` draws, which must be the next `nr + ng`
draws of the tape (no integer draw among them). -/
def consume (d : List ODraw) (restR restG : List Float) : Option (List ODraw) :=
  let nr := (rndsOf d).length - restR.length
  let ng := (gaussOf d).length - restG.length
  let pre := d.take (nr + ng)
  if (rndsOf pre).length = nr ∧ (gaussOf pre).length = ng then some (d.drop (nr + ng)) else none

/-- run a tape reader; a failure (the call raised / the tape does not fit) leaves the contents as they are and
clears `ok`; with `ok` cleared nothing happens any more -/
def LTape.run2 (t : LTape) (a b : List Int)
    (f : List ODraw → Option (List ODraw × List Int × List Int)) : LTape × List Int × List Int :=
  if t.ok then
    match f t.draws with
    | some (d, x, y) => ({ t with draws := d }, x, y)
    | none => ({ t with ok := false }, a, b)
  else (t, a, b)

def LTape.run1 (t : LTape) (a : List Int)
    (f : List ODraw → Option (List ODraw × List Int)) : LTape × List Int :=
  if t.ok then
    match f t.draws with
    | some (d, x) => ({ t with draws := d }, x)
    | none => ({ t with ok := false }, a)
  else (t, a)

/-- non-negative genes as natural numbers (the permutation operators index tables with them) -/
def toNats : List Int → Option (List Nat)
  | [] => some []
  | x :: l => if 0 ≤ x then (toNats l).map (x.toNat :: ·) else none

def ofNats (l : List Nat) : List Int := l.map Int.ofNat

def optNats : List (Option Int) → Option (List (Option Nat))
  | [] => some []
  | none :: l => (optNats l).map (none :: ·)
  | some v :: l => if 0 ≤ v then (optNats l).map (some v.toNat :: ·) else none

/-! ## 3. The library crossovers -/


/-- crossovers of `deap.tools` on sequences of integers (C09), on sequences of floats (C10) and of `deap.gp` (C11) -/
inductive LibMate where
  | cxOnePoint
  | cxTwoPoint
  | cxTwoPoints                                         -- documented former name
  | cxUniform (indpb : Float)
  | cxPartialyMatched
  | cxUniformPartialyMatched (indpb : Float)
  | cxOrdered
  | cxMessyOnePoint
  | cxESTwoPoint
  | cxESTwoPoints                                       -- documented former name
  | cxBlend (alpha : Float)
  | cxSimulatedBinary (eta : Float)
  | cxSimulatedBinaryBounded (eta : Float) (low up : RealOps.Bound Float)
  | cxESBlend (alpha : Float)
  | gpCxOnePoint
  | gpCxOnePointLeafBiased (termpb : Float)

/-- mutations of `deap.tools` and `deap.gp` -/
inductive LibMut where
  | mutShuffleIndexes (indpb : Float)
  | mutFlipBit (indpb : Float)
  | mutUniformInt (low up : CrossMut.Bound) (indpb : Float)
  | mutInversion
  | mutGaussian (mu sigma : RealOps.Bound Float) (indpb : Float)
  | mutPolynomialBounded (eta : Float) (low up : RealOps.Bound Float) (indpb : Float)
  | mutESLogNormal (c indpb : Float)
  | gpMutUniform (expr : Nat → GpTree.Tape → GpTree.R (List GpTree.Prim × GpTree.Tape))
  | gpMutNodeReplacement (ps : GpTree.Pset)
  | gpMutEphemeral (one : Bool)
  | gpMutInsert (ps : GpTree.Pset)
  | gpMutShrink

/-- the views of one run: how floats and tree nodes are stored in heap genomes -/
structure Views where
  flt : FloatView := bitsView
  tree : View (List GpTree.Prim)

def Views.floats (v : Views) (l : List Int) : List Float := l.map v.flt.dec
def Views.ints (v : Views) (l : List Float) : List Int := l.map v.flt.enc

def outcome2 (v : Views) (d : List ODraw) :
    RealOps.Outcome (RealOps.Ind Float × RealOps.Ind Float × List Float) → Option (List ODraw × List Int × List Int)
  | .ok (i1, i2, rest) =>
    match consume d rest (gaussOf d) with
    | some d' => some (d', v.ints i1.genes, v.ints i2.genes)
    | none => none
  | _ => none

/-- GP operators read the GP tape -/
def gpRun2 (v : Views) (t : LTape) (a b : List Int)
    (f : List GpTree.Prim → List GpTree.Prim → GpTree.Tape →
      GpTree.R (List GpTree.Prim × List GpTree.Prim × GpTree.Tape)) : LTape × List Int × List Int :=
  if t.ok then
    match f (v.tree.dec a) (v.tree.dec b) t.gp with
    | .ok (x, y, tp) => ({ t with gp := tp }, v.tree.enc x, v.tree.enc y)
    | .error _ => ({ t with ok := false }, a, b)
  else (t, a, b)

def gpRun1 (v : Views) (t : LTape) (a : List Int)
    (f : List GpTree.Prim → GpTree.Tape → GpTree.R (List GpTree.Prim × GpTree.Tape)) : LTape × List Int :=
  if t.ok then
    match f (v.tree.dec a) t.gp with
    | .ok (x, tp) => ({ t with gp := tp }, v.tree.enc x)
    | .error _ => ({ t with ok := false }, a)
  else (t, a)

/-- `cxESTwoPoint` on the one-genome coding of ES individuals -/
def esTwoPoint (a b : List Int) (d : List ODraw) : Option (List ODraw × List Int × List Int) :=
  let i1 := esView.dec a
  let i2 := esView.dec b
  match popNat d with
  | none => none
  | some (p1, d) =>
    match popNat d with
    | none => none
    | some (p2, d) =>
      let e1 : CrossMut.ESInd Int Int := ⟨i1.1, i1.2⟩
      let e2 : CrossMut.ESInd Int Int := ⟨i2.1, i2.2⟩
      if CrossMut.cxESTwoPointOk e1 e2 p1 p2 then
        let c := CrossMut.cxESTwoPoint e1 e2 p1 p2
        some (d, esView.enc (c.1.genes, c.1.strategy), esView.enc (c.2.genes, c.2.strategy))
      else none

/-- The genome-level function of a library crossover: it pops the draws the Python code makes, in call order,
checks the operator's guard and applies the operator's model. -/
def LibMate.gop (v : Views) : LibMate → GOp2 LTape
  | .cxOnePoint => fun t a b => t.run2 a b fun d =>
    match popNat d with
    | some (c, d) => if CrossMut.cxOnePointOk a b c then some (d, CrossMut.cxOnePoint a b c) else none
    | none => none
  | .cxTwoPoint => fun t a b => t.run2 a b fun d =>
    match popNat d with
    | some (c1, d) =>
      match popNat d with
      | some (c2, d) => if CrossMut.cxTwoPointOk a b c1 c2 then some (d, CrossMut.cxTwoPoint a b c1 c2) else none
      | none => none
    | none => none
  | .cxTwoPoints => fun t a b => t.run2 a b fun d =>
    match popNat d with
    | some (c1, d) =>
      match popNat d with
      | some (c2, d) => if CrossMut.cxTwoPointOk a b c1 c2 then some (d, CrossMut.cxTwoPoints a b c1 c2) else none
      | none => none
    | none => none
  | .cxUniform indpb => fun t a b => t.run2 a b fun d =>
    match popRnds (min a.length b.length) d with
    | some (rs, d) => some (d, CrossMut.cxUniformR a b indpb rs)
    | none => none
  | .cxPartialyMatched => fun t a b => t.run2 a b fun d =>
    match toNats a, toNats b, popNat d with
    | some x, some y, some (c1, d) =>
      match popNat d with
      | some (c2, d) =>
        if CrossMut.cxPartialyMatchedOk x y c1 c2 then
          let c := CrossMut.cxPartialyMatched x y c1 c2
          some (d, ofNats c.1, ofNats c.2)
        else none
      | none => none
    | _, _, _ => none
  | .cxUniformPartialyMatched indpb => fun t a b => t.run2 a b fun d =>
    match toNats a, toNats b, popRnds (min a.length b.length) d with
    | some x, some y, some (rs, d) =>
      if CrossMut.cxUniformPartialyMatchedOk x y (CrossMut.decisions indpb rs) then
        let c := CrossMut.cxUniformPartialyMatchedR x y indpb rs
        some (d, ofNats c.1, ofNats c.2)
      else none
    | _, _, _ => none
  | .cxOrdered => fun t a b => t.run2 a b fun d =>
    match toNats a, toNats b, popNat d with
    | some x, some y, some (a0, d) =>
      match popNat d with
      | some (b0, d) =>
        if CrossMut.cxOrderedOk x y a0 b0 then
          let c := CrossMut.cxOrdered x y a0 b0
          some (d, ofNats c.1, ofNats c.2)
        else none
      | none => none
    | _, _, _ => none
  | .cxMessyOnePoint => fun t a b => t.run2 a b fun d =>
    match popNat d with
    | some (c1, d) =>
      match popNat d with
      | some (c2, d) =>
        if CrossMut.cxMessyOnePointOk a b c1 c2 then some (d, CrossMut.cxMessyOnePoint a b c1 c2) else none
      | none => none
    | none => none
  | .cxESTwoPoint => fun t a b => t.run2 a b (esTwoPoint a b)
  | .cxESTwoPoints => fun t a b => t.run2 a b (esTwoPoint a b)
  | .cxBlend alpha => fun t a b => t.run2 a b fun d =>
    outcome2 v d (RealOps.cxBlend ⟨0, v.floats a, 0, []⟩ ⟨1, v.floats b, 0, []⟩ alpha (rndsOf d))
  | .cxSimulatedBinary eta => fun t a b => t.run2 a b fun d =>
    outcome2 v d (RealOps.cxSimulatedBinary ⟨0, v.floats a, 0, []⟩ ⟨1, v.floats b, 0, []⟩ eta (rndsOf d))
  | .cxSimulatedBinaryBounded eta low up => fun t a b => t.run2 a b fun d =>
    outcome2 v d (RealOps.cxSimulatedBinaryBounded ⟨0, v.floats a, 0, []⟩ ⟨1, v.floats b, 0, []⟩ eta low up (rndsOf d))
  | .cxESBlend alpha => fun t a b => t.run2 a b fun d =>
    let i1 := esView.dec a
    let i2 := esView.dec b
    match RealOps.cxESBlend ⟨0, v.floats i1.1, 2, v.floats i1.2⟩ ⟨1, v.floats i2.1, 3, v.floats i2.2⟩ alpha (rndsOf d) with
    | .ok (x, y, rest) =>
      match consume d rest (gaussOf d) with
      | some d' => some (d', esView.enc (v.ints x.genes, v.ints x.strategy), esView.enc (v.ints y.genes, v.ints y.strategy))
      | none => none
    | _ => none
  | .gpCxOnePoint => fun t a b => gpRun2 v t a b GpTree.cxOnePoint
  | .gpCxOnePointLeafBiased termpb => fun t a b =>
    gpRun2 v t a b (fun x y tp => GpTree.cxOnePointLeafBiased x y termpb tp)

/-! ## 4. The library mutations -/

def LibMut.gop (v : Views) : LibMut → GOp1 LTape
  | .mutShuffleIndexes indpb => fun t a => t.run1 a fun d =>
    match popOpts indpb a.length d with
    | some (ds, d) =>
      match optNats ds with
      | some ds => (CrossMut.mutShuffleIndexes a ds).map (fun x => (d, x))
      | none => none
    | none => none
  | .mutFlipBit indpb => fun t a => t.run1 a fun d =>
    match popRnds a.length d with
    | some (rs, d) => some (d, CrossMut.mutFlipBitR a indpb rs)
    | none => none
  | .mutUniformInt low up indpb => fun t a => t.run1 a fun d =>
    -- the bounds are checked before the first draw (mutation.py:161-168)
    match low.toSeq a.length, up.toSeq a.length with
    | some _, some _ =>
      match popOpts indpb a.length d with
      | some (ds, d) => (CrossMut.mutUniformInt a low up ds).map (fun x => (d, x))
      | none => none
    | _, _ => none
  | .mutInversion => fun t a => t.run1 a fun d =>
    if a.length = 0 then some (d, CrossMut.mutInversion a 0 0)
    else
      match popNat d with
      | some (i1, d) =>
        match popNat d with
        | some (i2, d) => if CrossMut.mutInversionOk a i1 i2 then some (d, CrossMut.mutInversion a i1 i2) else none
        | none => none
      | none => none
  | .mutGaussian mu sigma indpb => fun t a => t.run1 a fun d =>
    match RealOps.mutGaussian ⟨0, v.floats a, 0, []⟩ mu sigma indpb (rndsOf d) (gaussOf d) with
    | .ok (x, rr, gr) => (consume d rr gr).map (fun d' => (d', v.ints x.genes))
    | _ => none
  | .mutPolynomialBounded eta low up indpb => fun t a => t.run1 a fun d =>
    match RealOps.mutPolynomialBounded ⟨0, v.floats a, 0, []⟩ eta low up indpb (rndsOf d) with
    | .ok (x, rr) => (consume d rr (gaussOf d)).map (fun d' => (d', v.ints x.genes))
    | _ => none
  | .mutESLogNormal c indpb => fun t a => t.run1 a fun d =>
    let i := esView.dec a
    match RealOps.mutESLogNormal ⟨0, v.floats i.1, 1, v.floats i.2⟩ c indpb (rndsOf d) (gaussOf d) with
    | .ok (x, rr, gr) => (consume d rr gr).map (fun d' => (d', esView.enc (v.ints x.genes, v.ints x.strategy)))
    | _ => none
  | .gpMutUniform expr => fun t a => gpRun1 v t a (fun x tp => GpTree.mutUniform x expr tp)
  | .gpMutNodeReplacement ps => fun t a => gpRun1 v t a (fun x tp => GpTree.mutNodeReplacement x ps tp)
  | .gpMutEphemeral one => fun t a => gpRun1 v t a (fun x tp => GpTree.mutEphemeral x one tp)
  | .gpMutInsert ps => fun t a => gpRun1 v t a (fun x tp => GpTree.mutInsert x ps tp)
  | .gpMutShrink => fun t a => gpRun1 v t a GpTree.mutShrink

/-! ## 5. `gp.staticLimit` as a heap-level wrapper -/

/-- `staticLimit(key, max_value)`: `over g` = `key(ind) > max_value` on the contents `g`; `pick t n` answers
`random.choice(keep_inds)` for `n` kept copies (an index, used modulo nothing: an index outside `0..n-1` chooses
the first copy — the tape reader below never produces one). -/
structure Limit (σ : Type) where
  over : List Int → Bool
  pick : σ → Nat → σ × Nat

structure Fix (σ : Type) where
  tape : σ
  heap : Heap
  next : Nat
  ret : Nat

/-- gp.py:973-974 `if key(ind) > max_value: new_inds[i] = copy.deepcopy(random.choice(keep_inds))`:
the over-limit individual `x` is replaced by a NEW object (oid `nx`) that is a deep copy — genome and fitness —
of the chosen kept copy. -/
def limitFix {σ : Type} (L : Limit σ) (keep : List Nat) (t : σ) (h : Heap) (nx x : Nat) : Fix σ :=
  if L.over (h x).genome then
    let p := L.pick t keep.length
    let k := keep.getD p.2 (keep.headD x)
    let c : Obj := h k
    { tape := p.1, heap := h.set nx c, next := nx + 1, ret := nx }
  else { tape := t, heap := h, next := nx, ret := x }

/-- the decorated crossover.  gp.py:968 `keep_inds = [copy.deepcopy(ind) for ind in args]` allocates two objects
(oids `base`, `base + 1`: the next free oids — `base = n` whenever the arguments are allocated objects, which they
always are), :969 runs the operator, :972-974 fix the two children in order. -/
def limitMate {σ : Type} (L : Limit σ) (mate : σ → Heap → Nat → Nat → Nat → MateRes σ)
    (t : σ) (h : Heap) (n a b : Nat) : MateRes σ :=
  let base := max n (max (a + 1) (b + 1))
  let ka : Obj := h a
  let kb : Obj := h b
  let r := mate t ((h.set base ka).set (base + 1) kb) (base + 2) a b
  let f1 := limitFix L [base, base + 1] r.tape r.heap r.next r.fst
  let f2 := limitFix L [base, base + 1] f1.tape f1.heap f1.next r.snd
  { tape := f2.tape, heap := f2.heap, next := f2.next, fst := f1.ret, snd := f2.ret }

/-- the decorated mutation (one argument, one kept copy, one returned individual) -/
def limitMutate {σ : Type} (L : Limit σ) (mutate : σ → Heap → Nat → Nat → MutRes σ)
    (t : σ) (h : Heap) (n a : Nat) : MutRes σ :=
  let base := max n (a + 1)
  let ka : Obj := h a
  let r := mutate t (h.set base ka) (base + 1) a
  let f := limitFix L [base] r.tape r.heap r.next r.ret
  { tape := f.tape, heap := f.heap, next := f.next, ret := f.ret }

/-- `random.choice(keep_inds)` read off the operator tape: an integer draw below `n` -/
def pickTape (t : LTape) (n : Nat) : LTape × Nat :=
  if t.ok then
    match popNat t.draws with
    | some (i, d) => if i < n then ({ t with draws := d }, i) else ({ t with ok := false }, 0)
    | none => ({ t with ok := false }, 0)
  else (t, 0)

/-- the measurements the harness decorates with: `len` and `sum` of an integer sequence, `height` is the
measurement of trees (through the tree view) -/
inductive LimitKey where
  | len
  | sum
  | height

def LimitKey.over (v : Views) (maxv : Int) : LimitKey → List Int → Bool
  | .len, g => decide (maxv < Int.ofNat g.length)
  | .sum, g => decide (maxv < g.foldl (· + ·) 0)
  | .height, g =>
    match GpTree.heightL (v.tree.dec g) with
    | some k => decide (maxv < Int.ofNat k)
    | none => false

/-- … for decorated GP operators it is read off the GP tape (a `choice` draw over `n` elements) -/
def pickGp (t : LTape) (n : Nat) : LTape × Nat :=
  if t.ok then
    match GpTree.popChoice (List.range n) t.gp with
    | .ok (i, tp) => ({ t with gp := tp }, i)
    | .error _ => ({ t with ok := false }, 0)
  else (t, 0)

def libLimit (v : Views) (k : LimitKey) (maxv : Int) : Limit LTape :=
  match k with
  | .height => ⟨k.over v maxv, pickGp⟩
  | _ => ⟨k.over v maxv, pickTape⟩

/-! ## 6. A registered pair -/

/-- what is registered in the toolbox: a library crossover and a library mutation, each optionally decorated with
`gp.staticLimit(key, max_value)` -/
structure Lib where
  mate : LibMate
  mutate : LibMut
  mateLimit : Option (LimitKey × Int) := none
  mutLimit : Option (LimitKey × Int) := none

def Lib.ops (v : Views) (p : Lib) : Ops LTape where
  mate :=
    match p.mateLimit with
    | none => liftMate (p.mate.gop v)
    | some (k, m) => limitMate (libLimit v k m) (liftMate (p.mate.gop v))
  mutate :=
    match p.mutLimit with
    | none => liftMutate (p.mutate.gop v)
    | some (k, m) => limitMutate (libLimit v k m) (liftMutate (p.mutate.gop v))

end Variation
