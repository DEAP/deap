/-
C10 — a second, *rounded* semantics for the real-coded operators of `Core/RealOps.lean`.

Import-free apart from `Core/Scalar.lean` (core Lean `Rat` only, no Mathlib).

`XF` is the value set of a floating-point format seen from outside: a finite rational, `+inf`, `-inf` or
`nan`.  An `Arith` is *any* arithmetic on `XF` whose `+ - * /` round the exact rational result with one
function `rnd : Rat → XF` and whose power is a function `pow : XF → XF → XF`; the special values follow
IEEE-754 (`inf - inf`, `0 * inf`, `inf / inf` are `nan`).  `Arith.Lawful` (and `Arith.LawfulExp` for `exp`) are the only facts the theorems
use: `rnd` is (i) monotone, (ii) exact on the representable numbers (which contain the literals of the
source, the largest finite number `omega`, the guard `eps` and the numbers next to 2 that `random.random()`
can produce), (iii) never `nan`; `pow` returns `nan` only for an invalid operation, is sign-correct,
monotone, and exact at the base 1 and the exponent 1.  Nothing says *how* a result is rounded (to nearest,
towards zero, up to a whole ulp off, flush-to-zero underflow, saturation instead of overflow, …).

`nan` also stands for "Python raises": a float division by zero (`ZeroDivisionError`), a power that overflows
(`OverflowError`), a negative base under a fractional exponent (complex result), `0.0 ** negative`.  So
"the gene is not `nan`" means: a real number or an infinity was computed and no exception was raised.

`XFA A` wraps an `XF` and carries the arithmetic `A` in its type; its `RealLike` instance makes *the same* model
definitions `RealOps.sbxbGene`, `RealOps.polyGene`, … (transcribed from the Python source) run under the
rounded semantics.  The theorems are in `Props/C10.lean` (`C10.clamp_*`, `C10.sbxb_rounded*`,
`C10.poly_rounded*`), the lemmas in `Lemmas/C10Rounded.lean`.

No signed zeros: `-0.0` and `0.0` are the same value here.  This is sound for the value-level claims made
(`-0.0 == 0.0` in every comparison, `0.0 * inf` is `nan` for either sign, and the only operations that can
tell the sign of a zero — `1/±0`, `pow(±0, negative)` — raise in Python and are `nan` here).
-/
import DeapModel.Core.Scalar

namespace RoundedOps

/-- a floating-point value seen from outside -/
inductive XF where
  | fin (q : Rat)
  | pinf
  | ninf
  | nan
  deriving DecidableEq

namespace XF

/-- Python `a < b` on floats: false as soon as a `nan` takes part -/
def lt : XF → XF → Bool
  | fin a, fin b => decide (a < b)
  | fin _, pinf => true
  | ninf, fin _ => true
  | ninf, pinf => true
  | _, _ => false

/-- Python `a <= b` on floats: false as soon as a `nan` takes part -/
def le : XF → XF → Bool
  | fin a, fin b => decide (a ≤ b)
  | fin _, pinf => true
  | ninf, fin _ => true
  | ninf, pinf => true
  | pinf, pinf => true
  | ninf, ninf => true
  | _, _ => false

/-- sign change (exact) -/
def neg : XF → XF
  | fin a => fin (-a)
  | pinf => ninf
  | ninf => pinf
  | nan => nan

/-- `abs` (exact) -/
def abs : XF → XF
  | fin a => fin (if a < 0 then -a else a)
  | pinf => pinf
  | ninf => pinf
  | nan => nan

/-- Python `max(a, b)`: `b if b > a else a` -/
def pmax (a b : XF) : XF := if lt a b then b else a
/-- Python `min(a, b)`: `b if b < a else a` -/
def pmin (a b : XF) : XF := if lt b a then b else a
/-- `min(max(c, xl), xu)` as Python evaluates it -/
def clamp (c xl xu : XF) : XF := pmin (pmax c xl) xu

/-- the exact value of an IEEE-754 binary64 bit pattern -/
def ofBits (b : UInt64) : XF :=
  let n : Nat := b.toNat
  let sign : Nat := n / 2 ^ 63
  let ex : Nat := (n / 2 ^ 52) % 2 ^ 11
  let man : Nat := n % 2 ^ 52
  if ex = 2047 then
    if man = 0 then (if sign = 1 then ninf else pinf) else nan
  else
    let mag : Rat :=
      if ex = 0 then mkRat (man : Int) (2 ^ 1074)
      else if ex < 1075 then mkRat ((2 ^ 52 + man : Nat) : Int) (2 ^ (1075 - ex))
      else ((2 ^ 52 + man) * 2 ^ (ex - 1075) : Nat)
    fin (if sign = 1 then -mag else mag)

end XF

open XF

/-- the magnitudes of a floating-point format that the hypotheses of the theorems mention -/
structure Mag where
  /-- the largest finite number -/
  omega : Rat
  /-- the value the literal `1e-14` is read as -/
  eps : Rat
  /-- the largest value `random.random()` returns -/
  top : Rat
  /-- the smallest positive number of the format -/
  tiny : Rat := 0
  /-- `2^-k` is a number of the format for every `k ≤ kmax` -/
  kmax : Nat := 0
  /-- `math.exp(x)` is finite (no `OverflowError`) for every `x ≤ expmax` -/
  expmax : Rat := 0

/-- IEEE-754 binary64 as CPython uses it: `sys.float_info.max`, `float('1e-14')`, `1 - 2**-53`, the smallest
subnormal `2^-1074`, `math.exp(709.0) = 8.2e307` (and `math.exp(710.0)` raises) -/
def binary64 : Mag where
  omega := ((2 ^ 53 - 1) * 2 ^ 971 : Nat)
  eps := mkRat 6338253001141147 (2 ^ 99)
  top := 1 - mkRat 1 (2 ^ 53)
  tiny := mkRat 1 (2 ^ 1074)
  kmax := 1074
  expmax := 709

/-- a rational lower bound of `ln 2 = 0.693147…` -/
def ln2lo : Rat := 693 / 1000

/-- a rounded arithmetic on `XF` -/
structure Arith extends Mag where
  /-- the representable numbers -/
  rep : Rat → Bool
  /-- the rounding of an exact finite result of `+ - * /` -/
  rnd : Rat → XF
  /-- C `pow` on the values of the format -/
  pow : XF → XF → XF
  /-- C `exp` on the values of the format -/
  exp : XF → XF := fun _ => nan
  /-- C `sqrt` on the values of the format -/
  sqrt : XF → XF := fun _ => nan

namespace Arith
variable (A : Arith)

/-- `a + b` -/
def add : XF → XF → XF
  | fin a, fin b => A.rnd (a + b)
  | nan, _ => nan
  | _, nan => nan
  | pinf, ninf => nan
  | ninf, pinf => nan
  | pinf, _ => pinf
  | _, pinf => pinf
  | ninf, _ => ninf
  | _, ninf => ninf

/-- `a - b` (the value of `a + (-b)`) -/
def sub (a b : XF) : XF := A.add a (neg b)

/-- `a * b`; `0 * inf` is `nan` -/
def mul : XF → XF → XF
  | fin a, fin b => A.rnd (a * b)
  | nan, _ => nan
  | _, nan => nan
  | fin a, pinf => if a = 0 then nan else if 0 < a then pinf else ninf
  | fin a, ninf => if a = 0 then nan else if 0 < a then ninf else pinf
  | pinf, fin b => if b = 0 then nan else if 0 < b then pinf else ninf
  | ninf, fin b => if b = 0 then nan else if 0 < b then ninf else pinf
  | pinf, pinf => pinf
  | ninf, ninf => pinf
  | pinf, ninf => ninf
  | ninf, pinf => ninf

/-- Python `a / b` on floats: a zero divisor raises `ZeroDivisionError` (here `nan`); `inf / inf` is `nan` -/
def div : XF → XF → XF
  | nan, _ => nan
  | _, nan => nan
  | fin a, fin b => if b = 0 then nan else A.rnd (a / b)
  | fin _, pinf => fin 0
  | fin _, ninf => fin 0
  | pinf, fin b => if b = 0 then nan else if 0 < b then pinf else ninf
  | ninf, fin b => if b = 0 then nan else if 0 < b then ninf else pinf
  | _, _ => nan

/-- Python `a ** b` on floats: C `pow`, except that an infinite result of finite operands raises
`OverflowError` (here `nan`) -/
def powPy (a b : XF) : XF :=
  match a, b, A.pow a b with
  | fin _, fin _, pinf => nan
  | fin _, fin _, ninf => nan
  | _, _, r => r

/-- Python `math.exp(a)`: C `exp`, except that an infinite result of a finite argument raises `OverflowError`
(here `nan`); an underflow to `0.0` is returned silently -/
def expPy (a : XF) : XF :=
  match a, A.exp a with
  | fin _, pinf => nan
  | _, r => r

/-- the laws: everything the theorems know about the arithmetic -/
structure Lawful (A : Arith) : Prop where
  /-- (iii) rounding a finite exact result never gives `nan` -/
  rnd_not_nan : ∀ q, A.rnd q ≠ nan
  /-- (i) rounding is monotone -/
  rnd_mono : ∀ q q', q ≤ q' → XF.le (A.rnd q) (A.rnd q') = true
  /-- (ii) a representable exact result is returned as it is -/
  rnd_exact : ∀ q, A.rep q = true → A.rnd q = fin q
  rep_zero : A.rep 0 = true
  rep_one : A.rep 1 = true
  rep_two : A.rep 2 = true
  rep_half : A.rep (1 / 2) = true
  /-- the largest finite number and its negative -/
  rep_omega : A.rep A.omega = true
  rep_neg_omega : A.rep (-A.omega) = true
  omega_ge : 2 ≤ A.omega
  /-- the literal `1e-14` is read as the representable positive number `eps` -/
  eps_lit : A.rnd (1 / 100000000000000) = fin A.eps
  rep_eps : A.rep A.eps = true
  rep_neg_eps : A.rep (-A.eps) = true
  eps_pos : 0 < A.eps
  /-- `random.random()` returns at most `top < 1`; `2 * top` and its distance to 2 are representable and
  the reciprocal of that distance is finite (binary64: `top = 1 - 2^-53`, `2 - 2*top = 2^-52`) -/
  top_lt : A.top < 1
  rep_two_top : A.rep (2 * A.top) = true
  rep_gap : A.rep (2 - 2 * A.top) = true
  gap_inv : 1 / (2 - 2 * A.top) ≤ A.omega
  /-- (iii) `pow` returns `nan` only for an invalid operation: a `nan` operand, a negative base, or a zero
  base under a negative exponent -/
  pow_nan : ∀ x y, A.pow x y = nan → x = nan ∨ y = nan ∨ XF.lt x (fin 0) = true ∨ (x = fin 0 ∧ XF.lt y (fin 0) = true)
  /-- the power of a non-negative base is not negative -/
  pow_sign : ∀ x y, XF.le (fin 0) x = true → A.pow x y = nan ∨ XF.le (fin 0) (A.pow x y) = true
  /-- (ii) `1 ** y = 1` -/
  pow_one_base : ∀ y, y ≠ nan → A.pow (fin 1) y = fin 1
  /-- (ii) `x ** 1 = x` for a representable `x ≥ 0` -/
  pow_one_exp : ∀ q, A.rep q = true → 0 ≤ q → A.pow (fin q) (fin 1) = fin q
  /-- (i) monotone in a non-negative base under an exponent `≥ 0` -/
  pow_mono_base : ∀ a b y, XF.le (fin 0) a = true → XF.le a b = true → XF.le (fin 0) y = true →
    XF.le (A.pow a y) (A.pow b y) = true
  /-- (i) antitone in a positive base under an exponent `≤ 0` -/
  pow_anti_base : ∀ a b y, XF.lt (fin 0) a = true → XF.le a b = true → XF.le y (fin 0) = true →
    XF.le (A.pow b y) (A.pow a y) = true
  /-- (i) monotone in the exponent for a base `≥ 1` -/
  pow_mono_exp : ∀ a y y', XF.le (fin 1) a = true → XF.le y y' = true → XF.le (A.pow a y) (A.pow a y') = true

/-- the laws of `exp` (used by the theorems on `mutESLogNormal` only).  `exp_ge_pow2` is the one quantitative law: the
computed `exp(x)` is at least `2^-k` whenever `x ≥ -k * 0.693` (then `e^x ≥ 2^-k * e^(0.000147 k)`) and `2^-k` is a
number of the format — true of every `exp` whose result is a monotone rounding of a value within an ulp of `e^x`.
Nothing is said about arguments below `-kmax * 0.693`: there `exp` may underflow to `0`. -/
structure LawfulExp (A : Arith) : Prop where
  /-- the smallest positive number is representable and positive -/
  rep_tiny : A.rep A.tiny = true
  tiny_pos : 0 < A.tiny
  /-- `exp` of a finite argument `≤ expmax` is a finite number (no `OverflowError`) -/
  exp_fin : ∀ x, x ≤ A.expmax → ∃ e, A.exp (fin x) = fin e
  /-- `exp(x) ≥ 2^-k` for `x ≥ -k * ln2lo`, `k ≤ kmax` -/
  exp_ge_pow2 : ∀ (k : Nat) (x e : Rat), k ≤ A.kmax → -(k : Rat) * ln2lo ≤ x → A.exp (fin x) = fin e →
    1 / 2 ^ k ≤ e

end Arith

/-- a value of `XF` carrying the arithmetic `A` in its type, so that the `RealLike` operations are those of `A` -/
structure XFA (A : Arith) where
  val : XF

instance (A : Arith) : RealLike (XFA A) where
  add a b := ⟨A.add a.val b.val⟩
  sub a b := ⟨A.sub a.val b.val⟩
  mul a b := ⟨A.mul a.val b.val⟩
  div a b := ⟨A.div a.val b.val⟩
  neg a := ⟨XF.neg a.val⟩
  lt a b := XF.lt a.val b.val = true
  le a b := XF.le a.val b.val = true
  ofNat n := ⟨fin (n : Rat)⟩
  ofRatio n d := ⟨A.rnd ((n : Rat) / (d : Rat))⟩
  sqrt a := ⟨A.sqrt a.val⟩
  exp a := ⟨A.expPy a.val⟩
  log _ := ⟨nan⟩
  sin _ := ⟨nan⟩
  cos _ := ⟨nan⟩
  pi := ⟨nan⟩
  pow a b := ⟨A.powPy a.val b.val⟩
  abs a := ⟨XF.abs a.val⟩
  decLt a b := inferInstanceAs (Decidable (XF.lt a.val b.val = true))
  decLe a b := inferInstanceAs (Decidable (XF.le a.val b.val = true))

/-! ### the hypotheses of the NaN-freedom theorems, as decidable predicates on the exact inputs -/

/-- bounded SBX at one locus, magnitudes: `eta ≥ 0` with `eta + 1` finite, both parents inside `[xl, xu]`, the
width `xu - xl` and the sum `a + b` of the parents finite.  (The guard `abs(a - b) > 1e-14` is evaluated by the
operator itself.) -/
def sbxbMag (M : Mag) (eta a b xl xu : Rat) : Bool :=
  decide (0 ≤ eta) && decide (eta + 1 ≤ M.omega) &&
  decide (xl ≤ a) && decide (a ≤ xu) && decide (xl ≤ b) && decide (b ≤ xu) &&
  decide (xu - xl ≤ M.omega) &&
  decide (-M.omega ≤ a + b) && decide (a + b ≤ M.omega)

/-- a draw of `random.random()` as bounded SBX needs it: in `[0, top]` -/
def drawTop (M : Mag) (rand : Rat) : Bool := decide (0 ≤ rand) && decide (rand ≤ M.top)

/-- bounded SBX at one locus: magnitudes and shaping draw -/
def sbxbHyp (M : Mag) (eta a b xl xu rand : Rat) : Bool := sbxbMag M eta a b xl xu && drawTop M rand

/-- which clause of `sbxbHyp` fails first (`ok` when none does) -/
def sbxbWhy (M : Mag) (eta a b xl xu rand : Rat) : String :=
  if ¬ (0 ≤ eta ∧ eta + 1 ≤ M.omega) then "eta"
  else if ¬ (xl ≤ a ∧ a ≤ xu ∧ xl ≤ b ∧ b ≤ xu) then "box"
  else if ¬ (xu - xl ≤ M.omega) then "width"
  else if ¬ (-M.omega ≤ a + b ∧ a + b ≤ M.omega) then "sum"
  else if ¬ (0 ≤ rand ∧ rand ≤ M.top) then "rand"
  else "ok"

/-- bounded polynomial mutation at one locus, magnitudes: `eta ≥ 0` with `eta + 1` finite, the gene inside
`[xl, xu]`, the width `xu - xl` finite and at least the guard `eps` -/
def polyMag (M : Mag) (eta x xl xu : Rat) : Bool :=
  decide (0 ≤ eta) && decide (eta + 1 ≤ M.omega) &&
  decide (xl ≤ x) && decide (x ≤ xu) &&
  decide (M.eps ≤ xu - xl) && decide (xu - xl ≤ M.omega)

/-- a draw of `random.random()`: in `[0, 1)` -/
def drawUnit (rand : Rat) : Bool := decide (0 ≤ rand) && decide (rand < 1)

/-- bounded polynomial mutation at one locus: magnitudes and draw -/
def polyHyp (M : Mag) (eta x xl xu rand : Rat) : Bool := polyMag M eta x xl xu && drawUnit rand

/-- which clause of `polyHyp` fails first (`ok` when none does) -/
def polyWhy (M : Mag) (eta x xl xu rand : Rat) : String :=
  if ¬ (0 ≤ eta ∧ eta + 1 ≤ M.omega) then "eta"
  else if ¬ (xl ≤ x ∧ x ≤ xu) then "box"
  else if ¬ (M.eps ≤ xu - xl) then "narrow"
  else if ¬ (xu - xl ≤ M.omega) then "width"
  else if ¬ (0 ≤ rand ∧ rand < 1) then "rand"
  else "ok"

/-! ### `mutESLogNormal`: the magnitude hypothesis of the positivity theorem -/

/-- One mutated locus of `mutESLogNormal` (:240): strategy `s`, the exponent argument `a = t0_n + t * gauss` as the
code computed it, and a witness `k`: `s > 0`, `a ≤ expmax` (no `OverflowError`), `k ≤ kmax` with `-k * 0.693 ≤ a`
(so `exp(a) ≥ 2^-k`, no underflow of `exp` to `0`) and `s * 2^-k` at least the smallest positive number (no
underflow of the product to `0`). -/
def lognMag (M : Mag) (s a : Rat) (k : Nat) : Bool :=
  decide (0 < s) && decide (a ≤ M.expmax) && decide (k ≤ M.kmax) && decide (-(k : Rat) * ln2lo ≤ a) &&
  decide (M.tiny ≤ s / 2 ^ k)

/-- the smallest `k` with `-k * ln2lo ≤ a` -/
def lognK (a : Rat) : Nat := (Rat.ceil (-a / ln2lo)).toNat

/-- which clause of `lognMag M s a (lognK a)` fails first (`ok` when none does) -/
def lognWhy (M : Mag) (s a : Rat) : String :=
  if ¬ 0 < s then "strategy"
  else if ¬ a ≤ M.expmax then "overflow"
  else if ¬ lognK a ≤ M.kmax then "expunderflow"
  else if ¬ -(lognK a : Rat) * ln2lo ≤ a then "k"
  else if ¬ M.tiny ≤ s / 2 ^ lognK a then "underflow"
  else "ok"

end RoundedOps
