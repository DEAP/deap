/-
`RealLike α`: the scalar interface of the real-valued models (C10, C13, C14, C20; the models
`Core/Nsga3`, `Core/Loops` and, through `RealInst`, lemma files of C03 and C07 use it too).
Import-free.  The executable instance is `Float` (used by the driver for the tolerance
correspondence); the instance for `ℝ` lives in `DeapModel/RealInst.lean` (Mathlib) and is the one
the theorems are about.  Definitions written against this class follow the *operation order of
the Python source* so the `Float` instance computes what CPython computes.
-/

class RealLike (α : Type) extends Add α, Sub α, Mul α, Div α, Neg α, LT α, LE α where
  ofNat : Nat → α
  /-- `n / d` computed as the scalar quotient of the two integers -/
  ofRatio : Int → Nat → α
  sqrt : α → α
  exp : α → α
  log : α → α
  sin : α → α
  cos : α → α
  pi : α
  /-- Python `x ** y` on floats (real power; callers guarantee a non-negative base
  or an integer exponent) -/
  pow : α → α → α
  abs : α → α
  decLt : (a b : α) → Decidable (a < b)
  decLe : (a b : α) → Decidable (a ≤ b)

/- The instances derived from `RealLike` get the lowest priority so that at `α = ℝ` every
statement elaborates with Mathlib's own instances; the bridge lemmas of `RealInst.lean` rewrite
the model's operations to them. -/
attribute [instance 10] RealLike.toAdd RealLike.toSub RealLike.toMul RealLike.toDiv RealLike.toNeg
  RealLike.toLT RealLike.toLE

namespace RealLike

instance (priority := 10) {α : Type} [RealLike α] : DecidableLT α := RealLike.decLt
instance (priority := 10) {α : Type} [RealLike α] : DecidableLE α := RealLike.decLe
instance (priority := 10) {α : Type} [RealLike α] (n : Nat) : OfNat α n := ⟨RealLike.ofNat n⟩

/-- Python `min(a, b)` : `b if b < a else a`. -/
def pmin {α : Type} [RealLike α] (a b : α) : α := if b < a then b else a
/-- Python `max(a, b)` : `b if b > a else a`. -/
def pmax {α : Type} [RealLike α] (a b : α) : α := if a < b then b else a

/-- Sum in list order starting from 0, like Python's `sum`. -/
def sum {α : Type} [RealLike α] (l : List α) : α := l.foldl (· + ·) (RealLike.ofNat 0)
/-- Product in list order starting from `init`, like `reduce(mul, l, init)`. -/
def prod {α : Type} [RealLike α] (init : α) (l : List α) : α := l.foldl (· * ·) init

end RealLike

instance : RealLike Float where
  ofNat := Float.ofNat
  ofRatio n d := Float.ofInt n / Float.ofNat d
  sqrt := Float.sqrt
  exp := Float.exp
  log := Float.log
  sin := Float.sin
  cos := Float.cos
  pi := 3.141592653589793
  pow := Float.pow
  abs := Float.abs
  decLt := fun a b => inferInstanceAs (Decidable (a < b))
  decLe := fun a b => inferInstanceAs (Decidable (a ≤ b))
