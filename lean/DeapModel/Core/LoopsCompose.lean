/-
C03 — the packaged loops of `Core/Loops.lean` COMPOSED with the library components they are run with:

* `toolbox.select` = the C06 models of `tools.selBest`, `selWorst`, `selRandom`, `selTournament`
  (`Core/Selection.lean`) reading the fitnesses of the loop's heap — instead of positions on the tape;
* `halloffame` = the C08 model of `tools.HallOfFame` (`Core/Archive.lean`, `maxsize`, default
  `similar = operator.eq`, i.e. equal genotypes) fed by the loop's `halloffame.update(...)` calls;
* the caller's `population` LIST OBJECT: list objects have identities, the loop variable `population` is a
  reference, `population[:] = …` (algorithms.py 181, 329, 430; gp.py 1145) writes into the referenced object
  while `population = toolbox.generate()` (algorithms.py 485) rebinds the variable;
* the ask/tell protocol of `eaGenerateUpdate`: what `toolbox.generate()` handed out, what `toolbox.update`
  was given.

Core Lean only (imports the C02/C03/C06/C08/C01 models).  Executable.  The machine of `Core/Loops.lean` is used as it is: a
composed generation runs `Loops.generation` and then feeds the archive with exactly the batch that generation
passed to `halloffame.update` (`halloffame.update` reads the evaluated batch and writes only the archive, so it
commutes with the replacement of the population and the logbook record that follow it in the source).
-/
import DeapModel.Core.Loops
import DeapModel.Core.Selection
import DeapModel.Core.Archive

namespace LoopsC
open Variation Loops

/-! ## 1. The library's selection operators on the loop's heap -/

/-- `ind.fitness.wvalues` as the C06 model reads it (the exact scalar type of `Core/Selection.lean`) -/
def ratKey (h : Heap) (o : Nat) : List Rat := (fitKey h o).map (fun x : Int => (x : Rat))

/-- what the selection operators read of the candidates `l` (a list of references) in heap `h` -/
def toPop (h : Heap) (l : List Nat) : Selection.Pop :=
  l.map (fun o => { wv := ratKey h o, size := (h o).genome.length })

/-- `toolbox.select` as registered by the caller, with the `random.choice` results its call consumes
(`selRandom`, `selTournament`: index of the chosen candidate, in call order). -/
inductive Sel where
  | best
  | worst
  | random (draws : List Nat)
  | tournament (tournsize : Nat) (draws : List Nat)
  /-- any other registered selector (`selRoulette`, `selNSGA2`, …; C05/C06/C07 prove that they return members of
  their input): the positions it chose are read off the tape, as in `Core/Loops.lean`; the machine checks that
  they are `k` positions of the candidate list -/
  | given (positions : List Nat)

/-- the operator must have consumed exactly the recorded draws -/
def usedUp : Option (List Nat × Selection.Tape) → Option (List Nat)
  | some (idx, []) => some idx
  | _ => none

/-- `toolbox.select(candidates, k)`: positions of the chosen candidates; `none` = a Python exception or a
tape that does not fit. -/
def Sel.positions (sel : Sel) (h : Heap) (l : List Nat) (k : Nat) : Option (List Nat) :=
  match sel with
  | .best => some (Selection.selBest (toPop h l) k)
  | .worst => some (Selection.selWorst (toPop h l) k)
  | .random ds => usedUp (Selection.selRandom l.length k (ds.map Selection.Draw.choice))
  | .tournament ts ds => usedUp (Selection.selTournament (toPop h l) k ts (ds.map Selection.Draw.choice))
  | .given idx => if idx.length = k ∧ idx.all (fun i => decide (i < l.length)) = true then some idx else none

/-- … and the chosen individuals themselves (references to members of `l`). -/
def select (sel : Sel) (h : Heap) (l : List Nat) (k : Nat) : Option (List Nat) :=
  match sel.positions h l k with
  | none => none
  | some idx => pickAll l idx

structure SimpleSelDec where
  sel : Sel               -- toolbox.select with the draws of this generation's call
  mateD : List Bool
  mutD : List Bool

/-- eaSimple's generation with the library selector (lines 165-181). -/
def simpleSelStep {σ : Type} (ops : Ops σ) (d : SimpleSelDec) : Step σ where
  produce := fun t st pop =>
    match select d.sel st.heap pop pop.length with            -- line 165: select(population, len(population))
    | none => none
    | some chosen => varAnd ops t st chosen d.mateD d.mutD    -- line 168
  replace := fun _ _ off => some off                          -- line 181

structure MuLamSelDec where
  choices : List Choice
  sel : Sel

/-- eaMuPlusLambda's generation with the library selector (lines 316-329). -/
def plusSelStep {σ : Type} (ops : Ops σ) (mu lam : Nat) (d : MuLamSelDec) : Step σ where
  produce := fun t st pop => varOr ops t st pop lam d.choices
  replace := fun h pop off => select d.sel h (pop ++ off) mu   -- line 329: select(population + offspring, mu)

/-- eaMuCommaLambda's generation with the library selector (lines 417-430). -/
def commaSelStep {σ : Type} (ops : Ops σ) (mu lam : Nat) (d : MuLamSelDec) : Step σ where
  produce := fun t st pop => varOr ops t st pop lam d.choices
  replace := fun h _ off => select d.sel h off mu              -- line 430: select(offspring, mu)

/-! ## 2. The hall of fame -/

abbrev HInd := Archive.Ind (List Int) Int
abbrev Hof := Archive.HoF (List Int) Int

/-- an individual as `halloffame.update` sees it: the object, its genotype, its fitness (weighted values;
`()` when invalid) -/
def toInd (e : Nat × Obj) : HInd := ⟨e.1, e.2.genome, ⟨e.2.fit.getD []⟩⟩

/-- the default `similar = operator.eq`: two (list) individuals are equal when their genotypes are -/
def simEq (a b : HInd) : Bool := decide (a.genome = b.genome)

/-- the batch one `halloffame.update(...)` call received: what the loop state `s'` lists as shown beyond `s`,
each individual with the content it had at that moment -/
def newShown (s s' : LState) : List HInd := (s'.shownObj.drop s.shownObj.length).map toInd

/-! ## 3. List objects, 4. the ask/tell protocol -/

/-- how a loop stores the next population: `population[:] = rhs` / `population = rhs` -/
inductive Assign where
  | slice
  | rebind
deriving DecidableEq, Repr

/-- Ask/tell state of the strategy behind `toolbox.generate` / `toolbox.update`: what it handed out and is
waiting to be told about; ghost: every `generate` (generation, individuals) and every `update` (generation,
what was pending, the individuals received with the content they had). -/
structure AskTell where
  pending : Option (List Nat) := none
  asks : List (Nat × List Nat) := []
  tells : List (Nat × Option (List Nat) × List (Nat × Obj)) := []

def AskTell.ask (a : AskTell) (g : Nat) (l : List Nat) : AskTell :=
  { a with pending := some l, asks := a.asks ++ [(g, l)] }

def AskTell.tell (a : AskTell) (g : Nat) (told : List (Nat × Obj)) : AskTell :=
  { a with pending := none, tells := a.tells ++ [(g, a.pending, told)] }

/-! ## 5. The composed machine -/

structure CState where
  ls : LState
  hof : Hof
  /-- ghost: the batches `halloffame.update` received, in call order -/
  hist : List (List HInd) := []
  /-- list objects: identity ↦ content -/
  lists : Nat → List Nat := fun _ => []
  /-- every list identity `≥ nextL` is unused -/
  nextL : Nat := 1
  /-- the list object the loop's variable `population` refers to (initially the caller's list) -/
  popRef : Nat := 0
  strat : AskTell := {}

/-- the caller passes list object `0`, holding `pop`, and an empty `HallOfFame(maxsize)` whose deep copies get
identities from `base` on -/
def initState (st : St) (pop : List Nat) (maxsize base : Nat) : CState :=
  { ls := { st := st, pop := pop }, hof := Archive.empty maxsize base,
    lists := fun i => if i = 0 then pop else [] }

/-- `halloffame.update(batch)` on the model archive; `ls'` is the loop state after the evaluation block. -/
def hofUpdate (c : CState) (ls' : LState) : Option CState :=
  let batch := newShown c.ls ls'
  match Archive.update simEq c.hof batch with
  | none => none
  | some h' => some { c with ls := ls', hof := h', hist := c.hist ++ [batch] }

/-- The right-hand side (`offspring`, the list `toolbox.select` / `toolbox.generate` returned) is a list
object of its own, `rhs`; a slice assignment copies its content into the object `population` refers to, a
plain assignment makes `population` refer to `rhs`. -/
def assignPop (asg : Assign) (c : CState) : CState :=
  let rhs := c.nextL
  match asg with
  | .slice =>
    { c with lists := fun i => if i = c.popRef then c.ls.pop else if i = rhs then c.ls.pop else c.lists i,
             nextL := rhs + 1 }
  | .rebind =>
    { c with lists := fun i => if i = rhs then c.ls.pop else c.lists i, nextL := rhs + 1, popRef := rhs }

/-- generation 0 of the population-based loops, hall of fame included -/
def cgen0 (ev : List Int → List Int) (c : CState) : Option CState := hofUpdate c (gen0 ev c.ls)

/-- one generation of a population-based loop, hall of fame and list objects included -/
def cgeneration {σ : Type} (ev : List Int → List Int) (stp : Step σ) (asg : Assign) (g : Nat) (t : σ)
    (c : CState) : Option (σ × CState) :=
  match generation ev stp g t c.ls with
  | none => none
  | some (t', ls') =>
    match hofUpdate c ls' with
    | none => none
    | some c' => some (t', assignPop asg c')

def crunGens {σ : Type} (ev : List Int → List Int) :
    List (Step σ × Assign) → Nat → σ → CState → Option (σ × CState)
  | [], _, t, c => some (t, c)
  | x :: rest, g, t, c =>
    match cgeneration ev x.1 x.2 g t c with
    | none => none
    | some (t1, c1) => crunGens ev rest (g + 1) t1 c1

/-- eaSimple / eaMuPlusLambda / eaMuCommaLambda / harm with a hall of fame -/
def crunPop {σ : Type} (ev : List Int → List Int) (steps : List (Step σ × Assign)) (t : σ) (c : CState) :
    Option (σ × CState) :=
  match cgen0 ev c with
  | none => none
  | some c0 => crunGens ev steps 1 t c0

/-- the four population-based loops store the next population with `population[:] = …` -/
def inPlace {σ : Type} (steps : List (Step σ)) : List (Step σ × Assign) := steps.map (fun s => (s, Assign.slice))

def eaSimpleC {σ : Type} (ops : Ops σ) (ev : List Int → List Int) (decs : List SimpleSelDec) (t : σ) (c : CState) :=
  crunPop ev (inPlace (decs.map (simpleSelStep ops))) t c

def eaMuPlusLambdaC {σ : Type} (ops : Ops σ) (ev : List Int → List Int) (mu lam : Nat) (decs : List MuLamSelDec)
    (t : σ) (c : CState) :=
  crunPop ev (inPlace (decs.map (plusSelStep ops mu lam))) t c

def eaMuCommaLambdaC {σ : Type} (ops : Ops σ) (ev : List Int → List Int) (mu lam : Nat) (decs : List MuLamSelDec)
    (t : σ) (c : CState) :=
  if commaAssert mu lam then crunPop ev (inPlace (decs.map (commaSelStep ops mu lam))) t c else none

def harmC {σ : Type} (ops : Ops σ) (ev : List Int → List Int) (nbr : Nat) (decs : List (HarmDec Bool)) (t : σ)
    (c : CState) :=
  crunPop ev (inPlace (decs.map (harmStep ops nbr))) t c

/-! ### eaGenerateUpdate, statement by statement (algorithms.py 483-499) -/

def guGeneration {σ : Type} (ev : List Int → List Int) (objs : List (Nat × Obj)) (order : List Nat) (g : Nat)
    (t : σ) (c : CState) : Option (σ × CState) :=
  if decide (objs.map (·.1)).Nodup then
    let population := objs.map (·.1)                                   -- population = toolbox.generate()
    let strat1 := c.strat.ask g population
    let e := evalPhase ev true g { c.ls with st := writeAll c.ls.st objs } population   -- evaluate every one
    match hofUpdate c e.1 with                                         -- halloffame.update(population)
    | none => none
    | some c1 =>
      -- toolbox.update(population): the strategy is told about the list the loop holds, as evaluated
      let strat2 := strat1.tell g (population.map (fun o => (o, e.1.st.heap o)))
      if isPerm order population.length then
        match pickAll population order with                            -- `update` may reorder the list
        | none => none
        | some np =>
          some (t, assignPop .rebind
            { c1 with ls := { e.1 with pop := np, log := e.1.log ++ [(g, e.2)] }, strat := strat2 })
      else none
  else none

def crunGU {σ : Type} (ev : List Int → List Int) :
    List (List (Nat × Obj) × List Nat) → Nat → σ → CState → Option (σ × CState)
  | [], _, t, c => some (t, c)
  | x :: rest, g, t, c =>
    match guGeneration ev x.1 x.2 g t c with
    | none => none
    | some (t1, c1) => crunGU ev rest (g + 1) t1 c1

/-- `eaGenerateUpdate(toolbox, ngen, halloffame)`: no caller population (`population = []`, a list of the
function's own), `for gen in range(ngen)`. -/
def eaGenerateUpdateC {σ : Type} (ev : List Int → List Int) (gens : List (List (Nat × Obj) × List Nat)) (t : σ)
    (st : St) (maxsize base : Nat) :=
  crunGU ev gens 0 t (initState st [] maxsize base)

end LoopsC
