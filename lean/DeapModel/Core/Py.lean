/-
Python semantics shared by several models.  Import-free (core Lean only) so that the
protocol driver links as a compiled executable.

Everything here is *executable*; the laws are proved in `DeapModel/Lemmas/PyLemmas.lean` (`slice`) and
`DeapModel/Props/C01.lean` (tuple comparison).
-/
namespace Py

variable {α : Type} [LT α] [LE α] [DecidableEq α] [DecidableLT α] [DecidableLE α]

/-- Python `tuple.__lt__`: the first position at which the elements are not `==` decides
(with the element `<`); if there is none, the shorter tuple is the smaller one. -/
def tupleLt : List α → List α → Bool
  | [], [] => false
  | [], _ :: _ => true
  | _ :: _, [] => false
  | a :: as, b :: bs => if a = b then tupleLt as bs else decide (a < b)

/-- Python `tuple.__le__` (element `<=` at the first differing position). -/
def tupleLe : List α → List α → Bool
  | [], _ => true
  | _ :: _, [] => false
  | a :: as, b :: bs => if a = b then tupleLe as bs else decide (a ≤ b)

/-- Python `tuple.__eq__`. -/
def tupleEq (a b : List α) : Bool := decide (a = b)

/-- `seq[i] for i in idx`, where `idx` is the index list `range(*slice.indices(len(seq)))`
computed by Python itself; out-of-range indices cannot occur there and are skipped. -/
def slice {β : Type} (idx : List Nat) (l : List β) : List β := idx.filterMap (fun i => l[i]?)

/-- `bisect.bisect_right(a, x)` on a list sorted ascending: the insertion point after any
existing entries equal to `x`; linear scan form (the result is the same as the binary
search on sorted input — proved in `Lemmas`). -/
def bisectRight (a : List α) (x : α) : Nat :=
  match a with
  | [] => 0
  | y :: ys => if x < y then 0 else bisectRight ys x + 1

/-- Insert at position `i` like `list.insert(i, x)` for `0 ≤ i` (positions past the end append). -/
def insertAt {β : Type} (l : List β) (i : Nat) (x : β) : List β := l.take i ++ x :: l.drop i

/-- `del l[i]` for an in-range index. -/
def removeAt {β : Type} (l : List β) (i : Nat) : List β := l.take i ++ l.drop (i + 1)

end Py
