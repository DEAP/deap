/-
Heap-level model of `deap/tools/support.py` `HallOfFame` (lines 492-590) and `ParetoFront` (593-642) (C08):
the archive of `Core/Archive.lean` with its members living in the object heap of `Core/Heap.lean`.

* `items` and `keys` are lists of object ids.  `insert` is `copy.deepcopy` of the submitted individual
  (`Heap.clone`: genome container, nested mutables, instance attributes, fitness, with the memo and the
  class-specific hooks of C16) followed by the list bookkeeping of the code; the key that is stored is the
  `fitness` attribute *of the copy* (`item = deepcopy(item)` rebinds `item` before `item.fitness` is read).
* Everything the archive reads from an individual is read from the heap at the moment the code reads it:
  `ind.fitness` is `getattr` + the `wvalues` of that object (`fitAt`), `bisect_right(self.keys, …)` compares
  the `wvalues` the key objects hold *now*, `self.similar(ind, hofer)` is a function of the two individuals'
  pure values (`Heap.abs`, cut at `depth`) and fitnesses.
* The callers of the archive are modelled by events: `upd` (an `update` call), `write` (an in-place
  modification of any object: genome edit, attribute edit, `fitness.values = …`, `del fitness.values`) and
  `alloc` (a new object: a new individual, a new `Fitness` assigned to `ind.fitness`, a new nested list).
* `log` records the oid range every `deepcopy` call of the archive allocated.  Nothing reads it: it is the
  vocabulary in which "allocated by the archive's own deepcopy calls" is stated (`C08.hof_members_fresh`).

A Python exception (`AttributeError` of a missing `fitness`, `RecursionError` / failed hook of `deepcopy`,
`IndexError`, `ZeroDivisionError`) is the result `none`.  Mathlib-free (core Lean only).
-/
import DeapModel.Core.Archive
import DeapModel.Core.Heap

namespace ArchiveHeap
open Heap (Oid Name Val Obj PV ClassTable)
open Archive (Ind Scan)
open Fitness (Fit)

variable {α : Type} [LT α] [LE α] [DecidableEq α] [DecidableLT α] [DecidableLE α]

/-- What the model is parametric in. -/
structure Params (α : Type) where
  /-- the classes made by `creator.create` (how `deepcopy` treats each of them) -/
  ct : ClassTable
  /-- recursion bound of `copy.deepcopy` -/
  fuel : Nat
  /-- the attribute name `fitness` -/
  fitName : Name
  /-- the number an atom denotes (`wvalues` are atoms) -/
  val : Int → α
  /-- how deep `similar` looks into an individual -/
  depth : Nat
  /-- `self.similar`: a function of the two individuals' pure values and fitnesses -/
  sim : Ind PV α → Ind PV α → Bool

/-- State of one archive object together with the interpreter's heap. -/
structure HState where
  maxsize : Nat
  keys : List Oid
  items : List Oid
  objs : Oid → Option Obj
  next : Nat
  log : List (Nat × Nat)

/-- `HallOfFame(maxsize, similar)` created in an interpreter whose heap is `objs` (allocated up to `next`). -/
def emptyH (maxsize : Nat) (objs : Oid → Option Obj) (next : Nat) : HState :=
  ⟨maxsize, [], [], objs, next, []⟩

/-- The number a member of `wvalues` denotes. -/
def valNum (val : Int → α) : Val → α
  | .atom a => val a
  | .ref _ => val 0

/-- `f.wvalues` of the fitness object `f`, as it is in the heap now. -/
def fitAt (P : Params α) (objs : Oid → Option Obj) (f : Oid) : Fit α :=
  match objs f with
  | some o => ⟨o.items.map (valNum P.val)⟩
  | none => ⟨[]⟩

/-- `x.fitness`: the object the attribute refers to (`none` = `AttributeError`). -/
def fitRef (P : Params α) (objs : Oid → Option Obj) (x : Oid) : Option Oid :=
  match Heap.getattr P.ct objs x P.fitName with
  | some (.ref f) => some f
  | _ => none

/-- An individual as the archive sees it now: identity, pure value, `fitness.wvalues`. -/
def viewInd (P : Params α) (objs : Oid → Option Obj) (x : Oid) : Option (Ind PV α) :=
  match fitRef P objs x with
  | some f => some ⟨x, Heap.abs objs P.depth (.ref x), fitAt P objs f⟩
  | none => none

/-- `self.similar(ind, hofer)`, the member `hofer` read from the heap. -/
def similarTo (P : Params α) (objs : Oid → Option Obj) (vi : Ind PV α) (hofer : Oid) : Bool :=
  match viewInd P objs hofer with
  | some vh => P.sim vi vh
  | none => false

/-- `insert` (support.py:559-562).
```
item = deepcopy(item)
i = bisect_right(self.keys, item.fitness)
self.items.insert(len(self) - i, item)
self.keys.insert(i, item.fitness)
``` -/
def insertH (P : Params α) (hs : HState) (item : Oid) : Option HState :=
  match Heap.clone P.ct P.fuel hs.objs hs.next (.ref item) with
  | some (objs', next', .ref c) =>
    match fitRef P objs' c with
    | some f =>
      let i := Archive.bisectRight (hs.keys.map (fitAt P objs')) (fitAt P objs' f)
      some { hs with objs := objs', next := next'
                     items := Py.insertAt hs.items (hs.items.length - i) c
                     keys := Py.insertAt hs.keys i f
                     log := hs.log ++ [(hs.next, next')] }
    | none => none
  | _ => none

/-- `remove` (support.py:569-570); the arithmetic of `Archive.remove`. -/
def removeH (hs : HState) (index : Int) : Option HState :=
  let len := hs.items.length
  if len = 0 then none else
  let k := len - ((index % (len : Int)).toNat + 1)
  match Archive.pyIndex len index with
  | none => none
  | some j => some { hs with keys := Py.removeAt hs.keys k, items := Py.removeAt hs.items j }

/-- `clear` (support.py:574-575). -/
def clearH (hs : HState) : HState := { hs with items := [], keys := [] }

/-- One iteration of the loop of `HallOfFame.update` (support.py:528-545), see `Archive.step`. -/
def stepH (P : Params α) (pop0 : Oid) (hs : HState) (ind : Oid) : Option HState :=
  if hs.items.length = 0 ∧ hs.maxsize ≠ 0 then insertH P hs pop0
  else match viewInd P hs.objs ind with
    | none => none
    | some vi =>
      match hs.items.getLast? with
      | none => none
      | some worst =>
        match viewInd P hs.objs worst with
        | none => none
        | some vw =>
          if Fitness.gt vi.fit vw.fit || decide (hs.items.length < hs.maxsize) then
            if hs.items.any (similarTo P hs.objs vi) then some hs
            else if hs.items.length ≥ hs.maxsize then
              match removeH hs (-1) with
              | none => none
              | some hs' => insertH P hs' ind
            else insertH P hs ind
          else some hs

/-- The `for ind in population` loop. -/
def updateLoopH (P : Params α) (pop0 : Oid) : HState → List Oid → Option HState
  | hs, [] => some hs
  | hs, ind :: rest =>
    match stepH P pop0 hs ind with
    | none => none
    | some hs' => updateLoopH P pop0 hs' rest

/-- `HallOfFame.update(population)` (support.py:519-545). -/
def updateH (P : Params α) (hs : HState) (population : List Oid) : Option HState :=
  match population with
  | [] => some hs
  | p0 :: _ => updateLoopH P p0 hs population

/-- `for i in <indices>: self.remove(i)` (support.py:639-640). -/
def removeAllH : HState → List Nat → Option HState
  | hs, [] => some hs
  | hs, i :: is =>
    match removeH hs (i : Int) with
    | none => none
    | some hs' => removeAllH hs' is

/-- The members as the scan of `ParetoFront.update` sees them (the heap does not change during the scan). -/
def viewAll (P : Params α) (objs : Oid → Option Obj) : List Oid → Option (List (Ind PV α))
  | [] => some []
  | x :: xs =>
    match viewInd P objs x with
    | none => none
    | some v =>
      match viewAll P objs xs with
      | none => none
      | some vs => some (v :: vs)

/-- One iteration of the loop of `ParetoFront.update` (support.py:623-642): the scan is `Archive.scan` on
the members read from the heap, then the removals, then the `insert`. -/
def pfStepH (P : Params α) (hs : HState) (ind : Oid) : Option HState :=
  match viewInd P hs.objs ind with
  | none => none
  | some vi =>
    match viewAll P hs.objs hs.items with
    | none => none
    | some vs =>
      let s := Archive.scan P.sim vi vs 0 {}
      match removeAllH hs s.toRemove.reverse with
      | none => none
      | some hs' => if !s.isDominated && !s.hasTwin then insertH P hs' ind else some hs'

/-- `ParetoFront.update(population)`. -/
def pfUpdateH (P : Params α) : HState → List Oid → Option HState
  | hs, [] => some hs
  | hs, ind :: rest =>
    match pfStepH P hs ind with
    | none => none
    | some hs' => pfUpdateH P hs' rest

/-! ### The callers of the archive -/

/-- What happens to the heap and the archive over time. -/
inductive Ev where
  /-- `archive.update(population)` -/
  | upd (population : List Oid)
  /-- an in-place modification: the object `x` now has the content `o` -/
  | write (x : Oid) (o : Obj)
  /-- the interpreter allocates a new object with the content `o` -/
  | alloc (o : Obj)

/-- One event (`pf` = the archive is a `ParetoFront`). -/
def execEv (P : Params α) (pf : Bool) (hs : HState) : Ev → Option HState
  | .upd pop => if pf then pfUpdateH P hs pop else updateH P hs pop
  | .write x o => some { hs with objs := Heap.write hs.objs x o }
  | .alloc o => some { hs with objs := Heap.define hs.objs hs.next o, next := hs.next + 1 }

/-- A history of events on one archive. -/
def runH (P : Params α) (pf : Bool) : HState → List Ev → Option HState
  | hs, [] => some hs
  | hs, e :: es =>
    match execEv P pf hs e with
    | none => none
    | some hs' => runH P pf hs' es

/-- The populations of a history as the archive saw them: for every `upd` event the individuals' pure
values and fitnesses at the moment of the call (an individual without `fitness` is not listed: that
`update` raises).  This is the history of the pure model `Core/Archive.lean`. -/
def histOf (P : Params α) (pf : Bool) : HState → List Ev → List (List (Ind PV α))
  | _, [] => []
  | hs, e :: es =>
    let rest := match execEv P pf hs e with
      | none => []
      | some hs' => histOf P pf hs' es
    match e with
    | .upd pop => pop.filterMap (viewInd P hs.objs) :: rest
    | _ => rest

end ArchiveHeap
