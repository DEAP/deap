/-
Model of `deap/tools/support.py` `Statistics`, `MultiStatistics`, `Logbook` (C18), transcribed
from the tree as it is now (with the repairs F3 slice deletion, F4 negative `pop`, F12 empty
logbook text, F18 `pop` also pops the chapters, F5 `header_streamed`).  Import-free.

Names (dictionary keys, chapter names) are numbers, scalar values are integers.  A Python `dict`
is an association list with unique keys in insertion order; every observation the property makes
is independent of that order (the driver prints dictionaries sorted by key).
Column formatting of the printed text is not modelled in this file: `txt` reduces `__txt__` to *which rows* and
*whether a header* are emitted; the complete text is `Core/LogbookText.lean`.
-/
namespace Logbook

abbrev Name := Nat
/-- a `dict` of scalar fields -/
abbrev Row := List (Name × Int)

/-! ### dict -/

/-- `d.get(k, None)` -/
def dictGet (d : Row) (k : Name) : Option Int := d.lookup k

/-- `k in d` -/
def dictHas (d : Row) (k : Name) : Bool := d.any (·.1 == k)

/-- `d[k] = v` (an existing key keeps its position) -/
def dictSet : Row → Name → Int → Row
  | [], k, v => [(k, v)]
  | (k', v') :: rest, k, v => if k' = k then (k, v) :: rest else (k', v') :: dictSet rest k v

/-- `d.update(e)` -/
def dictUpdate (d e : Row) : Row := e.foldl (fun acc p => dictSet acc p.1 p.2) d

/-! ### records and logbooks -/

/-- The keyword arguments of `record(**infos)`: the non-dict items and the dict-valued items
(each again such a dictionary).  Keys are distinct (they are keyword arguments / dict keys). -/
inductive Entry where
  | mk (scalars : Row) (dicts : List (Name × Entry))

def Entry.scalars : Entry → Row | .mk s _ => s
def Entry.dicts : Entry → List (Name × Entry) | .mk _ d => d

/-- `Logbook` (support.py:259-333): the list items, `chapters` (a `defaultdict(Logbook)`, in
creation order), `buffindex`, `header`, `log_header`, and `header_streamed` (set by `stream`, absent = False).
`columns_len` only affects column widths. -/
inductive LB where
  | mk (rows : List Row) (chapters : List (Name × LB)) (buffindex : Nat)
       (header : Option (List Name)) (logHeader : Bool) (headerStreamed : Bool)

namespace LB
def rows : LB → List Row | .mk r _ _ _ _ _ => r
def chapters : LB → List (Name × LB) | .mk _ c _ _ _ _ => c
def buffindex : LB → Nat | .mk _ _ b _ _ _ => b
def header : LB → Option (List Name) | .mk _ _ _ h _ _ => h
def logHeader : LB → Bool | .mk _ _ _ _ l _ => l
/-- `getattr(self, "header_streamed", False)`: the stream has already delivered the header -/
def headerStreamed : LB → Bool | .mk _ _ _ _ _ s => s
/-- `Logbook()` (support.py:273-331) -/
def empty : LB := .mk [] [] 0 none true false
end LB

/-- `self.chapters[key]` replaced by `g` of it; the `defaultdict` creates an empty `Logbook` on
first access (support.py:275, 345). -/
def modifyChapter (g : LB → LB) (key : Name) : List (Name × LB) → List (Name × LB)
  | [] => [(key, g LB.empty)]
  | (k, ch) :: rest => if k = key then (k, g ch) :: rest else (k, ch) :: modifyChapter g key rest

/-- the chapter stored under `key`, if any -/
def getChapter (key : Name) (chs : List (Name × LB)) : Option LB := chs.lookup key

mutual
/-- `Logbook.record(**infos)` (support.py:333-347) where `infos` is the entry's dictionary
updated by `inherit` (the `apply_to_all` of the enclosing logbook: `chapter_infos = value.copy();
chapter_infos.update(apply_to_all)`, :343-344; `inherit = []` for the call made by the user). -/
def recordAux (inherit : Row) : Entry → LB → LB
  | .mk sc dicts, .mk rows chs b h lh hs =>
      -- the non-dict items of `infos` = `apply_to_all` (:340); also what remains of `infos`
      -- after the dict-valued items were deleted (:346), i.e. the appended row (:347)
      let all := dictUpdate sc inherit
      .mk (rows ++ [all]) (recordDicts all inherit dicts chs) b h lh hs
/-- the loop :341-346 over the dict-valued items; an item whose key was overwritten by an
inherited scalar (`update`) is no longer a dict -/
def recordDicts (all inherit : Row) : List (Name × Entry) → List (Name × LB) → List (Name × LB)
  | [], chs => chs
  | (key, sub) :: rest, chs =>
      if dictHas inherit key then recordDicts all inherit rest chs
      else recordDicts all inherit rest (modifyChapter (recordAux all sub) key chs)   -- :343-345
end

/-- `logbook.record(**infos)` as called by the user. -/
def record (e : Entry) (lb : LB) : LB := recordAux [] e lb

/-- Result of `select`: a plain list for one name, a tuple of lists otherwise (support.py:377-379). -/
inductive Sel where
  | single (col : List (Option Int))
  | multi (cols : List (List (Option Int)))
deriving DecidableEq, Repr

/-- `[entry.get(name, None) for entry in self]` -/
def column (lb : LB) (name : Name) : List (Option Int) := lb.rows.map (dictGet · name)

/-- `Logbook.select(*names)` (support.py:349-379). -/
def select (names : List Name) (lb : LB) : Sel :=
  match names with
  | [n] => .single (column lb n)                      -- :377-378
  | ns => .multi (ns.map (column lb))                 -- :379

/-- `index + len(self) if index < 0 else index` (support.py:422). -/
def position (len : Nat) (index : Int) : Int := if index < 0 then index + len else index

mutual
/-- `Logbook.pop(index)` (support.py:409-427).  Returns the removed row, or `none` for an
`IndexError`.  Order of the code: the `buffindex` adjustment (:423-424), then `chapter.pop(index)`
for every chapter (:425-426; chapters are logbooks, so this recurses; the first chapter that
raises leaves the later chapters and the list itself untouched), then `list.pop` (:427). -/
def pop (index : Int) : LB → Option Row × LB
  | .mk rows chs b h lh hs =>
      let pos := position rows.length index                                  -- :422
      let b' := if 0 ≤ pos ∧ pos < (b : Int) then b - 1 else b               -- :423-424
      match popChapters index chs with                                       -- :425-426
      | (chs', true) => (none, .mk rows chs' b' h lh hs)
      | (chs', false) =>
        if 0 ≤ pos ∧ pos < (rows.length : Int) then                          -- :427 list.pop
          (rows[pos.toNat]?, .mk (rows.eraseIdx pos.toNat) chs' b' h lh hs)
        else (none, .mk rows chs' b' h lh hs)
/-- `for chapter in self.chapters.values(): chapter.pop(index)`; the flag says that a chapter
raised `IndexError`. -/
def popChapters (index : Int) : List (Name × LB) → List (Name × LB) × Bool
  | [] => ([], false)
  | (k, ch) :: rest =>
      match pop index ch with
      | (none, ch') => ((k, ch') :: rest, true)
      | (some _, ch') => let r := popChapters index rest; ((k, ch') :: r.1, r.2)
end

/-- `del logbook[key]` for an integer key (support.py:406-407): `self.pop(key)`; `true` = `IndexError`. -/
def delIndex (key : Int) (lb : LB) : LB × Bool :=
  match pop key lb with
  | (none, lb') => (lb', true)
  | (some _, lb') => (lb', false)

/-- insertion into a descending list -/
def insertDesc (x : Nat) : List Nat → List Nat
  | [] => [x]
  | y :: ys => if y ≤ x then x :: y :: ys else y :: insertDesc x ys

/-- `sorted(indices, reverse=True)` on integers (the descending arrangement is unique up to
equal elements, so any sorting algorithm gives this list). -/
def sortDesc : List Nat → List Nat
  | [] => []
  | x :: xs => insertDesc x (sortDesc xs)

/-- the loop of the slice branch (support.py:404-405) over the sorted indices -/
def delEach : List Nat → LB → LB × Bool
  | [], lb => (lb, false)
  | i :: is, lb =>
      match delIndex (i : Int) lb with
      | (lb', true) => (lb', true)
      | (lb', false) => delEach is lb'

/-- `del logbook[slice]` (support.py:403-405); `idx` is `range(*key.indices(len(self)))` as
computed by Python. -/
def delSlice (idx : List Nat) (lb : LB) : LB × Bool := delEach (sortDesc idx) lb

/-- What `__txt__(startindex, header)` emits (support.py:429-486): nothing for an empty logbook
(:430-431); otherwise the rows from `startindex` on (:447) and, iff
`header and startindex == 0 and self.log_header` (:460), a header. -/
structure Text where
  header : Bool
  rows : List Row
deriving DecidableEq, Repr

def txt (startindex : Nat) (header : Bool) (lb : LB) : Text :=
  if lb.rows.length = 0 then ⟨false, []⟩
  else ⟨header && startindex == 0 && lb.logHeader, lb.rows.drop startindex⟩

/-- `logbook.stream` (support.py:381-400): `startindex, self.buffindex = self.buffindex, len(self)`,
the text is `__txt__(startindex, not header_streamed)` (:397), and `header_streamed` becomes true
`if startindex == 0 and len(self) > 0 and self.log_header` (:398-399). -/
def stream : LB → Text × LB
  | .mk rows chs b h lh hs =>
      (txt b (!hs) (.mk rows chs b h lh hs),
       .mk rows chs rows.length h lh (hs || (b == 0 && decide (0 < rows.length) && lh)))

/-- `str(logbook)` = `__str__(0)` = `__txt__(0)` with the default `header=True` (support.py:488-490). -/
def str (lb : LB) : Text := txt 0 true lb

def setHeader (hd : Option (List Name)) : LB → LB
  | .mk rows chs b _ lh hs => .mk rows chs b hd lh hs

def setLogHeader (flag : Bool) : LB → LB
  | .mk rows chs b h _ hs => .mk rows chs b h flag hs

/-- `pickle.loads(pickle.dumps(logbook))`: the class is re-created without `__init__`, the list
items are appended and `__dict__` (buffindex, chapters, header, log_header, header_streamed) is restored. -/
def pickle : LB → LB
  | .mk rows chs b h lh hs => .mk rows chs b h lh hs

/-- the chapter reached by following `path` (only existing chapters; `logbook.chapters[name]`) -/
def chapterAt : List Name → LB → Option LB
  | [], lb => some lb
  | n :: rest, lb => match getChapter n lb.chapters with
      | some ch => chapterAt rest ch
      | none => none

/-- replace the chapter stored under `key` (if there is one) by `g` of it -/
def mapChapter (g : LB → LB) (key : Name) : List (Name × LB) → List (Name × LB)
  | [] => []
  | (k, ch) :: rest => if k = key then (k, g ch) :: rest else (k, ch) :: mapChapter g key rest

/-- apply `g` to the chapter reached by `path` (nothing happens when there is no such chapter) -/
def modifyAt (g : LB → LB) : List Name → LB → LB
  | [], lb => g lb
  | n :: rest, .mk rows chs b h lh hs => .mk rows (mapChapter (modifyAt g rest) n chs) b h lh hs

/-! ### histories -/

inductive Op where
  | record (e : Entry)
  | select (path : List Name) (names : List Name)
  | stream
  /-- `logbook.chapters[c][r₁]…[rₖ].stream` (the path `c :: rest` is not empty): a chapter is a logbook and can be
  streamed on its own (it has its own `buffindex` / `header_streamed`) -/
  | streamAt (c : Name) (rest : List Name)
  | str
  | pop (index : Int)
  | delIndex (index : Int)
  | delSlice (idx : List Nat)
  | pickle
  | setHeader (hd : Option (List Name))
  | setLogHeader (flag : Bool)

/-- What one operation lets the caller observe. -/
inductive Obs where
  | none
  | sel (s : Option Sel)
  | text (t : Text)
  | textAt (t : Option Text)
  | popped (r : Option Row)
  | raised (b : Bool)

def step (lb : LB) : Op → LB × Obs
  | .record e => (record e lb, .none)
  | .select path names => (lb, .sel ((chapterAt path lb).map (select names)))
  | .stream => let r := stream lb; (r.2, .text r.1)
  | .streamAt c rest =>
      (modifyAt (fun l => (stream l).2) (c :: rest) lb,
       .textAt ((chapterAt (c :: rest) lb).map fun l => (stream l).1))
  | .str => (lb, .text (str lb))
  | .pop i => let r := pop i lb; (r.2, .popped r.1)
  | .delIndex i => let r := delIndex i lb; (r.1, .raised r.2)
  | .delSlice idx => let r := delSlice idx lb; (r.1, .raised r.2)
  | .pickle => (pickle lb, .none)
  | .setHeader hd => (setHeader hd lb, .none)
  | .setLogHeader f => (setLogHeader f lb, .none)

/-- the logbook after a history, starting from `lb` -/
def runFrom (lb : LB) (ops : List Op) : LB := ops.foldl (fun s o => (step s o).1) lb

/-- the logbook after a history on a fresh `Logbook()` -/
def run (ops : List Op) : LB := runFrom LB.empty ops

/-- the texts delivered by the `stream` operations of a history, in order -/
def streamsFrom : LB → List Op → List Text
  | _, [] => []
  | lb, .stream :: ops => (stream lb).1 :: streamsFrom (stream lb).2 ops
  | lb, o :: ops => streamsFrom (step lb o).1 ops

def streams (ops : List Op) : List Text := streamsFrom LB.empty ops

/-- how many of the streamed texts carried a header -/
def headerCount (ops : List Op) : Nat := ((streams ops).filter (·.header)).length

/-- all rows delivered by the `stream` operations of a history, in delivery order -/
def delivered (ops : List Op) : List Row := (streams ops).flatMap (·.rows)

end Logbook

/-! ### Statistics (support.py:150-238) -/
namespace Stats

open Logbook (Name)

/-- `Statistics` over data of type `δ`, key values `κ`, frozen arguments `φ`, results `ρ`.
A registered function is `functools.partial(function, *args, **kargs)`; applied to the tuple of
key values it computes `function(*args, values, **kargs)`, modelled as `fn args values`.
`functions` is a dict (a re-registered name keeps its position and gets the new function). -/
structure Statistics (δ κ φ ρ : Type) where
  key : δ → κ
  functions : List (Name × (φ × (φ → List κ → ρ)))
  fields : List Name

variable {δ κ φ ρ : Type}

/-- `Statistics(key)` (support.py:175-178) -/
def new (key : δ → κ) : Statistics δ κ φ ρ := ⟨key, [], []⟩

def setFn (name : Name) (v : φ × (φ → List κ → ρ)) :
    List (Name × (φ × (φ → List κ → ρ))) → List (Name × (φ × (φ → List κ → ρ)))
  | [] => [(name, v)]
  | (k, w) :: rest => if k = name then (k, v) :: rest else (k, w) :: setFn name v rest

/-- `register(name, function, *args, **kargs)` (support.py:180-193) -/
def register (s : Statistics δ κ φ ρ) (name : Name) (fn : φ → List κ → ρ) (args : φ) :
    Statistics δ κ φ ρ :=
  ⟨s.key, setFn name (args, fn) s.functions, s.fields ++ [name]⟩

/-- `compile(data)` (support.py:195-206): `values = tuple(self.key(elem) for elem in data)`, then
one dict entry per registered function. -/
def compile (s : Statistics δ κ φ ρ) (data : List δ) : List (Name × ρ) :=
  let values := data.map s.key                                           -- :201
  s.functions.map fun p => (p.1, p.2.2 p.2.1 values)                     -- :203-205

/-- `MultiStatistics` (support.py:209-257): a dict name → `Statistics`. -/
abbrev Multi (δ κ φ ρ : Type) := List (Name × Statistics δ κ φ ρ)

/-- `MultiStatistics.register` (support.py:244-257): registers in every statistics object. -/
def Multi.register (m : Multi δ κ φ ρ) (name : Name) (fn : φ → List κ → ρ) (args : φ) :
    Multi δ κ φ ρ :=
  m.map fun p => (p.1, Stats.register p.2 name fn args)

/-- `MultiStatistics.compile` (support.py:229-238): one record per named statistics object. -/
def Multi.compile (m : Multi δ κ φ ρ) (data : List δ) : List (Name × List (Name × ρ)) :=
  m.map fun p => (p.1, Stats.compile p.2 data)

/-- `MultiStatistics.fields` (support.py:240-242) -/
def Multi.names (m : Multi δ κ φ ρ) : List Name := m.map (·.1)

end Stats
