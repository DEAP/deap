/-
C20 — the prelude of the TRANSLATOR (`harness/py2lean.py`): the Lean meaning of the Python built-ins the
translated sub-language uses.  Definitions that `py2lean` generates from `/repo`'s source live in namespace
`Gen` and are written against these helpers and `RealLike α` only.  Together with the rendering rules listed at
the top of `harness/py2lean.py` this file is the translator's trusted base: every definition below is the
documented behaviour of the Python built-in on the value types of the sub-language
(`float` = `α`, `int` = `Int`, `list`/`tuple`/generator = `List`, a raised exception = `none`).
Mathlib-free.
-/
import DeapModel.Core.Scalar

namespace Gen
open RealLike

variable {α : Type} [RealLike α] {β γ : Type}

/-- the float a Python `int` becomes in mixed arithmetic -/
def ofInt : Int → α
  | Int.ofNat n => RealLike.ofNat n
  | Int.negSucc n => -(RealLike.ofNat (n + 1))

/-- `int / int` (true division; the divisor is checked by `nz` first) -/
def idiv (a b : Int) : α :=
  if 0 ≤ b then RealLike.ofRatio a b.toNat else RealLike.ofRatio (-a) (-b).toNat

/-- `x ** n` for a literal natural exponent `n`, by repeated multiplication -/
def ipow (x : α) : Nat → α
  | 0 => RealLike.ofNat 1
  | 1 => x
  | n + 2 => ipow x (n + 1) * x

/-- the guard of a division / modulo by an `int`: `ZeroDivisionError` = `none` -/
def nz (i : Int) : Option Int := if i = 0 then none else some i

/-- a slice bound normalised the way `PySlice_AdjustIndices` does for step 1: negative bounds count from the
end, the result is clamped to `[0, n]` -/
def bound (n : Nat) (i : Int) : Nat :=
  if i < 0 then (i + (n : Int)).toNat else min i.toNat n

/-- `l[lo:hi]` (step 1; `none` = bound omitted) -/
def slice (l : List β) (lo hi : Option Int) : List β :=
  let n := l.length
  let a := match lo with
    | none => 0
    | some i => bound n i
  let b := match hi with
    | none => n
    | some i => bound n i
  (l.take b).drop a

/-- `l[i]` : negative indices count from the end, `IndexError` = `none` -/
def index (l : List β) (i : Int) : Option β :=
  if i < 0 then (if i + (l.length : Int) < 0 then none else l[(i + (l.length : Int)).toNat]?)
  else l[i.toNat]?

/-- `range(a, b)` -/
def range (a b : Int) : List Int := (List.range (b - a).toNat).map fun (k : Nat) => a + (k : Int)

/-- `range(a, b, -1)` -/
def rangeDown (a b : Int) : List Int := (List.range (a - b).toNat).map fun (k : Nat) => a - (k : Int)

/-- `enumerate(l, k)` -/
def enumFrom : Int → List β → List (Int × β)
  | _, [] => []
  | k, a :: t => (k, a) :: enumFrom (k + 1) t

/-- `enumerate(l)` -/
def enumerate (l : List β) : List (Int × β) := enumFrom 0 l

/-- `reduce(f, l)` without an initial value: `TypeError` on an empty sequence -/
def reduce1 (f : β → β → β) : List β → Option β
  | [] => none
  | a :: t => some (t.foldl f a)

/-- `sum` of a list of `int`s -/
def isum (l : List Int) : Int := l.foldl (· + ·) 0

/-- `range(a, b, k)` for a literal step `k ≥ 1`: CPython's length `(b - a + k - 1) // k` (0 when `b ≤ a`) -/
def rangeStep (a b : Int) (k : Nat) : List Int :=
  (List.range ((b - a + ((k : Int) - 1)) / (k : Int)).toNat).map fun (j : Nat) => a + (j : Int) * (k : Int)

/-- `a ** e` for `int`s: the int power for `e ≥ 0`; a negative exponent (a float in Python) is OUTSIDE the rendering
and given as `none` -/
def ipowInt (a e : Int) : Option Int := if e < 0 then none else some (a ^ e.toNat)

/-- `int("".join(map(str, l)), 2)` for a list of the ints 0/1, most significant digit first: `ValueError` (= `none`)
on the empty list.  An element other than 0/1 is OUTSIDE the rendering (Python parses the decimal digits of the
elements, `[10]` is 2, `[2]` raises) and given as `none`. -/
def binNumeral (l : List Int) : Option Int :=
  if l.isEmpty then none
  else if l.all (fun d => d == 0 || d == 1) then some (l.foldl (fun acc d => 2 * acc + d) 0) else none

/-- `while cond: body` over the tuple `s` of the variables the body assigns, at most `fuel` iterations:
`none` = the body raised, or the loop is still running after `fuel` iterations (the theorems state the bound) -/
def whileLoop {σ : Type} (cond : σ → Bool) (body : σ → Option σ) : Nat → σ → Option σ
  | 0, s => if cond s then none else some s
  | fuel + 1, s => if cond s then (body s).bind (whileLoop cond body fuel) else some s

/-- `l * n` (list repetition; `n ≤ 0` gives the empty list) -/
def listMul (l : List β) (n : Int) : List β := (List.replicate n.toNat l).flatten

/-- `l[i] = v` in state-passing style: the new contents; negative indices count from the end, `IndexError` = `none` -/
def setItem (l : List β) (i : Int) (v : β) : Option (List β) :=
  if i < 0 then (if i + (l.length : Int) < 0 then none else some (l.set (i + (l.length : Int)).toNat v))
  else if i.toNat < l.length then some (l.set i.toNat v) else none

/-- `max(l)` of a list of floats: the first maximal element (a later one replaces the current one only when it is
greater); `ValueError` on the empty list = `none` -/
def pyMax : List α → Option α
  | [] => none
  | a :: t => some (t.foldl (fun m v => if m < v then v else m) a)

/-- Python `<` on lists of floats (lexicographic; equality of two floats = neither is smaller) -/
def listLt : List α → List α → Bool
  | [], [] => false
  | [], _ :: _ => true
  | _ :: _, [] => false
  | a :: as, b :: bs => if a < b then true else if b < a then false else listLt as bs

/-- Python `<` on tuples `(float, list of floats)` -/
def pairLt (p q : α × List α) : Bool :=
  if p.1 < q.1 then true else if q.1 < p.1 then false else listLt p.2 q.2

/-- `max(l)` of a list of such tuples: the first maximal one; `ValueError` on the empty list = `none` -/
def pyMaxPair : List (α × List α) → Option (α × List α)
  | [] => none
  | a :: t => some (t.foldl (fun m v => if pairLt m v then v else m) a)

/-- insertion into a list sorted in descending order, after the elements that are not smaller -/
def insertDesc (x : α × List α) : List (α × List α) → List (α × List α)
  | [] => [x]
  | y :: t => if pairLt y x then x :: y :: t else y :: insertDesc x t

/-- `sorted(l, reverse=True)` on `(float, list of floats)` tuples: descending and stable (equal elements keep their order) -/
def sortDesc (l : List (α × List α)) : List (α × List α) :=
  l.foldl (fun acc x => insertDesc x acc) []

/-- `random.random()`: the next draw of the tape; `none` when the tape is exhausted -/
def popRandom : List α → Option (α × List α)
  | [] => none
  | r :: rest => some (r, rest)

end Gen
