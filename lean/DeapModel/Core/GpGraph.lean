/-
`gp.graph(expr)` (deap/gp.py:1186-1256): node list, edge list and label dictionary of a prefix expression.
Import-free executable model, list level AS CODED (the stack of `[index, arguments still missing]` frames), and the
tree-level relation it is shown to compute (`edgesT`: parent index → child index, indices in prefix order).
-/
import DeapModel.Core.GpTree

namespace GpTree

/-- `nodes = list(range(len(expr)))` (gp.py:1243) -/
def graphNodes (l : List Prim) : List Nat := List.range l.length

/-- `labels[i] = node.name if isinstance(node, Primitive) else node.value` (gp.py:1252): a primitive is labelled by
its name, a terminal / ephemeral by its value (transported as the text the model prints for it) -/
def labelOf (p : Prim) : String := if p.kind = .prim then p.name else p.text

def graphLabels (l : List Prim) : List String := l.map labelOf

/-- `while stack and stack[-1][1] == 0: stack.pop()` (gp.py:1254-1255); head of the list = top -/
def popDone : List (Nat × Nat) → List (Nat × Nat)
  | (_, 0) :: st => popDone st
  | st => st

/-- `edges.append((stack[-1][0], i))` when the stack is not empty (gp.py:1249-1250) -/
def edgeTo (st : List (Nat × Nat)) (i : Nat) : List (Nat × Nat) :=
  match st with
  | [] => []
  | (j, _) :: _ => [(j, i)]

/-- `stack[-1][1] -= 1` (gp.py:1251) -/
def decTop : List (Nat × Nat) → List (Nat × Nat)
  | [] => []
  | (j, r) :: st => (j, r - 1) :: st

/-- the `for i, node in enumerate(expr)` loop (gp.py:1248-1255): the edges in the order they are appended;
`i` = index of the next node, `st` = the stack -/
def graphLoop : List Prim → Nat → List (Nat × Nat) → List (Nat × Nat)
  | [], _, _ => []
  | p :: rest, i, st => edgeTo st i ++ graphLoop rest (i + 1) (popDone ((i, p.arity) :: decTop st))

/-- the edge list of `graph(expr)` -/
def graphEdges (l : List Prim) : List (Nat × Nat) := graphLoop l 0 []

/-! ## Tree level: the parent → child relation, indices in prefix order -/

mutual
/-- edges of the tree whose root has index `o`: for each child, the edge from `o` to the child's index followed by
the child's own edges (the order in which a depth-first walk meets them) -/
def edgesT : Nat → Tree → List (Nat × Nat)
  | o, .node _ as => edgesF o (o + 1) as
/-- edges from the parent `par` to the roots of the forest that starts at index `o`, and inside the forest -/
def edgesF : Nat → Nat → List Tree → List (Nat × Nat)
  | _, _, [] => []
  | par, o, t :: ts => (par, o) :: (edgesT o t ++ edgesF par (o + t.size) ts)
end

/-- the root indices of the trees of the forest `ts` that starts at index `o` -/
def childRoots : Nat → List Tree → List Nat
  | _, [] => []
  | o, t :: ts => o :: childRoots (o + t.size) ts

def Tree.children : Tree → List Tree
  | .node _ as => as

end GpTree
