/-
GP trees (deap/gp.py).  Import-free executable model.

Two levels:
* tree level  — `Tree`, `flatten`, `size`, `height`, `leafDepths`, `wt` (well-typedness);
* list level  — the code AS CODED on the prefix-order node list (`PrimitiveTree` is a `list`):
  `searchSubtree` / `searchSubtreePy` (any Python int index), `heightL`, `setSlice`/`setItem` (`__setitem__`),
  `generate` (+ `genFull`, `genGrow`, `genHalfAndHalf`, `genRamped`), `cxOnePoint`, `cxOnePointLeafBiased`,
  `mutUniform`, `mutNodeReplacement`, `mutEphemeral`, `mutInsert`, `mutShrink`, `staticLimit`;
* histories   — `Op`, `Step`, `stepState`, `runHistory`: sequences of (possibly static-limited) operators applied to
  the same tree objects of a population, one tape threaded through.

Randomness is an explicit tape of draws consumed in the order the Python code calls `random.*`.
Every function is total; an exception of the Python code (IndexError of `random.choice([])`,
the `__setitem__` guards) is `none` in a pure list-level helper and the fault `raised` in a function that reads the tape
(which also answers `tapeEnd` / `mismatch` for tape exhaustion / a wrong kind of draw).
-/
namespace GpTree

/-- `Primitive` instance / `Terminal` instance / instance (or class, in the pools) of a
`MetaEphemeral` class. -/
inductive Kind | prim | term | eph
  deriving DecidableEq, Repr

/-- A node.  `ret`/`args` are type ids; `arity = len(args)` (gp.py:201; terminals: 0, gp.py:231).
`text` is what `format()` returns for a terminal (`str(value)` / `repr(value)`, gp.py:234);
for an ephemeral *class* stored in a pool it is irrelevant (the instance gets its value when
it is created, gp.py:262). -/
structure Prim where
  name : String
  ret : Nat
  args : List Nat
  kind : Kind
  text : String
  deriving DecidableEq, Repr

def Prim.arity (p : Prim) : Nat := p.args.length

/-- The type id of `__type__ = object` (gp.py:43). -/
def objT : Nat := 0

/-! ## Tree level -/

inductive Tree where
  | node (p : Prim) (args : List Tree)

def Tree.root : Tree → Prim
  | .node p _ => p

mutual
/-- prefix (depth-first) order, the order in which `generate` appends -/
def flatten : Tree → List Prim
  | .node p as => p :: flattenF as
def flattenF : List Tree → List Prim
  | [] => []
  | t :: ts => flatten t ++ flattenF ts
end

mutual
def Tree.size : Tree → Nat
  | .node _ as => 1 + sizeF as
def sizeF : List Tree → Nat
  | [] => 0
  | t :: ts => t.size + sizeF ts
end

mutual
/-- depth of the deepest node (root has depth 0) -/
def Tree.height : Tree → Nat
  | .node _ as => heightF as
/-- `max (height tᵢ + 1)`, 0 for no children -/
def heightF : List Tree → Nat
  | [] => 0
  | t :: ts => max (t.height + 1) (heightF ts)
end

mutual
/-- depths of the leaves (nodes without children) when the root sits at depth `d` -/
def leafDepths : Nat → Tree → List Nat
  | d, .node _ [] => [d]
  | d, .node _ (a :: as) => leafDepthsF (d + 1) (a :: as)
def leafDepthsF : Nat → List Tree → List Nat
  | _, [] => []
  | d, t :: ts => leafDepths d t ++ leafDepthsF d ts
end

mutual
/-- every node has exactly `arity` children -/
def wf : Tree → Bool
  | .node p as => (as.length == p.arity) && wfF as
def wfF : List Tree → Bool
  | [] => true
  | t :: ts => wf t && wfF ts
end

mutual
/-- Well-typed for a slot of type `slot`: the node's return type is accepted by the slot
(`issubclass(ret, slot)`), it has one child per declared argument, and each child is well
typed for the declared argument type. -/
def wt (sub : Nat → Nat → Bool) : Nat → Tree → Bool
  | slot, .node p as => sub p.ret slot && wtF sub p.args as
def wtF (sub : Nat → Nat → Bool) : List Nat → List Tree → Bool
  | [], [] => true
  | s :: ss, t :: ts => wt sub s t && wtF sub ss ts
  | _, _ => false
end

mutual
/-- the subtree whose root is the `i`-th node in prefix order -/
def subAt : Tree → Nat → Option Tree
  | .node p as, i => if i = 0 then some (.node p as) else subAtF as (i - 1)
def subAtF : List Tree → Nat → Option Tree
  | [], _ => none
  | t :: ts, i => if i < t.size then subAt t i else subAtF ts (i - t.size)
end

/-! ## Primitive sets -/

/-- `PrimitiveSetTyped`: the type-indexed pools as the dictionaries hold them
(`pset.primitives[type]`, `pset.terminals[type]`; a missing key is the empty list of the
`defaultdict`), `issubclass`, `pset.ret`, and `terms_count`/`prims_count` for `terminalRatio`. -/
structure Pset where
  sub : Nat → Nat → Bool
  prims : Nat → List Prim
  terms : Nat → List Prim
  ret : Nat
  termsCount : Nat
  primsCount : Nat

/-- gp.py:443-447 -/
def Pset.terminalRatio (ps : Pset) : Float :=
  Float.ofNat ps.termsCount / Float.ofNat (ps.termsCount + ps.primsCount)

/-! ### `_add` (gp.py:324-349): how the pools are filled -/

/-- the two dictionaries as association lists in insertion order -/
structure Dicts where
  prims : List (Nat × List Prim)
  terms : List (Nat × List Prim)

def dictGet (d : List (Nat × List Prim)) (τ : Nat) : List Prim :=
  match d.find? (fun e => e.1 == τ) with
  | some e => e.2
  | none => []

def dictHas (d : List (Nat × List Prim)) (τ : Nat) : Bool := d.any (fun e => e.1 == τ)

def appendNew (acc : List Prim) (items : List Prim) : List Prim :=
  items.foldl (fun a x => if x ∈ a then a else a ++ [x]) acc

/-- `addType` (gp.py:325-333): a new key collects, without duplicates, the items of every
existing key that is a subclass of it. -/
def addType (sub : Nat → Nat → Bool) (d : List (Nat × List Prim)) (τ : Nat) : List (Nat × List Prim) :=
  if dictHas d τ then d
  else d ++ [(τ, d.foldl (fun acc e => if sub e.1 τ then appendNew acc e.2 else acc) [])]

/-- gp.py:347-349 -/
def appendCompat (sub : Nat → Nat → Bool) (d : List (Nat × List Prim)) (p : Prim) : List (Nat × List Prim) :=
  d.map (fun e => if sub p.ret e.1 then (e.1, e.2 ++ [p]) else e)

/-- `PrimitiveSetTyped._add` -/
def addPrim (sub : Nat → Nat → Bool) (ds : Dicts) (p : Prim) : Dicts :=
  let pr := addType sub ds.prims p.ret                              -- :335
  let te := addType sub ds.terms p.ret                              -- :336
  if p.kind = .prim then                                            -- :339
    let pr := p.args.foldl (addType sub) pr                         -- :340-341
    let te := p.args.foldl (addType sub) te                         -- :342
    ⟨appendCompat sub pr p, te⟩
  else ⟨pr, appendCompat sub te p⟩

/-! ## Tape -/

/-- One call of the `random` module, carrying its arguments (checked by the model against what
the code passes) and its result. -/
inductive Draw
  | rnd (x : Float)
  | randint (a b x : Int)
  | randrange (a b x : Nat)
  | choice (n i : Nat)

abbrev Tape := List Draw

/-- Why a run of the model produced no result.
`tapeEnd`  — the code asked for another draw and the tape is exhausted;
`mismatch` — the next draw is not an answer to the call the code makes (other function, other
             arguments, result outside the function's contract): an ill-typed tape;
`raised`   — the Python code raises (IndexError of `random.choice([])` / of indexing past the end,
             ValueError of `randrange` on an empty range / of the `__setitem__` guard …);
`fuel`     — the iteration bound of a modelled loop ran out (shown never to happen). -/
inductive Fault | tapeEnd | mismatch | raised | fuel
  deriving DecidableEq, Repr

/-- result of a modelled call -/
abbrev R (α : Type) := Except Fault α

/-- a Python exception of a pure list-level helper -/
def liftO {α : Type} : Option α → R α
  | some x => .ok x
  | none => .error .raised

/-- `random.choice(seq)`; `IndexError` on the empty sequence -/
def popChoice {α : Type} (seq : List α) (tp : Tape) : R (α × Tape) :=
  if seq.isEmpty then .error .raised
  else match tp with
    | [] => .error .tapeEnd
    | .choice n i :: tp =>
      if n = seq.length then
        match seq[i]? with
        | some x => .ok (x, tp)
        | none => .error .mismatch
      else .error .mismatch
    | _ :: _ => .error .mismatch

/-- `random.randrange(a, b)`; `ValueError` on an empty range -/
def popRange (a b : Nat) (tp : Tape) : R (Nat × Tape) :=
  if ¬ a < b then .error .raised
  else match tp with
    | [] => .error .tapeEnd
    | .randrange a' b' x :: tp => if a' = a ∧ b' = b ∧ a ≤ x ∧ x < b then .ok (x, tp) else .error .mismatch
    | _ :: _ => .error .mismatch

def popRnd : Tape → R (Float × Tape)
  | [] => .error .tapeEnd
  | .rnd x :: tp => .ok (x, tp)
  | _ :: _ => .error .mismatch

/-- `term = term()` for an ephemeral class (gp.py:642-643, 794-795, 862-863, 827): the value
comes from the user's generator function; the one drawn by the generator is on the tape as a
`randint` (the harness' generators are `random.randint(lo, hi)`), `repr` of an int is its
decimal text. -/
def instantiate (p : Prim) (tp : Tape) : R (Prim × Tape) :=
  if p.kind = .eph then
    match tp with
    | [] => .error .tapeEnd
    | .randint _ _ x :: tp' => .ok ({ p with text := toString x }, tp')
    | _ :: _ => .error .mismatch
  else .ok (p, tp)

/-! ## List level: `PrimitiveTree` methods -/

/-- the `while total > 0` loop of `searchSubtree` (gp.py:183-185); `rest` is `self[end:]`;
`self[end]` past the end raises `IndexError`. -/
def walk : List Prim → Nat → Nat → Option Nat
  | _, 0, e => some e
  | [], _ + 1, _ => none
  | p :: rest, t + 1, e => walk rest (t + p.arity) (e + 1)

/-- `searchSubtree(begin)` (gp.py:176-188) for a non-negative `begin` (the lines after the
normalisation of a negative index) → `(begin, end)` of the returned slice.  Every operator calls the method
with such an index (`randrange`, `enumerate` positions). -/
def searchSubtree (l : List Prim) (b : Nat) : Option (Nat × Nat) :=
  match l.drop b with
  | [] => none
  | p :: rest => (walk rest p.arity (b + 1)).map (fun e => (b, e))

/-- the index a Python list access `self[i]` refers to inside the method after `if begin < 0: begin += len(self)`
(gp.py:181-182) -/
def pyIndex (n : Nat) (i : Int) : Int := if i < 0 then i + (n : Int) else i

/-- `PrimitiveTree.searchSubtree(begin)` for ANY Python int `begin`, as Python indexes a list
(gp.py:176-188).  `begin < 0` is normalised once (`begin += len(self)`, :181-182).
* normalised `begin ≥ 0`: the arity walk `searchSubtree`; `IndexError` (none) for `begin ≥ len`.
* normalised `begin` still negative (`begin < -len`): nothing is normalised again, `self[begin]`, `self[begin+1]`, …
  are ordinary negative list indices: the walk runs over `self[begin+len:]` and then wraps around to
  `self[0], self[1], …` (the slice returned has a negative start); `IndexError` for `begin < -2·len` or when
  the walk reaches `len`.  Outside the statement (no node has that index); modelled because the code does it. -/
def searchSubtreePy (l : List Prim) (i : Int) : Option (Int × Int) :=
  let n : Int := (l.length : Int)
  let b := pyIndex l.length i
  if 0 ≤ b then
    (searchSubtree l b.toNat).map (fun be => ((be.1 : Int), (be.2 : Int)))
  else if b + n < 0 then none
  else
    match l.drop (b + n).toNat ++ l with
    | [] => none
    | p :: rest => (walk rest p.arity 1).map (fun k => (b, b + (k : Int)))

/-- the loop of `height` (gp.py:162-168); head of `stack` = top; `stack.pop()` on an empty
stack raises. -/
def heightGo : List Prim → List Nat → Nat → Option Nat
  | [], _, m => some m
  | _ :: _, [], _ => none
  | p :: rest, d :: st, m => heightGo rest (List.replicate p.arity (d + 1) ++ st) (max m d)

/-- `PrimitiveTree.height` -/
def heightL (l : List Prim) : Option Nat := heightGo l [0] 0

/-- `PrimitiveTree.root` (gp.py:171-174) -/
def rootL (l : List Prim) : Option Prim := l[0]?

/-- the arity sum of the `__setitem__` guard (gp.py:76-78) -/
def guardTotal : List Prim → Option Int
  | [] => none                                      -- val[0] raises
  | v :: vs => some (vs.foldl (fun tot n => tot + ((n.arity : Int) - 1)) (v.arity : Int))

/-- `self[b:e] = val` through `__setitem__` (gp.py:65-90), for `b ≤ e` as produced by
`searchSubtree`. -/
def setSlice (l : List Prim) (b e : Nat) (val : List Prim) : Option (List Prim) :=
  if b ≥ l.length then none                          -- :69
  else match guardTotal val with
    | some 0 => some (l.take b ++ val ++ l.drop e)   -- :90
    | _ => none                                      -- :79

/-- `self[key] = val` for an integer key (gp.py:87-90) -/
def setItem (l : List Prim) (i : Nat) (val : Prim) : Option (List Prim) :=
  match l[i]? with
  | none => none
  | some old => if val.arity ≠ old.arity then none else some (l.set i val)

def getSlice (l : List Prim) (b e : Nat) : List Prim := (l.take e).drop b

/-! ## Generators (gp.py:537-656) -/

inductive GenMode | full | grow
  deriving DecidableEq, Repr

/-- `condition(height, depth)`: gp.py:550-552 (full), gp.py:570-575 (grow; `or`/`and`
short-circuit, so `random.random()` is called only when `depth ≠ height ∧ depth ≥ min_`). -/
def condition (mode : GenMode) (ps : Pset) (min_ h d : Nat) (tp : Tape) : R (Bool × Tape) :=
  match mode with
  | .full => .ok (d == h, tp)
  | .grow =>
    if d == h then .ok (true, tp)
    else if d ≥ min_ then
      match popRnd tp with
      | .error e => .error e
      | .ok (x, tp') => .ok (decide (x < ps.terminalRatio), tp')
    else .ok (false, tp)

/-- the `while len(stack) != 0` loop (gp.py:632-655); head of `stack` = top.  `fuel` bounds the
number of iterations; every iteration consumes at least one draw, so `fuel = tape length + 1`
never runs out before the tape does (`C11.gen_total`: the fault `fuel` does not occur). -/
def genLoop (mode : GenMode) (ps : Pset) (min_ h : Nat) : Nat → List (Nat × Nat) → Tape → R (List Prim × Tape)
  | _, [], tp => .ok ([], tp)
  | 0, _ :: _, _ => .error .fuel
  | fuel + 1, (d, τ) :: st, tp =>
    match condition mode ps min_ h d tp with
    | .error e => .error e
    | .ok (true, tp) =>
      match popChoice (ps.terms τ) tp with                       -- :636
      | .error e => .error e
      | .ok (term, tp) =>
        match instantiate term tp with                            -- :642-643
        | .error e => .error e
        | .ok (term, tp) =>
          match genLoop mode ps min_ h fuel st tp with
          | .error e => .error e
          | .ok (rest, tp) => .ok (term :: rest, tp)               -- :644
    | .ok (false, tp) =>
      match popChoice (ps.prims τ) tp with                       -- :647
      | .error e => .error e
      | .ok (prim, tp) =>
        -- :654-655 pushes reversed(args), so the first argument is on top
        match genLoop mode ps min_ h fuel (prim.args.map (fun a => (d + 1, a)) ++ st) tp with
        | .error e => .error e
        | .ok (rest, tp) => .ok (prim :: rest, tp)                 -- :653

/-- `generate(pset, min_, max_, condition, type_)` (gp.py:607-656); `type_ = None` is resolved
by the caller (`ps.ret`). -/
def generate (mode : GenMode) (ps : Pset) (min_ max_ : Nat) (τ : Nat) (tp : Tape) : R (List Prim × Tape) :=
  if max_ < min_ then .error .raised                               -- randint on an empty range
  else match tp with
  | [] => .error .tapeEnd
  | .randint a b x :: tp' =>                                       -- :630
    if a = (min_ : Int) ∧ b = (max_ : Int) ∧ a ≤ x ∧ x ≤ b then
      genLoop mode ps min_ x.toNat (tp'.length + 1) [(0, τ)] tp'
    else .error .mismatch
  | _ :: _ => .error .mismatch

def genFull (ps : Pset) (min_ max_ τ : Nat) (tp : Tape) := generate .full ps min_ max_ τ tp
def genGrow (ps : Pset) (min_ max_ τ : Nat) (tp : Tape) := generate .grow ps min_ max_ τ tp

/-- gp.py:593-594: `random.choice((genGrow, genFull))` -/
def genHalfAndHalf (ps : Pset) (min_ max_ τ : Nat) (tp : Tape) : R (List Prim × Tape) :=
  match popChoice [GenMode.grow, GenMode.full] tp with
  | .error e => .error e
  | .ok (m, tp) => generate m ps min_ max_ τ tp

/-- gp.py:632-639: the deprecated name; warns and calls `genHalfAndHalf` -/
def genRamped (ps : Pset) (min_ max_ τ : Nat) (tp : Tape) : R (List Prim × Tape) :=
  genHalfAndHalf ps min_ max_ τ tp

/-! ## Crossovers (gp.py:663-755) -/

/-- `[i + k | k, x ∈ enumerate(l) if f x]` -/
def idxGo {α : Type} (f : α → Bool) : List α → Nat → List Nat
  | [], _ => []
  | x :: l, i => if f x then i :: idxGo f l (i + 1) else idxGo f l (i + 1)

/-- indices `idx ≥ 1` whose node satisfies `f` (the `enumerate(ind[1:], 1)` loops) -/
def idxFrom1 (f : Prim → Bool) (l : List Prim) : List Nat := idxGo f (l.drop 1) 1

/-- keys of `types` in insertion order -/
def keysOf (f : Prim → Bool) (l : List Prim) : List Nat :=
  (((l.drop 1).filter f).map (·.ret)).eraseDups

/-- `[type_ for type_ in types1 if type_ in types2]`: keys of `types1` in insertion order that are keys of `types2` -/
def commonTypes (f1 f2 : Prim → Bool) (l1 l2 : List Prim) : List Nat :=
  (keysOf f1 l1).filter (fun τ => (keysOf f2 l2).contains τ)

/-- `random.choice(common_types)` (gp.py:707-710, 762-765): `common_types` is the list of the types of `ind1`
in order of first occurrence that also occur in `ind2` — exactly `commonTypes` — so the draw is an ordinary
index into it. -/
def popPick (common : List Nat) (tp : Tape) : R (Nat × Tape) := popChoice common tp

/-- gp.py:693-698 / 748-753, given the candidate index lists of the chosen type -/
def swapAt (ind1 ind2 : List Prim) (c1 c2 : List Nat) (tp : Tape) : R (List Prim × List Prim × Tape) :=
  match popChoice c1 tp with
  | .error e => .error e
  | .ok (i1, tp) =>
    match popChoice c2 tp with
    | .error e => .error e
    | .ok (i2, tp) =>
      match searchSubtree ind1 i1, searchSubtree ind2 i2 with
      | some (b1, e1), some (b2, e2) =>
        -- right-hand side first, then the two slice assignments, left to right
        let s2 := getSlice ind2 b2 e2
        let s1 := getSlice ind1 b1 e1
        match setSlice ind1 b1 e1 s2, setSlice ind2 b2 e2 s1 with
        | some r1, some r2 => .ok (r1, r2, tp)
        | _, _ => .error .raised
      | _, _ => .error .raised

/-- `cxOnePoint` (gp.py:684-714; the per-type index lists are always built) -/
def cxOnePoint (ind1 ind2 : List Prim) (tp : Tape) : R (List Prim × List Prim × Tape) :=
  if ind1.length < 2 ∨ ind2.length < 2 then .ok (ind1, ind2, tp)       -- :691
  else
    let common := commonTypes (fun _ => true) (fun _ => true) ind1 ind2  -- :696-702
    if common.length > 0 then                                            -- :704
      match popPick common tp with                                       -- :705
      | .error e => .error e
      | .ok (τ, tp) =>
        swapAt ind1 ind2 (idxFrom1 (fun p => p.ret == τ) ind1) (idxFrom1 (fun p => p.ret == τ) ind2) tp
    else .ok (ind1, ind2, tp)

/-- `terminal_op = partial(eq, 0)` / `primitive_op = partial(lt, 0)` (gp.py:726-727) -/
def arityOp (terminal : Bool) (p : Prim) : Bool := if terminal then p.arity == 0 else decide (0 < p.arity)

/-- `cxOnePointLeafBiased` (gp.py:703-755) -/
def cxOnePointLeafBiased (ind1 ind2 : List Prim) (termpb : Float) (tp : Tape) : R (List Prim × List Prim × Tape) :=
  if ind1.length < 2 ∨ ind2.length < 2 then .ok (ind1, ind2, tp)       -- :721
  else
    match popRnd tp with
    | .error e => .error e
    | .ok (x1, tp) =>
      match popRnd tp with
      | .error e => .error e
      | .ok (x2, tp) =>
        -- terminal_op = (0 == arity), primitive_op = (0 < arity)            :726-729
        let op1 : Prim → Bool := arityOp (decide (x1 < termpb))
        let op2 : Prim → Bool := arityOp (decide (x2 < termpb))
        let common := commonTypes op1 op2 ind1 ind2
        if common.length > 0 then                                        -- :745
          match popPick common tp with
          | .error e => .error e
          | .ok (τ, tp) =>
            swapAt ind1 ind2 (idxFrom1 (fun p => op1 p && p.ret == τ) ind1)
              (idxFrom1 (fun p => op2 p && p.ret == τ) ind2) tp
        else .ok (ind1, ind2, tp)

/-! ## Mutations (gp.py:761-900) -/

/-- `mutUniform` (gp.py:761-775); `expr` = the replacement generator, called with the type of
the chosen node. -/
def mutUniform (ind : List Prim) (expr : Nat → Tape → R (List Prim × Tape)) (tp : Tape) :
    R (List Prim × Tape) :=
  match popRange 0 ind.length tp with                                   -- :771
  | .error e => .error e
  | .ok (index, tp) =>
    match searchSubtree ind index, ind[index]? with                      -- :772-773
    | some (b, e), some node =>
      match expr node.ret tp with                                        -- :774
      | .error e => .error e
      | .ok (new, tp) =>
        match setSlice ind b e new with
        | some r => .ok (r, tp)
        | none => .error .raised
    | _, _ => .error .raised

/-- `mutNodeReplacement` (gp.py:778-801) -/
def mutNodeReplacement (ind : List Prim) (ps : Pset) (tp : Tape) : R (List Prim × Tape) :=
  if ind.length < 2 then .ok (ind, tp)                                  -- :786
  else
    match popRange 1 ind.length tp with                                  -- :789
    | .error e => .error e
    | .ok (index, tp) =>
      match ind[index]? with
      | none => .error .raised
      | some node =>
        if node.arity = 0 then                                           -- :792
          match popChoice (ps.terms node.ret) tp with                    -- :793
          | .error e => .error e
          | .ok (term, tp) =>
            match instantiate term tp with                               -- :794-795
            | .error e => .error e
            | .ok (term, tp) =>
              match setItem ind index term with
              | some r => .ok (r, tp)
              | none => .error .raised
        else
          let prims := (ps.prims node.ret).filter (fun p => p.args == node.args)   -- :798
          match popChoice prims tp with
          | .error e => .error e
          | .ok (p, tp) =>
            match setItem ind index p with
            | some r => .ok (r, tp)
            | none => .error .raised

/-- the `for i in ephemerals_idx` loop (gp.py:826-827) -/
def reinstAll (ind : List Prim) : List Nat → Tape → R (List Prim × Tape)
  | [], tp => .ok (ind, tp)
  | i :: is, tp =>
    match ind[i]? with
    | none => .error .raised
    | some node =>
      match instantiate node tp with
      | .error e => .error e
      | .ok (n', tp) =>
        match setItem ind i n' with
        | none => .error .raised
        | some ind' => reinstAll ind' is tp

/-- `mutEphemeral` (gp.py:804-829); `one = true` ↔ mode `"one"` (other strings raise) -/
def mutEphemeral (ind : List Prim) (one : Bool) (tp : Tape) : R (List Prim × Tape) :=
  let idx := idxGo (fun p => p.kind = .eph) ind 0                       -- :818
  if idx.length > 0 then
    if one then
      match popChoice idx tp with                                        -- :824
      | .error e => .error e
      | .ok (i, tp) => reinstAll ind [i] tp
    else reinstAll ind idx tp
  else .ok (ind, tp)

/-- the `for i, arg_type in enumerate(new_node.args)` loop of `mutInsert` (gp.py:859-866),
already producing the final `new_subtree` content after the slice replacement at `position`. -/
def insertArgs (ps : Pset) (sub : List Prim) (position : Nat) : Nat → List Nat → Tape → R (List Prim × Tape)
  | _, [], tp => .ok ([], tp)
  | i, a :: as, tp =>
    if i = position then
      match insertArgs ps sub position (i + 1) as tp with
      | .error e => .error e
      | .ok (r, tp) => .ok (sub ++ r, tp)
    else
      match popChoice (ps.terms a) tp with                               -- :861
      | .error e => .error e
      | .ok (term, tp) =>
        match instantiate term tp with                                   -- :862-863
        | .error e => .error e
        | .ok (term, tp) =>
          match insertArgs ps sub position (i + 1) as tp with
          | .error e => .error e
          | .ok (r, tp) => .ok (term :: r, tp)

/-- `mutInsert` (gp.py:832-869) -/
def mutInsert (ind : List Prim) (ps : Pset) (tp : Tape) : R (List Prim × Tape) :=
  match popRange 0 ind.length tp with                                   -- :843
  | .error e => .error e
  | .ok (index, tp) =>
    match ind[index]?, searchSubtree ind index with                      -- :844-845
    | some node, some (b, e) =>
      let primitives := (ps.prims node.ret).filter (fun p => p.args.contains node.ret)   -- :850
      if primitives.length = 0 then .ok (ind, tp)                        -- :852
      else
        match popChoice primitives tp with                               -- :855
        | .error e => .error e
        | .ok (newNode, tp) =>
          let positions := idxGo (fun a => a == node.ret) newNode.args 0
          match popChoice positions tp with                              -- :857
          | .error e => .error e
          | .ok (position, tp) =>
            match insertArgs ps (getSlice ind b e) position 0 newNode.args tp with
            | .error e => .error e
            | .ok (newSub, tp) =>
              match setSlice ind b e (newNode :: newSub) with            -- :867-868
              | some r => .ok (r, tp)
              | none => .error .raised
    | _, _ => .error .raised

/-- the `for _ in range(arg_idx + 1)` loop (gp.py:892-895): returns the last `rslice` -/
def nthArgSpan (ind : List Prim) : Nat → Nat → Option (Nat × Nat)
  | 0, rindex => searchSubtree ind rindex
  | k + 1, rindex =>
    match searchSubtree ind rindex with
    | none => none
    | some (b, e) => nthArgSpan ind k (rindex + (getSlice ind b e).length)

/-- `mutShrink` (gp.py:872-900) -/
def mutShrink (ind : List Prim) (tp : Tape) : R (List Prim × Tape) :=
  if ind.length < 3 then .ok (ind, tp)                                   -- :880 (`or` short-circuits)
  else
  match heightL ind with
  | none => .error .raised
  | some h =>
    if h ≤ 1 then .ok (ind, tp)                                          -- :880
    else
      -- :884-886; the tuples `(i, node)` are represented by `i` (`node = individual[i]`)
      let iprims := idxFrom1 (fun p => p.kind = .prim && p.args.contains p.ret) ind
      if iprims.length ≠ 0 then
        match popChoice iprims tp with                                   -- :889
        | .error e => .error e
        | .ok (index, tp) =>
          match ind[index]? with
          | none => .error .raised
          | some prim =>
          let cands := idxGo (fun a => a == prim.ret) prim.args 0
          match popChoice cands tp with                                  -- :890
          | .error e => .error e
          | .ok (argIdx, tp) =>
            match nthArgSpan ind argIdx (index + 1), searchSubtree ind index with
            | some (rb, re), some (b, e) =>
              match setSlice ind b e (getSlice ind rb re) with           -- :898
              | some r => .ok (r, tp)
              | none => .error .raised
            | _, _ => .error .raised
      else .ok (ind, tp)

/-! ## `staticLimit` (gp.py:908-949) -/

/-- the `for i, ind in enumerate(new_inds)` loop: `keep` = deep copies of the arguments taken
before the operator ran, `new` = what the operator returned. -/
def staticLimitLoop (key : List Prim → Option Nat) (maxv : Nat) (keep : List (List Prim)) :
    List (List Prim) → Tape → R (List (List Prim) × Tape)
  | [], tp => .ok ([], tp)
  | ind :: rest, tp =>
    match key ind with
    | none => .error .raised
    | some k =>
      if k > maxv then                                                   -- :943
        match popChoice keep tp with                                     -- :944
        | .error e => .error e
        | .ok (r, tp) =>
          match staticLimitLoop key maxv keep rest tp with
          | .error e => .error e
          | .ok (o, tp) => .ok (r :: o, tp)
      else
        match staticLimitLoop key maxv keep rest tp with
        | .error e => .error e
        | .ok (o, tp) => .ok (ind :: o, tp)

/-- the wrapper: `op` maps the argument trees and the tape to the returned trees.  `args` = all the trees given
to the operator, of which the first `npos` are passed POSITIONALLY (the others by keyword, e.g.
`mate(ind1, ind2=ind2)`): only positional arguments are copied into `keep_inds` (gp.py:957), then cut to one
per returned tree (gp.py:960).  Every returned tree is measured (gp.py:961-963); with no positional tree the
pool is empty and an over-limit child makes `random.choice` raise. -/
def staticLimit (key : List Prim → Option Nat) (maxv : Nat) (npos : Nat)
    (op : List (List Prim) → Tape → R (List (List Prim) × Tape))
    (args : List (List Prim)) (tp : Tape) : R (List (List Prim) × Tape) :=
  match op args tp with                                                  -- :958
  | .error e => .error e
  | .ok (new, tp) => staticLimitLoop key maxv ((args.take npos).take new.length) new tp

/-! ## Histories: sequences of operators applied to the same tree objects

A population is a list of tree OBJECTS (positions = identities; two positions are two distinct objects, as
`toolbox.clone` / `varAnd` guarantee).  A step names the operator, the position(s) of the tree(s) it is applied to
and optionally the `staticLimit` decorator around it; the operator's results are written back to the positions it
took its arguments from (`ind1, ind2 = toolbox.mate(ind1, ind2)`, `ind, = toolbox.mutate(ind)`).  One tape is
threaded through the whole history.  Read-only calls (`searchSubtree`, `height`, `str`), `copy.deepcopy` and pickle
round trips of a tree do not change any node list: at this level they are the identity and do not appear. -/

/-- the replacement generator handed to `mutUniform`: `genFull` / `genGrow` / (`none`) `genHalfAndHalf` -/
def runGen (m : Option GenMode) (ps : Pset) (mn mx τ : Nat) (tp : Tape) : R (List Prim × Tape) :=
  match m with
  | some .full => genFull ps mn mx τ tp
  | some .grow => genGrow ps mn mx τ tp
  | none => genHalfAndHalf ps mn mx τ tp

def lift1 : R (List Prim × Tape) → R (List (List Prim) × Tape)
  | .ok (l, tp) => .ok ([l], tp)
  | .error e => .error e
def lift2 : R (List Prim × List Prim × Tape) → R (List (List Prim) × Tape)
  | .ok (a, b, tp) => .ok ([a, b], tp)
  | .error e => .error e

/-- the modelled variation operators with their non-tree parameters and the position(s) of their tree(s) -/
inductive Op
  | cx (i j : Nat)
  | cxlb (i j : Nat) (termpb : Float)
  | mutu (i : Nat) (m : Option GenMode) (mn mx : Nat)
  | mutn (i : Nat)
  | mute (i : Nat) (one : Bool)
  | muti (i : Nat)
  | muts (i : Nat)

def Op.positions : Op → List Nat
  | .cx i j => [i, j]
  | .cxlb i j _ => [i, j]
  | .mutu i _ _ _ => [i]
  | .mutn i => [i]
  | .mute i _ => [i]
  | .muti i => [i]
  | .muts i => [i]

/-- the two parents of a crossover are two objects -/
def Op.distinct : Op → Bool
  | .cx i j => i != j
  | .cxlb i j _ => i != j
  | _ => true

/-- the operator as a function of its argument trees -/
def applyOp (ps : Pset) : Op → List (List Prim) → Tape → R (List (List Prim) × Tape)
  | .cx _ _, [x, y], tp => lift2 (cxOnePoint x y tp)
  | .cxlb _ _ pb, [x, y], tp => lift2 (cxOnePointLeafBiased x y pb tp)
  | .mutu _ m mn mx, [x], tp => lift1 (mutUniform x (fun τ tp => runGen m ps mn mx τ tp) tp)
  | .mutn _, [x], tp => lift1 (mutNodeReplacement x ps tp)
  | .mute _ one, [x], tp => lift1 (mutEphemeral x one tp)
  | .muti _, [x], tp => lift1 (mutInsert x ps tp)
  | .muts _, [x], tp => lift1 (mutShrink x tp)
  | _, _, _ => .error .raised

/-- `staticLimit(key, max_value)`; `npos` = how many of the operator's trees the caller passes positionally -/
structure Limit where
  key : List Prim → Option Nat
  maxv : Nat
  npos : Nat

structure Step where
  op : Op
  lim : Option Limit

def fetch (pop : List (List Prim)) : List Nat → Option (List (List Prim))
  | [] => some []
  | i :: is =>
    match pop[i]?, fetch pop is with
    | some x, some r => some (x :: r)
    | _, _ => none

/-- the returned trees take the places of the arguments (a surplus on either side is ignored) -/
def writeBack : List (List Prim) → List Nat → List (List Prim) → List (List Prim)
  | pop, i :: is, o :: os => writeBack (pop.set i o) is os
  | pop, _, _ => pop

/-- one step of a history.  A position outside the population raises (`IndexError`); a crossover of an object with
itself is outside the model (the statement's pairs are two trees) and answers `raised` as well. -/
def stepState (ps : Pset) (s : Step) (pop : List (List Prim)) (tp : Tape) : R (List (List Prim) × Tape) :=
  if s.op.distinct = false then .error .raised
  else match fetch pop s.op.positions with
  | none => .error .raised
  | some args =>
    match (match s.lim with
      | none => applyOp ps s.op args tp
      | some L => staticLimit L.key L.maxv L.npos (applyOp ps s.op) args tp) with
    | .error e => .error e
    | .ok (outs, tp) => .ok (writeBack pop s.op.positions outs, tp)

def runHistory (ps : Pset) : List Step → List (List Prim) → Tape → R (List (List Prim) × Tape)
  | [], pop, tp => .ok (pop, tp)
  | s :: ss, pop, tp =>
    match stepState ps s pop tp with
    | .error e => .error e
    | .ok (pop, tp) => runHistory ps ss pop tp

/-! ## List-level checkers used by the theorems and the driver -/

/-- running arity count: `c` subtrees are still expected -/
def closes : Nat → List Prim → Bool
  | c, [] => c == 0
  | 0, _ :: _ => false
  | c + 1, p :: l => closes (c + p.arity) l

/-- a complete prefix expression: the count starts at 1, stays positive, ends at 0 -/
def complete (l : List Prim) : Bool := closes 1 l

/-- typed version: the stack of the slot types still to be filled -/
def typed (sub : Nat → Nat → Bool) : List Nat → List Prim → Bool
  | ss, [] => ss.isEmpty
  | [], _ :: _ => false
  | s :: ss, p :: l => sub p.ret s && typed sub (p.args ++ ss) l

end GpTree
