/-
C20 — continuous single-objective benchmarks (`deap/benchmarks/__init__.py:27-394`) and the
symbolic-regression targets (`deap/benchmarks/gp.py:19-136`).

Every function is written from its *published definition* (the formula of the docstring /
the cited paper), polymorphic in `RealLike α`, with the operation order of the Python source so
that the `Float` instance agrees with CPython within rounding.  `none` = the input the real code
rejects (IndexError on a too short individual, ZeroDivisionError on a structural zero divisor).
Mathlib-free.
-/
import DeapModel.Core.Scalar

namespace Bench
open RealLike

variable {α : Type} [RealLike α]

/-- decimal literal `n/d` (e.g. `0.2 = dec 2 10`); at `Float` the quotient of two exactly
representable integers is the correctly rounded literal. -/
def dec (n : Int) (d : Nat) : α := RealLike.ofRatio n d

/-- `x ** 2` -/
def sq (x : α) : α := x * x

/-- `x ** n` for a literal natural exponent, by repeated multiplication -/
def npow (x : α) : Nat → α
  | 0 => RealLike.ofNat 1
  | 1 => x
  | n + 2 => npow x (n + 1) * x

/-- `zip(individual[:-1], individual[1:])` -/
def adjacent (x : List α) : List (α × α) := x.zip x.tail

/-- `enumerate(l)` starting at `k` -/
def enumFrom : Nat → List α → List (Nat × α)
  | _, [] => []
  | k, a :: t => (k, a) :: enumFrom (k + 1) t

/-- the float a Python `int` becomes in mixed arithmetic -/
def nat (n : Nat) : α := RealLike.ofNat n

/-! ### unimodal -/

/-- `rand` (`__init__.py:27-43`): f(x) = random(0,1) — the next draw of the tape, whatever the individual;
`none` when the tape is exhausted. -/
def rand (_x : List α) : List α → Option (α × List α)
  | [] => none
  | r :: rest => some (r, rest)

/-- `plane` (`__init__.py:46-62`): f(x) = x₀. -/
def plane : List α → Option α
  | [] => none
  | x0 :: _ => some x0

/-- `sphere` (`:65-81`): f(x) = Σ xᵢ². -/
def sphere (x : List α) : α := sum (x.map fun g => g * g)

/-- `cigar` (`:84-100`): f(x) = x₀² + 10⁶ Σ_{i≥1} xᵢ². -/
def cigar : List α → Option α
  | [] => none
  | x0 :: t => some (sq x0 + nat 1000000 * sum (t.map fun g => g * g))

/-- `rosenbrock` (`:103-123`): f(x) = Σ (1-xᵢ)² + 100 (xᵢ₊₁ - xᵢ²)².
(The source writes `100*(x*x-y)**2 + (1.-x)**2`; float `+` is commutative and `(a-b)² = (b-a)²`
bitwise, so the published order is kept.) -/
def rosenbrock (x : List α) : α :=
  sum ((adjacent x).map fun p => sq (1 - p.1) + 100 * sq (p.2 - p.1 * p.1))

/-- `h1` (`:126-154`): (sin²(x₁ - x₂/8) + sin²(x₂ + x₁/8)) / (√((x₁-8.6998)² + (x₂-6.7665)²) + 1). -/
def h1 : List α → Option α
  | x0 :: x1 :: _ =>
    let num := sq (sin (x0 - x1 / 8)) + sq (sin (x1 + x0 / 8))
    let den := sqrt (sq (x0 - dec 86998 10000) + sq (x1 - dec 67665 10000)) + 1
    some (num / den)
  | _ => none

/-! ### multimodal -/

/-- `ackley` (`:158-182`): 20 - 20 exp(-0.2 √(1/N Σxᵢ²)) + e - exp(1/N Σcos(2πxᵢ)); `N = 0`
divides by zero. -/
def ackley (x : List α) : Option α :=
  if x.isEmpty then none else
    let n : α := nat x.length
    some (20 - 20 * exp (dec (-2) 10 * sqrt (1 / n * sum (x.map fun v => sq v)))
          + exp 1 - exp (1 / n * sum (x.map fun v => cos (2 * pi * v))))

/-- `bohachevsky` (`:185-208`): Σ (xᵢ² + 2xᵢ₊₁² - 0.3cos(3πxᵢ) - 0.4cos(4πxᵢ₊₁) + 0.7). -/
def bohachevsky (x : List α) : α :=
  sum ((adjacent x).map fun p =>
    sq p.1 + 2 * sq p.2 - dec 3 10 * cos (3 * pi * p.1) - dec 4 10 * cos (4 * pi * p.2) + dec 7 10)

/-- `griewank` (`:211-234`): 1/4000 Σxᵢ² - Π cos(xᵢ/√i) + 1  (i from 1). -/
def griewank (x : List α) : α :=
  dec 1 4000 * sum (x.map fun v => sq v)
    - prod 1 ((enumFrom 0 x).map fun p => cos (p.2 / sqrt (nat p.1 + 1))) + 1

/-- `rastrigin` (`:237-257`): 10N + Σ (xᵢ² - 10cos(2πxᵢ)). -/
def rastrigin (x : List α) : α :=
  nat (10 * x.length) + sum (x.map fun g => g * g - 10 * cos (2 * pi * g))

/-- `rastrigin_scaled` (`:260-271`): 10N + Σ (10^((i-1)/(N-1)) xᵢ)² - 10cos(2π 10^((i-1)/(N-1)) xᵢ);
`N = 1` divides by zero. -/
def rastriginScaled (x : List α) : Option α :=
  let N := x.length
  if N = 1 then none else
    some (nat (10 * N) + sum ((enumFrom 0 x).map fun p =>
      let s : α := pow 10 (RealLike.ofRatio p.1 (N - 1))
      sq (s * p.2) - 10 * cos (2 * pi * s * p.2)))

/-- `rastrigin_skew` (`:274-292`): 10N + Σ (yᵢ² - 10cos(2πyᵢ)), yᵢ = 10xᵢ if xᵢ > 0 else xᵢ
(Hansen & Kern 2004; the docstring prints `cos(2πxᵢ)` — the code and the paper use `yᵢ`). -/
def rastriginSkew (x : List α) : α :=
  nat (10 * x.length) + sum (x.map fun v =>
    let y := if 0 < v then 10 * v else v
    sq y - 10 * cos (2 * pi * y))

/-- `schaffer` (`:295-318`): Σ (xᵢ²+xᵢ₊₁²)^0.25 · (sin²(50 (xᵢ²+xᵢ₊₁²)^0.1) + 1). -/
def schaffer (x : List α) : α :=
  sum ((adjacent x).map fun p =>
    let r := sq p.1 + sq p.2
    pow r (dec 25 100) * (sq (sin (50 * pow r (dec 1 10))) + 1))

/-- `schwefel` (`:321-344`): 418.9828872724339·N - Σ xᵢ sin(√|xᵢ|). -/
def schwefel (x : List α) : α :=
  dec 4189828872724339 10000000000000 * nat x.length
    - sum (x.map fun v => v * sin (sqrt (RealLike.abs v)))

/-- `himmelblau` (`:347-371`): (x₁² + x₂ - 11)² + (x₁ + x₂² - 7)². -/
def himmelblau : List α → Option α
  | x0 :: x1 :: _ => some (sq (x0 * x0 + x1 - 11) + sq (x0 + x1 * x1 - 7))
  | _ => none

/-- one Shekel term `1 / (cᵢ + Σⱼ (xⱼ - aᵢⱼ)²)`; `none` when the row is longer than the individual
(`individual[j]` raises IndexError). -/
def shekelTerm (x : List α) (row : List α) (ci : α) : Option α :=
  if x.length < row.length then none else
    some (1 / (ci + sum ((x.zip row).map fun p => sq (p.1 - p.2))))

/-- `shekel` (`:374-394`): Σᵢ 1/(cᵢ + Σⱼ (xⱼ - aᵢⱼ)²) over `i in range(len(c))`; `a[i]` must exist. -/
def shekel (x : List α) (a : List (List α)) (c : List α) : Option α :=
  if a.length < c.length then none else
    ((c.zip a).mapM fun p => shekelTerm x p.2 p.1).map sum

/-! ### symbolic-regression targets (`gp.py`) -/

/-- `kotanchek` (`gp.py:19-31`): e^{-(x₁-1)²} / (3.2 + (x₂-2.5)²). -/
def kotanchek : List α → Option α
  | x0 :: x1 :: _ => some (exp (-(sq (x0 - 1))) / (dec 32 10 + sq (x1 - dec 25 10)))
  | _ => none

/-- the common factor e^{-x} x³ cos x sin x (cos x sin²x - 1) -/
def salustowiczCore (x : α) : α :=
  exp (-x) * npow x 3 * cos x * sin x * (cos x * sq (sin x) - 1)

/-- `salustowicz_1d` (`gp.py:34-46`). -/
def salustowicz1d : List α → Option α
  | x0 :: _ => some (salustowiczCore x0)
  | _ => none

/-- `salustowicz_2d` (`gp.py:49-61`): … · (x₂ - 5). -/
def salustowicz2d : List α → Option α
  | x0 :: x1 :: _ => some (salustowiczCore x0 * (x1 - 5))
  | _ => none

/-- `unwrapped_ball` (`gp.py:64-76`): 10 / (5 + Σ (xᵢ-3)²). -/
def unwrappedBall (x : List α) : α := 10 / (5 + sum (x.map fun d => sq (d - 3)))

/-- `rational_polynomial` (`gp.py:79-91`): 30 (x₁-1)(x₃-1) / (x₂² (x₁-10)); a zero divisor raises
ZeroDivisionError. -/
def rationalPolynomial : List α → Option α
  | x0 :: x1 :: x2 :: _ =>
    let den := sq x1 * (x0 - 10)
    if den < 0 ∨ 0 < den then some (30 * (x0 - 1) * (x2 - 1) / den) else none
  | _ => none

/-- `sin_cos` (`gp.py:94-106`): 6 sin(x₁) cos(x₂). -/
def sinCos : List α → Option α
  | x0 :: x1 :: _ => some (6 * sin x0 * cos x1)
  | _ => none

/-- `ripple` (`gp.py:109-121`): (x₁-3)(x₂-3) + 2 sin((x₁-4)(x₂-4)). -/
def ripple : List α → Option α
  | x0 :: x1 :: _ => some ((x0 - 3) * (x1 - 3) + 2 * sin ((x0 - 4) * (x1 - 4)))
  | _ => none

/-- `rational_polynomial2` (`gp.py:124-136`): ((x₁-3)⁴ + (x₂-3)³ - (x₂-3)) / ((x₂-2)⁴ + 10). -/
def rationalPolynomial2 : List α → Option α
  | x0 :: x1 :: _ =>
    some ((npow (x0 - 3) 4 + npow (x1 - 3) 3 - (x1 - 3)) / (npow (x1 - 2) 4 + 10))
  | _ => none

end Bench
