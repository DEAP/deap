/-
C20 — `deap/benchmarks/movingpeaks.py`: the peak functions (`:31-59`), `MovingPeaks.__call__`
(`:209-244`) and `changePeaks` (`:252-332`).  The five parallel per-peak lists of the class
(`peaks_function/_position/_height/_width`, `last_change_vector`; always popped / appended together)
are one list of records.  Random draws come from an explicit tape, in the call order of the source.
Polymorphic in `RealLike α`; `Config.roundInt` is `int(round(·))`.  Mathlib-free.
-/
import DeapModel.Core.Scalar

namespace MovingPeaks
open RealLike

variable {α : Type} [RealLike α]

inductive PFunc where
  | cone | sphere | function1
  deriving DecidableEq, Repr

/-- `value = 0.0; for x, p in zip(individual, position): value += (x - p)**2` -/
def dist2 (x p : List α) : α :=
  (x.zip p).foldl (fun v q => v + (q.1 - q.2) * (q.1 - q.2)) (RealLike.ofNat 0)

/-- `cone` = h - w·√Σ(x-p)², `sphere` = h·Σ(x-p)², `function1` = h / (1 + w·Σ(x-p)²)
(`:31-59`; no square root in `function1`, as in Branke's reference implementation — the docstring
prints one). -/
def peakValue (fn : PFunc) (x pos : List α) (h w : α) : α :=
  match fn with
  | .cone => h - w * sqrt (dist2 x pos)
  | .sphere => h * dist2 x pos
  | .function1 => h / (1 + w * dist2 x pos)

structure Peak (α : Type) where
  fn : PFunc
  pos : List α
  height : α
  width : α
  last : List α          -- last_change_vector[i]

/-- `max(possible_values)`: the first maximal element; `none` on an empty list (ValueError). -/
def pyMax : List α → Option α
  | [] => none
  | a :: t => some (t.foldl (fun m v => if m < v then v else m) a)

/-- the list `possible_values` of `__call__` (`:218-227`): one value per peak, then the basis
function's value if there is a basis function. -/
def possibleValues (peaks : List (Peak α)) (basis : Option α) (x : List α) : List α :=
  peaks.map (fun p => peakValue p.fn x p.pos p.height p.width) ++ basis.toList

/-- `MovingPeaks.__call__(individual, count=False)[0]` (`:209-229`). -/
def call (peaks : List (Peak α)) (basis : Option α) (x : List α) : Option α :=
  pyMax (possibleValues peaks basis x)

/-! ### changePeaks -/

inductive Draw (α : Type) where
  | random (x : α)        -- random.random()
  | randrange (i : Nat)   -- random.randrange(n)
  | choice (i : Nat)      -- index chosen by random.choice(seq)
  | uniform (x : α)       -- result of random.uniform(a, b)
  | gauss (x : α)         -- result of random.gauss(0, 1)
  | sample (idx : List Nat)  -- positions chosen by random.sample(seq, k), in order

structure Config (α : Type) where
  dim : Nat
  /-- `(minpeaks, maxpeaks)` when `npeaks` was given as a sequence, else `none` -/
  limits : Option (Int × Int)
  numberSeverity : α
  pool : List PFunc
  minCoord : α
  maxCoord : α
  minHeight : α
  maxHeight : α
  minWidth : α
  maxWidth : α
  lambda : α
  moveSeverity : α
  heightSeverity : α
  widthSeverity : α
  /-- `int(round(x))` -/
  roundInt : α → Int

abbrev Tape (α : Type) := List (Draw α)

def popRandom : Tape α → Option (α × Tape α)
  | .random x :: t => some (x, t)
  | _ => none

def popUniform : Tape α → Option (α × Tape α)
  | .uniform x :: t => some (x, t)
  | _ => none

def popGauss : Tape α → Option (α × Tape α)
  | .gauss x :: t => some (x, t)
  | _ => none

/-- `n` draws produced by `pop`, in order -/
def popMany (pop : Tape α → Option (α × Tape α)) : Nat → Tape α → Option (List α × Tape α)
  | 0, t => some ([], t)
  | n + 1, t =>
    match pop t with
    | none => none
    | some (x, t1) =>
      match popMany pop n t1 with
      | none => none
      | some (xs, t2) => some (x :: xs, t2)

def half : α := RealLike.ofRatio 1 2

/-- the removal loop (`:263-269`): `n` times `idx = randrange(len); pop(idx)` on every list -/
def removePeaks : Nat → List (Peak α) → Tape α → Option (List (Peak α) × Tape α)
  | 0, peaks, t => some (peaks, t)
  | n + 1, peaks, t =>
    match t with
    | .randrange idx :: t1 =>
      if idx < peaks.length then removePeaks n (peaks.eraseIdx idx) t1 else none
    | _ => none

/-- the addition loop (`:274-279`): `choice(pfunc_pool)`, `dim` uniform coordinates, a uniform height,
a uniform width, `dim` draws `random() - 0.5` -/
def addPeaks (cfg : Config α) : Nat → List (Peak α) → Tape α → Option (List (Peak α) × Tape α)
  | 0, peaks, t => some (peaks, t)
  | n + 1, peaks, t =>
    match t with
    | .choice i :: t1 =>
      match cfg.pool[i]? with
      | none => none
      | some fn =>
        match popMany popUniform cfg.dim t1 with
        | none => none
        | some (pos, t2) =>
          match popUniform t2 with
          | none => none
          | some (h, t3) =>
            match popUniform t3 with
            | none => none
            | some (w, t4) =>
              match popMany popRandom cfg.dim t4 with
              | none => none
              | some (rs, t5) =>
                addPeaks cfg n (peaks ++ [⟨fn, pos, h, w, rs.map fun r => r - half⟩]) t5
    | _ => none

/-- Python `min(a, b)` on ints -/
def imin (a b : Int) : Int := if b < a then b else a

/-- the number-of-peaks part of `changePeaks` (`:255-279`) -/
def changeNumber (cfg : Config α) (peaks : List (Peak α)) (t : Tape α) :
    Option (List (Peak α) × Tape α) :=
  match cfg.limits with
  | none => some (peaks, t)
  | some (minpeaks, maxpeaks) =>
    let npeaks : Int := peaks.length
    match popRandom t with
    | none => none
    | some (u, t1) =>
      let r : Int := maxpeaks - minpeaks
      match popRandom t1 with
      | none => none
      | some (u2, t2) =>
        let k := cfg.roundInt (RealLike.ofRatio r 1 * u2 * cfg.numberSeverity)
        if u < half then
          removePeaks (imin (npeaks - minpeaks) k).toNat peaks t2
        else
          addPeaks cfg (imin (maxpeaks - npeaks) k).toNat peaks t2

/-- `sum(s**2 for s in shift)` then `move_severity / sqrt(·) if · > 0 else 0` (`:284-285, 290-291`) -/
def shiftScale (move : α) (shift : List α) : α :=
  let sl := sum (shift.map fun s => s * s)
  if 0 < sl then move / sqrt sl else RealLike.ofNat 0

/-- reflecting update of one scalar (`:313-330`): `new = change + v`, mirrored at the violated limit -/
def reflect (lo hi v change : α) : α :=
  let nv := change + v
  if nv < lo then 2 * lo - v - change
  else if hi < nv then 2 * hi - v - change
  else nv

/-- the body of the loop over the peaks (`:281-330`) for one peak -/
def changePeak (cfg : Config α) (pk : Peak α) (t : Tape α) : Option (Peak α × Tape α) :=
  match popMany popRandom pk.pos.length t with
  | none => none
  | some (rs, t1) =>
    let shift0 := rs.map fun r => r - half
    let sl0 := shiftScale cfg.moveSeverity shift0
    let shift1 := (shift0.zip pk.last).map fun p => sl0 * (1 - cfg.lambda) * p.1 + cfg.lambda * p.2
    let sl1 := shiftScale cfg.moveSeverity shift1
    let shift2 := shift1.map fun s => s * sl1
    let moved := (pk.pos.zip shift2).map fun p =>
      let pp := p.1; let s := p.2
      let nc := pp + s
      if nc < cfg.minCoord then (2 * cfg.minCoord - pp - s, (-(1 : α)) * s)
      else if cfg.maxCoord < nc then (2 * cfg.maxCoord - pp - s, (-(1 : α)) * s)
      else (nc, s)
    match popGauss t1 with
    | none => none
    | some (gh, t2) =>
      let h := reflect cfg.minHeight cfg.maxHeight pk.height (gh * cfg.heightSeverity)
      match popGauss t2 with
      | none => none
      | some (gw, t3) =>
        let w := reflect cfg.minWidth cfg.maxWidth pk.width (gw * cfg.widthSeverity)
        some (⟨pk.fn, moved.map (·.1), h, w, moved.map (·.2)⟩, t3)

/-- thread the tape through the loop `for i in range(len(self.peaks_function))` -/
def changeAll (cfg : Config α) : List (Peak α) → Tape α → Option (List (Peak α) × Tape α)
  | [], t => some ([], t)
  | pk :: rest, t =>
    match changePeak cfg pk t with
    | none => none
    | some (pk', t1) =>
      match changeAll cfg rest t1 with
      | none => none
      | some (rest', t2) => some (pk' :: rest', t2)

/-- `MovingPeaks.changePeaks()` -/
def changePeaks (cfg : Config α) (peaks : List (Peak α)) (t : Tape α) :
    Option (List (Peak α) × Tape α) :=
  match changeNumber cfg peaks t with
  | none => none
  | some (peaks1, t1) => changeAll cfg peaks1 t1

/-- `k` successive calls of `changePeaks` on one tape -/
def changeTimes (cfg : Config α) : Nat → List (Peak α) → Tape α → Option (List (Peak α) × Tape α)
  | 0, peaks, t => some (peaks, t)
  | k + 1, peaks, t =>
    match changePeaks cfg peaks t with
    | none => none
    | some (peaks1, t1) => changeTimes cfg k peaks1 t1


/-! ### `MovingPeaks.__init__` (`:115-180`): the initial peaks -/

/-- `[x if uniform != 0 else uniform(lo, hi) for _ in range(n)]` (`:160-168`): a non-zero `uniform_*`
parameter is used as is, otherwise one uniform draw per peak -/
def initScalars (u : α) : Nat → Tape α → Option (List α × Tape α)
  | n, t => if u < RealLike.ofNat 0 ∨ RealLike.ofNat 0 < u then some (List.replicate n u, t)
            else popMany popUniform n t

/-- `n` groups of `dim` draws -/
def popGroups (pop : Tape α → Option (α × Tape α)) (dim : Nat) : Nat → Tape α → Option (List (List α) × Tape α)
  | 0, t => some ([], t)
  | n + 1, t =>
    match popMany pop dim t with
    | none => none
    | some (g, t1) =>
      match popGroups pop dim n t1 with
      | none => none
      | some (gs, t2) => some (g :: gs, t2)

/-- The state built by `__init__` for the peak functions `fns` (one per peak: `pfunc` repeated, or the
given list of the right length): all positions first (`dim` uniform draws per peak), then the heights,
then the widths, then the last-change vectors (`random() - 0.5`, `dim` per peak) — the draw order of
`:158-170`. -/
def initPeaks (dim : Nat) (fns : List PFunc) (uniformHeight uniformWidth : α) (t : Tape α) :
    Option (List (Peak α) × Tape α) :=
  let n := fns.length
  match popGroups popUniform dim n t with
  | none => none
  | some (poss, t1) =>
    match initScalars uniformHeight n t1 with
    | none => none
    | some (hs, t2) =>
      match initScalars uniformWidth n t2 with
      | none => none
      | some (ws, t3) =>
        match popGroups popRandom dim n t3 with
        | none => none
        | some (lasts, t4) =>
          some ((fns.zip (poss.zip (hs.zip (ws.zip lasts)))).map fun q =>
            ⟨q.1, q.2.1, q.2.2.1, q.2.2.2.1, q.2.2.2.2.map fun r => r - half⟩, t4)

/-! ### counted evaluation (`__call__(individual, count=True)`, `:209-244`) -/

structure State (α : Type) where
  peaks : List (Peak α)
  nevals : Nat

/-- `self.period > 0 and self.nevals % self.period == 0` (`:241`), `nevals` already incremented -/
def triggers (period : Int) (nevals : Nat) : Bool := decide (0 < period ∧ (nevals : Int) % period = 0)

/-- One counted evaluation: the fitness is `max(possible_values)` of the *current* peaks, `nevals` is
incremented, and `changePeaks` runs afterwards exactly when `triggers`.  The offline-error bookkeeping
(`:234-238`) only reads the state, except that `globalMaximum()` takes `max` over the peaks and so
raises when there is no peak at all (→ `none`).  Returns (fitness, change triggered?, new state, tape). -/
def evalCounted (cfg : Config α) (period : Int) (basis : Option (List α → α)) (st : State α) (x : List α)
    (t : Tape α) : Option (α × Bool × State α × Tape α) :=
  match call st.peaks (basis.map fun b => b x) x with
  | none => none
  | some v =>
    if st.peaks.isEmpty then none else
    let n := st.nevals + 1
    if triggers period n then
      match changePeaks cfg st.peaks t with
      | none => none
      | some (p', t') => some (v, true, ⟨p', n⟩, t')
    else some (v, false, ⟨st.peaks, n⟩, t)

/-- a history of counted evaluations -/
def evalMany (cfg : Config α) (period : Int) (basis : Option (List α → α)) :
    List (List α) → State α → Tape α → Option (List (α × Bool) × State α × Tape α)
  | [], st, t => some ([], st, t)
  | x :: xs, st, t =>
    match evalCounted cfg period basis st x t with
    | none => none
    | some (v, ch, st1, t1) =>
      match evalMany cfg period basis xs st1 t1 with
      | none => none
      | some (outs, st2, t2) => some ((v, ch) :: outs, st2, t2)

/-! ### `globalMaximum`, `maximums`, offline error (`:182-250`) -/

/-- `a == b` on scalars, through `<` -/
def feq (a b : α) : Bool := !(decide (a < b)) && !(decide (b < a))

/-- Python `<` on lists of floats -/
def listLt : List α → List α → Bool
  | [], [] => false
  | [], _ :: _ => true
  | _ :: _, [] => false
  | a :: as, b :: bs => if a < b then true else if b < a then false else listLt as bs

/-- Python `<` on the tuples `(value, position)` -/
def pairLt (p q : α × List α) : Bool :=
  if p.1 < q.1 then true else if q.1 < p.1 then false else listLt p.2 q.2

/-- the list `potential_max` of `globalMaximum` (`:185-190`): every peak function at its own centre -/
def potentialMax (peaks : List (Peak α)) : List (α × List α) :=
  peaks.map fun p => (peakValue p.fn p.pos p.pos p.height p.width, p.pos)

/-- `globalMaximum()` (`:182-191`): `max` of the `(value, position)` tuples — the first maximal one;
`none` without peaks (`ValueError`) -/
def globalMaximum (peaks : List (Peak α)) : Option (α × List α) :=
  match potentialMax peaks with
  | [] => none
  | a :: t => some (t.foldl (fun m v => if pairLt m v then v else m) a)

/-- insertion into a list sorted in descending order, after the elements that are not smaller
(`sorted(..., reverse=True)` is stable: equal elements keep their order) -/
def insertDesc (x : α × List α) : List (α × List α) → List (α × List α)
  | [] => [x]
  | y :: t => if pairLt y x then x :: y :: t else y :: insertDesc x t

def sortDesc (l : List (α × List α)) : List (α × List α) :=
  l.foldl (fun acc x => insertDesc x acc) []

/-- `maximums()` (`:193-207`): the peaks whose own centre value is not below the landscape there,
sorted with the global maximum first -/
def maximums (peaks : List (Peak α)) (basis : Option (List α → α)) : List (α × List α) :=
  sortDesc ((potentialMax peaks).filter fun vp =>
    match call peaks (basis.map fun f => f vp.2) vp.2 with
    | none => false
    | some c => !(decide (vp.1 < c)))

/-- the offline-error registers `_optimum`, `_error`, `_offline_error` (`:174-177`) -/
structure ErrState (α : Type) where
  optimum : Option α
  error : Option α
  offline : α

/-- Python `min(a, b)` : `b if b < a else a` -/
def fmin (a b : α) : α := if b < a then b else a

/-- the bookkeeping of one counted evaluation with fitness `v` (`:233-238`); `changed` = the evaluation
triggered `changePeaks`, which forgets the optimum (`:332`).  `none`: no peak to take the optimum from. -/
def errStep (peaks : List (Peak α)) (e : ErrState α) (v : α) (changed : Bool) : Option (ErrState α) :=
  let refreshed : Option (α × Option α) :=
    match e.optimum with
    | some o => some (o, e.error)
    | none => (globalMaximum peaks).map fun g => (g.1, some (abs (v - g.1)))
  match refreshed with
  | none => none
  | some (o, err0) =>
    match err0 with
    | none => none
    | some er =>
      let er' := fmin er (abs (v - o))
      some ⟨if changed then none else some o, some er', e.offline + er'⟩

/-- `offlineError()` = `_offline_error / nevals` (`:246-247`); `ZeroDivisionError` before the first evaluation -/
def offlineError (e : ErrState α) (nevals : Nat) : Option α :=
  if nevals = 0 then none else some (e.offline / RealLike.ofNat nevals)

/-! ### `MovingPeaks.__init__`, the `pfunc` argument (`:120-138`) and whole benchmark objects -/

/-- the `pfunc` argument: a function object (`len(pfunc)` raises `TypeError`, `:136-138`) or a
list / tuple of function objects (`:131-135`) -/
inductive PFuncArg where
  | one (f : PFunc)
  | many (fs : List PFunc)
  deriving DecidableEq, Repr

/-- a well-formed answer of `random.sample(seq, k)` for `len(seq) = n`: `k` pairwise distinct positions below `n` -/
def sampleOK (n k : Nat) (idx : List Nat) : Bool :=
  idx.length == k && idx.all (· < n) && idx.eraseDups.length == idx.length

/-- `:130-138` after fixes F33/F34: the functions of the initial peaks, the pool `pfunc_pool` from which
`changePeaks` draws the functions of new peaks, and the rest of the tape.
* one function: repeated `npeaks` times, pool of one;
* a list of exactly `npeaks` functions: **a copy** of it (`list(pfunc)`, F33), the pool is the list;
* any other list: `self.random.sample(pfunc, npeaks)` — `self.random` is assigned before (F34); the
  positions drawn are the next draw of the tape; `random.sample` raises `ValueError` when the list is
  shorter than `npeaks` (→ `none`). -/
def initFunctions (pf : PFuncArg) (npeaks : Nat) (t : Tape α) : Option (List PFunc × List PFunc × Tape α) :=
  match pf with
  | .one f => some (List.replicate npeaks f, [f], t)
  | .many fs =>
    if fs.length = npeaks then some (fs, fs, t)
    else if fs.length < npeaks then none
    else match t with
      | .sample idx :: t1 =>
        if sampleOK fs.length npeaks idx then some (idx.filterMap (fs[·]?), fs, t1) else none
      | _ => none

/-- One benchmark object: configuration (with its `pfunc_pool`), `period`, basis function, peaks and
evaluation counter.  Everything an operation reads or writes is in here: the model has value
semantics, two objects share nothing. -/
structure Bench (α : Type) where
  cfg : Config α
  period : Int
  basis : Option (List α → α)
  st : State α
  err : ErrState α

/-- `MovingPeaks(dim, random, **scenario)`: `base` carries the scalar parameters (its `pool` field is
ignored and replaced by the pool `initFunctions` returns), `npeaks` is the initial number of peaks
(the middle element when `npeaks` was given as `[min, initial, max]`, then `base.limits = some (min, max)`). -/
def init (base : Config α) (period : Int) (basis : Option (List α → α)) (pf : PFuncArg) (npeaks : Nat)
    (uniformHeight uniformWidth : α) (t : Tape α) : Option (Bench α × Tape α) :=
  match initFunctions pf npeaks t with
  | none => none
  | some (fns, pool, t1) =>
    match initPeaks base.dim fns uniformHeight uniformWidth t1 with
    | none => none
    | some (peaks, t2) => some (⟨{ base with pool := pool }, period, basis, ⟨peaks, 0⟩, ⟨none, none, RealLike.ofNat 0⟩⟩, t2)

/-- what a user does with a benchmark object -/
inductive Action (α : Type) where
  | change                    -- `mp.changePeaks()`
  | eval (x : List α)         -- `mp(x, count=False)`
  | evalCount (x : List α)    -- `mp(x)`

inductive Out (α : Type) where
  | changed (npeaks : Nat)
  | value (v : α)
  | counted (v : α) (change : Bool) (nevals npeaks : Nat) (error : Option α)

/-- one action on one benchmark object with its own random source -/
def Bench.step (b : Bench α) (a : Action α) (t : Tape α) : Option (Bench α × Out α × Tape α) :=
  match a with
  | .change =>
    match changePeaks b.cfg b.st.peaks t with
    | none => none
    | some (p', t') =>
      some ({ b with st := ⟨p', b.st.nevals⟩, err := { b.err with optimum := none } }, .changed p'.length, t')
  | .eval x =>
    match call b.st.peaks (b.basis.map fun f => f x) x with
    | none => none
    | some v => some (b, .value v, t)
  | .evalCount x =>
    match evalCounted b.cfg b.period b.basis b.st x t with
    | none => none
    | some (v, ch, st', t') =>
      match errStep b.st.peaks b.err v ch with
      | none => none
      | some e' => some ({ b with st := st', err := e' }, .counted v ch st'.nevals st'.peaks.length e'.error, t')

/-- a benchmark object together with its random source -/
structure Slot (α : Type) where
  b : Bench α
  tape : Tape α

def Slot.step (s : Slot α) (a : Action α) : Option (Slot α × Out α) :=
  match s.b.step a s.tape with
  | none => none
  | some (b', o, t') => some (⟨b', t'⟩, o)

/-- a history of actions on one object -/
def Slot.run : List (Action α) → Slot α → Option (Slot α × List (Out α))
  | [], s => some (s, [])
  | a :: as, s =>
    match s.step a with
    | none => none
    | some (s1, o) =>
      match Slot.run as s1 with
      | none => none
      | some (s2, os) => some (s2, o :: os)

/-- several benchmark objects alive at the same time (e.g. built from one scenario dictionary and one
list of peak functions) -/
abbrev World (α : Type) := List (Slot α)

/-- an action addressed to object `i` -/
def World.step (w : World α) (i : Nat) (a : Action α) : Option (World α × Out α) :=
  match w[i]? with
  | none => none
  | some s =>
    match s.step a with
    | none => none
    | some (s', o) => some (w.set i s', o)

/-- an interleaved history of actions on the objects of a world -/
def World.run : List (Nat × Action α) → World α → Option (World α × List (Out α))
  | [], w => some (w, [])
  | (i, a) :: ops, w =>
    match w.step i a with
    | none => none
    | some (w1, o) =>
      match World.run ops w1 with
      | none => none
      | some (w2, os) => some (w2, o :: os)

/-- `diversity(population)` (`:387-394`): the square root of the summed squared distances to the
centroid; an empty population raises (`none`).  `zip` truncates to the first individual's length. -/
def popDiversity (pop : List (List α)) : Option α :=
  match pop with
  | [] => none
  | x0 :: _ =>
    let zero : List α := List.replicate x0.length (RealLike.ofNat 0)
    let tot := pop.foldl (fun d x => (d.zip x).map fun p => p.1 + p.2) zero
    let mean := tot.map fun di => di / RealLike.ofNat pop.length
    some (sqrt (sum ((pop.map fun x => (mean.zip x).map fun p => (p.1 - p.2) * (p.1 - p.2)).flatten)))

/-- Python `int(round(x))` on a double: round half to even. -/
def pyRoundFloat (x : Float) : Int :=
  let f := x.floor
  let d := x - f
  let fi : Int := f.toInt64.toInt
  if d < 0.5 then fi else if d > 0.5 then fi + 1 else if fi % 2 = 0 then fi else fi + 1

end MovingPeaks
