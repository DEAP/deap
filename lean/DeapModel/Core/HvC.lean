import DeapModel.Core.HvSweep
/-
C15 — the COMPILED hypervolume routine `deap/tools/_hypervolume/_hv.c` (Fonseca, Paquete, López-Ibáñez,
Guerreiro; compiled with `#define VARIANT 4`, hence `stop_dimension = 2`), transcribed statement by statement in
the order of the C source so that the two texts can be read side by side.  Core Lean only (imports `Core/HvSweep.lean`
for `tget` / `tset`), executable, exact `Rat`.  Line numbers `l.NNN` refer to `_hv.c`.

Pointers become node ids: id 0 is the list head `head[0]` (`x == NULL`), ids 1..n are `head[1..n]`, the points in
input order (l.590-607).  Every per-node / per-dimension array is a table:

  next, prev   : [dimension][id] ↦ id       (`dlnode_t.next[i]`, `.prev[i]`)
  area, vol    : [id][dimension] ↦ Rat       (`dlnode_t.area[i]`, `.vol[i]`; `malloc`ed, i.e. indeterminate in C: here 0)
  ignore       : [id] ↦ Int                  (`dlnode_t.ignore`; the 1-D base case stores -1)
  bound        : [dimension] ↦ Option Rat    (`none` = the initial `-DBL_MAX`, below every coordinate)
  domr         : [id] ↦ Rat                  (`avl_node_t.domr` of `dlnode_t.tnode`; indeterminate in C: here 0)
  tree         : the ids in the AVL tree, in key order (see below)
  calls        : [dim] ↦ number of `hv_recursive` invocations with that `dim` (observability only, not in the code)

THE AVL TREE — the one abstraction of this file.  The AVL library embedded in `_hv.c` (l.63-501: `avl_node_t` with
`parent/left/right/depth` for the balanced search tree and `prev/next` threading the nodes in key order,
`avl_tree_t.top/head/tail`, `avl_rebalance`) is NOT transcribed.  It is replaced by the ordered sequence it
represents: `tree : List Nat`, the ids of the nodes currently in the tree, in key order (`head` first), with

  `avl_insert_top`                 the one-element sequence
  `avl_insert_before/after`        insertion immediately before / after a member
  `avl_unlink_node`                removal of a member
  `tnode->prev`, `tnode->next`     predecessor / successor in the sequence (`0` = `NULL`)
  `avl_search_closest`             a walk along the sequence from its head (`searchClosest`): the first member `e` with
                                   `compare_tree_asc(item, e) < 0` together with `-1`, or the last member together
                                   with `+1` if there is none (`(NULL, 0)` on the empty tree)

Two remarks.  (1) The C descent answers, depending on the shape of the tree, either that successor with `-1` or the
predecessor with `+1` (`compare_tree_asc` never answers 0); `hv_recursive` treats the two answers symmetrically
(l.871-874, l.920-926, l.937-942: in both cases `nxt_ip` is the successor's item, the new node is linked between
predecessor and successor, and `tnode` ends up as the predecessor), so the choice is not observable: the main loop
takes the answer of the search as a parameter (`sweepBodyWith`, `reconnectLoopWith`) and `C15.hvC_search_choice` proves
that on a staircase every admissible answer gives the same result as the walk.  (2) In C an
unlinked node keeps its own `prev` pointer and l.967 / l.974 read it after `avl_unlink_node`; here the predecessor is
looked up immediately BEFORE the removal (same node).

`while` loops that follow pointers carry a fuel argument; exhausted fuel answers `none`.  The loops that count
(`filter`, l.1055; the deletion loop l.724, which decreases `c`) are structurally recursive.
`qsort` (l.612) is modelled as a STABLE sort by `x[j]` (glibc's `qsort` is a merge sort for arrays of this size;
ISO C leaves the order of equal keys open).
-/
namespace HvC

open HvSweep (tget tset)

abbrev Cargo := List (List Rat)

structure St where
  next : List (List Nat)
  prev : List (List Nat)
  ignore : List Int
  area : List (List Rat)
  vol : List (List Rat)
  bound : List (Option Rat)
  domr : List Rat
  tree : List Nat
  calls : List Nat

/-- `node->x[i]` -/
def cg (C : Cargo) (a i : Nat) : Rat := tget C a i 0
/-- `ref[i]` -/
def rf (R : List Rat) (i : Nat) : Rat := R.getD i 0

def nx (S : St) (i a : Nat) : Nat := tget S.next i a 0
def pv (S : St) (i a : Nat) : Nat := tget S.prev i a 0
def ar (S : St) (a i : Nat) : Rat := tget S.area a i 0
def vl (S : St) (a i : Nat) : Rat := tget S.vol a i 0
def ign (S : St) (a : Nat) : Int := S.ignore.getD a 0
def dr (S : St) (a : Nat) : Rat := S.domr.getD a 0

def setNx (S : St) (i a v : Nat) : St := { S with next := tset S.next i a v }
def setPv (S : St) (i a v : Nat) : St := { S with prev := tset S.prev i a v }
def setAr (S : St) (a i : Nat) (v : Rat) : St := { S with area := tset S.area a i v }
def setVl (S : St) (a i : Nat) (v : Rat) : St := { S with vol := tset S.vol a i v }
def setIgn (S : St) (a : Nat) (v : Int) : St := { S with ignore := S.ignore.set a v }
def setDr (S : St) (a : Nat) (v : Rat) : St := { S with domr := S.domr.set a v }
def setBound (S : St) (i : Nat) (v : Rat) : St := { S with bound := S.bound.set i (some v) }
def tick (S : St) (dim : Nat) : St := { S with calls := S.calls.set dim (S.calls.getD dim 0 + 1) }

/-- `bound[i] > x` (the initial `-DBL_MAX` is never greater) -/
def boundGt (S : St) (i : Nat) (x : Rat) : Bool :=
  match S.bound.getD i none with
  | none => false
  | some b => decide (x < b)

/-- `x > bound[i]` -/
def gtBound (S : St) (i : Nat) (x : Rat) : Bool :=
  match S.bound.getD i none with
  | none => true
  | some b => decide (b < x)

/-- `x >= bound[i]` -/
def geBound (S : St) (i : Nat) (x : Rat) : Bool :=
  match S.bound.getD i none with
  | none => true
  | some b => decide (b ≤ x)

/-- `x < bound[i]` -/
def ltBound (S : St) (i : Nat) (x : Rat) : Bool := !geBound S i x

/-! ### the AVL tree as the ordered sequence it represents (l.63-501 are not transcribed, see above) -/

/-- `compare_tree_asc(p1, p2)` (l.555-562) on the items `(x[0], x[1])`: `true` iff the answer is `-1` (never 0). -/
def cmpTreeAscNeg (x1 x2 : Rat × Rat) : Bool :=
  if x1.2 > x2.2 then true                                              -- l.560  (x1[1] > x2[1]) ? -1
  else if x1.2 < x2.2 then false                                        --        : (x1[1] < x2[1]) ? 1
  else decide (x1.1 ≥ x2.1)                                             -- l.561  : (x1[0] >= x2[0]) ? -1 : 1

/-- `tnode->item` as the pair `(x[0], x[1])` (l.626: `tnode->item = head[i].x`). -/
def item (C : Cargo) (a : Nat) : Rat × Rat := (cg C a 0, cg C a 1)

/-- predecessor of `a` in the sequence (`0` if `a` is the first member) -/
def listPrev : List Nat → Nat → Nat
  | x :: y :: l, a => if y = a then x else listPrev (y :: l) a
  | _, _ => 0

/-- successor of `a` in the sequence (`0` if `a` is the last member) -/
def listNext : List Nat → Nat → Nat
  | x :: y :: l, a => if x = a then y else listNext (y :: l) a
  | _, _ => 0

/-- `tnode->prev` -/
def tpv (S : St) (a : Nat) : Nat := listPrev S.tree a
/-- `tnode->next` -/
def tnx (S : St) (a : Nat) : Nat := listNext S.tree a

/-- the walk that replaces the descent of `avl_search_closest` (l.158-189) -/
def searchList (C : Cargo) (it : Rat × Rat) : List Nat → Nat × Int
  | [] => (0, 0)                                                        -- l.168-169
  | [e] => if cmpTreeAscNeg it (item C e) then (e, -1) else (e, 1)
  | e :: e' :: l => if cmpTreeAscNeg it (item C e) then (e, -1) else searchList C it (e' :: l)

/-- `avl_search_closest(tree, item, &tnode)`: `(tnode, cmp)` -/
def searchClosest (C : Cargo) (S : St) (it : Rat × Rat) : Nat × Int := searchList C it S.tree

def insertBefore (node newnode : Nat) : List Nat → List Nat
  | [] => []
  | x :: l => if x = node then newnode :: x :: l else x :: insertBefore node newnode l

def insertAfter (node newnode : Nat) : List Nat → List Nat
  | [] => []
  | x :: l => if x = node then x :: newnode :: l else x :: insertAfter node newnode l

/-- `avl_clear_tree` (l.208-211) -/
def avlClearTree (S : St) : St := { S with tree := [] }
/-- `avl_insert_top` (l.224-230) -/
def avlInsertTop (S : St) (newnode : Nat) : St := { S with tree := [newnode] }
/-- `avl_insert_before(tree, node, newnode)` (l.232-260) -/
def avlInsertBefore (S : St) (node newnode : Nat) : St := { S with tree := insertBefore node newnode S.tree }
/-- `avl_insert_after(tree, node, newnode)` (l.262-290) -/
def avlInsertAfter (S : St) (node newnode : Nat) : St := { S with tree := insertAfter node newnode S.tree }
/-- `avl_unlink_node(tree, avlnode)` (l.298-351) -/
def avlUnlinkNode (S : St) (a : Nat) : St := { S with tree := S.tree.erase a }

/-! ### `setup_cdllist` (l.568-630) -/

/-- the state after l.575-607: nothing linked yet (`malloc`ed arrays: all 0) -/
def initSt (d n : Nat) : St :=
  { next := List.replicate d (List.replicate (n + 1) 0)
    prev := List.replicate d (List.replicate (n + 1) 0)
    ignore := List.replicate (n + 1) 0                                  -- l.578, l.592
    area := List.replicate (n + 1) (List.replicate d 0)
    vol := List.replicate (n + 1) (List.replicate d 0)
    bound := List.replicate d none                                      -- l.1465  bound[i] = -DBL_MAX
    domr := List.replicate (n + 1) 0
    tree := []                                                          -- l.1468  avl_alloc_tree
    calls := List.replicate d 0 }

/-- `qsort(scratch, n, sizeof(dlnode_t*), compare_node)` (l.612, l.547-553) on coordinate `j`: stable. -/
def qsortByDim (C : Cargo) (scratch : List Nat) (j : Nat) : List Nat :=
  scratch.mergeSort (fun a b => decide (cg C a j ≤ cg C b j))

/-- l.613-620: thread the list of dimension `j` through `scratch[0..n-1]`; `p` is the node linked last. -/
def linkFrom (j : Nat) : (p : Nat) → List Nat → St → St
  | p, [], S => setPv (setNx S j p 0) j 0 p                             -- l.619-620
  | p, a :: rest, S => linkFrom j a rest (setPv (setNx S j p a) j a p)  -- l.613-618

/-- the loop l.609-621: `for (j = d-1; j >= 0; j--)`; `js` = the dimensions still to do, in that order. -/
def setupLoop (C : Cargo) : List Nat → (scratch : List Nat) → St → St
  | [], _, S => S
  | j :: js, scratch, S =>
    let scratch := qsortByDim C scratch j                               -- l.612
    setupLoop C js scratch (linkFrom j 0 scratch S)                     -- l.613-620

/-- `setup_cdllist(data, d, n)` -/
def setupCdllist (C : Cargo) (d n : Nat) : St :=
  setupLoop C (List.range d).reverse ((List.range n).map (· + 1)) (initSt d n)

/-! ### `delete`, `delete_dom`, `reinsert`, `reinsert_dom` (l.646-701); `stop_dimension = 2` (l.544) -/

def stopDimension : Nat := 2

/-- `for (i = stop_dimension; i < dim; i++)` -/
def dimRange (dim : Nat) : List Nat := (List.range (dim - stopDimension)).map (· + stopDimension)

/-- `if (bound[i] > nodep->x[i]) bound[i] = nodep->x[i];` (l.654-655, l.680-681) -/
def lowerBound (C : Cargo) (S : St) (node i : Nat) : St :=
  if boundGt S i (cg C node i) then setBound S i (cg C node i) else S

/-- `delete(nodep, dim, bound)` (l.646-658) -/
def delete (C : Cargo) (S : St) (nodep dim : Nat) : St :=
  (dimRange dim).foldl (fun S i =>
    let S := setNx S i (pv S i nodep) (nx S i nodep)                    -- l.651
    let S := setPv S i (nx S i nodep) (pv S i nodep)                    -- l.652
    lowerBound C S nodep i) S                                           -- l.654-655

/-- `delete_dom(nodep, dim)` (l.661-669) -/
def deleteDom (S : St) (nodep dim : Nat) : St :=
  (dimRange dim).foldl (fun S i =>
    let S := setNx S i (pv S i nodep) (nx S i nodep)                    -- l.666
    setPv S i (nx S i nodep) (pv S i nodep)) S                          -- l.667

/-- `reinsert(nodep, dim, bound)` (l.672-684) -/
def reinsert (C : Cargo) (S : St) (nodep dim : Nat) : St :=
  (dimRange dim).foldl (fun S i =>
    let S := setNx S i (pv S i nodep) nodep                             -- l.677
    let S := setPv S i (nx S i nodep) nodep                             -- l.678
    lowerBound C S nodep i) S                                           -- l.680-681

/-- `reinsert_dom(nodep, dim)` (l.687-700) -/
def reinsertDom (C : Cargo) (S : St) (nodep dim : Nat) : St :=
  (dimRange dim).foldl (fun S i =>
    let p := pv S i nodep                                               -- l.691
    let S := setNx S i p nodep                                          -- l.692
    let S := setPv S i (nx S i nodep) nodep                             -- l.693
    let S := setAr S nodep i (ar S p i)                                 -- l.694
    setVl S nodep i (vl S p i + ar S p i * (cg C nodep i - cg C p i))) S  -- l.697

/-! ### `hv_recursive` (l.703-1024) -/

/-- l.719-722: `for (pp = p1; pp->x; pp = pp->prev[dim]) if (pp->ignore < dim) pp->ignore = 0;` -/
def resetLoop (dim : Nat) : Nat → (pp : Nat) → St → Option St
  | 0, pp, S => if pp = 0 then some S else none
  | f + 1, pp, S =>
    if pp = 0 then some S
    else
      let S := if ign S pp < (dim : Int) then setIgn S pp 0 else S
      resetLoop dim f (pv S dim pp) S

/-- l.724-744: `while (c > 1 && (p1->x[dim] > bound[dim] || p1->prev[dim]->x[dim] >= bound[dim]))`;
returns `(p0, p1, c, S)`. -/
def deleteLoop (C : Cargo) (dim : Nat) : (c : Nat) → (p0 p1 : Nat) → St → Nat × Nat × Nat × St
  | 0, p0, p1, S => (p0, p1, 0, S)
  | 1, p0, p1, S => (p0, p1, 1, S)
  | c + 2, p0, p1, S =>
    if gtBound S dim (cg C p1 dim) || geBound S dim (cg C (pv S dim p1) dim) then   -- l.729-730
      let p0 := p1                                                      -- l.733
      let S := if (dim : Int) ≤ ign S p0 then deleteDom S p0 dim        -- l.735-736
               else delete C S p0 dim                                   -- l.737-738
      deleteLoop C dim (c + 1) p0 (pv S dim p0) S                       -- l.742-743
    else (p0, p1, c + 2, S)

/-- l.772-775: `p1->area[0] = 1; for (i = 1; i <= dim; i++) p1->area[i] = p1->area[i-1] * (ref[i-1] - p1->x[i-1]);` -/
def areaInit (C : Cargo) (R : List Rat) (S : St) (p1 dim : Nat) : St :=
  (List.range dim).foldl
    (fun S i => setAr S p1 (i + 1) (ar S p1 i * (rf R i - cg C p1 i))) (setAr S p1 0 1)

/-- l.780-808: `while (p0->x != NULL) { … }`; `rec c S` is `hv_recursive(list, dim-1, c, ref, bound)`;
returns `(p1, hyperv, S)`. -/
def reinsLoop (rec : Nat → St → Option (Rat × St)) (C : Cargo) (dim : Nat) :
    Nat → (p0 p1 : Nat) → (hyperv : Rat) → (c : Nat) → St → Option (Nat × Rat × St)
  | 0, p0, p1, hyperv, _, S => if p0 = 0 then some (p1, hyperv, S) else none
  | f + 1, p0, p1, hyperv, c, S =>
    if p0 = 0 then some (p1, hyperv, S)
    else
      let hyperv := hyperv + ar S p1 dim * (cg C p0 dim - cg C p1 dim)  -- l.785
      let c := c + 1                                                    -- l.787
      let r : Option St :=
        if (dim : Int) ≤ ign S p0 then                                  -- l.789
          let S := reinsertDom C S p0 dim                               -- l.790
          some (setAr S p0 dim (ar S p1 dim))                           -- l.791
        else
          let S := reinsert C S p0 dim                                  -- l.794
          match rec c S with                                            -- l.796
          | none => none
          | some (a, S) =>
            let S := setAr S p0 dim a
            some (if ign S p0 = (dim : Int) - 1 then setIgn S p0 dim else S)   -- l.797-798
      match r with
      | none => none
      | some S =>
        let p1 := p0                                                    -- l.803
        let p0 := nx S dim p0                                           -- l.804
        let S := setVl S p1 dim hyperv                                  -- l.806
        reinsLoop rec C dim f p0 p1 hyperv c S

/-- l.710-819, the general case `dim > stop_dimension`; `rec` is `hv_recursive(list, dim-1, ·, ref, bound)`. -/
def general (rec : Nat → St → Option (Rat × St)) (C : Cargo) (R : List Rat) (fuel dim c : Nat) (S : St) :
    Option (Rat × St) :=
  let p1 := pv S dim 0                                                  -- l.712
  match resetLoop dim fuel p1 S with                                    -- l.719-722
  | none => none
  | some S =>
    match deleteLoop C dim c 0 p1 S with                                -- l.724-744
    | (p0, p1, c, S) =>
      let r : Option (Rat × St) :=
        if 1 < c then                                                   -- l.756
          let q := pv S dim p1
          let hyperv := vl S q dim + ar S q dim * (cg C p1 dim - cg C q dim)   -- l.757-758
          if (dim : Int) ≤ ign S p1 then                                -- l.760
            some (hyperv, setAr S p1 dim (ar S q dim))                  -- l.761
          else
            match rec c S with                                          -- l.763
            | none => none
            | some (a, S) =>
              let S := setAr S p1 dim a
              some (hyperv, if ign S p1 = (dim : Int) - 1 then setIgn S p1 dim else S)   -- l.768-769
        else
          some (0, areaInit C R S p1 dim)                               -- l.772-775
      match r with
      | none => none
      | some (hyperv, S) =>
        let S := setVl S p1 dim hyperv                                  -- l.777
        match reinsLoop rec C dim fuel p0 p1 hyperv c S with            -- l.780-808
        | none => none
        | some (p1, hyperv, S) =>
          let S := setBound S dim (cg C p1 dim)                         -- l.810
          some (hyperv + ar S p1 dim * (rf R dim - cg C p1 dim), S)     -- l.816-818

/-! #### the special case of dimension 3 (`dim == 2`, l.825-992) -/

/-- l.855-857: `while (pp->tnode->domr < bound[2]) pp = pp->next[2];` -/
def skipLoop : Nat → (pp : Nat) → St → Option Nat
  | 0, _, _ => none
  | f + 1, pp, S => if ltBound S 2 (dr S pp) then skipLoop f (nx S 2 pp) S else some pp

/-- l.867-876: `for (pp = pp->next[2]; pp->x[2] < bound[2]; pp = pp->next[2]) { … }`; called with `pp` already
advanced; returns the `pp` at which the loop stops. -/
def reconnectLoopWith (search : St → Rat × Rat → Nat × Int) (C : Cargo) (R : List Rat) :
    Nat → (pp : Nat) → St → Option (Nat × St)
  | 0, _, _ => none
  | f + 1, pp, S =>
    if ltBound S 2 (cg C pp 2) then                                     -- l.867
      if geBound S 2 (dr S pp) then                                     -- l.868
        let S := setDr S pp (rf R 2)                                    -- l.869-870
        match search S (item C pp) with                                 -- l.871
        | (tnode, cmp) =>
          let S := if cmp ≤ 0 then avlInsertBefore S tnode pp           -- l.872
                   else avlInsertAfter S tnode pp                       -- l.874
          reconnectLoopWith search C R f (nx S 2 pp) S
      else reconnectLoopWith search C R f (nx S 2 pp) S
    else some (pp, S)

/-- … with `avl_search_closest` as modelled (`searchClosest`) -/
def reconnectLoop (C : Cargo) (R : List Rat) : Nat → (pp : Nat) → St → Option (Nat × St) :=
  reconnectLoopWith (searchClosest C) C R

/-- l.955-968: `while (tnode->prev) { … }`; `nxt0 = nxt_ip[0]`, `px0 = pp->x[0]`, `px2 = pp->x[2]`; `cur`, `prv` are
`cur_ip`, `prv_ip` as `(x[0], x[1])`; returns `(tnode, cur_ip, prv_ip, hypera, S)`. -/
def chainLoop (C : Cargo) (nxt0 px0 px2 : Rat) :
    Nat → (tnode : Nat) → (cur prv : Rat × Rat) → (hypera : Rat) → St → Option (Nat × (Rat × Rat) × (Rat × Rat) × Rat × St)
  | 0, _, _, _, _, _ => none
  | f + 1, tnode, cur, prv, hypera, S =>
    if tpv S tnode = 0 then some (tnode, cur, prv, hypera, S)           -- l.955
    else
      let prv := item C (tpv S tnode)                                   -- l.956
      let hypera := hypera - (prv.2 - cur.2) * (nxt0 - cur.1)           -- l.957
      if prv.1 < px0 then some (tnode, cur, prv, hypera, S)             -- l.958-959  break
      else
        let cur := prv                                                  -- l.960
        let tprev := tpv S tnode                                        -- (read before the removal, see the header)
        let S := avlUnlinkNode S tnode                                  -- l.961
        let S := setDr S tnode px2                                      -- l.965
        chainLoop C nxt0 px0 px2 f tprev cur prv hypera S               -- l.967

/-- l.944-987, the second half of the body of the main loop: `pp` has just been linked into the tree, `tnode` is its
predecessor there (or `NULL`), `nxt = nxt_ip`; returns `(hyperv, hypera, S)`. -/
def sweepTail (C : Cargo) (R : List Rat) (tfuel : Nat) (pp : Nat) (hyperv hypera height : Rat) (nxt : Rat × Rat)
    (tnode : Nat) (S : St) : Option (Rat × Rat × St) :=
  let refIp : Rat × Rat := (rf R 0, rf R 1)
  let S := setDr S pp (rf R 2)                                          -- l.944
  let r : Option ((Rat × Rat) × Rat × St) :=
    if tnode ≠ 0 then                                                   -- l.946
      let prv := item C tnode                                           -- l.947
      if prv.1 ≥ cg C pp 0 then                                         -- l.948
        let tnode := tpv S pp                                           -- l.951
        let cur := item C tnode                                         -- l.954
        match chainLoop C nxt.1 (cg C pp 0) (cg C pp 2) tfuel tnode cur prv hypera S with  -- l.955-968
        | none => none
        | some (tnode, cur, prv, hypera, S) =>
          let tprev := tpv S tnode                                      -- (read before the removal, see the header)
          let S := avlUnlinkNode S tnode                                -- l.970
          let S := setDr S tnode (cg C pp 2)                            -- l.972
          if tprev = 0 then                                             -- l.974
            some (refIp, hypera - (rf R 1 - cur.2) * (nxt.1 - cur.1), S)   -- l.975-976
          else some (prv, hypera, S)
      else some (prv, hypera, S)
    else some (refIp, hypera, S)                                        -- l.980
  match r with
  | none => none
  | some (prv, hypera, S) =>
    let hypera := hypera + (prv.2 - cg C pp 1) * (nxt.1 - cg C pp 0)    -- l.982
    let hyperv := if 0 < height then hyperv + hypera * height else hyperv   -- l.984-985
    some (hyperv, hypera, setAr S pp 2 hypera)                          -- l.987

/-- the body of the main loop l.899-989 for one `pp`, the answer of `avl_search_closest` being supplied by `search`;
returns `(hyperv, hypera, S)`. -/
def sweepBodyWith (search : St → Rat × Rat → Nat × Int) (C : Cargo) (R : List Rat) (tfuel : Nat) (pp : Nat)
    (hyperv hypera : Rat) (S : St) : Option (Rat × Rat × St) :=
  let refIp : Rat × Rat := (rf R 0, rf R 1)
  let S := setVl S pp 2 hyperv                                          -- l.905
  let height := if pp = pv S 2 0 then rf R 2 - cg C pp 2                -- l.907-909
                else cg C (nx S 2 pp) 2 - cg C pp 2
  if (2 : Int) ≤ ign S pp then                                          -- l.911
    some (hyperv + hypera * height, hypera, setAr S pp 2 hypera)        -- l.912-916
  else
    match search S (item C pp) with                                     -- l.919
    | (tnode, cmp) =>
      let nxt : Rat × Rat :=
        if cmp ≤ 0 then item C tnode                                    -- l.920-921
        else if tnx S tnode ≠ 0 then item C (tnx S tnode) else refIp    -- l.923-925
      if nxt.1 ≤ cg C pp 0 then                                         -- l.927
        let S := setIgn S pp 2                                          -- l.928
        let S := setDr S pp (cg C pp 2)                                 -- l.930
        let S := setAr S pp 2 hypera                                    -- l.931
        some (if 0 < height then hyperv + hypera * height else hyperv, hypera, S)   -- l.933-935
      else
        let S1 := if cmp ≤ 0 then avlInsertBefore S tnode pp            -- l.938
                  else avlInsertAfter S tnode pp                        -- l.941
        let tnode := if cmp ≤ 0 then tpv S1 pp else tnode               -- l.939
        sweepTail C R tfuel pp hyperv hypera height nxt tnode S1        -- l.944-987

/-- … with `avl_search_closest` as modelled (`searchClosest`) -/
def sweepBody (C : Cargo) (R : List Rat) (tfuel : Nat) (pp : Nat) (hyperv hypera : Rat) (S : St) :
    Option (Rat × Rat × St) :=
  sweepBodyWith (searchClosest C) C R tfuel pp hyperv hypera S

/-- l.899-989: `for (pp = pp->next[2]; pp->x != NULL; pp = pp->next[2])`; called with `pp` already advanced. -/
def sweepLoop (C : Cargo) (R : List Rat) (tfuel : Nat) :
    Nat → (pp : Nat) → (hyperv hypera : Rat) → St → Option (Rat × St)
  | 0, pp, hyperv, _, S => if pp = 0 then some (hyperv, S) else none
  | f + 1, pp, hyperv, hypera, S =>
    if pp = 0 then some (hyperv, S)
    else
      match sweepBody C R tfuel pp hyperv hypera S with
      | none => none
      | some (hyperv, hypera, S) => sweepLoop C R tfuel f (nx S 2 pp) hyperv hypera S

/-- l.825-992 -/
def dim3 (C : Cargo) (R : List Rat) (fuel : Nat) (S : St) : Option (Rat × St) :=
  let pp := pv S 2 0                                                    -- l.831
  if ltBound S 2 (cg C pp 2) then                                       -- l.838
    some (vl S pp 2 + ar S pp 2 * (rf R 2 - cg C pp 2), S)              -- l.839
  else
    let pp := nx S 2 0                                                  -- l.841
    let r : Option (Nat × St) :=
      if geBound S 2 (cg C pp 2) then                                   -- l.844
        let S := setDr S pp (rf R 2)                                    -- l.845
        let S := setAr S pp 2 ((rf R 0 - cg C pp 0) * (rf R 1 - cg C pp 1))   -- l.846
        let S := setVl S pp 2 0                                         -- l.847
        some (pp, setIgn S pp 0)                                        -- l.848
      else
        (skipLoop fuel pp S).map (fun pp => (pp, S))                    -- l.855-857
    match r with
    | none => none
    | some (pp, S) =>
      let S := setIgn S pp 0                                            -- l.860
      let S := avlInsertTop S pp                                        -- l.861
      let S := setDr S pp (rf R 2)                                      -- l.862
      match reconnectLoop C R fuel (nx S 2 pp) S with                   -- l.867-876
      | none => none
      | some (pp, S) =>
        let pp := pv S 2 pp                                             -- l.877
        let hyperv := vl S pp 2                                         -- l.878
        let hypera := ar S pp 2                                         -- l.879
        let height := if nx S 2 pp ≠ 0 then cg C (nx S 2 pp) 2 - cg C pp 2   -- l.881-883
                      else rf R 2 - cg C pp 2
        let S := setBound S 2 (cg C (pv S 2 0) 2)                       -- l.885
        let hyperv := hyperv + hypera * height                          -- l.898
        match sweepLoop C R fuel fuel (nx S 2 pp) hyperv hypera S with  -- l.899-989
        | none => none
        | some (hyperv, S) => some (hyperv, avlClearTree S)             -- l.990-991

/-! #### the special case of dimension 2 (`dim == 1`, l.995-1011) -/

/-- l.1001-1008: `while ((p0 = p1->next[1])->x) { … }`; returns `(hyperv, hypera, p1, S)`. -/
def loop2d (C : Cargo) (R : List Rat) : Nat → (p1 : Nat) → (hypera hyperv : Rat) → St → Option (Rat × Rat × Nat × St)
  | 0, _, _, _, _ => none
  | f + 1, p1, hypera, hyperv, S =>
    let p0 := nx S 1 p1                                                 -- l.1001
    if p0 = 0 then some (hyperv, hypera, p1, S)
    else
      let hyperv := hyperv + (rf R 0 - hypera) * (cg C p0 1 - cg C p1 1)    -- l.1002
      if cg C p0 0 < hypera then                                        -- l.1003
        loop2d C R f p0 (cg C p0 0) hyperv S                            -- l.1004, 1007
      else
        let S := if ign S p0 = 0 then setIgn S p0 1 else S              -- l.1005-1006
        loop2d C R f p0 hypera hyperv S

/-- `hv_recursive(list, dim, c, ref, bound)` (l.703-1024).  `dim == 0` is reached only for `d = 1`, `dim == 1` only
for `d = 2` (the recursion of the general case stops at `dim == stop_dimension == 2`). -/
def hvRecursive (C : Cargo) (R : List Rat) (fuel : Nat) : (dim : Nat) → (c : Nat) → St → Option (Rat × St)
  | 0, _, S =>
    let S := tick S 0
    let S := setIgn S (nx S 0 0) (-1)                                   -- l.1015
    some (rf R 0 - cg C (nx S 0 0) 0, S)                                -- l.1016
  | 1, _, S =>
    let S := tick S 1
    let p1 := nx S 1 0                                                  -- l.996
    match loop2d C R fuel p1 (cg C p1 0) 0 S with                       -- l.997-1008
    | none => none
    | some (hyperv, hypera, p1, S) =>
      some (hyperv + (rf R 0 - hypera) * (rf R 1 - cg C p1 1), S)       -- l.1009-1010
  | 2, _, S => dim3 C R fuel (tick S 2)
  | k + 3, c, S => general (hvRecursive C R fuel (k + 2)) C R fuel (k + 3) c (tick S (k + 3))

/-! ### `filter` (l.1030-1065) and `fpli_hv` (l.1456-1490) -/

/-- `filter_delete_node(node, d)` (l.1030-1039) -/
def filterDeleteNode (S : St) (node d : Nat) : St :=
  (List.range d).foldl (fun S i =>
    let S := setPv S i (nx S i node) (pv S i node)                      -- l.1036
    setNx S i (pv S i node) (nx S i node)) S                            -- l.1037

/-- l.1055-1061: `for (j = 0; j < np; j++) { if (aux->x[i] < ref[i]) break; … }`; `k` = iterations left;
returns `(n, S)`. -/
def filterInner (C : Cargo) (R : List Rat) (d i : Nat) : (k : Nat) → (aux n : Nat) → St → Nat × St
  | 0, _, n, S => (n, S)
  | k + 1, aux, n, S =>
    if cg C aux i < rf R i then (n, S)                                  -- l.1056-1057
    else
      let S := filterDeleteNode S aux d                                 -- l.1058
      filterInner C R d i k (pv S i aux) (n - 1) S                      -- l.1059-1060

/-- `filter(list, d, n, ref)` (l.1046-1065): `(n, S)`. -/
def filter (C : Cargo) (R : List Rat) (d n : Nat) (S : St) : Nat × St :=
  (List.range d).foldl (fun (nS : Nat × St) i =>
    filterInner C R d i nS.1 (pv nS.2 i 0) nS.1 nS.2) (n, S)            -- l.1052-1062

/-- `fpli_hv(data, d, n, ref)` (l.1456-1490): value and final state.  Needs `d ≥ 1` (for `d = 0`, `n ≥ 2` the C code
reaches its `unreachable condition` exit) and `n ≥ 1` (the wrapper `hv.cpp` rejects an empty point list). -/
def fpliHvSt (data : List (List Rat)) (R : List Rat) : Option (Rat × St) :=
  let d := R.length
  let n := data.length
  let C : Cargo := [] :: data
  let S := setupCdllist C d n                                           -- l.1471
  match filter C R d n S with                                           -- l.1473
  | (n', S) =>
    if n' = 0 then some (0, S)                                          -- l.1474-1475
    else if n' = 1 then
      let p := nx S 0 0                                                 -- l.1477
      some ((List.range d).foldl (fun h i => h * (rf R i - cg C p i)) 1, S)   -- l.1478-1480
    else hvRecursive C R (n + 2) (d - 1) n' S                           -- l.1482

def fpliHv (data : List (List Rat)) (R : List Rat) : Option Rat :=
  (fpliHvSt data R).map (·.1)

end HvC
