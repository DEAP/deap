/-
Model of the NSGA-III part of `deap/tools/emo.py`:
`selNSGA3` (492-573), `associate_to_niche` (623-641), `niching` (643-677),
`uniform_reference_points` (680-701), and the memory update of `selNSGA3WithMemory` (463-489 with
546-551).

Imports `Core.Scalar` (the real-valued association is polymorphic in `RealLike`) and `Core.NDSort`
(the sort models that `selNSGA3E` runs).

Conventions
* individuals are ids (positions in the input population); for `selNSGA3` and `selNSGA3Full`
  `pareto_fronts` is an *input* (the real `sortNondominated` / `sortLogNondominated` output as id
  lists — C04 verifies those); `selNSGA3E` computes it with the C04 models of the two sorts.
* `selNSGA3` takes the association result `niches, dist` as inputs, and `associate` is modelled on its
  own, relative to given `best_point, intercepts`; `find_extreme_points` / `find_intercepts` are
  modelled with `numpy.linalg.solve` (LAPACK) as a parameter (`normalisation`), and `selNSGA3Full` runs
  `selNSGA3` on the model's own normalisation and association.
* `numpy.random.shuffle(a)` = one tape draw carrying the *resulting* array; a draw that is not a
  permutation of the array shuffled is `badTape`.
* a raised exception (`numpy.min` of an empty array, `IndexError`) is `raised`.
-/
import DeapModel.Core.Scalar
import DeapModel.Core.NDSort

namespace Nsga3

inductive Err where
  | badTape | raised | fuel
deriving DecidableEq, Repr

/-- `a[i] = v` on an array seen as a function of the index. -/
def upd {β : Type} (f : Nat → β) (i : Nat) (v : β) : Nat → β := fun x => if x = i then v else f x

/-! ### niching (emo.py:643-677) -/

/-- loop state: `selected` (positions in the last front), `available`, `niche_counts`. -/
structure NState where
  selected : List Nat
  avail : Nat → Bool
  counts : Nat → Nat

abbrev Tape := List (List Nat)

section Niching
variable {α : Type} [LT α] [DecidableLT α]

/-- `numpy.flatnonzero(numpy.logical_and(niches == niche, available))` (line 662). -/
def members (L : Nat) (niches : Nat → Nat) (avail : Nat → Bool) (j : Nat) : List Nat :=
  (List.range L).filter (fun p => niches p == j && avail p)

/-- indices where `available_niches` is `True` (lines 651-652). -/
def availNiches (L nref : Nat) (niches : Nat → Nat) (avail : Nat → Bool) : List Nat :=
  (List.range nref).filter (fun j => (List.range L).any (fun p => avail p && niches p == j))

/-- `l[numpy.argmin(d[l])]`: the first element with the minimal value; `none` on an empty list. -/
def argminFirst (d : Nat → α) : List Nat → Option Nat
  | [] => none
  | p :: ps => some (ps.foldl (fun best q => if d q < d best then q else best) p)

/-- body of `for niche in selected_niches` (lines 660-675). -/
def pick (L : Nat) (niches : Nat → Nat) (dist : Nat → α) (st : NState) (niche : Nat)
    (tape : Tape) : Except Err (NState × Tape) :=
  let mem := members L niches st.avail niche
  match tape with
  | [] => .error .badTape
  | draw :: tape' =>
    if !(draw.isPerm mem) then .error .badTape else
    match (if st.counts niche = 0 then argminFirst dist draw else draw.head?) with
    | none => .error .raised
    | some p => .ok ({ selected := st.selected ++ [p], avail := upd st.avail p false,
                       counts := upd st.counts niche (st.counts niche + 1) }, tape')

def pickAll (L : Nat) (niches : Nat → Nat) (dist : Nat → α) :
    List Nat → NState → Tape → Except Err (NState × Tape)
  | [], st, t => .ok (st, t)
  | j :: js, st, t =>
    match pick L niches dist st j t with
    | .error e => .error e
    | .ok (st', t') => pickAll L niches dist js st' t'

/-- one pass of the `while` body (lines 647-675). -/
def round (L k nref : Nat) (niches : Nat → Nat) (dist : Nat → α) (st : NState) (tape : Tape) :
    Except Err (NState × Tape) :=
  let n := k - st.selected.length
  -- line 652: `available_niches[...] = True` raises IndexError for a niche number ≥ len(niche_counts)
  if (List.range L).any (fun p => st.avail p && decide (nref ≤ niches p)) then .error .raised else
  let an := availNiches L nref niches st.avail
  match (an.map st.counts).min? with
  | none => .error .raised                      -- numpy.min of an empty array
  | some mc =>
    let cand := an.filter (fun j => st.counts j == mc)
    match tape with
    | [] => .error .badTape
    | draw :: tape' =>
      if !(draw.isPerm cand) then .error .badTape
      else pickAll L niches dist (draw.take n) st tape'

def nichingLoop (L k nref : Nat) (niches : Nat → Nat) (dist : Nat → α) :
    (fuel : Nat) → NState → Tape → Except Err NState
  | fuel, st, t =>
    if st.selected.length < k then
      match fuel with
      | 0 => .error .fuel
      | f + 1 =>
        match round L k nref niches dist st t with
        | .error e => .error e
        | .ok (st', t') => nichingLoop L k nref niches dist f st' t'
    else .ok st

/-- `niching(individuals, k, niches, distances, niche_counts)` with `L = len(individuals)`,
`nref = len(niche_counts)`: the final state (`selected` = positions in `individuals`,
`counts` = the array `niche_counts` as mutated in place). -/
def niching (L k nref : Nat) (niches : Nat → Nat) (dist : Nat → α) (counts0 : Nat → Nat)
    (tape : Tape) : Except Err NState :=
  nichingLoop L k nref niches dist (k + 1)
    { selected := [], avail := fun _ => true, counts := counts0 } tape

/-! ### selNSGA3 (emo.py:537-573), association taken as input -/

/-- positions of the returned individuals; `niches`/`dist` are in the order of the flattened
fronts, `nref = len(ref_points)`. -/
def selNSGA3 (fronts : List (List Nat)) (k : Nat) (niches : List Nat) (dist : List α) (dflt : α)
    (nref : Nat) (tape : Tape) : Except Err (List Nat) :=
  match fronts.getLast? with
  | none => .error .raised                           -- pareto_fronts[-1]
  | some last =>
    -- lines 559-561: counts over niches[:-len(last)]
    let head := niches.take (niches.length - last.length)
    if head.any (fun j => decide (nref ≤ j)) then .error .raised else
    let counts0 : Nat → Nat := fun j => head.count j
    let chosen := fronts.dropLast.flatten            -- line 564
    let selCount := chosen.length
    let n := k - selCount
    match niching last.length n nref (fun p => (niches.drop selCount).getD p 0)
            (fun p => (dist.drop selCount).getD p dflt) counts0 tape with
    | .error e => .error e
    | .ok st => .ok (chosen ++ st.selected.map (fun p => last.getD p 0))

end Niching

/-! ### associate_to_niche (emo.py:623-641) -/

section Associate
variable {α : Type} [RealLike α]

/-- `numpy.finfo(float).eps` -/
def eps : α := RealLike.ofRatio 1 (2 ^ 52)

/-- line 627: `(f - best) / (intercepts - best + eps)`, one row -/
def normalise (best intercepts f : List α) : List α :=
  List.zipWith (fun fb ib => fb / ib)
    (List.zipWith (· - ·) f best)
    (List.zipWith (fun i b => i - b + eps) intercepts best)

/-- `numpy.linalg.norm(r)` -/
def norm (r : List α) : α := RealLike.sqrt (RealLike.sum (r.map (fun x => x * x)))

def dot (a b : List α) : α := RealLike.sum (List.zipWith (· * ·) a b)

/-- lines 633-635 for one individual and one reference point: the coded perpendicular distance
`‖ (fn·r/‖r‖) · r/‖r‖ − fn ‖`. -/
def perpDist (fn r : List α) : α :=
  let nr := norm r
  let proj := dot fn r / nr
  let v := List.zipWith (fun rm fm => proj * rm / nr - fm) r fn
  norm v

/-- `numpy.argmin` of a list: first index of the minimal value (`0` on the empty list). -/
def argminIdx (l : List α) : Nat :=
  match l with
  | [] => 0
  | x :: xs =>
    (xs.foldl (fun (acc : Nat × α × Nat) y =>
        if y < acc.2.1 then (acc.2.2, y, acc.2.2 + 1) else (acc.1, acc.2.1, acc.2.2 + 1))
      (0, x, 1)).1

/-- `associate_to_niche` for one individual: `(niche, distance)`. -/
def associate1 (refs : List (List α)) (best intercepts f : List α) : Nat × α :=
  let fn := normalise best intercepts f
  let ds := refs.map (perpDist fn)
  let j := argminIdx ds
  (j, ds.getD j (RealLike.ofNat 0))

def associate (fits refs : List (List α)) (best intercepts : List α) : List (Nat × α) :=
  fits.map (associate1 refs best intercepts)

end Associate

/-! ### uniform_reference_points (emo.py:680-701) -/

/-- `gen_refs_recursive(ref, nobj, left, total, depth)` with `rem = nobj - 1 - depth`. -/
def genRefs (total : Nat) : (rem : Nat) → (ref : List Rat) → (left depth : Nat) → List (List Rat)
  | 0, ref, left, depth => [ref.set depth ((left : Rat) / (total : Rat))]
  | rem + 1, ref, left, depth =>
    (List.range (left + 1)).flatMap (fun (i : Nat) =>
      genRefs total rem (ref.set depth ((i : Rat) / (total : Rat))) (Nat.sub left i) (depth + 1))

/-- `uniform_reference_points(nobj, p, scaling)`; the code needs `nobj ≥ 1` and `p ≥ 1`
(`0/0` raises for `p = 0`). -/
def uniformRefPoints (nobj p : Nat) (scaling : Option Rat) : List (List Rat) :=
  let pts := genRefs p (nobj - 1) (List.replicate nobj 0) p 0
  match scaling with
  | none => pts
  | some s => pts.map (fun pt => pt.map (fun x => x * s + (1 - s) / (nobj : Rat)))

/-! ### memory of `selNSGA3WithMemory` (lines 546-551, 483-488) -/

section Memory
variable {α : Type} [LT α] [DecidableLT α]

/-- `numpy.min(numpy.concatenate((fitnesses, best_point)), axis=0)`: componentwise minimum over
the rows of `fitnesses` followed by the remembered point (first minimal value kept). -/
def colMin (rows : List (List α)) (mem : List α) : List α :=
  (rows ++ [mem]).tail.foldl (fun acc r => List.zipWith (fun a b => if b < a then b else a) acc r)
    ((rows ++ [mem]).headD mem)

/-- `numpy.max(…, axis=0)` likewise. -/
def colMax (rows : List (List α)) (mem : List α) : List α :=
  (rows ++ [mem]).tail.foldl (fun acc r => List.zipWith (fun a b => if a < b then b else a) acc r)
    ((rows ++ [mem]).headD mem)

end Memory

/-! ### normalisation: ideal / worst point, `find_extreme_points` (577-593), `find_intercepts`
(596-620)

Polymorphic in `RealLike`.  `numpy.linalg.solve` is a *parameter* `solve A b` (`none` =
`LinAlgError`); the code itself tests the contract `A·x = b` with `numpy.allclose`. -/

section Normalise
variable {α : Type} [RealLike α]

/-- `numpy.min(fitnesses, axis=0)` (no remembered point). -/
def colMin0 (rows : List (List α)) : List α :=
  match rows with
  | [] => []
  | r :: rs => colMin rs r

def colMax0 (rows : List (List α)) : List α :=
  match rows with
  | [] => []
  | r :: rs => colMax rs r

/-- lines 546-551: `best_point` -/
def idealPoint (fits : List (List α)) (mem : Option (List α)) : List α :=
  match mem with
  | some m => colMin fits m
  | none => colMin0 fits

/-- lines 546-551: `worst_point` -/
def worstPoint (fits : List (List α)) (mem : Option (List α)) : List α :=
  match mem with
  | some m => colMax fits m
  | none => colMax0 fits

/-- `numpy.max` of a row (the first maximal value is kept) -/
def maxL : List α → α
  | [] => RealLike.ofNat 0
  | x :: xs => xs.foldl (fun a b => if a < b then b else a) x

/-- lines 587-588: `asf = numpy.eye(M); asf[asf == 0] = 1e6` -/
def asfWeight (j m : Nat) : α := if m = j then RealLike.ofNat 1 else RealLike.ofNat 1000000

/-- line 589 for axis `j` and one translated row: `max_m ft[m] * asf[j][m]` -/
def asf (M j : Nat) (ft : List α) : α :=
  maxL (List.zipWith (· * ·) ft ((List.range M).map (asfWeight j)))

/-- `find_extreme_points(fitnesses, best_point, extreme_points)` -/
def findExtremePoints (fits : List (List α)) (best : List α) (ext : Option (List (List α))) :
    List (List α) :=
  let rows := match ext with
    | some e => fits ++ e            -- line 581
    | none => fits
  let ft := rows.map (fun r => List.zipWith (· - ·) r best)          -- line 584
  (List.range best.length).map (fun j =>
    rows.getD (argminIdx (ft.map (asf best.length j))) [])            -- lines 592-593

/-- `v == 0` on floats (written with `<` only) -/
def isZero (x : α) : Bool := !(decide (x < RealLike.ofNat 0)) && !(decide (RealLike.ofNat 0 < x))

/-- `numpy.allclose(v, ones)`: `|v - 1| <= atol + rtol * |1|`, rtol = 1e-5, atol = 1e-8 -/
def allcloseOne (v : List α) : Bool :=
  v.all (fun y => decide (RealLike.abs (y - RealLike.ofNat 1) ≤
    RealLike.ofRatio 1 100000000 + RealLike.ofRatio 1 100000 * RealLike.abs (RealLike.ofNat 1)))

/-- the acceptance test of lines 612-614 for a solution `x` (all components non-zero) -/
def acceptIntercepts (A : List (List α)) (x best worst : List α) : Bool :=
  let ic := x.map (fun v => RealLike.ofNat 1 / v)
  allcloseOne (A.map (fun row => dot row x)) &&
  !(ic.any (fun v => decide (v ≤ RealLike.ofRatio 1 1000000))) &&
  !((List.zipWith (fun (s w : α) => decide (w < s)) (List.zipWith (· + ·) ic best) worst).any id)

/-- `find_intercepts(extreme_points, best_point, current_worst, front_worst)` -/
def findIntercepts (solve : List (List α) → List α → Option (List α))
    (extreme : List (List α)) (best worst frontWorst : List α) : List α :=
  let b := List.replicate best.length (RealLike.ofNat 1 : α)          -- line 600
  let A := extreme.map (fun r => List.zipWith (· - ·) r best)          -- line 601
  match solve A b with
  | none => worst                                                      -- lines 604-605
  | some x =>
    if x.any isZero then frontWorst                                    -- lines 607-608
    else if acceptIntercepts A x best worst then
      -- lines 616-618 (F21): the hyperplane intercepts are measured from the ideal point
      List.zipWith (· + ·) (x.map (fun v => RealLike.ofNat 1 / v)) best
    else frontWorst                                                    -- lines 610-615

/-- lines 546-557 of `selNSGA3`: `(best_point, worst_point, extreme_points, intercepts)`. -/
def normalisation (solve : List (List α) → List α → Option (List α)) (fits : List (List α))
    (memBest memWorst : Option (List α)) (memExt : Option (List (List α))) :
    List α × List α × List (List α) × List α :=
  let best := idealPoint fits memBest
  let worst := worstPoint fits memWorst
  let extreme := findExtremePoints fits best memExt
  let frontWorst := colMax0 fits                                       -- line 555
  (best, worst, extreme, findIntercepts solve extreme best worst frontWorst)

end Normalise

/-! ### the whole of `selNSGA3` after the sort (lines 537-573), and `selNSGA3WithMemory.__call__` -/

section Full
variable {α : Type} [RealLike α]

/-- `selNSGA3` with its own normalisation and association: `fitOf id` is the minimised objective
vector (`-wvalues`, line 541-542) of individual `id`; the objective matrix is taken in the order of
the flattened fronts; `niches, dist` are what `associate_to_niche` returns for the model's own
`best_point, intercepts`. -/
def selNSGA3Full (solve : List (List α) → List α → Option (List α)) (fronts : List (List Nat))
    (k : Nat) (fitOf : Nat → List α) (refs : List (List α)) (mb mw : Option (List α))
    (me : Option (List (List α))) (tape : Tape) : Except Err (List Nat) :=
  let fits := fronts.flatten.map fitOf
  let n := normalisation solve fits mb mw me
  let a := associate fits refs n.1 n.2.2.2
  selNSGA3 fronts k (a.map (·.1)) (a.map (·.2)) (RealLike.ofNat 0) refs.length tape

/-- the attributes `best_point, worst_point, extreme_points` of a `selNSGA3WithMemory` object.
`none` for the points stands for the rows of `+inf` / `-inf` written by `__init__` (neutral for the
componentwise min / max), `none` for the extreme points is Python's `None`. -/
structure Mem (α : Type) where
  best : Option (List α)
  worst : Option (List α)
  extreme : Option (List (List α))

def Mem.init : Mem α := ⟨none, none, none⟩

/-- `selNSGA3WithMemory.__call__` (lines 483-489): select with the remembered points, then remember
the new ones (an exception leaves the attributes as they were). -/
def memCall (solve : List (List α) → List α → Option (List α)) (refs : List (List α))
    (st : Mem α) (fronts : List (List Nat)) (k : Nat) (fitOf : Nat → List α) (tape : Tape) :
    Except Err (List Nat) × Mem α :=
  let n := normalisation solve (fronts.flatten.map fitOf) st.best st.worst st.extreme
  match selNSGA3Full solve fronts k fitOf refs st.best st.worst st.extreme tape with
  | .error e => (.error e, st)
  | .ok chosen => (.ok chosen, ⟨some n.1, some n.2.1, some n.2.2.1⟩)

/-- the memory after a sequence of successful calls, each given by its objective matrix (the
selections themselves do not influence the memory). -/
def memAfter (solve : List (List α) → List α → Option (List α)) : Mem α → List (List (List α)) → Mem α
  | st, [] => st
  | st, fits :: rest =>
    let n := normalisation solve fits st.best st.worst st.extreme
    memAfter solve ⟨some n.1, some n.2.1, some n.2.2.1⟩ rest

end Full

/-! ### `selNSGA3` end to end: the non-dominated sort included

`pareto_fronts` is not an input here: it is what the C04 models of `sortNondominated` /
`sortLogNondominated` (`Core/NDSort.lean`, proved equal to peeling in C04) compute from the weighted
values.  The sort compares exact scalars `ρ` (every double is a rational); `toF` is the embedding of
those values into the real-valued scalars of the normalisation and association (`-wvalues`,
lines 541-542). -/

section EndToEnd
variable {α : Type} [RealLike α]
variable {ρ : Type} [LT ρ] [LE ρ] [DecidableEq ρ] [DecidableLT ρ] [DecidableLE ρ] [Add ρ] [Neg ρ]
  [Inhabited ρ]

/-- individuals = their positions, with their weighted values -/
def mkPop (wv : List (List ρ)) : List (NDSort.Ind ρ) :=
  (List.range wv.length).zipWith (fun i w => ⟨i, w⟩) wv

/-- lines 531-537: `sortNondominated(individuals, k)` or `sortLogNondominated(individuals, k)` -/
def sortBy (logSort : Bool) (wv : List (List ρ)) (k : Nat) : Option (List (List Nat)) :=
  ((if logSort then NDSort.sortLog (mkPop wv) k else NDSort.sortStd (mkPop wv) k false)).map
    (fun fr => fr.map (fun f => f.map (·.id)))

/-- `selNSGA3(individuals, k, ref_points, nd, best_point, worst_point, extreme_points)` from the
weighted values alone; `Err.fuel` = the sort did not terminate within its fuel (C04 proves it does). -/
def selNSGA3E (toF : ρ → α) (solve : List (List α) → List α → Option (List α)) (logSort : Bool)
    (wv : List (List ρ)) (k : Nat) (refs : List (List α)) (mb mw : Option (List α))
    (me : Option (List (List α))) (tape : Tape) : Except Err (List Nat) :=
  match sortBy logSort wv k with
  | none => .error .fuel
  | some fronts =>
    selNSGA3Full solve fronts k (fun i => (wv.getD i []).map (fun x => - toF x)) refs
      mb mw me tape

end EndToEnd

end Nsga3
