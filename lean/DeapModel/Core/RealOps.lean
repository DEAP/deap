/-
C10 — real-coded operators of `deap/tools/crossover.py` and `deap/tools/mutation.py`
(`cxBlend`, `cxESBlend`, `cxSimulatedBinary`, `cxSimulatedBinaryBounded`, `mutGaussian`,
`mutPolynomialBounded`, `mutESLogNormal`), transcribed statement by statement.

Import-free apart from `Core/Scalar.lean`; polymorphic in `RealLike α`.  Every expression keeps the
operation order of the Python source so that the `Float` instance computes what CPython computes;
the theorems (Props/C10.lean) are about the `ℝ` instance and the rounded instances `XFA A`, `FlNum M`.

Randomness.  An operator receives the *results* of its `random.random()` calls as the list `rs`
and the results of its `random.gauss(..)` calls as the list `gs`, each in call order; it hands
back the unused rest.  An exhausted tape is `none` (loops) / `Outcome.badTape` (operators).

Objects.  An individual is an `Ind`: object id, genes, id of its `strategy` list and that list.
The operators write `ind[i] = …` / `ind.strategy[i] = …`, i.e. they return the *same* ids with new
contents.  The two individuals of a crossover are assumed to be distinct objects.

What Python rejects: a bound / mu / sigma *sequence* shorter than the individual raises
`IndexError` (`Outcome.indexError`); `mutESLogNormal` on an empty individual divides by
`sqrt(2*sqrt(0)) = 0.0` (`Outcome.zeroDivision`); a strategy list shorter than the individual
raises `IndexError` at the first locus that is mutated beyond its end.
-/
import DeapModel.Core.Scalar

namespace RealOps
open RealLike

/-- an individual: `oid` identifies the sequence object, `soid` its `.strategy` list object -/
structure Ind (α : Type) where
  oid : Nat
  genes : List α
  soid : Nat := 0
  strategy : List α := []

/-- what a call of an operator does -/
inductive Outcome (β : Type) where
  | ok (b : β)
  | indexError
  | zeroDivision
  | badTape

/-- a `low` / `up` / `mu` / `sigma` argument: a number or a sequence -/
inductive Bound (α : Type) where
  | scalar (v : α)
  | seq (l : List α)

section
variable {α : Type} [RealLike α]

/-! ### literals of the source -/
/-- `1.` / `1.0` / `1` -/
def one : α := RealLike.ofNat 1
/-- `2.` / `2.0` -/
def two : α := RealLike.ofNat 2
/-- `0.5` -/
def half : α := RealLike.ofRatio 1 2
/-- `1e-14` (the quotient `1/10^14` rounds to the same double as the literal) -/
def eps : α := RealLike.ofRatio 1 100000000000000
/-- `0` -/
def zero : α := RealLike.ofNat 0

/-- next draw of a tape -/
def pop : List α → Option (α × List α)
  | x :: t => some (x, t)
  | [] => none

/-- `if not isinstance(b, Sequence): b = repeat(b, size) elif len(b) < size: raise IndexError`
(crossover.py:314-321, mutation.py:34-41, 66-73); `none` = `IndexError`.  A sequence is used as it
is (the `zip` of the loop stops at `size`). -/
def Bound.expand (b : Bound α) (size : Nat) : Option (List α) :=
  match b with
  | .scalar v => some (List.replicate size v)
  | .seq l => if l.length < size then none else some l

/-- the bound in force at locus `i`: the number itself, or the `i`-th entry of the sequence -/
def Bound.get? (b : Bound α) (i : Nat) : Option α :=
  match b with
  | .scalar v => some v
  | .seq l => l[i]?

/-! ### cxBlend (crossover.py:240-259) -/

/-- :255 `gamma = (1. + 2. * alpha) * random.random() - alpha` -/
def blendGamma (alpha r : α) : α := (one + two * alpha) * r - alpha

/-- :256-257 `(1. - gamma) * x1 + gamma * x2`, `gamma * x1 + (1. - gamma) * x2` -/
def blendPair (alpha x1 x2 r : α) : α × α :=
  let gamma := blendGamma alpha r
  ((one - gamma) * x1 + gamma * x2, gamma * x1 + (one - gamma) * x2)

/-- `for i, (x1, x2) in enumerate(zip(ind1, ind2)): r = random.random(); ind1[i], ind2[i] = f(x1, x2, r)`
— the loop shared by `cxBlend` (:254) and `cxSimulatedBinary` (:277); loci beyond the shorter parent stay. -/
def pairLoop (f : α → α → α → α × α) : List α → List α → List α → Option (List α × List α × List α)
  | x1 :: a, x2 :: b, rs =>
    match pop rs with
    | none => none
    | some (r, rs) =>
      match pairLoop f a b rs with
      | none => none
      | some (c1, c2, rest) => some ((f x1 x2 r).1 :: c1, (f x1 x2 r).2 :: c2, rest)
  | a, b, rs => some (a, b, rs)

/-- `cxBlend(ind1, ind2, alpha)`; :259 `return ind1, ind2` -/
def cxBlend (ind1 ind2 : Ind α) (alpha : α) (rs : List α) : Outcome (Ind α × Ind α × List α) :=
  match pairLoop (blendPair alpha) ind1.genes ind2.genes rs with
  | none => .badTape
  | some (c1, c2, rest) => .ok ({ ind1 with genes := c1 }, { ind2 with genes := c2 }, rest)

/-! ### cxESBlend (crossover.py:389-415) -/

/-- :404-405 `zip(ind1, ind1.strategy, ind2, ind2.strategy)`; per locus first the value draw (:407),
then the strategy draw (:411).  Result: genes1, strategy1, genes2, strategy2, rest. -/
def cxESBlendLoop (alpha : α) :
    List α → List α → List α → List α → List α → Option (List α × List α × List α × List α × List α)
  | x1 :: a, s1 :: sa, x2 :: b, s2 :: sb, rs =>
    match pop rs with
    | none => none
    | some (r, rs) =>
      match pop rs with
      | none => none
      | some (q, rs) =>
        match cxESBlendLoop alpha a sa b sb rs with
        | none => none
        | some (c1, t1, c2, t2, rest) =>
          some ((blendPair alpha x1 x2 r).1 :: c1, (blendPair alpha s1 s2 q).1 :: t1,
                (blendPair alpha x1 x2 r).2 :: c2, (blendPair alpha s1 s2 q).2 :: t2, rest)
  | a, sa, b, sb, rs => some (a, sa, b, sb, rs)

def cxESBlend (ind1 ind2 : Ind α) (alpha : α) (rs : List α) : Outcome (Ind α × Ind α × List α) :=
  match cxESBlendLoop alpha ind1.genes ind1.strategy ind2.genes ind2.strategy rs with
  | none => .badTape
  | some (c1, t1, c2, t2, rest) =>
    .ok ({ ind1 with genes := c1, strategy := t1 }, { ind2 with genes := c2, strategy := t2 }, rest)

/-! ### cxSimulatedBinary (crossover.py:262-287) -/

/-- :279-283 `if rand <= 0.5: beta = 2. * rand else: beta = 1. / (2. * (1. - rand))`;
`beta **= 1. / (eta + 1.)` -/
def sbxBeta (eta rand : α) : α :=
  RealLike.pow (if rand ≤ half then two * rand else one / (two * (one - rand))) (one / (eta + one))

/-- :284-285 `0.5 * (((1 + beta) * x1) + ((1 - beta) * x2))`, `0.5 * (((1 - beta) * x1) + ((1 + beta) * x2))` -/
def sbxPair (eta x1 x2 rand : α) : α × α :=
  let beta := sbxBeta eta rand
  (half * (((one + beta) * x1) + ((one - beta) * x2)), half * (((one - beta) * x1) + ((one + beta) * x2)))

def cxSimulatedBinary (ind1 ind2 : Ind α) (eta : α) (rs : List α) : Outcome (Ind α × Ind α × List α) :=
  match pairLoop (sbxPair eta) ind1.genes ind2.genes rs with
  | none => .badTape
  | some (c1, c2, rest) => .ok ({ ind1 with genes := c1 }, { ind2 with genes := c2 }, rest)

/-! ### cxSimulatedBinaryBounded (crossover.py:290-359) -/

/-- :332 / :341 `beta = 1.0 + (2.0 * d / w)` with `d = x1 - xl` resp. `xu - x2`, `w = x2 - x1` -/
def sbxbBeta (d w : α) : α := one + (two * d / w)

/-- :333 / :342 `alpha = 2.0 - beta ** -(eta + 1)` -/
def sbxbAlpha (eta beta : α) : α := two - RealLike.pow beta (-(eta + one))

/-- :334-337 / :343-346
`if rand <= 1.0 / alpha: beta_q = (rand * alpha) ** (1.0 / (eta + 1))
 else: beta_q = (1.0 / (2.0 - rand * alpha)) ** (1.0 / (eta + 1))` -/
def sbxbBetaQ (eta rand alpha : α) : α :=
  if rand ≤ one / alpha then RealLike.pow (rand * alpha) (one / (eta + one))
  else RealLike.pow (one / (two - rand * alpha)) (one / (eta + one))

/-- :339 `c1 = 0.5 * (x1 + x2 - beta_q * (x2 - x1))` before the clamp (`x1 = min`, `x2 = max`) -/
def sbxbRaw1 (eta x1 x2 xl rand : α) : α :=
  half * (x1 + x2 - sbxbBetaQ eta rand (sbxbAlpha eta (sbxbBeta (x1 - xl) (x2 - x1))) * (x2 - x1))

/-- :347 `c2 = 0.5 * (x1 + x2 + beta_q * (x2 - x1))` before the clamp -/
def sbxbRaw2 (eta x1 x2 xu rand : α) : α :=
  half * (x1 + x2 + sbxbBetaQ eta rand (sbxbAlpha eta (sbxbBeta (xu - x2) (x2 - x1))) * (x2 - x1))

/-- :349-350 `min(max(c, xl), xu)` as Python evaluates it -/
def clamp (c xl xu : α) : α := pmin (pmax c xl) xu

/-- :332-350 the two children of one locus for the ordered pair `x1 = min`, `x2 = max` -/
def sbxbChildren (eta x1 x2 xl xu rand : α) : α × α :=
  (clamp (sbxbRaw1 eta x1 x2 xl rand) xl xu, clamp (sbxbRaw2 eta x1 x2 xu rand) xl xu)

/-- one locus (:324-357): gate draw `random.random() <= 0.5`, guard `abs(ind1[i] - ind2[i]) > 1e-14`,
`x1 = min(..)`, `x2 = max(..)`, `rand = random.random()`, children, swap draw
`random.random() <= 0.5` (then `ind1[i] = c2; ind2[i] = c1`).  Result: new gene of ind1, of ind2, rest. -/
def sbxbGene (eta x1 x2 xl xu : α) (rs : List α) : Option (α × α × List α) :=
  match pop rs with
  | none => none
  | some (g, rs) =>
    if g ≤ half then
      if eps < RealLike.abs (x1 - x2) then
        match pop rs with
        | none => none
        | some (rand, rs) =>
          match pop rs with
          | none => none
          | some (s, rs) =>
            if s ≤ half then
              some ((sbxbChildren eta (pmin x1 x2) (pmax x1 x2) xl xu rand).2,
                    (sbxbChildren eta (pmin x1 x2) (pmax x1 x2) xl xu rand).1, rs)
            else
              some ((sbxbChildren eta (pmin x1 x2) (pmax x1 x2) xl xu rand).1,
                    (sbxbChildren eta (pmin x1 x2) (pmax x1 x2) xl xu rand).2, rs)
      else some (x1, x2, rs)
    else some (x1, x2, rs)

/-- :323 `for i, xl, xu in zip(range(size), low, up)` with `size = min(len(ind1), len(ind2))` -/
def cxSBXBLoop (eta : α) :
    List α → List α → List α → List α → List α → Option (List α × List α × List α)
  | x1 :: a, x2 :: b, xl :: lo, xu :: up, rs =>
    match sbxbGene eta x1 x2 xl xu rs with
    | none => none
    | some (y1, y2, rs) =>
      match cxSBXBLoop eta a b lo up rs with
      | none => none
      | some (c1, c2, rest) => some (y1 :: c1, y2 :: c2, rest)
  | a, b, _, _, rs => some (a, b, rs)

def cxSimulatedBinaryBounded (ind1 ind2 : Ind α) (eta : α) (low up : Bound α) (rs : List α) :
    Outcome (Ind α × Ind α × List α) :=
  let size := min ind1.genes.length ind2.genes.length          -- :313
  match low.expand size with                                    -- :314-317
  | none => .indexError
  | some lo =>
    match up.expand size with                                   -- :318-321
    | none => .indexError
    | some hi =>
      match cxSBXBLoop eta ind1.genes ind2.genes lo hi rs with
      | none => .badTape
      | some (c1, c2, rest) => .ok ({ ind1 with genes := c1 }, { ind2 with genes := c2 }, rest)

/-! ### mutPolynomialBounded (mutation.py:50-95) -/

/-- :78 `delta_1 = (x - xl) / (xu - xl)` -/
def polyDelta1 (x xl xu : α) : α := (x - xl) / (xu - xl)
/-- :79 `delta_2 = (xu - x) / (xu - xl)` -/
def polyDelta2 (x xl xu : α) : α := (xu - x) / (xu - xl)
/-- :84-85 `xy = 1.0 - delta_1; val = 2.0 * rand + (1.0 - 2.0 * rand) * xy ** (eta + 1)` -/
def polyValLow (eta rand delta1 : α) : α :=
  two * rand + (one - two * rand) * RealLike.pow (one - delta1) (eta + one)
/-- :88-89 `xy = 1.0 - delta_2; val = 2.0 * (1.0 - rand) + 2.0 * (rand - 0.5) * xy ** (eta + 1)` -/
def polyValHigh (eta rand delta2 : α) : α :=
  two * (one - rand) + two * (rand - half) * RealLike.pow (one - delta2) (eta + one)
/-- :81-90 `mut_pow = 1.0 / (eta + 1.)`; `delta_q = val ** mut_pow - 1.0` resp. `1.0 - val ** mut_pow` -/
def polyDeltaQ (eta x xl xu rand : α) : α :=
  if rand < half then RealLike.pow (polyValLow eta rand (polyDelta1 x xl xu)) (one / (eta + one)) - one
  else one - RealLike.pow (polyValHigh eta rand (polyDelta2 x xl xu)) (one / (eta + one))
/-- :92 `x = x + delta_q * (xu - xl)` -/
def polyRaw (eta x xl xu rand : α) : α := x + polyDeltaQ eta x xl xu rand * (xu - xl)
/-- :93 `x = min(max(x, xl), xu)` -/
def polyGene (eta x xl xu rand : α) : α := clamp (polyRaw eta x xl xu rand) xl xu

/-- :75 `for i, xl, xu in zip(range(size), low, up)`; :76 `if random.random() <= indpb` -/
def polyLoop (eta indpb : α) : List α → List α → List α → List α → Option (List α × List α)
  | x :: xs, xl :: lo, xu :: up, rs =>
    match pop rs with
    | none => none
    | some (g, rs) =>
      if g ≤ indpb then
        match pop rs with
        | none => none
        | some (rand, rs) =>
          match polyLoop eta indpb xs lo up rs with
          | none => none
          | some (ys, rest) => some (polyGene eta x xl xu rand :: ys, rest)
      else
        match polyLoop eta indpb xs lo up rs with
        | none => none
        | some (ys, rest) => some (x :: ys, rest)
  | xs, _, _, rs => some (xs, rs)

def mutPolynomialBounded (ind : Ind α) (eta : α) (low up : Bound α) (indpb : α) (rs : List α) :
    Outcome (Ind α × List α) :=
  let size := ind.genes.length                                  -- :65
  match low.expand size with
  | none => .indexError
  | some lo =>
    match up.expand size with
    | none => .indexError
    | some hi =>
      match polyLoop eta indpb ind.genes lo hi rs with
      | none => .badTape
      | some (ys, rest) => .ok ({ ind with genes := ys }, rest)

/-! ### mutGaussian (mutation.py:16-47) -/

/-- :43-45 `for i, m, s in zip(range(size), mu, sigma): if random.random() < indpb:
individual[i] += random.gauss(m, s)`; the model receives the value `random.gauss(m, s)` returned.
Result: genes, rest of `rs`, rest of `gs`. -/
def gaussLoop (indpb : α) : List α → List α → List α → List α → List α → Option (List α × List α × List α)
  | x :: xs, _m :: mu, _s :: sigma, rs, gs =>
    match pop rs with
    | none => none
    | some (g, rs) =>
      if g < indpb then
        match pop gs with
        | none => none
        | some (z, gs) =>
          match gaussLoop indpb xs mu sigma rs gs with
          | none => none
          | some (ys, rrest, grest) => some ((x + z) :: ys, rrest, grest)
      else
        match gaussLoop indpb xs mu sigma rs gs with
        | none => none
        | some (ys, rrest, grest) => some (x :: ys, rrest, grest)
  | xs, _, _, rs, gs => some (xs, rs, gs)

def mutGaussian (ind : Ind α) (mu sigma : Bound α) (indpb : α) (rs gs : List α) :
    Outcome (Ind α × List α × List α) :=
  let size := ind.genes.length                                  -- :33
  match mu.expand size with
  | none => .indexError
  | some m =>
    match sigma.expand size with
    | none => .indexError
    | some s =>
      match gaussLoop indpb ind.genes m s rs gs with
      | none => .badTape
      | some (ys, rrest, grest) => .ok ({ ind with genes := ys }, rrest, grest)

/-! ### mutESLogNormal (mutation.py:208-243) -/

/-- :233 `t = c / math.sqrt(2. * math.sqrt(size))` -/
def lognT (c : α) (size : Nat) : α := c / RealLike.sqrt (two * RealLike.sqrt (RealLike.ofNat size))
/-- :234 `t0 = c / math.sqrt(2. * size)` -/
def lognT0 (c : α) (size : Nat) : α := c / RealLike.sqrt (two * RealLike.ofNat size)
/-- :240 `individual.strategy[indx] *= math.exp(t0_n + t * random.gauss(0, 1))` -/
def lognSigma (s t0n t z : α) : α := s * RealLike.exp (t0n + t * z)
/-- :241 `individual[indx] += individual.strategy[indx] * random.gauss(0, 1)` -/
def lognGene (x s' z : α) : α := x + s' * z

/-- :238-241 `for indx in range(size): if random.random() < indpb: …`.  The strategy list is indexed,
so a strategy shorter than the individual raises `IndexError` at the first mutated locus beyond it.
Result: genes, strategy, rest of `rs`, rest of `gs`. -/
def lognLoop (indpb t0n t : α) : List α → List α → List α → List α → Outcome (List α × List α × List α × List α)
  | x :: xs, s :: ss, rs, gs =>
    match pop rs with
    | none => .badTape
    | some (g, rs) =>
      if g < indpb then
        match pop gs with
        | none => .badTape
        | some (z1, gs) =>
          match pop gs with
          | none => .badTape
          | some (z2, gs) =>
            match lognLoop indpb t0n t xs ss rs gs with
            | .ok (ys, ts, rrest, grest) =>
              .ok (lognGene x (lognSigma s t0n t z1) z2 :: ys, lognSigma s t0n t z1 :: ts, rrest, grest)
            | .indexError => .indexError
            | .zeroDivision => .zeroDivision
            | .badTape => .badTape
      else
        match lognLoop indpb t0n t xs ss rs gs with
        | .ok (ys, ts, rrest, grest) => .ok (x :: ys, s :: ts, rrest, grest)
        | .indexError => .indexError
        | .zeroDivision => .zeroDivision
        | .badTape => .badTape
  | x :: xs, [], rs, gs =>
    match pop rs with
    | none => .badTape
    | some (g, rs) =>
      if g < indpb then .indexError
      else
        match lognLoop indpb t0n t xs [] rs gs with
        | .ok (ys, ts, rrest, grest) => .ok (x :: ys, ts, rrest, grest)
        | .indexError => .indexError
        | .zeroDivision => .zeroDivision
        | .badTape => .badTape
  | [], ss, rs, gs => .ok ([], ss, rs, gs)

def mutESLogNormal (ind : Ind α) (c indpb : α) (rs gs : List α) : Outcome (Ind α × List α × List α) :=
  let size := ind.genes.length                                  -- :232
  if size = 0 then .zeroDivision                                -- :233 `c / math.sqrt(2. * 0.0)`
  else
    match pop gs with                                           -- :235 `n = random.gauss(0, 1)`
    | none => .badTape
    | some (n, gs) =>
      match lognLoop indpb (lognT0 c size * n) (lognT c size) ind.genes ind.strategy rs gs with  -- :236
      | .ok (ys, ts, rrest, grest) => .ok ({ ind with genes := ys, strategy := ts }, rrest, grest)
      | .indexError => .indexError
      | .zeroDivision => .zeroDivision
      | .badTape => .badTape

end
end RealOps
