/-
C16 — model of `deap/tools/init.py`: `initRepeat` (line 27), `initIterate` (line 50), `initCycle` (line 74).

    initRepeat(container, func, n)      = container(func() for _ in range(n))
    initIterate(container, generator)   = container(generator())
    initCycle(container, seq_func, n=1) = container(func() for _ in range(n) for func in seq_func)

Mathlib-free and executable.  A zero-argument callable with side effects (`random.random`, a counter, a closure over a list) is a
state transformer `σ → σ × α`; the generator expressions are consumed from left to right, one call per element.  The container is
either abstract (`List α → γ`) or a class made by `creator.create` (`Heap.create` of `Core/Heap.lean`: the object with its freshly
instantiated `dict_inst` attributes).  For the `creator` classes the functions produce atoms and do not touch the heap (the
`toolbox.attr_*` of the tutorials), so whether a base consumes the generator in `__new__` (array, ndarray: before `init_type`
instantiates the attributes) or in `__init__` (list, set, dict: after) cannot be observed in the heap.
-/
import DeapModel.Core.Heap

namespace Init
open Heap

abbrev Func (σ α : Type) := σ → σ × α

/-- the calls `f()` for `f` in the given sequence, left to right -/
def runCalls {σ α : Type} : List (Func σ α) → σ → σ × List α
  | [], s => (s, [])
  | f :: fs, s =>
    let r := f s
    let t := runCalls fs r.1
    (t.1, r.2 :: t.2)

/-- `func() for _ in range(n)` -/
def repeatCalls {σ α : Type} (func : Func σ α) : Nat → σ → σ × List α
  | 0, s => (s, [])
  | n + 1, s =>
    let r := func s
    let t := repeatCalls func n r.1
    (t.1, r.2 :: t.2)

/-- `func() for _ in range(n) for func in seq_func`: the outer loop runs `n` times over the whole sequence -/
def cycleCalls {σ α : Type} (fs : List (Func σ α)) : Nat → σ → σ × List α
  | 0, s => (s, [])
  | n + 1, s =>
    let r := runCalls fs s
    let t := cycleCalls fs n r.1
    (t.1, r.2 ++ t.2)

def initRepeat {σ α γ : Type} (container : List α → γ) (func : Func σ α) (n : Nat) (s : σ) : σ × γ :=
  let r := repeatCalls func n s
  (r.1, container r.2)

def initIterate {σ α γ : Type} (container : List α → γ) (generator : Func σ (List α)) (s : σ) : σ × γ :=
  let r := generator s
  (r.1, container r.2)

def initCycle {σ α γ : Type} (container : List α → γ) (fs : List (Func σ α)) (n : Nat) (s : σ) : σ × γ :=
  let r := cycleCalls fs n s
  (r.1, container r.2)

/-! ### the container is a `creator` class -/

/-- `tools.initRepeat(creator.C, func, n)` -/
def initRepeatCls {τ : Type} (ct : ClassTable) (c : ClsId) (func : Func τ Val) (n : Nat) (t : τ) (st : State) :
    Option (τ × State × Oid) :=
  let r := repeatCalls func n t
  (create ct st c r.2).map (fun p => (r.1, p.1, p.2))

/-- `tools.initCycle(creator.C, seq_func, n)` -/
def initCycleCls {τ : Type} (ct : ClassTable) (c : ClsId) (fs : List (Func τ Val)) (n : Nat) (t : τ) (st : State) :
    Option (τ × State × Oid) :=
  let r := cycleCalls fs n t
  (create ct st c r.2).map (fun p => (r.1, p.1, p.2))

/-- `tools.initIterate(creator.C, generator)` -/
def initIterateCls {τ : Type} (ct : ClassTable) (c : ClsId) (generator : Func τ (List Val)) (t : τ) (st : State) :
    Option (τ × State × Oid) :=
  let r := generator t
  (create ct st c r.2).map (fun p => (r.1, p.1, p.2))

/-! ### what the base container makes of the sequence it is given (the content the C16 abstraction shows) -/

inductive Shape where
  | seq      -- list, array, ndarray: the elements in order
  | set      -- set: each element once (shown in ascending order of the atoms)
  | dict     -- dict: every call returns a (key, value) pair; a key keeps its first position and its last value
deriving DecidableEq, Repr

def atomKey : Val → Int
  | .atom a => a
  | .ref o => Int.ofNat o

def insertSorted (v : Val) : List Val → List Val
  | [] => [v]
  | x :: r => if atomKey v < atomKey x then v :: x :: r else if atomKey v = atomKey x then x :: r else x :: insertSorted v r

def dictPut (k v : Val) : List (Val × Val) → List (Val × Val)
  | [] => [(k, v)]
  | (k', v') :: r => if k' = k then (k, v) :: r else (k', v') :: dictPut k v r

def pairsOf : List Val → List (Val × Val)
  | k :: v :: r => (k, v) :: pairsOf r
  | _ => []

def contentOf : Shape → List Val → List Val
  | .seq, l => l
  | .set, l => l.foldl (fun acc v => insertSorted v acc) []
  | .dict, l => ((pairsOf l).foldl (fun acc p => dictPut p.1 p.2 acc) []).flatMap (fun p => [p.1, p.2])

end Init
