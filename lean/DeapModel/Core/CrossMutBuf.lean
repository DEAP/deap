import DeapModel.Core.Buffer
import DeapModel.Core.CrossMut
/-
The discrete crossovers and mutations of `deap/tools/crossover.py` / `mutation.py` (C09) once
more, this time over the buffer interface of `Core/Buffer.lean`, statement by statement as the
Python code is written: the individuals are buffer ids in a heap, item and slice access are the
primitives of `Buffer`, and every operator takes the slice discipline `d` of the backing type
(`copy` = list / array.array, `view` = numpy.ndarray).  Mathlib-free.

The operators that only read and write single items never hand `d` to a primitive: that is the
(syntactic) reason why they are representation independent (`C09.elementwise_repr_independent`).
The slice-swapping operators do, and under `view` they lose genes
(`C09.slice_swap_view_loses_genes`).  Under `copy` every operator computes what the list model
`Core/CrossMut.lean` computes (`C09.copy_refines_list`).

Draws are explicit arguments as in `Core/CrossMut.lean`; the `…Ok` guards of that file (stated on
the contents before the call) say which draws are possible.  Every operator returns the ids it was
given (`return ind1, ind2` / `return individual,`).
-/
namespace CrossMutBuf
open Buffer
open CrossMut (normCx Bound PyNot)

variable {α : Type}

/-- `ind1[a1:b1], ind2[a2:b2] = ind2[a2:b2], ind1[a1:b1]` — the tuple assignment of all slice-swapping
crossovers: both right-hand slices first (left to right), then the two stores (left to right) -/
def swapSlices (d : Disc) (ind1 ind2 : Nat) (a1 : Nat) (b1 : Option Nat) (a2 : Nat) (b2 : Option Nat) : M α Unit := do
  let r1 ← slice d (.buf ind2) a2 b2
  let r2 ← slice d (.buf ind1) a1 b1
  sliceAssign d ind1 a1 b1 r1
  sliceAssign d ind2 a2 b2 r2

/-! ### cxOnePoint (crossover.py:17-34) -/

/-- `ind1[cxpoint:], ind2[cxpoint:] = ind2[cxpoint:], ind1[cxpoint:]`; `return ind1, ind2` -/
def cxOnePoint (d : Disc) (ind1 ind2 : Nat) (cxpoint : Nat) : M α (Nat × Nat) := do
  swapSlices d ind1 ind2 cxpoint none cxpoint none
  return (ind1, ind2)

/-! ### cxTwoPoint (crossover.py:37-59) -/

/-- the normalisation of the two draws, then
`ind1[cxpoint1:cxpoint2], ind2[cxpoint1:cxpoint2] = ind2[cxpoint1:cxpoint2], ind1[cxpoint1:cxpoint2]` -/
def cxTwoPoint (d : Disc) (ind1 ind2 : Nat) (cxpoint1 cxpoint2 : Nat) : M α (Nat × Nat) := do
  let c := normCx cxpoint1 cxpoint2
  swapSlices d ind1 ind2 c.1 (some c.2) c.1 (some c.2)
  return (ind1, ind2)

/-- `cxTwoPoints`: `return cxTwoPoint(ind1, ind2)` -/
def cxTwoPoints (d : Disc) (ind1 ind2 : Nat) (cxpoint1 cxpoint2 : Nat) : M α (Nat × Nat) :=
  cxTwoPoint d ind1 ind2 cxpoint1 cxpoint2

/-! ### cxUniform (crossover.py:72-90) -/

/-- `ind1[i], ind2[i] = ind2[i], ind1[i]` (two item reads, then two item stores) -/
def swapItems (ind1 ind2 i : Nat) : M α Unit := do
  let x ← getItem ind2 i
  let y ← getItem ind1 i
  setItem ind1 i x
  setItem ind2 i y

/-- `size = min(len(ind1), len(ind2))`; `for i in range(size): if random.random() < indpb: <swapItems>` -/
def cxUniform (_d : Disc) (ind1 ind2 : Nat) (ds : List Bool) : M α (Nat × Nat) := do
  let size := min (← len ind1) (← len ind2)
  forEach ((List.range size).zip ds) fun id =>
    if id.2 then swapItems ind1 ind2 id.1 else pure ()
  return (ind1, ind2)

/-! ### cxMessyOnePoint (crossover.py:366-382) -/

/-- `ind1[cxpoint1:], ind2[cxpoint2:] = ind2[cxpoint2:], ind1[cxpoint1:]` -/
def cxMessyOnePoint (d : Disc) (ind1 ind2 : Nat) (cxpoint1 cxpoint2 : Nat) : M α (Nat × Nat) := do
  swapSlices d ind1 ind2 cxpoint1 none cxpoint2 none
  return (ind1, ind2)

/-! ### cxESTwoPoint (crossover.py:418-444)

The genes and the strategies may have different item types (and different backings), so they live
in two heaps; the first tuple assignment touches only the individuals, the second only their
`strategy` attributes. -/

/-- state: (heap of the individuals, heap of the strategies); `dg`, `ds` = the disciplines of the two
backings; `s1`, `s2` = the ids of `ind1.strategy`, `ind2.strategy` in the second heap -/
def cxESTwoPoint {σ : Type} (dg ds : Disc) (ind1 ind2 s1 s2 : Nat) (pt1 pt2 : Nat)
    (h : Heap α × Heap σ) : Res (Heap α × Heap σ) (Nat × Nat) :=
  let c := normCx pt1 pt2
  -- ind1[pt1:pt2], ind2[pt1:pt2] = ind2[pt1:pt2], ind1[pt1:pt2]
  match (swapSlices dg ind1 ind2 c.1 (some c.2) c.1 (some c.2) : M α Unit) h.1 with
  | .raise e hg => .raise e (hg, h.2)
  | .ok _ hg =>
    -- ind1.strategy[pt1:pt2], ind2.strategy[pt1:pt2] = ind2.strategy[pt1:pt2], ind1.strategy[pt1:pt2]
    match (swapSlices ds s1 s2 c.1 (some c.2) c.1 (some c.2) : M σ Unit) h.2 with
    | .raise e hs => .raise e (hg, hs)
    | .ok _ hs => .ok (ind1, ind2) (hg, hs)

/-- `cxESTwoPoints`: `return cxESTwoPoint(ind1, ind2)` -/
def cxESTwoPoints {σ : Type} (dg ds : Disc) (ind1 ind2 s1 s2 : Nat) (pt1 pt2 : Nat)
    (h : Heap α × Heap σ) : Res (Heap α × Heap σ) (Nat × Nat) :=
  cxESTwoPoint dg ds ind1 ind2 s1 s2 pt1 pt2 h

/-- the two individuals (genes, strategy) after `cxESTwoPoint` on argument objects 0, 1 whose strategies
are the objects 0, 1 of the second heap; `none` = it raised -/
def runES {σ : Type} (dg ds : Disc) (g1 : List α) (s1 : List σ) (g2 : List α) (s2 : List σ) (pt1 pt2 : Nat) :
    Option (CrossMut.ESInd α σ × CrossMut.ESInd α σ) :=
  match cxESTwoPoint dg ds 0 1 0 1 pt1 pt2 (heap2 g1 g2, heap2 s1 s2) with
  | .ok _ h => some (⟨h.1.cell 0, h.2.cell 0⟩, ⟨h.1.cell 1, h.2.cell 1⟩)
  | .raise _ _ => none

/-! ### cxPartialyMatched / cxUniformPartialyMatched (crossover.py:93-184) -/

/-- `p1, p2 = [0]*size, [0]*size; for i in range(size): p1[ind1[i]] = i; p2[ind2[i]] = i` -/
def pmInit (ind1 ind2 size : Nat) : M Nat (List Nat × List Nat) :=
  forFold (List.range size) (List.replicate size 0, List.replicate size 0) fun p i => do
    let x ← getItem ind1 i
    let p1 ← tabSet p.1 x i
    let y ← getItem ind2 i
    let p2 ← tabSet p.2 y i
    return (p1, p2)

/-- loop body of PMX / UPMX; the state are the two local position tables -/
def pmStep (ind1 ind2 : Nat) (p : List Nat × List Nat) (i : Nat) : M Nat (List Nat × List Nat) := do
  let temp1 ← getItem ind1 i
  let temp2 ← getItem ind2 i
  -- ind1[i], ind1[p1[temp2]] = temp2, temp1
  setItem ind1 i temp2
  let j1 ← tabGet p.1 temp2
  setItem ind1 j1 temp1
  -- ind2[i], ind2[p2[temp1]] = temp1, temp2
  setItem ind2 i temp1
  let j2 ← tabGet p.2 temp1
  setItem ind2 j2 temp2
  -- p1[temp1], p1[temp2] = p1[temp2], p1[temp1]
  let x1 ← tabGet p.1 temp2
  let y1 ← tabGet p.1 temp1
  let p1 ← tabSet p.1 temp1 x1
  let p1 ← tabSet p1 temp2 y1
  -- p2[temp1], p2[temp2] = p2[temp2], p2[temp1]
  let x2 ← tabGet p.2 temp2
  let y2 ← tabGet p.2 temp1
  let p2 ← tabSet p.2 temp1 x2
  let p2 ← tabSet p2 temp2 y2
  return (p1, p2)

def cxPartialyMatched (_d : Disc) (ind1 ind2 : Nat) (cxpoint1 cxpoint2 : Nat) : M Nat (Nat × Nat) := do
  let size := min (← len ind1) (← len ind2)
  let p ← pmInit ind1 ind2 size
  let c := normCx cxpoint1 cxpoint2
  let _ ← forFold (List.range' c.1 (c.2 - c.1)) p (pmStep ind1 ind2)
  return (ind1, ind2)

def cxUniformPartialyMatched (_d : Disc) (ind1 ind2 : Nat) (ds : List Bool) : M Nat (Nat × Nat) := do
  let size := min (← len ind1) (← len ind2)
  let p ← pmInit ind1 ind2 size
  let _ ← forFold ((List.range size).zip ds) p fun p id =>
    if id.2 then pmStep ind1 ind2 p id.1 else pure p
  return (ind1, ind2)

/-! ### cxOrdered (crossover.py:187-237) -/

/-- `holes1, holes2 = [True]*size, [True]*size`
`for i in range(size): if i < a or i > b: holes1[ind2[i]] = False; holes2[ind1[i]] = False` -/
def oxHoles (ind1 ind2 size a b : Nat) : M Nat (List Bool × List Bool) :=
  forFold (List.range size) (List.replicate size true, List.replicate size true) fun hs i =>
    if i < a ∨ i > b then do
      let x ← getItem ind2 i
      let h1 ← tabSet hs.1 x false
      let y ← getItem ind1 i
      let h2 ← tabSet hs.2 y false
      return (h1, h2)
    else pure hs

/-- `if not holes[temp[(i + b + 1) % size]]: ind[k % size] = temp[(i + b + 1) % size]; k += 1`
where `temp` IS `ind` (`temp1, temp2 = ind1, ind2` binds two more names to the same objects) -/
def oxFill (ind size b : Nat) (holes : List Bool) (k i : Nat) : M Nat Nat := do
  let v ← getItem ind ((i + b + 1) % size)
  let hole ← tabGet holes v
  if !hole then
    let v' ← getItem ind ((i + b + 1) % size)
    setItem ind (k % size) v'
    return k + 1
  else return k

def cxOrdered (_d : Disc) (ind1 ind2 : Nat) (a0 b0 : Nat) : M Nat (Nat × Nat) := do
  let size := min (← len ind1) (← len ind2)
  let a := if a0 > b0 then b0 else a0
  let b := if a0 > b0 then a0 else b0
  let hs ← oxHoles ind1 ind2 size a b
  let _ ← forFold (List.range size) (b + 1, b + 1) fun k i => do
    let k1 ← oxFill ind1 size b hs.1 k.1 i
    let k2 ← oxFill ind2 size b hs.2 k.2 i
    return (k1, k2)
  -- for i in range(a, b + 1): ind1[i], ind2[i] = ind2[i], ind1[i]
  forEach (List.range' a (b + 1 - a)) fun i => swapItems ind1 ind2 i
  return (ind1, ind2)

/-! ### mutShuffleIndexes (mutation.py:98-122) -/

def mutShuffleIndexes (_d : Disc) (individual : Nat) (ds : List (Option Nat)) : M α Nat := do
  let size ← len individual
  forEach ((List.range size).zip ds) fun id =>
    match id.2 with
    | none => pure ()                               -- random() >= indpb
    | some s =>
      if s + 2 ≤ size then do                       -- randint(0, size - 2) answered s
        let swapIndx := if s ≥ id.1 then s + 1 else s
        -- individual[i], individual[swap_indx] = individual[swap_indx], individual[i]
        let x ← getItem individual swapIndx
        let y ← getItem individual id.1
        setItem individual id.1 x
        setItem individual swapIndx y
      else raise .value                             -- randint(0, size - 2) with size < 2 / impossible draw
  return individual

/-! ### mutFlipBit (mutation.py:125-143) -/

def mutFlipBit [PyNot α] (_d : Disc) (individual : Nat) (ds : List Bool) : M α Nat := do
  let n ← len individual
  forEach ((List.range n).zip ds) fun id =>
    if id.2 then do
      -- individual[i] = type(individual[i])(not individual[i])
      let x ← getItem individual id.1
      setItem individual id.1 (PyNot.pyNot x)
    else pure ()
  return individual

/-! ### mutUniformInt (mutation.py:146-173) -/

/-- `for i, xl, xu in zip(range(size), low, up): if random.random() < indpb: individual[i] = random.randint(xl, xu)` -/
def mutUniformIntLoop (individual : Nat) : List (Nat × Int × Int) → List (Option Int) → M Int Unit
  | [], _ => pure ()
  | _ :: _, [] => raise .tape
  | _ :: rest, none :: ds => mutUniformIntLoop individual rest ds
  | (i, xl, xu) :: rest, some v :: ds =>
    match CrossMut.randint xl xu v with
    | some w => do
      setItem individual i w
      mutUniformIntLoop individual rest ds
    | none => raise .value

def mutUniformInt (_d : Disc) (individual : Nat) (low up : Bound) (ds : List (Option Int)) : M Int Nat := do
  let size ← len individual
  match low.toSeq size, up.toSeq size with
  | some lo, some hi =>
    if ds.length = size then do
      mutUniformIntLoop individual ((List.range size).zip (lo.zip hi)) ds
      return individual
    else raise .tape
  | _, _ => raise .index

/-! ### mutInversion (mutation.py:176-201) -/

/-- `if size == 0: return individual,`; …; `individual[start:end] = individual[start:end][::-1]` -/
def mutInversion (d : Disc) (individual : Nat) (indexOne indexTwo : Nat) : M α Nat := do
  let size ← len individual
  if size = 0 then return individual
  else
    let startIndex := min indexOne indexTwo
    let endIndex := max indexOne indexTwo
    let s ← slice d (.buf individual) startIndex (some endIndex)
    let r ← rev d s
    sliceAssign d individual startIndex (some endIndex) r
    return individual

end CrossMutBuf

/-!
## Histories of calls in one process (`OpHistory`)

A Python process in which DEAP's operators are called again and again, on objects the caller keeps,
reuses and edits between the calls.  The state of the machine is NOTHING BUT the heaps of sequence
objects (permutation individuals over `Nat`; integer-coded individuals and the `low`/`up` bound
sequences of `mutUniformInt` over `Int`; `strategy` attributes): there is no component for anything
a module of the library could remember between two calls.  An event is

* a call of an operator on objects of the heap (its draws are part of the event).  A call that raises
  leaves the heap as the exception left it (the monad `Buffer.M` keeps the heap on `raise`); the next
  event starts from that heap;
* `refused`: a call that raised before it touched any object (`randint(1, 0)` for a too-short individual);
* the caller storing into one of its objects (`x[i] = v`, `x[:] = v`, `low[:] = …`) or creating one.

`mutUniformInt` receives its bounds BY REFERENCE (`BRef.obj`): what it reads is the contents of the
bound object at the time of the call.
-/
namespace OpHistory
open Buffer
open CrossMut (Bound PyNot)

structure State where
  perm : Heap Nat
  gene : Heap Int
  strat : Heap Int

/-- how a call ended: it returned the objects `ret`, or it raised -/
inductive Outcome where
  | ok (ret : List Nat)
  | raise (e : Err)
deriving DecidableEq, Repr

/-- the `low` / `up` argument of `mutUniformInt`: a number, or a sequence OBJECT of the caller -/
inductive BRef where
  | scalar (x : Int)
  | obj (id : Nat)
deriving DecidableEq, Repr

/-- the bound a reference denotes NOW -/
def BRef.now (st : State) : BRef → Bound
  | .scalar x => .scalar x
  | .obj id => .seq (st.gene.cell id)

/-- the operators that exist for every gene type -/
inductive Gen where
  | onepoint (i1 i2 cx : Nat)
  | twopoint (i1 i2 c1 c2 : Nat)
  | twopoints (i1 i2 c1 c2 : Nat)
  | messy (i1 i2 c1 c2 : Nat)
  | uniform (i1 i2 : Nat) (ds : List Bool)
  | shuffle (i : Nat) (ds : List (Option Nat))
  | flip (i : Nat) (ds : List Bool)
  | inversion (i i1 i2 : Nat)

def pair {α : Type} (m : M α (Nat × Nat)) : M α (List Nat) := fun h =>
  match m h with
  | .ok r h' => .ok [r.1, r.2] h'
  | .raise e h' => .raise e h'

def single {α : Type} (m : M α Nat) : M α (List Nat) := fun h =>
  match m h with
  | .ok r h' => .ok [r] h'
  | .raise e h' => .raise e h'

def Gen.run {α : Type} [PyNot α] (d : Disc) : Gen → M α (List Nat)
  | .onepoint i1 i2 cx => pair (CrossMutBuf.cxOnePoint d i1 i2 cx)
  | .twopoint i1 i2 c1 c2 => pair (CrossMutBuf.cxTwoPoint d i1 i2 c1 c2)
  | .twopoints i1 i2 c1 c2 => pair (CrossMutBuf.cxTwoPoints d i1 i2 c1 c2)
  | .messy i1 i2 c1 c2 => pair (CrossMutBuf.cxMessyOnePoint d i1 i2 c1 c2)
  | .uniform i1 i2 ds => pair (CrossMutBuf.cxUniform d i1 i2 ds)
  | .shuffle i ds => single (CrossMutBuf.mutShuffleIndexes d i ds)
  | .flip i ds => single (CrossMutBuf.mutFlipBit d i ds)
  | .inversion i i1 i2 => single (CrossMutBuf.mutInversion d i i1 i2)

inductive Event where
  | permOp (d : Disc) (g : Gen)
  | geneOp (d : Disc) (g : Gen)
  | pmx (d : Disc) (i1 i2 c1 c2 : Nat)
  | upmx (d : Disc) (i1 i2 : Nat) (ds : List Bool)
  | ox (d : Disc) (i1 i2 a b : Nat)
  | uniformint (d : Disc) (i : Nat) (low up : BRef) (ds : List (Option Int))
  | es (dg ds : Disc) (i1 i2 s1 s2 p1 p2 : Nat)
  | ess (dg ds : Disc) (i1 i2 s1 s2 p1 p2 : Nat)
  | refused (e : Err)
  | storeP (id : Nat) (v : List Nat)
  | storeG (id : Nat) (v : List Int)
  | storeS (id : Nat) (v : List Int)
  | newP (v : List Nat)
  | newG (v : List Int)
  | newS (v : List Int)

def onPerm (m : M Nat (List Nat)) (st : State) : Outcome × State :=
  match m st.perm with
  | .ok v h => (.ok v, { st with perm := h })
  | .raise e h => (.raise e, { st with perm := h })

def onGene (m : M Int (List Nat)) (st : State) : Outcome × State :=
  match m st.gene with
  | .ok v h => (.ok v, { st with gene := h })
  | .raise e h => (.raise e, { st with gene := h })

def onES (m : Heap Int × Heap Int → Res (Heap Int × Heap Int) (Nat × Nat)) (st : State) : Outcome × State :=
  match m (st.gene, st.strat) with
  | .ok v h => (.ok [v.1, v.2], { st with gene := h.1, strat := h.2 })
  | .raise e h => (.raise e, { st with gene := h.1, strat := h.2 })

/-- one event: the outcome the caller sees and the heaps afterwards -/
def step (st : State) : Event → Outcome × State
  | .permOp d g => onPerm (g.run d) st
  | .geneOp d g => onGene (g.run d) st
  | .pmx d i1 i2 c1 c2 => onPerm (pair (CrossMutBuf.cxPartialyMatched d i1 i2 c1 c2)) st
  | .upmx d i1 i2 ds => onPerm (pair (CrossMutBuf.cxUniformPartialyMatched d i1 i2 ds)) st
  | .ox d i1 i2 a b => onPerm (pair (CrossMutBuf.cxOrdered d i1 i2 a b)) st
  | .uniformint d i low up ds => onGene (single (CrossMutBuf.mutUniformInt d i (low.now st) (up.now st) ds)) st
  | .es dg ds i1 i2 s1 s2 p1 p2 => onES (CrossMutBuf.cxESTwoPoint dg ds i1 i2 s1 s2 p1 p2) st
  | .ess dg ds i1 i2 s1 s2 p1 p2 => onES (CrossMutBuf.cxESTwoPoints dg ds i1 i2 s1 s2 p1 p2) st
  | .refused e => (.raise e, st)
  | .storeP id v => (.ok [], { st with perm := st.perm.write id v })
  | .storeG id v => (.ok [], { st with gene := st.gene.write id v })
  | .storeS id v => (.ok [], { st with strat := st.strat.write id v })
  | .newP v => (.ok [st.perm.next], { st with perm := st.perm.alloc v })
  | .newG v => (.ok [st.gene.next], { st with gene := st.gene.alloc v })
  | .newS v => (.ok [st.strat.next], { st with strat := st.strat.alloc v })

/-- the heaps after a history -/
def run (hist : List Event) (st : State) : State := hist.foldl (fun s e => (step s e).2) st

/-- the outcomes of a history, event by event -/
def trace : List Event → State → List (Outcome × State)
  | [], _ => []
  | e :: es, st => let r := step st e; r :: trace es r.2

def emptyHeap {α : Type} : Heap α := { cell := fun _ => [], next := 0 }

/-- a process that holds no object yet -/
def init : State := { perm := emptyHeap, gene := emptyHeap, strat := emptyHeap }

end OpHistory
