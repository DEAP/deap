/-
C20 — the quality indicators of `deap/benchmarks/tools.py:262-327`: `diversity`, `convergence`, `igd`
(the `hypervolume` wrapper of `:306-318` is `Hypervolume.populationHV`, `Core/Hypervolume.lean`).
Polymorphic in `RealLike α`, operation order of the Python source.  `none` = the input the real code
rejects (IndexError / ZeroDivisionError / ValueError).  Mathlib-free.
-/
import DeapModel.Core.Scalar

namespace BenchInd
open RealLike

variable {α : Type} [RealLike α]

/-- `math.hypot(a.x - b.x, a.y - b.y)` -/
def hyp (a b : α × α) : α := sqrt ((a.1 - b.1) * (a.1 - b.1) + (a.2 - b.2) * (a.2 - b.2))

/-- the list `dt` (`:272-274`): distances between consecutive points of the front -/
def gaps (front : List (α × α)) : List α := (front.zip front.tail).map fun p => hyp p.1 p.2

def lastOr (d : α × α) : List (α × α) → α × α
  | [] => d
  | [a] => a
  | _ :: t => lastOr d t

/-- `diversity(first_front, first, last)` (`:262-282`), the spread metric Δ of the NSGA-II article, on
the first two fitness values of every individual.  Empty front: `IndexError`; a zero denominator
(every distance zero): `ZeroDivisionError`. -/
def diversity (front : List (α × α)) (first last : α × α) : Option α :=
  match front with
  | [] => none
  | p0 :: rest =>
    let df := hyp p0 first
    let dl := hyp (lastOr p0 front) last
    if rest.isEmpty then some (df + dl) else
    let dt := gaps front
    let n : α := RealLike.ofNat dt.length
    let dm := sum dt / n
    let di := sum (dt.map fun d => abs (d - dm))
    let den := df + dl + n * dm
    if den < 0 ∨ 0 < den then some ((df + dl + di) / den) else none

/-- the inner loop of `convergence` (`:296-298`): `for i in range(len(opt)): dist += (ind[i] - opt[i])**2`;
an individual with fewer values than the optimal point raises `IndexError` -/
def sqDist (ind opt : List α) : Option α :=
  if ind.length < opt.length then none
  else some ((ind.zip opt).foldl (fun d p => d + (p.1 - p.2) * (p.1 - p.2)) (RealLike.ofNat 0))

/-- `min` by the loop `if dist < distances[-1]` starting from `inf`: the first minimal element;
`none` on the empty list (the value stays `inf`) -/
def minFirst : List α → Option α
  | [] => none
  | a :: t => some (t.foldl (fun m d => if d < m then d else m) a)

/-- the entry of `distances` for one individual (`:294-301`) -/
def nearest (opt : List (List α)) (ind : List α) : Option α :=
  match opt.mapM (sqDist ind) with
  | none => none
  | some ds => (minFirst ds).map sqrt

/-- `convergence(first_front, optimal_front)` (`:285-303`): the mean over the front of the distance to
the nearest point of the optimal front.  Empty front: `ZeroDivisionError`; empty optimal front: the
result is `inf` (`none` here: no real number). -/
def convergence (front opt : List (List α)) : Option α :=
  if front.isEmpty then none else
  match front.mapM (nearest opt) with
  | none => none
  | some ds => some (sum ds / RealLike.ofNat ds.length)

/-- one entry of `scipy.spatial.distance.cdist(A, Z)`: the Euclidean distance of two rows of equal
length (`ValueError` otherwise) -/
def euclid (a z : List α) : Option α :=
  if a.length = z.length then some (sqrt (sum ((a.zip z).map fun p => (p.1 - p.2) * (p.1 - p.2)))) else none

/-- `igd(A, Z)` (`:321-327`): `numpy.average(numpy.min(cdist(A, Z), axis=0))` — the mean over the
reference points `Z` of the distance to the nearest point of `A`.  Empty `A` or `Z`: `ValueError`. -/
def igd (A Z : List (List α)) : Option α :=
  if A.isEmpty ∨ Z.isEmpty then none else
  match Z.mapM (fun z => (A.mapM fun a => euclid a z).bind minFirst) with
  | none => none
  | some ds => some (sum ds / RealLike.ofNat ds.length)

end BenchInd
