/-
C20 — multi-objective benchmarks (`deap/benchmarks/__init__.py:398-736`), from their published
definitions, polymorphic in `RealLike α`.  `none` = input rejected by the real code
(IndexError / ZeroDivisionError for structural reasons).  Mathlib-free.
-/
import DeapModel.Core.Bench

namespace Bench
open RealLike

variable {α : Type} [RealLike α]

/-- `kursawe` (`:398-410`): f₁ = Σ -10 e^{-0.2 √(xᵢ²+xᵢ₊₁²)},  f₂ = Σ |xᵢ|^0.8 + 5 sin(xᵢ³). -/
def kursawe (x : List α) : List α :=
  [ sum ((adjacent x).map fun p => (-(10 : α)) * exp (dec (-2) 10 * sqrt (p.1 * p.1 + p.2 * p.2))),
    sum (x.map fun v => pow (RealLike.abs v) (dec 8 10) + 5 * sin (v * v * v)) ]

/-- `schaffer_mo` (`:413-423`): (x₁², (x₁-2)²). -/
def schafferMo : List α → Option (List α)
  | x0 :: _ => some [sq x0, sq (x0 - 2)]
  | [] => none

/-! ### ZDT: f₁, g and f₂ = g · h(f₁, g) -/

/-- g of ZDT1/2/3: 1 + 9/(n-1) Σ_{i≥2} xᵢ  (source order `1.0 + 9.0*sum(ind[1:])/(len(ind)-1)`). -/
def zdtG (x : List α) : α := 1 + 9 * sum x.tail / nat (x.length - 1)

def zdt1H (f1 g : α) : α := 1 - sqrt (f1 / g)
def zdt2H (f1 g : α) : α := 1 - sq (f1 / g)
def zdt3H (f1 g : α) : α := 1 - sqrt (f1 / g) - f1 / g * sin (10 * pi * f1)

/-- `zdt1` (`:426-438`); needs n ≥ 2 (`len-1` divides). -/
def zdt1 : List α → Option (List α)
  | x0 :: x1 :: t => let g := zdtG (x0 :: x1 :: t); some [x0, g * zdt1H x0 g]
  | _ => none

/-- `zdt2` (`:441-455`). -/
def zdt2 : List α → Option (List α)
  | x0 :: x1 :: t => let g := zdtG (x0 :: x1 :: t); some [x0, g * zdt2H x0 g]
  | _ => none

/-- `zdt3` (`:458-472`). -/
def zdt3 : List α → Option (List α)
  | x0 :: x1 :: t => let g := zdtG (x0 :: x1 :: t); some [x0, g * zdt3H x0 g]
  | _ => none

/-- g of ZDT4: 1 + 10(n-1) + Σ_{i≥2} (xᵢ² - 10cos(4πxᵢ)). -/
def zdt4G (x : List α) : α :=
  nat (1 + 10 * (x.length - 1)) + sum (x.tail.map fun v => sq v - 10 * cos (4 * pi * v))

/-- `zdt4` (`:475-488`); n ≥ 1. -/
def zdt4 : List α → Option (List α)
  | x0 :: t => let g := zdt4G (x0 :: t); some [x0, g * zdt1H x0 g]
  | [] => none

/-- g of ZDT6: 1 + 9 [(Σ_{i≥2} xᵢ)/(n-1)]^0.25. -/
def zdt6G (x : List α) : α := 1 + 9 * pow (sum x.tail / nat (x.length - 1)) (dec 25 100)

/-- f₁ of ZDT6: 1 - exp(-4x₁) sin⁶(6πx₁). -/
def zdt6F1 (x0 : α) : α := 1 - exp (-(4 : α) * x0) * npow (sin (6 * pi * x0)) 6

/-- `zdt6` (`:491-504`); n ≥ 2. -/
def zdt6 : List α → Option (List α)
  | x0 :: x1 :: t =>
    let g := zdt6G (x0 :: x1 :: t); let f1 := zdt6F1 x0; some [f1, g * zdt2H f1 g]
  | _ => none

/-! ### DTLZ -/

/-- The common shape of DTLZ1–6: with position terms `ps = [(c₀,s₀), …, (c_{M-2},s_{M-2})]`,
`f₁ = pre·(Π cᵢ)·post`, and for `m = M-2 … 0` the next objective is `pre·(Π_{i<m} cᵢ)·s_m·post`
(`reduce(mul, …, 1)`, then the factors in source order).  One left-to-right pass: `acc` is the
running product `Π_{i<m} cᵢ`, every step prepends objective `m`, so the list ends up in the
source's order `m = M-2, …, 0`. -/
def frontStep (pre post : α) (st : α × List α) (p : α × α) : α × List α :=
  (st.1 * p.1, (pre * st.1 * p.2 * post) :: st.2)

def front (pre post : α) (ps : List (α × α)) : List α :=
  let r := ps.foldl (frontStep pre post) (1, [])
  (pre * r.1 * post) :: r.2

/-- The guard shared by the family: `obj ≥ 1` and `individual[m]` exists for `m ≤ obj-2`. -/
def dtlzOk (n M : Nat) : Bool := decide (1 ≤ M ∧ M - 1 ≤ n)

/-- g of DTLZ1/3: 100 (|x_m| + Σ ((xᵢ-0.5)² - cos(20π(xᵢ-0.5)))). -/
def dtlzG1 (xm : List α) : α :=
  100 * (nat xm.length + sum (xm.map fun v => sq (v - dec 5 10) - cos (20 * pi * (v - dec 5 10))))

/-- g of DTLZ2/4/5: Σ (xᵢ-0.5)². -/
def dtlzG2 (xm : List α) : α := sum (xm.map fun v => sq (v - dec 5 10))

/-- `dtlz1` (`:507-533`): f = ½(1+g)·(x₁…x_{M-1}), …, ½(1+g)(1-x₁). -/
def dtlz1 (x : List α) (M : Nat) : Option (List α) :=
  if dtlzOk x.length M then
    let g := dtlzG1 (x.drop (M - 1))
    some (front (dec 5 10) (1 + g) ((x.take (M - 1)).map fun v => (v, 1 - v)))
  else none

/-- `dtlz2` (`:536-562`): (1+g) Π cos(½πxᵢ), …, (1+g) sin(½πx₁). -/
def dtlz2 (x : List α) (M : Nat) : Option (List α) :=
  if dtlzOk x.length M then
    let g := dtlzG2 (x.drop (M - 1))
    some (front (1 + g) 1 ((x.take (M - 1)).map fun v =>
      (cos (dec 5 10 * v * pi), sin (dec 5 10 * v * pi))))
  else none

/-- `dtlz3` (`:565-590`): DTLZ2's shape with DTLZ1's g. -/
def dtlz3 (x : List α) (M : Nat) : Option (List α) :=
  if dtlzOk x.length M then
    let g := dtlzG1 (x.drop (M - 1))
    some (front (1 + g) 1 ((x.take (M - 1)).map fun v =>
      (cos (dec 5 10 * v * pi), sin (dec 5 10 * v * pi))))
  else none

/-- `dtlz4` (`:593-620`): DTLZ2 on xᵢ^α. -/
def dtlz4 (x : List α) (M : Nat) (alpha : α) : Option (List α) :=
  if dtlzOk x.length M then
    let g := dtlzG2 (x.drop (M - 1))
    some (front (1 + g) 1 ((x.take (M - 1)).map fun v =>
      (cos (dec 5 10 * pow v alpha * pi), sin (dec 5 10 * pow v alpha * pi))))
  else none

/-- θ of DTLZ5/6: π/(4(1+g)) · (1 + 2 g x). -/
def dtlzTheta (g v : α) : α := pi / (4 * (1 + g)) * (1 + 2 * g * v)

/-- the angle list of DTLZ5/6: θ₁ = π/2·x₁, θᵢ = θ(xᵢ) for the other position variables
`ind[1:n_objs-1]` (the F8 repair). -/
def dtlz56Angles (g : α) (xc : List α) : List (α × α) :=
  match xc with
  | [] => []
  | x0 :: r => (cos (pi / 2 * x0), sin (pi / 2 * x0)) ::
      r.map fun v => (cos (dtlzTheta g v), sin (dtlzTheta g v))

/-- the degenerate call `n_objs = 1` of DTLZ5/6: the single value `(1+g)·cos(π/2·x₁)·1` (the loop
`reversed(range(1, 1))` is empty); `ind[0]` must exist. -/
def dtlz56One (g : α) : List α → Option (List α)
  | [] => none
  | x0 :: _ => some [(1 + g) * cos (pi / 2 * x0) * 1]

/-- `dtlz5` (`:623-641`). -/
def dtlz5 (x : List α) (M : Nat) : Option (List α) :=
  if M = 1 then dtlz56One (dtlzG2 x) x else
  if dtlzOk x.length M ∧ 2 ≤ M then
    let g := dtlzG2 (x.drop (M - 1))
    some (front (1 + g) 1 (dtlz56Angles g (x.take (M - 1))))
  else none

/-- g of DTLZ6: Σ xᵢ^0.1. -/
def dtlzG6 (xm : List α) : α := sum (xm.map fun v => pow v (dec 1 10))

/-- `dtlz6` (`:644-662`). -/
def dtlz6 (x : List α) (M : Nat) : Option (List α) :=
  if M = 1 then dtlz56One (dtlzG6 x) x else
  if dtlzOk x.length M ∧ 2 ≤ M then
    let g := dtlzG6 (x.drop (M - 1))
    some (front (1 + g) 1 (dtlz56Angles g (x.take (M - 1))))
  else none

/-- `dtlz7` (`:665-674`): fᵢ = xᵢ (i < M), f_M = (1+g)(M - Σ fᵢ/(1+g) (1 + sin(3πfᵢ))),
g = 1 + 9/|x_m| Σ x_m; an empty x_m divides by zero. -/
def dtlz7 (x : List α) (M : Nat) : Option (List α) :=
  if 1 ≤ M ∧ M ≤ x.length then
    let xm := x.drop (M - 1)
    let g : α := 1 + 9 / nat xm.length * sum xm
    let fs := x.take (M - 1)
    some (fs ++ [(1 + g) * (nat M - sum (fs.map fun a => a / (1 + g) * (1 + sin (3 * pi * a))))])
  else none

/-! ### other two-objective problems -/

/-- `fonseca` (`:677-690`): 1 - e^{-Σ_{i≤3}(xᵢ ∓ 1/√3)²}. -/
def fonseca (x : List α) : List α :=
  [ 1 - exp (-(sum ((x.take 3).map fun v => sq (v - 1 / sqrt 3)))),
    1 - exp (-(sum ((x.take 3).map fun v => sq (v + 1 / sqrt 3)))) ]

def poloniA1 : α := dec 5 10 * sin 1 - 2 * cos 1 + sin 2 - dec 15 10 * cos 2
def poloniA2 : α := dec 15 10 * sin 1 - cos 1 + 2 * sin 2 - dec 5 10 * cos 2

/-- `poloni` (`:693-716`). -/
def poloni : List α → Option (List α)
  | x1 :: x2 :: _ =>
    let b1 := dec 5 10 * sin x1 - 2 * cos x1 + sin x2 - dec 15 10 * cos x2
    let b2 := dec 15 10 * sin x1 - cos x1 + 2 * sin x2 - dec 5 10 * cos x2
    some [1 + sq (poloniA1 - b1) + sq (poloniA2 - b2), sq (x1 + 3) + sq (x2 + 1)]
  | _ => none

/-- `dent` (`:719-736`): f₁,₂ = ½(√(1+(x₁+x₂)²) + √(1+(x₁-x₂)²) ± (x₁-x₂)) + λ e^{-(x₁-x₂)²}. -/
def dent (lam : α) : List α → Option (List α)
  | x1 :: x2 :: _ =>
    let d := lam * exp (-(sq (x1 - x2)))
    some [ dec 5 10 * (sqrt (1 + sq (x1 + x2)) + sqrt (1 + sq (x1 - x2)) + x1 - x2) + d,
           dec 5 10 * (sqrt (1 + sq (x1 + x2)) + sqrt (1 + sq (x1 - x2)) - x1 + x2) + d ]
  | _ => none

end Bench
