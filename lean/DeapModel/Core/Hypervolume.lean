/-
C15 — hypervolume (exact `Rat`, import-free, executable).

This is a SPECIFICATION-level model.  The Fonseca–Paquete–López-Ibáñez dimension sweep of
`deap/tools/_hypervolume/_hv.c` (`hv_recursive`, l.704-1023, with AVL tree and area/volume caches) and
its pure-Python port `pyhv.py` (`_HyperVolume.hvRecursive`, l.102-176) are transcribed in `Core/HvC.lean` and
`Core/HvSweep.lean`, not here; both are validated against `hvSlice` below by the correspondence run.  What is
transcribed statement by statement here are the two wrappers:
  * `deap/benchmarks/tools.py:306-318`  `hypervolume(front, ref=None)`      → `populationHV`
  * `deap/tools/indicator.py:11-32`     `hypervolume(front, **kargs)`       → `leastContributor`

Conventions.  A point is a `List Rat`; minimisation is implicit (as in the code): the box of a
point `p` w.r.t. the reference point `ref` is `∏ⱼ [pⱼ, refⱼ)`, empty as soon as some `pⱼ ≥ refⱼ`.
The dimension is `ref.length`; a point is read through `headD 0` / `tail`, i.e. padded with zeros /
truncated to that dimension (a totalisation: the C wrapper `hv.cpp:85-87` rejects a reference whose
length differs from the points', and every theorem that speaks about ℝᵈ assumes equal lengths).
-/
namespace Hypervolume

abbrev Pt := List Rat

/-- Insert into a strictly ascending list, dropping a value already present. -/
def insertUniq (x : Rat) : List Rat → List Rat
  | [] => [x]
  | y :: ys => if x < y then x :: y :: ys else if x = y then y :: ys else y :: insertUniq x ys

/-- The distinct values of a list in ascending order. -/
def sortDedup (l : List Rat) : List Rat := l.foldr insertUniq []

/-- Breakpoints of one coordinate axis: the distinct values `≤ r` among `r :: xs`, ascending
(so `r` is the last one).  Values beyond the reference never bound a cell. -/
def axisOf (r : Rat) (xs : List Rat) : List Rat := sortDedup ((r :: xs).filter (fun x => decide (x ≤ r)))

/-- Consecutive pairs `(lo, hi)` of a breakpoint list. -/
def intervals : List Rat → List (Rat × Rat)
  | a :: b :: t => (a, b) :: intervals (b :: t)
  | _ => []

/-- One breakpoint list per coordinate (coordinate 0 first). -/
def axes : List Rat → List Pt → List (List Rat)
  | [], _ => []
  | r :: ref, pts => axisOf r (pts.map (fun p => p.headD 0)) :: axes ref (pts.map List.tail)

/-- All cells of the grid spanned by the breakpoint lists: one interval per coordinate. -/
def cells : List (List Rat) → List (List (Rat × Rat))
  | [] => [[]]
  | ax :: rest => (intervals ax).flatMap (fun iv => (cells rest).map (fun c => iv :: c))

/-- Volume of a cell. -/
def cellVol : List (Rat × Rat) → Rat
  | [] => 1
  | iv :: c => (iv.2 - iv.1) * cellVol c

/-- `p ≤` lower corner of the cell, componentwise. -/
def below : Pt → List (Rat × Rat) → Bool
  | _, [] => true
  | p, iv :: c => decide (p.headD 0 ≤ iv.1) && below p.tail c

/-- The cell lies in the box of some point. -/
def covered (pts : List Pt) (c : List (Rat × Rat)) : Bool := pts.any (fun p => below p c)

def sumRat (l : List Rat) : Rat := l.foldr (· + ·) 0

/-- Σ over the cells of the grid `A` of `vol(cell)·[∃ p ∈ pts, p ≤ lower corner]`. -/
def hvGrid (A : List (List Rat)) (pts : List Pt) : Rat :=
  sumRat ((cells A).map (fun c => if covered pts c then cellVol c else 0))

/-- **The specification**: compress every coordinate axis to the sorted distinct values occurring in
`pts ∪ {ref}` (at or below the reference); the union of the boxes `[p, ref)` is a union of cells of
that grid, and its measure is the finite sum of the volumes of the covered cells. -/
def hvCells (ref : List Rat) (pts : List Pt) : Rat := hvGrid (axes ref pts) pts

/-- The points at or below the slab starting at `lo` in the leading coordinate, projected. -/
def sub (pts : List Pt) (lo : Rat) : List Pt :=
  (pts.filter (fun p => decide (p.headD 0 ≤ lo))).map List.tail

/-- Σ over consecutive breakpoints of `(hi - lo) * g lo`. -/
def stepSum (ax : List Rat) (g : Rat → Rat) : Rat :=
  sumRat ((intervals ax).map (fun iv => (iv.2 - iv.1) * g iv.1))

/-- **The executable definition** used by the driver: slicing recursion.  Dimension 0: 1 if there is
a point, else 0.  Otherwise, for each slab between consecutive distinct values of the leading
coordinate (the last slab ends at the reference): thickness × (d−1)-dimensional hypervolume of the
points at or below the slab.  (The implementations sweep on the *last* coordinate; `hvCells` is
symmetric in the coordinates, for lists the leading one is the natural choice.) -/
def hvSlice : List Rat → List Pt → Rat
  | [], pts => if pts.isEmpty then 0 else 1
  | r :: ref, pts =>
      stepSum (axisOf r (pts.map (fun p => p.headD 0))) (fun lo => hvSlice ref (sub pts lo))

/-- Volume of the box `[p, ref)` (0 if empty). -/
def boxVol : List Rat → Pt → Rat
  | [], _ => 1
  | r :: ref, p => (if p.headD 0 < r then r - p.headD 0 else 0) * boxVol ref p.tail

/-- Componentwise maximum (the corner of the intersection of two boxes), in the dimension of `ref`. -/
def pmax : List Rat → Pt → Pt → Pt
  | [], _, _ => []
  | _ :: ref, p, q => (if p.headD 0 ≤ q.headD 0 then q.headD 0 else p.headD 0) :: pmax ref p.tail q.tail

/-- Inclusion–exclusion recursion `hv(q :: S) = hv(S) + vol[q, ref) − hv({max(p, q) | p ∈ S})`
(exponential; specification only, used to tie `hvCells` to the Lebesgue measure). -/
def hvIE (ref : List Rat) : List Pt → Rat
  | [] => 0
  | q :: S => hvIE ref S + boxVol ref q - hvIE ref (S.map (fun p => pmax ref p q))
termination_by S => S.length
decreasing_by all_goals simp

/-! ### Wrappers (transcribed) -/

/-- `Fitness.wvalues = tuple(map(mul, values, weights))` (`deap/base.py` setValues). -/
def wvalues (weights values : List Rat) : List Rat := List.zipWith (· * ·) values weights

/-- `numpy.array([ind.fitness.wvalues for ind in front]) * -1`
(`benchmarks/tools.py:314`, `indicator.py:18`). -/
def wobj (weights : List Rat) (vals : List (List Rat)) : List Pt :=
  vals.map (fun v => (wvalues weights v).map (fun x => x * (-1)))

def maxRat (a b : Rat) : Rat := if a ≤ b then b else a

/-- `numpy.max(wobj, axis=0) + 1` (`benchmarks/tools.py:316`, `indicator.py:21`); numpy raises on an
empty array — here `[]`. -/
def defaultRef : List Pt → List Rat
  | [] => []
  | p :: ps => (ps.foldl (fun acc q => List.zipWith maxRat acc q) p).map (· + 1)

/-- `benchmarks.tools.hypervolume(front, ref=None)` (l.306-318). -/
def populationHV (weights : List Rat) (vals : List (List Rat)) (ref : Option (List Rat)) : Rat :=
  let pts := wobj weights vals                      -- l.314
  let r := match ref with                           -- l.315-316
    | none => defaultRef pts
    | some r => r
  hvSlice r pts                                     -- l.318

/-- `numpy.argmax` of a list: the index of the first maximal entry (0 on the empty list, where numpy
raises).  Right-to-left formulation: the head wins unless a strictly larger entry follows. -/
def argmaxFirst : List Rat → Nat
  | [] => 0
  | [_] => 0
  | x :: y :: t =>
    let j := argmaxFirst (y :: t)
    if x < (y :: t).getD j 0 then j + 1 else 0

/-- `contribution(i)` for every `i` (`indicator.py:23-29`): the hypervolume of the set without point `i`. -/
def looValues (ref : List Rat) (pts : List Pt) : List Rat :=
  (List.range pts.length).map (fun i => hvSlice ref (pts.eraseIdx i))

/-- `tools.indicator.hypervolume(front, ref=…)` (l.11-32). -/
def leastContributor (weights : List Rat) (vals : List (List Rat)) (ref : Option (List Rat)) : Nat :=
  let pts := wobj weights vals                      -- l.18
  let r := match ref with                           -- l.19-21
    | none => defaultRef pts
    | some r => r
  argmaxFirst (looValues r pts)                     -- l.23-32

end Hypervolume
