/-
C16 — Created types clone and pickle faithfully and independently.
Property theorems only; model `DeapModel/Core/Heap.lean` (with `Core/HeapDerive.lean` for classes derived from
created classes and `Core/Init.lean` for the `init*` helpers), vocabulary `Lemmas/C16Defs.lean`.

Clause → theorems.  Instances get fresh per-instance attributes: `create_succeeds`, `fresh_attrs`, `initRepeat_fresh_attrs`,
`derived_create_fresh_attrs`, `derived_attr_class`.  Clone equal / independent: `clone_equal`, `create_then_clone`, `clone_disjoint`,
`clone_shares_no_mutable`, `write_independent`, `clone_chain`.  Pickle round trip: `pickle_equal`, `pickle_disjoint`,
`node_pickle_roundtrip`, `rename_keeps_node_names`.  Classes pickle by value, whatever the namespace holds: `meta_create_*`,
`class_roundtrip`, `namespace_history_keeps_classes`, `pickle_class_independent_of_namespace`, `loaded_object_class_record`,
`pickle_class_description`.  Toolbox and initialisers: `partial_call`, `decorate_keeps_frozen`, `initRepeat_calls`,
`initCycle_calls`, `initIterate_spec`.
-/
import DeapModel.Lemmas.C16Examples
import DeapModel.Lemmas.C16Namespace
import DeapModel.Lemmas.C16Gp
import DeapModel.Lemmas.C16Init
import DeapModel.Lemmas.C16Derive

namespace C16
open Heap

/-- Instantiation succeeds for every class of a well-founded class table. -/
theorem create_succeeds (ct : ClassTable) (hct : CTOk ct) (st : State) (c : ClsId) (items : List Val)
    (hc : c < ct.length) : ∃ st' x, create ct st c items = some (st', x) := by
  obtain ⟨⟨st', x⟩, h⟩ := newInst_succeeds ct hct (ct.length + 1) st c items hc (Nat.lt_succ_of_lt hc)
  exact ⟨st', x, h⟩

/-- Instance of the hypotheses of `create_succeeds` (`CTOk`, `c < ct.length`) … -/
example : ∃ st' x, create Ex.ct ⟨Ex.heap, 3, []⟩ 2 [.atom 5] = some (st', x) :=
  create_succeeds Ex.ct Ex.ct_ok ⟨Ex.heap, 3, []⟩ 2 [.atom 5] (by decide)

/-- … and the evaluation: a swarm at oid 3, its `best` at 4, the fitness of that at 5. -/
example : (create Ex.ct ⟨Ex.heap, 3, []⟩ 2 [.atom 5]).map (fun r => (r.1.next, r.2)) = some (6, 3) := by
  decide +kernel

/-- Two instances never share an instantiated attribute: every attribute named in `dict_inst`
exists on each instance, is a reference to an object allocated by that very call, and nothing
reachable from an attribute of the first instance is reachable from one of the second.  Class
attributes (`dict_cls`) are the same value for both (shared by construction).

The guard `ci.kind = .cfitness → p.1 ≠ cvName` of the first clause: `init_type` calls
`base.__init__` after the `dict_inst` attributes are set (creator.py:125-126), and
`ConstrainedFitness.__init__` sets `constraint_violation = None`; a `dict_inst` attribute of that
very name on a `ConstrainedFitness` class is therefore `None` on every instance, not a fresh object
(every other `dict_inst` attribute is). -/
theorem fresh_attrs (ct : ClassTable) (objs : Oid → Option Obj) (next : Nat) (memo : List (Oid × Oid))
    (hcl : Closed objs next) (c : ClsId) (ci : ClassInfo) (hci : ct[c]? = some ci)
    (items₁ items₂ : List Val) (st1 st2 : State) (x1 x2 : Oid)
    (h1 : create ct ⟨objs, next, memo⟩ c items₁ = some (st1, x1))
    (h2 : create ct st1 c items₂ = some (st2, x2)) :
    ∃ o1 o2, st2.objs x1 = some o1 ∧ st2.objs x2 = some o2 ∧ o1.items = items₁ ∧ o2.items = items₂ ∧
      (∀ p ∈ ci.dictInst, (ci.kind = .cfitness → p.1 ≠ cvName) →
          ∃ y1 y2, lookup p.1 o1.attrs = some (.ref y1) ∧
          lookup p.1 o2.attrs = some (.ref y2) ∧ next ≤ y1 ∧ y1 < st1.next ∧ st1.next ≤ y2) ∧
      (∀ k1 v1 k2 v2, lookup k1 o1.attrs = some v1 → lookup k2 o2.attrs = some v2 →
          ∀ y, Reach st2.objs v1 y → ¬ Reach st2.objs v2 y) ∧
      (∀ k, lookup k o1.attrs = none → lookup k o2.attrs = none →
          getattr ct st2.objs x1 k = getattr ct st2.objs x2 k) := by
  obtain ⟨ci1, sb, attrs1, hci1, hx1, rfl, E1, A1⟩ :=
    newInst_of_eq ct _ ⟨objs, next, memo⟩ st1 c items₁ x1 hcl.bound h1
  subst x1
  cases hci.symm.trans hci1
  obtain ⟨ci2, sc, attrs2, hci2, hx2, rfl, E2, A2⟩ :=
    newInst_of_eq ct _ _ st2 c items₂ x2 (Bounded.reserve_define (st := ⟨objs, next, memo⟩) E1) h2
  subst x2
  cases hci.symm.trans hci2
  obtain ⟨hx1, hx2, _, hdis⟩ := fresh_pair (st := ⟨objs, next, memo⟩)
    (o2 := ⟨c, items₂, dictUpdate attrs2 (baseInitAttrs ci.kind), ci.kind != .node⟩) E1 E2
  refine ⟨_, _, hx1, hx2, rfl, rfl, ?_, ?_, ?_⟩
  · intro p hp hguard
    obtain ⟨y1, hl1, h11, h12⟩ := A1.lookup_of_mem hp
    obtain ⟨y2, hl2, h21, _⟩ := A2.lookup_of_mem hp
    exact ⟨y1, y2, (lookup_newAttrs_of_guard hguard _).trans hl1,
      (lookup_newAttrs_of_guard hguard _).trans hl2, Nat.le_of_succ_le h11, h12, Nat.le_of_succ_le h21⟩
  · intro k1 v1 k2 v2 hl1 hl2
    exact hdis v1 v2 (newAttrs_ref (fun _ _ => A1.lookup_ref) hl1)
      (newAttrs_ref (fun _ _ => A2.lookup_ref) hl2)
  · intro k hk1 hk2
    simp only [getattr, hx1, hx2, hk1, hk2]

/-- Instance of the hypotheses of `fresh_attrs`: a closed heap, a class of the table, and two
consecutive successful instantiations. -/
example : ∃ ci st1 x1 st2 x2, Closed Ex.heap 3 ∧ Ex.ct[2]? = some ci ∧
    create Ex.ct ⟨Ex.heap, 3, []⟩ 2 [.atom 1] = some (st1, x1) ∧
    create Ex.ct st1 2 [.atom 2] = some (st2, x2) := by
  obtain ⟨st1, x1, h1⟩ := create_succeeds Ex.ct Ex.ct_ok ⟨Ex.heap, 3, []⟩ 2 [.atom 1] (by decide)
  obtain ⟨st2, x2, h2⟩ := create_succeeds Ex.ct Ex.ct_ok st1 2 [.atom 2] (by decide)
  exact ⟨_, st1, x1, st2, x2, Ex.heap_closed, rfl, h1, h2⟩

/-- The second instance is allocated after everything the first one allocated. -/
example : ((create Ex.ct ⟨Ex.heap, 3, []⟩ 2 [.atom 1]).bind
    (fun r => (create Ex.ct r.1 2 [.atom 2]).map (fun r' => (r.2, r.1.next, r'.2, r'.1.next))))
    = some (3, 6, 6, 9) := by
  decide +kernel

/-- Clone equal: under the side conditions of the hooks the clone exists, denotes the same pure
value as the original at every depth, and the original still denotes what it did.

`hnd` (`dict_inst` is a dict: unique names) is needed for the last conjunct only (the clone again
satisfies the side conditions at the same depth, so it can be cloned again); everything else is
`Heap.Copy.clone_facts`, which does not use it.  Without `hnd` the last conjunct is false:
`ct = [⟨.fitness, [], []⟩, ⟨.tree, [(5, 0), (5, 0)], []⟩]`, `objs 0 = ⟨1, [], [(5, atom 7)], true⟩`,
`next = 1`, `n = 1`, `v = ref 0` satisfy `CTOk` and `Within ct CopyOK objs 1 v`; `init_type`
instantiates the name `5` twice, `dictSet` overrides only the first entry, the clone is
`⟨1, [], [(5, atom 7), (5, ref 3)], true⟩` with a child of depth 1, and
`cloneChain ct 1 2 objs 1 (ref 0) = none`. -/
theorem clone_equal (ct : ClassTable) (hct : CTOk ct) (hnd : DictNodup ct)
    (objs : Oid → Option Obj) (next : Nat)
    (hcl : Closed objs next) (n : Nat) (v : Val) (hv : Within ct CopyOK objs n v) :
    ∃ objs' next' v', clone ct n objs next v = some (objs', next', v') ∧
      (∀ m, abs objs' m v' = abs objs m v) ∧ (∀ m, abs objs' m v = abs objs m v) ∧
      Closed objs' next' ∧ next ≤ next' ∧ (∀ y, y < next → objs' y = objs y) ∧
      Within ct CopyOK objs' n v' := by
  obtain ⟨objs', next', v', h, h1, h2, h3, h4, h5, h6, _⟩ := Heap.Copy.clone_facts hct hcl n v hv
  exact ⟨objs', next', v', h, h1, h2, h3, h4, h5, h6 hnd⟩

/-- `create` composes with `clone`: a freshly created instance (atom items) of a class whose
instantiated fitness classes have no `dict_inst` attributes (`CreateOK`) satisfies the side
conditions of the copy hooks — in particular a new `ConstrainedFitness` has its
`constraint_violation`, set to `None` by `base.__init__` — so its clone exists, denotes the same
pure value, leaves the original as it is, and can be cloned again. -/
theorem create_then_clone (ct : ClassTable) (hct : CTOk ct) (hnd : DictNodup ct)
    (objs : Oid → Option Obj) (next : Nat) (memo : List (Oid × Oid)) (hcl : Closed objs next)
    (c : ClsId) (hc : c < ct.length) (hok : CreateOK ct c)
    (items : List Val) (hitems : ∀ v ∈ items, v.isAtom = true) :
    ∃ st x, create ct ⟨objs, next, memo⟩ c items = some (st, x) ∧ Closed st.objs st.next ∧
      Within ct CopyOK st.objs (ct.length + 1) (.ref x) ∧
      ∃ objs' next' v', clone ct (ct.length + 1) st.objs st.next (.ref x) = some (objs', next', v') ∧
        (∀ m, abs objs' m v' = abs st.objs m (.ref x)) ∧
        (∀ m, abs objs' m (.ref x) = abs st.objs m (.ref x)) ∧
        Closed objs' next' ∧ Within ct CopyOK objs' (ct.length + 1) v' := by
  obtain ⟨st, x, h⟩ := create_succeeds ct hct ⟨objs, next, memo⟩ c items hc
  have hb : Bounded ⟨objs, next, memo⟩ := hcl.bound
  have hcl' : Closed st.objs st.next :=
    ((newInst_of_eq ct _ _ st c items x hb h).ext hitems).2.1.closed_heap hcl
  have hw : Within ct CopyOK st.objs (ct.length + 1) (.ref x) :=
    Heap.Copy.newInst_within (ct.length + 1) _ _ c items x hb hok hitems h
  obtain ⟨objs', next', v', hcl1, h1, h2, h3, _, _, h6⟩ :=
    clone_equal ct hct hnd st.objs st.next hcl' (ct.length + 1) (.ref x) hw
  exact ⟨st, x, h, hcl', hw, objs', next', v', hcl1, h1, h2, h3, h6⟩

/-- Instance of the hypotheses of `create_then_clone`: an individual whose `dict_inst` names a
`ConstrainedFitness` class, created in the heap of a fresh interpreter … -/
example : ∃ st x, create Ex2.ct ⟨fun _ => none, 0, []⟩ 1 [.atom 1, .atom 2] = some (st, x) ∧
    ∃ objs' next' v', clone Ex2.ct 3 st.objs st.next (.ref x) = some (objs', next', v') ∧
      ∀ m, abs objs' m v' = abs st.objs m (.ref x) := by
  obtain ⟨st, x, h, _, _, objs', next', v', h1, h2, _⟩ :=
    create_then_clone Ex2.ct Ex2.ct_ok Ex2.ct_nodup (fun _ => none) 0 [] Ex.empty_closed 1
      (by decide) (Ex2.ct_createOK 1) [.atom 1, .atom 2]
      (by intro v hv; simp at hv; rcases hv with rfl | rfl <;> rfl)
  exact ⟨st, x, h, objs', next', v', h1, h2⟩

/-- … and the evaluation: the individual at oid 0, its fitness at 1; the clone at 2, the clone of
the fitness at 3 … -/
example : ((create Ex2.ct ⟨fun _ => none, 0, []⟩ 1 [.atom 1, .atom 2]).bind (fun r =>
    (clone Ex2.ct 3 r.1.objs r.1.next (.ref r.2)).map (fun r' =>
      (r.2, r.1.next, r'.2.1, r'.2.2)))) = some (0, 2, 4, .ref 2) := by
  decide +kernel

/-- … the new fitness carries `constraint_violation = None` from `base.__init__`, and so does its
clone (the clone of the individual refers to it). -/
example : ((create Ex2.ct ⟨fun _ => none, 0, []⟩ 1 [.atom 1, .atom 2]).bind (fun r =>
    (clone Ex2.ct 3 r.1.objs r.1.next (.ref r.2)).map (fun r' =>
      (r.1.objs 1, r'.1 2, r'.1 3))))
    = some (some ⟨0, [], [(cvName, .atom noneAtom)], true⟩,
        some ⟨1, [.atom 1, .atom 2], [(1, .ref 3)], true⟩,
        some ⟨0, [], [(cvName, .atom noneAtom)], true⟩) := by
  decide +kernel

/-- Clone disjoint: every object reachable from the clone is fresh, except immutable objects of
the old heap (GP node objects shared by `PrimitiveTree.__deepcopy__`). -/
theorem clone_disjoint (ct : ClassTable) (hct : CTOk ct) (objs : Oid → Option Obj) (next : Nat)
    (hcl : Closed objs next) (n : Nat) (v : Val) (hv : Within ct CopyOK objs n v)
    (objs' : Oid → Option Obj) (next' : Nat) (v' : Val)
    (h : clone ct n objs next v = some (objs', next', v')) :
    ∀ y, Reach objs' v' y → next ≤ y ∨ ImmutableIn objs y :=
  (Heap.Copy.clone_facts_of_eq hct hcl hv h).2

/-- Consequently no *mutable* object is reachable from both. -/
theorem clone_shares_no_mutable (ct : ClassTable) (hct : CTOk ct) (objs : Oid → Option Obj) (next : Nat)
    (hcl : Closed objs next) (n : Nat) (v : Val) (hv : Within ct CopyOK objs n v)
    (objs' : Oid → Option Obj) (next' : Nat) (v' : Val)
    (h : clone ct n objs next v = some (objs', next', v')) :
    ∀ y o, Reach objs' v y → Reach objs' v' y → objs' y = some o → o.mutable = false :=
  Heap.Copy.shared_immutable hcl (Heap.Copy.clone_facts_of_eq hct hcl hv h).1 (Heap.Copy.Within_old hcl hv)
    (Heap.Copy.clone_facts_of_eq hct hcl hv h).2

/-- A heap write through either object (replacing any mutable object reachable from it by anything)
leaves the pure value of the other unchanged. -/
theorem write_independent (ct : ClassTable) (hct : CTOk ct) (objs : Oid → Option Obj) (next : Nat)
    (hcl : Closed objs next) (n : Nat) (v : Val) (hv : Within ct CopyOK objs n v)
    (objs' : Oid → Option Obj) (next' : Nat) (v' : Val)
    (h : clone ct n objs next v = some (objs', next', v')) :
    (∀ y o w, Reach objs' v' y → objs' y = some o → o.mutable = true →
        ∀ m, abs (write objs' y w) m v = abs objs' m v) ∧
    (∀ y o w, Reach objs' v y → objs' y = some o → o.mutable = true →
        ∀ m, abs (write objs' y w) m v' = abs objs' m v') := by
  have hsh := clone_shares_no_mutable ct hct objs next hcl n v hv objs' next' v' h
  refine ⟨fun y o w h1 ho hm m => Heap.Copy.abs_write objs' y w m v fun h2 => ?_,
    fun y o w h1 ho hm m => Heap.Copy.abs_write objs' y w m v' fun h2 => ?_⟩
  · rw [hsh y o h2 h1 ho] at hm
    cases hm
  · rw [hsh y o h1 h2 ho] at hm
    cases hm

/-- Clone-of-clone chains of any length: every element denotes the original's pure value, and no
two distinct elements of `original :: clones` share a mutable object.  (`hnd`: see `clone_equal`;
without it the second clone of the example there fails.) -/
theorem clone_chain (ct : ClassTable) (hct : CTOk ct) (hnd : DictNodup ct)
    (objs : Oid → Option Obj) (next : Nat)
    (hcl : Closed objs next) (n : Nat) (v : Val) (hv : Within ct CopyOK objs n v) (k : Nat) :
    ∃ objs' next' vs, cloneChain ct n k objs next v = some (objs', next', vs) ∧ vs.length = k ∧
      (∀ w ∈ v :: vs, ∀ m, abs objs' m w = abs objs m v) ∧
      (∀ (i j : Nat), i < j → ∀ wi wj, (v :: vs)[i]? = some wi → (v :: vs)[j]? = some wj →
        ∀ y o, Reach objs' wi y → Reach objs' wj y → objs' y = some o → o.mutable = false) := by
  obtain ⟨objs', next', vs, h, hlen, _, _, hold, habs, _, hpair⟩ :=
    Heap.Copy.cloneChain_facts hct hnd n k objs next v hcl hv
  refine ⟨objs', next', vs, h, hlen, fun w hw m => ?_, hpair⟩
  rcases List.mem_cons.1 hw with hw | hw
  · subst hw
    exact Heap.Copy.abs_ext objs objs' hcl.refs (Heap.Copy.keeps_of_agree hcl hold) m w (Heap.Copy.Within_def hv)
  · exact habs w hw m

/-- Pickle round trip equal: into any closed target heap (the same interpreter's, or the empty
heap of a fresh interpreter) the unpickled object exists and denotes the same pure value. -/
theorem pickle_equal (ct : ClassTable) (hct : CTOk ct) (objs : Oid → Option Obj)
    (n : Nat) (v : Val) (hv : Within ct PickleOK objs n v)
    (objs0 : Oid → Option Obj) (next0 : Nat) (hcl : Closed objs0 next0) :
    ∃ objs' next' v', pickleRoundTrip ct n objs v objs0 next0 = some (objs', next', v') ∧
      (∀ m, abs objs' m v' = abs objs m v) ∧ (∀ y, y < next0 → objs' y = objs0 y) ∧
      Closed objs' next' := by
  obtain ⟨t, ht, hok, habs⟩ := serialise_spec ct objs n v hv
  obtain ⟨⟨st', v'⟩, hr⟩ := (rebuild_succeeds ct hct).1 t hok ⟨objs0, next0, []⟩
  obtain ⟨hE, _, hrabs⟩ := (rebuild_spec ct).1 t ⟨objs0, next0, []⟩ st' v' hcl.bound hr
  refine ⟨st'.objs, st'.next, v', by simp only [pickleRoundTrip, ht, hr], fun m => ?_, hE.old,
    hE.closed_heap hcl⟩
  rw [habs m]
  exact hrabs hok st'.objs (fun _ _ _ => rfl) m

/-- Instance of the hypotheses of `pickle_equal` (`CTOk`, `Within ct PickleOK`, a closed target
heap): unpickling into a fresh interpreter … -/
example : ∃ objs' next' v',
    pickleRoundTrip Ex.ct 3 Ex.heap (.ref 0) (fun _ => none) 0 = some (objs', next', v') ∧
    (∀ m, abs objs' m v' = abs Ex.heap m (.ref 0)) ∧ (∀ y, y < 0 → objs' y = none) ∧
    Closed objs' next' :=
  pickle_equal Ex.ct Ex.ct_ok Ex.heap 3 (.ref 0) Ex.heap_pickleOK (fun _ => none) 0 Ex.empty_closed

/-- … and into the interpreter that holds the original. -/
example : ∃ objs' next' v',
    pickleRoundTrip Ex.ct 3 Ex.heap (.ref 0) Ex.heap 3 = some (objs', next', v') ∧
    (∀ m, abs objs' m v' = abs Ex.heap m (.ref 0)) ∧ (∀ y, y < 3 → objs' y = Ex.heap y) ∧
    Closed objs' next' :=
  pickle_equal Ex.ct Ex.ct_ok Ex.heap 3 (.ref 0) Ex.heap_pickleOK Ex.heap 3 Ex.heap_closed

/-- Pickle round trip disjoint: everything reachable from the unpickled object was allocated by the
unpickling — nothing at all is shared with the target heap (not even immutable node objects). -/
theorem pickle_disjoint (ct : ClassTable) (hct : CTOk ct) (objs : Oid → Option Obj)
    (n : Nat) (v : Val) (objs0 : Oid → Option Obj) (next0 : Nat) (hcl : Closed objs0 next0)
    (objs' : Oid → Option Obj) (next' : Nat) (v' : Val)
    (h : pickleRoundTrip ct n objs v objs0 next0 = some (objs', next', v')) :
    ∀ y, Reach objs' v' y → next0 ≤ y := by
  obtain ⟨t, st, _, hr, rfl, rfl⟩ := pickleRoundTrip_inv h
  obtain ⟨hE, hv, _⟩ := (rebuild_spec ct).1 t ⟨objs0, next0, []⟩ _ _ hcl.bound hr
  intro y hy
  exact reach_closed (fun y => next0 ≤ y) (fun x o hx ho _ hz => (hE.closed x o hx ho _ hz).1) hy
    (fun x hx => by subst hx; exact hv.1)

/-- Instance of the hypothesis `h` of `pickle_disjoint`: the round trip of the swarm at oid 0 into
its own interpreter yields the copy at oid 3; five objects are allocated (the swarm, the individual
and fitness made by `init_type`, and the unpickled individual and fitness that replace them). -/
example : (pickleRoundTrip Ex.ct 3 Ex.heap (.ref 0) Ex.heap 3).map (fun r => (r.2.1, r.2.2))
    = some (8, .ref 3) := by
  decide +kernel

example : ∃ objs' next' v',
    pickleRoundTrip Ex.ct 3 Ex.heap (.ref 0) Ex.heap 3 = some (objs', next', v') ∧
    ∀ y, Reach objs' v' y → 3 ≤ y := by
  obtain ⟨objs', next', v', h, _⟩ :=
    pickle_equal Ex.ct Ex.ct_ok Ex.heap 3 (.ref 0) Ex.heap_pickleOK Ex.heap 3 Ex.heap_closed
  exact ⟨objs', next', v', h,
    pickle_disjoint Ex.ct Ex.ct_ok Ex.heap 3 (.ref 0) Ex.heap 3 Ex.heap_closed objs' next' v' h⟩

/-- The unpickled class is equivalent to the pickled description — whatever the loading module has
bound to `name`, in particular a *different* class of the same name. -/
theorem meta_create_equivalent (m : Module) (name : Name) (ci : ClassInfo) :
    (metaCreate m name ci).1.classes[(metaCreate m name ci).2]? = some ci := by
  simp [metaCreate]

/-- `meta_create` makes a *new* class object and leaves the existing ones (hence their instances)
untouched. -/
theorem meta_create_keeps_old (m : Module) (name : Name) (ci : ClassInfo) :
    (metaCreate m name ci).2 = m.classes.length ∧
    ∀ c, c < m.classes.length → (metaCreate m name ci).1.classes[c]? = m.classes[c]? := by
  refine ⟨rfl, fun c hc => ?_⟩
  exact List.getElem?_append_left hc

/-- … so an instance of an existing class sees the same class attributes as before. -/
theorem meta_create_old_instances (m : Module) (name : Name) (ci : ClassInfo)
    (objs : Oid → Option Obj) (x : Oid) (o : Obj) (ho : objs x = some o)
    (hc : o.cls < m.classes.length) (k : Name) :
    getattr (metaCreate m name ci).1.classes objs x k = getattr m.classes objs x k := by
  simp only [getattr, ho, (meta_create_keeps_old m name ci).2 o.cls hc]

/-- `globals()[name] = class_`: the name is bound to the new class, every other name keeps its
binding. -/
theorem meta_create_rebinds (m : Module) (name : Name) (ci : ClassInfo) :
    lookup name (metaCreate m name ci).1.bound = some (metaCreate m name ci).2 ∧
    ∀ k, k ≠ name → lookup k (metaCreate m name ci).1.bound = lookup k m.bound := by
  refine ⟨by simp [metaCreate, lookup], fun k hk => ?_⟩
  show lookup k ((name, m.classes.length) :: m.bound.filter (fun p => p.1 != name)) = lookup k m.bound
  rw [lookup_cons, if_neg (fun e => hk e.symm), lookup_filter_ne k name hk]

/-- Class round trip: a class of the module `m`, pickled (`MetaCreator.__reduce__`) and unpickled
(`meta_create`) in ANY module `m'`, is a new class with the same description as the original; the
classes of `m'` are untouched and the name is bound to the new class. -/
theorem class_roundtrip (m m' : Module) (c : ClsId) (name : Name) (ci : ClassInfo)
    (hci : m.classes[c]? = some ci) :
    ∃ nm d, classReduce m c name = some (nm, d) ∧ nm = name ∧
      (metaCreate m' nm d).1.classes[(metaCreate m' nm d).2]? = some ci ∧
      (metaCreate m' nm d).2 = m'.classes.length ∧
      (∀ c', c' < m'.classes.length → (metaCreate m' nm d).1.classes[c']? = m'.classes[c']?) ∧
      lookup name (metaCreate m' nm d).1.bound = some (metaCreate m' nm d).2 ∧
      (∀ k, k ≠ name → lookup k (metaCreate m' nm d).1.bound = lookup k m'.bound) := by
  refine ⟨name, ci, by simp [classReduce, hci], rfl, meta_create_equivalent m' name ci,
    (meta_create_keeps_old m' name ci).1, (meta_create_keeps_old m' name ci).2,
    (meta_create_rebinds m' name ci).1, (meta_create_rebinds m' name ci).2⟩

/-- Instance of the hypothesis of `class_roundtrip`, with a target module that already binds the
name to a class with another `dict_cls` … -/
example : ∃ nm d, classReduce Ex.modSrc 1 5 = some (nm, d) ∧
    (metaCreate Ex.modDst nm d).1.classes[(metaCreate Ex.modDst nm d).2]?
      = some ⟨.plain, [(1, 0)], [(9, .atom 3)]⟩ := by
  obtain ⟨nm, d, h, _, h1, _⟩ := class_roundtrip Ex.modSrc Ex.modDst 1 5 _ rfl
  exact ⟨nm, d, h, h1⟩

/-- … and the evaluation: the unpickled class is class 1 of the target module and carries the
pickled `dict_cls` (`9 ↦ 3`); class 0, to which the name 5 was bound, still has its own
(`9 ↦ 4`); the name 5 is now bound to class 1. -/
example : (classReduce Ex.modSrc 1 5).map (fun r =>
      let m := metaCreate Ex.modDst r.1 r.2
      (m.2, m.1.classes[m.2]?, m.1.classes[0]?, lookup 5 m.1.bound))
    = some (1, some ⟨.plain, [(1, 0)], [(9, .atom 3)]⟩, some ⟨.plain, [], [(9, .atom 4)]⟩, some 1) := by
  decide +kernel

/-- Whatever is created (re-created under a bound name: `creator.create` only warns) or deleted
between a dump and a load, the class objects that existed stay what they were — so their instances
keep their class — and the table stays well-founded. -/
theorem namespace_history_keeps_classes (m0 : Module) (hct : CTOk m0.classes) (ops : List NsOp) :
    CTOk (nsRun m0 ops).classes ∧ m0.classes.length ≤ (nsRun m0 ops).classes.length ∧
    ∀ c, c < m0.classes.length → (nsRun m0 ops).classes[c]? = m0.classes[c]? := by
  obtain ⟨_, _, _, _, _, hk⟩ := nsRun_spec ops m0
  exact ⟨hk hct, nsRun_classes m0 ops⟩

/-- Instance of the hypothesis: a history that re-creates the name 5 with other class-level values,
deletes it, and creates it once more. -/
example : CTOk (nsRun Ex.modSrc [.create 5 ⟨.plain, [(1, 0)], [(9, .atom 77)]⟩, .delete 5,
    .create 5 ⟨.plain, [], []⟩]).classes :=
  (namespace_history_keeps_classes Ex.modSrc Ex.ct_ok _).1

example : (let m := nsRun Ex.modSrc [.create 5 ⟨.plain, [(1, 0)], [(9, .atom 77)]⟩, .delete 5,
      .create 5 ⟨.plain, [], []⟩]
    (m.classes.length, m.classes[1]?, lookup 5 m.bound, m.names))
    = (5, some ⟨.plain, [(1, 0)], [(9, .atom 3)]⟩, some 4, [4, 5, 6, 5, 5]) := by
  decide +kernel

/-- **Class identity across pickling.**  `m` is the `deap.creator` module of the dumping interpreter
(`nb` = number of classes that pickle by reference), `v` a picklable object graph in it.  The load
happens in a module reached from ANY module `m0` that has the same by-reference classes (the dumping
module itself: same interpreter; a module with those classes only: fresh interpreter) by ANY sequence
`ops` of `creator.create` / `del creator.<name>` — in particular re-creations of the dumped object's
class names with the same base and attribute names and other weights, typecode or class-level
constants.  Then the load succeeds, and

* the loaded heap is exactly the heap obtained by unpickling under the dumper's own class table
  (`pickleRoundTrip`, which `pickle_equal` shows equal to the original at every depth) with every
  class id replaced by the id of a class made by this very load;
* that class carries the PICKLED record: the same kind (base), the same class-level attributes
  (`dictCls`: weights, typecode, constants), the same per-instance attribute names, their classes
  being again re-created classes of the dump;
* a by-value class is never one of the classes the namespace held (`off ≤ tr c`): what the name is
  bound to at load time is not consulted;
* the classes of the loading module, hence of `m0`, are untouched. -/
theorem pickle_class_independent_of_namespace
    (m : Module) (nb : Nat) (hct : CTOk m.classes)
    (objs : Oid → Option Obj) (n : Nat) (v : Val) (hv : Within m.classes PickleOK objs n v)
    (m0 : Module) (hnb : nb ≤ m0.classes.length)
    (hpre : ∀ c, c < nb → m0.classes[c]? = m.classes[c]?) (ops : List NsOp)
    (objs0 : Oid → Option Obj) (next0 : Nat) (hcl : Closed objs0 next0) :
    ∃ P m'' objs' next' v' objsS,
      dumpP m nb objs n v = some P ∧
      loadP (nsRun m0 ops) P objs0 next0 = some (m'', objs', next', v') ∧
      pickleRoundTrip m.classes n objs v objs0 next0 = some (objsS, next', v') ∧
      (∀ k, abs objsS k v' = abs objs k v) ∧
      (∀ x, objs' x = if x < next0 then objs0 x
          else (objsS x).map (retag (trLoad nb (nsRun m0 ops).classes.length))) ∧
      (∀ c ci, m.classes[c]? = some ci →
        m''.classes[trLoad nb (nsRun m0 ops).classes.length c]?
          = some (retagInfo (trLoad nb (nsRun m0 ops).classes.length) ci)) ∧
      (∀ c, nb ≤ c → (nsRun m0 ops).classes.length ≤ trLoad nb (nsRun m0 ops).classes.length c) ∧
      (∀ c, c < (nsRun m0 ops).classes.length → m''.classes[c]? = (nsRun m0 ops).classes[c]?) ∧
      (∀ c, c < m0.classes.length → m''.classes[c]? = m0.classes[c]?) := by
  obtain ⟨hk1, hk2⟩ := nsRun_classes m0 ops
  obtain ⟨hnb', hpre'⟩ := nsRun_byRef hnb hpre ops
  obtain ⟨objsS, nextS, vS, hrt, habs, hold, _⟩ := pickle_equal m.classes hct objs n v hv objs0 next0 hcl
  obtain ⟨t, stS, hser, hreb, rfl, rfl⟩ := pickleRoundTrip_inv hrt
  obtain ⟨objs', hload, hobjs⟩ := loadP_sim (P := ⟨nb, m.classes, m.names, t⟩) hct hnb' hpre' hcl.bound hreb
  refine ⟨_, _, objs', stS.next, vS, stS.objs, by simp only [dumpP, hser], hload, hrt, habs, fun x => ?_,
    tableMap_loadClasses (P := ⟨nb, m.classes, m.names, t⟩) hct hnb' hpre', fun c hc => trLoad_ge _ hc,
    fun c hc => ?_, fun c hc => ?_⟩
  · rw [hobjs x]
    split
    · exact hold x ‹_›
    · rfl
  · rw [loadClasses_classes]
    exact List.getElem?_append_left hc
  · rw [loadClasses_classes, List.getElem?_append_left (Nat.lt_of_lt_of_le hc hk1)]
    exact hk2 c hc

/-- Instance of the hypotheses of `pickle_class_independent_of_namespace`: the swarm of `Ex.heap`,
dumped in `Ex.modSrc` (no by-reference classes) and loaded in the same module after the name 5 — the
individual's class, `dict_cls` `9 ↦ 3` — was re-created with the same attribute names and `9 ↦ 77`. -/
example : ∃ P m'' objs' next' v' objsS,
    dumpP Ex.modSrc 0 Ex.heap 3 (.ref 0) = some P ∧
    loadP (nsRun Ex.modSrc [.create 5 ⟨.plain, [(1, 0)], [(9, .atom 77)]⟩]) P Ex.heap 3
      = some (m'', objs', next', v') ∧
    pickleRoundTrip Ex.ct 3 Ex.heap (.ref 0) Ex.heap 3 = some (objsS, next', v') ∧
    (∀ c ci, Ex.ct[c]? = some ci → m''.classes[trLoad 0 4 c]? = some (retagInfo (trLoad 0 4) ci)) := by
  obtain ⟨P, m'', objs', next', v', objsS, h1, h2, h3, _, _, h6, _⟩ :=
    pickle_class_independent_of_namespace Ex.modSrc 0 Ex.ct_ok Ex.heap 3 (.ref 0) Ex.heap_pickleOK
      Ex.modSrc (Nat.zero_le _) (fun c hc => absurd hc (Nat.not_lt_zero c))
      [.create 5 ⟨.plain, [(1, 0)], [(9, .atom 77)]⟩] Ex.heap 3 Ex.heap_closed
  exact ⟨P, m'', objs', next', v', objsS, h1, h2, h3, h6⟩

/-- … and the evaluation: the loaded swarm (oid 3) is an instance of class 6 = 4 + 2, its individual
(oid 6) of class 5 = 4 + 1, which carries the PICKLED `9 ↦ 3`, not the `9 ↦ 77` of the class that the
name 5 was bound to at load time (class 3); afterwards the name 5 is bound to the re-created class. -/
example : ((dumpP Ex.modSrc 0 Ex.heap 3 (.ref 0)).bind (fun P =>
      (loadP (nsRun Ex.modSrc [.create 5 ⟨.plain, [(1, 0)], [(9, .atom 77)]⟩]) P Ex.heap 3).map
        (fun r => (r.2.2.2, (r.2.1 3).map (·.cls), (r.2.1 6).map (·.cls)))))
    = some (.ref 3, some 6, some 5) := by
  decide +kernel

example : ((dumpP Ex.modSrc 0 Ex.heap 3 (.ref 0)).bind (fun P =>
      (loadP (nsRun Ex.modSrc [.create 5 ⟨.plain, [(1, 0)], [(9, .atom 77)]⟩]) P Ex.heap 3).map
        (fun r => (r.1.classes[5]?, r.1.classes[3]?, lookup 5 r.1.bound))))
    = some (some ⟨.plain, [(1, 4)], [(9, .atom 3)]⟩, some ⟨.plain, [(1, 0)], [(9, .atom 77)]⟩,
        some 5) := by
  decide +kernel

/-- The loaded ROOT object, spelled out: it is an instance of a class made by the load, whose
record is the pickled one — whatever the namespace went through. -/
theorem loaded_object_class_record
    (m : Module) (nb : Nat) (hct : CTOk m.classes)
    (objs : Oid → Option Obj) (n : Nat) (x : Oid) (o : Obj) (ci : ClassInfo)
    (hv : Within m.classes PickleOK objs n (.ref x)) (ho : objs x = some o)
    (hci : m.classes[o.cls]? = some ci)
    (m0 : Module) (hnb : nb ≤ m0.classes.length)
    (hpre : ∀ c, c < nb → m0.classes[c]? = m.classes[c]?) (ops : List NsOp)
    (objs0 : Oid → Option Obj) (next0 : Nat) (hcl : Closed objs0 next0) :
    ∃ P m'' objs' next' x' o',
      dumpP m nb objs n (.ref x) = some P ∧
      loadP (nsRun m0 ops) P objs0 next0 = some (m'', objs', next', .ref x') ∧
      next0 ≤ x' ∧ objs' x' = some o' ∧ o'.items.length = o.items.length ∧
      o'.cls = trLoad nb (nsRun m0 ops).classes.length o.cls ∧
      (nb ≤ o.cls → (nsRun m0 ops).classes.length ≤ o'.cls) ∧
      ∃ ci', m''.classes[o'.cls]? = some ci' ∧ ci'.kind = ci.kind ∧ ci'.dictCls = ci.dictCls ∧
        ci'.dictInst.map (·.1) = ci.dictInst.map (·.1) := by
  obtain ⟨P, m'', objs', next', v', objsS, h1, h2, h3, h4, h5, h6, h7, _, _⟩ :=
    pickle_class_independent_of_namespace m nb hct objs n (.ref x) hv m0 hnb hpre ops objs0 next0 hcl
  -- the reference copy: a reference to a fresh object of the original's class
  obtain ⟨x', oS, rfl, hS, hcls, _, hitems, _⟩ := abs_ref_inv ho (h4 1)
  have hfresh : next0 ≤ x' :=
    pickle_disjoint m.classes hct objs n (.ref x) objs0 next0 hcl objsS next' (.ref x') h3 x' (Reach.here x')
  have hx' : objs' x' = some (retag (trLoad nb (nsRun m0 ops).classes.length) oS) := by
    rw [h5 x', if_neg (Nat.not_lt.2 hfresh), hS]
    rfl
  have hcls' : (retag (trLoad nb (nsRun m0 ops).classes.length) oS).cls
      = trLoad nb (nsRun m0 ops).classes.length o.cls :=
    congrArg (trLoad nb (nsRun m0 ops).classes.length) hcls
  refine ⟨P, m'', objs', next', x', _, h1, h2, hfresh, hx', ?_, hcls', fun hge => hcls' ▸ h7 _ hge,
    retagInfo (trLoad nb (nsRun m0 ops).classes.length) ci, hcls' ▸ h6 _ _ hci, rfl, rfl, ?_⟩
  · simpa [retag] using congrArg List.length hitems
  · simp [retagInfo, Function.comp_def]

/-- Instance of the hypotheses of `loaded_object_class_record` (the swarm of `Ex.heap` at oid 0, of
class 2), with a history that deletes the name of its class and creates it anew. -/
example : ∃ P m'' objs' next' x' o',
    dumpP Ex.modSrc 0 Ex.heap 3 (.ref 0) = some P ∧
    loadP (nsRun Ex.modSrc [.delete 6, .create 6 ⟨.plain, [], [(9, .atom 1)]⟩]) P Ex.heap 3
      = some (m'', objs', next', .ref x') ∧ 3 ≤ x' ∧ objs' x' = some o' := by
  obtain ⟨P, m'', objs', next', x', o', h1, h2, h3, h4, _⟩ :=
    loaded_object_class_record Ex.modSrc 0 Ex.ct_ok Ex.heap 3 0 _ _ Ex.heap_pickleOK rfl rfl
      Ex.modSrc (Nat.zero_le _) (fun c hc => absurd hc (Nat.not_lt_zero c))
      [.delete 6, .create 6 ⟨.plain, [], [(9, .atom 1)]⟩] Ex.heap 3 Ex.heap_closed
  exact ⟨P, m'', objs', next', x', o', h1, h2, h3, h4⟩

/-- The identity-free form: every class of the dump — the loaded objects' classes and, through
`dict_inst`, the classes of their per-instance attributes — is described after the load by the same
words (`__name__`, base kind, class-level attributes, per-instance attribute names and THEIR classes'
descriptions) as in the dumping module, for every namespace history. -/
theorem pickle_class_description
    (m : Module) (nb : Nat) (hct : CTOk m.classes) (hwf : m.names.length = m.classes.length)
    (m0 : Module) (hwf0 : m0.names.length = m0.classes.length) (hnb : nb ≤ m0.classes.length)
    (hpre : ∀ c, c < nb → m0.classes[c]? = m.classes[c]?)
    (hpren : ∀ c, c < nb → m0.names[c]? = m.names[c]?) (ops : List NsOp) (t : PT) :
    ∀ (k : Nat) (c : ClsId), c < m.classes.length →
      describe (loadClasses (nsRun m0 ops) ⟨nb, m.classes, m.names, t⟩).classes
          (loadClasses (nsRun m0 ops) ⟨nb, m.classes, m.names, t⟩).names k
          (trLoad nb (nsRun m0 ops).classes.length c)
        = describe m.classes m.names k c := by
  obtain ⟨hnb', hpre'⟩ := nsRun_byRef hnb hpre ops
  obtain ⟨hwf', hn2⟩ := nsRun_names m0 ops hwf0
  exact describe_map hct (tableMap_loadClasses (P := ⟨nb, m.classes, m.names, t⟩) hct hnb' hpre')
    (names_load _ ⟨nb, m.classes, m.names, t⟩ hwf' hwf hnb'
      fun c hc => (hn2 c (Nat.lt_of_lt_of_le hc hnb)).trans (hpren c hc))

/-- Instance of the hypotheses of `pickle_class_description`: dumped in `Ex.modSrc`, loaded there after
all three names were re-created with other values. -/
example : ∀ k c, c < 3 →
    describe (loadClasses (nsRun Ex.modSrc [.create 4 ⟨.fitness, [], [(7, .atom 1)]⟩,
        .create 5 ⟨.plain, [(1, 3)], [(9, .atom 77)]⟩, .create 6 ⟨.ctor, [(2, 4)], []⟩])
        ⟨0, Ex.modSrc.classes, Ex.modSrc.names, .atom 0⟩).classes
      (loadClasses (nsRun Ex.modSrc [.create 4 ⟨.fitness, [], [(7, .atom 1)]⟩,
        .create 5 ⟨.plain, [(1, 3)], [(9, .atom 77)]⟩, .create 6 ⟨.ctor, [(2, 4)], []⟩])
        ⟨0, Ex.modSrc.classes, Ex.modSrc.names, .atom 0⟩).names k
      (trLoad 0 (nsRun Ex.modSrc [.create 4 ⟨.fitness, [], [(7, .atom 1)]⟩,
        .create 5 ⟨.plain, [(1, 3)], [(9, .atom 77)]⟩, .create 6 ⟨.ctor, [(2, 4)], []⟩]).classes.length c)
    = describe Ex.modSrc.classes Ex.modSrc.names k c :=
  pickle_class_description Ex.modSrc 0 Ex.ct_ok rfl Ex.modSrc rfl (Nat.zero_le _)
    (fun c hc => absurd hc (Nat.not_lt_zero c)) (fun c hc => absurd hc (Nat.not_lt_zero c)) _ (.atom 0)

/-- The evaluation: the swarm class
(class 2, named 6) is described by the same words in the module it was dumped in and in a module in
which all three names were re-created with other values before the load. -/
example : describe Ex.modSrc.classes Ex.modSrc.names 3 2
    = some (.mk 6 .ctor [(2, .mk 5 .plain [(1, .mk 4 .fitness [] [(7, .atom (-1))])] [(9, .atom 3)])] []) := by
  rfl

example : (let m' := nsRun Ex.modSrc [.create 4 ⟨.fitness, [], [(7, .atom 1)]⟩,
      .create 5 ⟨.plain, [(1, 3)], [(9, .atom 77)]⟩, .create 6 ⟨.ctor, [(2, 4)], []⟩]
    let m'' := loadClasses m' ⟨0, Ex.modSrc.classes, Ex.modSrc.names, .atom 0⟩
    (describe m'.classes m'.names 3 5, describe m''.classes m''.names 3 (trLoad 0 6 2)))
    = (some (.mk 6 .ctor [(2, .mk 5 .plain [(1, .mk 4 .fitness [] [(7, .atom 1)])] [(9, .atom 77)])] []),
       some (.mk 6 .ctor [(2, .mk 5 .plain [(1, .mk 4 .fitness [] [(7, .atom (-1))])] [(9, .atom 3)])] [])) := by
  rfl

/-- **Node round trip.**  For every primitive set, every history of `renameArguments` calls before
the dump and every tree over the node objects of the set: each node comes back from
`__getstate__` / `__setstate__` with every slot — `name`, `value`, `ret`, `conv_fct` of a terminal,
`name`, `arity`, `args`, `ret`, `seq` of a primitive — as it was, set or unset. -/
theorem node_pickle_roundtrip (ps0 ps : Gp.PSet) (hist : List (List (Int × Int)))
    (_hh : Gp.renameHistory ps0 hist = some ps) (tree : List Nat) (nodes : List Gp.Node)
    (ht : Gp.treeNodes ps tree = some nodes) :
    Gp.treeRoundTrip ps tree = some nodes ∧ ∀ n ∈ nodes, Gp.loadNode (Gp.dumpNode n) = n := by
  refine ⟨?_, fun n _ => Gp.loadNode_dumpNode n⟩
  simp only [Gp.treeRoundTrip, ht, Gp.loadNode_dumpNode, List.map_id']

/-- Instance of the hypotheses of `node_pickle_roundtrip`: `ARG0` renamed to 200, then `ARG1` to the
old name of the first argument; the tree `add(ARG0, ARG1)`.  After the history the first argument's
terminal has `name = 100` and `value = 200`: `name` is NOT a function of `value`. -/
example : Gp.renameHistory Gp.exPset [[(100, 200)], [(101, 100)]]
    = some { nodes := [.term (some 100) (some 200) (some 7) (some 8),
                       .term (some 101) (some 100) (some 7) (some 8),
                       .prim (some 5) (some 2) (some 9) (some 7) (some 10)],
             arguments := [200, 100], mapping := [(5, 2), (200, 0), (100, 1)] } := by
  decide +kernel

example : ∃ ps nodes, Gp.renameHistory Gp.exPset [[(100, 200)], [(101, 100)]] = some ps ∧
    Gp.treeNodes ps [2, 0, 1] = some nodes ∧ Gp.treeRoundTrip ps [2, 0, 1] = some nodes := by
  refine ⟨_, _, rfl, rfl, ?_⟩
  exact (node_pickle_roundtrip Gp.exPset _ [[(100, 200)], [(101, 100)]] rfl [2, 0, 1] _ rfl).1

/-- `renameArguments` writes `value` and the key in `mapping`, never a `name` slot: along every
history every node object keeps its `name` (while the example above shows `value` changing) — a
loader that recomputes `name` from `value` cannot be right after a renaming. -/
theorem rename_keeps_node_names (ps0 ps : Gp.PSet) (hist : List (List (Int × Int)))
    (h : Gp.renameHistory ps0 hist = some ps) :
    ps.nodes.map Gp.Node.name = ps0.nodes.map Gp.Node.name :=
  Gp.renameHistory_names hist ps0 ps h

example : ∃ ps, Gp.renameHistory Gp.exPset [[(100, 101), (101, 100)]] = some ps ∧
    ps.nodes.map Gp.Node.name = [some 100, some 101, some 5] ∧
    ps.nodes.map Gp.Node.value = [some 101, some 100, none] := by
  refine ⟨_, rfl, ?_, ?_⟩ <;> decide +kernel

/-- An alias calls the registered function with the frozen positional arguments followed by the
call's own, and the frozen keyword arguments overridden/extended by the call's. -/
theorem partial_call {F A R : Type} (apply : F → List A → List (Name × A) → R)
    (tb : List (Name × Partial F A)) (alias : Name) (f : F) (args : List A) (kw : List (Name × A))
    (callArgs : List A) (callKw : List (Name × A)) :
    call apply (register tb alias f args kw) alias callArgs callKw
      = some (apply f (args ++ callArgs) (kwMerge kw callKw)) := by
  simp [call, register, lookup, callPartial]

/-- Decoration keeps the frozen arguments: after `decorate alias d₁ … dₙ` the alias calls
`dₙ (… (d₁ f))` with the same frozen arguments followed by the call's own. -/
theorem decorate_keeps_frozen {F A R : Type} (apply : F → List A → List (Name × A) → R)
    (tb : List (Name × Partial F A)) (alias : Name) (f : F) (args : List A) (kw : List (Name × A))
    (ds : List (F → F)) (callArgs : List A) (callKw : List (Name × A)) :
    (decorate (register tb alias f args kw) alias ds).bind
        (fun tb' => call apply tb' alias callArgs callKw)
      = some (apply (ds.foldl (fun g d => d g) f) (args ++ callArgs) (kwMerge kw callKw)) := by
  simp [decorate, call, register, lookup, callPartial]

/-- The common hypotheses of `clone_equal`, `clone_disjoint`, `clone_shares_no_mutable`,
`write_independent` and `clone_chain` hold together for a concrete class table, heap and value. -/
example : CTOk Ex.ct ∧ DictNodup Ex.ct ∧ Closed Ex.heap 3 ∧ Within Ex.ct CopyOK Ex.heap 3 (.ref 0) :=
  ⟨Ex.ct_ok, Ex.ct_nodup, Ex.heap_closed, Ex.heap_copyOK⟩

example : ∃ objs' next' v', clone Ex.ct 3 Ex.heap 3 (.ref 0) = some (objs', next', v') ∧
    ∀ m, abs objs' m v' = abs Ex.heap m (.ref 0) := by
  obtain ⟨o, n, v, h, h1, _⟩ := clone_equal Ex.ct Ex.ct_ok Ex.ct_nodup Ex.heap 3 Ex.heap_closed 3 (.ref 0)
    Ex.heap_copyOK
  exact ⟨o, n, v, h, h1⟩

example : ∃ objs' next' vs, cloneChain Ex.ct 3 5 Ex.heap 3 (.ref 0) = some (objs', next', vs) ∧
    vs.length = 5 := by
  obtain ⟨o, n, vs, h, h1, _⟩ := clone_chain Ex.ct Ex.ct_ok Ex.ct_nodup Ex.heap 3 Ex.heap_closed 3 (.ref 0)
    Ex.heap_copyOK 5
  exact ⟨o, n, vs, h, h1⟩

/-- The hypothesis `h` of `clone_disjoint` / `clone_shares_no_mutable` / `write_independent`: the
clone of the swarm exists (copy at oid 3; `init_type` allocates 4 and 5, the deep copies of the
individual and its fitness 6 and 7). -/
example : (clone Ex.ct 3 Ex.heap 3 (.ref 0)).map (fun r => (r.2.1, r.2.2)) = some (8, .ref 3) := by
  decide +kernel

example : (cloneChain Ex.ct 3 2 Ex.heap 3 (.ref 0)).map (fun r => (r.2.1, r.2.2))
    = some (13, [.ref 3, .ref 8]) := by
  decide +kernel

section InitFns
open Init

/-- `initRepeat(container, func, n)`: `func` is called exactly `n` times, one call after the other (the generator expression is the
call sequence `func, func, …, func`), and the container receives the `n` results in call order: the `i`-th element is what `func`
returned on the state its first `i` calls left behind. -/
theorem initRepeat_calls {σ α γ : Type} (container : List α → γ) (func : Func σ α) (n : Nat) (s : σ) :
    initRepeat container func n s =
      ((runCalls (List.replicate n func) s).1, container (runCalls (List.replicate n func) s).2) ∧
    (repeatCalls func n s).2.length = n ∧
    (∀ i, i < n → (repeatCalls func n s).2[i]? = some (func (repeatCalls func i s).1).2) := by
  refine ⟨by simp [initRepeat, repeatCalls_eq], by simp [repeatCalls_eq, runCalls_length], fun i hi => ?_⟩
  rw [repeatCalls_eq, runCalls_get, repeatCalls_eq]
  simp [hi, Nat.min_eq_left (Nat.le_of_lt hi)]

def counter : Func Nat Nat := fun k => (k + 1, k)

example : initRepeat (fun l => l) counter 4 10 = (14, [10, 11, 12, 13]) := by decide +kernel

/-- `initCycle(container, seq_func, n)`: `n` passes over the function sequence, every pass calling the functions in their order —
the calls are `seq_func` repeated `n` times —, `n * len(seq_func)` results in call order. -/
theorem initCycle_calls {σ α γ : Type} (container : List α → γ) (fs : List (Func σ α)) (n : Nat) (s : σ) :
    initCycle container fs n s =
      ((runCalls (List.replicate n fs).flatten s).1, container (runCalls (List.replicate n fs).flatten s).2) ∧
    (cycleCalls fs n s).2.length = n * fs.length ∧
    (∀ i : Nat, (cycleCalls fs n s).2[i]? =
      ((List.replicate n fs).flatten[i]?).map
        (fun (f : Func σ α) => (f (runCalls ((List.replicate n fs).flatten.take i) s).1).2)) := by
  refine ⟨by simp [initCycle, cycleCalls_eq], by simp [cycleCalls_eq, runCalls_length], fun i => ?_⟩
  rw [cycleCalls_eq, runCalls_get]

/-- two functions sharing one counter: the second returns the count times ten -/
example : initCycle (fun l => l) [counter, fun k => (k + 1, 10 * k)] 3 0 = (6, [0, 10, 2, 30, 4, 50]) := by decide +kernel

/-- `initIterate(container, generator)`: the generator is called once and the container receives exactly what it returned. -/
theorem initIterate_spec {σ α γ : Type} (container : List α → γ) (generator : Func σ (List α)) (s : σ) :
    initIterate container generator s = ((generator s).1, container (generator s).2) := rfl

example : initIterate List.length (fun k => (k + 1, [k, k, k])) 5 = (6, 3) := by decide +kernel

/-- The C16 clause for individuals built by the initialisers: two consecutive `initRepeat(creator.C, func, n)` yield two objects
whose items are the results of the `n` + `n` calls in call order (the second individual continues where the first one's calls
stopped) and whose per-instance attributes are freshly constructed — everything `fresh_attrs` says about two `create`s. -/
theorem initRepeat_fresh_attrs {τ : Type} (ct : ClassTable) (objs : Oid → Option Obj) (next : Nat) (memo : List (Oid × Oid))
    (hcl : Closed objs next) (c : ClsId) (ci : ClassInfo) (hci : ct[c]? = some ci)
    (func : Func τ Val) (n : Nat) (t t1 t2 : τ) (st1 st2 : State) (x1 x2 : Oid)
    (h1 : initRepeatCls ct c func n t ⟨objs, next, memo⟩ = some (t1, st1, x1))
    (h2 : initRepeatCls ct c func n t1 st1 = some (t2, st2, x2)) :
    t1 = (runCalls (List.replicate n func) t).1 ∧ t2 = (runCalls (List.replicate (n + n) func) t).1 ∧
    ∃ o1 o2, st2.objs x1 = some o1 ∧ st2.objs x2 = some o2 ∧
      o1.items ++ o2.items = (runCalls (List.replicate (n + n) func) t).2 ∧ o1.items.length = n ∧
      (∀ p ∈ ci.dictInst, (ci.kind = .cfitness → p.1 ≠ cvName) →
          ∃ y1 y2, lookup p.1 o1.attrs = some (.ref y1) ∧
          lookup p.1 o2.attrs = some (.ref y2) ∧ next ≤ y1 ∧ y1 < st1.next ∧ st1.next ≤ y2) ∧
      (∀ k1 v1 k2 v2, lookup k1 o1.attrs = some v1 → lookup k2 o2.attrs = some v2 →
          ∀ y, Reach st2.objs v1 y → ¬ Reach st2.objs v2 y) := by
  obtain ⟨rfl, hc1⟩ := initRepeatCls_of_eq h1
  obtain ⟨rfl, hc2⟩ := initRepeatCls_of_eq h2
  obtain ⟨o1, o2, g1, g2, g3, g4, g5, g6, _⟩ :=
    fresh_attrs ct objs next memo hcl c ci hci _ _ st1 st2 x1 x2 hc1 hc2
  have hsplit : runCalls (List.replicate (n + n) func) t =
      ((runCalls (List.replicate n func) (runCalls (List.replicate n func) t).1).1,
       (runCalls (List.replicate n func) t).2 ++ (runCalls (List.replicate n func) (runCalls (List.replicate n func) t).1).2) := by
    rw [← List.replicate_append_replicate, runCalls_append]
  exact ⟨rfl, by rw [hsplit], o1, o2, g1, g2, by rw [g3, g4, hsplit],
    by rw [g3, runCalls_length, List.length_replicate], g5, g6⟩

/-- Instance of the hypotheses: the closed example heap, the swarm class (class 2) of the example table, a counting function
producing the atoms 7, 8, 9, … -/
example : ∃ ci t1 st1 x1 t2 st2 x2, Closed Ex.heap 3 ∧ Ex.ct[2]? = some ci ∧
    initRepeatCls Ex.ct 2 (fun k => (k + 1, Val.atom (Int.ofNat k))) 2 7 ⟨Ex.heap, 3, []⟩ = some (t1, st1, x1) ∧
    initRepeatCls Ex.ct 2 (fun k => (k + 1, Val.atom (Int.ofNat k))) 2 t1 st1 = some (t2, st2, x2) := by
  obtain ⟨st1, x1, h1⟩ := create_succeeds Ex.ct Ex.ct_ok ⟨Ex.heap, 3, []⟩ 2
    (repeatCalls (fun k => (k + 1, Val.atom (Int.ofNat k))) 2 7).2 (by decide)
  obtain ⟨st2, x2, h2⟩ := create_succeeds Ex.ct Ex.ct_ok st1 2
    (repeatCalls (fun k => (k + 1, Val.atom (Int.ofNat k))) 2 9).2 (by decide)
  refine ⟨_, 9, st1, x1, 11, st2, x2, Ex.heap_closed, rfl, ?_, ?_⟩
  · simp only [initRepeatCls]; rw [h1]; rfl
  · simp only [initRepeatCls]; rw [h2]; rfl

example : ((initRepeatCls Ex.ct 2 (fun k => (k + 1, Val.atom (Int.ofNat k))) 2 7 ⟨Ex.heap, 3, []⟩).bind
    (fun r => (r.2.1.objs r.2.2).map (fun o => (r.1, r.2.2, o.items)))) = some (9, 3, [.atom 7, .atom 8]) := by
  decide +kernel

end InitFns

/-- **Fresh attributes along the creator-MRO.**  Two consecutive instantiations of a creator class `d` that is
derived (through any number of levels) from creator classes: for every per-instance attribute declared by ANY
class on the creator-MRO of `d` (`mroDecl`: the class's own declarations, its created parent's, … — each
`init_type` runs its own closure dict and then `base.__init__`), each instance holds under that name a reference
to an object allocated by ITS OWN constructor call (never an older object, never the other instance's, never
something on the class); nothing reachable from an attribute of the first instance is reachable from an
attribute of the second; and what neither instance holds itself is looked up on the classes of the MRO, the same
for both.  (Guard as in `fresh_attrs`: the root `__init__` of a `ConstrainedFitness` sets
`constraint_violation = None` over a declaration of that very name.) -/
theorem derived_create_fresh_attrs (ct : ClassTable) (dt : DTable) (objs : Oid → Option Obj) (next : Nat)
    (memo : List (Oid × Oid)) (hcl : Closed objs next) (d : Nat) (dc : DClass) (hdc : dt[d]? = some dc)
    (items₁ items₂ : List Val) (st1 st2 : State) (x1 x2 : Oid)
    (h1 : createD ct dt ⟨objs, next, memo⟩ d items₁ = some (st1, x1))
    (h2 : createD ct dt st1 d items₂ = some (st2, x2)) :
    ∃ o1 o2, st2.objs x1 = some o1 ∧ st2.objs x2 = some o2 ∧ o1.items = items₁ ∧ o2.items = items₂ ∧
      (∀ p ∈ mroDecl dt d, (dc.kind = .cfitness → p.1 ≠ cvName) →
          ∃ y1 y2, lookup p.1 o1.attrs = some (.ref y1) ∧
          lookup p.1 o2.attrs = some (.ref y2) ∧ next ≤ y1 ∧ y1 < st1.next ∧ st1.next ≤ y2 ∧
          (st2.objs y1).isSome = true ∧ (st2.objs y2).isSome = true) ∧
      (∀ k1 v1 k2 v2, lookup k1 o1.attrs = some v1 → lookup k2 o2.attrs = some v2 →
          ∀ y, Reach st2.objs v1 y → ¬ Reach st2.objs v2 y) ∧
      (∀ k, lookup k o1.attrs = none → lookup k o2.attrs = none →
          getattrD ct dt st2.objs x1 k = getattrD ct dt st2.objs x2 k) := by
  obtain ⟨dc1, sb, sets1, hdc1, hx1, rfl, E1, S1⟩ :=
    createD_of_eq ct dt objs next memo d items₁ st1 x1 hcl.bound h1
  subst x1
  cases hdc.symm.trans hdc1
  obtain ⟨dc2, sc, sets2, hdc2, hx2, rfl, E2, S2⟩ :=
    createD_of_eq ct dt _ sb.next sb.memo d items₂ st2 x2
      (Bounded.reserve_define (st := ⟨objs, next, memo⟩) E1) h2
  subst x2
  cases hdc.symm.trans hdc2
  obtain ⟨hx1, hx2, hF, hdis⟩ := fresh_pair (st := ⟨objs, next, memo⟩)
    (o2 := ⟨clsOfD ct d, items₂, dictUpdate (setAll sets2 []) (baseInitAttrs dc.kind), dc.kind != .node⟩)
    E1 E2
  refine ⟨_, _, hx1, hx2, rfl, rfl, ?_, ?_, ?_⟩
  · intro p hp hguard
    obtain ⟨c, hc⟩ := lastDecl_isSome_of_mem (List.mem_map.2 ⟨p, hp, rfl⟩)
    obtain ⟨y1, o1, hl1, h11, h12, ho1, _⟩ := S1.lookup_setAll_of_decl hc
    obtain ⟨y2, o2, hl2, h21, _, ho2, _⟩ := S2.lookup_setAll_of_decl hc
    refine ⟨y1, y2, (lookup_newAttrs_of_guard hguard _).trans hl1,
      (lookup_newAttrs_of_guard hguard _).trans hl2, Nat.le_of_succ_le h11, h12, Nat.le_of_succ_le h21,
      ?_, ?_⟩
    · show (define sc.objs sb.next _ y1).isSome = true
      rw [hF y1 h12, define_ne _ _ _ (Nat.ne_of_gt h11), ho1]
      rfl
    · show (define sc.objs sb.next _ y2).isSome = true
      rw [define_ne _ _ _ (Nat.ne_of_gt h21), ho2]
      rfl
  · intro k1 v1 k2 v2 hl1 hl2
    exact hdis v1 v2 (newAttrs_ref (fun _ _ => S1.lookup_setAll_ref) hl1) (newAttrs_ref (fun _ _ => S2.lookup_setAll_ref) hl2)
  · intro k hk1 hk2
    simp only [getattrD, hx1, hx2, hk1, hk2]

/-- `exCt` / `exDt`: a chain of derived classes that redeclares one inherited name: `Fit` (class 0 of `exCt`),
`Ind = create(list, fitness=Fit, strategy=list)`, `Sub = create(Ind, bound=9)` (declares nothing),
`Sub2 = create(Sub, fitness=Fit, memo=list)` (redeclares one name, adds one). -/
def exCt : ClassTable := [⟨.fitness, [], []⟩, ⟨.plain, [], []⟩]
def exDt : DTable :=
  [⟨none, .plain, [(1, 0), (2, 1)], []⟩, ⟨some 0, .plain, [], [(9, .atom 9)]⟩, ⟨some 1, .plain, [(1, 0), (3, 1)], []⟩]

/-- Instance of the hypotheses of `derived_create_fresh_attrs` (class `Sub`, which declares nothing itself). -/
example : ∃ dc st1 x1 st2 x2, Closed (fun _ => none) 0 ∧ exDt[1]? = some dc ∧
    createD exCt exDt ⟨fun _ => none, 0, []⟩ 1 [.atom 1] = some (st1, x1) ∧
    createD exCt exDt st1 1 [.atom 2] = some (st2, x2) :=
  ⟨_, _, _, _, _, Ex.empty_closed, rfl, rfl, rfl⟩

/-- The parent's declarations reach the instance of the child that declares nothing … -/
example : mroDecl exDt 1 = [(1, 0), (2, 1)] := by decide +kernel
/-- … an instance of `Sub` holds its own `fitness` (oid 1) and `strategy` (oid 2), the next one oids 4 and 5 … -/
example : ((createD exCt exDt ⟨fun _ => none, 0, []⟩ 1 [.atom 1]).bind (fun r =>
    (createD exCt exDt r.1 1 [.atom 2]).map (fun r2 =>
      ((r2.1.objs 0).map (·.attrs), (r2.1.objs 3).map (·.attrs))))) =
    some (some [(1, .ref 1), (2, .ref 2)], some [(1, .ref 4), (2, .ref 5)]) := by decide +kernel
/-- … and for a redeclared name (`Sub2.fitness`) the value set LAST — the root-most class's — stays, in the
position of the first `setattr`; the object set first (oid 1) is garbage. -/
example : ((createD exCt exDt ⟨fun _ => none, 0, []⟩ 2 []).bind (fun r => (r.1.objs 0).map (·.attrs))) =
    some [(1, .ref 3), (3, .ref 2), (2, .ref 4)] := by decide +kernel
example : effClass exDt 2 1 = some 0 ∧ effDictInst (mroDecl exDt 2) = [(1, 0), (3, 1), (2, 1)] := by decide +kernel

/-- **Which declaration an instance keeps.**  If the name is declared on the creator-MRO of `d`, a new instance of
`d` holds under it a new object of the class given by the declaration executed LAST in the `__init__` chain
(`effClass`): the class's own loop runs first and `base.__init__` afterwards, so for a name declared on several
levels it is the declaration of the class NEAREST THE ROOT that the instance keeps — the model follows the code. -/
theorem derived_attr_class (ct : ClassTable) (dt : DTable) (objs : Oid → Option Obj) (next : Nat)
    (memo : List (Oid × Oid)) (hcl : Closed objs next) (d : Nat) (dc : DClass) (hdc : dt[d]? = some dc)
    (items : List Val) (st1 : State) (x1 : Oid)
    (h1 : createD ct dt ⟨objs, next, memo⟩ d items = some (st1, x1))
    (name : Name) (c : ClsId) (hc : effClass dt d name = some c)
    (hguard : dc.kind = .cfitness → name ≠ cvName) :
    ∃ o1 y oy, st1.objs x1 = some o1 ∧ lookup name o1.attrs = some (.ref y) ∧ next < y ∧
      st1.objs y = some oy ∧ oy.cls = c := by
  obtain ⟨dc1, sb, sets, hdc1, hx1, rfl, E, S⟩ :=
    createD_of_eq ct dt objs next memo d items st1 x1 hcl.bound h1
  subst x1
  cases hdc.symm.trans hdc1
  obtain ⟨y, oy, hv, hlo, _, hoy, hcls⟩ := S.lookup_setAll_of_decl hc
  refine ⟨_, y, oy, define_same _ _ _, (lookup_newAttrs_of_guard hguard _).trans hv, hlo, ?_, hcls⟩
  show define sb.objs next _ y = some oy
  rw [define_ne _ _ _ (Nat.ne_of_gt hlo)]
  exact hoy

/-- Instance of the hypotheses: `Sub2` redeclares `fitness` (name 1): the effective class is the root's. -/
example : ∃ dc st1 x1, Closed (fun _ => none) 0 ∧ exDt[2]? = some dc ∧
    createD exCt exDt ⟨fun _ => none, 0, []⟩ 2 [] = some (st1, x1) ∧ effClass exDt 2 1 = some 0 ∧
    (dc.kind = .cfitness → (1 : Name) ≠ cvName) :=
  ⟨_, _, _, Ex.empty_closed, rfl, rfl, by decide, fun _ => by decide⟩

end C16
