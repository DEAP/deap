/-
C12 — Compiled GP trees compute what the prefix tree denotes; printing round-trips.
Property theorems, with the fixtures of their `example`s and the helpers that rest on definitions of this file; models
`DeapModel/Core/GpCompile.lean` (printer, `from_string`, `evalTree`, `compile`,
`compileADF`) and `DeapModel/Core/PyExpr.lean` (tokenizer, parser and evaluator of the Python expression
sub-language the generated source lives in); helper lemmas `DeapModel/Lemmas/C12*.lean`.

What `eval` does with the source text is modelled, not assumed: `parse_compileSrc` proves that the model's parser reads
`lambda a,b: <render t>` back as `Lambda [a, b] (exprOfTree t)` for every tree, `evalPy_compile` / `evalSrc_compile`
that evaluating that AST in the namespace is `evalTree`, and `pyCompileADF_eq` lifts it through `compileADF`.

TRUSTED (not modelled): that CPython's tokenizer / parser / evaluator of `Name`, `Constant`, `Call`, `UnaryOp(USub)` and
`Lambda` nodes agree with `PyLang.parseExpr` / `PyLang.evalPy`.  The correspondence run compares, for every source DEAP
really hands to `eval`, the model's AST with `ast.parse` of CPython and the model's values with the compiled callable.
-/
import DeapModel.Lemmas.C12Str
import DeapModel.Lemmas.C12Tok
import DeapModel.Lemmas.C12Parse
import DeapModel.Lemmas.C12Adf
import DeapModel.Lemmas.C12Graph
import DeapModel.Lemmas.C12Sem
import DeapModel.Lemmas.C12PyTree
import DeapModel.Lemmas.C12Rename
import DeapModel.Lemmas.C11Semantic
import Mathlib.Analysis.SpecialFunctions.Exp

namespace C12
open GpTree GpCompile
open PyLang (PyExpr PyEnv PyObj parseExpr evalPy callPy evalSrc isIdent dump)

def pAdd : Prim := ⟨"add", 0, [0, 0], .prim, ""⟩
def pNeg : Prim := ⟨"neg", 0, [0], .prim, ""⟩
def pX : Prim := ⟨"ARG0", 0, [], .term, "x"⟩          -- a renamed argument prints its new name
def pE : Prim := ⟨"E", 0, [], .eph, "-3"⟩             -- an ephemeral prints its value
def exTree : Tree := .node pAdd [.node pNeg [.node pX []], .node pE []]
def exEnv : ParseEnv where
  mapping := fun k => if k = "add".toList then some pAdd else if k = "neg".toList then some pNeg
    else if k = "x".toList then some pX else none
  sub := fun _ _ => true
  ev := fun k => if k = "-3".toList then some (0, "-3".toList) else none

/- The closed facts about the fixtures that several `example`s need, in ONE evaluation: most of its cost is decoding the
keyword list behind `isIdent`, which the kernel does once per declaration.  (`decide +kernel`: the elaborator would run
the UTF-8 decoder on every string literal, the kernel has them built in.) -/
theorem exFixtures : wf exTree = true ∧ (∀ p ∈ flatten exTree, SrcOK p = true) ∧
    ArgsOK ["x".toList, "y".toList] = true ∧ isIdent "MAIN".toList = true ∧ isIdent "ADF1".toList = true ∧
    (parseExpr (compileSrc ["x".toList, "y".toList] (flatten exTree))).map dump = some "Lx,y(Cadd(Cneg(Nx);M(I3)))" ∧
    (["-3", "1e-17", "-2.5e+16", "0.1", "True", "None", "'ab'", "\"it's\"", "x_1"].map
      (fun s => PyLang.isAtomText s.toList)) = [true, true, true, true, true, true, true, true, true] := by
  decide +kernel
theorem exTree_wf : wf exTree = true := exFixtures.1
theorem exTree_srcOK : ∀ p ∈ flatten exTree, SrcOK p = true := exFixtures.2.1
theorem exArgs_ok : ArgsOK ["x".toList, "y".toList] = true := exFixtures.2.2.1
theorem flatten_exTree : flatten exTree = [pAdd, pNeg, pX, pE] := rfl

/-- The stack machine of `PrimitiveTree.__str__` applied to the prefix form of a well-formed tree
(any arities, incl. zero-argument primitives) yields the recursive text `name(a1, a2, …)` /
terminal text. -/
theorem str_eq_render (t : Tree) (hw : wf t = true) : strBuilder (flatten t) = render t := by
  have := run_flatten t [] [] [] hw
  simp only [List.append_nil, List.foldl_nil, push] at this
  unfold strBuilder
  have e : (fun (state : Str × List (Prim × List Str)) node => unwind node [] state.2 state.1) = sstep := rfl
  rw [e, this]

example : wf exTree = true ∧ String.ofList (strBuilder (flatten exTree)) = "add(neg(x), -3)" :=
  ⟨exTree_wf, by decide +kernel⟩

/-- the source `compile` evaluates is `lambda <args>: <render t>` (just `<render t>` for a
zero-argument set) -/
theorem compileSrc_eq (arguments : List Str) (t : Tree) (hw : wf t = true) :
    compileSrc arguments (flatten t) =
      if arguments.length > 0 then "lambda ".toList ++ joinComma arguments ++ ": ".toList ++ render t
      else render t := by
  simp only [compileSrc, str_eq_render t hw]

example : String.ofList (compileSrc ["x".toList, "y".toList] (flatten exTree)) = "lambda x,y: add(neg(x), -3)" := by
  decide +kernel

/-- The tokenizer of `from_string` applied to the printed tree returns exactly the node texts in
prefix order, provided no node text is empty or contains a separator character. -/
theorem tokens_render (t : Tree) (hw : wf t = true) (hn : ∀ p ∈ flatten t, NameOK p) :
    tokens (render t) = (flatten t).map tok := by
  have := tokGo_render t [] hw hn (Or.inl rfl)
  simpa [tokens, tokGo] using this

example : (tokens (render exTree)).map String.ofList = ["add", "neg", "x", "-3"] := by decide +kernel

example : ∀ p ∈ flatten exTree, NameOK p := by
  rw [flatten_exTree]
  simp only [List.forall_mem_cons, List.not_mem_nil, false_imp_iff, implies_true, and_true, NameOK]
  decide +kernel

/-- The token loop of `from_string` with its type queue (`extendleft(reversed(args))`), run on the
printed tree, is the tree recursion `reparse`: whenever the latter relabels `t` to `t'`, the
former returns `flatten t'`. -/
theorem fromString_eq_reparse (E : ParseEnv) (t t' : Tree) (hw : wf t = true)
    (hn : ∀ p ∈ flatten t, NameOK p) (h : reparse E none t = some t') :
    fromString E (render t) = some (flatten t') := by
  unfold fromString
  rw [tokens_render t hw hn]
  have := fromStringGo_tree E t t' [] [] (by simpa using h)
  simpa [fromStringGo] using this

/-- `from_string(str(tree), pset)` on a well-typed tree whose nodes the set knows (`Registered`) returns the prefix form
of a node-by-node relabelling of the tree (`SameTree`) -/
theorem fromString_str {E : ParseEnv} (refl : ∀ a, E.sub a a = true)
    (trans : ∀ a b c, E.sub a b = true → E.sub b c = true → E.sub a c = true)
    {t : Tree} {σ : Nat} (hwt : wt E.sub σ t = true)
    (hn : ∀ p ∈ flatten t, NameOK p) (hreg : ∀ p ∈ flatten t, Registered E p) :
    ∃ t', fromString E (strBuilder (flatten t)) = some (flatten t') ∧ SameTree t t' := by
  have hw := wf_of_wt hwt
  obtain ⟨t', hre, hsame⟩ := reparse_ok E refl trans t none
    (fun p hp => ⟨hreg p hp, (hn p hp).2⟩) (wt_mono hwt (refl _)) (by intro σ h; cases h)
  exact ⟨t', by rw [str_eq_render t hw]; exact fromString_eq_reparse E t t' hw hn hre, hsame⟩

/-- **Round trip.**  For a well-typed tree whose nodes are known to the primitive set (see
`Registered`), `from_string(str(tree), pset)` succeeds and returns the prefix form of a tree `t'`
with the same node count and the same arities node by node, which prints identically (through the
very string builder) and denotes the same value in every environment.

NOTE: `evalTree` reads only the kind, the name and the text of a node, so in the MODEL the last clause ("computes
the same function") follows from "prints identically with the same shape" and adds no content of its own; the clause
gets its content from the correspondence run, where the re-parsed tree is compiled by the real code and compared
value by value. -/
theorem roundtrip (E : ParseEnv) (refl : ∀ a, E.sub a a = true)
    (trans : ∀ a b c, E.sub a b = true → E.sub b c = true → E.sub a c = true)
    (t : Tree) (σ : Nat) (hwt : wt E.sub σ t = true)
    (hn : ∀ p ∈ flatten t, NameOK p) (hreg : ∀ p ∈ flatten t, Registered E p) :
    ∃ t', fromString E (strBuilder (flatten t)) = some (flatten t') ∧
      (flatten t').length = (flatten t).length ∧
      (flatten t').map (·.arity) = (flatten t).map (·.arity) ∧
      strBuilder (flatten t') = strBuilder (flatten t) ∧
      ∀ env, evalTree env t' = evalTree env t := by
  have hw := wf_of_wt hwt
  obtain ⟨t', hfs, hsame⟩ := fromString_str refl trans hwt hn hreg
  have har := (sameTree_all t t' hsame).2.2.1
  refine ⟨t', hfs, ?_, ?_, ?_, sameTree_eval hsame⟩
  · have := congrArg List.length har; simpa using this
  · have := congrArg (List.map List.length) har
    simpa [List.map_map, Function.comp_def, Prim.arity] using this
  · rw [str_eq_render t hw, str_eq_render t' (sameTree_wf hsame hw), (sameTree_all t t' hsame).1]

/-- the hypotheses of `roundtrip` hold for a tree with a renamed argument and an ephemeral value -/
example : wt exEnv.sub 0 exTree = true ∧ (∀ p ∈ flatten exTree, Registered exEnv p) ∧
    (fromString exEnv (strBuilder (flatten exTree))).map (·.map (·.name)) = some ["add", "neg", "ARG0", "-3"] := by
  refine ⟨by decide +kernel, ?_, by decide +kernel⟩
  intro p hp
  rw [flatten_exTree] at hp
  simp only [List.mem_cons, List.not_mem_nil, or_false] at hp
  rcases hp with rfl | rfl | rfl | rfl
  · exact Or.inl (by decide +kernel)
  · exact Or.inl (by decide +kernel)
  · exact Or.inl (by decide +kernel)
  · exact Or.inr ⟨by decide, Or.inr ⟨by decide +kernel, 0, by decide +kernel, rfl⟩⟩

/-- evaluation only: whatever list `from_string(str(t))` returns is the prefix form of a tree that
computes the same function as `t` -/
theorem eval_roundtrip (E : ParseEnv) (refl : ∀ a, E.sub a a = true)
    (trans : ∀ a b c, E.sub a b = true → E.sub b c = true → E.sub a c = true)
    (t : Tree) (σ : Nat) (hwt : wt E.sub σ t = true)
    (hn : ∀ p ∈ flatten t, NameOK p) (hreg : ∀ p ∈ flatten t, Registered E p)
    (l' : List Prim) (h : fromString E (strBuilder (flatten t)) = some l') :
    ∃ t', flatten t' = l' ∧ wf t' = true ∧ ∀ env, evalTree env t' = evalTree env t := by
  obtain ⟨t', hfs, hsame⟩ := fromString_str refl trans hwt hn hreg
  rw [hfs] at h
  exact ⟨t', by simpa using h, sameTree_wf hsame (wf_of_wt hwt), sameTree_eval hsame⟩

/-- `compileADF` (the loop over the reversed `zip(psets, expr)` with its growing `adfdict`)
returns the meaning of the first tree in which every later set's name denotes — recursively, the
innermost (last) set first — the meaning of the corresponding later tree. -/
theorem adf_eval (pts : List (CPset × Tree)) :
    compileADF pts = ((semADF pts).head?).map (·.2) := by
  unfold compileADF
  rw [List.foldl_reverse, adf_fold]

/-- two-level unfolding: the main tree is evaluated with `ADF1` bound to the evaluator of the
second tree, which itself is evaluated with `ADF2` bound to the evaluator of the third tree -/
theorem adf_eval_two (main a1 a2 : CPset) (t0 t1 t2 : Tree) :
    compileADF [(main, t0), (a1, t1), (a2, t2)] =
      some (compile (withAdfs main.env
        [(a1.name, compile (withAdfs a1.env [(a2.name, compile (withAdfs a2.env []) a2.arguments t2)]) a1.arguments t1),
         (a2.name, compile (withAdfs a2.env []) a2.arguments t2)]) main.arguments t0) := by
  rw [adf_eval]; simp [semADF]

/-- **Successive `compileADF` calls are independent (F20).**  `sessGo` models a session in which every primitive set
carries its current `context` and each `compileADF` call rebinds it (`pset.context = dict(pset.context,
**adfdict)`).  Compile individual `A`, then individual `B` against the same sets:
(i) the callable obtained for `A` is the pure meaning of `A`'s own trees in the sets' original contexts
    (`compileADF`, i.e. `adf_eval`) — it is a value of the model and nothing `B` does can change it;
(ii) the callable obtained for `B`, although compiled in the contexts left behind by `A`, is the pure
    meaning of `B`'s own trees: every ADF name is bound again, so nothing of `A` leaks into `B`. -/
theorem compile_adf_independent (sigs : List PSig) (cs : List Env) (A B : List Tree)
    (h1 : sigs.length = cs.length) (h2 : cs.length = A.length) (h3 : A.length = B.length) :
    (sessGo (mkItems sigs cs A)).2.2 =
      compileADF ((mkItems sigs cs A).map (fun x => (⟨x.1.name, x.1.arguments, x.2.1⟩, x.2.2))) ∧
    (sessGo (mkItems sigs (sessGo (mkItems sigs cs A)).2.1 B)).2.2 =
      compileADF ((mkItems sigs cs B).map (fun x => (⟨x.1.name, x.1.arguments, x.2.1⟩, x.2.2))) := by
  refine ⟨?_, ?_⟩
  · rw [adf_eval, sessGo_func, sessGo_eq_sem]
  · rw [(sessGo_independent sigs cs A B h1 h2 h3).2, adf_eval, sessGo_func, sessGo_eq_sem]

example : ([⟨"MAIN".toList, ["x".toList]⟩, ⟨"ADF1".toList, []⟩] : List PSig).length = [exTree, exTree].length := by decide

/-- **The parser inverts the printer.**  For every well-formed tree whose primitive names are identifiers and whose
terminals print as names or literals (`SrcOK`), and distinct identifier argument names (`ArgsOK`), the source text
`gp.compile` hands to `eval` — `lambda a,b: <str(tree)>`, or just `<str(tree)>` for a set without arguments — is read
by the tokenizer + parser of the Python expression model as exactly `Lambda [a, b] (exprOfTree t)` (resp.
`exprOfTree t`): every call has its arguments in the right positions, for all arities and depths. -/
theorem parse_compileSrc (arguments : List Str) (t : Tree) (hw : wf t = true)
    (ha : ArgsOK arguments = true) (hs : ∀ p ∈ flatten t, SrcOK p = true) :
    parseExpr (compileSrc arguments (flatten t)) =
      some (if arguments.length > 0 then PyExpr.lam arguments (exprOfTree t) else exprOfTree t) := by
  rw [compileSrc_eq arguments t hw]
  by_cases hl : arguments.length > 0
  · simp only [hl, if_true, parseExpr, lex_lambda arguments t (argsOK_ident ha) hs, Option.bind_some]
    simp only [PyLang.parseToks, pTop_lambda, pParams_ok arguments _ (argsOK_ident ha), argsOK_nodup ha,
      if_true, pTop_tree t hs, Option.map_some]
  · simp only [hl, if_false, parseExpr, lex_tree t hs, Option.bind_some, PyLang.parseToks, pTop_tree t hs]

/-- the hypotheses hold for a tree with a renamed argument and a negative ephemeral; the parser returns the AST -/
example : wf exTree = true ∧ ArgsOK ["x".toList, "y".toList] = true ∧ (∀ p ∈ flatten exTree, SrcOK p = true) ∧
    (parseExpr (compileSrc ["x".toList, "y".toList] (flatten exTree))).map dump =
      some "Lx,y(Cadd(Cneg(Nx);M(I3)))" :=
  ⟨exTree_wf, exArgs_ok, exTree_srcOK, exFixtures.2.2.2.2.2.1⟩

/-- literals as `repr` prints them are atoms of the language: negative ints, floats in exponent form, booleans,
`None`, quoted strings -/
example : (["-3", "1e-17", "-2.5e+16", "0.1", "True", "None", "'ab'", "\"it's\"", "x_1"].map
    (fun s => PyLang.isAtomText s.toList)) = [true, true, true, true, true, true, true, true, true] :=
  exFixtures.2.2.2.2.2.2

/-- **The hypothesis `SrcOK` in explicit, character-level form.**  A primitive whose name is an identifier, and a terminal
whose text is an identifier (argument, named terminal), a decimal integer literal without leading zeros, or a minus
sign followed by one (what `repr` prints for an int), can be written into the source.  So for trees over names and
integer constants `parse_compileSrc` … `pyCompileADF_eq` hold with no reference to the tokenizer in their premises;
for float, bool, `None` and string constants the premise is the computable check `isAtomText` (see the `example`s). -/
theorem srcOK_names_ints (p : Prim)
    (hp : p.kind = .prim → isIdent p.name.toList = true)
    (ht : p.kind ≠ .prim → isIdent p.text.toList = true ∨ PyLang.isIntLit p.text.toList = true ∨
      ∃ r, p.text.toList = '-' :: r ∧ PyLang.isIntLit r = true) :
    SrcOK p = true := by
  by_cases hk : p.kind = .prim
  · simp [SrcOK, hk, hp hk]
  · simp only [SrcOK, hk, if_false, PyLang.isAtomText]
    rcases ht hk with h | h | ⟨r, hr, h⟩
    · rw [PyLang.atomOf_ident h]; rfl
    · rw [PyLang.atomOf_int h]; rfl
    · rw [hr, PyLang.atomOf_negInt h]; rfl

example : (pAdd.kind = .prim → isIdent pAdd.name.toList = true) ∧
    (pE.kind ≠ .prim → isIdent pE.text.toList = true ∨ PyLang.isIntLit pE.text.toList = true ∨
      ∃ r, pE.text.toList = '-' :: r ∧ PyLang.isIntLit r = true) :=
  ⟨fun hk => srcOK_prim (exTree_srcOK pAdd (by decide)) hk, fun _ => Or.inr (Or.inr ⟨['3'], by decide +kernel, by decide +kernel⟩)⟩

/-- **Python's evaluation of that AST is the tree's evaluation.**  Applying the lambda `Lambda args (exprOfTree t)` to
`vals` in the namespace `P` (parameters shadow the globals; a call looks up the callee, evaluates the arguments left to
right and applies) gives `compile (envOfPy P) args t vals`, i.e. `evalTree` of the prefix tree in the environment
extended by the arguments. -/
theorem evalPy_compile (P : PyEnv) (arguments : List Str) (t : Tree) (vals : List Val)
    (ha : ∀ a ∈ arguments, isIdent a = true) (hs : ∀ p ∈ flatten t, SrcOK p = true) :
    callPy P (PyExpr.lam arguments (exprOfTree t)) vals = compile (envOfPy P) arguments t vals ∧
    compile (envOfPy P) arguments t vals =
      (if vals.length ≠ arguments.length then none
       else evalTree { envOfPy P with vars := bindArgs arguments vals (envOfPy P).vars,
                                      funs := shadowFuns arguments vals (envOfPy P).funs } t) := by
  refine ⟨?_, rfl⟩
  simp only [callPy, compile]
  by_cases hl : vals.length ≠ arguments.length
  · rw [if_pos hl, if_pos hl]
  · rw [if_neg hl, if_neg hl]
    exact evalPy_tree P arguments vals ha t hs

example : (∀ a ∈ ["x".toList, "y".toList], isIdent a = true) ∧ (∀ p ∈ flatten exTree, SrcOK p = true) :=
  ⟨argsOK_ident exArgs_ok, exTree_srcOK⟩

/-- **From the text to the value.**  `pyCompile` is `gp.compile` as coded: build the source, parse it, evaluate the
AST in `pset.context` (`eval(code, pset.context, {})`), call the result.  It computes what the prefix tree denotes. -/
theorem evalSrc_compile (P : PyEnv) (arguments : List Str) (t : Tree) (vals : List Val) (hw : wf t = true)
    (ha : ArgsOK arguments = true) (hs : ∀ p ∈ flatten t, SrcOK p = true) :
    pyCompile P arguments (flatten t) vals = compile (envOfPy P) arguments t vals := by
  unfold pyCompile evalSrc
  rw [parse_compileSrc arguments t hw ha hs]
  by_cases hl : arguments.length > 0
  · simp only [hl, if_true, decide_true]
    exact (evalPy_compile P arguments t vals (argsOK_ident ha) hs).1
  · have hnil : arguments = [] := by
      cases arguments with
      | nil => rfl
      | cons a as => simp at hl
    subst hnil
    have := evalPy_tree P [] vals (by simp) t hs
    cases vals with
    | nil =>
      simpa [compile_eq, bodyEnv] using this
    | cons v vs => simp [compile_eq]

example : wf exTree = true ∧ ArgsOK ([] : List Str) = true := ⟨exTree_wf, rfl⟩

/-- the tree-level view of a primitive set given with its Python namespace -/
def toCPset (ps : PyCPset) : CPset := ⟨ps.name, ps.arguments, envOfPy ps.ctx⟩

/-- what `pyCompileADF_eq` asks of one (set, tree) pair -/
def AdfOK (pt : PyCPset × Tree) : Prop :=
  wf pt.2 = true ∧ ArgsOK pt.1.arguments = true ∧ isIdent pt.1.name = true ∧ ∀ p ∈ flatten pt.2, SrcOK p = true

/-- one step of `compileADF`: compiling a tree through its source text in the namespace extended by the ADFs
compiled so far is compiling the tree in the extended tree environment -/
theorem pyCompile_withAdfs (pt : PyCPset × Tree) (d : List (Str × (List Val → Option Val)))
    (hd : ∀ e ∈ d, isIdent e.1 = true) (hok : AdfOK pt) :
    pyCompile (withAdfsPy pt.1.ctx d) pt.1.arguments (flatten pt.2) =
      compile (withAdfs (envOfPy pt.1.ctx) d) pt.1.arguments pt.2 := by
  obtain ⟨hw, ha, _, hs⟩ := hok
  funext vals
  rw [evalSrc_compile _ _ _ _ hw ha hs, envOfPy_withAdfs _ _ hd]

example : AdfOK ((⟨"ADF1".toList, ["x".toList, "y".toList], ⟨fun _ => none, []⟩⟩ : PyCPset), exTree) :=
  ⟨exTree_wf, exArgs_ok, exFixtures.2.2.2.2.1, exTree_srcOK⟩

theorem pyAdfStep_eq (st : List (Str × (List Val → Option Val)) × Option (List Val → Option Val))
    (hd : ∀ e ∈ st.1, isIdent e.1 = true) (pt : PyCPset × Tree) (hok : AdfOK pt) :
    pyAdfStep st (pt.1, flatten pt.2) = adfStep st (toCPset pt.1, pt.2) := by
  have := pyCompile_withAdfs pt _ hd hok
  simp only [pyAdfStep, pyAdfStepSrc, adfStep, toCPset]
  rw [← this]
  rfl

example : ∀ e ∈ (([], none) : List (Str × (List Val → Option Val)) × Option (List Val → Option Val)).1,
    isIdent e.1 = true := by simp

theorem pyAdf_fold (pts : List (PyCPset × Tree)) (h : ∀ pt ∈ pts, AdfOK pt) :
    (pts.map (fun pt => (pt.1, flatten pt.2))).foldr (fun pt st => pyAdfStep st pt) ([], none) =
      (pts.map (fun pt => (toCPset pt.1, pt.2))).foldr (fun pt st => adfStep st pt) ([], none) ∧
    ∀ e ∈ ((pts.map (fun pt => (toCPset pt.1, pt.2))).foldr (fun pt st => adfStep st pt) ([], none)).1,
      isIdent e.1 = true := by
  induction pts with
  | nil => simp
  | cons pt pts ih =>
    obtain ⟨ih1, ih2⟩ := ih (fun q hq => h q (by simp [hq]))
    have hok := h pt (by simp)
    simp only [List.map_cons, List.foldr_cons]
    rw [ih1]
    refine ⟨?_, ?_⟩
    · exact pyAdfStep_eq _ ih2 pt hok
    · intro e he
      simp only [adfStep, toCPset, List.mem_cons] at he
      rcases he with rfl | he
      · exact hok.2.2.1
      · exact ih2 e he

example : ∀ pt ∈ ([] : List (PyCPset × Tree)), AdfOK pt := by simp

/-- **ADFs.**  `compileADF` as coded — every tree compiled THROUGH its source text, innermost set first, the callables
compiled so far put into the globals of the next lambda (`dict(pset.context, **adfdict)`) — returns the same callable
as the tree-level `compileADF`, whose meaning `adf_eval` gives: the main tree evaluated with every ADF name bound to
the evaluator of the corresponding tree. -/
theorem pyCompileADF_eq (pts : List (PyCPset × Tree)) (h : ∀ pt ∈ pts, AdfOK pt) :
    pyCompileADF (pts.map (fun pt => (pt.1, flatten pt.2))) =
      compileADF (pts.map (fun pt => (toCPset pt.1, pt.2))) := by
  unfold pyCompileADF compileADF
  rw [List.foldl_reverse, List.foldl_reverse, (pyAdf_fold pts h).1]

/-- compiling the source texts is compiling the sources built from the trees (`pyCompileADFSrc` is what the
correspondence run evaluates on the texts DEAP really handed to `eval`) -/
theorem pyCompileADFSrc_eq (pts : List (PyCPset × List Prim)) :
    pyCompileADFSrc (pts.map (fun pt => (pt.1, compileSrc pt.1.arguments pt.2))) = pyCompileADF pts := by
  unfold pyCompileADFSrc pyCompileADF
  rw [← List.map_reverse, List.foldl_map]
  rfl

/-- a two-set instance of the hypotheses: `MAIN(x)` calling `ADF1`, both trees over identifiers and literals -/
example : ∀ pt ∈ [((⟨"MAIN".toList, ["x".toList, "y".toList], ⟨fun _ => none, []⟩⟩ : PyCPset), exTree),
                  (⟨"ADF1".toList, [], ⟨fun _ => none, []⟩⟩, exTree)], AdfOK pt := by
  intro pt hpt
  simp only [List.mem_cons, List.not_mem_nil, or_false] at hpt
  rcases hpt with rfl | rfl
  · exact ⟨exTree_wf, exArgs_ok, exFixtures.2.2.2.1, exTree_srcOK⟩
  · exact ⟨exTree_wf, rfl, exFixtures.2.2.2.2.1, exTree_srcOK⟩

/-- `nodes` is `range(len(expr))`, and `labels` maps every index to the node's name (a primitive) or value
(a terminal / ephemeral constant; the text the model carries for it) -/
theorem graph_nodes_labels (l : List Prim) :
    graphNodes l = List.range l.length ∧ (graphLabels l).length = l.length ∧
    ∀ i (hi : i < l.length), (graphLabels l)[i]? = some (if l[i].kind = .prim then l[i].name else l[i].text) := by
  refine ⟨rfl, by simp [graphLabels], ?_⟩
  intro i hi
  simp [graphLabels, labelOf, hi]

/-- **The edges are exactly the parent → child relation of the tree the prefix list denotes.**  For every well-formed
tree `t` (any arities and depths), the stack loop of `graph` run on `flatten t` returns an edge `(i, j)` iff the node
with index `j` is a child of the node with index `i` (`IsChild`: the subtree rooted at `i` has a child whose root sits
at `j`); the list is the depth-first listing `edgesT 0 t`; there are `len − 1` edges; and the targets of the edges
are `1, 2, …, len − 1`, each once and in this order — every node but the root has exactly one parent. -/
theorem graph_edges_tree (t : Tree) (hw : wf t = true) :
    (∀ i j, (i, j) ∈ graphEdges (flatten t) ↔ IsChild t i j) ∧
    graphEdges (flatten t) = edgesT 0 t ∧
    (graphEdges (flatten t)).length = (flatten t).length - 1 ∧
    (graphEdges (flatten t)).map Prod.snd = List.range' 1 ((flatten t).length - 1) := by
  have e := graphEdges_flatten t hw
  have hs := edgesT_snd 0 t
  rw [flatten_length, e]
  refine ⟨fun i j => by rw [mem_edgesT 0 t i j]; simp [IsChild], rfl, ?_, by simpa using hs⟩
  have := congrArg List.length hs
  simpa using this

example : wf exTree = true ∧ graphEdges (flatten exTree) = [(0, 1), (1, 2), (0, 3)] ∧
    graphLabels (flatten exTree) = ["add", "neg", "x", "-3"] := ⟨exTree_wf, by decide, by decide +kernel⟩

/-- every node other than the root has exactly one parent, and it precedes the node; the root has none -/
theorem graph_unique_parent (t : Tree) (hw : wf t = true) (j : Nat) :
    (0 < j ∧ j < (flatten t).length →
      ∃ i, (i, j) ∈ graphEdges (flatten t) ∧ ∀ i', (i', j) ∈ graphEdges (flatten t) → i' = i) ∧
    (∀ i, (i, j) ∈ graphEdges (flatten t) → 0 < j ∧ j < (flatten t).length) := by
  obtain ⟨_, _, _, hs⟩ := graph_edges_tree t hw
  have hmem : ∀ i, (i, j) ∈ graphEdges (flatten t) → j ∈ List.range' 1 ((flatten t).length - 1) := by
    intro i hi
    rw [← hs]
    exact List.mem_map.2 ⟨(i, j), hi, rfl⟩
  have hnd : ((graphEdges (flatten t)).map Prod.snd).Nodup := by rw [hs]; exact List.nodup_range' 1
  constructor
  · rintro ⟨h0, hlt⟩
    have hj : j ∈ (graphEdges (flatten t)).map Prod.snd := by
      rw [hs, List.mem_range'_1]; omega
    obtain ⟨⟨i, j'⟩, hin, rfl⟩ := List.mem_map.1 hj
    refine ⟨i, hin, ?_⟩
    intro i' hi'
    have := List.inj_on_of_nodup_map hnd hi' hin rfl
    exact (Prod.mk.inj this).1
  · intro i hi
    have := hmem i hi
    rw [List.mem_range'_1] at this
    omega

example : 0 < 2 ∧ 2 < (flatten exTree).length := by decide

/-- the compile model's `evalTree` is the value-generic denotation `evalG` at the carrier of Python values: the
denotation theorems below, stated for any carrier, are statements about what `gp.compile` makes of the offspring
(`evalSrc_compile`: compiled callable = `evalTree`) -/
theorem evalTree_is_evalG (env : Env) (t : Tree) : evalTree env t = evalG (toEnvG env) t :=
  evalTree_eq_evalG env t

/-- **Denotation of a semantic mutant, any carrier.**  Let the operator return `out` for the parent `flatten ti`.
Then `out` is the prefix form of `add(ti, mul(ms, sub(lf(t1), lf(t2))))` for the two generated trees `t1`, `t2`, and
in every environment that binds the four names to functions `fadd`, `fmul`, `fsub`, `flf` and reads the constant's
text as the value `msv`, it denotes `fadd a (fmul msv (fsub (flf b) (flf c)))` where `a`, `b`, `c` are the values of
the parent and of the two random trees. -/
theorem semantic_mut_denotes {α : Type} {env : EnvG α} {mapping : String → Option Prim} {reprF : Float → String}
    {ti : Tree} {out : List Prim} {gen : Tape → R (List Prim × Tape)} {ms : Option Float} {tp tp' : Tape}
    (hgen : ∀ tp o tp', gen tp = .ok (o, tp') → ∃ t, wf t = true ∧ flatten t = o)
    (h : mutSemantic mapping reprF (flatten ti) gen ms tp = .ok (out, tp')) :
    ∃ pc t1 t2 text, semPieces mapping = some pc ∧ wf t1 = true ∧ wf t2 = true ∧
      out = flatten (semMutTree pc (constNode text) ti t1 t2) ∧
      ∀ (fadd fmul fsub : α → α → α) (flf : α → α) (msv a b c : α),
        SemEnv env pc fadd fmul fsub flf → ConstDenotes env text msv →
        evalG env ti = some a → evalG env t1 = some b → evalG env t2 = some c →
        evalG env (semMutTree pc (constNode text) ti t1 t2) = some (fadd a (fmul msv (fsub (flf b) (flf c)))) := by
  obtain ⟨pc, tr1, tp1, tr2, tp2, v, hpc, h1, h2, _, rfl⟩ := mutSemantic_ok h
  obtain ⟨t1, hw1, rfl⟩ := hgen _ _ _ h1
  obtain ⟨t2, hw2, rfl⟩ := hgen _ _ _ h2
  refine ⟨pc, t1, t2, reprF v, hpc, hw1, hw2, semMutList_flatten _ _ _ _ _, ?_⟩
  intro fadd fmul fsub flf msv a b c he hc ha hb hcc
  exact evalG_semMutTree he hc ha hb hcc

/-- the logistic function the GSGP papers (and the docstrings) use for `lf` -/
noncomputable def logistic (x : ℝ) : ℝ := 1 / (1 + Real.exp (-x))

theorem logistic_unit (x : ℝ) : 0 < logistic x ∧ logistic x < 1 := by
  have h := Real.exp_pos (-x)
  unfold logistic
  constructor
  · positivity
  · rw [div_lt_one (by positivity)]; linarith

theorem convex_between {a b l : ℝ} (h0 : 0 < l) (h1 : l < 1) :
    min a b ≤ l * a + (1 - l) * b ∧ l * a + (1 - l) * b ≤ max a b := by
  have h1' : 0 ≤ 1 - l := by linarith
  constructor
  · calc min a b = l * min a b + (1 - l) * min a b := by ring
      _ ≤ l * a + (1 - l) * b :=
        add_le_add (mul_le_mul_of_nonneg_left (min_le_left _ _) h0.le) (mul_le_mul_of_nonneg_left (min_le_right _ _) h1')
  · calc l * a + (1 - l) * b ≤ l * max a b + (1 - l) * max a b :=
        add_le_add (mul_le_mul_of_nonneg_left (le_max_left _ _) h0.le) (mul_le_mul_of_nonneg_left (le_max_right _ _) h1')
      _ = max a b := by ring

/-- a real-valued environment for a GSGP set: `add`, `mul`, `sub` are the field operations, `lf` the logistic function -/
def RealGsgp (env : EnvG ℝ) (pc : SemPieces) : Prop :=
  SemEnv env pc (· + ·) (· * ·) (· - ·) logistic

/-- **Over the reals: `mutSemantic(ind)` denotes `ind + ms · (lf(tr1) − lf(tr2))`**, a perturbation of the parent's
value by less than `|ms|` (the two logistic values lie in `(0, 1)`). -/
theorem semantic_mut_denotes_real {env : EnvG ℝ} {pc : SemPieces} (he : RealGsgp env pc) {text : String} {ms : ℝ}
    (hc : ConstDenotes env text ms) {ti t1 t2 : Tree} {a b c : ℝ}
    (ha : evalG env ti = some a) (hb : evalG env t1 = some b) (hcc : evalG env t2 = some c) :
    evalG env (semMutTree pc (constNode text) ti t1 t2) = some (a + ms * (logistic b - logistic c)) ∧
    |a + ms * (logistic b - logistic c) - a| ≤ |ms| := by
  refine ⟨evalG_semMutTree he hc ha hb hcc, ?_⟩
  have hb' := logistic_unit b
  have hc' := logistic_unit c
  have : a + ms * (logistic b - logistic c) - a = ms * (logistic b - logistic c) := by ring
  rw [this, abs_mul]
  have h1 : |logistic b - logistic c| ≤ 1 := by
    rw [abs_le]; constructor <;> linarith [hb'.1, hb'.2, hc'.1, hc'.2]
  calc |ms| * |logistic b - logistic c| ≤ |ms| * 1 := mul_le_mul_of_nonneg_left h1 (abs_nonneg _)
    _ = |ms| := mul_one _

/-- a concrete real environment satisfying the hypotheses: names `add mul sub lf`, the variable `ARG0 = 3`, every other
text reads as the constant `1/2` -/
noncomputable def exRealEnv : EnvG ℝ where
  funs := fun k =>
    if k = "add".toList then some (fun vs => match vs with | [a, b] => some (a + b) | _ => none)
    else if k = "mul".toList then some (fun vs => match vs with | [a, b] => some (a * b) | _ => none)
    else if k = "sub".toList then some (fun vs => match vs with | [a, b] => some (a - b) | _ => none)
    else if k = "lf".toList then some (fun vs => match vs with | [a] => some (logistic a) | _ => none)
    else none
  vars := fun k => if k = "ARG0".toList then some 3 else none
  lit := fun _ => some (1 / 2)

-- unfolded before `simp` runs: `simp [exRealEnv]` normalises the string comparisons of all fields below their binders
theorem exRealEnv_leaves : ConstDenotes exRealEnv "0.5" (1 / 2) ∧ evalG exRealEnv (.node gsX []) = some 3 := by
  unfold exRealEnv ConstDenotes
  simp [evalG, gsX]

example : RealGsgp exRealEnv ⟨gsLf, gsMul, gsAdd, gsSub⟩ ∧ ConstDenotes exRealEnv "0.5" (1 / 2) ∧
    evalG exRealEnv (.node gsX []) = some 3 := by
  refine ⟨⟨rfl, rfl, rfl, rfl, ?_, ?_, ?_, ?_⟩, exRealEnv_leaves⟩
  all_goals (delta exRealEnv; simp (config := {decide := true}) only [↓reduceIte, Option.some.injEq])
  -- what is left: the `match` of `exRealEnv` and that of `SemEnv` are two spellings of one function
  all_goals (funext vs; rcases vs with _ | ⟨a, _ | ⟨b, _ | ⟨c, _⟩⟩⟩ <;> rfl)

/-- **Denotation of the semantic offspring, any carrier.**  For parents `flatten ta`, `flatten tb` the operator
returns `child1 = add(mul(ta, lf(tr)), mul(sub(1.0, lf(tr)), tb))` and — because the first parent object has already
become the first child when the second child is assembled — `child2 = add(mul(tb, lf(tr)), mul(sub(1.0, lf(tr)),
child1))`; their values are `fadd (fmul a r') (fmul (fsub one r') b)` and `fadd (fmul b r') (fmul (fsub one r') v1)`
with `r' = flf r` and `v1` the value of child 1. -/
theorem semantic_cx_denotes {α : Type} {env : EnvG α} {mapping : String → Option Prim} {reprF : Float → String}
    {ta tb : Tree} {o1 o2 : List Prim} {gen : Tape → R (List Prim × Tape)} {tp tp' : Tape}
    (hgen : ∀ tp o tp', gen tp = .ok (o, tp') → ∃ t, wf t = true ∧ flatten t = o)
    (h : cxSemantic mapping reprF (flatten ta) (flatten tb) gen tp = .ok (o1, o2, tp')) :
    ∃ pc tr text, semPieces mapping = some pc ∧ wf tr = true ∧
      o1 = flatten (semCxTree pc (constNode text) ta tb tr) ∧
      o2 = flatten (semCxTree pc (constNode text) tb (semCxTree pc (constNode text) ta tb tr) tr) ∧
      ∀ (fadd fmul fsub : α → α → α) (flf : α → α) (one a b r : α),
        SemEnv env pc fadd fmul fsub flf → ConstDenotes env text one →
        evalG env ta = some a → evalG env tb = some b → evalG env tr = some r →
        evalG env (semCxTree pc (constNode text) ta tb tr) = some (fadd (fmul a (flf r)) (fmul (fsub one (flf r)) b)) ∧
        evalG env (semCxTree pc (constNode text) tb (semCxTree pc (constNode text) ta tb tr) tr) =
          some (fadd (fmul b (flf r)) (fmul (fsub one (flf r)) (fadd (fmul a (flf r)) (fmul (fsub one (flf r)) b)))) := by
  obtain ⟨pc, l, hpc, hg, e1, e2⟩ := cxSemantic_ok h
  obtain ⟨tr, hwr, rfl⟩ := hgen _ _ _ hg
  rw [semCxList_flatten] at e1
  subst e1
  rw [semCxList_flatten] at e2
  subst e2
  refine ⟨pc, tr, reprF 1.0, hpc, hwr, rfl, rfl, ?_⟩
  intro fadd fmul fsub flf one a b r he hc ha hb hr
  have v1 := evalG_semCxTree he hc ha hb hr
  exact ⟨v1, evalG_semCxTree he hc hb v1 hr⟩

/-- **Over the reals: the first child denotes `tr'·ind1 + (1 − tr')·ind2` with `tr' = lf(tr) ∈ (0, 1)`** — a convex
combination, so its value lies between the parents' values (the geometric property of the crossover).  The second
child denotes `tr'·ind2 + (1 − tr')·child1` (NOT `tr'·ind2 + (1 − tr')·ind1`, which is what the docstring announces):
still a convex combination of the parents' values, with weight `tr'·(1 − tr')` on `ind1`. -/
theorem semantic_cx_denotes_real {env : EnvG ℝ} {pc : SemPieces} (he : RealGsgp env pc) {text : String}
    (hc : ConstDenotes env text 1) {ta tb tr : Tree} {a b r : ℝ}
    (ha : evalG env ta = some a) (hb : evalG env tb = some b) (hr : evalG env tr = some r) :
    evalG env (semCxTree pc (constNode text) ta tb tr) = some (logistic r * a + (1 - logistic r) * b) ∧
    evalG env (semCxTree pc (constNode text) tb (semCxTree pc (constNode text) ta tb tr) tr) =
      some (logistic r * b + (1 - logistic r) * (logistic r * a + (1 - logistic r) * b)) ∧
    min a b ≤ logistic r * a + (1 - logistic r) * b ∧ logistic r * a + (1 - logistic r) * b ≤ max a b := by
  have v1 := evalG_semCxTree he hc ha hb hr
  have v2 := evalG_semCxTree he hc hb v1 hr
  exact ⟨by rw [v1]; congr 1; ring, by rw [v2]; congr 1; ring, convex_between (logistic_unit r).1 (logistic_unit r).2⟩

example : ConstDenotes exRealEnv "0.5" (1 / 2) ∧ evalG exRealEnv (.node gsX []) = some 3 := exRealEnv_leaves

/-! ## Renaming histories

A tree object holds REFERENCES to the argument terminals of its set; `renameArguments` mutates them in place.  The tree
(`t`, with `argIx` telling which nodes are references and to which position) is constant through a history; the
state is the list of current names. -/

/-- fixtures: `sub(<arg0>, <arg1>)`, references recognised by the marker names `@0`, `@1` -/
def hA0 : Prim := ⟨"@0", 0, [], .term, "stale"⟩
def hA1 : Prim := ⟨"@1", 0, [], .term, "stale"⟩
def hSub : Prim := ⟨"sub", 0, [0, 0], .prim, ""⟩
def hTree : Tree := .node hSub [.node hA0 [], .node hA1 []]
def hIx (p : Prim) : Option Nat := if p = hA0 then some 0 else if p = hA1 then some 1 else none
def hNames0 : List Str := ["ARG0".toList, "ARG1".toList]
/-- swap, then a chained renaming of one of the two -/
def hKs : List (List (Str × Str)) :=
  [[("ARG0".toList, "ARG1".toList), ("ARG1".toList, "ARG0".toList)], [("ARG1".toList, "x".toList)]]

/-- **Compile after any history of renamings.**  For every sequence `ks` of `renameArguments` calls on a set whose
arguments were `names0`, compiling the (unchanged) tree object under the FINAL names and calling the result on `vals`
gives the direct, name-free interpretation of the tree: the terminal of argument position `i` denotes `vals[i]` —
provided the final names are distinct and none of them is the text of another node of the tree (a lambda parameter
shadows the context).  Nothing of what was printed or compiled before the last renaming enters. -/
theorem compile_after_rename_history (env : Env) (argIx : Prim → Option Nat) (names0 : List Str)
    (ks : List (List (Str × Str))) (t : Tree) (vals : List Val)
    (hnd : (renameHistory names0 ks).Nodup) (hlen : vals.length = names0.length)
    (hix : ∀ p ∈ flatten t, ∀ i, argIx p = some i → i < names0.length)
    (hfr : ∀ p ∈ flatten t, argIx p = none → tok p ∉ renameHistory names0 ks) :
    compile env (renameHistory names0 ks) (viewTree argIx (renameHistory names0 ks) t) vals =
      evalRef env argIx vals t := by
  have hl : (renameHistory names0 ks).length = names0.length := renameHistory_length ks names0
  rw [compile_eq, if_neg (by rw [hl]; exact fun h => h hlen)]
  exact evalTree_view env argIx _ vals hnd (by rw [hl]; exact hlen) t (by rw [hl]; exact hix) hfr

example : renameHistory hNames0 hKs = ["x".toList, "ARG0".toList] ∧ (renameHistory hNames0 hKs).Nodup ∧
    ([.int 10, .int 1] : List Val).length = hNames0.length ∧
    (∀ p ∈ flatten hTree, ∀ i, hIx p = some i → i < hNames0.length) ∧
    (∀ p ∈ flatten hTree, hIx p = none → tok p ∉ renameHistory hNames0 hKs) ∧
    String.ofList (compileSrc (renameHistory hNames0 hKs) (flatten (viewTree hIx (renameHistory hNames0 hKs) hTree))) =
      "lambda x,ARG0: sub(x, ARG0)" := by decide +kernel

/-- the same through the TEXT, as `gp.compile` does it (source string, `eval` in `pset.context`, call): the source built
from the tree's nodes as they print under the final names evaluates to the name-free interpretation. -/
theorem pyCompile_after_rename_history (P : PyEnv) (argIx : Prim → Option Nat) (names0 : List Str)
    (ks : List (List (Str × Str))) (t : Tree) (vals : List Val) (hw : wf t = true)
    (ha : ArgsOK (renameHistory names0 ks) = true) (hlen : vals.length = names0.length)
    (hs : ∀ p ∈ flatten t, SrcOK (viewNode argIx (renameHistory names0 ks) p) = true)
    (hix : ∀ p ∈ flatten t, ∀ i, argIx p = some i → i < names0.length)
    (hfr : ∀ p ∈ flatten t, argIx p = none → tok p ∉ renameHistory names0 ks) :
    pyCompile P (renameHistory names0 ks) ((flatten t).map (viewNode argIx (renameHistory names0 ks))) vals =
      evalRef (envOfPy P) argIx vals t := by
  have hsv : ∀ p ∈ flatten (viewTree argIx (renameHistory names0 ks) t), SrcOK p = true := by
    rw [flatten_viewTree]
    intro p hp
    obtain ⟨q, hq, rfl⟩ := List.mem_map.mp hp
    exact hs q hq
  rw [← flatten_viewTree, evalSrc_compile P _ _ vals ((wf_viewTree ..).trans hw) ha hsv]
  exact compile_after_rename_history (envOfPy P) argIx names0 ks t vals (nodupStr_nodup (argsOK_nodup ha)) hlen hix hfr

example : wf hTree = true ∧ ArgsOK (renameHistory hNames0 hKs) = true ∧
    (∀ p ∈ flatten hTree, SrcOK (viewNode hIx (renameHistory hNames0 hKs) p) = true) := by decide +kernel

def renamesOf : List HStep → List (List (Str × Str))
  | [] => []
  | .rename k :: rest => k :: renamesOf rest
  | _ :: rest => renamesOf rest

/-- **What a session observes last depends on the node list and the final names only.**  Whatever was printed, compiled
or renamed before (`steps`), a `compile` at the end hands `eval` the source built from the node list as it prints under
`renameHistory cur (renamesOf steps)`, a `str` returns that text: `str` is a function of the current node names, there
is no state of earlier observations in it (what a cache of the printed text would add). -/
theorem session_last_observation (argIx : Prim → Option Nat) (l : List Prim) (steps : List HStep) (cur : List Str) :
    (runSession argIx l cur steps).2 = renameHistory cur (renamesOf steps) ∧
    (runSession argIx l cur (steps ++ [.compile])).1 = (runSession argIx l cur steps).1 ++
      [compileSrc (renameHistory cur (renamesOf steps))
        (l.map (viewNode argIx (renameHistory cur (renamesOf steps))))] ∧
    (runSession argIx l cur (steps ++ [.str])).1 = (runSession argIx l cur steps).1 ++
      [strBuilder (l.map (viewNode argIx (renameHistory cur (renamesOf steps))))] := by
  induction steps generalizing cur with
  | nil => simp [runSession, renamesOf, renameHistory]
  | cons s rest ih =>
    cases s with
    | rename k =>
      have := ih (renameArgs cur k)
      simpa [runSession, renamesOf, renameHistory] using this
    | compile | str =>
      have := ih cur
      simp only [List.cons_append, runSession, renamesOf]
      exact ⟨this.1, by rw [this.2.1], by rw [this.2.2]⟩

/-- the printed tree after a history is the recursive text of the tree under the final names -/
theorem str_after_rename_history (argIx : Prim → Option Nat) (names0 : List Str) (ks : List (List (Str × Str)))
    (t : Tree) (hw : wf t = true) :
    strBuilder ((flatten t).map (viewNode argIx (renameHistory names0 ks))) =
      render (viewTree argIx (renameHistory names0 ks) t) := by
  rw [← flatten_viewTree]
  exact str_eq_render _ ((wf_viewTree ..).trans hw)

example : wf hTree = true ∧
    String.ofList (render (viewTree hIx (renameHistory hNames0 hKs) hTree)) = "sub(x, ARG0)" := by decide +kernel

/-- renaming back: a renaming followed by its inverse restores the names (so the tree prints as at the start) -/
theorem rename_back (names : List Str) (k k' : List (Str × Str))
    (hinv : ∀ a ∈ names, (kwLookup k' ((kwLookup k a).getD a)).getD ((kwLookup k a).getD a) = a) :
    renameHistory names [k, k'] = names := by
  simp only [renameHistory, List.foldl, renameArgs, List.map_map]
  conv_rhs => rw [← List.map_id names]
  exact List.map_congr_left (fun a ha => by simpa using hinv a ha)

example : ∀ a ∈ hNames0,
    (kwLookup [("ARG1".toList, "ARG0".toList), ("ARG0".toList, "ARG1".toList)]
      ((kwLookup (hKs.headD []) a).getD a)).getD ((kwLookup (hKs.headD []) a).getD a) = a := by decide +kernel

end C12
