/-
C18 — Logbook and statistics record every entry once, in order, chapters aligned.
Property theorems, with the fixtures of their `example`s (`demoOps`, `deepLB`, `deepShape`, `demoMOps` and that they meet the
hypotheses) and the header rule `oldHeadersFrom` that `old_rule_header_twice` compares with; the model is
`DeapModel/Core/Logbook.lean` (with `Core/LogbookText.lean` for the text and `Core/StatsHist.lean` for the statistics
objects), helper lemmas are in `DeapModel/Lemmas/C18*.lean`.

Histories are lists of `Logbook.Op` of ANY length.  `specRun ops` is the list of surviving
records computed by plain list semantics (append / erase a position / remove a set of positions);
the theorems say that the logbook, its chapters, its selections and its stream are the image of
that list.

Premises (the reading of DESIGN §6; `Valid`, `ValidDeep` are defined in `Lemmas/C18Hist.lean`, `DeepAligned` in
`Lemmas/C18Ops.lean`), all visible as hypotheses:
* `Valid C [] ops` — every record of the history carries exactly the chapter names `C` with
  distinct keys, its dictionaries holding scalars only (no sub-chapters); the index list of a
  slice is what `slice.indices` yields (distinct, in range).  `pop`, `del [i]`, `del [slice]` are
  all admitted on logbooks WITH chapters (`pop` removes the row from every chapter too, F18);
  out-of-range integer indices are allowed (they raise and change nothing).
* sub-chapters: `pop_exact_deep` / `del_exact_deep` hold for every logbook whose chapters are
  aligned at every depth (`DeepAligned`), however deep; `record_deep_aligned`: histories whose records
  all carry one tree of dictionary names (`ValidDeep`) keep the logbook aligned at every depth.
* stream theorems: `stream_positional` needs only `Valid`; `stream_at_most_once` /
  `stream_exactly_once` speak about the delivered rows as VALUES and additionally need the recorded
  rows to be pairwise different (each record carries its
  own id), so that "delivered once" is observable.  (Alignment matters: on a logbook
  with a misaligned chapter `pop` moves `buffindex` and then raises.)
* `header_once` holds at full strength, for every history: the stream keeps `header_streamed` (F5);
  `old_rule_header_twice` shows that the rule `startindex == 0 and log_header` alone delivers it twice.
* the TEXT (`Core/LogbookText.lean`, the complete `__txt__`): `txt_shape`, `str_all_rows`, `row_line_cells`,
  `chapter_text_aligned` hold for every logbook aligned at every depth (`DeepAligned`, any depth of
  sub-chapters), every rendering `fmt` of names and values, every `columns_len` state; `stream_text_once`
  lifts `stream_exactly_once` and `header_once` to the returned lines for valid histories, `stream_text_deep`
  is the positional form for histories over records with sub-dictionaries.
-/
import DeapModel.Lemmas.C18Text
import DeapModel.Lemmas.C18Counts
import DeapModel.Lemmas.C18Stats
import DeapModel.Lemmas.C18Gen   -- helper lemmas of the translator tie (GenEq/C18.lean.tmpl)

namespace C18
open Logbook C18L

/-- Every logbook reached by a valid history is the image (`Rep`) of the list of surviving records, which plain
list semantics computes (`specRun`); so `del_exact_index`, `del_out_of_range`, `del_exact_slice` below apply
at every point of every valid history. -/
theorem history_is_image (C : List Name) (ops : List Op) (hv : Valid C [] ops) :
    Rep C (run ops) (specRun ops) := history_rep ops (Rep.empty C) hv

/-- A logbook returns its records in the order they were entered: after any valid history the
rows are the scalar parts of the surviving records, in order. -/
theorem rows_in_order (C : List Name) (ops : List Op) (hv : Valid C [] ops) :
    (run ops).rows = (specRun ops).map Entry.scalars :=
  (history_is_image C ops hv).rows

/-- Without any premise: a history of `record` calls alone yields exactly the recorded scalar
parts, chronologically (whatever the chapters of the records are). -/
theorem rows_in_order_records (es : List Entry) :
    (run (es.map Op.record)).rows = es.map Entry.scalars := by
  suffices key : ∀ lb : LB, (runFrom lb (es.map Op.record)).rows = lb.rows ++ es.map Entry.scalars from
    key LB.empty
  induction es with
  | nil => exact fun lb => (List.append_nil _).symm
  | cons e es ih =>
    exact fun lb => (ih (record e lb)).trans (by rw [record_rows, List.append_assoc]; rfl)

/-- Selecting one name returns the chronological column of that name, `none` where a record
lacks it; several names (or none) return the tuple of such columns. -/
theorem select_column (lb : LB) (n : Name) (ns : List Name) (hns : ns.length ≠ 1) :
    select [n] lb = .single (lb.rows.map (dictGet · n)) ∧
    select ns lb = .multi (ns.map fun m => lb.rows.map (dictGet · m)) := by
  refine ⟨rfl, ?_⟩
  match ns, hns with
  | [], _ => rfl
  | [_], h => exact absurd rfl h
  | _ :: _ :: _, _ => rfl

/-- … and, along a valid history, that column is the column of the surviving records. -/
theorem select_history (C : List Name) (ops : List Op) (hv : Valid C [] ops) (n : Name) :
    select [n] (run ops) = .single ((specRun ops).map fun e => dictGet e.scalars n) := by
  simp only [select, column, rows_in_order C ops hv, List.map_map, Function.comp_def]

/-- Selection in a chapter: the column over what the records contributed to that chapter. -/
theorem select_chapter (C : List Name) (ops : List Op) (hv : Valid C [] ops) (c : Name) (hc : c ∈ C)
    (ch : LB) (hch : getChapter c (run ops).chapters = some ch) (n : Name) :
    (match select [n] ch with | .single col => col.map some | .multi _ => []) =
      (specRun ops).map fun e => (chapterRow c e).map (dictGet · n) := by
  have h := (history_is_image C ops hv).chapters c hc
  simp only [chRows, run] at h hch
  simp only [hch, Option.map_some, Option.getD_some] at h
  simp only [select, column]
  have := congrArg (List.map (Option.map (dictGet · n))) h
  simpa [Function.comp_def] using this

/-- Dictionary-valued entries go to the chapter of that name, which receives the record's scalar
fields too: along a valid history chapter `c` holds, in order, for every surviving record the
dictionary's scalar entries updated with the record's scalar fields (`chapterRow`). -/
theorem chapter_fields (C : List Name) (ops : List Op) (hv : Valid C [] ops) (c : Name) (hc : c ∈ C) :
    (chRows c (run ops)).map some = (specRun ops).map (chapterRow c) :=
  (history_is_image C ops hv).chapters c hc

theorem chapterRow_eq (c : Name) (e : Entry) (sub : Entry) (h : e.dicts.lookup c = some sub) :
    chapterRow c e = some (dictUpdate sub.scalars e.scalars) := by
  simp [chapterRow, h]

/-- the scalar fields of the record are in the chapter row (they win over equal keys of the
dictionary); keys of the dictionary that are not scalar fields of the record keep their value -/
theorem chapter_row_get (sub e : Row) (he : (e.map (·.1)).Nodup) (k : Name) :
    dictGet (dictUpdate sub e) k = (dictGet e k).or (dictGet sub k) := by
  induction e generalizing sub with
  | nil => rfl
  | cons p ps ih =>
    obtain ⟨a, b⟩ := p
    rw [List.map_cons, List.nodup_cons] at he
    rw [show dictUpdate sub ((a, b) :: ps) = dictUpdate (dictSet sub a b) ps from rfl,
      show dictGet ((a, b) :: ps) k = _ from Dict.lookup_cons a k b ps]
    by_cases h : k = a
    · subst h; rw [if_pos rfl, dictGet_dictUpdate_of_not_mem _ _ _ he.1, dictGet_dictSet, if_pos rfl]; rfl
    · rw [if_neg h, ih _ he.2, dictGet_dictSet, if_neg h]; rfl

/-- A chapter always has as many records as the logbook — after any valid history of records,
index deletions, slice deletions, streams, selections, pickling — and there are no chapters
other than those the records name. -/
theorem chapters_aligned (C : List Name) (ops : List Op) (hv : Valid C [] ops) :
    (∀ q ∈ (run ops).chapters, q.2.rows.length = (run ops).rows.length) ∧
    (∀ q ∈ (run ops).chapters, q.1 ∈ C) ∧
    (∀ c ∈ C, (chRows c (run ops)).length = (run ops).rows.length) := by
  have h := history_is_image C ops hv
  refine ⟨h.aligned, fun q hq => h.keys q.1 (List.mem_map_of_mem hq), ?_⟩
  intro c hc
  have := congrArg List.length (h.chapters c hc)
  rw [List.length_map, List.length_map] at this
  rw [this, h.length]

/-- `del logbook[i]` and `logbook.pop(i)` with an in-range index (positive or negative) on a
logbook — with or without chapters — that is the image of records `es`: nothing is raised, `pop`
returns the addressed record, position `p` (the normalised index) leaves the logbook and every
chapter, everything else stays in order. -/
theorem del_exact_index (C : List Name) (lb : LB) (es : List Entry) (h : Rep C lb es) (i : Int)
    (p : Nat) (hp : pos? lb.rows.length i = some p) :
    (delIndex i lb).2 = false ∧ (delIndex i lb).1.rows = lb.rows.eraseIdx p ∧
    (∀ c ∈ C, chRows c (delIndex i lb).1 = (chRows c lb).eraseIdx p) ∧
    Rep C (delIndex i lb).1 (es.eraseIdx p) ∧
    (pop i lb).1 = lb.rows[p]? ∧ (pop i lb).2 = (delIndex i lb).1 := by
  rw [delIndex_deep lb i p h.deep hp, pop_deep i p lb h.deep hp]
  exact ⟨rfl, eraseDeep_rows p lb, fun c _ => chRows_eraseDeep p c lb, h.erase p, rfl, rfl⟩

/-- an out-of-range index raises and changes nothing -/
theorem del_out_of_range (C : List Name) (lb : LB) (es : List Entry) (h : Rep C lb es) (i : Int)
    (hp : pos? lb.rows.length i = none) :
    delIndex i lb = (lb, true) ∧ pop i lb = (none, lb) :=
  ⟨delIndex_out lb i h.deep hp, pop_out_deep i lb h.deep hp⟩

/-- `del logbook[slice]`, `idx` being the positions `range(*slice.indices(len))` of any slice
(any start/stop, positive or negative step): nothing is raised and exactly the addressed
positions leave the logbook and every chapter. -/
theorem del_exact_slice (C : List Name) (lb : LB) (es : List Entry) (h : Rep C lb es)
    (idx : List Nat) (hn : idx.Nodup) (hr : ∀ i ∈ idx, i < lb.rows.length) :
    (delSlice idx lb).2 = false ∧ (delSlice idx lb).1.rows = removeIdx idx lb.rows ∧
    (∀ c ∈ C, chRows c (delSlice idx lb).1 = removeIdx idx (chRows c lb)) ∧
    Rep C (delSlice idx lb).1 (removeIdx idx es) := by
  obtain ⟨h1, h2⟩ := h.delSlice idx hn (h.length ▸ hr)
  refine ⟨h2, by rw [h1.rows, h.rows, removeIdx_map], ?_, h1⟩
  intro c hc
  apply List.map_injective_iff.2 fun _ _ => Option.some.inj
  rw [h1.chapters c hc, ← removeIdx_map, ← removeIdx_map, h.chapters c hc]

/-- Sub-chapters.  On a logbook whose chapters are aligned at every depth, `pop(i)` / `del [i]`
with an in-range index raise nothing, return the addressed row and remove position `p` from the
logbook and from the chapter at EVERY path (`eraseDeep`), which stays aligned at every depth; an
out-of-range index raises and changes nothing. -/
theorem pop_exact_deep (lb : LB) (hd : DeepAligned lb) (i : Int) :
    (∀ p, pos? lb.rows.length i = some p →
      pop i lb = (lb.rows[p]?, eraseDeep p lb) ∧ delIndex i lb = (eraseDeep p lb, false) ∧
      DeepAligned (eraseDeep p lb) ∧
      ∀ path ch, chapterAt path lb = some ch →
        ∃ ch', chapterAt path (eraseDeep p lb) = some ch' ∧ ch'.rows = ch.rows.eraseIdx p) ∧
    (pos? lb.rows.length i = none → pop i lb = (none, lb) ∧ delIndex i lb = (lb, true)) := by
  refine ⟨fun p hp => ⟨pop_deep i p lb hd hp, delIndex_deep lb i p hd hp, eraseDeep_aligned p lb hd, ?_⟩,
    fun hp => ⟨pop_out_deep i lb hd hp, delIndex_out lb i hd hp⟩⟩
  intro path ch hch
  exact ⟨eraseDeep p ch, by rw [chapterAt_eraseDeep, hch]; rfl, eraseDeep_rows p ch⟩

/-- … and `del [slice]` removes exactly the addressed positions from the chapter at every path. -/
theorem del_exact_deep (lb : LB) (hd : DeepAligned lb) (idx : List Nat) (hn : idx.Nodup)
    (hr : ∀ i ∈ idx, i < lb.rows.length) :
    (delSlice idx lb).2 = false ∧ DeepAligned (delSlice idx lb).1 ∧
    ∀ path ch, chapterAt path lb = some ch →
      ∃ ch', chapterAt path (delSlice idx lb).1 = some ch' ∧ ch'.rows = removeIdx idx ch.rows := by
  obtain ⟨h1, h2⟩ := delSlice_deep idx hn lb hd hr
  rw [h1]
  refine ⟨rfl, h2, fun path ch hch => ?_⟩
  exact ⟨eraseAllDeep (sortDesc idx) ch, by rw [chapterAt_eraseAllDeep, hch]; rfl,
    by rw [eraseAllDeep_rows, eraseAll_sortDesc idx hn]⟩

/-- Chapters with sub-chapters, any depth.  `ValidDeep sh [] ops`: every record of the history
carries the same tree `sh` of dictionary names at every level (`Fits`: after the inherited scalar
fields replaced equally named dictionaries); slices as in `Valid`; any integer index for `pop` /
`del`.  Then after the whole history — records, pops, index and slice deletions, streams,
header settings, pickling — the logbook is aligned at every depth: the chapter at EVERY path has
as many rows as the logbook, and the rows are the surviving records in order. -/
theorem record_deep_aligned (sh : Shape) (ops : List Op) (hv : ValidDeep sh [] ops) :
    DeepAligned (run ops) ∧
    (∀ path ch, chapterAt path (run ops) = some ch → ch.rows.length = (run ops).rows.length) ∧
    (run ops).rows = (specRun ops).map Entry.scalars := by
  have h := history_repDeep ops (lb := LB.empty) (es := []) ⟨shaped_empty sh, rfl⟩ hv
  have hd := shaped_deep sh _ h.shaped
  exact ⟨hd, fun path ch hch => deep_path_length path _ ch hd hch, h.rows⟩

/-- the flat premise is the special case of a tree of height one -/
theorem valid_is_validDeep (C : List Name) (e : Entry) (he : EntryOk C e) :
    Fits [] (.mk (C.map fun c => (c, Shape.mk []))) e :=
  fits_flatShape C e he

/-- `removeIdx` is "the items whose position is not addressed" -/
theorem removeIdx_spec {α : Type} (S : List Nat) (l : List α) :
    removeIdx S l = (l.zipIdx.filter fun p => decide (p.2 ∉ S)).map (·.1) := rfl

/-- what one reading of the stream delivers and does -/
theorem stream_spec (lb : LB) :
    (stream lb).1.rows = lb.rows.drop lb.buffindex ∧ (stream lb).2.buffindex = lb.rows.length ∧
    (stream lb).2.rows = lb.rows := by
  obtain ⟨h1, _, h3, _⟩ := stream_state lb
  exact ⟨by rw [stream_text, txt_rows], h3, h1⟩

/-- Reading the stream repeatedly, interleaved with any records, pops, index and slice deletions
(in range or raising) of a valid history, never delivers a record twice. -/
theorem stream_at_most_once (C : List Name) (ops : List Op) (hv : Valid C [] ops)
    (hd : (recordedOf ops).Nodup) :
    (delivered ops).Nodup ∧ ∀ r ∈ delivered ops, r ∈ recordedOf ops :=
  ⟨(run_inv hv.deep hd).nodup, fun r hr => (streamed_subset ops LB.empty r hr).resolve_left List.not_mem_nil⟩

/-- … and after a final reading every record still in the logbook has been delivered exactly
once (it is in the duplicate-free list of deliveries). -/
theorem stream_exactly_once (C : List Name) (ops : List Op) (hv : Valid C [] ops)
    (hd : (recordedOf ops).Nodup) :
    (delivered (ops ++ [.stream])).Nodup ∧
    (∀ r ∈ (run ops).rows, r ∈ delivered (ops ++ [.stream])) ∧
    (∀ r ∈ delivered (ops ++ [.stream]), r ∈ recordedOf ops) := by
  have hrec : recordedOf (ops ++ [Op.stream]) = recordedOf ops := by
    rw [recordedOf_append]; exact List.append_nil _
  obtain ⟨g1, g2⟩ := stream_at_most_once C (ops ++ [.stream]) (valid_snoc_stream hv) (hrec.symm ▸ hd)
  refine ⟨g1, fun r hr => ?_, fun r hr => hrec ▸ g2 r hr⟩
  have h := (run_inv (valid_snoc_stream hv).deep (hrec.symm ▸ hd)).delivered
  obtain ⟨e1, _, e3, _⟩ := stream_state (run ops)
  rw [run_snoc_stream ops, e3, e1, List.take_length] at h
  exact h r hr

/-- The positional form, which needs NO premise on the rows' contents (equal rows allowed).
`counts ops` keeps, for every surviving record position, how often the stream has delivered it
(a stream delivers exactly the positions from `buffindex` on, `stream_spec`; a deletion removes
the counters of the positions it removes).  After any valid history the counters are 1 for the
first `buffindex` positions and 0 for the rest: no surviving record was ever delivered twice, the
not yet delivered ones are exactly the suffix from `buffindex` on — which is what the next stream
delivers — and after a stream every surviving record has been delivered exactly once. -/
theorem stream_positional (C : List Name) (ops : List Op) (hv : Valid C [] ops) :
    counts ops = List.replicate (run ops).buffindex 1 ++
      List.replicate ((run ops).rows.length - (run ops).buffindex) 0 ∧
    (∀ c ∈ counts ops, c ≤ 1) ∧
    counts (ops ++ [.stream]) = List.replicate (run ops).rows.length 1 := by
  have h0 : CountsOk LB.empty [] := ⟨rfl, Nat.le_refl _⟩
  have h := history_counts ops ⟨shaped_empty _, rfl⟩ hv.deep h0
  have h' := (history_counts (ops ++ [.stream]) ⟨shaped_empty _, rfl⟩ (valid_snoc_stream hv).deep h0).1
  refine ⟨h.1, fun c hc => ?_, ?_⟩
  · have hc' : c ∈ countsFrom LB.empty [] ops := hc
    rw [h.1] at hc'
    rcases List.mem_append.1 hc' with hm | hm <;> rw [List.eq_of_mem_replicate hm] <;> omega
  · obtain ⟨e1, _, e3, _⟩ := stream_state (run ops)
    rw [show runFrom LB.empty (ops ++ [Op.stream]) = (stream (run ops)).2 from run_snoc_stream ops, e3, e1,
      Nat.sub_self] at h'
    exact h'.trans (List.append_nil _)

/-- Reading the stream repeatedly delivers the header at most once — for EVERY history (any
records, deletions, pops, header settings, `log_header` switches, pickling in between): the
stream remembers in `header_streamed` that it has delivered the header (F5). -/
theorem header_once (ops : List Op) : headerCount ops ≤ 1 := headers_le_one ops LB.empty

/-- … and it is delivered with the first streamed row when `log_header` is on: the first stream
of a non-empty logbook that has not streamed the header yet carries it. -/
theorem header_first (lb : LB) (h0 : lb.buffindex = 0) (hn : 0 < lb.rows.length)
    (hl : lb.logHeader = true) (hs : lb.headerStreamed = false) :
    (stream lb).1.header = true ∧ (stream lb).2.headerStreamed = true := by
  obtain ⟨h1, h2⟩ := stream_header lb
  rw [h1, h2, h0, hl, hs]; simp [hn]

/-- the witness history of F5: record a; stream; del [0]; record b; stream -/
def f5Witness : List Op :=
  [.record (.mk [(0, 1)] []), .stream, .delIndex 0, .record (.mk [(0, 2)] []), .stream]

/-- the rule that does not look at `header_streamed` (header whenever `startindex == 0 and log_header`),
counted along a history -/
def oldHeadersFrom : LB → List Op → Nat
  | _, [] => 0
  | lb, .stream :: os =>
      (if lb.rows.length ≠ 0 ∧ lb.buffindex = 0 ∧ lb.logHeader = true then 1 else 0) +
        oldHeadersFrom (stream lb).2 os
  | lb, o :: os => oldHeadersFrom (step lb o).1 os

/-- under that rule the witness history gets the header twice; under the rule of the model once -/
theorem old_rule_header_twice :
    oldHeadersFrom LB.empty f5Witness = 2 ∧ headerCount f5Witness = 1 := by decide

/-- `buffindex = 0` says exactly that no delivered row is left in the logbook (for histories with
pairwise different records), which is the observable form of the premise above. -/
theorem buffindex_zero_iff (C : List Name) (ops : List Op) (hv : Valid C [] ops)
    (hd : (recordedOf ops).Nodup) :
    (run ops).buffindex = 0 ↔ ∀ r ∈ (run ops).rows, r ∉ delivered ops := by
  have h := run_inv hv.deep hd
  constructor
  · intro h0 r hr; exact h.pending r (by rwa [h0, List.drop_zero])
  · intro hn
    by_contra h0
    obtain ⟨r, hr⟩ := List.exists_mem_of_ne_nil ((run ops).rows.take (run ops).buffindex) fun e => by
      have := congrArg List.length e
      rw [List.length_take, Nat.min_eq_left h.buff_le] at this; exact h0 this
    exact hn r (List.mem_of_mem_take hr) (h.delivered r hr)

/-! ### The text that `stream` and `str()` return

`Logbook.txtT` is the complete `__txt__` (column discovery, chapter blocks, widths as state, header block,
template); `rowLine fmt i lb W` is the line of record `i`: its cells in column order, a chapter column holding
the chapter's line of the same record, left-justified to the widths `W` and joined by tabs
(`row_line_cells`).  Everything below holds for EVERY rendering `fmt` of names and values and EVERY previous
`columns_len` state `cl`. -/

/-- `__txt__` on a logbook aligned at every depth never raises; the text is a header block followed by
exactly one line per row from `startindex` on, in order, each being the formatted row; the header block is
there iff the abstract model `Logbook.txt` says so (`header and startindex == 0 and log_header`, non-empty
logbook), and the number of data lines is the number of rows `Logbook.txt` delivers. -/
theorem txt_shape (fmt : Fmt) (si : Nat) (hdr : Bool) (lb : LB) (cl : CL) (hd : DeepAligned lb) :
    ∃ Hd, (txtT fmt si hdr lb cl).1 = some (Hd ++ dataLines fmt si lb (txtT fmt si hdr lb cl).2) ∧
      (Hd ≠ [] ↔ (txt si hdr lb).header = true) ∧
      (dataLines fmt si lb (txtT fmt si hdr lb cl).2).length = (txt si hdr lb).rows.length := by
  obtain ⟨Hd, h1, h2⟩ := txtT_ok fmt si hdr lb cl hd
  exact ⟨Hd, h1, h2, by rw [dataLines_length, txt_rows, List.length_drop]⟩

/-- the cells of a line, in column (header) order: `columns` is the explicit header or, without one, the
sorted keys of the first record followed by the sorted chapter names; a chapter column holds the chapter's
own line of the same record, any other column the formatted field (`""` when the record lacks it) -/
theorem row_line_cells (fmt : Fmt) (i : Nat) (lb : LB) (W : CL) :
    rowLine fmt i lb W = formatLine (W.len.getD [])
      ((columnsOf fmt lb.header lb.rows (lb.chapters.map (·.1))).map fun name =>
        (chapterLine fmt i name lb.chapters W.chapters).getD (cellVal fmt (lb.rows.getD i []) name)) ∧
    (∀ name ch, getChapter name lb.chapters = some ch →
      ∃ Wc, chapterLine fmt i name lb.chapters W.chapters = some (rowLine fmt i ch Wc)) ∧
    (∀ name, getChapter name lb.chapters = none → chapterLine fmt i name lb.chapters W.chapters = none) := by
  refine ⟨by cases lb; rfl, fun name ch h => ?_, fun name h => ?_⟩ <;>
    have := chapterLine_spec fmt i name lb.chapters W.chapters <;> rwa [h] at this

/-- A logbook without chapters, spelled out completely: `__txt__` does not raise, the header block is the single
line of the column names (there iff `header and startindex == 0 and log_header`), followed by one line per row
from `startindex` on, every cell the formatted field of that row (`""` for a missing one), all lines
left-justified to the `columns_len` the call leaves behind. -/
theorem txt_plain (fmt : Fmt) (si : Nat) (hdr : Bool) (lb : LB) (cl : CL) (hc : lb.chapters = [])
    (hn : lb.rows.length ≠ 0) :
    (txtT fmt si hdr lb cl).1 =
      some ((if (hdr && si == 0 && lb.logHeader) = true
            then [formatLine ((txtT fmt si hdr lb cl).2.len.getD []) ((columnsOf fmt lb.header lb.rows []).map fmt.name)]
            else []) ++
        (List.range' si (lb.rows.length - si)).map (fun i =>
          formatLine ((txtT fmt si hdr lb cl).2.len.getD [])
            ((columnsOf fmt lb.header lb.rows []).map fun name => cellVal fmt (lb.rows.getD i []) name))) := by
  obtain ⟨rows, chs, b, h, lh, hs⟩ := lb
  obtain rfl : chs = [] := hc
  obtain ⟨w, hf⟩ := finishTxt_plain fmt si hdr rows lh (columnsOf fmt h rows [])
    (initWidths fmt (columnsOf fmt h rows []) cl.len) (initWidths_length _ _ _)
  simp only [txtT, show ¬ rows.length = 0 from hn, if_false, chaptersT, List.map_nil, hf, CL.len_mk,
    Option.getD_some, rows_mk, header_mk, logHeader_mk]

/-- `str(logbook)` = header block ++ one line per record, in order, each line being the formatted row
(cells in header order, `row_line_cells`); the header block is there iff the logbook is not empty and
`log_header` is on; the logbook itself is unchanged. -/
theorem str_all_rows (fmt : Fmt) (lb : LB) (cl : CL) (hd : DeepAligned lb) :
    ∃ Hd, (strT fmt (lb, cl)).1 =
        some (Hd ++ (List.range lb.rows.length).map fun i => rowLine fmt i lb (strT fmt (lb, cl)).2.2) ∧
      (Hd ≠ [] ↔ (lb.rows.length ≠ 0 ∧ lb.logHeader = true)) ∧ (strT fmt (lb, cl)).2.1 = lb := by
  obtain ⟨Hd, h1, h2⟩ := txtT_ok fmt 0 true lb cl hd
  refine ⟨Hd, ?_, ?_, rfl⟩
  · simpa [strT, dataLines, List.range_eq_range'] using h1
  · rw [h2, txt_header_iff]; simp

/-- … along a valid history: `str()` of the logbook shows exactly one line per surviving record, in the
order of entry (line `i` is the line of `specRun ops` number `i`, whose scalar cells are that record's
scalar fields, `rows_in_order`). -/
theorem str_history (fmt : Fmt) (C : List Name) (ops : List Op) (hv : Valid C [] ops) :
    ∃ Hd, (strT fmt (runT fmt ops)).1 =
        some (Hd ++ (List.range (specRun ops).length).map fun i =>
          rowLine fmt i (run ops) (strT fmt (runT fmt ops)).2.2) ∧
      (runT fmt ops).1 = run ops ∧ (run ops).rows = (specRun ops).map Entry.scalars := by
  have hrep := history_is_image C ops hv
  obtain ⟨Hd, h1, _, _⟩ := str_all_rows fmt (runT fmt ops).1 (runT fmt ops).2 (runT_lb fmt ops ▸ hrep.deep)
  refine ⟨Hd, ?_, runT_lb fmt ops, hrep.rows⟩
  rw [← List.length_map (f := Entry.scalars), ← hrep.rows, ← runT_lb fmt ops]
  exact h1

/-- Every chapter block has exactly as many data lines as the logbook: in the same call, the text of every
chapter is its own header block followed by as many lines as the logbook's text has data lines (and line `k`
of the chapter is the cell of line `k` of the logbook, `row_line_cells`). -/
theorem chapter_text_aligned (fmt : Fmt) (si : Nat) (hdr : Bool) (lb : LB) (cl : CL) (hd : DeepAligned lb)
    (q : Name × LB) (hq : q ∈ lb.chapters) (c : CL) :
    ∃ Hd D Hk Dk, (txtT fmt si hdr lb cl).1 = some (Hd ++ D) ∧ (txtT fmt si hdr q.2 c).1 = some (Hk ++ Dk) ∧
      D.length = lb.rows.length - si ∧ Dk.length = D.length ∧
      Dk = dataLines fmt si q.2 (txtT fmt si hdr q.2 c).2 := by
  obtain ⟨hlen, hdq⟩ := ((deepAligned_iff lb).1 hd).2 q hq
  obtain ⟨Hd, h1, _⟩ := txtT_ok fmt si hdr lb cl hd
  obtain ⟨Hk, h2, _⟩ := txtT_ok fmt si hdr q.2 c hdq
  exact ⟨Hd, _, Hk, _, h1, h2, dataLines_length _ _ _ _, by rw [dataLines_length, dataLines_length, hlen], rfl⟩

/-- Reading the stream repeatedly, at text level.  Over any valid history with pairwise different records,
ended by a reading of the stream: every reading returns a text (never raises); taken apart (`blocks`: per
reading a header block and the delivered rows next to their lines) the concatenation of everything the stream
ever returned consists of the header blocks and, for the rows `delivered` by `Logbook.stream` in that order,
one line each; that list of delivered rows has no duplicate and contains every surviving record — so every
surviving record has EXACTLY ONE data line, in record order within each reading —; each line is the formatted
row of its record in the logbook of some moment of the history; and at most one reading carries a header
block. -/
theorem stream_text_once (fmt : Fmt) (C : List Name) (ops : List Op) (hv : Valid C [] ops)
    (hd : (recordedOf ops).Nodup) :
    ∃ blocks : List (List String × List (Row × String)),
      streamTexts fmt (ops ++ [.stream]) = blocks.map (fun b => some (b.1 ++ b.2.map (·.2))) ∧
      blocks.flatMap (fun b => b.2.map (·.1)) = delivered (ops ++ [.stream]) ∧
      (delivered (ops ++ [.stream])).Nodup ∧ (∀ r ∈ (run ops).rows, r ∈ delivered (ops ++ [.stream])) ∧
      (blocks.filter fun b => decide (b.1 ≠ [])).length ≤ 1 ∧
      ∀ b ∈ blocks, ∀ p ∈ b.2, ∃ pre W i, pre <+: ops ++ [.stream] ∧
        (run pre).rows[i]? = some p.1 ∧ p.2 = rowLineOf fmt i p.1 (run pre) W := by
  obtain ⟨b1, b2, b3, b4⟩ := blocks_history fmt (ops ++ [.stream]) (LB.empty, CL.empty)
    fun _ => validDeep_prefix_deep ⟨shaped_empty _, rfl⟩ (valid_snoc_stream hv).deep
  obtain ⟨g1, g2, _⟩ := stream_exactly_once C ops hv hd
  refine ⟨_, b1, ?_, g1, g2, header_blocks_le_one b3, b4⟩
  have := congrArg List.flatten b2
  simpa [delivered, streams, List.flatMap_def] using this

/-- The same for histories over records with sub-dictionaries (chapters with sub-chapters, any depth), in
positional form: every reading of the stream returns a text = header block ++ one line per row that
`Logbook.stream` delivers at that reading, in order (`history_counts` counts those for any tree of sub-dictionaries,
`stream_positional` being the case of flat records); at most one reading
carries a header block. -/
theorem stream_text_deep (fmt : Fmt) (sh : Shape) (ops : List Op) (hv : ValidDeep sh [] ops) :
    ∃ blocks : List (List String × List (Row × String)),
      streamTexts fmt ops = blocks.map (fun b => some (b.1 ++ b.2.map (·.2))) ∧
      blocks.map (fun b => b.2.map (·.1)) = (streams ops).map (·.rows) ∧
      (blocks.filter fun b => decide (b.1 ≠ [])).length ≤ 1 ∧
      ∀ b ∈ blocks, ∀ p ∈ b.2, ∃ pre W i, pre <+: ops ∧
        (run pre).rows[i]? = some p.1 ∧ p.2 = rowLineOf fmt i p.1 (run pre) W := by
  obtain ⟨b1, b2, b3, b4⟩ := blocks_history fmt ops (LB.empty, CL.empty)
    fun _ => validDeep_prefix_deep ⟨shaped_empty sh, rfl⟩ hv
  exact ⟨_, b1, b2, header_blocks_le_one b3, b4⟩

/-- Pickling at text level: the round trip restores rows, chapters, stream position, header settings,
`header_streamed` AND every `columns_len`, so a history with a pickle round trip anywhere returns the same
texts and reaches the same state as the history without it.  The model's `pickle` is the identity on that state, so a
statement about `pickle` alone would say `id = id`; that the real `pickle.dumps` / `loads` restores all of it, chapters
included, is established by the correspondence harness only (every history may pickle between any two operations,
protocols 0–5; the complete state and all later behaviour are compared, on the copy and on the original). -/
theorem pickle_transparent (fmt : Fmt) (xs ys : List Op) :
    runT fmt (xs ++ .pickle :: ys) = runT fmt (xs ++ ys) ∧
    streamTexts fmt (xs ++ .pickle :: ys) = streamTexts fmt (xs ++ ys) := by
  suffices key : ∀ s : LB × CL, runFromT fmt s (xs ++ .pickle :: ys) = runFromT fmt s (xs ++ ys) ∧
      streamTextsFrom fmt s (xs ++ .pickle :: ys) = streamTextsFrom fmt s (xs ++ ys) from key _
  induction xs with
  | nil =>
    intro s
    have hstep : (stepT fmt s .pickle).1 = s := by simp only [stepT, step, pickle_eq]
    exact ⟨congrArg (runFromT fmt · ys) hstep, congrArg (streamTextsFrom fmt · ys) hstep⟩
  | cons o os ih =>
    intro s
    obtain ⟨i1, i2⟩ := ih (stepT fmt s o).1
    refine ⟨i1, ?_⟩
    cases o <;> first | exact i2 | exact congrArg (_ :: ·) i2

section Statistics
open Stats
variable {δ κ φ ρ : Type}

/-- Compiling applies every registered function, with its frozen arguments, to the tuple of key
values of the data: under each registered name the result is `fn args (data.map key)` for the
latest registration of that name, and there is nothing under other names. -/
theorem compile_spec (key : δ → κ) (regs : List (Reg κ φ ρ)) (data : List δ) (n : Name) :
    (Stats.compile (registerAll (Stats.new key) regs) data).lookup n =
      (regs.reverse.find? (fun r => r.1 == n)).map fun r => r.2.1 r.2.2 (data.map key) := by
  rw [lookup_compile, registerAll_lookup, registerAll_key]
  cases regs.reverse.find? (fun r => r.1 == n) <;> rfl

/-- the compiled record has exactly the registered names (each once) -/
theorem compile_keys (s : Statistics δ κ φ ρ) (data : List δ) :
    (Stats.compile s data).map (·.1) = s.functions.map (·.1) := by
  simp [Stats.compile]

/-- Multi-statistics return one such record per named statistics object, under its name and in
the order of the objects. -/
theorem multi_compile_spec (m : Multi δ κ φ ρ) (data : List δ) :
    (Multi.compile m data).map (·.1) = Multi.names m ∧
    Multi.compile m data = m.map (fun p => (p.1, Stats.compile p.2 data)) ∧
    ∀ sname s, (sname, s) ∈ m → (sname, Stats.compile s data) ∈ Multi.compile m data := by
  refine ⟨by simp [Multi.compile, Multi.names], rfl, ?_⟩
  intro sname s h
  exact List.mem_map.2 ⟨(sname, s), h, rfl⟩

/-- `MultiStatistics.register` registers the function, with its frozen arguments, in every
statistics object -/
theorem multi_register_spec (m : Multi δ κ φ ρ) (name : Name) (fn : φ → List κ → ρ) (args : φ) :
    Multi.register m name fn args = m.map (fun p => (p.1, Stats.register p.2 name fn args)) ∧
    Multi.names (Multi.register m name fn args) = Multi.names m := by
  refine ⟨rfl, ?_⟩
  simp [Multi.register, Multi.names]

end Statistics

/-! ### MultiStatistics and its Statistics objects as mutable state (`Core/StatsHist.lean`)

A history is any list of `Stats.MOp`: objects are created, registered on (directly or through the
`MultiStatistics`, names re-registered), stored / replaced / removed with EVERY mutator of the dict
(`ms[k] = s`, `del`, `update`, `|=`, `setdefault`, `pop`, `popitem`, `clear`), and `fields` / `compile` are
evaluated in between. -/

section StatsHistories
open Stats
variable {δ κ φ ρ : Type}

/-- `compile` after a history is a function of the CURRENT mapping and the data only:
* the evaluations of `fields` / `compile` (and of an object's `fields`) that happened during the history can be
  struck out of it without changing the state it ends in (nothing is remembered from one evaluation to the next),
* `compile` leaves the state as it is and returns `Multi.compile` of the resolved current mapping
  (`view`: the `items()` of the dict, name → statistics object), i.e. one `Stats.compile` record per item,
* so two histories (from any two states) that end in the same resolved mapping compile to the same record. -/
theorem compile_after_history (st : MS δ κ φ ρ) (h : List (MOp δ κ φ ρ)) (data : List δ) :
    Stats.runFrom st (h.filter fun op => !op.isObs) = Stats.runFrom st h ∧
    Stats.step (Stats.runFrom st h) (.compile data) =
      (Stats.runFrom st h, .record (Multi.compile (view (Stats.runFrom st h)) data)) ∧
    ∀ (st' : MS δ κ φ ρ) (h' : List (MOp δ κ φ ρ)),
      view (Stats.runFrom st' h') = view (Stats.runFrom st h) →
        (Stats.step (Stats.runFrom st' h') (.compile data)).2 =
          (Stats.step (Stats.runFrom st h) (.compile data)).2 := by
  refine ⟨?_, rfl, ?_⟩
  · induction h generalizing st with
    | nil => rfl
    | cons op ops ih =>
      cases ho : op.isObs <;> simp only [List.filter_cons, ho, Bool.not_false, Bool.not_true, if_true,
        Bool.false_eq_true, if_false]
      · exact ih _
      · exact (ih st).trans (congrArg (Stats.runFrom · ops) (step_obs st op ho).symm)
  · intro st' h' hv
    simp only [Stats.step, compileOf, hv]

/-- The keys of the compiled record are the keys of the mapping, in its order and each exactly once — after
every history on a fresh `MultiStatistics()`: exactly one sub-record per statistics object currently in the
mapping, and that sub-record is the object's own `compile`. -/
theorem multi_compile_keys (h : List (MOp δ κ φ ρ)) (data : List δ) :
    (compileOf (Stats.run h) data).map (·.1) = dKeys (Stats.run h).map ∧
    (dKeys (Stats.run h).map).Nodup ∧
    ∀ k id, (k, id) ∈ (Stats.run h).map →
      ∃ s, (Stats.run h).heap[id]? = some s ∧ (k, Stats.compile s data) ∈ compileOf (Stats.run h) data := by
  have hi : MInv (Stats.run h) := minv_runFrom _ h minv_empty
  refine ⟨?_, hi.2, ?_⟩
  · rw [← view_keys _ hi.1]
    simp [compileOf, Multi.compile]
  · intro k id hm
    have hlt := hi.1 (k, id) hm
    refine ⟨(Stats.run h).heap[id], List.getElem?_eq_getElem hlt, ?_⟩
    simp only [compileOf, Multi.compile, view, List.mem_map, List.mem_filterMap]
    exact ⟨(k, (Stats.run h).heap[id]), ⟨(k, id), hm, by simp [List.getElem?_eq_getElem hlt]⟩, rfl⟩

/-- A registration overrides: after `register(name, fn, *args)` the compiled record holds, under `name`,
`fn` with the NEW frozen arguments applied to the tuple of key values, whatever was registered under that name
before; every other name compiles as before. -/
theorem register_overrides (s : Statistics δ κ φ ρ) (name : Name) (fn : φ → List κ → ρ) (args : φ)
    (data : List δ) (n : Name) :
    (Stats.compile (Stats.register s name fn args) data).lookup n =
      if n = name then some (fn args (data.map s.key)) else (Stats.compile s data).lookup n := by
  rw [lookup_compile, lookup_compile, Stats.register, lookup_setFn]
  split <;> rfl

/-- … and through the `MultiStatistics`: after `ms.register(name, fn, *args)` every object that is stored in the
mapping (under whatever name, also when stored twice) compiles `name` to `fn args (key values)`, keeps its key
and compiles every other name as before; objects that are not in the mapping are untouched. -/
theorem register_overrides_multi (st : MS δ κ φ ρ) (name : Name) (fn : φ → List κ → ρ) (args : φ)
    (id : Nat) (s : Statistics δ κ φ ρ) (hs : st.heap[id]? = some s) (data : List δ) :
    ∃ s', (Stats.step st (.register name fn args)).1.heap[id]? = some s' ∧
      (Stats.step st (.register name fn args)).1.map = st.map ∧
      ∀ n, (Stats.compile s' data).lookup n =
        if n = name ∧ id ∈ st.map.map (·.2) then some (fn args (data.map s.key))
        else (Stats.compile s data).lookup n := by
  obtain ⟨s', e1, e2, e3⟩ := registerHeap_get st.heap (st.map.map (·.2)) name fn args id s hs
  refine ⟨s', e1, rfl, fun n => ?_⟩
  rw [lookup_compile, lookup_compile, e3 n, e2]
  split <;> rfl

/-- `fields` is the sorted list of the names CURRENTLY in the mapping (after any history, from any state):
ascending, a permutation of the dict's keys, and reading it changes nothing. -/
theorem fields_sorted_current (st : MS δ κ φ ρ) (h : List (MOp δ κ φ ρ)) :
    Stats.step (Stats.runFrom st h) .fields = (Stats.runFrom st h, .names (fieldsOf (Stats.runFrom st h))) ∧
    (fieldsOf (Stats.runFrom st h)).Pairwise (· ≤ ·) ∧
    (fieldsOf (Stats.runFrom st h)).Perm (dKeys (Stats.runFrom st h).map) ∧
    ∀ n, n ∈ fieldsOf (Stats.runFrom st h) ↔ dHas (Stats.runFrom st h).map n = true := by
  obtain ⟨hp, hs⟩ := sortNames_spec (dKeys (Stats.runFrom st h).map)
  exact ⟨rfl, hs, hp, fun n => hp.mem_iff.trans (dHas_iff _ n).symm⟩

end StatsHistories

/-! ### Non-vacuity: concrete instances of the hypotheses above -/

/-- records with the chapter `10`, a stream, a negative-index deletion, a `pop` on the logbook
with its chapter, a slice deletion -/
def demoOps : List Op :=
  [.record (.mk [(0, 1), (1, 0)] [(10, .mk [(5, 7)] [])]),
   .record (.mk [(0, 2), (1, 1)] [(10, .mk [(5, 9), (1, 4)] [])]),
   .stream,
   .record (.mk [(0, 3)] [(10, .mk [] [])]),
   .record (.mk [(0, 4)] [(10, .mk [(5, 8)] [])]),
   .record (.mk [(0, 5)] [(10, .mk [(5, 6)] [])]),
   .delIndex (-4),
   .pop (-1),
   .delSlice [1],
   .stream]

theorem demoOps_valid : Valid [10] [] demoOps := by
  simp [demoOps, Valid, OpOk, EntryOk, specStep, Entry.dicts, pos?, position]
example : Valid [10] [] demoOps := demoOps_valid
example : (run demoOps).rows = [[(0, 1), (1, 0)], [(0, 4)]] ∧
    chRows 10 (run demoOps) = [[(5, 7), (0, 1), (1, 0)], [(5, 8), (0, 4)]] ∧
    (run demoOps).buffindex = 2 ∧
    delivered demoOps = [[(0, 1), (1, 0)], [(0, 2), (1, 1)], [(0, 4)]] ∧ headerCount demoOps = 1 := by
  decide +kernel
example : (recordedOf demoOps).Nodup := by decide
-- the delivery counters of `demoOps` (two surviving records, both delivered once); with EQUAL rows
-- the value-based theorems do not apply but the positional one does
example : counts demoOps = [1, 1] ∧
    counts [.record (.mk [(1, 5)] []), .record (.mk [(1, 5)] []), .stream, .record (.mk [(1, 5)] [])] = [1, 1, 0] := by
  decide +kernel
-- a logbook with chapter 10 and sub-chapter 20, aligned at every depth; `pop(-1)` and a slice
-- deletion reach the sub-chapter
def deepLB : LB := run [.record (.mk [(0, 1)] [(10, .mk [(5, 7)] [(20, .mk [(6, 1)] [])])]),
                        .record (.mk [(0, 2)] [(10, .mk [(5, 8)] [(20, .mk [(6, 2)] [])])]),
                        .record (.mk [(0, 3)] [(10, .mk [(5, 9)] [(20, .mk [(6, 3)] [])])])]
/-- the tree of `deepLB`'s records: chapter 10 with sub-chapter 20 -/
def deepShape : Shape := .mk [(10, .mk [(20, .mk [])])]
theorem deepShape_fits (a b c : Int) :
    Fits [] deepShape (.mk [(0, a)] [(10, .mk [(5, b)] [(20, .mk [(6, c)] [])])]) := by
  simp [deepShape, Fits, FitsAll, effDicts, dictHas, Shape.kids]
example : ValidDeep deepShape []
    [.record (.mk [(0, 1)] [(10, .mk [(5, 7)] [(20, .mk [(6, 1)] [])])]),
     .record (.mk [(0, 2)] [(10, .mk [(5, 8)] [(20, .mk [(6, 2)] [])])]),
     .pop (-1), .delSlice [0], .stream] :=
  ⟨deepShape_fits _ _ _, deepShape_fits _ _ _, trivial, ⟨by decide, by decide⟩, trivial, trivial⟩
example : DeepAligned deepLB := by
  refine (record_deep_aligned deepShape _ ?_).1
  exact ⟨deepShape_fits _ _ _, deepShape_fits _ _ _, deepShape_fits _ _ _, trivial⟩
example : ((chapterAt [10, 20] (pop (-1) deepLB).2).map LB.rows) =
      some [[(6, 1), (5, 7), (0, 1)], [(6, 2), (5, 8), (0, 2)]] ∧
    ((chapterAt [10, 20] (delSlice [2, 0] deepLB).1).map LB.rows) = some [[(6, 2), (5, 8), (0, 2)]] := by
  decide +kernel
-- hypotheses of the text theorems: the logbook after `demoOps` is aligned at every depth, `deepLB` too
example : DeepAligned (run demoOps) := (history_is_image [10] demoOps demoOps_valid).deep
-- hypotheses of `txt_plain`: a logbook without chapters that is not empty
example : (run [.record (.mk [(0, 1)] []), .record (.mk [(0, 2), (1, 5)] [])]).chapters = [] ∧
    (run [.record (.mk [(0, 1)] []), .record (.mk [(0, 2), (1, 5)] [])]).rows.length ≠ 0 := by decide
-- hypotheses of `header_first`
example : (run [.record (.mk [(0, 1)] [])]).buffindex = 0 ∧ 0 < (run [.record (.mk [(0, 1)] [])]).rows.length ∧
    (run [.record (.mk [(0, 1)] [])]).logHeader = true ∧ (run [.record (.mk [(0, 1)] [])]).headerStreamed = false := by
  decide
-- the scalar fields win over equal keys of the dictionary (key 1 above: 4 is replaced by 1)
example : chapterRow 10 (.mk [(0, 2), (1, 1)] [(10, .mk [(5, 9), (1, 4)] [])]) = some [(5, 9), (1, 1), (0, 2)] := by
  decide
example : pos? 3 (-1) = some 2 ∧ pos? 3 2 = some 2 ∧ pos? 3 3 = none ∧ pos? 3 (-4) = none := by decide
example : select [1] (run demoOps) = .single [some 0, none] ∧
    select [0, 1] (run demoOps) = .multi [[some 1, some 4], [some 0, none]] := by
  decide +kernel
-- statistics: `lin a values b = a * sum + b` registered with frozen (2, 3); re-registration of name 1
example : Stats.compile (registerAll (Stats.new (fun (l : List Int) => (l.length : Int)))
      [(1, fun _ v => v.foldl (· + ·) 0, ([] : List Int)),
       (2, fun a v => a.headD 0 * v.foldl (· + ·) 0 + (a.drop 1).headD 0, [2, 3]),
       (1, fun _ v => v.foldl max 0, [])])
    [[1, 2], [3], [4, 5, 6]] = [(1, 3), (2, 15)] := by decide

-- MultiStatistics histories: two objects, `fields` and `compile` evaluated, then `update` / `setdefault` / `pop`
-- (the mutators that are not `__setitem__` / `__delitem__`), a re-registration through the MultiStatistics
def demoMOps : List (Stats.MOp (List Int) Int (List Int) Int) :=
  [.alloc (fun l => (l.length : Int)), .regObj 0 1 (fun _ v => v.foldl (· + ·) 0) [],
   .alloc (fun l => l.headD 0), .regObj 1 1 (fun _ v => v.foldl max 0) [],
   .setItem 10 0, .fields, .compile [[1, 2], [3]],
   .update [(11, 1)], .setDefault 12 1, .setDefault 10 1, .pop 10,
   .register 1 (fun a v => a.headD 0 * v.foldl (· + ·) 0) [2]]
example : (Stats.run demoMOps).map = [(11, 1), (12, 1)] ∧
    Stats.fieldsOf (Stats.run demoMOps) = [11, 12] ∧
    Stats.compileOf (Stats.run demoMOps) [[1, 2], [3]] = [(11, [(1, 8)]), (12, [(1, 8)])] ∧
    Stats.compileOf (Stats.run (demoMOps.take 7)) [[1, 2], [3]] = [(10, [(1, 3)])] := by decide +kernel
-- hypothesis of `register_overrides_multi`: object 1 is on the heap of that state
example : ∃ s, (Stats.run demoMOps).heap[1]? = some s := ⟨_, rfl⟩
-- hypothesis of `compile_after_history` (third part): two different histories ending in the same resolved mapping
example : Stats.view (Stats.run [Stats.MOp.alloc (fun (l : List Int) => (l.length : Int)), .setItem 10 0,
      (.fields : Stats.MOp (List Int) Int (List Int) Int), .pop 10]) =
    Stats.view (Stats.run [Stats.MOp.alloc (fun (l : List Int) => (l.length : Int)),
      (.clear : Stats.MOp (List Int) Int (List Int) Int)]) := rfl

end C18
