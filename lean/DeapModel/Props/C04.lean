/-
C04 — Non-dominated sorting returns the exact Pareto ranking.
Property theorems only.  Models and spec: `DeapModel/Core/NDSort.lean`; lemmas: `DeapModel/Lemmas/C04*.lean`.

Reading guide
* spec: `peel domI pop` = the fronts obtained by repeatedly removing the non-dominated individuals,
  `depth domI pop x` = index of the front of `x`, `leading fronts k` = the leading fronts needed to
  reach `k` individuals.  An individual `⟨id, w⟩` carries its object identity, so a `List.Perm`
  between lists of individuals speaks about the very input objects and their multiplicity.
* model A `sortStd` (= `sortNondominated`): proved equal to the spec in full (A-theorems).
* certificate: `ranking_unique`, `checkRanking_sound` — what the driver's checker establishes for
  every complete output of the real procedures.
* model B `sortLog` (= `sortLogNondominated`): partition / grouping / truncation (the `_partial`
  theorems: for any linearly ordered scalar with `+` and `-`), termination (`sortLog_terminates`) and — over an ordered field, with at least two
  objectives — full correctness: `sortLog_eq_peel`, `sortLog_first_front_only`, and
  `sortLog_eq_sortStd` (the statement is `sortLog_eq_sortStd_Statement`).  The
  specifications of the helpers (`sweepA_correct`, `sweepB_correct`, `sortNDHelperB_correct`,
  `sortNDHelperA_correct`) are stated with `geOn n g f` / `domOn n g f` (g at least as good as /
  dominating f on objectives `0..n-1`) and `Raised R front f D`
  (`R f = max (front f) (1 + max {R g | D g})`).
-/
import DeapModel.Lemmas.C04LogTop
import Mathlib.Tactic.NormNum

namespace C04
open NDSort C04L

variable {α : Type} [LinearOrder α]

/-- population used to show that hypotheses are satisfiable: a duplicate pair, a dominated point,
a chain of length three (depths, in list order, 0,0,2,0,1) -/
abbrev exPop : List (Ind Int) := [⟨0, [1, 2]⟩, ⟨1, [2, 1]⟩, ⟨2, [0, 0]⟩, ⟨3, [1, 2]⟩, ⟨4, [1, 1]⟩]

/-- Dominance between individuals (the loop of `Fitness.dominates`) means: nowhere worse on the
weighted values, somewhere strictly better. -/
theorem domI_iff (y x : Ind α) :
    domI y x = true ↔ (∀ p ∈ y.w.zip x.w, p.2 ≤ p.1) ∧ (∃ p ∈ y.w.zip x.w, p.2 < p.1) :=
  domW_iff y.w x.w

/-- On a population whose fitnesses all have `m` objectives dominance is a strict partial order. -/
theorem dominance_strict_partial_order (m : Nat) (pop : List (Ind α)) (hlen : ∀ x ∈ pop, x.w.length = m) :
    (∀ x ∈ pop, domI x x = false) ∧
    (∀ x ∈ pop, ∀ y ∈ pop, ∀ z ∈ pop, domI x y = true → domI y z = true → domI x z = true) :=
  ⟨(spo_domI m pop hlen).irrefl, (spo_domI m pop hlen).trans⟩

example : ∀ x ∈ exPop, x.w.length = 2 := by decide

/-- A finite strict partial order has a maximal element: every non-empty population has a
non-dominated individual.  (This is what makes the peeling terminate.) -/
theorem exists_nondominated (m : Nat) (pop : List (Ind α)) (hlen : ∀ x ∈ pop, x.w.length = m)
    (hne : pop ≠ []) : ∃ x ∈ pop, ∀ y ∈ pop, domI y x = false :=
  exists_maximal domI pop hne (spo_domI m pop hlen)

example : (∀ x ∈ exPop, x.w.length = 2) ∧ exPop ≠ [] := by decide

/-- The first front is the non-dominated set. -/
theorem mem_nondom_iff (pop : List (Ind α)) (x : Ind α) :
    x ∈ nondom domI pop ↔ x ∈ pop ∧ ∀ y ∈ pop, domI y x = false := mem_nondom

/-- `peel` really is "remove the non-dominated individuals, repeat" — no round of its bounded
recursion is wasted, because each round removes at least one individual. -/
theorem peel_unfold (m : Nat) (pop : List (Ind α)) (hlen : ∀ x ∈ pop, x.w.length = m) (hne : pop ≠ []) :
    peel domI pop = nondom domI pop :: peel domI (dominatedPart domI pop) ∧
    (dominatedPart domI pop).length < pop.length :=
  ⟨peel_eq hne (spo_domI m pop hlen), length_dominatedPart_lt hne (spo_domI m pop hlen)⟩

example : (∀ x ∈ exPop, x.w.length = 2) ∧ exPop ≠ [] := by decide

/-- The fronts of the spec partition the population: every individual lies in exactly one front
(as often as it is listed), and no front is empty. -/
theorem peel_partition (m : Nat) (pop : List (Ind α)) (hlen : ∀ x ∈ pop, x.w.length = m) :
    (peel domI pop).flatten.Perm pop ∧ ∀ f ∈ peel domI pop, f ≠ [] :=
  ⟨peel_flatten_perm pop (spo_domI m pop hlen), peel_fronts_ne_nil pop (spo_domI m pop hlen)⟩

example : ∀ x ∈ exPop, x.w.length = 2 := by decide

/-- Front `i` of the spec contains exactly the individuals of dominance depth `i`. -/
theorem peel_front_iff_depth (m : Nat) (pop : List (Ind α)) (hlen : ∀ x ∈ pop, x.w.length = m)
    (i : Nat) (f : List (Ind α)) (hf : (peel domI pop)[i]? = some f) (x : Ind α) :
    x ∈ f ↔ x ∈ pop ∧ depth domI pop x = i :=
  mem_peel_iff pop (spo_domI m pop hlen) i f hf x

example : (∀ x ∈ exPop, x.w.length = 2) ∧
    (peel domI exPop)[1]? = some [⟨4, [1, 1]⟩] := by decide

/-- Individuals with equal fitness have the same depth. -/
theorem equal_fitness_same_depth (m : Nat) (pop : List (Ind α)) (hlen : ∀ x ∈ pop, x.w.length = m)
    (x y : Ind α) (hx : x ∈ pop) (hy : y ∈ pop) (hw : x.w = y.w) :
    depth domI pop x = depth domI pop y :=
  depth_congr pop (spo_domI m pop hlen) x hx y hy (fun z => by simp [domI, hw])

example : (∀ x ∈ exPop, x.w.length = 2) ∧ (⟨0, [1, 2]⟩ : Ind Int) ∈ exPop ∧ (⟨3, [1, 2]⟩ : Ind Int) ∈ exPop := by
  decide

/-- What "the leading fronts needed to reach `k`" means: `leading fronts k` is a prefix of the
fronts, it holds at least `min k (total)` individuals, and without its last front it holds fewer
than `k`; for `k = 0` it is empty and for `k ≥ total` it is everything. -/
theorem leading_spec {β : Type} (fronts : List (List β)) (k : Nat) :
    leading fronts k <+: fronts ∧
    min k fronts.flatten.length ≤ (leading fronts k).flatten.length ∧
    (leading fronts k ≠ [] → (leading fronts k).dropLast.flatten.length < k) ∧
    leading fronts 0 = [] ∧
    ((∀ f ∈ fronts, f ≠ []) → fronts.flatten.length ≤ k → leading fronts k = fronts) :=
  ⟨leading_prefix fronts k, leading_enough fronts k, leading_minimal fronts k, leading_zero fronts,
   leading_all fronts k⟩

/-! ### A1: the quadratic procedure returns exactly the Pareto ranking -/

/-- **A1.**  For every non-empty population (all fitnesses with `m` objectives) and every `k`,
`sortNondominated(pop, k)` terminates and returns, front by front, the leading fronts of the
ranking by peeling needed to reach `k` (each front up to the order of its members; the members are
the input objects with their multiplicity). -/
theorem sortStd_eq_peel (pop : List (Ind α)) (hne : pop ≠ []) (m : Nat) (hlen : ∀ x ∈ pop, x.w.length = m)
    (k : Nat) :
    ∃ fronts, sortStd pop k false = some fronts ∧
      List.Forall₂ List.Perm fronts (leading (peel domI pop) k) := by
  by_cases hk : k = 0
  · subst hk; exact ⟨[], by simp [sortStd], by rw [leading_zero]; exact List.Forall₂.nil⟩
  · exact sortStd_full pop hne m hlen k hk

example : exPop ≠ [] ∧ (∀ x ∈ exPop, x.w.length = 2) ∧
    sortStd exPop 4 false = some [[⟨0, [1, 2]⟩, ⟨3, [1, 2]⟩, ⟨1, [2, 1]⟩], [⟨4, [1, 1]⟩]] := by decide

/-- Front `i` of the result contains exactly the individuals of dominance depth `i`. -/
theorem sortStd_front_iff_depth (pop : List (Ind α)) (hne : pop ≠ []) (m : Nat)
    (hlen : ∀ x ∈ pop, x.w.length = m) (k : Nat) (fronts : List (List (Ind α)))
    (h : sortStd pop k false = some fronts) (i : Nat) (f : List (Ind α)) (hf : fronts[i]? = some f)
    (x : Ind α) : x ∈ f ↔ x ∈ pop ∧ depth domI pop x = i := by
  obtain ⟨fr, h1, h2⟩ := sortStd_eq_peel pop hne m hlen k
  rw [h] at h1; cases h1
  exact leading_peel_mem_iff (spo_domI m pop hlen) h2 hf x

example : exPop ≠ [] ∧ (∀ x ∈ exPop, x.w.length = 2) ∧
    (∃ fr, sortStd exPop 4 false = some fr ∧ fr[1]? = some [⟨4, [1, 1]⟩]) := by decide

/-- Asked for at least as many individuals as there are, the fronts contain every input individual
exactly once and are the complete ranking. -/
theorem sortStd_every_individual_once (pop : List (Ind α)) (hne : pop ≠ []) (m : Nat)
    (hlen : ∀ x ∈ pop, x.w.length = m) (k : Nat) (hk : pop.length ≤ k) (fronts : List (List (Ind α)))
    (h : sortStd pop k false = some fronts) :
    fronts.flatten.Perm pop ∧ List.Forall₂ List.Perm fronts (peel domI pop) := by
  obtain ⟨fr, h1, h2⟩ := sortStd_eq_peel pop hne m hlen k
  rw [h] at h1; cases h1
  exact leading_peel_all (spo_domI m pop hlen) h2 hk

example : exPop ≠ [] ∧ (∀ x ∈ exPop, x.w.length = 2) ∧ exPop.length ≤ 5 ∧
    (sortStd exPop 5 false).isSome = true := by decide

/-- For every `k` the returned individuals are input individuals, none more often than listed in
the input (a sub-permutation), at least `min k n` of them, and fewer than `k` without the last front. -/
theorem sortStd_subperm (pop : List (Ind α)) (hne : pop ≠ []) (m : Nat)
    (hlen : ∀ x ∈ pop, x.w.length = m) (k : Nat) (fronts : List (List (Ind α)))
    (h : sortStd pop k false = some fronts) :
    fronts.flatten.Subperm pop ∧ min k pop.length ≤ fronts.flatten.length ∧
    (fronts ≠ [] → fronts.dropLast.flatten.length < k) := by
  obtain ⟨fr, h1, h2⟩ := sortStd_eq_peel pop hne m hlen k
  rw [h] at h1; cases h1
  have hS := spo_domI m pop hlen
  exact ⟨leading_peel_subperm hS h2, leading_peel_enough hS h2, leading_peel_minimal h2⟩

example : exPop ≠ [] ∧ (∀ x ∈ exPop, x.w.length = 2) ∧ (sortStd exPop 2 false).isSome = true := by decide

/-- Individuals with equal fitness are always in the same returned front. -/
theorem sortStd_equal_fitness_same_front (pop : List (Ind α)) (hne : pop ≠ []) (m : Nat)
    (hlen : ∀ x ∈ pop, x.w.length = m) (k : Nat) (fronts : List (List (Ind α)))
    (h : sortStd pop k false = some fronts) (f : List (Ind α)) (hf : f ∈ fronts)
    (x y : Ind α) (hx : x ∈ pop) (hy : y ∈ pop) (hw : x.w = y.w) : x ∈ f ↔ y ∈ f := by
  obtain ⟨i, hi⟩ := List.mem_iff_getElem?.1 hf
  rw [sortStd_front_iff_depth pop hne m hlen k fronts h i f hi x,
    sortStd_front_iff_depth pop hne m hlen k fronts h i f hi y,
    equal_fitness_same_depth m pop hlen x y hx hy hw]
  simp [hx, hy]

example : exPop ≠ [] ∧ (∀ x ∈ exPop, x.w.length = 2) ∧ (⟨0, [1, 2]⟩ : Ind Int) ∈ exPop ∧
    (⟨3, [1, 2]⟩ : Ind Int) ∈ exPop := by decide

/-- `k = 0`: no fronts, whatever the flag. -/
theorem sortStd_zero (pop : List (Ind α)) (ffo : Bool) : sortStd pop 0 ffo = some [] := by
  simp [sortStd]

/-- `first_front_only=True` (and `k > 0`): exactly one front, the non-dominated set. -/
theorem sortStd_first_front_only (pop : List (Ind α)) (m : Nat) (hlen : ∀ x ∈ pop, x.w.length = m)
    (k : Nat) (hk : k ≠ 0) :
    ∃ front, sortStd pop k true = some [front] ∧ front.Perm (nondom domI pop) := by
  have h := stdFront0_perm pop m hlen
  have := (carriers_nondom pop _ (fits_rep pop)).1
  rw [carriers_fits] at this
  rw [← this] at h
  exact ⟨_, by rw [sortStd_of_ne_zero pop k hk, if_pos rfl], h⟩

example : (∀ x ∈ exPop, x.w.length = 2) ∧ (4 : Nat) ≠ 0 ∧
    sortStd exPop 4 true = some [[⟨0, [1, 2]⟩, ⟨3, [1, 2]⟩, ⟨1, [2, 1]⟩]] := by decide

/-! ### B4: the certificate -/

/-- **B4.**  On a strict partial order, a rank function satisfies the two local conditions
(every dominator has a strictly smaller rank; every element of positive rank has a dominator
exactly one rank below) if and only if it is the dominance depth. -/
theorem ranking_unique {β : Type} [DecidableEq β] (dom : β → β → Bool) (S : List β)
    (hirr : ∀ x ∈ S, dom x x = false)
    (htr : ∀ x ∈ S, ∀ y ∈ S, ∀ z ∈ S, dom x y = true → dom y z = true → dom x z = true)
    (r : β → Nat) :
    ((∀ x ∈ S, ∀ y ∈ S, dom y x = true → r y < r x) ∧
     (∀ x ∈ S, 0 < r x → ∃ y ∈ S, dom y x = true ∧ r y + 1 = r x)) ↔
    ∀ x ∈ S, r x = depth dom S x := by
  have hS : SPO dom S := ⟨hirr, htr⟩
  constructor
  · rintro ⟨h1, h2⟩
    exact cert_unique r (depth dom S) h1 h2 (depth_lt_of_dom S hS) (depth_pred S hS)
  · intro h
    refine ⟨fun x hx y hy hd => ?_, fun x hx hp => ?_⟩
    · rw [h x hx, h y hy]; exact depth_lt_of_dom S hS x hx y hy hd
    · rw [h x hx] at hp
      obtain ⟨y, hy, hd, he⟩ := depth_pred S hS x hx hp
      exact ⟨y, hy, hd, by rw [h x hx, h y hy]; exact he⟩

example : (∀ x ∈ exPop, domI x x = false) ∧
    (∀ x ∈ exPop, ∀ y ∈ exPop, ∀ z ∈ exPop, domI x y = true → domI y z = true → domI x z = true) := by
  decide

/-- The executable checker decides exactly the left-hand side of `ranking_unique`. -/
theorem checkCert_correct {β : Type} [DecidableEq β] (dom : β → β → Bool) (S : List β) (r : β → Nat) :
    checkCert dom S r = true ↔
      (∀ x ∈ S, ∀ y ∈ S, dom y x = true → r y < r x) ∧
      (∀ x ∈ S, 0 < r x → ∃ y ∈ S, dom y x = true ∧ r y + 1 = r x) :=
  checkCert_iff dom S r

/-- Soundness of `checkRanking`, which the driver runs on every complete output of the real
`sortNondominated` and `sortLogNondominated`: if it accepts a list of fronts for a population of
distinct individuals, these fronts are, front by front, the Pareto ranking by peeling — hence
(`sortStd_every_individual_once`) what the quadratic procedure returns. -/
theorem checkRanking_sound (m : Nat) (pop : List (Ind α)) (hlen : ∀ x ∈ pop, x.w.length = m)
    (hnd : pop.Nodup) (fronts : List (List (Ind α))) (h : checkRanking domI pop fronts = true) :
    List.Forall₂ List.Perm fronts (peel domI pop) :=
  checkRanking_sound_aux domI pop hnd (spo_domI m pop hlen) fronts h

example : (∀ x ∈ exPop, x.w.length = 2) ∧ exPop.Nodup ∧
    checkRanking domI exPop [[⟨1, [2, 1]⟩, ⟨3, [1, 2]⟩, ⟨0, [1, 2]⟩], [⟨4, [1, 1]⟩], [⟨2, [0, 0]⟩]] = true ∧
    checkRanking domI exPop [[⟨1, [2, 1]⟩, ⟨3, [1, 2]⟩, ⟨0, [1, 2]⟩], [⟨4, [1, 1]⟩, ⟨2, [0, 0]⟩]] = false := by
  decide

/-! ### Model B (`sortLogNondominated`): what is proved in general -/

section ModelB
variable [Add α] [Neg α] [Inhabited α]

/-- The log-time procedure's own dominance test is the dominance of C01 with swapped arguments. -/
theorem isDominated_eq_domW (w1 w2 : List α) : isDominated w1 w2 = domW w2 w1 :=
  isDominatedLoop_eq_dominatesLoop w1 w2 false

/-- **B2, the structural part, for any scalar type** (`_partial`: it says nothing of the ranks).
Whenever model B finishes (its result is `some`), asked for at least `n` individuals it returns
every input individual exactly once, and for every `k` each returned front is closed under "equal
weighted values".  It holds whatever ranks the divide-and-conquer helpers compute; that these are
the dominance depths, and that the model always finishes, are `sortLog_eq_peel` /
`sortLog_terminates`. -/
theorem sortLog_partition_partial (pop : List (Ind α)) (k : Nat) (fronts : List (List (Ind α)))
    (h : sortLog pop k = some fronts) :
    (pop.length ≤ k → k ≠ 0 → fronts.flatten.Perm pop) ∧
    (∀ F ∈ fronts, ∀ x ∈ pop, ∀ y ∈ pop, x.w = y.w → (x ∈ F ↔ y ∈ F)) ∧
    fronts.flatten.Subperm pop := by
  by_cases hk : k = 0
  · subst hk
    simp only [sortLog, ↓reduceIte, Option.some.injEq] at h; subst h
    simp
  · simp only [sortLog, hk, ↓reduceIte, Option.map_eq_some_iff] at h
    obtain ⟨⟨fs, front, uf⟩, hr, rfl⟩ := h
    obtain ⟨p1, p2⟩ := logRanks_partition pop fs front uf hr
    rw [show logTruncate (logFronts fs front uf) k = leading (logFronts fs front uf) k from
      logTruncate_eq_leading _ k hk]
    have hsub := prefix_flatten_sublist (leading_prefix (logFronts fs front uf) k)
    refine ⟨?_, ?_, hsub.subperm.trans p1.subperm⟩
    · intro hn _
      -- enough individuals requested: nothing is cut
      have henough := leading_enough (logFronts fs front uf) k
      have hle := hsub.length_le
      have : (leading (logFronts fs front uf) k).flatten = (logFronts fs front uf).flatten :=
        hsub.eq_of_length (by have := p1.length_eq; omega)
      rw [this]; exact p1
    · intro F hF
      exact p2 F ((leading_prefix _ _).subset hF)

example : sortLog ([⟨0, [1, 2]⟩, ⟨1, [0, 0]⟩] : List (Ind Int)) 2 = some [[⟨0, [1, 2]⟩], [⟨1, [0, 0]⟩]] :=
  sortLog_pair _ _ 1 2 0 0 rfl rfl (by decide) (by decide)

/-- **B3, for any scalar type** (`_partial`: it says nothing of the ranks).  The truncation of model B
returns the leading fronts (of whatever fronts its ranks define) needed to reach `k`, none for
`k = 0`; with `first_front_only` the first front. -/
theorem sortLog_truncation_partial (pop : List (Ind α)) (k : Nat) :
    sortLog pop 0 = some [] ∧ sortLogFirst pop 0 = some [] ∧
    (k ≠ 0 → sortLog pop k =
      (logRanks pop).map fun r => leading (logFronts r.1 r.2.1 r.2.2) k) ∧
    (k ≠ 0 → sortLogFirst pop k = (logRanks pop).map fun r => (logFronts r.1 r.2.1 r.2.2).headD []) := by
  refine ⟨by simp [sortLog], by simp [sortLogFirst], fun hk => ?_, fun hk => ?_⟩
  · simp only [sortLog, hk]
    cases logRanks pop with
    | none => rfl
    | some r => obtain ⟨a, b, c⟩ := r; exact congrArg some (logTruncate_eq_leading _ k hk)
  · simp only [sortLogFirst, hk, ↓reduceIte]

/-- The agreement statement: the divide-and-conquer procedure produces the same ranking as the
quadratic one (front by front, up to order inside the fronts).  `sortLog_eq_sortStd` proves it for
every ordered field. -/
def sortLog_eq_sortStd_Statement : Prop :=
  ∀ (pop : List (Ind α)) (m : Nat), 2 ≤ m → pop ≠ [] → (∀ x ∈ pop, x.w.length = m) →
    ∀ k, ∃ fa fb, sortStd pop k false = some fa ∧ sortLog pop k = some fb ∧
      List.Forall₂ List.Perm fb fa

end ModelB

section Termination
variable {𝕜 : Type} [Field 𝕜] [LinearOrder 𝕜] [IsStrictOrderedRing 𝕜] [Inhabited 𝕜]

/-- **B1.**  Over an ordered field, model B finishes on every non-empty population whose fitnesses
have `m ≥ 2` objectives: neither `sortNDHelperA` nor `sortNDHelperB` ever receives back from
`splitA` / `splitB` the lists it passed in (the balance argument: the median lies between two
elements, so an empty side can only be chosen when the objective is constant, which the callers
exclude), and the objective index never falls below 1.  In Python this is "no infinite recursion". -/
theorem sortLog_terminates (pop : List (Ind 𝕜)) (m : Nat) (hm : 2 ≤ m) (hne : pop ≠ [])
    (hlen : ∀ x ∈ pop, x.w.length = m) (k : Nat) :
    (sortLog pop k).isSome = true ∧ (sortLogFirst pop k).isSome = true := by
  obtain ⟨_, _, _, hr, -⟩ := logRanks_eq_peel pop m hm hne hlen
  constructor
  · simp only [sortLog]; split
    · rfl
    · rw [hr]; rfl
  · simp only [sortLogFirst]; split
    · rfl
    · rw [hr]; rfl

example : (2 : Nat) ≤ 2 ∧ ([⟨0, [1, 2]⟩, ⟨1, [2, 1]⟩, ⟨2, [0, 0]⟩] : List (Ind ℚ)) ≠ [] ∧
    ∀ x ∈ ([⟨0, [1, 2]⟩, ⟨1, [2, 1]⟩, ⟨2, [0, 0]⟩] : List (Ind ℚ)), x.w.length = 2 := by decide

end Termination

section Correctness
variable {𝕜 : Type} [Field 𝕜] [LinearOrder 𝕜] [IsStrictOrderedRing 𝕜] [Inhabited 𝕜]

/-- **`sweepA`.**  On a list strictly decreasing in the lexicographic order of the first two
objectives, every fitness ends with `max(old rank, 1 + max final rank of its dominators in the
list)` (dominance on objectives 0 and 1); entries of other fitnesses are untouched. -/
theorem sweepA_correct (S : List (List 𝕜)) (front : FrontDict 𝕜) (hs : S.Pairwise lex2) :
    (∀ f, f ∉ S → dget (sweepA S front) 0 f = dget front 0 f) ∧
    ∀ f ∈ S, Raised (fun f => dget (sweepA S front) 0 f) (fun f => dget front 0 f) f
      (fun g => g ∈ S ∧ domOn 2 g f) :=
  sweepA_spec S front hs

example : ([[3, 1], [2, 5], [2, 4]] : List (List ℚ)).Pairwise lex2 := by
  unfold lex2 nth; decide

/-- **`sweepB`.**  `best` and `worst` weakly descending on the first two objectives, disjoint,
`worst` without repetition: every fitness `w` of `worst` ends with
`max(old rank, 1 + max old rank of the fitnesses of best at least as good as w on objectives 0, 1)`. -/
theorem sweepB_correct (best worst : List (List 𝕜)) (front : FrontDict 𝕜)
    (hbest : best.Pairwise ge2w) (hworst : worst.Pairwise ge2w) (hnd : worst.Nodup)
    (hlenb : ∀ b ∈ best, 2 ≤ b.length) (hlenw : ∀ w ∈ worst, 2 ≤ w.length)
    (hdisj : ∀ b ∈ best, b ∉ worst) :
    (∀ f, f ∉ worst → dget (sweepB best worst front) 0 f = dget front 0 f) ∧
    ∀ w ∈ worst, ∀ n, dget (sweepB best worst front) 0 w ≤ n ↔
      dget front 0 w ≤ n ∧ ∀ b ∈ best, geOn 2 b w → dget front 0 b + 1 ≤ n :=
  (sweepB_upd best worst front hbest hworst hnd hlenb hlenw hdisj).old hdisj

example : ([[3, 1], [2, 5]] : List (List ℚ)).Pairwise ge2w ∧ ([[2, 4]] : List (List ℚ)).Pairwise ge2w ∧
    ([[2, 4]] : List (List ℚ)).Nodup ∧ (∀ b ∈ ([[3, 1], [2, 5]] : List (List ℚ)), b ∉ ([[2, 4]] : List (List ℚ))) := by
  unfold ge2w nth; decide

/-- **`sortNDHelperB`.**  For fitnesses of one length `m`, both lists strictly descending
lexicographically and disjoint, `1 ≤ obj < m`: whenever the helper finishes, every `w` of `worst`
ends with `max(old rank, 1 + max old rank of the fitnesses of best at least as good as w on the
objectives 0..obj)`, nothing else changes (`helperB_total`, which also says that it finishes, read
through `Upd.old`). -/
theorem sortNDHelperB_correct (m : Nat) (best worst : List (List 𝕜)) (obj : Nat) (front front' : FrontDict 𝕜)
    (hlb : ∀ b ∈ best, b.length = m) (hlw : ∀ w ∈ worst, w.length = m) (hobj : obj < m) (ho : 1 ≤ obj)
    (hb : best.Pairwise lexDesc) (hw : worst.Pairwise lexDesc) (hdisj : ∀ b ∈ best, b ∉ worst)
    (h : helperB best worst obj front = some front') :
    (∀ f, f ∉ worst → dget front' 0 f = dget front 0 f) ∧
    ∀ w ∈ worst, ∀ n, dget front' 0 w ≤ n ↔
      dget front 0 w ≤ n ∧ ∀ b ∈ best, geOn (obj + 1) b w → dget front 0 b + 1 ≤ n := by
  obtain ⟨f, e, u⟩ := helperB_total m best worst obj front hlb hlw hobj ho hb hw hdisj
  cases e.symm.trans h
  exact u.old hdisj

/-- **`sortNDHelperA`.**  For a strictly descending list of fitnesses of length `m` that agree on
all objectives above `obj` (`1 ≤ obj < m`): whenever the helper finishes, every fitness ends with
`max(old rank, 1 + max final rank of its dominators in the list)` w.r.t. objectives `0..obj`,
nothing else changes (`helperA_total`, which also says that it finishes). -/
theorem sortNDHelperA_correct (m : Nat) (fits : List (List 𝕜)) (obj : Nat) (front front' : FrontDict 𝕜)
    (hl : ∀ f ∈ fits, f.length = m) (hobj : obj < m) (ho : 1 ≤ obj) (hs : fits.Pairwise lexDesc)
    (hagree : ∀ a ∈ fits, ∀ b ∈ fits, ∀ i, obj < i → i < m → nth a i = nth b i)
    (h : helperA fits obj front = some front') :
    (∀ f, f ∉ fits → dget front' 0 f = dget front 0 f) ∧
    ∀ f ∈ fits, Raised (fun f => dget front' 0 f) (fun f => dget front 0 f) f
      (fun g => g ∈ fits ∧ domOn (obj + 1) g f) := by
  obtain ⟨f, e, u⟩ := helperA_total m fits obj front hl hobj ho hs hagree
  cases e.symm.trans h
  exact ⟨u.frame, u.raised⟩

example : (∀ f ∈ ([[3, 1, 0], [2, 5, 0]] : List (List ℚ)), f.length = 3) ∧
    ([[3, 1, 0], [2, 5, 0]] : List (List ℚ)).Pairwise lexDesc ∧
    (∀ a ∈ ([[3, 1, 0], [2, 5, 0]] : List (List ℚ)), ∀ b ∈ ([[3, 1, 0], [2, 5, 0]] : List (List ℚ)),
      ∀ i, 1 < i → i < 3 → nth a i = nth b i) := by
  refine ⟨by decide, by unfold lexDesc; decide, fun a ha b hb i h1 h3 => ?_⟩
  obtain rfl : i = 2 := by omega
  revert a b; decide

/-- **Model B is correct.**  For every non-empty population whose fitnesses have `m ≥ 2` objectives
and every `k`, `sortLogNondominated(pop, k)` terminates and returns, front by front (each front up
to the order of its members, the members being the input objects with their multiplicity), the
leading fronts of the ranking by peeling needed to reach `k`. -/
theorem sortLog_eq_peel (pop : List (Ind 𝕜)) (m : Nat) (hm : 2 ≤ m) (hne : pop ≠ [])
    (hlen : ∀ x ∈ pop, x.w.length = m) (k : Nat) :
    ∃ fronts, sortLog pop k = some fronts ∧ List.Forall₂ List.Perm fronts (leading (peel domI pop) k) :=
  C04L.sortLog_eq_peel pop m hm hne hlen k

example : (2 : Nat) ≤ 2 ∧ ([⟨0, [1, 2]⟩, ⟨1, [2, 1]⟩, ⟨2, [0, 0]⟩] : List (Ind ℚ)) ≠ [] ∧
    ∀ x ∈ ([⟨0, [1, 2]⟩, ⟨1, [2, 1]⟩, ⟨2, [0, 0]⟩] : List (Ind ℚ)), x.w.length = 2 := by decide

/-- Front `i` returned by `sortLogNondominated` contains exactly the individuals of depth `i`. -/
theorem sortLog_front_iff_depth (pop : List (Ind 𝕜)) (m : Nat) (hm : 2 ≤ m) (hne : pop ≠ [])
    (hlen : ∀ x ∈ pop, x.w.length = m) (k : Nat) (fronts : List (List (Ind 𝕜)))
    (h : sortLog pop k = some fronts) (i : Nat) (f : List (Ind 𝕜)) (hf : fronts[i]? = some f)
    (x : Ind 𝕜) : x ∈ f ↔ x ∈ pop ∧ depth domI pop x = i := by
  obtain ⟨fr, h1, h2⟩ := sortLog_eq_peel pop m hm hne hlen k
  rw [h] at h1; cases h1
  exact leading_peel_mem_iff (spo_domI m pop hlen) h2 hf x

example : (2 : Nat) ≤ 2 ∧ ([⟨0, [1, 2]⟩, ⟨1, [0, 0]⟩] : List (Ind ℚ)) ≠ [] ∧
    sortLog ([⟨0, [1, 2]⟩, ⟨1, [0, 0]⟩] : List (Ind ℚ)) 2 = some [[⟨0, [1, 2]⟩], [⟨1, [0, 0]⟩]] :=
  ⟨by decide, List.cons_ne_nil _ _, sortLog_pair _ _ 1 2 0 0 rfl rfl (by norm_num) (by norm_num)⟩

/-- `first_front_only=True` (and `k > 0`): the log-time procedure returns the non-dominated set. -/
theorem sortLog_first_front_only (pop : List (Ind 𝕜)) (m : Nat) (hm : 2 ≤ m) (hne : pop ≠ [])
    (hlen : ∀ x ∈ pop, x.w.length = m) (k : Nat) (hk : k ≠ 0) :
    ∃ front, sortLogFirst pop k = some front ∧ front.Perm (nondom domI pop) := by
  obtain ⟨fs, front, uf, hr, hf⟩ := logRanks_eq_peel pop m hm hne hlen
  rw [peel_eq hne (spo_domI m pop hlen)] at hf
  cases hlf : logFronts fs front uf with
  | nil => rw [hlf] at hf; cases hf
  | cons F rest =>
    rw [hlf] at hf
    cases hf with
    | cons h _ =>
      exact ⟨F, by simp only [sortLogFirst, hk, ↓reduceIte, hr, Option.map_some, hlf, List.headD_cons], h⟩

example : (2 : Nat) ≤ 2 ∧ (3 : Nat) ≠ 0 ∧ ([⟨0, [1, 2]⟩, ⟨1, [2, 1]⟩] : List (Ind ℚ)) ≠ [] := by decide

/-- **The two procedures always produce the same ranking** (`sortLog_eq_sortStd_Statement`, over every
ordered field). -/
theorem sortLog_eq_sortStd : sortLog_eq_sortStd_Statement (α := 𝕜) := by
  intro pop m hm hne hlen k
  obtain ⟨fa, ha1, ha2⟩ := sortStd_eq_peel pop hne m hlen k
  obtain ⟨fb, hb1, hb2⟩ := sortLog_eq_peel pop m hm hne hlen k
  exact ⟨fa, fb, ha1, hb1, forall₂_perm_trans hb2 (forall₂_perm_symm ha2)⟩

/-- The 2-objective case, where `sortNDHelperA` reaches `sweepA` directly. -/
theorem sortLog_eq_sortStd_2obj (pop : List (Ind 𝕜)) (hne : pop ≠ []) (hlen : ∀ x ∈ pop, x.w.length = 2)
    (k : Nat) : ∃ fa fb, sortStd pop k false = some fa ∧ sortLog pop k = some fb ∧
      List.Forall₂ List.Perm fb fa :=
  sortLog_eq_sortStd pop 2 (le_refl 2) hne hlen k

example : ([⟨0, [1, 2]⟩, ⟨1, [2, 1]⟩, ⟨2, [0, 0]⟩] : List (Ind ℚ)) ≠ [] ∧
    ∀ x ∈ ([⟨0, [1, 2]⟩, ⟨1, [2, 1]⟩, ⟨2, [0, 0]⟩] : List (Ind ℚ)), x.w.length = 2 := by decide

end Correctness

end C04
