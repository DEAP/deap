/-
C20 — Benchmark functions equal their published definitions and optima.
Property theorems (over ℝ / ℚ / exact integers), with the published forms they are stated against (`ackleySpec`, `zdt*Spec`,
`dtlzG*Spec`, `decodeBlock`) and the fixtures of their `example`s; the models are `DeapModel/Core/Bench.lean`, `BenchMO.lean`,
`BenchBinary.lean`, `BenchTools.lean`, `BenchIndicators.lean`, `MovingPeaks.lean`.  The lemmas, and the vocabulary some statements are written in (`DimOK`, `Serves`, `changeReqs`, `newLen`, `ServesTimes` in `C20MP`; `Inv`,
`poolOf`, `project` in `C20World`; `stackStateAfter`, `rows` in `C20Tools`), are in `DeapModel/Lemmas/C20*.lean`.
An `example` after a theorem instantiates its hypotheses (they can be met).  `Lemmas/C20Gen` is imported so that
`lake build` builds the module the translator-tie template elaborates on; nothing here uses it.

Level: **partial** — the identities, exact optima, decoder range, decorator arguments and the
moving-peaks invariants are proved for all dimensions / objective counts / tapes; that each float
function equals its definition is a tolerance correspondence (rounding is not modelled).
Optima the documentation gives only to a few decimals (schwefel, three minima of himmelblau, h1,
shekel) are numeric tests of the harness, not theorems.
-/
import DeapModel.Lemmas.C20Binary
import DeapModel.Lemmas.C20Tools
import DeapModel.Lemmas.C20World
import DeapModel.Lemmas.C20Ind
import DeapModel.Lemmas.C20Gen

namespace C20
open RealLike Bench BenchBin BenchTools MovingPeaks BenchInd C20L

/-- plane at the documented optimum `x = 0` (any dimension ≥ 1, which the code requires) -/
theorem plane_opt (n : Nat) : plane (List.replicate (n + 1) (0 : ℝ)) = some 0 := rfl

theorem sphere_opt (n : Nat) : sphere (List.replicate n (0 : ℝ)) = 0 := by
  simp [sphere]

/-- 0 is the global minimum value of `sphere` -/
theorem sphere_nonneg (x : List ℝ) : 0 ≤ sphere x := by
  simp only [sphere, real_bridge]
  exact sum_map_nonneg _ _ fun p _ => mul_self_nonneg p

theorem cigar_opt (n : Nat) : cigar (List.replicate (n + 1) (0 : ℝ)) = some 0 := by
  simp [cigar, List.replicate_succ]

/-- 0 is the global minimum value of `cigar` -/
theorem cigar_nonneg (x0 : ℝ) (t : List ℝ) : ∃ v, cigar (x0 :: t) = some v ∧ 0 ≤ v := by
  refine ⟨_, rfl, ?_⟩
  simp only [real_bridge]
  have := sum_map_nonneg t (fun g => g * g) fun p _ => mul_self_nonneg p
  positivity

theorem rosenbrock_opt (n : Nat) : rosenbrock (List.replicate n (1 : ℝ)) = 0 := by
  simp only [rosenbrock, adjacent_replicate, List.map_replicate, List.sum_replicate, real_bridge]
  norm_num

/-- 0 is the global minimum value of `rosenbrock` -/
theorem rosenbrock_nonneg (x : List ℝ) : 0 ≤ rosenbrock x := by
  simp only [rosenbrock, real_bridge]
  exact sum_map_nonneg _ _ fun p _ => by positivity

theorem rastrigin_opt (n : Nat) : rastrigin (List.replicate n (0 : ℝ)) = 0 := by
  simp only [rastrigin, real_bridge, ← pow_two]
  exact ten_length_add_sum_eq_zero _ _ fun p hp =>
    List.eq_of_mem_replicate hp ▸ sq_sub_ten_cos_of_zero rfl (mul_zero _)

/-- 0 is the global minimum value of `rastrigin` (x² − 10 cos ≥ −10 term by term) -/
theorem rastrigin_nonneg (x : List ℝ) : 0 ≤ rastrigin x := by
  simp only [rastrigin, real_bridge, ← pow_two]
  exact ten_length_add_sum_nonneg x _ fun p _ => neg_ten_le_sq_sub p _

/-- the published Ackley function -/
noncomputable def ackleySpec (x : List ℝ) : ℝ :=
  20 - 20 * Real.exp (-0.2 * Real.sqrt (1 / (x.length : ℝ) * (x.map (· ^ 2)).sum)) + Real.exp 1
    - Real.exp (1 / (x.length : ℝ) * (x.map fun v => Real.cos (2 * Real.pi * v)).sum)

theorem ackley_eq (x0 : ℝ) (t : List ℝ) : ackley (x0 :: t) = some (ackleySpec (x0 :: t)) := by
  simp only [ackley, ackleySpec, List.isEmpty_cons, Bool.false_eq_true, if_false, real_bridge, neg_div]

/-- ackley(0,…,0) = 20 - 20·e⁰ + e - e¹ = 0, every dimension ≥ 1 (dimension 0 divides by zero) -/
theorem ackley_opt (n : Nat) : ackley (List.replicate (n + 1) (0 : ℝ)) = some 0 := by
  have hne : ((n : ℝ) + 1) ≠ 0 := by positivity
  rw [List.replicate_succ, ackley_eq, ← List.replicate_succ]
  simp [ackleySpec, hne]

/-- 0 is the global minimum value of `ackley`: 20(1 − e^{−0.2√(mean x²)}) ≥ 0 and e − e^{mean cos} ≥ 0. -/
theorem ackley_nonneg (x0 : ℝ) (t : List ℝ) : ∃ v, ackley (x0 :: t) = some v ∧ 0 ≤ v := by
  refine ⟨_, ackley_eq x0 t, ?_⟩
  generalize x0 :: t = x
  have h1 : Real.exp (-0.2 * Real.sqrt (1 / (x.length : ℝ) * (x.map (· ^ 2)).sum)) ≤ 1 :=
    Real.exp_le_one_iff.2 (mul_nonpos_of_nonpos_of_nonneg (by norm_num) (Real.sqrt_nonneg _))
  have h2 : Real.exp (1 / (x.length : ℝ) * (x.map fun v => Real.cos (2 * Real.pi * v)).sum) ≤ Real.exp 1 := by
    refine Real.exp_le_exp.2 ?_
    have hs := List.sum_le_card_nsmul (x.map fun v => Real.cos (2 * Real.pi * v)) 1
      (List.forall_mem_map.2 fun _ _ => Real.cos_le_one _)
    rw [List.length_map, nsmul_eq_mul, mul_one] at hs
    rw [one_div]
    exact inv_mul_le_one_of_le₀ hs (Nat.cast_nonneg _)
  unfold ackleySpec
  -- name the two exponentials: `linarith` compares atoms up to definitional equality
  generalize Real.exp (-0.2 * _) = E1 at h1 ⊢
  generalize Real.exp (1 / _ * _) = E2 at h2 ⊢
  linarith

theorem bohachevsky_opt (n : Nat) : bohachevsky (List.replicate n (0 : ℝ)) = 0 := by
  simp only [bohachevsky, adjacent_replicate, List.map_replicate, List.sum_replicate, real_bridge]
  norm_num

/-- 0 is the global minimum value of `bohachevsky` -/
theorem bohachevsky_nonneg (x : List ℝ) : 0 ≤ bohachevsky x := by
  simp only [bohachevsky, real_bridge]
  refine sum_map_nonneg _ _ fun p _ => ?_
  linarith [sq_nonneg p.1, sq_nonneg p.2, Real.cos_le_one (3 * Real.pi * p.1), Real.cos_le_one (4 * Real.pi * p.2)]

theorem griewank_opt (n : Nat) : griewank (List.replicate n (0 : ℝ)) = 0 := by
  simp only [griewank, List.map_replicate, real_bridge]
  rw [List.prod_eq_one (List.forall_mem_map.2 fun p hp => by
    rw [enumFrom_replicate_snd _ _ _ p hp, zero_div, Real.cos_zero])]
  simp

/-- 0 is the global minimum value of `griewank` -/
theorem griewank_nonneg (x : List ℝ) : 0 ≤ griewank x := by
  simp only [griewank, real_bridge, one_mul]
  have h1 := sum_map_nonneg x (· ^ 2) fun p _ => sq_nonneg p
  have h2 := (le_abs_self _).trans
    (abs_prod_map_cos_le_one (enumFrom 0 x) fun p => p.2 / Real.sqrt ((p.1 : ℝ) + 1))
  rw [sub_add_eq_add_sub, add_sub_assoc]
  exact add_nonneg (mul_nonneg (by norm_num) h1) (sub_nonneg.2 h2)

/-- rastrigin_scaled(0,…,0) = 0 for every dimension the code accepts (N = 1 divides by zero) -/
theorem rastriginScaled_opt (n : Nat) (h : n ≠ 1) :
    rastriginScaled (List.replicate n (0 : ℝ)) = some 0 := by
  simp only [rastriginScaled, real_bridge]
  rw [if_neg (by rw [List.length_replicate]; exact h), ← enumFrom_length 0 (List.replicate n (0 : ℝ))]
  exact congrArg some (ten_length_add_sum_eq_zero _ _ fun p hp => by
    rw [enumFrom_replicate_snd _ _ _ p hp]
    exact sq_sub_ten_cos_of_zero (mul_zero _) (mul_zero _))

example : (2 : Nat) ≠ 1 := by decide

/-- 0 is the global minimum value of `rastrigin_scaled` (for every dimension the code accepts) -/
theorem rastriginScaled_nonneg (x : List ℝ) (h : x.length ≠ 1) :
    ∃ v, rastriginScaled x = some v ∧ 0 ≤ v := by
  refine ⟨_, by rw [rastriginScaled, if_neg h], ?_⟩
  simp only [real_bridge]
  rw [← enumFrom_length 0 x]
  exact ten_length_add_sum_nonneg _ _ fun p _ => neg_ten_le_sq_sub _ _

theorem rastriginSkew_opt (n : Nat) : rastriginSkew (List.replicate n (0 : ℝ)) = 0 := by
  simp only [rastriginSkew, real_bridge]
  exact ten_length_add_sum_eq_zero _ _ fun p hp => by
    rw [List.eq_of_mem_replicate hp, if_neg (lt_irrefl 0)]
    exact sq_sub_ten_cos_of_zero rfl (mul_zero _)

/-- 0 is the global minimum value of `rastrigin_skew` -/
theorem rastriginSkew_nonneg (x : List ℝ) : 0 ≤ rastriginSkew x := by
  simp only [rastriginSkew, real_bridge]
  exact ten_length_add_sum_nonneg x _ fun p _ => neg_ten_le_sq_sub _ _

/-- schaffer(0,…,0) = 0, every dimension (0^0.25 = 0) -/
theorem schaffer_opt (n : Nat) : schaffer (List.replicate n (0 : ℝ)) = 0 := by
  simp only [schaffer, adjacent_replicate, List.map_replicate, List.sum_replicate, real_bridge]
  norm_num

/-- 0 is the global minimum value of `schaffer` -/
theorem schaffer_nonneg (x : List ℝ) : 0 ≤ schaffer x := by
  simp only [schaffer, real_bridge]
  exact sum_map_nonneg _ _ fun p _ => mul_nonneg (Real.rpow_nonneg (by positivity) _) (by positivity)

/-- himmelblau(3, 2) = 0 — the one minimum the documentation gives exactly -/
theorem himmelblau_opt : himmelblau [(3 : ℝ), 2] = some 0 := by
  norm_num [himmelblau, real_bridge]

/-- 0 is the global minimum value of `himmelblau` -/
theorem himmelblau_nonneg (x0 x1 : ℝ) (t : List ℝ) : ∃ v, himmelblau (x0 :: x1 :: t) = some v ∧ 0 ≤ v := by
  refine ⟨_, rfl, ?_⟩
  simp only [real_bridge]; positivity

/-- `schwefel`: at the origin the value is 418.9828872724339·N, and everywhere
418.98…·N − Σ|xᵢ| ≤ f(x) ≤ 418.98…·N + Σ|xᵢ| (|sin| ≤ 1); the documented optimum near 420.9687 is a numeric test. -/
theorem schwefel_bounds (x : List ℝ) (n : Nat) :
    schwefel (List.replicate n (0 : ℝ)) = 4189828872724339 / 10000000000000 * n ∧
    |schwefel x - 4189828872724339 / 10000000000000 * x.length| ≤ (x.map fun v => |v|).sum := by
  constructor
  · simp [schwefel, real_bridge]
  · simp only [schwefel, real_bridge]
    rw [sub_sub_cancel_left, abs_neg]
    induction x with
    | nil => simp
    | cons a t ih =>
      exact (abs_add_le _ _).trans (add_le_add
        (by rw [abs_mul]; exact mul_le_of_le_one_right (abs_nonneg a) (Real.abs_sin_le_one _)) ih)

/-- `h1` lies in [0, 2] (its documented maximum value is 2). -/
theorem h1_range (x0 x1 : ℝ) (t : List ℝ) : ∃ v, h1 (x0 :: x1 :: t) = some v ∧ 0 ≤ v ∧ v ≤ 2 := by
  refine ⟨_, rfl, ?_⟩
  simp only [real_bridge]
  have hn := add_nonneg (sq_nonneg (Real.sin (x0 - x1 / 8))) (sq_nonneg (Real.sin (x1 + x0 / 8)))
  have hd := le_add_of_nonneg_left (a := (1 : ℝ))
    (Real.sqrt_nonneg ((x0 - 86998 / 10000) ^ 2 + (x1 - 67665 / 10000) ^ 2))
  exact ⟨div_nonneg hn (zero_le_one.trans hd), (div_le_self hn hd).trans
    ((add_le_add (Real.sin_sq_le_one _) (Real.sin_sq_le_one _)).trans_eq one_add_one_eq_two)⟩

/-- with positive `c` every Shekel term is positive, hence the function is positive wherever it is defined -/
theorem shekel_pos (x : List ℝ) (a : List (List ℝ)) (c : List ℝ) (hc : ∀ ci ∈ c, 0 < ci) (hne : c ≠ [])
    (v : ℝ) (h : shekel x a c = some v) : 0 < v := by
  unfold shekel at h
  split at h; · cases h
  obtain ⟨ts, hts, rfl⟩ := Option.map_eq_some_iff.1 h
  have f2 := mapM_forall2 _ _ _ hts
  simp only [real_bridge]
  refine List.sum_pos _ (fun d hd => ?_) (fun he => ?_)
  · obtain ⟨p, hp, hr⟩ := forall2_mem_right f2 d hd
    unfold shekelTerm at hr
    split at hr; · cases hr
    cases hr
    simp only [real_bridge]
    exact one_div_pos.2 (add_pos_of_pos_of_nonneg (hc p.1 (List.of_mem_zip hp).1)
      (sum_map_nonneg _ _ fun _ _ => sq_nonneg _))
  · have := f2.length_eq
    rw [he, List.length_zip, List.length_nil] at this
    have := List.length_pos_of_ne_nil hne
    omega

example : (∀ ci ∈ ([0.002, 0.005] : List ℝ), 0 < ci) ∧ ([0.002, 0.005] : List ℝ) ≠ [] := by
  constructor
  · intro ci h; simp at h; rcases h with rfl | rfl <;> norm_num
  · simp

/-- `rand`: one objective, the next draw of `random.random()`, independent of the individual. -/
theorem rand_draw (x : List ℝ) (r : ℝ) (rest : List ℝ) : Bench.rand x (r :: rest) = some (r, rest) := rfl

/-- `kotanchek` peaks at (1, 2.5) with value 1/3.2 and is positive everywhere. -/
theorem kotanchek_max (x0 x1 : ℝ) (t : List ℝ) :
    kotanchek [(1 : ℝ), 5 / 2] = some (1 / (32 / 10)) ∧
    ∃ v, kotanchek (x0 :: x1 :: t) = some v ∧ 0 < v ∧ v ≤ 1 / (32 / 10) := by
  have hd : (0 : ℝ) < 32 / 10 + (x1 - 25 / 10) ^ 2 := by positivity
  refine ⟨by simp only [kotanchek, real_bridge, sub_self]; norm_num, _, rfl, ?_⟩
  simp only [real_bridge]
  exact ⟨div_pos (Real.exp_pos _) hd, div_le_div₀ zero_le_one (Real.exp_le_one_iff.2 (neg_nonpos.2 (sq_nonneg _)))
    (by norm_num) (le_add_of_nonneg_right (sq_nonneg _))⟩

/-- `salustowicz_1d` vanishes at 0; `salustowicz_2d` is `salustowicz_1d(x₁)·(x₂ − 5)` and vanishes on `x₂ = 5`. -/
theorem salustowicz_facts (x0 x1 : ℝ) (t : List ℝ) :
    salustowicz1d [(0 : ℝ)] = some 0 ∧
    salustowicz2d (x0 :: x1 :: t) = some (salustowiczCore x0 * (x1 - 5)) ∧
    salustowicz1d (x0 :: t) = some (salustowiczCore x0) ∧
    salustowicz2d (x0 :: 5 :: t) = some 0 := by
  refine ⟨?_, rfl, rfl, ?_⟩
  · simp only [salustowicz1d, salustowiczCore]; simp only [real_bridge]; simp
  · simp only [salustowicz2d]; simp only [real_bridge]; simp

/-- `unwrapped_ball` takes its maximum 2 at (3, …, 3) and lies in (0, 2] everywhere, in every dimension. -/
theorem unwrapped_ball_max (n : Nat) (x : List ℝ) :
    unwrappedBall (List.replicate n (3 : ℝ)) = 2 ∧ 0 < unwrappedBall x ∧ unwrappedBall x ≤ 2 := by
  have hnn : 0 ≤ (x.map fun d => (d - 3) ^ 2).sum := sum_map_nonneg _ _ fun _ _ => sq_nonneg _
  have hpos : (0 : ℝ) < 5 + (x.map fun d => (d - 3) ^ 2).sum := add_pos_of_pos_of_nonneg (by norm_num) hnn
  simp only [unwrappedBall, real_bridge]
  refine ⟨?_, div_pos (by norm_num) hpos, (div_le_iff₀ hpos).2 (by linarith)⟩
  norm_num

/-- `rational_polynomial` vanishes on `x₁ = 1` and on `x₃ = 1` (wherever it is defined). -/
theorem rational_polynomial_zero (x0 x1 x2 : ℝ) (t : List ℝ) (v : ℝ)
    (h : rationalPolynomial (x0 :: x1 :: x2 :: t) = some v) (h1 : x0 = 1 ∨ x2 = 1) : v = 0 := by
  simp only [rationalPolynomial] at h
  split at h
  · simp only [Option.some.injEq] at h
    rw [← h]; simp only [real_bridge]
    rcases h1 with rfl | rfl <;> simp
  · simp at h

example : (rationalPolynomial [(1 : ℝ), 1, 2]).isSome = true := by
  simp only [rationalPolynomial]
  simp only [real_bridge]
  rw [if_pos (by norm_num)]
  rfl

/-- `sin_cos`: |f| ≤ 6, the bound is attained at (π/2, 0), odd in `x₁`, even in `x₂`. -/
theorem sin_cos_facts (x0 x1 : ℝ) (t : List ℝ) :
    (∃ v, sinCos (x0 :: x1 :: t) = some v ∧ |v| ≤ 6) ∧
    sinCos [Real.pi / 2, (0 : ℝ)] = some 6 ∧
    sinCos [-x0, x1] = (sinCos [x0, x1]).map (fun v => -v) ∧
    sinCos [x0, -x1] = sinCos [x0, x1] := by
  refine ⟨⟨_, rfl, ?_⟩, ?_, ?_, ?_⟩
  · simp only [real_bridge]
    rw [abs_mul, abs_mul, abs_of_pos (by norm_num : (0 : ℝ) < 6)]
    exact (mul_le_mul (mul_le_of_le_one_right (by norm_num) (Real.abs_sin_le_one _)) (Real.abs_cos_le_one _)
      (abs_nonneg _) (by norm_num)).trans_eq (mul_one 6)
  · simp only [sinCos, real_bridge]; simp
  · simp only [sinCos, Option.map_some, real_bridge]; simp
  · simp only [sinCos, real_bridge]; simp

/-- `ripple` is symmetric in its two arguments; at (3, 3) it is 2 sin 1, at (4, 4) it is 1. -/
theorem ripple_facts (x0 x1 : ℝ) :
    ripple [x0, x1] = ripple [x1, x0] ∧ ripple [(3 : ℝ), 3] = some (2 * Real.sin 1) ∧ ripple [(4 : ℝ), 4] = some 1 := by
  refine ⟨?_, ?_, ?_⟩
  · simp only [ripple, real_bridge]; rw [mul_comm (x0 - 3), mul_comm (x0 - 4)]
  all_goals norm_num [ripple, real_bridge]

/-- `rational_polynomial2` is defined everywhere (its denominator is at least 10) and vanishes at (3, 3). -/
theorem rational_polynomial2_facts (x0 x1 : ℝ) (t : List ℝ) :
    (∃ v, rationalPolynomial2 (x0 :: x1 :: t) = some v ∧
      v * ((x1 - 2) ^ 4 + 10) = (x0 - 3) ^ 4 + (x1 - 3) ^ 3 - (x1 - 3)) ∧
    rationalPolynomial2 [(3 : ℝ), 3] = some 0 := by
  refine ⟨⟨_, rfl, ?_⟩, by norm_num [rationalPolynomial2, real_bridge]⟩
  simp only [real_bridge]
  exact div_mul_cancel₀ _ (ne_of_gt (by positivity))

theorem kursawe_eq (x : List ℝ) :
    kursawe x = [((adjacent x).map fun p => -10 * Real.exp (-0.2 * Real.sqrt (p.1 ^ 2 + p.2 ^ 2))).sum,
                 (x.map fun v => |v| ^ (0.8 : ℝ) + 5 * Real.sin (v ^ 3)).sum] := by
  simp only [kursawe, real_bridge, neg_div, ← pow_two, pow_succ]

theorem fonseca_eq (x : List ℝ) :
    fonseca x = [1 - Real.exp (-((x.take 3).map fun v => (v - 1 / Real.sqrt 3) ^ 2).sum),
                 1 - Real.exp (-((x.take 3).map fun v => (v + 1 / Real.sqrt 3) ^ 2).sum)] := by
  simp only [fonseca, real_bridge]

theorem poloni_eq (x1 x2 : ℝ) (t : List ℝ) :
    poloni (x1 :: x2 :: t) =
      (let A1 := 0.5 * Real.sin 1 - 2 * Real.cos 1 + Real.sin 2 - 1.5 * Real.cos 2
       let A2 := 1.5 * Real.sin 1 - Real.cos 1 + 2 * Real.sin 2 - 0.5 * Real.cos 2
       let B1 := 0.5 * Real.sin x1 - 2 * Real.cos x1 + Real.sin x2 - 1.5 * Real.cos x2
       let B2 := 1.5 * Real.sin x1 - Real.cos x1 + 2 * Real.sin x2 - 0.5 * Real.cos x2
       some [1 + (A1 - B1) ^ 2 + (A2 - B2) ^ 2, (x1 + 3) ^ 2 + (x2 + 1) ^ 2]) := by
  simp only [poloni, poloniA1, poloniA2, real_bridge]

theorem dent_eq (lam x1 x2 : ℝ) (t : List ℝ) :
    dent lam (x1 :: x2 :: t) =
      (let d := lam * Real.exp (-(x1 - x2) ^ 2)
       some [0.5 * (Real.sqrt (1 + (x1 + x2) ^ 2) + Real.sqrt (1 + (x1 - x2) ^ 2) + x1 - x2) + d,
             0.5 * (Real.sqrt (1 + (x1 + x2) ^ 2) + Real.sqrt (1 + (x1 - x2) ^ 2) - x1 + x2) + d]) := by
  simp only [dent, real_bridge]

/-- `schaffer_mo` is (x₁², (x₁−2)²); on its Pareto set 0 ≤ x₁ ≤ 2 the objectives satisfy √f₁ + √f₂ = 2. -/
theorem schaffer_mo_front (x0 : ℝ) (t : List ℝ) :
    schafferMo (x0 :: t) = some [x0 ^ 2, (x0 - 2) ^ 2] ∧
    (0 ≤ x0 → x0 ≤ 2 → Real.sqrt (x0 ^ 2) + Real.sqrt ((x0 - 2) ^ 2) = 2) := by
  constructor
  · simp only [schafferMo]; simp only [real_bridge]
  · intro h0 h2
    rw [Real.sqrt_sq h0, Real.sqrt_sq_eq_abs, abs_of_nonpos (by linarith)]; ring

example : (0 : ℝ) ≤ 1 ∧ (1 : ℝ) ≤ 2 := by norm_num

/-- the published g of ZDT1–3: 1 + 9/(n-1) · Σ_{i≥2} xᵢ -/
noncomputable def zdtGSpec (x : List ℝ) : ℝ := 1 + 9 / ((x.length : ℝ) - 1) * x.tail.sum

/-- the model's g (source operation order) is the published g -/
theorem zdtG_eq (x0 x1 : ℝ) (t : List ℝ) : zdtG (x0 :: x1 :: t) = zdtGSpec (x0 :: x1 :: t) := by
  simp only [zdtG, zdtGSpec, List.tail_cons, List.length_cons, Nat.add_sub_cancel, real_bridge, add_sub_cancel_right]
  ring

/-- ZDT1: f₁ = x₁, f₂ = g·(1 - √(f₁/g)) with the published g, every n ≥ 2 -/
theorem zdt1_f2 (x0 x1 : ℝ) (t : List ℝ) :
    zdt1 (x0 :: x1 :: t) =
      some [x0, zdtGSpec (x0 :: x1 :: t) * (1 - Real.sqrt (x0 / zdtGSpec (x0 :: x1 :: t)))] := by
  simp only [zdt1, zdt1H, zdtG_eq, real_bridge]

/-- ZDT2: f₂ = g·(1 - (f₁/g)²) -/
theorem zdt2_f2 (x0 x1 : ℝ) (t : List ℝ) :
    zdt2 (x0 :: x1 :: t) =
      some [x0, zdtGSpec (x0 :: x1 :: t) * (1 - (x0 / zdtGSpec (x0 :: x1 :: t)) ^ 2)] := by
  simp only [zdt2, zdt2H, zdtG_eq, real_bridge]

/-- ZDT3: f₂ = g·(1 - √(f₁/g) - (f₁/g)·sin(10πf₁)) -/
theorem zdt3_f2 (x0 x1 : ℝ) (t : List ℝ) :
    zdt3 (x0 :: x1 :: t) =
      some [x0, zdtGSpec (x0 :: x1 :: t) * (1 - Real.sqrt (x0 / zdtGSpec (x0 :: x1 :: t))
        - x0 / zdtGSpec (x0 :: x1 :: t) * Real.sin (10 * Real.pi * x0))] := by
  simp only [zdt3, zdt3H, zdtG_eq, real_bridge]

/-- the published g of ZDT4: 1 + 10(n-1) + Σ_{i≥2} (xᵢ² - 10cos(4πxᵢ)) -/
noncomputable def zdt4GSpec (x : List ℝ) : ℝ :=
  1 + 10 * ((x.length : ℝ) - 1) + (x.tail.map fun v => v ^ 2 - 10 * Real.cos (4 * Real.pi * v)).sum

/-- ZDT4: f₂ = g·(1 - √(f₁/g)) with g = 1 + 10(n-1) + Σ(xᵢ² - 10cos(4πxᵢ)), every n ≥ 1 -/
theorem zdt4_f2 (x0 : ℝ) (t : List ℝ) :
    zdt4 (x0 :: t) = some [x0, zdt4GSpec (x0 :: t) * (1 - Real.sqrt (x0 / zdt4GSpec (x0 :: t)))] := by
  simp only [zdt4, zdt1H, zdt4G, zdt4GSpec, List.tail_cons, List.length_cons, Nat.add_sub_cancel, real_bridge,
    add_sub_cancel_right]

/-- the published g and f₁ of ZDT6 -/
noncomputable def zdt6GSpec (x : List ℝ) : ℝ := 1 + 9 * (x.tail.sum / ((x.length : ℝ) - 1)) ^ (0.25 : ℝ)

noncomputable def zdt6F1Spec (x0 : ℝ) : ℝ := 1 - Real.exp (-4 * x0) * Real.sin (6 * Real.pi * x0) ^ 6

/-- ZDT6: f₁ = 1 - e^{-4x₁}sin⁶(6πx₁), f₂ = g·(1 - (f₁/g)²) -/
theorem zdt6_f2 (x0 x1 : ℝ) (t : List ℝ) :
    zdt6 (x0 :: x1 :: t) =
      some [zdt6F1Spec x0, zdt6GSpec (x0 :: x1 :: t) * (1 - (zdt6F1Spec x0 / zdt6GSpec (x0 :: x1 :: t)) ^ 2)] := by
  simp only [zdt6, zdt2H, zdt6G, zdt6GSpec, zdt6F1, zdt6F1Spec, List.tail_cons, List.length_cons, Nat.add_sub_cancel,
    real_bridge, add_sub_cancel_right]

/-- ZDT1–3: g ≥ 1 when the distance variables are non-negative (domain [0,1]) -/
theorem zdt_g_ge_one (x0 x1 : ℝ) (t : List ℝ) (h : ∀ v ∈ x1 :: t, 0 ≤ v) : 1 ≤ zdtGSpec (x0 :: x1 :: t) :=
  le_add_of_nonneg_right (mul_nonneg (div_nonneg (by norm_num) (length_sub_one_nonneg _ _)) (List.sum_nonneg h))

example : ∀ v ∈ [(0.5 : ℝ), 1, 0], 0 ≤ v := by
  simp only [List.forall_mem_cons, List.not_mem_nil, false_imp_iff, implies_true, and_true]
  norm_num

/-- ZDT4: g ≥ 1 for every input -/
theorem zdt4_g_ge_one (x0 : ℝ) (t : List ℝ) : 1 ≤ zdt4GSpec (x0 :: t) := by
  have := ten_length_add_sum_nonneg t _ fun p _ => neg_ten_le_sq_sub p (4 * Real.pi * p)
  simp only [zdt4GSpec, List.tail_cons, List.length_cons, Nat.cast_succ, add_sub_cancel_right]
  linarith

/-- ZDT6: g ≥ 1 when the distance variables are non-negative -/
theorem zdt6_g_ge_one (x0 x1 : ℝ) (t : List ℝ) (h : ∀ v ∈ x1 :: t, 0 ≤ v) : 1 ≤ zdt6GSpec (x0 :: x1 :: t) :=
  le_add_of_nonneg_right (mul_nonneg (by norm_num)
    (Real.rpow_nonneg (div_nonneg (List.sum_nonneg h) (length_sub_one_nonneg _ _)) _))

/-- the ZDT1 Pareto front: with all distance variables zero, g = 1 and f₂ = 1 − √f₁ -/
theorem zdt1_front (x0 : ℝ) (n : Nat) :
    zdtGSpec (x0 :: List.replicate (n + 1) 0) = 1 ∧
    zdt1 (x0 :: List.replicate (n + 1) 0) = some [x0, 1 - Real.sqrt x0] := by
  have hg : zdtGSpec (x0 :: List.replicate (n + 1) 0) = 1 := by
    simp [zdtGSpec]
  rw [List.replicate_succ, zdt1_f2, ← List.replicate_succ, hg]; simp

/-- conversely on the domain, g = 1 forces f₂ = 1 − √f₁ -/
theorem zdt1_front_of_g (x0 x1 : ℝ) (t : List ℝ) (hg : zdtGSpec (x0 :: x1 :: t) = 1) :
    zdt1 (x0 :: x1 :: t) = some [x0, 1 - Real.sqrt x0] := by
  rw [zdt1_f2, hg]; simp

example : zdtGSpec [(0.3 : ℝ), 0, 0] = 1 := by simp [zdtGSpec]

/-- published g of DTLZ1/3 -/
noncomputable def dtlzG1Spec (xm : List ℝ) : ℝ :=
  100 * ((xm.length : ℝ) + (xm.map fun v => (v - 0.5) ^ 2 - Real.cos (20 * Real.pi * (v - 0.5))).sum)

/-- published g of DTLZ2/4/5 -/
noncomputable def dtlzG2Spec (xm : List ℝ) : ℝ := (xm.map fun v => (v - 0.5) ^ 2).sum

/-- published g of DTLZ6 -/
noncomputable def dtlzG6Spec (xm : List ℝ) : ℝ := (xm.map fun v => v ^ (0.1 : ℝ)).sum

theorem dtlzG1_eq (xm : List ℝ) : dtlzG1 xm = dtlzG1Spec xm := by
  simp only [dtlzG1, dtlzG1Spec, real_bridge]

theorem dtlzG2_eq (xm : List ℝ) : dtlzG2 xm = dtlzG2Spec xm := by
  simp only [dtlzG2, dtlzG2Spec, real_bridge]

theorem dtlzG6_eq (xm : List ℝ) : dtlzG6 xm = dtlzG6Spec xm := by
  simp only [dtlzG6, dtlzG6Spec, real_bridge]

/-- DTLZ1: for every individual and every number of objectives the code accepts, the `M`
objectives sum to (1+g)/2. -/
theorem dtlz1_sum (x : List ℝ) (M : Nat) (hM : 1 ≤ M) (hn : M - 1 ≤ x.length) :
    ∃ f, dtlz1 x M = some f ∧ f.length = M ∧ f.sum = (1 + dtlzG1Spec (x.drop (M - 1))) / 2 := by
  rw [dtlz1, if_pos ((dtlzOk_iff _ _).2 ⟨hM, hn⟩)]
  refine ⟨_, rfl, by rw [front_length, List.length_map, dtlz_take_length hM hn], ?_⟩
  rw [front_sum _ _ _ (List.forall_mem_map.2 fun v _ => by simp only [real_bridge, add_sub_cancel]), dtlzG1_eq]
  simp only [real_bridge]; ring

example : (1 : Nat) ≤ 3 ∧ 3 - 1 ≤ [(0.5 : ℝ), 0.25, 1].length := by simp

/-- DTLZ2: Σ fᵢ² = (1+g)². -/
theorem dtlz2_norm (x : List ℝ) (M : Nat) (hM : 1 ≤ M) (hn : M - 1 ≤ x.length) :
    ∃ f, dtlz2 x M = some f ∧ f.length = M ∧
      (f.map (· ^ 2)).sum = (1 + dtlzG2Spec (x.drop (M - 1))) ^ 2 := by
  rw [dtlz2, if_pos ((dtlzOk_iff _ _).2 ⟨hM, hn⟩)]
  exact exists_front_norm rfl (by rw [List.length_map, dtlz_take_length hM hn]) (sphere_pairs _ _)
    (by simp only [dtlzG2_eq, real_bridge, mul_one])

example : (1 : Nat) ≤ 4 ∧ 4 - 1 ≤ [(0.5 : ℝ), 0.25, 1, 0].length := by simp

/-- DTLZ3: Σ fᵢ² = (1+g)² with DTLZ1's g -/
theorem dtlz3_norm (x : List ℝ) (M : Nat) (hM : 1 ≤ M) (hn : M - 1 ≤ x.length) :
    ∃ f, dtlz3 x M = some f ∧ f.length = M ∧
      (f.map (· ^ 2)).sum = (1 + dtlzG1Spec (x.drop (M - 1))) ^ 2 := by
  rw [dtlz3, if_pos ((dtlzOk_iff _ _).2 ⟨hM, hn⟩)]
  exact exists_front_norm rfl (by rw [List.length_map, dtlz_take_length hM hn]) (sphere_pairs _ _)
    (by simp only [dtlzG1_eq, real_bridge, mul_one])

example : (1 : Nat) ≤ 4 ∧ 4 - 1 ≤ [(0.5 : ℝ), 0.25, 1, 0].length := by simp

/-- DTLZ4: Σ fᵢ² = (1+g)² for every exponent α -/
theorem dtlz4_norm (x : List ℝ) (M : Nat) (alpha : ℝ) (hM : 1 ≤ M) (hn : M - 1 ≤ x.length) :
    ∃ f, dtlz4 x M alpha = some f ∧ f.length = M ∧
      (f.map (· ^ 2)).sum = (1 + dtlzG2Spec (x.drop (M - 1))) ^ 2 := by
  rw [dtlz4, if_pos ((dtlzOk_iff _ _).2 ⟨hM, hn⟩)]
  exact exists_front_norm rfl (by rw [List.length_map, dtlz_take_length hM hn]) (sphere_pairs _ _)
    (by simp only [dtlzG2_eq, real_bridge, mul_one])

example : (1 : Nat) ≤ 4 ∧ 4 - 1 ≤ [(0.5 : ℝ), 0.25, 1, 0].length := by simp

/-- DTLZ5 (first objective over `ind[1:n_objs-1]`, the F8 repair): Σ fᵢ² = (1+g)² for every M ≥ 2. -/
theorem dtlz5_norm (x : List ℝ) (M : Nat) (hM : 2 ≤ M) (hn : M - 1 ≤ x.length) :
    ∃ f, dtlz5 x M = some f ∧ f.length = M ∧
      (f.map (· ^ 2)).sum = (1 + dtlzG2Spec (x.drop (M - 1))) ^ 2 := by
  have hM1 : 1 ≤ M := by omega
  rw [dtlz5, if_neg (by omega), if_pos ⟨(dtlzOk_iff _ _).2 ⟨hM1, hn⟩, hM⟩]
  exact exists_front_norm rfl (by rw [angles_length, dtlz_take_length hM1 hn]) (angles_pairs _ _)
    (by simp only [dtlzG2_eq, real_bridge, mul_one])

example : (2 : Nat) ≤ 3 ∧ 3 - 1 ≤ [(0.5 : ℝ), 0.25, 1].length := by simp

/-- DTLZ6 (first objective over `ind[1:n_objs-1]`, the F8 repair): Σ fᵢ² = (1+g)² for every M ≥ 2 -/
theorem dtlz6_norm (x : List ℝ) (M : Nat) (hM : 2 ≤ M) (hn : M - 1 ≤ x.length) :
    ∃ f, dtlz6 x M = some f ∧ f.length = M ∧
      (f.map (· ^ 2)).sum = (1 + dtlzG6Spec (x.drop (M - 1))) ^ 2 := by
  have hM1 : 1 ≤ M := by omega
  rw [dtlz6, if_neg (by omega), if_pos ⟨(dtlzOk_iff _ _).2 ⟨hM1, hn⟩, hM⟩]
  exact exists_front_norm rfl (by rw [angles_length, dtlz_take_length hM1 hn]) (angles_pairs _ _)
    (by simp only [dtlzG6_eq, real_bridge, mul_one])

example : (2 : Nat) ≤ 3 ∧ 3 - 1 ≤ [(0.5 : ℝ), 0.25, 1].length := by simp

/-- DTLZ7: the first M−1 objectives are the position variables, the last is (1+g)·h with
g = 1 + 9/|x_m|·Σx_m and h = M − Σ fᵢ/(1+g)·(1 + sin(3πfᵢ)); needs 1 ≤ M ≤ n. -/
theorem dtlz7_structure (x : List ℝ) (M : Nat) (hM : 1 ≤ M) (hn : M ≤ x.length) :
    let g := 1 + 9 / ((x.drop (M - 1)).length : ℝ) * (x.drop (M - 1)).sum
    let h := (M : ℝ) - ((x.take (M - 1)).map fun f => f / (1 + g) * (1 + Real.sin (3 * Real.pi * f))).sum
    dtlz7 x M = some (x.take (M - 1) ++ [(1 + g) * h]) ∧ (x.take (M - 1) ++ [(1 + g) * h]).length = M := by
  intro g h
  constructor
  · simp only [dtlz7, hM, hn, and_self, if_true, g, h, real_bridge]
  · rw [List.length_append, List.length_take, List.length_singleton, Nat.min_eq_left (by omega), Nat.sub_add_cancel hM]

example : (1 : Nat) ≤ 3 ∧ 3 ≤ [(0.1 : ℝ), 0.2, 0.3, 0.4].length := by simp

/-- `trap`: the all-ones string scores its length, and nothing scores more. -/
theorem trap_max (k : Nat) : trap (List.replicate k true) = k ∧ ∀ b : List Bool, b.length = k → trap b ≤ k :=
  ⟨trap_rep_true k, fun b hb => hb ▸ trap_le b⟩

/-- the deceptive attractor of `trap`: all zeros scores `k - 1`. -/
theorem trap_zeros (k : Nat) (hk : 1 ≤ k) : trap (List.replicate k false) = (k : Int) - 1 := by
  simp only [trap, ones_replicate_false, List.length_replicate]
  split <;> omega

example : (1 : Nat) ≤ 4 := by decide

/-- `inv_trap`: the all-zeros string scores its length, and nothing scores more -/
theorem inv_trap_max (k : Nat) :
    invTrap (List.replicate k false) = k ∧ ∀ b : List Bool, b.length = k → invTrap b ≤ k :=
  ⟨invTrap_rep_false k, fun b hb => hb ▸ invTrap_le b⟩

/-- Royal Road R1 = order × number of complete (all-ones) blocks, for every order ≥ 1 (order 0 is
rejected by the code). -/
theorem royal_road1_blocks (x : List Bool) (order : Nat) (ho : 1 ≤ order) :
    royalRoad1 x order = some (order *
      (List.range (x.length / order)).countP (fun i => (slice x (i * order) order).all id)) := by
  simp only [royalRoad1, if_neg (show ¬ order = 0 by omega), ← List.sum_eq_foldl]
  rw [sum_blocks _ _ order ho fun i hi => GenL.slice_length x i order (List.mem_range.1 hi)]

example : (1 : Nat) ≤ 8 := by decide

/-- `royal_road2` adds the royal-road-1 score of every schema order `order·2^k < order²`; so (for `order ≥ 2`) it is
at least `royal_road1` of the base order. -/
theorem royal_road2_ge_road1 (x : List Bool) (order : Nat) (ho : 2 ≤ order) (v v1 : Nat)
    (h2 : royalRoad2 x order = some v) (h1 : royalRoad1 x order = some v1) : v1 ≤ v := by
  unfold royalRoad2 at h2
  simp only [royalRoad2Loop] at h2
  rw [if_pos (Nat.lt_mul_self_iff.2 ho), h1] at h2
  exact (Nat.le_add_left v1 0).trans (royalRoad2Loop_ge _ _ _ _ _ _ h2)

example : (2 : Nat) ≤ 8 ∧ (royalRoad2 [true, true] 2).isSome = true ∧ (royalRoad1 [true, true] 2).isSome = true := by decide

/-- for `order = 1` no schema level exists (`1 < 1²` fails) and the value is 0 -/
theorem royal_road2_order1 (x : List Bool) : royalRoad2 x 1 = some 0 := by
  simp [royalRoad2, royalRoad2Loop]

/-- `chuang_f1` on 4k+1 bits: both documented optima score 4k, and no string scores more. -/
theorem chuang_f1_opt (k : Nat) :
    chuangF1 (List.replicate (4 * k + 1) true) = some (4 * k : Int) ∧
    chuangF1 (List.replicate (4 * k + 1) false) = some (4 * k : Int) ∧
    ∀ x : List Bool, x.length = 4 * k + 1 → ∀ v, chuangF1 x = some v → v ≤ 4 * k := by
  have opt : ∀ b : Bool, chuangF1 (List.replicate (4 * k + 1) b) = some (4 * k : Int) := fun b => by
    rw [chuangF1_eq_sel, getLast?_replicate_succ, List.length_replicate, Option.map_some]
    exact congrArg some (isum_rangeStep_eq _ 4 (span_from_zero rfl) fun j hj => by
      rw [slice_replicate_of_le b (block_from_zero hj)]; exact sel_rep b)
  refine ⟨opt true, opt false, fun x hx v hv => ?_⟩
  rw [chuangF1_eq_sel] at hv
  obtain ⟨last, _, rfl⟩ := Option.map_eq_some_iff.1 hv
  exact isum_rangeStep_le _ 4 (span_from_zero hx) fun i => sel_slice_le last x i 4

/-- `chuang_f2` on 8k+2 bits: the four documented optima — blocks `s2⁴ s1⁴` repeated, followed by the
selector bits `s2 s1` — score 8k, and no string scores more. -/
theorem chuang_f2_opt (k : Nat) :
    (∀ s2 s1 : Bool,
      chuangF2 ((List.replicate k (List.replicate 4 s2 ++ List.replicate 4 s1)).flatten ++ [s2, s1])
        = some (8 * k : Int)) ∧
    ∀ x : List Bool, x.length = 8 * k + 2 → ∀ v, chuangF2 x = some v → v ≤ 8 * k := by
  constructor
  · intro s2 s1
    rw [chuangF2_append, List.length_flatten, List.map_replicate, List.sum_replicate]
    exact congrArg some (isum_rangeStep_eq _ 8 (by simp) fun j hj => by
      rw [Nat.zero_add, (f2_blocks s2 s1 _ hj).1, (f2_blocks s2 s1 _ hj).2, sel_rep, sel_rep]; rfl)
  · intro x hx v hv
    rw [chuangF2, if_neg (by omega)] at hv
    cases hv
    exact isum_rangeStep_le _ 8 (by omega) fun i =>
      Int.add_le_add (sel_slice_le _ x i 4) (sel_slice_le _ x (i + 4) 4)

/-- `chuang_f3` on 4k+1 bits: the all-zeros optimum scores 4k -/
theorem chuang_f3_zeros (k : Nat) : chuangF3 (List.replicate (4 * k + 1) false) = some (4 * k : Int) := by
  rw [chuangF3, getLast?_replicate_succ, List.length_replicate]
  exact congrArg some (isum_rangeStep_eq _ 4 (span_from_zero rfl) fun j hj => by
    rw [slice_replicate_of_le false (block_from_zero hj)]; rfl)

/-- the optimum of the last-bit-1 branch of `chuang_f3`: `11 0…0 11` (4k+1 bits, k ≥ 1) scores 4k. -/
theorem chuang_f3_shifted (k : Nat) (hk : 1 ≤ k) :
    chuangF3 ([true, true] ++ List.replicate (4 * k - 3) false ++ [true, true]) = some (4 * k : Int) := by
  have hlen : ([true, true] ++ List.replicate (4 * k - 3) false ++ [true, true]).length = 4 * k + 1 := by
    rw [List.length_append, List.length_append, List.length_replicate]
    show 2 + (4 * k - 3) + 2 = 4 * k + 1
    omega
  have hd : ([true, true] ++ List.replicate (4 * k - 3) false ++ [true, true]).drop (4 * k + 1 - 2) = [true, true] :=
    List.drop_left' (by rw [List.length_append, List.length_replicate]; show 2 + (4 * k - 3) = 4 * k + 1 - 2; omega)
  rw [chuangF3, List.getLast?_append_of_ne_nil _ (List.cons_ne_nil _ _), hlen, hd]
  rw [isum_rangeStep_eq _ 4 (n := k - 1) (span_from_two rfl) fun j hj =>
      (congrArg invTrap (slice_mid _ _ false (Nat.le_add_right 2 _)
        (by show 2 + j * 4 + 4 ≤ 2 + (4 * k - 3); omega))).trans (invTrap_rep_false 4)]
  exact congrArg some (by show (4 : Int) * (k - 1 : Nat) + 4 = 4 * k; omega)

example : (1 : Nat) ≤ 10 := by decide

/-- `chuang_f3` on 4k+1 bits (k ≥ 1): no string scores more than 4k. -/
theorem chuang_f3_le (k : Nat) (hk : 1 ≤ k) (x : List Bool) (hx : x.length = 4 * k + 1) (v : Int)
    (hv : chuangF3 x = some v) : v ≤ 4 * k := by
  rw [chuangF3] at hv
  split at hv
  · cases hv
  · split at hv <;> cases hv
    · exact isum_rangeStep_le _ 4 (span_from_zero hx) fun i => invTrap_slice_le x i 4
    · have h1 := isum_rangeStep_le (a := 2) (b := x.length - 3) (s := 4) (n := k - 1)
        (fun i => invTrap (slice x i 4)) 4 (span_from_two hx) fun i => invTrap_slice_le x i 4
      have h2 := trap_le (x.drop (x.length - 2) ++ x.take 2)
      rw [List.length_append, List.length_drop, List.length_take] at h2
      omega

example : (1 : Nat) ≤ 10 ∧ (List.replicate 41 true).length = 4 * 10 + 1 := by decide

/-- the all-ones string, which the docstring of `chuang_f3` lists as a global optimum, scores only
3k+1 < 4k for k ≥ 2 (the docstring was copied from `chuang_f1`). -/
theorem chuang_f3_ones (k : Nat) (hk : 1 ≤ k) :
    chuangF3 (List.replicate (4 * k + 1) true) = some (3 * k + 1 : Int) := by
  rw [chuangF3, getLast?_replicate_succ, List.length_replicate]
  simp only [Bool.true_eq_false, if_false, List.drop_replicate, List.take_replicate, ← List.replicate_add]
  rw [isum_rangeStep_eq _ 3 (n := k - 1) (span_from_two rfl) fun j hj => by
      rw [slice_replicate_of_le true (block_from_two hj)]; rfl,
    show 4 * k + 1 - (4 * k + 1 - 2) + min 2 (4 * k + 1) = 4 by omega]
  exact congrArg some (by show (3 : Int) * (k - 1 : Nat) + 4 = 3 * k + 1; omega)

example : (1 : Nat) ≤ 10 := by decide

def decodeBlock (mn mx : ℚ) (nbits : Nat) (blk : List Bool) : ℚ :=
  mn + ((binVal blk : ℚ) / ((2 ^ nbits - 1 : Nat) : ℚ)) * (mx - mn)

/-- `bin2float` hands the wrapped function one value `min + gene/(2ⁿ-1)·(max-min)` per complete block -/
theorem bin2float_eq (mn mx : ℚ) (nbits : Nat) (h : 1 ≤ nbits) (x : List Bool) :
    bin2float mn mx nbits x = some ((List.range (x.length / nbits)).map fun i =>
      decodeBlock mn mx nbits (slice x (i * nbits) nbits)) := by
  rw [bin2float, if_neg (by omega)]; rfl

example : (1 : Nat) ≤ 16 := by decide

/-- `bin2float`: every decoded value lies in [min, max] (for min ≤ max and a bit width ≥ 1, which the
code requires), one value per complete block. -/
theorem bin2float_range (mn mx : ℚ) (nbits : Nat) (h : 1 ≤ nbits) (hle : mn ≤ mx) (x : List Bool) :
    ∃ d, bin2float mn mx nbits x = some d ∧ d.length = x.length / nbits ∧ ∀ v ∈ d, mn ≤ v ∧ v ≤ mx := by
  refine ⟨_, bin2float_eq mn mx nbits h x, by rw [List.length_map, List.length_range], ?_⟩
  refine List.forall_mem_map.2 fun i hi => affine_mem hle (binVal_div_mem _ _ ?_)
  exact GenL.slice_length x i nbits (List.mem_range.1 hi)

example : (1 : Nat) ≤ 8 ∧ (-5.12 : ℚ) ≤ 5.12 := by norm_num

theorem bin2float_zeros (mn mx : ℚ) (nbits : Nat) (h : 1 ≤ nbits) (n : Nat) :
    bin2float mn mx nbits (List.replicate n false) = some (List.replicate (n / nbits) mn) := by
  rw [bin2float_eq mn mx nbits h, List.length_replicate, List.map_eq_replicate_iff.2 fun i _ => ?_, List.length_range]
  rw [decodeBlock, slice_replicate, binVal_replicate_false, Nat.cast_zero, zero_div, zero_mul, add_zero]

example : (1 : Nat) ≤ 16 := by decide

theorem bin2float_ones (mn mx : ℚ) (nbits : Nat) (h : 1 ≤ nbits) (n : Nat) :
    bin2float mn mx nbits (List.replicate n true) = some (List.replicate (n / nbits) mx) := by
  have hd : ((2 ^ nbits - 1 : Nat) : ℚ) ≠ 0 := Nat.cast_ne_zero.2 (Nat.ne_of_gt (two_pow_sub_one_pos nbits h))
  rw [bin2float_eq mn mx nbits h, List.length_replicate, List.map_eq_replicate_iff.2 fun i hi => ?_, List.length_range]
  have hs := GenL.slice_length (List.replicate n true) i nbits (List.mem_range.1 (List.length_replicate ▸ hi))
  rw [slice_replicate, List.length_replicate] at hs
  rw [decodeBlock, slice_replicate, hs, binVal_replicate_true, div_self hd, one_mul, add_sub_cancel]

example : (1 : Nat) ≤ 16 := by decide

/-- `translate`: the wrapped function receives `x - t` component-wise (one entry per gene when the
vector has the individual's length), i.e. adding the translation back gives the individual. -/
theorem translate_arg {β : Type} (f : List ℝ → β) (t x : List ℝ) (h : t.length = x.length) :
    translate f t x = f (List.zipWith (· - ·) x t) ∧
    (List.zipWith (· - ·) x t).length = x.length ∧
    List.zipWith (· + ·) (List.zipWith (· - ·) x t) t = x := by
  refine ⟨?_, by rw [List.length_zipWith, h, Nat.min_self], zipWith_cancel x t h fun b _ a => sub_add_cancel a b⟩
  simp only [translate, translateArg, List.map_zip_eq_zipWith]
  rfl

example : ([1, 2] : List ℝ).length = ([3, 4] : List ℝ).length := rfl

/-- `scale`: with non-zero factors (a zero factor raises in `__init__`) the wrapped function receives
`x / factor` component-wise; multiplying back gives the individual. -/
theorem scale_arg {β : Type} (f : List ℝ → β) (factor x : List ℝ) (h : ∀ c ∈ factor, c ≠ 0)
    (hl : factor.length = x.length) :
    scale f factor x = some (f (List.zipWith (· / ·) x factor)) ∧
    (List.zipWith (· / ·) x factor).length = x.length ∧
    List.zipWith (· * ·) (List.zipWith (· / ·) x factor) factor = x := by
  refine ⟨?_, by rw [List.length_zipWith, hl, Nat.min_self],
    zipWith_cancel x factor hl fun b hb a => div_mul_cancel₀ a (h b hb)⟩
  simp only [scale, scaleArg, scaleFactor_eq factor h, Option.map_some, List.map_zip_eq_zipWith,
    List.zipWith_map_right, Function.curry, real_bridge, mul_one_div]

example : (∀ c ∈ ([2, -4] : List ℝ), c ≠ 0) ∧ ([2, -4] : List ℝ).length = ([1, 3] : List ℝ).length := by simp

/-- a zero factor is rejected (ZeroDivisionError in `scale.__init__`) -/
theorem scale_zero_rejected (pre post x : List ℝ) : scaleArg (pre ++ 0 :: post) x = none := by
  rw [scaleArg, scaleFactor, List.mapM_eq_none (a := (0 : ℝ)) (List.mem_append_right _ List.mem_cons_self)]
  · rfl
  · simp only [real_bridge, lt_self_iff_false, or_self, if_false]

/-- `rotate`: with `numpy.linalg.inv` meeting its contract (`inv R = R⁻¹`, i.e. `R · R⁻¹ = 1`), the wrapped
function receives `R⁻¹ x`: rotating it by `R` gives the individual back. -/
theorem rotate_arg {β : Type} {n : Nat} (f : List ℝ → β) (R Rinv : Matrix (Fin n) (Fin n) ℝ)
    (inv : List (List ℝ) → List (List ℝ)) (hcontract : inv (rows R) = rows Rinv) (hinv : R * Rinv = 1)
    (v : Fin n → ℝ) :
    rotate f inv (rows R) (List.ofFn v) = some (f (List.ofFn (Rinv.mulVec v))) ∧
    R.mulVec (Rinv.mulVec v) = v := by
  constructor
  · simp only [rotate, rotateArg, hcontract, matVec_rows, Option.map_some]
  · rw [Matrix.mulVec_mulVec, hinv, Matrix.one_mulVec]

example : (fun _ => rows (1 : Matrix (Fin 2) (Fin 2) ℝ)) (rows (1 : Matrix (Fin 2) (Fin 2) ℝ))
      = rows (1 : Matrix (Fin 2) (Fin 2) ℝ) ∧
    (1 : Matrix (Fin 2) (Fin 2) ℝ) * 1 = 1 := ⟨rfl, by simp⟩

/-- Stacked decorators `@translate(t) @rotate(R) @scale(c)`: the innermost function receives
`R⁻¹(x − t) / c`; scaling, rotating and translating it forward gives the individual back. -/
theorem stack_arg {n : Nat} (R Rinv : Matrix (Fin n) (Fin n) ℝ) (hinv : R * Rinv = 1)
    (t c v : Fin n → ℝ) (hc : ∀ i, c i ≠ 0) :
    stackArg (List.ofFn t) (rows Rinv) (List.ofFn c) (List.ofFn v)
      = some (List.ofFn fun i => Rinv.mulVec (fun j => v j - t j) i / c i) ∧
    (fun i => R.mulVec (fun k => (Rinv.mulVec (fun j => v j - t j) k / c k) * c k) i + t i) = v := by
  constructor
  · have ht : translateArg (List.ofFn t) (List.ofFn v) = List.ofFn fun j => v j - t j := by
      simp only [translateArg, List.map_zip_eq_zipWith]
      exact List.zipWith_ofFn (fun a b => a - b) v t
    have hcs : ∀ d ∈ List.ofFn c, d ≠ 0 := fun d hd => by obtain ⟨i, rfl⟩ := List.mem_ofFn.1 hd; exact hc i
    simp only [stackArg, ht, matVec_rows]
    have := (scale_arg (fun l => l) (List.ofFn c) (List.ofFn (Rinv.mulVec fun j => v j - t j)) hcs (by simp)).1
    simp only [scale, Option.map_eq_some_iff] at this
    obtain ⟨a, ha, rfl⟩ := this
    rw [ha, List.zipWith_ofFn]
  · funext i
    have : (fun k => (Rinv.mulVec (fun j => v j - t j) k / c k) * c k) = Rinv.mulVec (fun j => v j - t j) :=
      funext fun k => div_mul_cancel₀ _ (hc k)
    rw [this, Matrix.mulVec_mulVec, hinv, Matrix.one_mulVec, sub_add_cancel]

example : (1 : Matrix (Fin 2) (Fin 2) ℝ) * 1 = 1 ∧ ∀ i : Fin 2, (fun _ => (2 : ℝ)) i ≠ 0 := by simp

/-- `noise`: every objective with a noise function gets exactly the next draw added, the others pass
unchanged, and exactly one draw per noisy objective is consumed. -/
theorem noise_adds (spec : NoiseSpec) (result tape out rest : List ℝ)
    (h : noise spec result tape = some (out, rest)) :
    let l := result.zip (spec.flags result.length)
    ∃ used, tape = used ++ rest ∧ used.length = l.countP (·.2) ∧ out.length = l.length ∧
      ∀ i r b, l[i]? = some (r, b) →
        (b = false → out[i]? = some r) ∧
        (b = true → ∃ d, used[(l.take i).countP (·.2)]? = some d ∧ out[i]? = some (r + d)) :=
  noiseGo_spec _ _ _ _ h

example : noise (.rep true) [(1 : ℝ), 2] [10, 20, 30] = some ([1 + 10, 2 + 20], [30]) := rfl

/-- `bound`: the three bounding modes return the operator's result unchanged (they are stubs). -/
theorem bound_id {γ : Type} (k : BoundKind) (inds : γ) : bound k inds = inds := rfl

/-- **`translate`, any history.**  However the function was decorated and whatever setter calls and
evaluations came before, after `evaluate.translate(t)` (and any number of evaluations) the wrapped function
receives `x - t` for the vector `t` passed LAST — not an earlier one, not the one of decoration time. -/
theorem translate_history (v0 : List ℝ) (pre : List (HOp (List ℝ) (List ℝ))) (t : List ℝ) (xs : List (List ℝ))
    (x : List ℝ) (outs : List (List ℝ)) (hl : t.length = x.length)
    (h : translateHist v0 (pre ++ HOp.set t :: (xs.map HOp.call ++ [HOp.call x])) = some outs) :
    outs.getLast? = some (List.zipWith (· - ·) x t) ∧
    List.zipWith (· + ·) (List.zipWith (· - ·) x t) t = x := by
  obtain ⟨s, y, e1, e2, e3⟩ := runHist_last_set _ _ _ _ _ _ _ _ h
  simp only [Option.some.injEq] at e1 e2
  subst e1
  refine ⟨?_, zipWith_cancel x t hl fun b _ a => sub_add_cancel a b⟩
  rw [e3, ← e2]
  simp only [translateArg, List.map_zip_eq_zipWith]
  rfl

example : translateHist [(1 : ℝ)] [.call [5], .set [2], .call [5]] = some [[5 - 1], [5 - 2]] := rfl

/-- **`scale`, any history**: after `evaluate.scale(f)` with non-zero factors the wrapped function receives
`x / f` for the factor passed last. -/
theorem scale_history (f0 : List ℝ) (pre : List (HOp (List ℝ) (List ℝ))) (f : List ℝ) (xs : List (List ℝ))
    (x : List ℝ) (outs : List (List ℝ)) (hnz : ∀ c ∈ f, c ≠ 0) (hl : f.length = x.length)
    (h : scaleHist f0 (pre ++ HOp.set f :: (xs.map HOp.call ++ [HOp.call x])) = some outs) :
    outs.getLast? = some (List.zipWith (· / ·) x f) ∧
    List.zipWith (· * ·) (List.zipWith (· / ·) x f) f = x := by
  unfold scaleHist at h
  split at h
  · simp at h
  · obtain ⟨s, y, e1, e2, e3⟩ := runHist_last_set _ _ _ _ _ _ _ _ h
    obtain ⟨a1, _, a3⟩ := scale_arg (fun l => l) f x hnz hl
    refine ⟨?_, a3⟩
    rw [e3, ← e2]
    simp only [scale, scaleArg, e1, Option.map_some, Option.some.injEq] at a1
    rw [← a1]

example : (∀ c ∈ ([2] : List ℝ), c ≠ 0) ∧ ([2] : List ℝ).length = ([6] : List ℝ).length := by simp

/-- **`rotate`, any history**: after
`evaluate.rotate(R)` — with `numpy.linalg.inv` meeting its contract on `R` — the wrapped function receives
`R⁻¹ x` for the matrix passed last, whatever matrix (or the same object with other contents) was installed
before. -/
theorem rotate_history {n : Nat} (inv : List (List ℝ) → List (List ℝ)) (R0 : List (List ℝ))
    (pre : List (HOp (List (List ℝ)) (List ℝ))) (R Rinv : Matrix (Fin n) (Fin n) ℝ)
    (hcontract : inv (rows R) = rows Rinv) (hinv : R * Rinv = 1)
    (xs : List (List ℝ)) (v : Fin n → ℝ) (outs : List (List ℝ))
    (h : rotateHist inv R0 (pre ++ HOp.set (rows R) :: (xs.map HOp.call ++ [HOp.call (List.ofFn v)])) = some outs) :
    outs.getLast? = some (List.ofFn (Rinv.mulVec v)) ∧ R.mulVec (Rinv.mulVec v) = v := by
  obtain ⟨s, y, e1, e2, e3⟩ := runHist_last_set _ _ _ _ _ _ _ _ h
  simp only [Option.some.injEq] at e1
  subst e1
  rw [hcontract, matVec_rows] at e2
  refine ⟨by rw [e3, ← e2], ?_⟩
  rw [Matrix.mulVec_mulVec, hinv, Matrix.one_mulVec]

example : (fun _ => rows (1 : Matrix (Fin 2) (Fin 2) ℝ)) (rows (1 : Matrix (Fin 2) (Fin 2) ℝ))
      = rows (1 : Matrix (Fin 2) (Fin 2) ℝ) ∧ (1 : Matrix (Fin 2) (Fin 2) ℝ) * 1 = 1 := ⟨rfl, by simp⟩

/-- **Stacked decorators, setters are local**: on `@translate @rotate @scale` each setter replaces its own
decorator's parameter and leaves the other two alone. -/
theorem stack_setters_local (inv : List (List ℝ) → List (List ℝ)) (st st' : StackState ℝ) (p : StackParam ℝ)
    (h : stackInstall inv st p = some st') :
    match p with
    | .t v => st' = { st with vector := v }
    | .r R => st' = { st with minv := inv R }
    | .s f => st'.vector = st.vector ∧ st'.minv = st.minv ∧ scaleFactor f = some st'.recip := by
  cases p with
  | t v => simp only [stackInstall, Option.some.injEq] at h; exact h.symm
  | r R => simp only [stackInstall, Option.some.injEq] at h; exact h.symm
  | s f =>
    simp only [stackInstall, Option.map_eq_some_iff] at h
    obtain ⟨r, hr, rfl⟩ := h
    exact ⟨rfl, rfl, hr⟩

example : stackInstall (α := ℝ) id ⟨[1], [[1]], [1]⟩ (.t [5]) = some ⟨[5], [[1]], [1]⟩ := rfl

/-- **Stacked decorators, any history**: an evaluation after any interleaving of the three setters and earlier
evaluations hands the innermost function `scale⁻¹(rotate⁻¹(translate⁻¹ x))` under the parameters in force —
those of `stackStateAfter`, each one the argument of the last call of its own setter. -/
theorem stack_history (inv : List (List ℝ) → List (List ℝ)) (st : StackState ℝ)
    (pre : List (HOp (StackParam ℝ) (List ℝ))) (x : List ℝ) (outs : List (List ℝ))
    (h : stackHist inv st (pre ++ [HOp.call x]) = some outs) :
    ∃ st' y, stackStateAfter inv st pre = some st' ∧ stackApply st' x = some y ∧ outs.getLast? = some y :=
  stackHist_last inv st pre x outs h

example : (stackHist (α := ℝ) id ⟨[1], [[1]], [1]⟩ ([.set (.t [5])] ++ [.call [7]])).isSome = true := rfl

/-! ## Quality indicators (`benchmarks/tools.py:262-327`) -/

/-- `igd` is a mean of distances: non-negative. -/
theorem igd_nonneg (A Z : List (List ℝ)) (v : ℝ) (h : igd A Z = some v) : 0 ≤ v := by
  obtain ⟨ds, f2, _, rfl⟩ := igd_spec A Z v h
  exact (mean_least (f2.imp fun _ _ hz => hz.2) fun _ _ => Real.sqrt_nonneg _).1

/-- **`igd(A, Z) = 0` exactly when every reference point of `Z` is a point of `A`.** -/
theorem igd_eq_zero_iff (A Z : List (List ℝ)) (v : ℝ) (h : igd A Z = some v) :
    v = 0 ↔ ∀ z ∈ Z, z ∈ A := by
  obtain ⟨ds, f2, hne, rfl⟩ := igd_spec A Z v h
  rw [(mean_least (f2.imp fun _ _ hz => hz.2) fun _ _ => Real.sqrt_nonneg _).2 hne]
  refine forall₂_congr fun z hz => ?_
  obtain ⟨_, _, hdim, _⟩ := forall2_mem_left f2 z hz
  exact ⟨fun ⟨a, ha, e⟩ => (sqrt_d2_eq_zero (hdim a ha)).1 e ▸ ha, fun hm => ⟨z, hm, (sqrt_d2_eq_zero rfl).2 rfl⟩⟩

example : igd [[(0 : ℝ), 1]] [[0, 1]] = some (RealLike.sum [RealLike.sqrt (RealLike.sum [(0 - 0) * (0 - 0), (1 - 1) * (1 - 1)])] / RealLike.ofNat 1) := rfl

/-- `convergence` is a mean of distances: non-negative. -/
theorem convergence_nonneg (front opt : List (List ℝ)) (v : ℝ) (h : convergence front opt = some v) : 0 ≤ v := by
  obtain ⟨ds, f2, _, rfl⟩ := convergence_spec front opt v h
  exact (mean_least f2 fun _ _ => Real.sqrt_nonneg _).1

/-- **`convergence(front, optimal) = 0` exactly when every point of the front is on the optimal front**
(points of one dimension). -/
theorem convergence_eq_zero_iff (front opt : List (List ℝ)) (v : ℝ) (h : convergence front opt = some v)
    (hdim : ∀ p ∈ front, ∀ o ∈ opt, p.length = o.length) :
    v = 0 ↔ ∀ p ∈ front, p ∈ opt := by
  obtain ⟨ds, f2, hne, rfl⟩ := convergence_spec front opt v h
  rw [(mean_least f2 fun _ _ => Real.sqrt_nonneg _).2 hne]
  exact forall₂_congr fun p hp => ⟨fun ⟨o, ho, e⟩ => (sqrt_d2_eq_zero (hdim p hp o ho)).1 e ▸ ho,
    fun hm => ⟨p, hm, (sqrt_d2_eq_zero rfl).2 rfl⟩⟩

example : (convergence [[(0 : ℝ), 1]] [[0, 1], [1, 0]]).isSome = true ∧
    ∀ p ∈ [[(0 : ℝ), 1]], ∀ o ∈ [[(0 : ℝ), 1], [1, 0]], p.length = o.length := by
  refine ⟨rfl, ?_⟩
  intro p hp o ho; simp at hp ho; rcases ho with rfl | rfl <;> simp [hp]

/-- `diversity` of a one-point front is the sum of its distances to the two extreme points. -/
theorem diversity_single (p first last : ℝ × ℝ) :
    diversity [p] first last = some (hyp p first + hyp p last) := by
  simp only [diversity, lastOr, List.isEmpty_nil, if_true, real_bridge]

/-- `diversity` (Deb's spread Δ) is non-negative. -/
theorem diversity_nonneg (front : List (ℝ × ℝ)) (first last : ℝ × ℝ) (v : ℝ)
    (h : diversity front first last = some v) : 0 ≤ v := by
  match front, h with
  | [p], h =>
    rw [diversity_single] at h; cases h
    exact add_nonneg (hyp_nonneg _ _) (hyp_nonneg _ _)
  | p0 :: p1 :: rest, h =>
    rw [diversity_cons_cons] at h
    split at h <;> cases h
    have h12 := add_nonneg (hyp_nonneg p0 first) (hyp_nonneg (lastOr p0 (p0 :: p1 :: rest)) last)
    have h3 : 0 ≤ (gaps (p0 :: p1 :: rest)).sum := List.sum_nonneg (gaps_nonneg _)
    exact div_nonneg (add_nonneg h12 (sum_map_nonneg _ _ fun _ _ => abs_nonneg _))
      (add_nonneg h12 (mul_nonneg (Nat.cast_nonneg _) (div_nonneg h3 (Nat.cast_nonneg _))))

example : diversity [((0 : ℝ), (1 : ℝ))] (0, 1) (1, 0) = some (hyp (0, 1) (0, 1) + hyp (0, 1) (1, 0)) :=
  diversity_single _ _ _

/-- **A perfectly spread front has diversity 0**: extreme points reached (`d_f = d_l = 0`) and all
consecutive distances equal to some `g > 0`. -/
theorem diversity_uniform (p0 p1 : ℝ × ℝ) (rest : List (ℝ × ℝ)) (first last : ℝ × ℝ) (g : ℝ) (hg : 0 < g)
    (hf : hyp p0 first = 0) (hlast : hyp (lastOr p0 (p0 :: p1 :: rest)) last = 0)
    (hgap : ∀ d ∈ gaps (p0 :: p1 :: rest), d = g) :
    diversity (p0 :: p1 :: rest) first last = some 0 := by
  have hlenpos : (0 : ℝ) < ((gaps (p0 :: p1 :: rest)).length : ℝ) := Nat.cast_pos.2 (by rw [gaps_length, List.length_cons, Nat.add_sub_cancel]; exact Nat.succ_pos _)
  have hdm : (gaps (p0 :: p1 :: rest)).sum / ((gaps (p0 :: p1 :: rest)).length : ℝ) = g := by
    rw [List.sum_eq_card_nsmul _ g hgap, nsmul_eq_mul, mul_div_cancel_left₀ _ hlenpos.ne']
  have hdi : ((gaps (p0 :: p1 :: rest)).map fun d => |d - g|).sum = 0 :=
    sum_map_eq_zero _ _ fun d hd => by rw [hgap d hd, sub_self, abs_zero]
  rw [diversity_cons_cons, hf, hlast, hdm, hdi, if_pos (Or.inr (by rw [zero_add, zero_add]; exact mul_pos hlenpos hg)), add_zero, add_zero, zero_div]

/-- the hypotheses are met by the three equally spaced points (0,2), (1,1), (2,0) between the extremes (0,2), (2,0) -/
example : hyp ((0 : ℝ), (2 : ℝ)) (0, 2) = 0 ∧
    hyp (lastOr ((0 : ℝ), (2 : ℝ)) [((0 : ℝ), (2 : ℝ)), (1, 1), (2, 0)]) (2, 0) = 0 ∧
    ∀ d ∈ gaps [((0 : ℝ), (2 : ℝ)), (1, 1), (2, 0)], d = Real.sqrt 2 := by
  refine ⟨by rw [hyp_eq]; simp, by simp only [lastOr]; rw [hyp_eq]; simp, ?_⟩
  intro d hd
  simp only [gaps, List.tail_cons, List.zip_cons_cons, List.zip_nil_right, List.map_cons, List.map_nil,
    List.mem_cons, List.not_mem_nil, or_false] at hd
  rcases hd with rfl | rfl <;> (rw [hyp_eq]; norm_num)

/-- `MovingPeaks.__call__` returns the maximum of its peak functions (and the basis function):
the value is one of the separately evaluated values and no value exceeds it; it is defined
whenever there is at least one peak or a basis function. -/
theorem mp_eval_max (peaks : List (Peak ℝ)) (basis : Option ℝ) (x : List ℝ) :
    (possibleValues peaks basis x ≠ [] → ∃ v, call peaks basis x = some v) ∧
    ∀ v, call peaks basis x = some v →
      v ∈ possibleValues peaks basis x ∧ ∀ w ∈ possibleValues peaks basis x, w ≤ v := by
  refine ⟨fun hne => ?_, pyMax_spec _⟩
  unfold call
  cases hp : possibleValues peaks basis x with
  | nil => exact absurd hp hne
  | cons a t => exact ⟨_, rfl⟩

example : possibleValues [⟨.cone, [0], 50, 1, [0]⟩] none [(3 : ℝ)] ≠ [] := by simp [possibleValues]

/-- `changePeaks`, any number of times, on any tape: with limits configured and the initial count
inside them, the number of peaks stays inside `[minpeaks, maxpeaks]`; without limits it never
changes. -/
theorem mp_count_inv (cfg : Config ℝ) (k : Nat) (peaks : List (Peak ℝ)) (t : Tape ℝ)
    (p' : List (Peak ℝ)) (t' : Tape ℝ) (h : changeTimes cfg k peaks t = some (p', t')) :
    (cfg.limits = none → p'.length = peaks.length) ∧
    (∀ mn mx, cfg.limits = some (mn, mx) → mn ≤ (peaks.length : Int) → (peaks.length : Int) ≤ mx →
      mn ≤ (p'.length : Int) ∧ (p'.length : Int) ≤ mx) :=
  changeTimes_count cfg k peaks t p' t' h

/-- a configuration with limits [1, 3] and one change that adds a peak: the hypothesis of `mp_count_inv`
(`changeTimes … = some …`) is met by the tape `u = 0.75` (add), `u' = 0.5`, the new peak's choice / height /
width, then one height and one width draw per peak -/
noncomputable def cfgEx : Config ℝ :=
  { dim := 0, limits := some (1, 3), numberSeverity := 1, pool := [.cone], minCoord := 0, maxCoord := 100,
    minHeight := 30, maxHeight := 70, minWidth := 1, maxWidth := 12, lambda := 0, moveSeverity := 1,
    heightSeverity := 7, widthSeverity := 1, roundInt := fun _ => 1 }

example : (changeTimes cfgEx 1 [⟨.cone, [], 50, 5, []⟩]
    [.random (3/4), .random (1/2), .choice 0, .uniform 40, .uniform 2, .gauss 0, .gauss 0, .gauss 0, .gauss 0]).isSome
    = true := by
  have hu : ¬ ((3 / 4 : ℝ) < 1 / 2) := by norm_num
  simp only [changeTimes, changePeaks, changeNumber, cfgEx, popRandom, half, real_bridge, hu, if_false, imin, addPeaks,
    popMany, popUniform, changeAll, changePeak, popGauss, List.length_cons, List.length_nil, List.getElem?_cons_zero,
    Int.reduceSub, Int.reduceLT, if_true, Nat.cast_ofNat, Nat.reduceAdd, Int.toNat_one, List.nil_append, List.cons_append,
    List.map_nil, Option.isSome_some, List.zip_nil_right, Nat.cast_one, Int.sub_self, Int.toNat_zero]

section MPTotal
variable {α : Type} [RealLike α]

/-- **`changePeaks` is total on well-typed tapes.**  If every peak has `dim` coordinates (the class
invariant) and the tape answers the request sequence `changeReqs` — right kind of draw at every
position, `randrange`/`choice` indices in range, at least `(changeReqs …).length` draws — the call
succeeds, consumes exactly that many draws, leaves `newLen` peaks and keeps the invariant.  With limits
`[mn, mx]` and the count inside them the sequence is at most `2 + (mx-mn)(2·dim+3) + mx(dim+2)` long. -/
theorem changePeaks_total (cfg : Config α) (peaks : List (Peak α)) (t : Tape α)
    (hd : DimOK cfg.dim peaks) (h : Serves (changeReqs cfg peaks.length t) t) :
    (∃ p' t', changePeaks cfg peaks t = some (p', t') ∧ p'.length = newLen cfg peaks.length t ∧
      DimOK cfg.dim p' ∧ t' = t.drop (changeReqs cfg peaks.length t).length) ∧
    (∀ mn mx, cfg.limits = some (mn, mx) → mn ≤ (peaks.length : Int) → (peaks.length : Int) ≤ mx →
      (changeReqs cfg peaks.length t).length ≤ 2 + (mx - mn).toNat * (2 * cfg.dim + 3) + mx.toNat * (cfg.dim + 2)) ∧
    (cfg.limits = none → (changeReqs cfg peaks.length t).length = peaks.length * (cfg.dim + 2)) := by
  refine ⟨?_, fun mn mx hl h1 h2 => changeReqs_length_le cfg _ t mn mx hl h1 h2,
    fun hl => changeReqs_length_nolimits cfg _ t hl⟩
  obtain ⟨p', e, q⟩ := (run_changePeaks cfg peaks t hd).exists h
  exact ⟨p', _, e, q.1, q.2, rfl⟩

/-- the hypotheses are met: no limits, one 1-D peak, the tape `random, gauss, gauss` -/
example : DimOK 1 [(⟨.cone, [5], 50, 1, [0]⟩ : Peak ℝ)] ∧
    ∀ cfg : Config ℝ, cfg.dim = 1 → cfg.limits = none →
      Serves (changeReqs cfg 1 [Draw.random 0, .gauss 0, .gauss 0]) [Draw.random (0 : ℝ), .gauss 0, .gauss 0] := by
  constructor
  · intro p hp; simp at hp; subst hp; simp
  · intro cfg h1 h2
    simp [changeReqs, numberReqs, newLen, plan, h2, allReqs, peakReqs, h1, Serves, kindOK]

/-- **Count invariant, unconditionally on well-typed tapes**: if the tape answers `k` successive calls
(`ServesTimes`), all `k` changes succeed and the number of peaks stays inside the configured limits
(resp. unchanged without limits). -/
theorem mp_count_inv_total (cfg : Config α) (k : Nat) (peaks : List (Peak α)) (t : Tape α)
    (hd : DimOK cfg.dim peaks) (h : ServesTimes cfg k peaks.length t) :
    ∃ p' t', changeTimes cfg k peaks t = some (p', t') ∧
      (cfg.limits = none → p'.length = peaks.length) ∧
      (∀ mn mx, cfg.limits = some (mn, mx) → mn ≤ (peaks.length : Int) → (peaks.length : Int) ≤ mx →
        mn ≤ (p'.length : Int) ∧ (p'.length : Int) ≤ mx) := by
  obtain ⟨p', t', e, _⟩ := changeTimes_total cfg k peaks t hd h
  exact ⟨p', t', e, changeTimes_count cfg k peaks t p' t' e⟩

example : ∀ cfg : Config ℝ, cfg.limits = none → ServesTimes cfg 2 0 [] := by
  intro cfg h
  simp [ServesTimes, changeReqs, numberReqs, newLen, plan, h, allReqs, Serves]

/-- a realistic instance of the hypotheses of `mp_count_inv_total`: limits [1, 3], two 1-D peaks, one change that
adds a peak (u = 3/4 ≥ ½, rounded request 1), served by a 16-draw tape -/
noncomputable def cfgEx2 : Config ℝ :=
  { dim := 1, limits := some (1, 3), numberSeverity := 1, pool := [.cone, .function1], minCoord := 0, maxCoord := 100,
    minHeight := 30, maxHeight := 70, minWidth := 1, maxWidth := 12, lambda := 0, moveSeverity := 1,
    heightSeverity := 7, widthSeverity := 1, roundInt := fun _ => 1 }

example :
    DimOK cfgEx2.dim [(⟨.cone, [10], 50, 5, [0]⟩ : Peak ℝ), ⟨.function1, [60], 40, 2, [1/4]⟩] ∧
    ServesTimes cfgEx2 1 2
      [.random (3/4), .random (1/2), .choice 1, .uniform 33, .uniform 45, .uniform 3, .random (1/8),
       .random (1/2), .gauss 0, .gauss 1, .random (1/4), .gauss (-1), .gauss 0, .random (3/4), .gauss 2, .gauss 0] := by
  constructor
  · intro p hp; simp at hp; rcases hp with rfl | rfl <;> simp [cfgEx2]
  · simp only [ServesTimes, changeReqs, numberReqs, newLen, plan, cfgEx2, half, RealLike.real_ofRatio, RealLike.real_lt]
    norm_num [imin, addReqs, addBlock, allReqs, peakReqs, Serves, kindOK, List.replicate]

/-- `MovingPeaks.__init__` builds one peak per peak function, each with `dim` coordinates and a `dim`-long
last-change vector — the invariant `DimOK` that `changePeaks_total` and `mp_count_inv_total` start from. -/
theorem mp_init_dim (dim : Nat) (fns : List PFunc) (uh uw : α) (t : Tape α) (peaks : List (Peak α)) (t' : Tape α)
    (h : initPeaks dim fns uh uw t = some (peaks, t')) :
    peaks.length = fns.length ∧ DimOK dim peaks ∧ peaks.map (·.fn) = fns := by
  unfold initPeaks at h
  simp only at h
  split at h; · cases h
  next poss t1 h1 =>
  split at h; · cases h
  next hs t2 h2 =>
  split at h; · cases h
  next ws t3 h3 =>
  split at h; · cases h
  next lasts t4 h4 =>
  cases h
  obtain ⟨p1, p2⟩ := popGroups_spec _ _ _ _ _ _ h1
  obtain ⟨l1, l2⟩ := popGroups_spec _ _ _ _ _ _ h4
  have hh := initScalars_length _ _ _ _ _ h2
  have hw := initScalars_length _ _ _ _ _ h3
  refine ⟨by simp [List.length_zip, p1, l1, hh, hw], ?_, ?_⟩
  · intro p hp
    obtain ⟨q, hq, rfl⟩ := List.mem_map.1 hp
    have b := List.of_mem_zip (List.of_mem_zip hq).2
    exact ⟨p2 _ b.1, (List.length_map _).trans (l2 _ (List.of_mem_zip (List.of_mem_zip b.2).2).2)⟩
  · rw [List.map_map]
    have hl : fns.length ≤ (poss.zip (hs.zip (ws.zip lasts))).length := by simp [List.length_zip, p1, l1, hh, hw]
    exact List.map_fst_zip hl

/-- **Over any history of evaluations**: after `n` counted evaluations `nevals` has grown by `n`, and the
`j`-th evaluation (0-based) triggered a change exactly when `period > 0 ∧ (nevals₀ + j + 1) % period = 0`. -/
theorem mp_call_count (cfg : Config α) (period : Int) (basis : Option (List α → α)) (xs : List (List α))
    (st : State α) (t : Tape α) (outs : List (α × Bool)) (st' : State α) (t' : Tape α)
    (h : evalMany cfg period basis xs st t = some (outs, st', t')) :
    st'.nevals = st.nevals + xs.length ∧ outs.length = xs.length ∧
    ∀ j (hj : j < outs.length),
      ((outs[j]).2 = true ↔ (0 < period ∧ ((st.nevals + j + 1 : Nat) : Int) % period = 0)) := by
  induction xs generalizing st t outs with
  | nil =>
    obtain ⟨rfl, rfl, rfl⟩ := h
    simp
  | cons x rest ih =>
    unfold evalMany at h
    split at h; · cases h
    next v ch st1 t1 h1 =>
    split at h; · cases h
    next o2 st2 t2 h2 =>
    cases h
    obtain ⟨_, a2, a3, _, _⟩ := evalCounted_spec _ _ _ _ _ _ _ _ _ _ h1
    obtain ⟨b1, b2, b3⟩ := ih _ _ _ h2
    refine ⟨by rw [b1, a2, List.length_cons]; omega, by rw [List.length_cons, b2, List.length_cons], fun j hj => ?_⟩
    cases j with
    | zero => exact a3
    | succ i =>
      rw [List.getElem_cons_succ, b3 i (Nat.lt_of_succ_lt_succ hj), a2, Nat.add_right_comm _ 1 i, Nat.add_assoc _ i 1]

end MPTotal

section Objects
variable {α : Type} [RealLike α]

/-- **`MovingPeaks.__init__`, the peak functions** (F33 / F34).  Whatever the form of `pfunc`
— one function, a list of exactly `npeaks` functions, a longer pool — the object gets exactly `npeaks`
peak functions, all taken from the pool `pfunc_pool`, which is the caller's function(s); a list of the
right length is taken as it is without touching the random source, any other list costs exactly one
`random.sample` draw, and a list shorter than `npeaks` is rejected. -/
theorem mp_init_functions (pf : PFuncArg) (n : Nat) (t : Tape α) (fns pool : List PFunc) (t' : Tape α)
    (h : initFunctions pf n t = some (fns, pool, t')) :
    fns.length = n ∧ pool = poolOf pf ∧ (∀ f ∈ fns, f ∈ pool) ∧
    (match pf with
     | .one f => fns = List.replicate n f ∧ t' = t
     | .many fs => (fs.length = n → fns = fs ∧ t' = t) ∧
                   (fs.length ≠ n → n < fs.length ∧ ∃ idx, t = .sample idx :: t')) :=
  initFunctions_spec pf n t fns pool t' h

/-- the three paths are inhabited: one function; a list of the right length; a pool of three for two peaks
(sample `[2, 0]`) -/
example : initFunctions (α := ℝ) (.one .cone) 3 [] = some ([.cone, .cone, .cone], [.cone], []) ∧
    initFunctions (α := ℝ) (.many [.cone, .function1]) 2 [] = some ([.cone, .function1], [.cone, .function1], []) ∧
    initFunctions (α := ℝ) (.many [.cone, .function1, .sphere]) 2 [.sample [2, 0]]
      = some ([.sphere, .cone], [.cone, .function1, .sphere], []) := ⟨rfl, rfl, rfl⟩

/-- **The constructed object**: `npeaks` peaks of `dim` coordinates each, evaluation counter 0, the
configured limits, the pool of the `pfunc` argument, every peak function from that pool. -/
theorem mp_init_inv (base : Config α) (period : Int) (basis : Option (List α → α)) (pf : PFuncArg) (n : Nat)
    (uh uw : α) (t : Tape α) (b : Bench α) (t' : Tape α)
    (h : init base period basis pf n uh uw t = some (b, t'))
    (hl : ∀ mn mx, base.limits = some (mn, mx) → mn ≤ (n : Int) ∧ (n : Int) ≤ mx) :
    b.st.peaks.length = n ∧ DimOK base.dim b.st.peaks ∧ b.st.nevals = 0 ∧ b.cfg.pool = poolOf pf ∧
    b.cfg.limits = base.limits ∧ b.cfg.dim = base.dim ∧ Inv n b := by
  unfold init at h
  split at h; · cases h
  next fns pool t1 hf =>
  split at h; · cases h
  next peaks t2 hp =>
  cases h
  obtain ⟨f1, f2, f3, _⟩ := initFunctions_spec _ _ _ _ _ _ hf
  obtain ⟨p1, p2, p3⟩ := mp_init_dim _ _ _ _ _ _ _ hp
  have hlen : peaks.length = n := p1.trans f1
  refine ⟨hlen, p2, rfl, f2, rfl, rfl, ⟨?_, fun p hm => f3 _ (p3 ▸ List.mem_map_of_mem hm)⟩⟩
  exact count_match_iff.2 ⟨fun _ => hlen, fun mn mx hb => hlen ▸ hl mn mx hb⟩

/-- the hypotheses are met: one function, three peaks, dimension 0 (no coordinate draws), fixed heights and widths -/
example : (init (α := ℝ) cfgEx 0 none (.one .cone) 3 50 5 []).isSome = true ∧
    (∀ mn mx, cfgEx.limits = some (mn, mx) → mn ≤ ((3 : Nat) : Int) ∧ ((3 : Nat) : Int) ≤ mx) := by
  constructor
  · have hh : ((50 : ℝ) < 0 ∨ (0 : ℝ) < 50) := Or.inr (by norm_num)
    have hw : ((5 : ℝ) < 0 ∨ (0 : ℝ) < 5) := Or.inr (by norm_num)
    simp only [init, initFunctions, initPeaks, cfgEx, initScalars, popGroups, popMany, List.length_replicate, real_bridge,
      if_pos hh, if_pos hw, Option.isSome_some]
  · rintro mn mx ⟨⟩; decide

/-- **Count invariant for benchmark objects** (`mp_count_inv` along whole lives): an object built by the
constructor — from any form of `pfunc` — and then taken through ANY history of `changePeaks()`, plain
and counted evaluations (which trigger changes of their own every `period` evaluations) keeps its
number of peaks inside `[minpeaks, maxpeaks]` (resp. at `npeaks` when no limits are configured), and
all its peak functions come from the caller's `pfunc`. -/
theorem mp_count_inv_bench (base : Config α) (period : Int) (basis : Option (List α → α)) (pf : PFuncArg) (n : Nat)
    (uh uw : α) (t : Tape α) (b : Bench α) (t1 : Tape α)
    (h : init base period basis pf n uh uw t = some (b, t1))
    (hl : ∀ mn mx, base.limits = some (mn, mx) → mn ≤ (n : Int) ∧ (n : Int) ≤ mx)
    (acts : List (Action α)) (s' : Slot α) (outs : List (Out α))
    (hr : Slot.run acts ⟨b, t1⟩ = some (s', outs)) :
    (base.limits = none → s'.b.st.peaks.length = n) ∧
    (∀ mn mx, base.limits = some (mn, mx) →
      mn ≤ (s'.b.st.peaks.length : Int) ∧ (s'.b.st.peaks.length : Int) ≤ mx) ∧
    (∀ p ∈ s'.b.st.peaks, p.fn ∈ poolOf pf) := by
  obtain ⟨_, _, _, hpool, hlim, _, hinv⟩ := mp_init_inv base period basis pf n uh uw t b t1 h hl
  obtain ⟨i, hc⟩ := slot_run_inv n acts ⟨b, t1⟩ s' outs hr hinv
  have hc' : s'.b.cfg = b.cfg := hc
  obtain ⟨c0, c1⟩ := count_match_iff.1 i.count
  rw [hc', hlim] at c0 c1
  refine ⟨c0, c1, fun p hp => ?_⟩
  have := i.pool p hp
  rwa [hc', hpool] at this

/-- the hypotheses are met: scenario-like configuration with limits [1, 3], a list of two functions for two
peaks (taken as it is), dimension 0 so that the constructor needs no coordinate draws; one `changePeaks()`
that adds a peak, then an evaluation -/
example :
    (∀ mn mx, cfgEx.limits = some (mn, mx) → mn ≤ ((2 : Nat) : Int) ∧ ((2 : Nat) : Int) ≤ mx) ∧
    ((init (α := ℝ) cfgEx 0 none (.many [.cone, .function1]) 2 50 5 [.random (3/4), .random (1/2), .choice 0, .uniform 40,
      .uniform 2, .gauss 0, .gauss 0, .gauss 0, .gauss 0, .gauss 0, .gauss 0]).bind
        fun bt => Slot.run [.change] ⟨bt.1, bt.2⟩).isSome = true := by
  constructor
  · rintro mn mx ⟨⟩; decide
  · have hh : ((50 : ℝ) < 0 ∨ (0 : ℝ) < 50) := Or.inr (by norm_num)
    have hw : ((5 : ℝ) < 0 ∨ (0 : ℝ) < 5) := Or.inr (by norm_num)
    have hu : ¬ ((3 / 4 : ℝ) < 1 / 2) := by norm_num
    simp only [init, initFunctions, initPeaks, cfgEx, initScalars, popGroups, popMany, List.length_cons, List.length_nil,
      real_bridge, if_pos hh, if_pos hw, Option.bind_some, Slot.run, Slot.step, Bench.step, changePeaks, changeNumber,
      popRandom, half, hu, if_false, imin, addPeaks, popUniform, changeAll, changePeak, popGauss, List.replicate,
      List.zip_cons_cons, List.zip_nil_right, List.map_cons, List.map_nil, List.getElem?_cons_zero, Int.toNat_one,
      Option.isSome_some, List.nil_append, List.cons_append, Int.reduceSub, Int.reduceLT, if_true, Nat.cast_ofNat,
      Nat.reduceAdd]

/-- **Instance independence.**  Several benchmark objects — e.g. built from one scenario dictionary and
one list of peak functions — taken through any interleaved history of changes and evaluations: every
object goes through exactly the history of the actions addressed to it (with its own random source),
whatever is done to the others in between; in particular an object nobody addresses is unchanged.
The model has value semantics, so this holds by construction; that the implementation behaves like
the model (no list shared between objects or with the caller) is what the `mpworld` correspondence
stream checks (F33). -/
theorem mp_instances_independent (ops : List (Nat × Action α)) (w w' : World α) (outs : List (Out α))
    (h : World.run ops w = some (w', outs)) :
    w'.length = w.length ∧
    (∀ j s, w[j]? = some s →
      ∃ s' outs_j, Slot.run (project j ops) s = some (s', outs_j) ∧ w'[j]? = some s') ∧
    (∀ j, (∀ op ∈ ops, op.1 ≠ j) → w'[j]? = w[j]?) := by
  obtain ⟨hl, hp⟩ := world_run_project ops w w' outs h
  refine ⟨hl, hp, ?_⟩
  intro j hj
  cases hs : w[j]? with
  | none => exact List.getElem?_eq_none (hl ▸ List.getElem?_eq_none_iff.1 hs)
  | some s =>
    obtain ⟨s', oj, r1, r2⟩ := hp j s hs
    rw [project_eq_nil j ops hj] at r1
    cases r1
    exact r2

/-- the hypothesis is met by two objects (same configuration, own tapes) and an interleaved history -/
example : (World.run (α := ℝ) [(1, .eval []), (0, .eval []), (1, .eval [])]
    [⟨⟨cfgEx, 0, none, ⟨[⟨.cone, [], 50, 5, []⟩], 0⟩, ⟨none, none, 0⟩⟩, []⟩,
     ⟨⟨cfgEx, 0, none, ⟨[⟨.cone, [], 60, 5, []⟩], 0⟩, ⟨none, none, 0⟩⟩, []⟩]).isSome = true := rfl

end Objects

/-- **Evaluation of a benchmark object = max over its peak functions** (`mp_eval_max` for objects): an
uncounted evaluation returns the maximum of the separately evaluated peak (and basis) values and leaves the
object and its random source untouched; a counted evaluation returns the maximum over the peaks it had
BEFORE the change it may trigger. -/
theorem mp_eval_max_bench (b b' : Bench ℝ) (x : List ℝ) (t t' : Tape ℝ) (o : Out ℝ) :
    (b.step (.eval x) t = some (b', o, t') →
      ∃ v, o = .value v ∧ b' = b ∧ t' = t ∧
        v ∈ possibleValues b.st.peaks (b.basis.map fun f => f x) x ∧
        ∀ w ∈ possibleValues b.st.peaks (b.basis.map fun f => f x) x, w ≤ v) ∧
    (b.step (.evalCount x) t = some (b', o, t') →
      ∃ v ch ne np er, o = .counted v ch ne np er ∧ ne = b.st.nevals + 1 ∧
        v ∈ possibleValues b.st.peaks (b.basis.map fun f => f x) x ∧
        ∀ w ∈ possibleValues b.st.peaks (b.basis.map fun f => f x) x, w ≤ v) := by
  constructor <;> intro h <;> simp only [Bench.step] at h <;> (split at h; · cases h)
  · next v hv =>
    cases h
    exact ⟨v, rfl, rfl, rfl, (mp_eval_max _ _ _).2 v hv⟩
  · next v ch st' t1 he =>
    split at h; · cases h
    cases h
    obtain ⟨c1, c2, _⟩ := evalCounted_spec _ _ _ _ _ _ _ _ _ _ he
    exact ⟨v, ch, _, _, _, rfl, c2, (mp_eval_max _ _ _).2 v c1⟩

example : ((⟨cfgEx, 0, none, ⟨[⟨.cone, [], 50, 5, []⟩], 0⟩, ⟨none, none, 0⟩⟩ : Bench ℝ).step (.eval []) []).isSome
    = true := rfl

/-- every peak function at its own centre: `cone` and `function1` give the height, `sphere` gives 0 -/
theorem peakValue_centre (fn : PFunc) (p : List ℝ) (h w : ℝ) :
    peakValue fn p p h w = match fn with | .cone => h | .function1 => h | .sphere => 0 := by
  cases fn <;> simp only [peakValue, dist2_self] <;> simp only [real_bridge] <;> simp

/-- `globalMaximum()` returns one of the peaks' own centre values (with that peak's position), and no peak's
own centre value exceeds it; with `cone` / `function1` peaks that is the largest height. -/
theorem mp_global_max (peaks : List (Peak ℝ)) (g : ℝ × List ℝ) (h : globalMaximum peaks = some g) :
    g ∈ potentialMax peaks ∧ (∀ q ∈ potentialMax peaks, q.1 ≤ g.1) ∧
    ((∀ p ∈ peaks, p.fn ≠ .sphere) → (∃ p ∈ peaks, g.1 = p.height) ∧ ∀ p ∈ peaks, p.height ≤ g.1) := by
  have := globalMaximum_spec peaks g h
  refine ⟨this.1, this.2, fun hns => ?_⟩
  have key : ∀ p ∈ peaks, peakValue p.fn p.pos p.pos p.height p.width = p.height := fun p hp => by
    rw [peakValue_centre]
    cases hf : p.fn with
    | cone => rfl
    | function1 => rfl
    | sphere => exact absurd hf (hns p hp)
  refine ⟨?_, fun p hp => ?_⟩
  · obtain ⟨p, hp, e⟩ := List.mem_map.1 this.1
    exact ⟨p, hp, by rw [← e, key p hp]⟩
  · have := this.2 _ (List.mem_map_of_mem (f := fun p => (peakValue p.fn p.pos p.pos p.height p.width, p.pos)) hp)
    rwa [key p hp] at this

example : globalMaximum [(⟨.cone, [1], 50, 5, [0]⟩ : Peak ℝ)] = some (peakValue .cone [1] [1] 50 5, [1]) := rfl

/-- `maximums()` lists only peaks' own centre values, each of them equal to the landscape's value at that
position (the peak is visible there). -/
theorem mp_maximums_visible (peaks : List (Peak ℝ)) (basis : Option (List ℝ → ℝ)) (vp : ℝ × List ℝ)
    (h : vp ∈ maximums peaks basis) :
    vp ∈ potentialMax peaks ∧ call peaks (basis.map fun f => f vp.2) vp.2 = some vp.1 := by
  unfold maximums at h
  rw [mem_sortDesc, List.mem_filter] at h
  obtain ⟨hm, hv⟩ := h
  refine ⟨hm, ?_⟩
  split at hv
  · simp at hv
  · next c hc =>
    simp only [Bool.not_eq_true', decide_eq_false_iff_not, real_lt, not_lt] at hv
    obtain ⟨m1, m2⟩ := (mp_eval_max _ _ _).2 c hc
    obtain ⟨p, hp, rfl⟩ := List.mem_map.mp hm
    have : peakValue p.fn p.pos p.pos p.height p.width ≤ c :=
      m2 _ (by simp only [possibleValues, List.mem_append, List.mem_map]; exact Or.inl ⟨p, hp, rfl⟩)
    rw [hc]; congr 1; linarith

example : (peakValue .cone [1] [1] 50 5, [(1 : ℝ)]) ∈ maximums [(⟨.cone, [1], 50, 5, [0]⟩ : Peak ℝ)] none := by
  simp [maximums, potentialMax, call, possibleValues, pyMax, sortDesc, insertDesc]

/-- one counted evaluation on the offline-error registers: the current error is non-negative, at most the
distance of this fitness to the optimum in force, never above the previous error while the optimum stands,
and it is what is added to the offline sum. -/
theorem mp_error_step (peaks : List (Peak ℝ)) (e e' : ErrState ℝ) (v : ℝ) (ch : Bool)
    (h : errStep peaks e v ch = some e') (hprev : ∀ er, e.error = some er → 0 ≤ er) :
    ∃ er o, e'.error = some er ∧ 0 ≤ er ∧ er ≤ |v - o| ∧ e'.offline = e.offline + er ∧
      (e.optimum = some o ∨ (e.optimum = none ∧ ∃ g, globalMaximum peaks = some g ∧ g.1 = o)) ∧
      (∀ er0, e.optimum ≠ none → e.error = some er0 → er ≤ er0) ∧
      (e'.optimum = if ch then none else some o) := by
  unfold errStep at h
  cases ho : e.optimum with
  | some o =>
    cases he : e.error with
    | none => simp [ho, he] at h
    | some er0 =>
      simp only [ho, he, Option.some.injEq] at h
      subst h
      refine ⟨_, o, rfl, ?_, ?_, rfl, Or.inl rfl, fun er1 _ he1 => ?_, rfl⟩ <;> simp only [real_bridge]
      · exact le_min (hprev er0 he) (abs_nonneg _)
      · exact min_le_right _ _
      · cases he1; exact min_le_left _ _
  | none =>
    cases hg : globalMaximum peaks with
    | none => simp [ho, hg] at h
    | some g =>
      simp only [ho, hg, Option.map_some, Option.some.injEq] at h
      subst h
      refine ⟨_, g.1, rfl, ?_, ?_, rfl, Or.inr ⟨rfl, g, rfl, rfl⟩, fun _ hne => absurd rfl hne, rfl⟩ <;>
        simp only [real_bridge, min_self]
      · exact abs_nonneg _
      · exact le_refl _

example : (errStep [(⟨.cone, [1], 50, 5, [0]⟩ : Peak ℝ)] ⟨none, none, 0⟩ 3 false).isSome = true ∧
    ∀ er, (⟨none, none, 0⟩ : ErrState ℝ).error = some er → 0 ≤ er := ⟨rfl, fun _ h => nomatch h⟩

/-- `movingpeaks.diversity(population)` is a square root, hence non-negative -/
theorem popDiversity_nonneg (pop : List (List ℝ)) (v : ℝ) (h : popDiversity pop = some v) : 0 ≤ v := by
  cases pop with
  | nil => cases h
  | cons x0 rest => rw [popDiversity_cons] at h; cases h; exact Real.sqrt_nonneg _

example : ∃ v, popDiversity [[(1 : ℝ), 2], [3, 4]] = some v := ⟨_, rfl⟩

/-- a population of identical individuals has diversity 0 -/
theorem popDiversity_equal (x : List ℝ) (n : Nat) : popDiversity (List.replicate (n + 1) x) = some 0 := by
  rw [List.replicate_succ, popDiversity_cons, ← List.replicate_succ, centroid_replicate]
  have hz : ((List.replicate (n + 1) x).map fun y => (x.zip y).map fun p => (p.1 - p.2) * (p.1 - p.2)).flatten.sum = 0 := by
    apply List.sum_eq_zero
    intro d hd
    simp only [List.mem_flatten, List.mem_map] at hd
    obtain ⟨l, ⟨y, hy, rfl⟩, hd⟩ := hd
    rw [List.eq_of_mem_replicate hy] at hd
    simp only [List.mem_map] at hd
    obtain ⟨p, hp, rfl⟩ := hd
    rw [mem_zip_self x p hp]; ring
  rw [hz]; simp

end C20
