/-
C08 — Hall of fame and Pareto archive always equal the best of everything seen.

Every theorem is about the archive `h` reached from the empty archive by an arbitrary history
`hist : List (List (Ind G α))` of `update` calls (so also about the archive after every prefix of
a history), for an arbitrary genome type `G`, an arbitrary linearly ordered scalar type `α`,
an arbitrary capacity `m ≥ 1` and an arbitrary first copy identity `base`.

* `hist.flatten` is the list of all individuals ever shown (an object that was modified in place
  and shown again occurs twice, with the same `oid` and its two contents).
* Fitnesses are compared through their weighted value tuples; `a.fit.wvalues < b.fit.wvalues` is
  the lexicographic order, which `C01.lt_iff_lex` / `C01.gt_iff_swap` prove to be what DEAP's
  `<` / `>` compute.
* The hypotheses of the reading (DESIGN §6) are explicit and every clause carries only what it needs:
  `SimSym` (similarity symmetric, ignores object identity) for `pairwise_dissimilar` / `pf_no_twins`;
  `SimBase` (… and reflexive) for `all_kept_while_room`; `SimHyp` (… and similar shown individuals
  have equal fitness) only for `best_of_seen`, which is false without it (`best_of_seen_needs_fit`);
  `pf_antichain` needs only equal numbers of objectives; `pf_exact` needs `PfHyp` (`SimBase` + equal
  numbers of objectives).  Transitivity of the similarity is never needed.
* `copies_fresh` / `copies_frame` / `pf_copies` are true by construction of the pure model (`insert`
  allocates a fresh id): they state what "deep copy" means for that model.  The deep-copy clause itself is
  proved in the last section for the *heap-level* archive `Core/ArchiveHeap.lean`, whose `insert` is
  `copy.deepcopy` as modelled (and proved faithful and disjoint) for C16 in `Core/Heap.lean`:
  `hof_members_fresh` / `pf_members_fresh` (every member reaches only objects allocated by the archive's
  own `deepcopy` call for it, or immutable ones), `hof_unaffected_by_writes` / `pf_unaffected_by_writes`
  (no sequence of in-place modifications of the caller's objects, interleaved with further updates,
  changes what a member denotes; `keys` are the members' own fitness objects), and
  `heap_hof_refines` / `heap_pf_refines` (the heap-level archive denotes, after every history, the pure
  archive run on the individuals as they were when shown — so every theorem above transfers,
  e.g. `heap_hof_best_of_seen`, `heap_pf_exact`).
  The structural theorems (`mirror`, `sorted_desc`, `size_le`, `worst_monotone`, `members_shown`,
  `copies_*`, `never_raises`) hold for *every* similarity operator.
* `insert` runs CPython's binary search; `C08L.bisectRight_eq` proves it equal to the linear scan on
  the (always ascending) key list.
-/
import DeapModel.Lemmas.C08HeapProps
import DeapModel.Lemmas.C08Gen   -- helper lemmas of the translator tie (GenEq/C08.lean.tmpl)

namespace C08
open Archive C08L

variable {G α : Type} [LinearOrder α]
variable (sim : Ind G α → Ind G α → Bool) {m base : Nat} {hist more : List (List (Ind G α))} {h h₂ : HoF G α}

/-! ## HallOfFame: what holds for every similarity operator -/

/-- With capacity ≥ 1 no `update` of any history raises (`self[-1]`, `remove(-1)` are always in range). -/
theorem never_raises (hm : 1 ≤ m) (base : Nat) (hist : List (List (Ind G α))) :
    ∃ h, run sim (empty m base) hist = some h := by
  obtain ⟨h, e, _⟩ := update_str sim hm hist.flatten [] (empty m base) (hstr_empty m base)
  exact ⟨h, (run_eq_flatten sim _ hist).trans e⟩

/-- The parallel lists never drift: `keys` is the list of the members' fitnesses, reversed. -/
theorem mirror (hm : 1 ≤ m) (hr : run sim (empty m base) hist = some h) :
    h.keys = (h.items.map (·.fit)).reverse :=
  (hof_hstr sim hm hr).mirror

/-- … index form: `len(keys) = len(items)` and `keys[j] = items[n-1-j].fitness`. -/
theorem mirror_index (hm : 1 ≤ m) (hr : run sim (empty m base) hist = some h) :
    h.keys.length = h.items.length ∧
    ∀ j, j < h.items.length → h.keys[j]? = (h.items[h.items.length - 1 - j]?).map (·.fit) := by
  have hk := mirror sim hm hr
  refine ⟨(hof_hstr sim hm hr).mirror.length, fun j hj => ?_⟩
  rw [hk, List.getElem?_reverse (by rwa [List.length_map]), List.length_map, List.getElem?_map]

/-- Members are kept best first: an earlier member's fitness is never lexicographically smaller
than a later one's. -/
theorem sorted_desc (hm : 1 ≤ m) (hr : run sim (empty m base) hist = some h) :
    h.items.Pairwise (fun a b => b.fit.wvalues ≤ a.fit.wvalues) :=
  (hof_hstr sim hm hr).toStr.sorted

/-- The key list is ascending (what `bisect_right` relies on). -/
theorem keys_sorted (hm : 1 ≤ m) (hr : run sim (empty m base) hist = some h) :
    h.keys.Pairwise (fun a b => a.wvalues ≤ b.wvalues) :=
  (hof_hstr sim hm hr).asc

/-- At most `m` members. -/
theorem size_le (hm : 1 ≤ m) (hr : run sim (empty m base) hist = some h) : h.items.length ≤ m :=
  (hof_hstr sim hm hr).size

/-- Once the hall of fame is full it stays full and its worst member never gets worse: every
member of every later archive is at least as good as the worst member now. -/
theorem worst_monotone (hm : 1 ≤ m) (hr : run sim (empty m base) hist = some h)
    (hr₂ : run sim (empty m base) (hist ++ more) = some h₂) (hfull : h.items.length = m)
    (w : Ind G α) (hw : h.items.getLast? = some w) :
    h₂.items.length = m ∧ ∀ it ∈ h₂.items, w.fit.wvalues ≤ it.fit.wvalues := by
  have hs := hof_hstr sim hm hr
  rw [run_append, hr] at hr₂
  obtain ⟨ys, hys⟩ := List.getLast?_eq_some_iff.1 hw
  exact (hof_inv sim (fun _ h => h.items.length = m ∧ ∀ it ∈ h.items, w.fit.wvalues ≤ it.fit.wvalues) hm
    (fun _ _ _ _ hs hP e => step_lb sim _ hs hm hP e) hs ⟨hfull, hs.toStr.last_le hys⟩ hr₂).2

/-- Every member has the genome and the fitness of an individual that was shown. -/
theorem members_shown (hm : 1 ≤ m) (hr : run sim (empty m base) hist = some h) :
    ∀ it ∈ h.items, ∃ x ∈ hist.flatten, it.genome = x.genome ∧ it.fit = x.fit :=
  (hof_hstr sim hm hr).origin

/-- Deep copies: every member is an object allocated by the archive (`oid ≥ base`), no two members
are the same object; hence no member is one of the submitted objects (`oid < base`). -/
theorem copies_fresh (hm : 1 ≤ m) (hr : run sim (empty m base) hist = some h) :
    (∀ it ∈ h.items, base ≤ it.oid) ∧ (h.items.map (·.oid)).Nodup ∧
    ∀ x ∈ hist.flatten, x.oid < base → ∀ it ∈ h.items, it.oid ≠ x.oid := by
  obtain ⟨_, f2, f3⟩ := (hof_hstr sim hm hr).fresh
  refine ⟨fun it hit => (f2 it hit).1, f3, fun x _ hx it hit => ?_⟩
  have := (f2 it hit).1; omega

/-- An in-place modification of object `o`, seen through a reference `x`. -/
def write (o : Nat) (g : G) (f : Fitness.Fit α) (x : Ind G α) : Ind G α :=
  if x.oid = o then ⟨o, g, f⟩ else x

set_option linter.unusedSectionVars false in
theorem write_frame {o : Nat} (ho : o < base) (g : G) (f : Fitness.Fit α) {l : List (Ind G α)}
    (hl : ∀ it ∈ l, base ≤ it.oid) : l.map (write o g f) = l :=
  (List.map_congr_left fun it hit => if_neg (by have := hl it hit; omega)).trans (List.map_id l)

/-- Deep copies: modifying any submitted object (`o < base`) in place, to any genome and fitness,
leaves the archive's content unchanged. -/
theorem copies_frame (hm : 1 ≤ m) (hr : run sim (empty m base) hist = some h)
    (o : Nat) (ho : o < base) (g : G) (f : Fitness.Fit α) :
    h.items.map (write o g f) = h.items :=
  write_frame ho g f (copies_fresh sim hm hr).1

/-! ## HallOfFame: the statement's clauses, under the reading's hypotheses -/

variable {sim}

/-- Members are pairwise distinct under the similarity operator. -/
theorem pairwise_dissimilar (hm : 1 ≤ m) (hh : SimSym sim)
    (hr : run sim (empty m base) hist = some h) :
    h.items.Pairwise (fun a b => sim a b = false) :=
  (hof_inv sim (fun _ h => Dissim sim h.items) hm (fun _ _ _ _ hs hP e => step_dissim hh hs hP hm e)
    (hstr_empty m base) List.Pairwise.nil hr).2

/-- While at most `m` distinct individuals exist (every list of pairwise dissimilar shown
individuals has length ≤ `m`), every individual shown is kept (has a similar member). -/
theorem all_kept_while_room (hm : 1 ≤ m) (hh : SimBase sim)
    (hr : run sim (empty m base) hist = some h)
    (hroom : ∀ l : List (Ind G α), (∀ y ∈ l, y ∈ hist.flatten) →
      l.Pairwise (fun a b => sim a b = false) → l.length ≤ m) :
    ∀ x ∈ hist.flatten, ∃ it ∈ h.items, sim x it = true :=
  (hof_inv sim (SemK sim m) hm (fun _ _ _ _ hs hP e => step_semk hh hs hP hm e) (hstr_empty m base)
    ⟨List.Pairwise.nil, fun _ _ hx => nomatch hx⟩ hr).2.kept hroom

/-- Best of everything seen: every individual ever shown is either kept (has a similar member), or
the archive is full and the individual is not strictly better than the worst (= last) member. -/
theorem best_of_seen (hm : 1 ≤ m) (hh : SimHyp sim hist.flatten)
    (hr : run sim (empty m base) hist = some h) :
    ∀ x ∈ hist.flatten, (∃ it ∈ h.items, sim x it = true) ∨
      (h.items.length = m ∧ ∀ w, h.items.getLast? = some w → ¬ (w.fit.wvalues < x.fit.wvalues)) := by
  intro x hx
  rcases hof_best hm hh hr x hx with hrep | ⟨hl, hw⟩
  · exact Or.inl hrep
  · exact Or.inr ⟨hl, fun w hw' => not_lt.2 (hw w hw')⟩

/-- … in DEAP's own operator: `x.fitness > hof[-1].fitness` is `False` for every shown `x` that is
not kept. -/
theorem best_of_seen_gt (hm : 1 ≤ m) (hh : SimHyp sim hist.flatten)
    (hr : run sim (empty m base) hist = some h) :
    ∀ x ∈ hist.flatten, (∀ it ∈ h.items, sim x it = false) →
      h.items.length = m ∧ ∀ w, h.items.getLast? = some w → Fitness.gt x.fit w.fit = false := by
  intro x hx hno
  rcases hof_best hm hh hr x hx with ⟨it, hit, hs⟩ | ⟨hl, hw⟩
  · rw [hno it hit] at hs; exact absurd hs (by simp)
  · exact ⟨hl, fun w hw' => (gt_false_iff _ _).2 (hw w hw')⟩

/-! ## ParetoFront -/

variable (sim)

/-- No `ParetoFront.update` ever raises: the recorded positions are valid when deleted in reverse. -/
theorem pf_never_raises (m base : Nat) (hist : List (List (Ind G α))) :
    ∃ h, pfRun sim (empty m base) hist = some h :=
  pf_total sim hist (str_empty m base)

/-- The parallel lists never drift (multi-removal included). -/
theorem pf_mirror (hr : pfRun sim (empty m base) hist = some h) :
    h.keys = (h.items.map (·.fit)).reverse :=
  (pf_str sim hr).mirror

/-- The archive is kept in lexicographic fitness order (best first; `keys` ascending). -/
theorem pf_sorted (hr : pfRun sim (empty m base) hist = some h) :
    h.items.Pairwise (fun a b => b.fit.wvalues ≤ a.fit.wvalues) ∧
    h.keys.Pairwise (fun a b => a.wvalues ≤ b.wvalues) :=
  ⟨(pf_str sim hr).sorted, (pf_str sim hr).asc⟩

/-- Members are deep copies: allocated by the archive, pairwise different objects, untouched by an
in-place modification of a submitted object. -/
theorem pf_copies (hr : pfRun sim (empty m base) hist = some h) :
    (∀ it ∈ h.items, base ≤ it.oid) ∧ (h.items.map (·.oid)).Nodup ∧
    ∀ o, o < base → ∀ (g : G) (f : Fitness.Fit α), h.items.map (write o g f) = h.items := by
  obtain ⟨_, f2, f3⟩ := (pf_str sim hr).fresh
  exact ⟨fun it hit => (f2 it hit).1, f3, fun o ho g f => write_frame ho g f fun it hit => (f2 it hit).1⟩

/-- What `dominates` means on two fitnesses: nowhere worse and somewhere better (positions present
in both tuples). -/
theorem dom_meaning (a b : Fitness.Fit α) :
    dom a b = true ↔
      (∀ i (h1 : i < a.wvalues.length) (h2 : i < b.wvalues.length), b.wvalues[i] ≤ a.wvalues[i]) ∧
      ∃ i, ∃ (h1 : i < a.wvalues.length) (h2 : i < b.wvalues.length), b.wvalues[i] < a.wvalues[i] :=
  dom_iff a b

variable {sim}

/-- Members are mutually non-dominated — for every similarity operator, as soon as all fitnesses
shown have the same number of objectives. -/
theorem pf_antichain {n : Nat} (hlen : ∀ x ∈ hist.flatten, x.fit.wvalues.length = n)
    (hr : pfRun sim (empty m base) hist = some h) :
    ∀ a ∈ h.items, ∀ b ∈ h.items, dom a.fit b.fit = false :=
  (pf_sem hlen hr).1

/-- No two members have equal fitness and are similar (symmetric identity-blind similarity suffices). -/
theorem pf_no_twins {n : Nat} (hlen : ∀ x ∈ hist.flatten, x.fit.wvalues.length = n) (hh : SimSym sim)
    (hr : pfRun sim (empty m base) hist = some h) :
    h.items.Pairwise (fun a b => ¬ (a.fit = b.fit ∧ sim a b = true)) :=
  (pf_sem hlen hr).2.1 hh

/-- The archive holds exactly one copy of every distinct individual ever shown whose fitness is not
dominated by any fitness ever shown:
(a) every member is a copy of a shown individual that no shown fitness dominates;
(b) every shown individual that no shown fitness dominates has a member with equal fitness similar to it;
(c) no two members have equal fitness and are similar. -/
theorem pf_exact {n : Nat} (hh : PfHyp sim n hist.flatten)
    (hr : pfRun sim (empty m base) hist = some h) :
    (∀ it ∈ h.items, ∃ x ∈ hist.flatten, (it.genome = x.genome ∧ it.fit = x.fit) ∧
        ∀ y ∈ hist.flatten, dom y.fit x.fit = false) ∧
    (∀ x ∈ hist.flatten, (∀ y ∈ hist.flatten, dom y.fit x.fit = false) →
        ∃ it ∈ h.items, it.fit = x.fit ∧ sim x it = true) ∧
    h.items.Pairwise (fun a b => ¬ (a.fit = b.fit ∧ sim a b = true)) := by
  have hs := pf_str sim hr
  obtain ⟨hanti, hnotwin, hcover⟩ := pf_sem hh.len hr
  have hcover := hcover hh.toSimBase
  have hlen_it := hs.origin.len hh.len
  refine ⟨?_, ?_, hnotwin hh.toSimSym⟩
  · intro it hit
    obtain ⟨x, hx, sx⟩ := hs.origin it hit
    refine ⟨x, hx, sx, ?_⟩
    intro y hy
    cases hq : dom y.fit x.fit with
    | false => rfl
    | true =>
      rcases hcover y hy with ⟨z, hz, hd⟩ | ⟨z, hz, ht⟩
      · have := dom_trans (hlen_it z hz) (hh.len y hy) (hh.len x hx) hd hq
        rw [← sx.2, hanti z hz it hit] at this; exact absurd this (by simp)
      · rw [ht.1, ← sx.2, hanti z hz it hit] at hq; exact absurd hq (by simp)
  · intro x hx hnd
    rcases hcover x hx with ⟨it, hit, hd⟩ | ⟨it, hit, ht⟩
    · obtain ⟨x', hx', sx'⟩ := hs.origin it hit
      rw [sx'.2, hnd x' hx'] at hd; exact absurd hd (by simp)
    · exact ⟨it, hit, ht.1.symm, ht.2⟩

/-! ## How a history is cut into `update` calls, and the order inside it -/

variable (sim)

/-- Showing `xs ++ ys` in one `ParetoFront.update` is showing `xs`, then `ys` — for every archive state `h`
(the loop carries no state from one individual to the next except the archive itself). -/
theorem pf_update_batch_split (h : HoF G α) (xs ys : List (Ind G α)) :
    pfUpdate sim h (xs ++ ys) = (pfUpdate sim h xs).bind (fun h' => pfUpdate sim h' ys) :=
  pfUpdate_append sim h xs ys

/-- A whole history is one update with the concatenation of its batches: the archive (members, keys, even the
identities of the copies) depends only on the sequence of individuals shown, not on where the batches end. -/
theorem pf_history_flatten (h : HoF G α) (hist : List (List (Ind G α))) :
    pfRun sim h hist = pfUpdate sim h hist.flatten :=
  pfRun_eq_flatten sim h hist

/-- … so two histories showing the same individuals in the same order leave the same archive. -/
theorem pf_batch_split_invariant (h : HoF G α) {hist hist' : List (List (Ind G α))}
    (e : hist.flatten = hist'.flatten) : pfRun sim h hist = pfRun sim h hist' := by
  rw [pf_history_flatten, pf_history_flatten, e]

/-- The same for `HallOfFame.update`, for every archive state and every capacity: `population[0]` is read
only while the archive is empty, and then it is the individual of the current iteration. -/
theorem hof_update_batch_split (h : HoF G α) (xs ys : List (Ind G α)) :
    update sim h (xs ++ ys) = (update sim h xs).bind (fun h' => update sim h' ys) :=
  update_append sim h xs ys

theorem hof_history_flatten (h : HoF G α) (hist : List (List (Ind G α))) :
    run sim h hist = update sim h hist.flatten :=
  run_eq_flatten sim h hist

theorem hof_batch_split_invariant (h : HoF G α) {hist hist' : List (List (Ind G α))}
    (e : hist.flatten = hist'.flatten) : run sim h hist = run sim h hist' := by
  rw [hof_history_flatten, hof_history_flatten, e]

variable {sim}

/-- The member SET of the Pareto archive does not depend on the order in which the individuals were shown
(nor on how often): two histories showing the same set of individuals leave archives such that every member of
one has a member of the other with equal fitness similar to it — so the sets of member fitnesses are equal — and,
when similar individuals have equal genomes (the default `operator.eq`), the sets of (genome, fitness) contents
are equal. -/
theorem pf_members_order_invariant {n m' base' : Nat} {hist' : List (List (Ind G α))} {h' : HoF G α}
    (hh : PfHyp sim n hist.flatten) (hset : ∀ x, x ∈ hist.flatten ↔ x ∈ hist'.flatten)
    (hr : pfRun sim (empty m base) hist = some h) (hr' : pfRun sim (empty m' base') hist' = some h') :
    (∀ it ∈ h.items, ∃ it' ∈ h'.items, it'.fit = it.fit ∧ sim it it' = true) ∧
    (∀ it' ∈ h'.items, ∃ it ∈ h.items, it.fit = it'.fit ∧ sim it' it = true) ∧
    ((∀ a b : Ind G α, sim a b = true → a.genome = b.genome) →
      ∀ (g : G) (f : Fitness.Fit α), (∃ it ∈ h.items, it.genome = g ∧ it.fit = f) ↔
        (∃ it' ∈ h'.items, it'.genome = g ∧ it'.fit = f)) := by
  have key : ∀ {m₁ b₁ m₂ b₂ : Nat} {H₁ H₂ : List (List (Ind G α))} {a₁ a₂ : HoF G α},
      PfHyp sim n H₁.flatten → (∀ x, x ∈ H₁.flatten ↔ x ∈ H₂.flatten) →
      pfRun sim (empty m₁ b₁) H₁ = some a₁ → pfRun sim (empty m₂ b₂) H₂ = some a₂ →
      ∀ it ∈ a₁.items, ∃ it' ∈ a₂.items, it'.fit = it.fit ∧ sim it it' = true := by
    intro m₁ b₁ m₂ b₂ H₁ H₂ a₁ a₂ p₁ hs r₁ r₂ it hit
    have p₂ : PfHyp sim n H₂.flatten := ⟨p₁.toSimBase, fun x hx => p₁.len x ((hs x).2 hx)⟩
    obtain ⟨x, hx, sx, hnd⟩ := (pf_exact p₁ r₁).1 it hit
    obtain ⟨it', hit', hf, hsim⟩ := (pf_exact p₂ r₂).2.1 x ((hs x).1 hx) (fun y hy => hnd y ((hs y).2 hy))
    refine ⟨it', hit', by rw [hf, sx.2], ?_⟩
    rw [p₁.same it x it' it' sx (same_refl it')]; exact hsim
  have k₁ := key hh hset hr hr'
  have k₂ := key ⟨hh.toSimBase, fun x hx => hh.len x ((hset x).2 hx)⟩ (fun x => (hset x).symm) hr' hr
  refine ⟨k₁, k₂, fun hg g f => ⟨?_, ?_⟩⟩
  · rintro ⟨it, hit, rfl, rfl⟩
    obtain ⟨it', hit', hf, hs⟩ := k₁ it hit
    exact ⟨it', hit', (hg it it' hs).symm, hf⟩
  · rintro ⟨it', hit', rfl, rfl⟩
    obtain ⟨it, hit, hf, hs⟩ := k₂ it' hit'
    exact ⟨it, hit, (hg it' it hs).symm, hf⟩

/-- … in particular under every permutation of everything shown (any order inside a batch, any order of the
batches, any cutting). -/
theorem pf_members_perm_invariant {n m' base' : Nat} {hist' : List (List (Ind G α))} {h' : HoF G α}
    (hh : PfHyp sim n hist.flatten) (hperm : hist.flatten.Perm hist'.flatten)
    (hr : pfRun sim (empty m base) hist = some h) (hr' : pfRun sim (empty m' base') hist' = some h') :
    (∀ f : Fitness.Fit α, (∃ it ∈ h.items, it.fit = f) ↔ (∃ it' ∈ h'.items, it'.fit = f)) ∧
    ((∀ a b : Ind G α, sim a b = true → a.genome = b.genome) →
      ∀ (g : G) (f : Fitness.Fit α), (∃ it ∈ h.items, it.genome = g ∧ it.fit = f) ↔
        (∃ it' ∈ h'.items, it'.genome = g ∧ it'.fit = f)) := by
  obtain ⟨k₁, k₂, k₃⟩ := pf_members_order_invariant hh (fun x => hperm.mem_iff) hr hr'
  refine ⟨fun f => ⟨?_, ?_⟩, k₃⟩
  · rintro ⟨it, hit, rfl⟩
    obtain ⟨it', hit', hf, _⟩ := k₁ it hit
    exact ⟨it', hit', hf⟩
  · rintro ⟨it', hit', rfl⟩
    obtain ⟨it, hit, hf, _⟩ := k₂ it' hit'
    exact ⟨it, hit, hf⟩

/-! ## Non-vacuity: a concrete history satisfying all hypotheses at once -/

section Examples

/-- similarity = equal genomes (the default `operator.eq` on list individuals) -/
def genomeEq : Ind Nat Int → Ind Nat Int → Bool := fun a b => decide (a.genome = b.genome)

theorem simBase_genomeEq : SimBase genomeEq where
  refl := by simp [genomeEq]
  symm := by simp only [genomeEq, decide_eq_true_eq]; exact fun _ _ e => e.symm
  same := by
    intro x x' y y' h1 h2
    simp only [genomeEq, h1.1, h2.1]

/-- Genome equality satisfies the reading's hypotheses on every universe in which the fitness is a
function of the genome. -/
theorem simHyp_genomeEq (U : List (Ind Nat Int))
    (hU : ∀ x ∈ U, ∀ y ∈ U, x.genome = y.genome → x.fit = y.fit) : SimHyp genomeEq U where
  toSimBase := simBase_genomeEq
  fit := by
    intro x hx y hy hs
    exact hU x hx y hy (by simpa [genomeEq] using hs)

theorem pfHyp_genomeEq (n : Nat) (U : List (Ind Nat Int))
    (hU : ∀ x ∈ U, x.fit.wvalues.length = n) : PfHyp genomeEq n U where
  toSimBase := simBase_genomeEq
  len := hU

/-- objects 0,1,2; object 0 is modified in place (genome 7 → 9) and shown again; two objectives -/
def exHist : List (List (Ind Nat Int)) :=
  [[⟨0, 7, ⟨[1, -2]⟩⟩, ⟨1, 8, ⟨[1, -2]⟩⟩], [], [⟨2, 7, ⟨[1, -2]⟩⟩, ⟨0, 9, ⟨[3, -1]⟩⟩, ⟨1, 8, ⟨[1, -2]⟩⟩]]

def view (r : Option (HoF Nat Int)) : Option (List (Nat × Nat × List Int) × List (List Int)) :=
  r.map (fun h => (h.items.map (fun i => (i.oid, i.genome, i.fit.wvalues)), h.keys.map (·.wvalues)))

example : view (run genomeEq (empty 2 100) exHist) =
    some ([(102, 9, [3, -1]), (101, 8, [1, -2])], [[1, -2], [3, -1]]) := by decide

example : view (pfRun genomeEq (empty 0 100) exHist) = some ([(102, 9, [3, -1])], [[3, -1]]) := by decide

example : SimHyp genomeEq exHist.flatten := simHyp_genomeEq _ (by decide)
example : PfHyp genomeEq 2 exHist.flatten := pfHyp_genomeEq 2 _ (by decide)

/-- the concrete history cut differently (one batch / every individual alone) leaves the same archive -/
example : exHist.flatten = [exHist.flatten].flatten := by simp
example : pfRun genomeEq (empty 0 100) exHist = pfRun genomeEq (empty 0 100) [exHist.flatten] :=
  pf_batch_split_invariant genomeEq _ (by simp)
example : run genomeEq (empty 2 100) exHist = run genomeEq (empty 2 100) (exHist.flatten.map (fun x => [x])) :=
  hof_batch_split_invariant genomeEq _ rfl

/-- the hypotheses of `pf_members_order_invariant` / `pf_members_perm_invariant` hold for the concrete history and
the history that shows its batches in reverse order and everything in reverse order inside each batch;
genome equality has equal genomes on similar individuals, so the (genome, fitness) sets agree -/
example : exHist.flatten.Perm (exHist.map List.reverse).reverse.flatten := by
  exact (List.reverse_perm _).symm
example : ∀ a b : Ind Nat Int, genomeEq a b = true → a.genome = b.genome := by
  intro a b e; simpa [genomeEq] using e
example : view (pfRun genomeEq (empty 0 50) (exHist.map List.reverse).reverse) =
    some ([(51, 9, [3, -1])], [[3, -1]]) := by decide

/-- all hypotheses of the hall-of-fame theorems hold together on the concrete history (capacity 2),
so their conclusions do: -/
example : ∃ h, run genomeEq (empty 2 100) exHist = some h ∧
    h.keys = (h.items.map (·.fit)).reverse ∧ h.items.length ≤ 2 ∧
    h.items.Pairwise (fun a b => genomeEq a b = false) ∧
    (∀ x ∈ exHist.flatten, (∃ it ∈ h.items, genomeEq x it = true) ∨
      (h.items.length = 2 ∧ ∀ w, h.items.getLast? = some w → ¬ (w.fit.wvalues < x.fit.wvalues))) := by
  obtain ⟨h, hr⟩ := never_raises genomeEq (by decide : 1 ≤ 2) 100 exHist
  have hh : SimHyp genomeEq exHist.flatten := simHyp_genomeEq _ (by decide)
  exact ⟨h, hr, mirror _ (by decide) hr, size_le _ (by decide) hr, pairwise_dissimilar (by decide) hh.toSimSym hr,
    best_of_seen (by decide) hh hr⟩

/-- `best_of_seen` needs "similar ⇒ equal fitness": object 0 (genome 1) is re-evaluated in place from
fitness 1 to 5 and shown again; it is rejected as similar to its old copy, the old copy is later
evicted by genome 3 (fitness 2), and the shown (genome 1, fitness 5) is neither represented nor
≤ the worst member.  This is DEAP's documented design ("a single copy of each individual is kept",
individuals are identified by `similar`), so the reading of DESIGN §6 keeps the hypothesis. -/
theorem best_of_seen_needs_fit :
    ∃ (hist : List (List (Ind Nat Int))) (h : HoF Nat Int) (x : Ind Nat Int),
      SimBase genomeEq ∧ run genomeEq (empty 2 100) hist = some h ∧ x ∈ hist.flatten ∧
      (∀ it ∈ h.items, genomeEq x it = false) ∧
      ∃ w, h.items.getLast? = some w ∧ w.fit.wvalues < x.fit.wvalues := 
  ⟨[[⟨0, 1, ⟨[1]⟩⟩, ⟨1, 2, ⟨[3]⟩⟩], [⟨0, 1, ⟨[5]⟩⟩], [⟨2, 3, ⟨[2]⟩⟩]],
    ⟨2, [⟨[2]⟩, ⟨[3]⟩], [⟨101, 2, ⟨[3]⟩⟩, ⟨102, 3, ⟨[2]⟩⟩], 103⟩, ⟨0, 1, ⟨[5]⟩⟩,
    simBase_genomeEq, rfl, by simp, by decide, _, rfl, by decide⟩

/-- the hypotheses of `worst_monotone` hold on the concrete history: after the first batch the
archive of capacity 2 is full (worst member: genome 7, fitness (1,-2)), and the rest of the history follows -/
example : ∃ h h₂ w, run genomeEq (empty 2 100) (exHist.take 1) = some h ∧
    run genomeEq (empty 2 100) (exHist.take 1 ++ exHist.drop 1) = some h₂ ∧ h.items.length = 2 ∧
    h.items.getLast? = some w ∧ h₂.items.length = 2 ∧ ∀ it ∈ h₂.items, w.fit.wvalues ≤ it.fit.wvalues := by
  have hr : run genomeEq (empty 2 100) (exHist.take 1) =
      some ⟨2, [⟨[1, -2]⟩, ⟨[1, -2]⟩], [⟨101, 8, ⟨[1, -2]⟩⟩, ⟨100, 7, ⟨[1, -2]⟩⟩], 102⟩ := rfl
  obtain ⟨h₂, hr₂⟩ := never_raises genomeEq (by decide : 1 ≤ 2) 100 (exHist.take 1 ++ exHist.drop 1)
  exact ⟨_, h₂, _, hr, hr₂, rfl, rfl, worst_monotone genomeEq (by decide) hr hr₂ rfl _ rfl⟩

/-- the room hypothesis of `all_kept_while_room` is satisfiable: with capacity 3 the three distinct
genomes of the concrete history all fit (any pairwise-dissimilar list has distinct genomes among 7, 8, 9). -/
example : ∀ l : List (Ind Nat Int), (∀ y ∈ l, y ∈ exHist.flatten) →
    l.Pairwise (fun a b => genomeEq a b = false) → l.length ≤ 3 := by
  intro l hl hp
  have hnd : (l.map (·.genome)).Nodup := by
    rw [List.Nodup, List.pairwise_map]
    exact hp.imp (fun {a b} hab => by simpa [genomeEq] using hab)
  have hsub : l.map (·.genome) ⊆ [7, 8, 9] := by
    intro g hg
    simp only [List.mem_map] at hg
    obtain ⟨y, hy, rfl⟩ := hg
    have := hl y hy
    simp [exHist] at this
    rcases this with rfl | rfl | rfl | rfl | rfl <;> simp
  have := hnd.length_le_of_subset hsub
  simpa using this

/-- all hypotheses of the Pareto theorems hold together on the concrete history -/
example : ∃ h, pfRun genomeEq (empty 0 100) exHist = some h ∧
    (∀ a ∈ h.items, ∀ b ∈ h.items, dom a.fit b.fit = false) ∧
    h.items.Pairwise (fun a b => ¬ (a.fit = b.fit ∧ genomeEq a b = true)) := by
  obtain ⟨h, hr⟩ := pf_never_raises genomeEq 0 100 exHist
  have hh : PfHyp genomeEq 2 exHist.flatten := pfHyp_genomeEq 2 _ (by decide)
  exact ⟨h, hr, pf_antichain hh.len hr, pf_no_twins hh.len hh.toSimSym hr⟩

end Examples

/-! ## The archive in the object heap: members are deep copies

Model: `Core/ArchiveHeap.lean` (`insert` = `Heap.clone` + the list bookkeeping; `keys` / `items` hold object
ids; every read goes through the heap).  A history is a list of events: `upd` (an `update` call), `write`
(an in-place modification of an object of the caller), `alloc` (a new object of the caller).
`Valid` says what the caller may do (`C08H.EvOK`): show individuals that `deepcopy` can copy and that have a
`fitness`, and write to / refer to objects outside the archive's own allocations only.  The copy mechanism
is C16's (`Heap.Copy.clone_facts`: the clone denotes the same pure value and is made of new objects and
immutable old ones). -/

section HeapLevel
open ArchiveHeap C08H Heap

variable {P : Params α} {pf : Bool} {cap next0 : Nat} {objs0 : Oid → Option Obj} {evs evs₂ : List Ev}
  {st st₂ : HState}

/-- Refinement (hall of fame): after every admissible history the heap-level archive denotes (`Rel`: same
capacity, `keys` hold the same fitness values, members have the same pure values and fitnesses) the pure
archive of `Core/Archive.lean` run on the populations *as they were when shown*; neither side raises
unless the other does. -/
theorem heap_hof_refines (hsim : SimErase P.sim) (hct : CTOk P.ct) (hcl : Closed objs0 next0) (b : Nat)
    (hv : Valid P false (emptyH cap objs0 next0) evs) :
    (∀ st, runH P false (emptyH cap objs0 next0) evs = some st →
      ∃ hp, run P.sim (empty cap b) (histOf P false (emptyH cap objs0 next0) evs) = some hp ∧ Rel P st hp) ∧
    (∀ hp, run P.sim (empty cap b) (histOf P false (emptyH cap objs0 next0) evs) = some hp →
      ∃ st, runH P false (emptyH cap objs0 next0) evs = some st ∧ Rel P st hp) :=
  refines_of_run hsim hct false hcl cap b evs hv

/-- Refinement (Pareto archive). -/
theorem heap_pf_refines (hsim : SimErase P.sim) (hct : CTOk P.ct) (hcl : Closed objs0 next0) (b : Nat)
    (hv : Valid P true (emptyH cap objs0 next0) evs) :
    (∀ st, runH P true (emptyH cap objs0 next0) evs = some st →
      ∃ hp, pfRun P.sim (empty cap b) (histOf P true (emptyH cap objs0 next0) evs) = some hp ∧ Rel P st hp) ∧
    (∀ hp, pfRun P.sim (empty cap b) (histOf P true (emptyH cap objs0 next0) evs) = some hp →
      ∃ st, runH P true (emptyH cap objs0 next0) evs = some st ∧ Rel P st hp) :=
  refines_of_run hsim hct true hcl cap b evs hv

/-- No admissible history makes the heap-level archive raise (capacity ≥ 1; any capacity for the Pareto
archive): `deepcopy` succeeds on every submitted individual, `self[-1]` / `remove` stay in range. -/
theorem heap_never_raises (hsim : SimErase P.sim) (hct : CTOk P.ct) (hcl : Closed objs0 next0)
    (hcap : pf = false → 1 ≤ cap) (hv : Valid P pf (emptyH cap objs0 next0) evs) :
    ∃ st, runH P pf (emptyH cap objs0 next0) evs = some st := by
  obtain ⟨hp, hq⟩ : ∃ hp, pureRun P pf (empty cap 0) (histOf P pf (emptyH cap objs0 next0) evs) = some hp := by
    cases pf
    · exact never_raises P.sim (hcap rfl) 0 _
    · exact pf_never_raises P.sim cap 0 _
  obtain ⟨st, hr, _⟩ := (refines_of_run hsim hct pf hcl cap 0 evs hv).2 hp hq
  exact ⟨st, hr⟩

/-- Members are deep copies, for either kind of archive (`pf`).  After every admissible history:
1. `log` lists oid ranges allocated after the archive was created, one after the other (pairwise disjoint) —
   by definition of `insertH` each is what one `deepcopy` call of the archive allocated;
2. every member is the first object of a range of its own, and everything reachable from it lies in that
   range or is immutable (a GP node object, which `PrimitiveTree.__deepcopy__` shares); members are
   pairwise different objects;
3. nothing reachable from an individual that was ever submitted lies in any of the ranges;
4. hence no mutable object is reachable both from a member and from a submitted individual, or from two
   members. -/
theorem archive_members_fresh (hsim : SimErase P.sim) (hct : CTOk P.ct) (hcl : Closed objs0 next0)
    (hv : Valid P pf (emptyH cap objs0 next0) evs) (hr : runH P pf (emptyH cap objs0 next0) evs = some st) :
    (∀ r ∈ st.log, next0 ≤ r.1 ∧ r.1 < r.2 ∧ r.2 ≤ st.next) ∧ st.log.Pairwise (fun r s => r.2 ≤ s.1) ∧
    (∀ x ∈ st.items, ∃ hi, (x, hi) ∈ st.log ∧
      ∀ y, Reach st.objs (.ref x) y → (x ≤ y ∧ y < hi) ∨ Imm st.objs y) ∧
    st.items.Nodup ∧
    (∀ s ∈ submittedOf evs, ∀ y, Reach st.objs (.ref s) y → ¬ InLog st.log y) ∧
    (∀ x ∈ st.items, ∀ s ∈ submittedOf evs, ∀ y o, Reach st.objs (.ref x) y → Reach st.objs (.ref s) y →
      st.objs y = some o → o.mutable = false) ∧
    (∀ i j : Nat, i < j → ∀ xi xj, st.items[i]? = some xi → st.items[j]? = some xj →
      ∀ y o, Reach st.objs (.ref xi) y → Reach st.objs (.ref xj) y → st.objs y = some o →
        o.mutable = false) := by
  obtain ⟨_, _, hI, _, hsub⟩ := inv_of_run hsim hct pf hcl cap 0 evs hv hr
  exact ⟨hI.logwf, hI.logord, hI.members, hI.nodup, members_fresh_of_inv hI _ hsub⟩

/-- … for the hall of fame … -/
theorem hof_members_fresh (hsim : SimErase P.sim) (hct : CTOk P.ct) (hcl : Closed objs0 next0)
    (hv : Valid P false (emptyH cap objs0 next0) evs)
    (hr : runH P false (emptyH cap objs0 next0) evs = some st) :
    (∀ x ∈ st.items, ∃ hi, (x, hi) ∈ st.log ∧ next0 ≤ x ∧
      ∀ y, Reach st.objs (.ref x) y → (x ≤ y ∧ y < hi) ∨ Imm st.objs y) ∧
    (∀ x ∈ st.items, ∀ s ∈ submittedOf evs, ∀ y o, Reach st.objs (.ref x) y → Reach st.objs (.ref s) y →
      st.objs y = some o → o.mutable = false) ∧
    (∀ i j : Nat, i < j → ∀ xi xj, st.items[i]? = some xi → st.items[j]? = some xj →
      ∀ y o, Reach st.objs (.ref xi) y → Reach st.objs (.ref xj) y → st.objs y = some o →
        o.mutable = false) := by
  obtain ⟨h1, _, h3, _, _, h6, h7⟩ := archive_members_fresh hsim hct hcl hv hr
  exact ⟨fun x hx => let ⟨hi, hm, hreach⟩ := h3 x hx; ⟨hi, hm, (h1 _ hm).1, hreach⟩, h6, h7⟩

/-- … and for the Pareto archive. -/
theorem pf_members_fresh (hsim : SimErase P.sim) (hct : CTOk P.ct) (hcl : Closed objs0 next0)
    (hv : Valid P true (emptyH cap objs0 next0) evs)
    (hr : runH P true (emptyH cap objs0 next0) evs = some st) :
    (∀ x ∈ st.items, ∃ hi, (x, hi) ∈ st.log ∧ next0 ≤ x ∧
      ∀ y, Reach st.objs (.ref x) y → (x ≤ y ∧ y < hi) ∨ Imm st.objs y) ∧
    (∀ x ∈ st.items, ∀ s ∈ submittedOf evs, ∀ y o, Reach st.objs (.ref x) y → Reach st.objs (.ref s) y →
      st.objs y = some o → o.mutable = false) ∧
    (∀ i j : Nat, i < j → ∀ xi xj, st.items[i]? = some xi → st.items[j]? = some xj →
      ∀ y o, Reach st.objs (.ref xi) y → Reach st.objs (.ref xj) y → st.objs y = some o →
        o.mutable = false) := by
  obtain ⟨h1, _, h3, _, _, h6, h7⟩ := archive_members_fresh hsim hct hcl hv hr
  exact ⟨fun x hx => let ⟨hi, hm, hreach⟩ := h3 x hx; ⟨hi, hm, (h1 _ hm).1, hreach⟩, h6, h7⟩

/-- Unaffected by later changes to the populations, for either kind of archive.  Let `st` be the archive
after an admissible history `evs` and `st₂` the archive after any admissible continuation `evs₂` — heap
writes through the caller's objects (in-place genome edits, `fitness.values = …`, `del fitness.values`,
attribute edits, new objects) interleaved with further updates.  Then
1. every member of `st` that is still a member denotes, at every depth, the pure value (genome, nested
   mutables, attributes, fitness) it denoted in `st`;
2. `keys[j] is items[n-1-j].fitness` (the key objects are the members' own fitness objects, not the
   caller's), and therefore
3. `keys[j].wvalues = items[n-1-j].fitness.wvalues` in the heap as it is now;
4. if the continuation contains no `update` at all, the archive has the same members and keys and denotes
   the same pure archive as before. -/
theorem archive_unaffected_by_writes (hsim : SimErase P.sim) (hct : CTOk P.ct) (hcl : Closed objs0 next0)
    (hv : Valid P pf (emptyH cap objs0 next0) (evs ++ evs₂))
    (hr : runH P pf (emptyH cap objs0 next0) evs = some st) (hr₂ : runH P pf st evs₂ = some st₂) :
    (∀ x ∈ st.items, x ∈ st₂.items → ∀ d, Heap.abs st₂.objs d (.ref x) = Heap.abs st.objs d (.ref x)) ∧
    st₂.keys.map some = (st₂.items.map (instFit P st₂.objs)).reverse ∧
    st₂.keys.map (fun k => some (fitAt P st₂.objs k))
      = (st₂.items.map (fun x => (viewInd P st₂.objs x).map (·.fit))).reverse ∧
    (CallerOnly evs₂ → st₂.items = st.items ∧ st₂.keys = st.keys ∧ ∀ hp, Rel P st hp → Rel P st₂ hp) := by
  obtain ⟨hp, _, hI, hR, _⟩ := inv_of_run hsim hct pf hcl cap 0 evs hv.left hr
  have hv₂ := hv.right hr
  obtain ⟨hI₂, hS, hco⟩ := continuation_facts hsim hct pf hI hR hv₂ hr₂
  refine ⟨hS, hI₂.keyof, value_mirror_of_inv hI₂, fun hc => ?_⟩
  obtain ⟨e1, e2, _⟩ := hco hc
  exact ⟨e1, e2, fun hp' hR' => ((continuation_facts hsim hct pf hI hR' hv₂ hr₂).2.2 hc).2.2⟩

/-- … for the hall of fame … -/
theorem hof_unaffected_by_writes (hsim : SimErase P.sim) (hct : CTOk P.ct) (hcl : Closed objs0 next0)
    (hv : Valid P false (emptyH cap objs0 next0) (evs ++ evs₂))
    (hr : runH P false (emptyH cap objs0 next0) evs = some st) (hr₂ : runH P false st evs₂ = some st₂) :
    (∀ x ∈ st.items, x ∈ st₂.items → ∀ d, Heap.abs st₂.objs d (.ref x) = Heap.abs st.objs d (.ref x)) ∧
    st₂.keys.map some = (st₂.items.map (instFit P st₂.objs)).reverse ∧
    st₂.keys.map (fun k => some (fitAt P st₂.objs k))
      = (st₂.items.map (fun x => (viewInd P st₂.objs x).map (·.fit))).reverse ∧
    (CallerOnly evs₂ → st₂.items = st.items ∧ st₂.keys = st.keys ∧ ∀ hp, Rel P st hp → Rel P st₂ hp) :=
  archive_unaffected_by_writes hsim hct hcl hv hr hr₂

/-- … and for the Pareto archive. -/
theorem pf_unaffected_by_writes (hsim : SimErase P.sim) (hct : CTOk P.ct) (hcl : Closed objs0 next0)
    (hv : Valid P true (emptyH cap objs0 next0) (evs ++ evs₂))
    (hr : runH P true (emptyH cap objs0 next0) evs = some st) (hr₂ : runH P true st evs₂ = some st₂) :
    (∀ x ∈ st.items, x ∈ st₂.items → ∀ d, Heap.abs st₂.objs d (.ref x) = Heap.abs st.objs d (.ref x)) ∧
    st₂.keys.map some = (st₂.items.map (instFit P st₂.objs)).reverse ∧
    st₂.keys.map (fun k => some (fitAt P st₂.objs k))
      = (st₂.items.map (fun x => (viewInd P st₂.objs x).map (·.fit))).reverse ∧
    (CallerOnly evs₂ → st₂.items = st.items ∧ st₂.keys = st.keys ∧ ∀ hp, Rel P st hp → Rel P st₂ hp) :=
  archive_unaffected_by_writes hsim hct hcl hv hr hr₂

/-- What a member denotes is what a submitted individual denoted *when it was shown* (not what that
individual became later): its pure value and fitness are those of an entry of the history as the archive
saw it. -/
theorem heap_members_shown (hsim : SimErase P.sim) (hct : CTOk P.ct) (hcl : Closed objs0 next0)
    (hcap : pf = false → 1 ≤ cap) (hv : Valid P pf (emptyH cap objs0 next0) evs)
    (hr : runH P pf (emptyH cap objs0 next0) evs = some st) :
    ∀ x ∈ st.items, ∃ vx, viewInd P st.objs x = some vx ∧
      ∃ v ∈ (histOf P pf (emptyH cap objs0 next0) evs).flatten, vx.genome = v.genome ∧ vx.fit = v.fit := by
  obtain ⟨hp, hq, _, hR, _⟩ := inv_of_run hsim hct pf hcl cap 0 evs hv hr
  have ho : Origin (histOf P pf (emptyH cap objs0 next0) evs).flatten hp := by
    cases pf
    · exact members_shown P.sim (hcap rfl) hq
    · exact (pf_str P.sim hq).origin
  intro x hx
  obtain ⟨it, hit, vx, hvx, e⟩ := hR.mem_of_heap hx
  obtain ⟨v, hv', e'⟩ := ho it hit
  exact ⟨vx, hvx, v, hv', (congrArg Prod.fst e).trans e'.1, (congrArg Prod.snd e).trans e'.2⟩

/-- Order and capacity at heap level: members are best first by the fitness values their own fitness
objects hold now, at most `cap` of them. -/
theorem heap_hof_order (hsim : SimErase P.sim) (hct : CTOk P.ct) (hcl : Closed objs0 next0) (hcap : 1 ≤ cap)
    (hv : Valid P false (emptyH cap objs0 next0) evs)
    (hr : runH P false (emptyH cap objs0 next0) evs = some st) :
    st.items.length ≤ cap ∧
    st.items.Pairwise (fun a b => ∀ va vb, viewInd P st.objs a = some va → viewInd P st.objs b = some vb →
      vb.fit.wvalues ≤ va.fit.wvalues) := by
  obtain ⟨hp, hq, hR⟩ := (heap_hof_refines hsim hct hcl 0 hv).1 st hr
  refine ⟨by rw [hR.len]; exact size_le P.sim hcap hq, ?_⟩
  exact hR.pairwise (fun a b => b.2.wvalues ≤ a.2.wvalues) (sorted_desc P.sim hcap hq)

/-- Best of everything seen, at heap level: every individual ever shown (as it was when shown) is similar
to a member (as it is now), or the archive is full and the individual is not strictly better than the
worst member. -/
theorem heap_hof_best_of_seen (hct : CTOk P.ct) (hcl : Closed objs0 next0) (hcap : 1 ≤ cap)
    (hv : Valid P false (emptyH cap objs0 next0) evs)
    (hh : SimHyp P.sim (histOf P false (emptyH cap objs0 next0) evs).flatten)
    (hr : runH P false (emptyH cap objs0 next0) evs = some st) :
    ∀ v ∈ (histOf P false (emptyH cap objs0 next0) evs).flatten,
      (∃ x ∈ st.items, ∃ vx, viewInd P st.objs x = some vx ∧ P.sim v vx = true) ∨
      (st.items.length = cap ∧ ∀ w, st.items.getLast? = some w →
        ∀ vw, viewInd P st.objs w = some vw → ¬ (vw.fit.wvalues < v.fit.wvalues)) := by
  have hsim : SimErase P.sim := simErase_of_same hh.same
  obtain ⟨hp, hq, hR⟩ := (heap_hof_refines hsim hct hcl 0 hv).1 st hr
  intro v hv'
  rcases best_of_seen hcap hh hq v hv' with ⟨it, hit, hs⟩ | ⟨hl, hw⟩
  · left
    obtain ⟨x, hx, vx, hvx, e⟩ := hR.mem_of_pure hit
    exact ⟨x, hx, vx, hvx, by rw [hsim v v vx it rfl e]; exact hs⟩
  · right
    refine ⟨by rw [hR.len]; exact hl, fun w hw' vw hvw => ?_⟩
    obtain ⟨it, hit, vw', hvw', e⟩ := hR.last hw'
    rw [hvw] at hvw'
    cases hvw'
    have : vw.fit = it.fit := congrArg Prod.snd e
    rw [this]
    exact hw it hit

/-- Pareto exactness at heap level: (a) every member has the pure value and fitness of a shown individual
that no shown fitness dominates; (b) every shown individual that no shown fitness dominates has a member with
equal fitness similar to it; (c) no two members have equal fitness and are similar; (d) members are kept in
lexicographic fitness order. -/
theorem heap_pf_exact {n : Nat} (hct : CTOk P.ct) (hcl : Closed objs0 next0)
    (hv : Valid P true (emptyH cap objs0 next0) evs)
    (hh : PfHyp P.sim n (histOf P true (emptyH cap objs0 next0) evs).flatten)
    (hr : runH P true (emptyH cap objs0 next0) evs = some st) :
    (∀ x ∈ st.items, ∃ vx, viewInd P st.objs x = some vx ∧
      ∃ v ∈ (histOf P true (emptyH cap objs0 next0) evs).flatten, (vx.genome = v.genome ∧ vx.fit = v.fit) ∧
        ∀ y ∈ (histOf P true (emptyH cap objs0 next0) evs).flatten, dom y.fit v.fit = false) ∧
    (∀ v ∈ (histOf P true (emptyH cap objs0 next0) evs).flatten,
      (∀ y ∈ (histOf P true (emptyH cap objs0 next0) evs).flatten, dom y.fit v.fit = false) →
      ∃ x ∈ st.items, ∃ vx, viewInd P st.objs x = some vx ∧ vx.fit = v.fit ∧ P.sim v vx = true) ∧
    st.items.Pairwise (fun a b => ∀ va vb, viewInd P st.objs a = some va → viewInd P st.objs b = some vb →
      ¬ (va.fit = vb.fit ∧ P.sim va vb = true)) ∧
    st.items.Pairwise (fun a b => ∀ va vb, viewInd P st.objs a = some va → viewInd P st.objs b = some vb →
      vb.fit.wvalues ≤ va.fit.wvalues) := by
  have hsim : SimErase P.sim := simErase_of_same hh.same
  obtain ⟨hp, hq, hR⟩ := (heap_pf_refines hsim hct hcl 0 hv).1 st hr
  obtain ⟨ha, hb, hc⟩ := pf_exact hh hq
  refine ⟨fun x hx => ?_, fun v hv' hnd => ?_, ?_, ?_⟩
  · obtain ⟨it, hit, vx, hvx, e⟩ := hR.mem_of_heap hx
    obtain ⟨v, hv', e', hnd⟩ := ha it hit
    exact ⟨vx, hvx, v, hv', ⟨(congrArg Prod.fst e).trans e'.1, (congrArg Prod.snd e).trans e'.2⟩, hnd⟩
  · obtain ⟨it, hit, hf, hs⟩ := hb v hv' hnd
    obtain ⟨x, hx, vx, hvx, e⟩ := hR.mem_of_pure hit
    exact ⟨x, hx, vx, hvx, (congrArg Prod.snd e).trans hf, by rw [hsim v v vx it rfl e]; exact hs⟩
  · have := hR.pairwise (fun a b => ∀ ia ib : Ind PV α, C08H.erase ia = a → C08H.erase ib = b →
        ¬ (ia.fit = ib.fit ∧ P.sim ia ib = true))
      (hc.imp (fun {a b} hab ia ib ea eb hcon => hab ⟨by
          have h1 : ia.fit = a.fit := congrArg Prod.snd ea
          have h2 : ib.fit = b.fit := congrArg Prod.snd eb
          rw [← h1, ← h2]; exact hcon.1, by rw [← hsim ia a ib b ea eb]; exact hcon.2⟩))
    exact this.imp (fun {a b} hab va vb hva hvb => hab va vb hva hvb va vb rfl rfl)
  · exact hR.pairwise (fun a b => b.2.wvalues ≤ a.2.wvalues) (pf_sorted P.sim hq).1

/-! ### Non-vacuity: a concrete admissible history

Class table and heap of `C16.Ex`; the individual at oid 1 is shown, then re-evaluated in place
(`wvalues` 2 → 9) and edited in place (genome `[5, 6]` → `[7]`), then shown again. -/

/-- All hypotheses of the heap-level theorems hold together for `C08H.Ex`. -/
example : SimErase C08H.Ex.P.sim ∧ CTOk C08H.Ex.P.ct ∧ Closed C16.Ex.heap 3 ∧
    Valid C08H.Ex.P false (emptyH 2 C16.Ex.heap 3) C08H.Ex.evs :=
  ⟨C08H.Ex.simErase, C16.Ex.ct_ok, C16.Ex.heap_closed, C08H.Ex.valid false⟩

/-- The run: the first `update` copies the individual to oid 3 and its fitness to oid 4, the second one (after
the in-place changes) copies it to 5 and 6; the new member is better (9 > 2) and goes first; the log holds the
two ranges; the key objects 4 and 6 are the members' own fitness objects. -/
example : (runH C08H.Ex.P false (emptyH 2 C16.Ex.heap 3) C08H.Ex.evs).map
      (fun s => (s.items, s.keys, s.log, s.next)) = some ([5, 3], [4, 6], [(3, 5), (5, 7)], 7) := by
  decide

/-- The first member still has the genome `[5, 6]` and the fitness `[2]` it was shown with, although the
submitted object now has the genome `[7]` and the fitness `[9]`. -/
example : (runH C08H.Ex.P false (emptyH 2 C16.Ex.heap 3) C08H.Ex.evs).map
      (fun s => (s.objs 3, s.objs 4, s.objs 1, s.objs 2)) =
    some (some ⟨1, [.atom 5, .atom 6], [(1, .ref 4)], true⟩, some ⟨0, [.atom 2], [], true⟩,
      some ⟨1, [.atom 7], [(1, .ref 2)], true⟩, some ⟨0, [.atom 9], [], true⟩) := by
  decide

/-- Instance of the hypotheses of `heap_never_raises` / `heap_hof_order` / `heap_members_shown` /
`hof_members_fresh` (capacity 2 ≥ 1, the admissible history, the run it yields). -/
example : ∃ s, runH C08H.Ex.P false (emptyH 2 C16.Ex.heap 3) C08H.Ex.evs = some s ∧ s.items.length ≤ 2 := by
  obtain ⟨s, hs⟩ := heap_never_raises (pf := false) C08H.Ex.simErase C16.Ex.ct_ok C16.Ex.heap_closed
    (fun _ => by decide) (C08H.Ex.valid false)
  exact ⟨s, hs, (heap_hof_order C08H.Ex.simErase C16.Ex.ct_ok C16.Ex.heap_closed (by decide)
    (C08H.Ex.valid false) hs).1⟩

/-- Instance of the hypotheses of `archive_unaffected_by_writes` / `hof_unaffected_by_writes`: the history
split after the first `update`; the continuation starts with two writes of the caller (`CallerOnly`) and
goes on with a further `update`. -/
example : ∃ s s₂, runH C08H.Ex.P false (emptyH 2 C16.Ex.heap 3) (C08H.Ex.evs.take 1) = some s ∧
    runH C08H.Ex.P false s (C08H.Ex.evs.drop 1) = some s₂ ∧
    Valid C08H.Ex.P false (emptyH 2 C16.Ex.heap 3) (C08H.Ex.evs.take 1 ++ C08H.Ex.evs.drop 1) ∧
    CallerOnly ((C08H.Ex.evs.drop 1).take 2) := by
  have hv : Valid C08H.Ex.P false (emptyH 2 C16.Ex.heap 3) (C08H.Ex.evs.take 1 ++ C08H.Ex.evs.drop 1) :=
    C08H.Ex.valid false
  obtain ⟨s, h1⟩ := heap_never_raises (pf := false) C08H.Ex.simErase C16.Ex.ct_ok C16.Ex.heap_closed
    (fun _ => by decide) hv.left
  obtain ⟨s2, h2⟩ := heap_never_raises (pf := false) C08H.Ex.simErase C16.Ex.ct_ok C16.Ex.heap_closed
    (fun _ => by decide) hv
  rw [runH_append, h1] at h2
  exact ⟨s, s2, h1, h2, hv, trivial⟩

/-- Instance of the hypotheses of `heap_hof_best_of_seen` (the reading's hypotheses on the history the archive
saw), and its conclusion. -/
example : ∃ s, runH C08H.Ex.P false (emptyH 2 C16.Ex.heap 3) C08H.Ex.evs = some s ∧
    SimHyp C08H.Ex.P.sim (histOf C08H.Ex.P false (emptyH 2 C16.Ex.heap 3) C08H.Ex.evs).flatten ∧
    ∀ v ∈ (histOf C08H.Ex.P false (emptyH 2 C16.Ex.heap 3) C08H.Ex.evs).flatten,
      (∃ x ∈ s.items, ∃ vx, viewInd C08H.Ex.P s.objs x = some vx ∧ C08H.Ex.P.sim v vx = true) ∨
      (s.items.length = 2 ∧ ∀ w, s.items.getLast? = some w →
        ∀ vw, viewInd C08H.Ex.P s.objs w = some vw → ¬ (vw.fit.wvalues < v.fit.wvalues)) := by
  obtain ⟨s, hr⟩ := heap_never_raises (pf := false) C08H.Ex.simErase C16.Ex.ct_ok C16.Ex.heap_closed
    (fun _ => by decide) (C08H.Ex.valid false)
  exact ⟨s, hr, C08H.Ex.simHyp _, heap_hof_best_of_seen C16.Ex.ct_ok C16.Ex.heap_closed (by decide)
    (C08H.Ex.valid false) (C08H.Ex.simHyp _) hr⟩

/-- Instance of the hypotheses of `heap_pf_exact` / `pf_members_fresh` / `pf_unaffected_by_writes` (the same
history shown to a Pareto archive; one objective), and the order clause of the conclusion. -/
example : ∃ s, runH C08H.Ex.P true (emptyH 2 C16.Ex.heap 3) C08H.Ex.evs = some s ∧
    PfHyp C08H.Ex.P.sim 1 (histOf C08H.Ex.P true (emptyH 2 C16.Ex.heap 3) C08H.Ex.evs).flatten ∧
    s.items.Pairwise (fun a b => ∀ va vb, viewInd C08H.Ex.P s.objs a = some va →
      viewInd C08H.Ex.P s.objs b = some vb → vb.fit.wvalues ≤ va.fit.wvalues) := by
  obtain ⟨s, hr⟩ := heap_never_raises (pf := true) C08H.Ex.simErase C16.Ex.ct_ok C16.Ex.heap_closed
    (fun h => by cases h) (C08H.Ex.valid true)
  exact ⟨s, hr, C08H.Ex.pfHyp true, (heap_pf_exact C16.Ex.ct_ok C16.Ex.heap_closed (C08H.Ex.valid true)
    (C08H.Ex.pfHyp true) hr).2.2.2⟩

/-- The Pareto archive on the same history: the re-evaluated individual (9) dominates the old copy (2),
which is removed; the member and the key are the objects of the second `deepcopy`. -/
example : (runH C08H.Ex.P true (emptyH 2 C16.Ex.heap 3) C08H.Ex.evs).map
      (fun s => (s.items, s.keys, s.log, s.next)) = some ([5], [6], [(3, 5), (5, 7)], 7) := by
  decide

end HeapLevel

end C08
