/-
C02 — Variation never touches parents and never leaves a stale fitness.
The model is `DeapModel/Core/Variation.lean` (`varAnd`, `varOr` of `deap/algorithms.py`); helper lemmas are in
`DeapModel/Lemmas/C02.lean`, `C02Ops.lean` (the library operators) and `C02History.lean` (`tools.History`).

Every theorem is for ALL populations (any length, repeated oids allowed), ALL decision tapes, ALL
operator states and ALL operator pairs meeting `OpContract` (an operator returns its arguments or objects
it allocated itself — in-place operators as well as copy-and-return ones — and writes no other object).  "The input list itself is unchanged" holds by construction:
`pop` is an immutable argument of the model, never part of the state that is written.

Reading of the clauses in the model:
* "never modify any individual of the population"    → `*_parents_unchanged` (every oid allocated
  before the call — in particular every input — has the same genome and fitness afterwards);
* "exactly the requested number of offspring"        → `*_count`;
* "each an object independent of every input"        → `*_fresh`, `*_not_input`, `*_distinct`
  (every returned oid was allocated during the call — by `toolbox.clone` or by an operator that returns a
  new object —, so it is no input and no other pre-existing object, and the returned oids are pairwise
  distinct);
* "went through crossover or mutation ⇒ invalid"     → `*_touched_invalid`: about the object that ENDS UP
  in the offspring list, i.e. the one the operator RETURNED (not the one passed to it);
* "valid fitness ⇒ genotype and fitness of an input" → `*_valid_is_parent_copy`.

"Every registered mate/mutate operator pair": the second half of the file removes the `OpContract` hypothesis for the
library's own operators (lifted in-place operators, `gp.staticLimit`, `tools.History().decorator`; models
`Core/VariationOps.lean`, `Core/History.lean`).
-/
import DeapModel.Lemmas.C02History
import DeapModel.Lemmas.C02Gen   -- translator tie: lemmas of GenEq/C02.lean.tmpl (elaborated per run by the check)

namespace C02
open Variation

variable {σ : Type} {ops : Ops σ}

/-- In-place operators (what `deap.tools` provides): one-point-like crossover exchanging the tails, and a
mutation negating every gene; both return their arguments. -/
def demoOps : Ops Unit where
  mate := fun t h n a b =>
    ⟨t, (h.set a { h a with genome := (h a).genome.take 1 ++ (h b).genome.drop 1 }).set b
          { h b with genome := (h b).genome.take 1 ++ (h a).genome.drop 1 }, n, a, b⟩
  mutate := fun t h n a => ⟨t, h.set a { h a with genome := (h a).genome.map (fun x => -x) }, n, a⟩

theorem demoOps_contract : OpContract demoOps :=
  Variation.lifted_inplace_meets_contract (fun t x y => (t, x.take 1 ++ y.drop 1, y.take 1 ++ x.drop 1))
    (fun t x => (t, x.map (fun v => -v)))

/-- Pure (copy-and-return) operators: the arguments are left as they are, the children are NEW objects that
still carry the parents' fitness — what `gp.staticLimit` hands back when the limit rejects a child, or a
user operator working on copies. -/
def pureOps : Ops Unit where
  mate := fun t h n a b =>
    ⟨t, (h.set n { h a with genome := (h a).genome.take 1 ++ (h b).genome.drop 1 }).set (n + 1)
          { h b with genome := (h b).genome.take 1 ++ (h a).genome.drop 1 }, n + 2, n, n + 1⟩
  mutate := fun t h n a => ⟨t, h.set n { h a with genome := (h a).genome.map (fun x => -x) }, n + 1, n⟩

theorem pureOps_contract : OpContract pureOps where
  mate_next := fun _ _ _ _ _ => by simp [pureOps]
  mate_fst := fun _ _ n _ _ => Or.inr (Or.inr ⟨Nat.le_refl _, by simp [pureOps]⟩)
  mate_snd := fun _ _ n _ _ => Or.inr (Or.inr ⟨by simp [pureOps], by simp [pureOps]⟩)
  mate_distinct := fun _ _ n _ _ _ => by simp [pureOps]
  mate_frame := fun _ h n a b o _ _ hn => by
    have h1 : o ≠ n := by omega
    have h2 : o ≠ n + 1 := by omega
    simp [pureOps, h1, h2]
  mutate_next := fun _ _ _ _ => by simp [pureOps]
  mutate_ret := fun _ _ n _ => Or.inr ⟨Nat.le_refl _, by simp [pureOps]⟩
  mutate_frame := fun _ h n a o _ hn => by
    have h1 : o ≠ n := by omega
    simp [pureOps, h1]

/-- Three individuals: evaluated, unevaluated, evaluated (a mixed population). -/
def demoHeap : Heap := fun o =>
  match o with
  | 0 => ⟨[1, 2, 3], some [10], none⟩
  | 1 => ⟨[4, 5, 6], none, none⟩
  | 2 => ⟨[7, 8, 9], some [30], none⟩
  | _ => ⟨[], none, none⟩

def demoSt : St := { heap := demoHeap, next := 3 }

/-- `varAnd` on `[0, 1, 2]`: the pair (0,1) is mated, nobody is mutated, individual 2 is reproduced.
`varOr` with λ = 3: crossover of positions 0,2; mutation of position 1; reproduction of position 2. -/
def demoAnd : Option (Res Unit) := varAnd demoOps () demoSt [0, 1, 2] [true] [false, false, false]
def demoOr : Option (Res Unit) :=
  varOr demoOps () demoSt [0, 1, 2] 3 [Choice.cx 0 2, Choice.mutn 1, Choice.rep 2]

example : (∀ p ∈ [0, 1, 2], p < demoSt.next) := by decide
example : demoAnd.map (·.off) = some [3, 4, 5] := by decide
example : demoAnd.map (fun r => [3, 4, 5].map r.st.heap) =
    some [⟨[1, 5, 6], none, none⟩, ⟨[4, 2, 3], none, none⟩, ⟨[7, 8, 9], some [30], none⟩] := by decide
example : demoAnd.map (fun r => [0, 1, 2].map r.st.heap) = some ([0, 1, 2].map demoHeap) := by decide
example : demoOr.map (·.off) = some [3, 5, 6] := by decide
example : demoOr.map (fun r => [3, 5, 6].map r.st.heap) =
    some [⟨[1, 8, 9], none, none⟩, ⟨[-4, -5, -6], none, none⟩, ⟨[7, 8, 9], some [30], none⟩] := by decide
example : demoOr.map (fun r => [0, 1, 2].map r.st.heap) = some ([0, 1, 2].map demoHeap) := by decide
/-- the same object repeated in the population: still three distinct fresh offspring -/
example : (varAnd demoOps () demoSt [0, 0, 0] [false] [false, true, false]).map (·.off) = some [3, 4, 5] := by
  decide
/-- pure operators: the offspring are the objects the operators RETURNED (6, 7 from mate, then 8 from
mutating 7), and it is their fitness that is deleted although they were copies of evaluated parents -/
example : (varAnd pureOps () demoSt [0, 2, 2] [true] [false, true, false]).map
    (fun r => (r.off, r.off.map r.st.heap)) =
    some ([6, 8, 5], [⟨[1, 8, 9], none, none⟩, ⟨[-7, -2, -3], none, none⟩, ⟨[7, 8, 9], some [30], none⟩]) := by decide
example : (varOr pureOps () demoSt [0, 1, 2] 2 [Choice.cx 0 2, Choice.mutn 2]).map
    (fun r => (r.off, r.off.map r.st.heap)) =
    some ([5, 8], [⟨[1, 8, 9], none, none⟩, ⟨[-7, -8, -9], none, none⟩]) := by decide

/-- `varAnd` returns exactly as many offspring as it was given individuals. -/
theorem varAnd_count (hc : OpContract ops) {t : σ} {s : St} {pop : List Nat}
    {mateD mutD : List Bool} {r : Res σ} (h : varAnd ops t s pop mateD mutD = some r) :
    r.off.length = pop.length := varAnd_length h

example : OpContract demoOps ∧ demoAnd.isSome = true := ⟨demoOps_contract, by decide⟩
example : OpContract pureOps ∧ (varAnd pureOps () demoSt [0, 2, 2] [true] [false, true, false]).isSome = true :=
  ⟨pureOps_contract, by decide⟩

/-- The fresh-oid counter only grows. -/
theorem varAnd_next_le (hc : OpContract ops) {t : σ} {s : St} {pop : List Nat}
    {mateD mutD : List Bool} {r : Res σ} (h : varAnd ops t s pop mateD mutD = some r) :
    s.next ≤ r.st.next := (varAnd_spec hc h).1.next_le

/-- No object that existed before the call — in particular no input individual — is modified:
its genome and its fitness are what they were. -/
theorem varAnd_parents_unchanged (hc : OpContract ops) {t : σ} {s : St} {pop : List Nat}
    {mateD mutD : List Bool} {r : Res σ} (h : varAnd ops t s pop mateD mutD = some r) :
    ∀ o, o < s.next → r.st.heap o = s.heap o := (varAnd_spec hc h).1.unchanged

/-- … stated for the inputs: every individual of the given population is unchanged. -/
theorem varAnd_inputs_unchanged (hc : OpContract ops) {t : σ} {s : St} {pop : List Nat}
    {mateD mutD : List Bool} {r : Res σ} (hpop : ∀ p ∈ pop, p < s.next)
    (h : varAnd ops t s pop mateD mutD = some r) : ∀ p ∈ pop, r.st.heap p = s.heap p :=
  fun p hp => varAnd_parents_unchanged hc h p (hpop p hp)

/-- Every returned oid was allocated during this call (by `toolbox.clone` or by an operator). -/
theorem varAnd_fresh (hc : OpContract ops) {t : σ} {s : St} {pop : List Nat}
    {mateD mutD : List Bool} {r : Res σ} (h : varAnd ops t s pop mateD mutD = some r) :
    ∀ o ∈ r.off, s.next ≤ o ∧ o < r.st.next := (varAnd_spec hc h).1.fresh

/-- No offspring is an input individual (for `varOr`: F1). -/
theorem varAnd_not_input (hc : OpContract ops) {t : σ} {s : St} {pop : List Nat}
    {mateD mutD : List Bool} {r : Res σ} (hpop : ∀ p ∈ pop, p < s.next)
    (h : varAnd ops t s pop mateD mutD = some r) : ∀ o ∈ r.off, o ∉ pop := by
  intro o ho hin
  have := (varAnd_fresh hc h o ho).1
  have := hpop o hin
  omega

/-- The offspring are pairwise distinct objects (uses that `mate` returns two different individuals). -/
theorem varAnd_distinct (hc : OpContract ops) {t : σ} {s : St} {pop : List Nat}
    {mateD mutD : List Bool} {r : Res σ} (h : varAnd ops t s pop mateD mutD = some r) :
    r.off.Nodup := (varAnd_spec hc h).1.nodup

/-- Every offspring that went through a crossover or a mutation comes back with an invalid fitness. -/
theorem varAnd_touched_invalid (hc : OpContract ops) {t : σ} {s : St} {pop : List Nat}
    {mateD mutD : List Bool} {r : Res σ} (hpop : ∀ p ∈ pop, p < s.next)
    (h : varAnd ops t s pop mateD mutD = some r) (k o : Nat) (ho : r.off[k]? = some o)
    (htouched : wasMated mateD pop.length k = true ∨ mutD[k]? = some true) :
    (r.st.heap o).fit = none := by
  have := (varAnd_spec hc h).2.2 k o ho
  rcases htouched with e | e <;> simpa [e] using this

example : wasMated [true] 3 0 = true ∧ wasMated [true] 3 1 = true ∧ wasMated [true] 3 2 = false := by decide

/-- An offspring that went through neither operator is an exact copy of the input at the same
position: same genome, same fitness. -/
theorem varAnd_untouched_is_clone (hc : OpContract ops) {t : σ} {s : St} {pop : List Nat}
    {mateD mutD : List Bool} {r : Res σ} (hpop : ∀ p ∈ pop, p < s.next)
    (h : varAnd ops t s pop mateD mutD = some r) (k o p : Nat) (ho : r.off[k]? = some o)
    (hp : pop[k]? = some p)
    (hun : wasMated mateD pop.length k = false ∧ mutD[k]? = some false) :
    r.st.heap o = s.heap p := by
  have := (varAnd_spec hc h).2.2 k o ho
  simp only [hun.1, hun.2, Bool.false_or, Option.some_beq_some, Bool.false_eq_true, beq_iff_eq] at this
  exact this hpop p hp

/-- Every offspring that comes back with a valid fitness has exactly the genotype and the fitness
of an input individual (the one at its own position), as they were before and are after the call. -/
theorem varAnd_valid_is_parent_copy (hc : OpContract ops) {t : σ} {s : St} {pop : List Nat}
    {mateD mutD : List Bool} {r : Res σ} (hpop : ∀ p ∈ pop, p < s.next)
    (h : varAnd ops t s pop mateD mutD = some r) (k o : Nat) (f : List Int)
    (ho : r.off[k]? = some o) (hf : (r.st.heap o).fit = some f) :
    ∃ p, pop[k]? = some p ∧ r.st.heap o = s.heap p ∧ r.st.heap o = r.st.heap p := by
  have hk : k < pop.length := varAnd_count hc h ▸ (List.getElem?_eq_some_iff.1 ho).1
  have := (varAnd_spec hc h).2.2 k o ho
  split at this
  · rw [this] at hf; cases hf
  · have hcopy := this hpop _ (List.getElem?_eq_getElem hk)
    exact ⟨_, List.getElem?_eq_getElem hk, hcopy,
      by rw [hcopy, varAnd_parents_unchanged hc h _ (hpop _ (List.getElem_mem hk))]⟩

/-- With one decision per visited pair and one per index, `varAnd` always returns. -/
theorem varAnd_isSome (t : σ) (s : St) (pop : List Nat) (mateD mutD : List Bool)
    (hm : mateD.length = pop.length / 2) (hu : mutD.length = pop.length) (hc : OpContract ops) :
    (varAnd ops t s pop mateD mutD).isSome = true := by
  have hlen : (cloneAll s pop).2.length = pop.length := by simp [cloneAll_off]
  obtain ⟨m, hm'⟩ := Option.isSome_iff_exists.1 (mateLoop_isSome ops (cloneAll s pop).2 mateD t (cloneAll s pop).1 (by omega))
  obtain ⟨r, hr⟩ := Option.isSome_iff_exists.1
    (mutLoop_isSome ops m.off mutD m.tape m.st (by rw [mateLoop_length _ _ _ _ m hm']; omega))
  exact Option.isSome_iff_exists.2 ⟨r, varAnd_eq_some.2 ⟨m, hm', hr⟩⟩

/-- The decisions decoded from the recorded `random()` results have exactly these lengths. -/
theorem decodeAnd_lengths (cxpb mutpb : Float) (n : Nat) (draws : List Float) (m u : List Bool)
    (h : decodeAnd cxpb mutpb n draws = some (m, u)) : m.length = n / 2 ∧ u.length = n := by
  simp only [decodeAnd] at h
  split at h
  next hl =>
    simp only [Option.some.injEq, Prod.mk.injEq] at h
    obtain ⟨h1, h2⟩ := h
    subst h1; subst h2
    simp; omega
  · simp at h

/-- `varOr` returns exactly `lambda_` offspring. -/
theorem varOr_count (hc : OpContract ops) {t : σ} {s : St} {pop : List Nat} {lam : Nat}
    {choices : List Choice} {r : Res σ} (hpop : ∀ p ∈ pop, p < s.next)
    (h : varOr ops t s pop lam choices = some r) : r.off.length = lam :=
  varOr_length h

example : OpContract demoOps ∧ (∀ p ∈ [0, 1, 2], p < demoSt.next) ∧ demoOr.isSome = true :=
  ⟨demoOps_contract, by decide, by decide⟩

/-- No object that existed before the call — in particular no input individual — is modified. -/
theorem varOr_parents_unchanged (hc : OpContract ops) {t : σ} {s : St} {pop : List Nat} {lam : Nat}
    {choices : List Choice} {r : Res σ} (hpop : ∀ p ∈ pop, p < s.next)
    (h : varOr ops t s pop lam choices = some r) : ∀ o, o < s.next → r.st.heap o = s.heap o :=
  (varOr_spec hc hpop h).2.1.unchanged

theorem varOr_inputs_unchanged (hc : OpContract ops) {t : σ} {s : St} {pop : List Nat} {lam : Nat}
    {choices : List Choice} {r : Res σ} (hpop : ∀ p ∈ pop, p < s.next)
    (h : varOr ops t s pop lam choices = some r) : ∀ p ∈ pop, r.st.heap p = s.heap p :=
  fun p hp => varOr_parents_unchanged hc hpop h p (hpop p hp)

/-- Every returned oid was allocated during this call (also in the reproduction branch — F1). -/
theorem varOr_fresh (hc : OpContract ops) {t : σ} {s : St} {pop : List Nat} {lam : Nat}
    {choices : List Choice} {r : Res σ} (hpop : ∀ p ∈ pop, p < s.next)
    (h : varOr ops t s pop lam choices = some r) : ∀ o ∈ r.off, s.next ≤ o ∧ o < r.st.next :=
  (varOr_spec hc hpop h).2.1.fresh

/-- No offspring is an input individual. -/
theorem varOr_not_input (hc : OpContract ops) {t : σ} {s : St} {pop : List Nat} {lam : Nat}
    {choices : List Choice} {r : Res σ} (hpop : ∀ p ∈ pop, p < s.next)
    (h : varOr ops t s pop lam choices = some r) : ∀ o ∈ r.off, o ∉ pop := by
  intro o ho hin
  have := (varOr_fresh hc hpop h o ho).1
  have := hpop o hin
  omega

/-- The offspring are pairwise distinct objects (allocated in increasing order). -/
theorem varOr_distinct (hc : OpContract ops) {t : σ} {s : St} {pop : List Nat} {lam : Nat}
    {choices : List Choice} {r : Res σ} (hpop : ∀ p ∈ pop, p < s.next)
    (h : varOr ops t s pop lam choices = some r) : r.off.Nodup := (varOr_spec hc hpop h).2.1.nodup

/-- An offspring produced by the crossover or the mutation branch has an invalid fitness. -/
theorem varOr_touched_invalid (hc : OpContract ops) {t : σ} {s : St} {pop : List Nat} {lam : Nat}
    {choices : List Choice} {r : Res σ} (hpop : ∀ p ∈ pop, p < s.next)
    (h : varOr ops t s pop lam choices = some r) (k o : Nat) (ho : r.off[k]? = some o)
    (htouched : (∃ i j, choices[k]? = some (Choice.cx i j)) ∨ (∃ i, choices[k]? = some (Choice.mutn i))) :
    (r.st.heap o).fit = none := by
  rcases htouched with ⟨i, j, hc'⟩ | ⟨i, hc'⟩ <;> exact (varOr_spec hc hpop h).2.2.2 k _ o hc' ho

/-- An offspring produced by the reproduction branch is an exact copy of the chosen input. -/
theorem varOr_reproduced_is_clone (hc : OpContract ops) {t : σ} {s : St} {pop : List Nat} {lam : Nat}
    {choices : List Choice} {r : Res σ} (hpop : ∀ p ∈ pop, p < s.next)
    (h : varOr ops t s pop lam choices = some r) (k o i : Nat) (ho : r.off[k]? = some o)
    (hrep : choices[k]? = some (Choice.rep i)) :
    ∃ p, pop[i]? = some p ∧ r.st.heap o = s.heap p :=
  (varOr_spec hc hpop h).2.2.2 k _ o hrep ho

/-- Every offspring that comes back with a valid fitness has exactly the genotype and the fitness
of an input individual, as they were before and are after the call. -/
theorem varOr_valid_is_parent_copy (hc : OpContract ops) {t : σ} {s : St} {pop : List Nat} {lam : Nat}
    {choices : List Choice} {r : Res σ} (hpop : ∀ p ∈ pop, p < s.next)
    (h : varOr ops t s pop lam choices = some r) (k o : Nat) (f : List Int)
    (ho : r.off[k]? = some o) (hf : (r.st.heap o).fit = some f) :
    ∃ p ∈ pop, r.st.heap o = s.heap p ∧ r.st.heap o = r.st.heap p := by
  obtain ⟨_, _, hlen, hidx⟩ := varOr_spec hc hpop h
  have hk : k < choices.length := hlen ▸ (List.getElem?_eq_some_iff.1 ho).1
  have hsp := hidx k _ o (List.getElem?_eq_getElem hk) ho
  cases hc' : choices[k] <;> rw [hc'] at hsp
  case rep i =>
    obtain ⟨p, hp, hh⟩ := hsp
    have hmem : p ∈ pop := List.mem_of_getElem? hp
    exact ⟨p, hmem, hh, by rw [hh, varOr_parents_unchanged hc hpop h p (hpop p hmem)]⟩
  all_goals rw [show (r.st.heap o).fit = none from hsp] at hf; cases hf

/-- With exactly `lambda_` choices whose positions lie inside the population, `varOr` returns. -/
theorem varOr_isSome (t : σ) (s : St) (pop : List Nat) (lam : Nat) (choices : List Choice)
    (hlen : choices.length = lam) (hin : ∀ c ∈ choices, c.inRange pop.length) :
    (varOr ops t s pop lam choices).isSome = true := by
  simp only [varOr, hlen, if_true]
  exact varOrLoop_isSome ops pop choices t s hin

example : [Choice.cx 0 2, Choice.mutn 1, Choice.rep 2].length = 3 ∧
    ∀ c ∈ [Choice.cx 0 2, Choice.mutn 1, Choice.rep 2], c.inRange 3 := by
  simp [Choice.inRange]

/-- The choices decoded from a recorded tape are exactly `lambda_` many, every crossover choice
names two different positions (what `random.sample` guarantees). -/
theorem decodeOr_length (cxpb mutpb : Float) : ∀ (lam : Nat) (draws : List Draw) (cs : List Choice),
    decodeOr cxpb mutpb lam draws = some cs →
      cs.length = lam ∧ ∀ i j, Choice.cx i j ∈ cs → i ≠ j :=
  decodeOr_spec cxpb mutpb

theorem varAnd_all (hc : OpContract ops) {t : σ} {s : St} {pop : List Nat} {mateD mutD : List Bool}
    {r : Res σ} (hpop : ∀ q ∈ pop, q < s.next) (h : varAnd ops t s pop mateD mutD = some r) :
    (∀ o, o < s.next → r.st.heap o = s.heap o) ∧
    r.off.length = pop.length ∧
    (∀ o ∈ r.off, s.next ≤ o ∧ o < r.st.next ∧ o ∉ pop) ∧ r.off.Nodup ∧
    (∀ (k o : Nat), r.off[k]? = some o → (wasMated mateD pop.length k = true ∨ mutD[k]? = some true) →
      (r.st.heap o).fit = none) ∧
    (∀ (k o : Nat) (f : List Int), r.off[k]? = some o → (r.st.heap o).fit = some f →
      ∃ q, pop[k]? = some q ∧ r.st.heap o = s.heap q ∧ r.st.heap o = r.st.heap q) :=
  ⟨varAnd_parents_unchanged hc h, varAnd_count hc h,
    fun o ho => ⟨(varAnd_fresh hc h o ho).1, (varAnd_fresh hc h o ho).2, varAnd_not_input hc hpop h o ho⟩,
    varAnd_distinct hc h, varAnd_touched_invalid hc hpop h, varAnd_valid_is_parent_copy hc hpop h⟩

theorem varOr_all (hc : OpContract ops) {t : σ} {s : St} {pop : List Nat} {lam : Nat}
    {choices : List Choice} {r : Res σ} (hpop : ∀ q ∈ pop, q < s.next)
    (h : varOr ops t s pop lam choices = some r) :
    (∀ o, o < s.next → r.st.heap o = s.heap o) ∧
    r.off.length = lam ∧
    (∀ o ∈ r.off, s.next ≤ o ∧ o < r.st.next ∧ o ∉ pop) ∧ r.off.Nodup ∧
    (∀ (k o : Nat), r.off[k]? = some o →
      ((∃ i j, choices[k]? = some (Choice.cx i j)) ∨ (∃ i, choices[k]? = some (Choice.mutn i))) →
      (r.st.heap o).fit = none) ∧
    (∀ (k o : Nat) (f : List Int), r.off[k]? = some o → (r.st.heap o).fit = some f →
      ∃ q ∈ pop, r.st.heap o = s.heap q ∧ r.st.heap o = r.st.heap q) :=
  ⟨varOr_parents_unchanged hc hpop h, varOr_count hc hpop h,
    fun o ho => ⟨(varOr_fresh hc hpop h o ho).1, (varOr_fresh hc hpop h o ho).2, varOr_not_input hc hpop h o ho⟩,
    varOr_distinct hc hpop h, varOr_touched_invalid hc hpop h, varOr_valid_is_parent_copy hc hpop h⟩

/-- Every lifting of an in-place genome operator pair — a function from the contents of the argument sequences
(and a tape) to their contents after the call, written back into the very argument objects — meets `OpContract`. -/
theorem lifted_inplace_meets_contract {τ : Type} (f : GOp2 τ) (g : GOp1 τ) : OpContract (liftOps f g) :=
  Variation.lifted_inplace_meets_contract f g

/-- … and such an operator allocates nothing, returns its arguments, and changes no fitness at all. -/
theorem lifted_inplace_is_inplace {τ : Type} (f : GOp2 τ) (g : GOp1 τ) (t : τ) (h : Heap) (n a b o : Nat) :
    ((liftOps f g).mate t h n a b).next = n ∧ ((liftOps f g).mate t h n a b).fst = a ∧
    ((liftOps f g).mate t h n a b).snd = b ∧ (((liftOps f g).mate t h n a b).heap o).fit = (h o).fit ∧
    ((liftOps f g).mutate t h n a).next = n ∧ ((liftOps f g).mutate t h n a).ret = a ∧
    (((liftOps f g).mutate t h n a).heap o).fit = (h o).fit :=
  ⟨rfl, rfl, rfl, liftMate_fit f t h n a b o, rfl, rfl, liftMutate_fit g t h n a o⟩

/-- `gp.staticLimit` around ANY operator pair that meets the contract meets it again, although it hands back new
copies of kept parent copies (for every measurement and limit, every way `random.choice` answers, and whether the
crossover, the mutation or both are decorated). -/
theorem staticLimit_meets_contract (hc : OpContract ops) (Lm Lu : Limit σ) :
    OpContract (⟨limitMate Lm ops.mate, ops.mutate⟩ : Ops σ) ∧
    OpContract (⟨ops.mate, limitMutate Lu ops.mutate⟩ : Ops σ) ∧
    OpContract (⟨limitMate Lm ops.mate, limitMutate Lu ops.mutate⟩ : Ops σ) :=
  ⟨OpContract.of_halves (limitMate_contract Lm hc.mateHalf) hc.mutHalf,
   OpContract.of_halves hc.mateHalf (limitMutate_contract Lu hc.mutHalf),
   OpContract.of_halves (limitMate_contract Lm hc.mateHalf) (limitMutate_contract Lu hc.mutHalf)⟩

example : OpContract demoOps := demoOps_contract

/-- What the decorator hands back in place of an over-limit child is a deep copy — genome AND fitness — of one
of the copies it kept (so it may carry a valid fitness: `varAnd`/`varOr` must delete the fitness of the RETURNED
object, which is what `*_touched_invalid` states). -/
theorem staticLimit_replacement_is_kept_copy (L : Limit σ) (keep : List Nat) (t : σ) (h : Heap) (nx x : Nat)
    (hne : keep ≠ []) (hnew : (limitFix L keep t h nx x).ret ≠ x) :
    ∃ k ∈ keep, (limitFix L keep t h nx x).heap (limitFix L keep t h nx x).ret = h k := by
  unfold limitFix at hnew ⊢
  split
  · simp only [Heap.set, if_true]
    refine ⟨_, ?_, rfl⟩
    cases keep with
    | nil => exact absurd rfl hne
    | cons k0 ks =>
      simp only [List.getD_eq_getElem?_getD, List.headD_cons]
      cases hq : (k0 :: ks)[(L.pick t (k0 :: ks).length).2]? with
      | none => simp
      | some y => simpa using List.mem_of_getElem? hq
  · next hov => simp [hov] at hnew

/-- a limit on the length that `[1, 2, 3]` exceeds; `random.choice` always answers the first kept copy -/
def demoLimit : Limit Unit := ⟨fun g => decide (2 < g.length), fun t _ => (t, 0)⟩

example : [3] ≠ [] ∧ (limitFix demoLimit [3] () demoHeap 4 0).ret ≠ 0 := by decide

/-- Every library crossover and mutation (all operator models of C09, C10 and C11 listed in `LibMate` / `LibMut`),
plain or decorated with `gp.staticLimit`, under every coding of floats / trees as heap genomes: `OpContract` holds. -/
theorem library_ops_meet_contract (v : Views) (p : Lib) : OpContract (p.ops v) :=
  OpContract.of_halves (Lib.mate_contract v p) (Lib.mutate_contract v p)

/-- All clauses of the property for `varAnd` with the library's own operators — no hypothesis on the operators:
for every population, every decision tape, every library crossover and mutation (plain or decorated), every view
and every operator tape,
(1) no object that existed before the call (in particular no input individual) is modified,
(2) exactly `len(population)` offspring are returned,
(3) every offspring is an object allocated during the call, not an input, and the offspring are pairwise distinct,
(4) every offspring whose position went through the crossover or the mutation has an invalid fitness,
(5) every offspring with a valid fitness has exactly the genotype and fitness of the input at its position. -/
theorem varAnd_library_ops (v : Views) (p : Lib) {t : LTape} {s : St} {pop : List Nat} {mateD mutD : List Bool}
    {r : Res LTape} (hpop : ∀ q ∈ pop, q < s.next) (h : varAnd (p.ops v) t s pop mateD mutD = some r) :
    (∀ o, o < s.next → r.st.heap o = s.heap o) ∧
    r.off.length = pop.length ∧
    (∀ o ∈ r.off, s.next ≤ o ∧ o < r.st.next ∧ o ∉ pop) ∧ r.off.Nodup ∧
    (∀ (k o : Nat), r.off[k]? = some o → (wasMated mateD pop.length k = true ∨ mutD[k]? = some true) →
      (r.st.heap o).fit = none) ∧
    (∀ (k o : Nat) (f : List Int), r.off[k]? = some o → (r.st.heap o).fit = some f →
      ∃ q, pop[k]? = some q ∧ r.st.heap o = s.heap q ∧ r.st.heap o = r.st.heap q) :=
  varAnd_all (library_ops_meet_contract v p) hpop h

/-- … and the call always returns: with one decision per visited pair and one per index there is a result. -/
theorem varAnd_library_ops_total (v : Views) (p : Lib) (t : LTape) (s : St) (pop : List Nat) (mateD mutD : List Bool)
    (hm : mateD.length = pop.length / 2) (hu : mutD.length = pop.length) :
    (varAnd (p.ops v) t s pop mateD mutD).isSome = true :=
  varAnd_isSome t s pop mateD mutD hm hu (library_ops_meet_contract v p)

/-- a view of trees that stores nothing (the examples use integer operators) -/
def demoViews : Views := { tree := ⟨fun _ => [], fun _ => []⟩ }

/-- one-point crossover and inversion, the crossover decorated with a length limit -/
def demoLib : Lib := { mate := .cxOnePoint, mutate := .mutInversion }
def demoLibLimit : Lib := { mate := .cxMessyOnePoint, mutate := .mutInversion, mateLimit := some (.len, 3) }

/-- `cxOnePoint` draws the cut point 1, `mutInversion` the indices 0 and 2 -/
def demoTape : LTape := { draws := [.int 1, .int 0, .int 2] }

example : (∀ q ∈ [0, 1, 2], q < demoSt.next) ∧
    (varAnd (demoLib.ops demoViews) demoTape demoSt [0, 1, 2] [true] [false, true, false]).isSome = true :=
  ⟨by decide, varAnd_library_ops_total demoViews demoLib demoTape demoSt [0, 1, 2] [true] [false, true, false] rfl rfl⟩

example : [true].length = [0, 1, 2].length / 2 ∧ [false, true, false].length = [0, 1, 2].length := by decide

/-- the composed model computes: pair (0, 1) crossed at 1, offspring 1 then inverted over [0, 2), input 2 copied -/
example : (varAnd (demoLib.ops demoViews) demoTape demoSt [0, 1, 2] [true] [false, true, false]).map
    (fun r => (r.off, r.off.map r.st.heap, r.tape.ok, r.tape.draws.length)) =
    some ([3, 4, 5], [⟨[1, 5, 6], none, none⟩, ⟨[2, 4, 3], none, none⟩, ⟨[7, 8, 9], some [30], none⟩], true, 0) := by decide

/-- All clauses of the property for `varOr` with the library's own operators (same quantification):
(1) no pre-existing object is modified, (2) exactly `lambda_` offspring, (3) all allocated during the call, no
input, pairwise distinct, (4) crossover / mutation branch ⇒ invalid fitness, (5) valid fitness ⇒ genotype and
fitness of an input individual. -/
theorem varOr_library_ops (v : Views) (p : Lib) {t : LTape} {s : St} {pop : List Nat} {lam : Nat}
    {choices : List Choice} {r : Res LTape} (hpop : ∀ q ∈ pop, q < s.next)
    (h : varOr (p.ops v) t s pop lam choices = some r) :
    (∀ o, o < s.next → r.st.heap o = s.heap o) ∧
    r.off.length = lam ∧
    (∀ o ∈ r.off, s.next ≤ o ∧ o < r.st.next ∧ o ∉ pop) ∧ r.off.Nodup ∧
    (∀ (k o : Nat), r.off[k]? = some o →
      ((∃ i j, choices[k]? = some (Choice.cx i j)) ∨ (∃ i, choices[k]? = some (Choice.mutn i))) →
      (r.st.heap o).fit = none) ∧
    (∀ (k o : Nat) (f : List Int), r.off[k]? = some o → (r.st.heap o).fit = some f →
      ∃ q ∈ pop, r.st.heap o = s.heap q ∧ r.st.heap o = r.st.heap q) :=
  varOr_all (library_ops_meet_contract v p) hpop h

theorem varOr_library_ops_total (v : Views) (p : Lib) (t : LTape) (s : St) (pop : List Nat) (lam : Nat)
    (choices : List Choice) (hlen : choices.length = lam) (hin : ∀ c ∈ choices, c.inRange pop.length) :
    (varOr (p.ops v) t s pop lam choices).isSome = true :=
  varOr_isSome t s pop lam choices hlen hin

/-- messy crossover of the copies of inputs 0 and 2 at (0, 0) swaps them whole; the limit `len <= 3` accepts both;
then a mutation and a reproduction -/
example : (∀ q ∈ [0, 1, 2], q < demoSt.next) ∧
    (varOr (demoLibLimit.ops demoViews) { draws := [.int 0, .int 0, .int 1, .int 1] } demoSt [0, 1, 2] 3
      [Choice.cx 0 2, Choice.mutn 1, Choice.rep 2]).isSome = true :=
  ⟨by decide, varOr_library_ops_total demoViews demoLibLimit _ demoSt [0, 1, 2] 3 _ rfl (by simp [Choice.inRange])⟩

/-- the decorator at work: the messy crossover at (3, 0) makes the first child `[1,2,3,7,8,9]`, over the limit 3, and
`random.choice` (draw `1`) replaces it by a NEW copy (oid 7) of the kept copy of the second clone — an object that
still carries the valid fitness `[30]` until `varOr` deletes the fitness of what was returned -/
example : (varOr (demoLibLimit.ops demoViews) { draws := [.int 3, .int 0, .int 1] } demoSt [0, 1, 2] 1
      [Choice.cx 0 2]).map (fun r => (r.off, r.off.map r.st.heap, r.st.next, r.tape.ok)) =
    some ([7], [⟨[7, 8, 9], none, none⟩], 8, true) := by decide

/-- With an undecorated library pair (all of `deap.tools` / `deap.gp` work in place) `varAnd` returns exactly the
clones it made of the inputs, in order — offspring `k` IS the clone of input `k`, whatever happened to its
genome — and allocates nothing else. -/
theorem varAnd_library_inplace_offspring (v : Views) (p : Lib) (hm : p.mateLimit = none) (hu : p.mutLimit = none)
    {t : LTape} {s : St} {pop : List Nat} {mateD mutD : List Bool} {r : Res LTape}
    (h : varAnd (p.ops v) t s pop mateD mutD = some r) :
    r.off = List.range' s.next pop.length ∧ r.st.next = s.next + pop.length :=
  varAnd_inplace (Lib.inplace v p hm hu) h

example : demoLib.mateLimit = none ∧ demoLib.mutLimit = none ∧
    (varAnd (demoLib.ops demoViews) demoTape demoSt [0, 1, 2] [true] [false, true, false]).isSome = true :=
  ⟨rfl, rfl, varAnd_library_ops_total demoViews demoLib demoTape demoSt [0, 1, 2] [true] [false, true, false] rfl rfl⟩

/-- … and offspring `k` of `varOr` is the first clone made in iteration `k`; only clones are allocated (two in a
crossover iteration — the second one is dropped —, one otherwise). -/
theorem varOr_library_inplace_offspring (v : Views) (p : Lib) (hm : p.mateLimit = none) (hu : p.mutLimit = none)
    {t : LTape} {s : St} {pop : List Nat} {lam : Nat} {choices : List Choice} {r : Res LTape}
    (h : varOr (p.ops v) t s pop lam choices = some r) :
    r.off = firstClones s.next choices ∧ r.st.next = s.next + totalClones choices :=
  varOr_inplace (Lib.inplace v p hm hu) h

example : firstClones 3 [Choice.cx 0 2, Choice.mutn 1, Choice.rep 2] = [3, 5, 6] ∧
    totalClones [Choice.cx 0 2, Choice.mutn 1, Choice.rep 2] = 4 := by decide

example : demoLib.mateLimit = none ∧ demoLib.mutLimit = none ∧
    (varOr (demoLib.ops demoViews) demoTape demoSt [0, 1, 2] 3
      [Choice.cx 0 2, Choice.mutn 1, Choice.rep 2]).isSome = true :=
  ⟨rfl, rfl, varOr_library_ops_total demoViews demoLib _ demoSt [0, 1, 2] 3 _ rfl (by simp [Choice.inRange])⟩

section HistoryOps
open History

/-- `toolbox.decorate("mate", history.decorator)` and / or `toolbox.decorate("mutate", history.decorator)` around ANY operator pair
meeting the contract meets it again: the decorator returns what the operator returned, stamps `history_index` on exactly those
objects and allocates the deep copies it stores — it writes no other object. -/
theorem history_decorator_meets_contract (hc : OpContract ops) (dm du : Bool) : OpContract (histOps dm du ops) := by
  apply OpContract.of_halves
  · cases dm
    · exact plainMate_contract hc.mateHalf
    · exact histMate_contract hc.mateHalf
  · cases du
    · exact plainMutate_contract hc.mutHalf
    · exact histMutate_contract hc.mutHalf

example : OpContract demoOps := demoOps_contract

/-- All clauses of the property for `varAnd` with History-decorated library operators (crossover, mutation or both decorated,
each optionally decorated with `gp.staticLimit` underneath), for every history the decorator starts from — no operator hypothesis:
(1) no pre-existing object is modified — in particular no parent receives a `history_index` —, (2) `len(population)` offspring,
(3) all allocated during the call, no input, pairwise distinct, (4) crossover / mutation ⇒ invalid fitness, (5) valid fitness ⇒
the offspring equals the input at its position in every field (genotype, fitness, `history_index`). -/
theorem varAnd_history_ops (v : Views) (p : Lib) (dm du : Bool) {t : LTape × Hist} {s : St} {pop : List Nat}
    {mateD mutD : List Bool} {r : Res (LTape × Hist)} (hpop : ∀ q ∈ pop, q < s.next)
    (h : varAnd (histOps dm du (p.ops v)) t s pop mateD mutD = some r) :
    (∀ o, o < s.next → r.st.heap o = s.heap o) ∧
    r.off.length = pop.length ∧
    (∀ o ∈ r.off, s.next ≤ o ∧ o < r.st.next ∧ o ∉ pop) ∧ r.off.Nodup ∧
    (∀ (k o : Nat), r.off[k]? = some o → (wasMated mateD pop.length k = true ∨ mutD[k]? = some true) →
      (r.st.heap o).fit = none) ∧
    (∀ (k o : Nat) (f : List Int), r.off[k]? = some o → (r.st.heap o).fit = some f →
      ∃ q, pop[k]? = some q ∧ r.st.heap o = s.heap q ∧ r.st.heap o = r.st.heap q) :=
  varAnd_all (history_decorator_meets_contract (library_ops_meet_contract v p) dm du) hpop h

/-- … and the call always returns. -/
theorem varAnd_history_ops_total (v : Views) (p : Lib) (dm du : Bool) (t : LTape × Hist) (s : St) (pop : List Nat)
    (mateD mutD : List Bool) (hm : mateD.length = pop.length / 2) (hu : mutD.length = pop.length) :
    (varAnd (histOps dm du (p.ops v)) t s pop mateD mutD).isSome = true :=
  varAnd_isSome t s pop mateD mutD hm hu (history_decorator_meets_contract (library_ops_meet_contract v p) dm du)

/-- one-point crossover of the clones of 0 and 1, inversion of the clone of 1, both decorated: the clones (3, 4, then 4 again) are
stamped 1, 2, 3; the history holds the copies 6, 7, 8; `genealogy_tree = {1: (), 2: (), 3: (2,)}` -/
example : (∀ q ∈ [0, 1, 2], q < demoSt.next) ∧
    (varAnd (histOps true true (demoLib.ops demoViews)) (demoTape, {}) demoSt [0, 1, 2] [true] [false, true, false]).map
      (fun r => (r.off, r.off.map (fun o => (r.st.heap o).hidx), r.tape.2.index)) =
    some ([3, 4, 5], [some 1, some 3, none], 3) ∧
    (varAnd (histOps true true (demoLib.ops demoViews)) (demoTape, {}) demoSt [0, 1, 2] [true] [false, true, false]).map
      (fun r => (r.tape.2.tree, r.tape.2.hist)) = some ([(1, []), (2, []), (3, [2])], [(1, 6), (2, 7), (3, 8)]) :=
  ⟨by decide, by decide, by decide⟩

example : [true].length = [0, 1, 2].length / 2 ∧ [false, true, false].length = [0, 1, 2].length := by decide

/-- All clauses of the property for `varOr` with History-decorated library operators (same quantification). -/
theorem varOr_history_ops (v : Views) (p : Lib) (dm du : Bool) {t : LTape × Hist} {s : St} {pop : List Nat} {lam : Nat}
    {choices : List Choice} {r : Res (LTape × Hist)} (hpop : ∀ q ∈ pop, q < s.next)
    (h : varOr (histOps dm du (p.ops v)) t s pop lam choices = some r) :
    (∀ o, o < s.next → r.st.heap o = s.heap o) ∧
    r.off.length = lam ∧
    (∀ o ∈ r.off, s.next ≤ o ∧ o < r.st.next ∧ o ∉ pop) ∧ r.off.Nodup ∧
    (∀ (k o : Nat), r.off[k]? = some o →
      ((∃ i j, choices[k]? = some (Choice.cx i j)) ∨ (∃ i, choices[k]? = some (Choice.mutn i))) →
      (r.st.heap o).fit = none) ∧
    (∀ (k o : Nat) (f : List Int), r.off[k]? = some o → (r.st.heap o).fit = some f →
      ∃ q ∈ pop, r.st.heap o = s.heap q ∧ r.st.heap o = r.st.heap q) :=
  varOr_all (history_decorator_meets_contract (library_ops_meet_contract v p) dm du) hpop h

example : (∀ q ∈ [0, 1, 2], q < demoSt.next) ∧
    (varOr (histOps true false (demoLib.ops demoViews)) (demoTape, {}) demoSt [0, 1, 2] 2
      [Choice.cx 0 2, Choice.rep 1]).map (fun r => (r.off, r.tape.2.index, r.tape.2.tree)) =
    some ([3, 7], 2, [(1, []), (2, [])]) := ⟨by decide, by decide⟩

/-- The objects `update` stores in `genealogy_history` are NEW objects: under the `i`-th new index lies the oid `n + i`, allocated
by this call (so it is no live individual — they are all `< n` —, no earlier entry, and the new entries are pairwise different
objects); it is a copy of the `i`-th individual as stamped; and no object that existed before other than the individuals themselves
— in particular no earlier history entry — is written.  (`n` = the next free oid; the keys of a history are `1..index`: `WF`.) -/
theorem history_entries_fresh (H : Hist) (h : Heap) (n : Nat) (inds : List Nat) (hwf : WF H) (hlt : ∀ o ∈ inds, o < n) :
    (update H h n inds).hist.hist =
      H.hist ++ List.zip (List.range' (H.index + 1) inds.length) (List.range' n inds.length) ∧
    (update H h n inds).next = n + inds.length ∧
    (∀ (i o : Nat), inds[i]? = some o → n + i ∉ inds ∧
      (update H h n inds).heap (n + i) = { h o with hidx := some (H.index + i + 1) }) ∧
    (∀ o, o < n → o ∉ inds → (update H h n inds).heap o = h o) ∧
    (∀ o, o < n → ((update H h n inds).heap o).genome = (h o).genome ∧ ((update H h n inds).heap o).fit = (h o).fit) :=
  ⟨(updateLoop_dicts _ H h n inds hwf).2.2, updateLoop_next _ H h n inds,
   fun i o hi => ⟨fun hm => by have := hlt _ hm; omega, (updateLoop_stamped _ H h n inds hlt i o hi).1⟩,
   fun o ho hni => updateLoop_frame _ H h n inds o hni ho,
   fun o ho => updateLoop_genome_fit _ H h n inds o ho⟩

/-- a population of two, the second carrying an index already -/
def histHeap : Heap := fun o =>
  match o with
  | 0 => ⟨[1, 2, 3], some [10], none⟩
  | 1 => ⟨[4, 5, 6], none, some 7⟩
  | _ => ⟨[], none, none⟩

example : WF {} ∧ (∀ o ∈ [0, 1], o < 2) := ⟨WF_init, by decide⟩
example : ((update {} histHeap 2 [0, 1]).hist.tree, (update {} histHeap 2 [0, 1]).hist.hist,
      [0, 1, 2, 3].map (fun o => ((update {} histHeap 2 [0, 1]).heap o).hidx)) =
    ([(1, []), (2, [])], [(1, 2), (2, 3)], [some 1, some 2, some 1, some 2]) := by decide

/-- Indices are handed out `index+1, index+2, …` in call order: the counter advances by the number of individuals, both dicts
get exactly these keys appended in this order (so their keys stay `1..index`), and — the individuals being different objects — the
`i`-th one carries `history_index = index + i + 1` afterwards. -/
theorem history_index_monotone (H : Hist) (h : Heap) (n : Nat) (inds : List Nat) (hwf : WF H) :
    WF (update H h n inds).hist ∧
    (update H h n inds).hist.index = H.index + inds.length ∧
    dkeys (update H h n inds).hist.tree = dkeys H.tree ++ List.range' (H.index + 1) inds.length ∧
    ((∀ o ∈ inds, o < n) → inds.Nodup → ∀ (i o : Nat), inds[i]? = some o →
      ((update H h n inds).heap o).hidx = some (H.index + i + 1)) := by
  refine ⟨(updateLoop_dicts _ H h n inds hwf).1, updateLoop_index _ H h n inds, ?_, fun hlt hnd i o hi => ?_⟩
  · show dkeys (updateLoop _ H h n inds).hist.tree = _
    rw [(updateLoop_dicts _ H h n inds hwf).2.1]
    simp [dkeys, Function.comp_def]
  · show ((updateLoop _ H h n inds).heap o).hidx = _
    rw [(updateLoop_stamped _ H h n inds hlt i o hi).2 hnd]

example : WF {} ∧ (∀ o ∈ [0, 1], o < 2) ∧ [0, 1].Nodup := ⟨WF_init, by decide, by decide⟩

/-- `genealogy_tree[i]` of every index handed out by this call is the tuple of the `history_index` values the individuals carried
BEFORE the call (the empty tuple as soon as one of them carried none), and the entries of all earlier indices are unchanged. -/
theorem genealogy_tree_parents (H : Hist) (h : Heap) (n : Nat) (inds : List Nat) (hwf : WF H) :
    (∀ i, i < inds.length → dget (update H h n inds).hist.tree (H.index + 1 + i) = some (parentIndices h inds)) ∧
    (∀ k, k ≤ H.index → dget (update H h n inds).hist.tree k = dget H.tree k) ∧
    ((∀ o ∈ inds, ((h o).hidx).isSome = true) → parentIndices h inds = inds.filterMap (fun o => (h o).hidx)) := by
  refine ⟨fun i hi => ?_, fun k hk => ?_, fun hall => by rw [parentIndices_eq, if_pos hall]⟩
  · rw [update_tree_dget H h n inds hwf, dget_eq_none (by rw [hwf.1]; simp [List.mem_range']; omega),
      if_pos (by simp [List.mem_range']; omega)]
  · rw [update_tree_dget H h n inds hwf, if_neg (by simp [List.mem_range']; omega)]
    cases dget H.tree k <;> rfl

example : WF {} ∧ parentIndices histHeap [0, 1] = [] ∧ parentIndices histHeap [1, 1] = [7, 7] := ⟨WF_init, by decide, by decide⟩

/-- As long as every index an individual carries was handed out by THIS history (it is `≤ genealogy_index`), every parent index
in `genealogy_tree` is smaller than its child's: the tree has no cycle. -/
theorem history_parents_below (H : Hist) (h : Heap) (n : Nat) (inds : List Nat) (hwf : WF H) (hb : Below H.tree)
    (hown : ∀ o ∈ inds, ∀ k, (h o).hidx = some k → k ≤ H.index) : Below (update H h n inds).hist.tree := by
  intro k ps hk p hp
  rw [update_tree_dget H h n inds hwf] at hk
  cases hd : dget H.tree k <;> rw [hd] at hk
  · by_cases hmem : k ∈ List.range' (H.index + 1) inds.length
    · rw [if_pos hmem] at hk
      cases hk
      obtain ⟨o, ho, e⟩ := parentIndices_mem h inds p hp
      have := hown o ho p e
      have := (List.mem_range'_1.1 hmem).1
      omega
    · rw [if_neg hmem] at hk; cases hk
  · cases hk; exact hb k _ hd p hp

example : WF {} ∧ Below ({} : Hist).tree ∧ (∀ o ∈ [0], ∀ k, (histHeap o).hidx = some k → k ≤ ({} : Hist).index) :=
  ⟨WF_init, fun k ps hk => by simp [dget] at hk, by decide⟩

/-- Whatever `getGenealogy` returns (any start index, any depth bound) is a sub-map of `genealogy_tree`. -/
theorem getGenealogy_submap (H : Hist) (fuel root : Nat) (maxd : Option Nat) (g : Dict (List Nat))
    (h : getGenealogy H fuel root maxd = some g) : ∀ k ps, dget g k = some ps → dget H.tree k = some ps := by
  obtain ⟨s, hg, rfl⟩ := Option.map_eq_some_iff.1 h
  exact genealogy_sub H.tree maxd fuel root 0 {} s (fun k ps hk => by simp [dget] at hk) hg

/-- a grandchild, its two parents, their common parent -/
def demoHist : Hist := { index := 4, tree := [(1, []), (2, [1]), (3, [1]), (4, [2, 3])], hist := [(1, 10), (2, 11), (3, 12), (4, 13)] }

example : getGenealogy demoHist 10 4 none = some [(4, [2, 3]), (2, [1]), (1, []), (3, [1])] ∧
    getGenealogy demoHist 10 4 (some 2) = some [(4, [2, 3]), (2, [1]), (3, [1])] ∧
    getGenealogy demoHist 10 4 (some 0) = some [] ∧ getGenealogy demoHist 10 9 none = some [] := by decide

/-- Termination: on a tree whose parent indices are smaller than their children's (`history_parents_below`), `getGenealogy`
returns for every start index `root` and every depth bound as soon as the interpreter's stack admits `root + 1` frames. -/
theorem getGenealogy_terminates (H : Hist) (hb : Below H.tree) (fuel root : Nat) (maxd : Option Nat) (hf : root < fuel) :
    (getGenealogy H fuel root maxd).isSome = true := by
  rw [getGenealogy, Option.isSome_map]
  exact genealogy_isSome H.tree maxd hb fuel root 0 {} hf

/-- `Below` is a property of the entries, checked by going through them -/
theorem Below.of_forall {tree : Dict (List Nat)} (h : ∀ e ∈ tree, ∀ p ∈ e.2, p < e.1) : Below tree :=
  fun k ps hk p hp => h (k, ps) (Dict.mem_of_lookup (dget_eq tree k ▸ hk)) p hp

example : Below demoHist.tree := Below.of_forall (by decide)

/-- Without a depth bound the result is closed under parents: it contains the start index (when the tree knows it) and, with
every index, all its parents the tree knows — on ANY tree, whenever the call returns at all. -/
theorem getGenealogy_closed (H : Hist) (fuel root : Nat) (g : Dict (List Nat)) (h : getGenealogy H fuel root none = some g) :
    ((dget H.tree root).isSome = true → (dget g root).isSome = true) ∧
    (∀ k ps, dget g k = some ps → ∀ p ∈ ps, (dget H.tree p).isSome = true → (dget g p).isSome = true) := by
  have hsub := getGenealogy_submap H fuel root none g h
  obtain ⟨s, hg, rfl⟩ := Option.map_eq_some_iff.1 h
  obtain ⟨i1, _, c1⟩ := genealogy_inv H.tree fuel root 0 (fun _ => False) {} s (Inv_empty H.tree) hg
  exact ⟨c1, fun k ps hk p hp ht => i1.2 k (inG_of_dget hk) (fun f => f) ps (hsub k ps hk) p hp ht⟩

example : (getGenealogy demoHist 10 4 none).isSome = true := by decide

/-- With a depth bound the result need NOT be closed under the parents within the bound (the docstring says "approximate"):
index 3 is a parent of the root 4, yet `max_depth = 2` leaves it out when it was first reached, too deep, through 2. -/
example : getGenealogy { index := 4, tree := [(1, []), (2, [3]), (3, [1]), (4, [2, 3])], hist := [] } 10 4 (some 2) =
    some [(4, [2, 3]), (2, [3])] := by decide

/-- Finding (termination): when an individual is its own ancestor — `cyclicTree` is what two `update`s of ONE individual build
when it came in carrying the index 2 of another `History` object (a second run, a restored checkpoint: the docstring only warns
against MODIFYING the indices) — `getGenealogy` without a depth bound returns for no stack size: Python raises `RecursionError`. -/
theorem getGenealogy_cyclic_never_returns (fuel : Nat) :
    getGenealogy { index := 2, tree := cyclicTree, hist := [] } fuel 2 none = none := by
  unfold getGenealogy
  rw [(genealogy_cyclic fuel 0 {} (by simp) (by simp)).2]
  rfl

/-- the two updates that build `cyclicTree`: one individual (oid 1 of `histHeap`, carrying the foreign index 7 there; here 2) -/
example : (update (update {} (fun _ => ⟨[], none, some 2⟩) 1 [0]).hist (update {} (fun _ => ⟨[], none, some 2⟩) 1 [0]).heap 2 [0]).hist.tree
    = cyclicTree := by decide

end HistoryOps

end C02
