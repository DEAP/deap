/-
C13 — CMA-ES `Strategy` (deap/cma.py:33-208): each update equals the published (μ/μ_w, λ)-CMA-ES
equations and the stored state stays consistent.  Property theorems, with the predicates their statements use
(`WellPosed`, `RatesOk`, `Pre`, `Consistent`, `NumericsOk`) and the fixtures of their `example`s; the model is `DeapModel/Core/Cma.lean`, helper lemmas
are in `DeapModel/Lemmas/C13*.lean`.

Level: **partial**.  Proved here, over ℝ, for every dimension / population / parameter values:
the algebra of `update`, `computeParams`, `generate`.  Parameters of the model, *not* proved:
`eigh` (LAPACK; enters through `EighContract` of `Lemmas/C13Eig.lean`, which the history theorems take inside
`NumericsOk`), `argsort` (any permutation), the normal sampler
(the tape `arz`), IEEE rounding (the harness compares the `Float` run of the same definitions
with numpy within a tolerance).
-/
import DeapModel.Lemmas.C13Spec
import DeapModel.Lemmas.C13Weights
import DeapModel.Lemmas.C13Sort
import DeapModel.Lemmas.C13Psd
import DeapModel.Lemmas.C13Spectral

namespace C13
open Cma C13L

/-- a 2-dimensional strategy state with C = diag(1, 4), μ = 2, weights (3/4, 1/4) -/
noncomputable def exState : State ℝ :=
  { dim := 2, centroid := [1, -1], sigma := 2, pc := [0, 0], ps := [0, 0], chiN := 1,
    C := [[1, 0], [0, 4]], diagD := [1, 2], B := [[1, 0], [0, 1]], BD := [[1, 0], [0, 2]], cond := 2,
    lambda_ := 4, updateCount := 0,
    par := { mu := 2, weights := [3 / 4, 1 / 4], mueff := 8 / 5, cc := 1 / 2, cs := 1 / 2,
             ccov1 := 1 / 10, ccovmu := 1 / 10, damps := 1 } }

/-- a population of four evaluated individuals with pairwise distinct fitnesses -/
noncomputable def exPop : List (Int × List ℝ) := [(3, [1, 0]), (7, [0, 1]), (5, [2, 2]), (1, [0, 0])]

theorem exC_spd : (∀ a b : Fin 2, mget [[(1 : ℝ), 0], [0, 4]] a.val b.val = mget [[(1 : ℝ), 0], [0, 4]] b.val a.val) ∧
    PSD 2 [[1, 0], [0, 4]] := by
  refine ⟨by simp [Fin.forall_fin_two], fun v => ?_⟩
  simp only [Fin.sum_univ_two, Fin.val_zero, Fin.val_one, mget_cons_zero, mget_cons_succ, vget_cons_zero, vget_cons_succ]
  linarith [mul_self_nonneg (v 0), mul_self_nonneg (v 1)]

/-- **The guard.**  Every division `update` performs is by a non-zero number exactly under these conditions;
outside them numpy produces `inf`/`nan` (e.g. user-supplied `cs = 0` or `cs = 2` makes the `h_σ` denominator
`√(1 - (1-cs)^(2(g+1)))` zero) while division in ℝ is totalised (`x / 0 = 0`), so the theorems about the
published equations are stated under this guard only.  It is a hypothesis on ONE state: `Pre` (below) does not
imply it (no `chiN_pos`, no `diagD_pos`) and no theorem shows it along a history. -/
structure WellPosed (s : State ℝ) : Prop where
  sigma_pos : 0 < s.sigma
  chiN_pos : 0 < s.chiN
  cs_pos : 0 < s.par.cs
  cs_lt : s.par.cs < 2
  damps_ne : s.par.damps ≠ 0
  diagD_pos : ∀ k : Fin s.dim, 0 < vget s.diagD k.val

/-- under the guard no denominator of cma.py:141-165 vanishes -/
theorem no_zero_division (s : State ℝ) (h : WellPosed s) :
    s.sigma ≠ 0 ∧ s.sigma ^ 2 ≠ 0 ∧ (∀ k : Fin s.dim, vget s.diagD k.val ≠ 0) ∧
    0 < √(1 - (1 - s.par.cs) ^ (2 * (s.updateCount + 1))) ∧ s.chiN ≠ 0 ∧ s.par.damps ≠ 0 := by
  refine ⟨h.sigma_pos.ne', pow_ne_zero 2 h.sigma_pos.ne', fun k => (h.diagD_pos k).ne', ?_, h.chiN_pos.ne',
    h.damps_ne⟩
  apply Real.sqrt_pos.mpr
  have h0 : 0 ≤ (1 - s.par.cs) ^ 2 := sq_nonneg _
  have h1 : (1 - s.par.cs) ^ 2 < 1 := by nlinarith [h.cs_pos, h.cs_lt]
  have : ((1 - s.par.cs) ^ 2) ^ (s.updateCount + 1) < 1 := pow_lt_one₀ h0 h1 (Nat.succ_ne_zero _)
  rw [← pow_mul] at this
  linarith

/-- **update_eq_spec.**  For a well-posed state whose recombination weights sum to one, the values computed by
cma.py:135-165 (`updateCore`: centroid, p_σ, h_σ, p_c, C, σ) are exactly those of the published
(μ/μ_w, λ)-CMA-ES equations (`updateSpec`, spelled out by `spec_*` below). -/
theorem update_eq_spec (s : State ℝ) (xs : List (List ℝ)) (hwp : WellPosed s)
    (hw : ∑ i : Fin s.par.mu, vget s.par.weights i.val = 1) :
    updateCore s xs = updateSpec s xs :=
  updateCore_eq_spec s xs hwp.sigma_pos.ne' hwp.chiN_pos hw

theorem exState_wellPosed : WellPosed exState := by
  refine ⟨two_pos, one_pos, one_half_pos, ?_, one_ne_zero, ?_⟩
  · show (1 / 2 : ℝ) < 2
    norm_num
  · show ∀ k : Fin 2, 0 < vget [(1 : ℝ), 2] k.val
    simp [Fin.forall_fin_two]

example : WellPosed exState ∧ ∑ i : Fin exState.par.mu, vget exState.par.weights i.val = 1 := by
  refine ⟨exState_wellPosed, ?_⟩
  show ∑ i : Fin 2, vget [(3 / 4 : ℝ), 1 / 4] i.val = 1
  norm_num [Fin.sum_univ_two]

/-- `update` stores exactly what `updateCore` computes on the `mu` best individuals, increments
`update_count`, and leaves the parameters alone (cma.py:133-174). -/
theorem update_fields {α K : Type} [RealLike α] [LT K] [DecidableLT K]
    (eigh : List (List α) → List α × List (List α)) (argsort : List α → List Nat)
    (s : State α) (pop : List (K × List α)) :
    let s' := update eigh argsort s pop
    let c := updateCore s (selectBest s.par.mu pop)
    s'.centroid = c.centroid ∧ s'.ps = c.ps ∧ s'.pc = c.pc ∧ s'.C = c.C ∧ s'.sigma = c.sigma ∧
    s'.updateCount = s.updateCount + 1 ∧ s'.par = s.par ∧ s'.dim = s.dim ∧ s'.chiN = s.chiN ∧
    s'.lambda_ = s.lambda_ :=
  ⟨rfl, rfl, rfl, rfl, rfl, rfl, rfl, rfl, rfl, rfl⟩

/-- `y_w = Σ w_i (x_{i:λ} - m)/σ` -/
theorem spec_yw (s : State ℝ) (xs : List (List ℝ)) (j : Fin s.dim) :
    vget (specYw s xs) j.val
      = ∑ i : Fin s.par.mu, vget s.par.weights i.val * ((mget xs i.val j.val - vget s.centroid j.val) / s.sigma) := by
  simp only [specYw, specY, real_bridge]

/-- `m' = Σ w_i x_{i:λ}` -/
theorem spec_centroid (s : State ℝ) (xs : List (List ℝ)) (j : Fin s.dim) :
    vget (updateSpec s xs).centroid j.val = ∑ i : Fin s.par.mu, vget s.par.weights i.val * mget xs i.val j.val := by
  simp only [updateSpec, specMean, real_bridge]

/-- `p_σ' = (1 - c_σ) p_σ + √(c_σ (2 - c_σ) μ_eff) · (B D⁻¹ Bᵀ) y_w` -/
theorem spec_ps (s : State ℝ) (xs : List (List ℝ)) (a : Fin s.dim) :
    vget (updateSpec s xs).ps a.val
      = (1 - s.par.cs) * vget s.ps a.val
        + √(s.par.cs * (2 - s.par.cs) * s.par.mueff)
          * ∑ b : Fin s.dim, (∑ k : Fin s.dim, mget s.B a.val k.val * (1 / vget s.diagD k.val) * mget s.B b.val k.val)
              * vget (specYw s xs) b.val := by
  simp only [updateSpec, specPs, specInvSqrtC, real_bridge]

/-- `h_σ = 1` iff `‖p_σ'‖ / √(1 - (1 - c_σ)^(2(g+1))) < (1.4 + 2/(n+1)) · chiN` (natural-number power) -/
theorem spec_hsig (s : State ℝ) (xs : List (List ℝ)) :
    (updateSpec s xs).hsig
      = if √(∑ i : Fin s.dim, vget (updateSpec s xs).ps i.val * vget (updateSpec s xs).ps i.val)
            / √(1 - (1 - s.par.cs) ^ (2 * (s.updateCount + 1)))
          < (14 / 10 + 2 / ((s.dim : ℝ) + 1)) * s.chiN then 1 else 0 := by
  simp only [updateSpec, specHsig, real_bridge, Real.rpow_natCast]

/-- `p_c' = (1 - c_c) p_c + h_σ √(c_c (2 - c_c) μ_eff) · y_w` -/
theorem spec_pc (s : State ℝ) (xs : List (List ℝ)) (a : Fin s.dim) :
    vget (updateSpec s xs).pc a.val
      = (1 - s.par.cc) * vget s.pc a.val
        + (updateSpec s xs).hsig * √(s.par.cc * (2 - s.par.cc) * s.par.mueff) * vget (specYw s xs) a.val := by
  simp only [updateSpec, specPc, real_bridge]

/-- `C' = (1 - c_1 - c_μ) C + c_1 (p_c' p_c'ᵀ + (1 - h_σ) c_c (2 - c_c) C) + c_μ Σ w_i y_i y_iᵀ` -/
theorem spec_C (s : State ℝ) (xs : List (List ℝ)) (a b : Fin s.dim) :
    mget (updateSpec s xs).C a.val b.val
      = (1 - s.par.ccov1 - s.par.ccovmu) * mget s.C a.val b.val
        + s.par.ccov1 * (vget (updateSpec s xs).pc a.val * vget (updateSpec s xs).pc b.val
            + (1 - (updateSpec s xs).hsig) * s.par.cc * (2 - s.par.cc) * mget s.C a.val b.val)
        + s.par.ccovmu * ∑ i : Fin s.par.mu, vget s.par.weights i.val
            * ((mget xs i.val a.val - vget s.centroid a.val) / s.sigma
               * ((mget xs i.val b.val - vget s.centroid b.val) / s.sigma)) := by
  simp only [updateSpec, specC, specY, real_bridge]

/-- `σ' = σ · exp((c_σ / d_σ) (‖p_σ'‖ / chiN - 1))` -/
theorem spec_sigma (s : State ℝ) (xs : List (List ℝ)) :
    (updateSpec s xs).sigma
      = s.sigma * Real.exp (s.par.cs / s.par.damps
          * (√(∑ i : Fin s.dim, vget (updateSpec s xs).ps i.val * vget (updateSpec s xs).ps i.val) / s.chiN - 1)) := by
  simp only [updateSpec, specSigma, real_bridge]

/-- `chiN = √n (1 - 1/(4n) + 1/(21 n²))` as set by `__init__` is positive for `n ≥ 1`. -/
theorem chiN_pos (n : Nat) (hn : 1 ≤ n) : 0 < (chiNOf n : ℝ) := by
  simp only [chiNOf, real_bridge]
  exact mul_pos (Real.sqrt_pos.2 (Nat.cast_pos.2 hn)) (chi_factor_pos (Nat.one_le_cast.2 hn))

example : (1 : Nat) ≤ 5 := by decide

/-- **centroid_mean.**  Component `j` of the new centroid is `Σ_{i<μ} w_i · x_{i:λ, j}` where
`x_{i:λ}` is the `i`-th individual of the population sorted best-first. -/
theorem centroid_mean {K : Type} [LT K] [DecidableLT K]
    (eigh : List (List ℝ) → List ℝ × List (List ℝ)) (argsort : List ℝ → List Nat)
    (s : State ℝ) (pop : List (K × List ℝ)) (j : Fin s.dim) :
    vget (update eigh argsort s pop).centroid j.val
      = ∑ i : Fin s.par.mu, vget s.par.weights i.val * mget (selectBest s.par.mu pop) i.val j.val := by
  simp only [update, updateCore, newCentroid, real_bridge]

/-- `selectBest` unfolded (cma.py:133 with the slices `[0:mu]` of :136/:157) -/
theorem selectBest_eq {α K : Type} [LT K] [DecidableLT K] (mu : Nat) (pop : List (K × List α)) :
    selectBest mu pop = ((sortDesc pop).map Prod.snd).take mu := rfl

/-- cma.py:133 `population.sort(…, reverse=True)` loses and duplicates nobody. -/
theorem sort_perm {K V : Type} [LinearOrder K] (pop : List (K × V)) : (sortDesc pop).Perm pop :=
  sortDesc_perm pop

/-- The sorted population is in non-increasing fitness order. -/
theorem sort_desc {K V : Type} [LinearOrder K] (pop : List (K × V)) :
    (sortDesc pop).Pairwise (fun a b => b.1 ≤ a.1) :=
  sortDesc_sorted pop

/-- Each of the first `μ` of the sorted population is at least as fit as each of the others. -/
theorem sort_best {K V : Type} [LinearOrder K] (pop : List (K × V)) (mu : Nat) :
    ∀ x ∈ (sortDesc pop).take mu, ∀ y ∈ (sortDesc pop).drop mu, y.1 ≤ x.1 := by
  have h := sortDesc_sorted pop
  rw [← List.take_append_drop mu (sortDesc pop), List.pairwise_append] at h
  exact h.2.2

/-- with `μ ≤ len(population)` exactly `μ` individuals are recombined -/
theorem selectBest_length {α K : Type} [LinearOrder K] (mu : Nat) (pop : List (K × List α))
    (h : mu ≤ pop.length) : (selectBest mu pop).length = mu := by
  simp only [selectBest, List.length_take, List.length_map, (sortDesc_perm pop).length_eq]
  omega

example : (2 : Nat) ≤ exPop.length := by simp [exPop]

/-- **order_independent.**  If the fitnesses are pairwise distinct, passing the evaluated individuals
in any other order gives the identical strategy state (the sorted list is unique). -/
theorem order_independent {α K : Type} [RealLike α] [LinearOrder K]
    (eigh : List (List α) → List α × List (List α)) (argsort : List α → List Nat)
    (s : State α) {p q : List (K × List α)} (h : p.Perm q) (hd : (p.map Prod.fst).Nodup) :
    update eigh argsort s p = update eigh argsort s q := by
  simp only [update, selectBest, sortDesc_eq_of_perm h hd]

example : exPop.Perm exPop.reverse ∧ (exPop.map Prod.fst).Nodup := by
  refine ⟨(List.reverse_perm _).symm, ?_⟩
  simp [exPop]

/-! #### … instantiated at the key the model and the driver really sort by

`FitKey ℝ` = a fitness' weighted values under `lexLt` (`Fitness.__lt__`); `fitKeyLinearOrder` shows that this
very `<` (instances `Cma.fitKeyLT` / `Cma.fitKeyDecLT`, named explicitly below) is a linear order. -/

/-- **order_independent_fitness.**  `order_independent` for populations keyed by real fitness objects:
pairwise distinct weighted-value tuples ⇒ the order of the evaluated individuals is irrelevant. -/
theorem order_independent_fitness
    (eigh : List (List ℝ) → List ℝ × List (List ℝ)) (argsort : List ℝ → List Nat)
    (s : State ℝ) {p q : List (FitKey ℝ × List ℝ)} (h : p.Perm q)
    (hd : (p.map (fun kv => kv.1.wvalues)).Nodup) :
    @update ℝ _ (FitKey ℝ) Cma.fitKeyLT Cma.fitKeyDecLT eigh argsort s p
      = @update ℝ _ (FitKey ℝ) Cma.fitKeyLT Cma.fitKeyDecLT eigh argsort s q := by
  have hd' : (p.map Prod.fst).Nodup := by
    have : p.map (fun kv => kv.1.wvalues) = (p.map Prod.fst).map FitKey.wvalues := by simp
    rw [this] at hd
    exact hd.of_map _
  exact order_independent (K := FitKey ℝ) eigh argsort s h hd'

example : [((⟨[3, 1]⟩ : FitKey ℝ), [(1 : ℝ), 0]), (⟨[3, 2]⟩, [0, 1]), (⟨[-1]⟩, [2, 2])].Perm
      [((⟨[-1]⟩ : FitKey ℝ), [(2 : ℝ), 2]), (⟨[3, 1]⟩, [1, 0]), (⟨[3, 2]⟩, [0, 1])] ∧
    ([((⟨[3, 1]⟩ : FitKey ℝ), [(1 : ℝ), 0]), (⟨[3, 2]⟩, [0, 1]), (⟨[-1]⟩, [2, 2])].map
      (fun kv => kv.1.wvalues)).Nodup := by
  refine ⟨?_, by norm_num⟩
  exact List.perm_append_comm (l₁ := [_, _]) (l₂ := [_])

/-- **sort_best_fitness.**  After the model's sort none of the discarded individuals is strictly better
(`Fitness.__lt__`) than a selected one, and the result is a permutation of the population. -/
theorem sort_best_fitness (pop : List (FitKey ℝ × List ℝ)) (mu : Nat) :
    (@sortDesc (FitKey ℝ) (List ℝ) Cma.fitKeyLT Cma.fitKeyDecLT pop).Perm pop ∧
    ∀ x ∈ (@sortDesc (FitKey ℝ) (List ℝ) Cma.fitKeyLT Cma.fitKeyDecLT pop).take mu,
      ∀ y ∈ (@sortDesc (FitKey ℝ) (List ℝ) Cma.fitKeyLT Cma.fitKeyDecLT pop).drop mu,
        lexLt x.1.wvalues y.1.wvalues = false := by
  refine ⟨sortDesc_perm pop, ?_⟩
  intro x hx y hy
  have h := sort_best (K := FitKey ℝ) pop mu x hx y hy
  have : ¬ (x.1 < y.1) := not_lt.mpr h
  exact Bool.eq_false_iff.mpr this

/-- **C_symm.**  A symmetric covariance matrix stays symmetric (cma.py:158-162), whatever the
population, paths and learning rates. -/
theorem C_symm (s : State ℝ) (hsig : ℝ) (pc : List ℝ) (artmp : List (List ℝ))
    (hC : ∀ a b : Fin s.dim, mget s.C a.val b.val = mget s.C b.val a.val) (a b : Fin s.dim) :
    mget (newC s hsig pc artmp) a.val b.val = mget (newC s hsig pc artmp) b.val a.val := by
  simp only [newC, real_bridge]
  rw [hC a b, mul_comm (vget pc a.val)]
  congr 2
  congr 1
  refine Finset.sum_congr rfl (fun i _ => ?_)
  ring

example : ∀ a b : Fin exState.dim, mget exState.C a.val b.val = mget exState.C b.val a.val := exC_spd.1

/-- **sigma_pos.**  The step size stays positive: it is multiplied by an exponential (cma.py:164-165). -/
theorem sigma_pos {K : Type} [LT K] [DecidableLT K]
    (eigh : List (List ℝ) → List ℝ × List (List ℝ)) (argsort : List ℝ → List Nat)
    (s : State ℝ) (pop : List (K × List ℝ)) (h : 0 < s.sigma) :
    0 < (update eigh argsort s pop).sigma := by
  exact mul_pos h (Real.exp_pos _)

example : 0 < exState.sigma := two_pos

/-- **eig_reproduces.**  If `eigh` honours its contract on the new covariance matrix (orthonormal
eigenvector columns, `C' = V diag(w) Vᵀ`), its eigenvalues are non-negative and `argsort` returns a
permutation, then the stored decomposition reproduces the stored matrix:
`BD·BDᵀ = C'`, `B·diag(diagD²)·Bᵀ = C'`, `BD = B·diag(diagD)`, and `B` is orthogonal. -/
theorem eig_reproduces {K : Type} [LT K] [DecidableLT K]
    (eigh : List (List ℝ) → List ℝ × List (List ℝ)) (argsort : List ℝ → List Nat)
    (s : State ℝ) (pop : List (K × List ℝ))
    (hc : let C' := (update eigh argsort s pop).C
          EighContract s.dim C' (eigh C').1 (eigh C').2)
    (hw : ∀ k : Fin s.dim, 0 ≤ vget (eigh (update eigh argsort s pop).C).1 k.val)
    (hp : (argsort (eigh (update eigh argsort s pop).C).1).Perm (List.range s.dim)) :
    let s' := update eigh argsort s pop
    (∀ a b : Fin s.dim, ∑ k : Fin s.dim, mget s'.BD a.val k.val * mget s'.BD b.val k.val = mget s'.C a.val b.val) ∧
    (∀ a b : Fin s.dim, ∑ k : Fin s.dim, mget s'.B a.val k.val * (vget s'.diagD k.val * vget s'.diagD k.val)
        * mget s'.B b.val k.val = mget s'.C a.val b.val) ∧
    (∀ a k : Fin s.dim, mget s'.BD a.val k.val = mget s'.B a.val k.val * vget s'.diagD k.val) ∧
    (∀ a b : Fin s.dim, ∑ k : Fin s.dim, mget s'.B a.val k.val * mget s'.B b.val k.val = if a = b then 1 else 0) ∧
    (∀ k l : Fin s.dim, ∑ a : Fin s.dim, mget s'.B a.val k.val * mget s'.B a.val l.val = if k = l then 1 else 0) := by
  intro s'
  exact ⟨eigSorted_BD_BDT hc hp hw, eigSorted_B_D2_BT hc hp hw, fun a k => eigSorted_BD a k,
    eigSorted_B_rows hc hp, eigSorted_B_cols hc hp⟩

/-- the same for the decomposition `__init__` stores (cma.py:100-106) -/
theorem init_eig_reproduces
    (eigh : List (List ℝ) → List ℝ × List (List ℝ)) (argsort : List ℝ → List Nat)
    (centroid : List ℝ) (sigma : ℝ) (o : Over ℝ)
    (hc : let s0 := init eigh argsort centroid sigma o
          EighContract s0.dim s0.C (eigh s0.C).1 (eigh s0.C).2)
    (hw : let s0 := init eigh argsort centroid sigma o
          ∀ k : Fin s0.dim, 0 ≤ vget (eigh s0.C).1 k.val)
    (hp : let s0 := init eigh argsort centroid sigma o
          (argsort (eigh s0.C).1).Perm (List.range s0.dim)) :
    let s0 := init eigh argsort centroid sigma o
    (∀ a b : Fin s0.dim, ∑ k : Fin s0.dim, mget s0.BD a.val k.val * mget s0.BD b.val k.val = mget s0.C a.val b.val) ∧
    (∀ a b : Fin s0.dim, ∑ k : Fin s0.dim, mget s0.B a.val k.val * (vget s0.diagD k.val * vget s0.diagD k.val)
        * mget s0.B b.val k.val = mget s0.C a.val b.val) := by
  intro s0
  exact ⟨eigSorted_BD_BDT hc hp hw, eigSorted_B_D2_BT hc hp hw⟩

/-- the hypotheses of `eig_reproduces` are satisfiable: `C = diag(1, 4)` with the eigenpairs listed in
decreasing order (so that the `argsort` permutation is not the identity) -/
example : EighContract 2 [[1, 0], [0, 4]] [4, 1] [[0, 1], [1, 0]] ∧ (∀ k : Fin 2, 0 ≤ vget [(4 : ℝ), 1] k.val)
    ∧ [1, 0].Perm (List.range 2) := by
  refine ⟨⟨?_, ?_⟩, ?_, by decide⟩ <;> simp [Fin.forall_fin_two, Fin.sum_univ_two]

/-- **weights_pos_noninc_sum1.**  For each of the three schemes and every `μ ≥ 1` the weights that
`computeParams` stores have length `μ`, are positive, non-increasing in the rank, and sum to one. -/
theorem weights_pos_noninc_sum1 (dim lambda_ : Nat) (o : Over ℝ)
    (hmu : 1 ≤ (computeParams dim lambda_ o).mu) :
    let p := computeParams dim lambda_ o
    p.weights.length = p.mu ∧ (∀ i : Fin p.mu, 0 < vget p.weights i.val) ∧
    (∀ i j : Fin p.mu, i ≤ j → vget p.weights j.val ≤ vget p.weights i.val) ∧
    ∑ i : Fin p.mu, vget p.weights i.val = 1 :=
  weights_facts o.scheme hmu

example : 1 ≤ (computeParams 5 8 ({ } : Over ℝ)).mu := by
  decide

/-- the documented default `mu = int(lambda_ / 2)` never exceeds `lambda_`, and is at least 1 for `λ ≥ 2` -/
theorem mu_default (dim lambda_ : Nat) (o : Over ℝ) (h : o.mu = none) :
    (computeParams dim lambda_ o).mu = lambda_ / 2 ∧ (computeParams dim lambda_ o).mu ≤ lambda_ ∧
    (2 ≤ lambda_ → 1 ≤ (computeParams dim lambda_ o).mu) := by
  have hm : (computeParams dim lambda_ o).mu = lambda_ / 2 := by simp [computeParams, h]
  omega

example : ({ } : Over ℝ).mu = none := rfl

/-- a user-supplied `mu` is taken as is -/
theorem mu_user (dim lambda_ m : Nat) (o : Over ℝ) (h : o.mu = some m) :
    (computeParams dim lambda_ o).mu = m := by
  simp only [computeParams, h, Option.getD_some]

/-- the weights in closed form: `w_i = r_i / Σ r` with `r_i = ln(μ + 1/2) - ln i` (superlinear),
`μ + 1/2 - i` (linear), `1` (equal), `i = 1..μ` -/
theorem weights_closed_form (dim lambda_ : Nat) (o : Over ℝ) (i : Fin (computeParams dim lambda_ o).mu) :
    let p := computeParams dim lambda_ o
    vget p.weights i.val = rawW o.scheme p.mu i.val / ∑ k : Fin p.mu, rawW o.scheme p.mu k.val := by
  intro p
  have : p.weights = tab p.mu (fun i => rawW o.scheme p.mu i / ∑ k : Fin p.mu, rawW o.scheme p.mu k.val) :=
    weights_eq o.scheme p.mu
  rw [this, vget_tab_fin]

/-- **documented defaults** (the table in the `Strategy` docstring), `N = dim`:
`μ_eff = 1/Σw²`, `cc = 4/(N+4)`, `cs = (μ_eff+2)/(N+μ_eff+3)`, `ccov1 = 2/((N+1.3)²+μ_eff)`,
`ccovmu = min(1-ccov1, 2(μ_eff-2+1/μ_eff)/((N+2)²+μ_eff))`,
`damps = 1 + 2 max(0, √((μ_eff-1)/(N+1)) - 1) + cs`. -/
theorem params_defaults (dim lambda_ : Nat) (sch : Scheme) (mu : Option Nat) :
    let p := computeParams dim lambda_ ({ scheme := sch, mu := mu } : Over ℝ)
    p.mueff = 1 / (p.weights.map (fun x => x ^ 2)).sum ∧
    p.cc = 4 / ((dim : ℝ) + 4) ∧
    p.cs = (p.mueff + 2) / ((dim : ℝ) + p.mueff + 3) ∧
    p.ccov1 = 2 / (((dim : ℝ) + 13 / 10) ^ 2 + p.mueff) ∧
    p.ccovmu = min (1 - p.ccov1) (2 * (p.mueff - 2 + 1 / p.mueff) / (((dim : ℝ) + 2) ^ 2 + p.mueff)) ∧
    p.damps = 1 + 2 * max 0 (√((p.mueff - 1) / ((dim : ℝ) + 1)) - 1) + p.cs := by
  simp only [computeParams, mueffOf, Option.getD_none, real_bridge, and_self]

/-- user-supplied learning rates are stored as given (`ccovmu` after the `min` of cma.py:205) -/
theorem params_user (dim lambda_ : Nat) (o : Over ℝ) (cs damps ccum ccov1 ccovmu : ℝ)
    (h1 : o.cs = some cs) (h2 : o.damps = some damps) (h3 : o.ccum = some ccum) (h4 : o.ccov1 = some ccov1)
    (h5 : o.ccovmu = some ccovmu) :
    let p := computeParams dim lambda_ o
    p.cs = cs ∧ p.damps = damps ∧ p.cc = ccum ∧ p.ccov1 = ccov1 ∧ p.ccovmu = min (1 - ccov1) ccovmu := by
  simp only [computeParams, h1, h2, h3, h4, h5, Option.getD_some, real_bridge, and_self]

example : ({ cs := some (1 / 2), damps := some 2, ccum := some (1 / 3), ccov1 := some (1 / 10),
             ccovmu := some 2 } : Over ℝ).ccovmu = some 2 := rfl

/-- `generate` succeeds exactly when the tape still holds `lambda_ · dim` draws -/
theorem generate_some_iff {α I : Type} [RealLike α] (s : State α) (tape : List α) (indInit : List α → I) :
    (generate s tape indInit).isSome ↔ s.lambda_ * s.dim ≤ tape.length := by
  simp only [generate, drawArz]
  split_ifs with h <;> simp [h]

/-- **generate_shape.**  `generate` returns exactly `lambda_` individuals and consumes exactly `lambda_ · dim`
draws; individual `i` is the given initialiser applied to the sample point of the `i`-th block of `dim` draws,
a vector of the problem dimension. -/
theorem generate_shape {α I : Type} [RealLike α] (s : State α) (tape : List α) (indInit : List α → I)
    (inds : List I) (rest : List α) (h : generate s tape indInit = some (inds, rest)) :
    inds.length = s.lambda_ ∧ rest = tape.drop (s.lambda_ * s.dim) ∧
    ∀ i (hi : i < inds.length),
      let z := (tape.drop (i * s.dim)).take s.dim
      z.length = s.dim ∧ (samplePoint s z).length = s.dim ∧ inds[i] = indInit (samplePoint s z) := by
  simp only [generate, drawArz] at h
  split_ifs at h with hlen
  simp only [Option.some.injEq, Prod.mk.injEq] at h
  obtain ⟨h1, h2⟩ := h
  subst h1 h2
  refine ⟨by simp, rfl, ?_⟩
  intro i hi z
  have hi' : i < s.lambda_ := by simpa using hi
  refine ⟨?_, by simp only [samplePoint, length_tab], by simp [z]⟩
  simp only [z, List.length_take, List.length_drop]
  have : (i + 1) * s.dim ≤ s.lambda_ * s.dim := Nat.mul_le_mul_right _ hi'
  have h3 : (i + 1) * s.dim = i * s.dim + s.dim := by ring
  omega

example : (generate exState [1, 2, 3, 4, 5, 6, 7, 8, 9] (fun x => x)).isSome := by
  rw [generate_some_iff]; simp [exState]

/-- **relambda.**  After the documented way of changing the population size,
`strategy.lambda_ = lam; strategy.computeParams(strategy.params)`, the strategy's `lambda_` is the new value,
the parameters are those derived from the new `lambda_` (default `mu = lam / 2`, weights, μ_eff, rates — the
`computeParams` theorems above, `weights_pos_noninc_sum1` … `params_user`, apply to them), the search distribution is untouched, and `generate` returns exactly
`lam` individuals. -/
theorem relambda_spec {α I : Type} [RealLike α] (s : State α) (lam : Nat) (o : Over α) :
    let s' := relambda s lam o
    s'.lambda_ = lam ∧ s'.par = computeParams s.dim lam o ∧ (o.mu = none → s'.par.mu = lam / 2) ∧
    s'.dim = s.dim ∧ s'.centroid = s.centroid ∧ s'.sigma = s.sigma ∧ s'.C = s.C ∧ s'.B = s.B ∧
    s'.diagD = s.diagD ∧ s'.BD = s.BD ∧ s'.pc = s.pc ∧ s'.ps = s.ps ∧ s'.updateCount = s.updateCount ∧
    ∀ (tape : List α) (indInit : List α → I) inds rest,
      generate s' tape indInit = some (inds, rest) → inds.length = lam := by
  intro s'
  refine ⟨rfl, rfl, ?_, rfl, rfl, rfl, rfl, rfl, rfl, rfl, rfl, rfl, rfl, ?_⟩
  · intro h; simp [s', relambda, computeParams, h]
  · intro tape indInit inds rest h
    exact (generate_shape s' tape indInit inds rest h).1

/-- **sample_affine.**  Each sampled point is the affine image `m + σ · BD z` of its standard-normal draw. -/
theorem sample_affine (s : State ℝ) (z : List ℝ) (j : Fin s.dim) :
    vget (samplePoint s z) j.val
      = vget s.centroid j.val + s.sigma * ∑ k : Fin s.dim, mget s.BD j.val k.val * vget z k.val := by
  simp only [samplePoint, real_bridge]
  congr 2
  refine Finset.sum_congr rfl (fun k _ => mul_comm _ _)

/-- **sample_cov.**  The linear part `A = σ·BD` of that map satisfies `A Aᵀ = σ² C` whenever the stored
decomposition reproduces `C` (`eig_reproduces`); hence for `z ~ N(0, I)` (numpy's sampler, trusted) the
points are distributed around the centroid with covariance `σ² C`. -/
theorem sample_cov (s : State ℝ)
    (h : ∀ a b : Fin s.dim, ∑ k : Fin s.dim, mget s.BD a.val k.val * mget s.BD b.val k.val = mget s.C a.val b.val)
    (a b : Fin s.dim) :
    ∑ k : Fin s.dim, (s.sigma * mget s.BD a.val k.val) * (s.sigma * mget s.BD b.val k.val)
      = s.sigma ^ 2 * mget s.C a.val b.val := by
  rw [← h a b, Finset.mul_sum]
  refine Finset.sum_congr rfl (fun k _ => by ring)

example : ∀ a b : Fin exState.dim,
    ∑ k : Fin exState.dim, mget exState.BD a.val k.val * mget exState.BD b.val k.val = mget exState.C a.val b.val := by
  show ∀ a b : Fin 2, ∑ k : Fin 2, mget [[(1 : ℝ), 0], [0, 2]] a.val k.val * mget [[(1 : ℝ), 0], [0, 2]] b.val k.val
      = mget [[(1 : ℝ), 0], [0, 4]] a.val b.val
  norm_num [Fin.forall_fin_two, Fin.sum_univ_two]

/-! ### The consistency clauses along whole histories

`eig_reproduces` needs non-negative eigenvalues.  They follow from the `eigh` contract once the
covariance matrix is positive semi-definite, and the update preserves that for learning rates with
`0 ≤ c₁`, `0 ≤ c_μ`, `c₁ + c_μ ≤ 1` (this is what the `min` of cma.py:205 is for), `0 ≤ c_c ≤ 2` and
non-negative weights — in particular for the documented defaults. -/

/-- the conditions on the learning rates under which `C` stays positive semi-definite and the step-size
path is well defined (`0 < cs < 2`, `damps > 0`: no division by zero in `h_σ` and in the σ update) -/
structure RatesOk (p : Params ℝ) : Prop where
  c1 : 0 ≤ p.ccov1
  cmu : 0 ≤ p.ccovmu
  sum : p.ccov1 + p.ccovmu ≤ 1
  cc0 : 0 ≤ p.cc
  cc2 : p.cc ≤ 2
  w : ∀ i : Fin p.mu, 0 ≤ vget p.weights i.val
  cs0 : 0 < p.cs
  cs2 : p.cs < 2
  damps : 0 < p.damps

/-- what the next `update` relies on -/
structure Pre (s : State ℝ) : Prop where
  sigma_pos : 0 < s.sigma
  symm : ∀ a b : Fin s.dim, mget s.C a.val b.val = mget s.C b.val a.val
  psd : PSD s.dim s.C
  rates : RatesOk s.par

/-- the consistency clauses of the property on a stored state -/
structure Consistent (s : State ℝ) : Prop where
  sigma_pos : 0 < s.sigma
  symm : ∀ a b : Fin s.dim, mget s.C a.val b.val = mget s.C b.val a.val
  bdbd : ∀ a b : Fin s.dim, ∑ k : Fin s.dim, mget s.BD a.val k.val * mget s.BD b.val k.val = mget s.C a.val b.val
  bd2b : ∀ a b : Fin s.dim, ∑ k : Fin s.dim, mget s.B a.val k.val * (vget s.diagD k.val * vget s.diagD k.val)
      * mget s.B b.val k.val = mget s.C a.val b.val
  bd : ∀ a k : Fin s.dim, mget s.BD a.val k.val = mget s.B a.val k.val * vget s.diagD k.val
  rows : ∀ a b : Fin s.dim, ∑ k : Fin s.dim, mget s.B a.val k.val * mget s.B b.val k.val = if a = b then 1 else 0
  cols : ∀ k l : Fin s.dim, ∑ a : Fin s.dim, mget s.B a.val k.val * mget s.B a.val l.val = if k = l then 1 else 0

/-- the contract of the two numerical parameters for matrices of size `n`: on every symmetric matrix
`eigh` returns `n` eigenvalues and an orthonormal eigenvector matrix reconstructing it; `argsort`
returns a permutation of the positions -/
structure NumericsOk (n : Nat) (eigh : List (List ℝ) → List ℝ × List (List ℝ)) (argsort : List ℝ → List Nat) : Prop where
  eighOk : ∀ C : List (List ℝ), (∀ a b : Fin n, mget C a.val b.val = mget C b.val a.val) →
    EighContract n C (eigh C).1 (eigh C).2
  argsortOk : ∀ C : List (List ℝ), (argsort (eigh C).1).Perm (List.range n)

/-- **update_psd.**  The covariance update keeps `C` positive semi-definite. -/
theorem update_psd {K : Type} [LT K] [DecidableLT K]
    (eigh : List (List ℝ) → List ℝ × List (List ℝ)) (argsort : List ℝ → List Nat)
    (s : State ℝ) (pop : List (K × List ℝ)) (hpsd : PSD s.dim s.C) (hr : RatesOk s.par) :
    PSD s.dim (update eigh argsort s pop).C :=
  newC_psd s _ _ _ hpsd (k1_nonneg hr.c1 hr.sum hr.cc0 hr.cc2 (hsigOf_cases s _)) hr.c1 hr.cmu hr.w

/-- **update_consistent.**  One update of a state satisfying `Pre`, with numerics honouring their
contract, gives a state satisfying all consistency clauses, and `Pre` again. -/
theorem update_consistent {K : Type} [LT K] [DecidableLT K]
    (eigh : List (List ℝ) → List ℝ × List (List ℝ)) (argsort : List ℝ → List Nat)
    (s : State ℝ) (pop : List (K × List ℝ)) (hs : Pre s) (hn : NumericsOk s.dim eigh argsort) :
    Pre (update eigh argsort s pop) ∧ Consistent (update eigh argsort s pop) := by
  have hsym : ∀ a b : Fin s.dim, mget (update eigh argsort s pop).C a.val b.val
      = mget (update eigh argsort s pop).C b.val a.val := C_symm s _ _ _ hs.symm
  have hpsd := update_psd eigh argsort s pop hs.psd hs.rates
  have hσ := sigma_pos eigh argsort s pop hs.sigma_pos
  have hc := hn.eighOk _ hsym
  have hw := eigvals_nonneg hc hpsd
  obtain ⟨h1, h2, h3, h4, h5⟩ := eig_reproduces eigh argsort s pop hc hw (hn.argsortOk _)
  exact ⟨⟨hσ, hsym, hpsd, hs.rates⟩, ⟨hσ, hsym, h1, h2, h3, h4, h5⟩⟩

/-- `Pre` — `σ > 0`, `C` symmetric positive semi-definite, admissible rates — and `Consistent` hold after every
update of every history started from a state satisfying `Pre`. -/
theorem history_pre {K : Type} [LT K] [DecidableLT K]
    (eigh : List (List ℝ) → List ℝ × List (List ℝ)) (argsort : List ℝ → List Nat)
    (s : State ℝ) (hs : Pre s) (hn : NumericsOk s.dim eigh argsort)
    (pop : List (K × List ℝ)) (pops : List (List (K × List ℝ))) :
    Pre ((pop :: pops).foldl (update eigh argsort) s) ∧ Consistent ((pop :: pops).foldl (update eigh argsort) s) := by
  induction pops generalizing s pop with
  | nil => exact update_consistent eigh argsort s pop hs hn
  | cons q qs ih => exact ih (update eigh argsort s pop) (update_consistent eigh argsort s pop hs hn).1 hn q

/-- **history_consistent.**  After every update of every history (any populations, any number of
generations) started from a state satisfying `Pre`, the strategy state is consistent: σ > 0, C symmetric,
`BD·BDᵀ = C = B·diag(diagD²)·Bᵀ`, `B` orthogonal. -/
theorem history_consistent {K : Type} [LT K] [DecidableLT K]
    (eigh : List (List ℝ) → List ℝ × List (List ℝ)) (argsort : List ℝ → List Nat)
    (s : State ℝ) (hs : Pre s) (hn : NumericsOk s.dim eigh argsort)
    (pop : List (K × List ℝ)) (pops : List (List (K × List ℝ))) :
    Consistent ((pop :: pops).foldl (update eigh argsort) s) :=
  (history_pre eigh argsort s hs hn pop pops).2

/-- `__init__` establishes `Pre`: positive `sigma`, admissible rates, and a covariance matrix that is either
the default identity or a user-supplied symmetric positive semi-definite `cmatrix`. -/
theorem init_pre (eigh : List (List ℝ) → List ℝ × List (List ℝ)) (argsort : List ℝ → List Nat)
    (centroid : List ℝ) (sigma : ℝ) (o : Over ℝ) (hσ : 0 < sigma)
    (hcm : ∀ M, o.cmatrix = some M →
      (∀ a b : Fin centroid.length, mget M a.val b.val = mget M b.val a.val) ∧ PSD centroid.length M)
    (hr : RatesOk (init eigh argsort centroid sigma o).par) :
    Pre (init eigh argsort centroid sigma o) := by
  refine ⟨hσ, ?_, ?_, hr⟩
  · show ∀ a b : Fin centroid.length, mget (o.cmatrix.getD (identity centroid.length)) a.val b.val
        = mget (o.cmatrix.getD (identity centroid.length)) b.val a.val
    intro a b
    cases hM : o.cmatrix with
    | none => rw [Option.getD_none, identity_mget, identity_mget]; simp only [eq_comm]
    | some M => rw [Option.getD_some]; exact (hcm M hM).1 a b
  · show PSD centroid.length (o.cmatrix.getD (identity centroid.length))
    cases hM : o.cmatrix with
    | none => rw [Option.getD_none]; exact identity_psd _
    | some M => rw [Option.getD_some]; exact (hcm M hM).2

/-- a user-supplied SPD `cmatrix` satisfying the hypothesis of `init_pre`: `diag(1, 4)` -/
example : ∀ M, ({ cmatrix := some [[1, 0], [0, 4]] } : Over ℝ).cmatrix = some M →
    (∀ a b : Fin 2, mget M a.val b.val = mget M b.val a.val) ∧ PSD 2 M := by
  intro M hM
  obtain rfl := Option.some.inj hM
  exact exC_spd

/-- the hypothesis `Pre` of `history_consistent` is satisfiable: the example state (for `NumericsOk` see the next example
and `numericsOk_satisfiable`) -/
example : Pre exState := by
  refine ⟨two_pos, exC_spd.1, exC_spd.2, ?_⟩
  delta exState
  refine ⟨by norm_num, by norm_num, by norm_num, by norm_num, by norm_num, ?_, by norm_num, by norm_num, by norm_num⟩
  show ∀ i : Fin 2, 0 ≤ vget [(3 / 4 : ℝ), 1 / 4] i.val
  norm_num [Fin.forall_fin_two]

/-- `NumericsOk` is satisfiable (dimension 1: a 1×1 matrix is its own eigenvalue, `V = (1)`) -/
example : NumericsOk 1 (fun C => ([mget C 0 0], [[1]])) (fun _ => [0]) := by
  refine ⟨?_, fun _ => by decide⟩
  intro C _
  refine ⟨?_, ?_⟩
  · simp
  · simp

/-- **numericsOk_satisfiable.**  For every dimension there are numerics honouring the contract (Mathlib's
spectral theorem for real symmetric matrices; `argsort` = the identity permutation), so the hypothesis of
`history_consistent` is satisfiable for every `n`. -/
theorem numericsOk_satisfiable (n : Nat) : NumericsOk n (eighSpectral n) (fun _ => List.range n) :=
  ⟨fun C hC => eighSpectral_contract n C hC, fun _ => List.Perm.refl _⟩

/-- **default_rates_ok.**  The documented default learning rates (any scheme, any `μ ≥ 1`, `N ≥ 1`) satisfy
the conditions `RatesOk` (in particular `0 < cs < 2` and `damps > 0`). -/
theorem default_rates_ok (dim lambda_ : Nat) (sch : Scheme) (mu : Option Nat) (hdim : 1 ≤ dim)
    (hmu : 1 ≤ (computeParams dim lambda_ ({ scheme := sch, mu := mu } : Over ℝ)).mu) :
    RatesOk (computeParams dim lambda_ ({ scheme := sch, mu := mu } : Over ℝ)) := by
  obtain ⟨-, -, -, hc1, hcmu, hd⟩ := params_defaults dim lambda_ sch mu
  obtain ⟨hlen, hpos, -, -⟩ := weights_pos_noninc_sum1 dim lambda_ _ hmu
  have hme : 0 < (computeParams dim lambda_ ({ scheme := sch, mu := mu } : Over ℝ)).mueff :=
    mueffOf_pos _ hlen hmu hpos
  obtain ⟨a1, a2, a3, a4, a5, a6, a7⟩ := default_rates (Nat.one_le_cast.2 hdim) hme
  rw [← hc1] at a1 a2
  refine ⟨a1, ?_, ?_, a4, a5, fun i => (hpos i).le, a6, a7, ?_⟩
  · rw [hcmu]; exact le_min (sub_nonneg.2 a2) a3
  · exact le_sub_iff_add_le'.1 (hcmu.trans_le (min_le_left _ _))
  · rw [hd]; exact add_pos_of_nonneg_of_pos (add_nonneg zero_le_one (mul_nonneg zero_le_two (le_max_left _ _))) a6

example : 1 ≤ (computeParams 5 8 ({ scheme := .linear, mu := none } : Over ℝ)).mu := by
  decide

/-- **lambda_default.**  The default population size is `⌊4 + 3 ln N⌋` (cma.py:110) and at least 4. -/
theorem lambda_default (dim : Nat) (h : 1 ≤ dim) :
    defaultLambda ℝ dim = ⌊4 + 3 * Real.log dim⌋₊ ∧ 4 ≤ defaultLambda ℝ dim := by
  obtain ⟨l0, l1⟩ := lambda_arg_range (Nat.one_le_cast.2 h)
  have heq : defaultLambda ℝ dim = ⌊4 + 3 * Real.log dim⌋₊ :=
    natFloor_eq_floor (le_trans (by norm_num) l0) (by push_cast; exact l1)
  exact ⟨heq, heq ▸ Nat.le_floor (by rw [Nat.cast_ofNat]; exact l0)⟩

example : (1 : Nat) ≤ 2 := by decide

/-! ### Several strategies, the caller's parameter objects, and re-parameterisation

`Core/Cma.lean` (`World`, `Step`): a program holding several strategies and the objects it passed to their
constructors.  The theorems say that a strategy's trajectory is a function of ITS OWN history only and that no
step of the library changes a caller object.  They are immediate for a value-semantics model; their content is the
reading they fix for the correspondence stream `alias` of harness/props/c13.py, which runs the implementation with
shared / reused / caller-modified parameter objects and compares every strategy with its own separate replay. -/

/-- **update_frame.**  `strats[k].update(pop)` changes position `k` only: every other strategy, the number of
strategies and all parameter objects of the caller are what they were; position `k` holds `update` of its own
previous state. -/
theorem update_frame {α K : Type} [RealLike α] [LT K] [DecidableLT K]
    (eigh : List (List α) → List α × List (List α)) (argsort : List α → List Nat)
    (w : World α) (k : Nat) (pop : List (K × List α)) :
    let w' := Step.apply eigh argsort w (Step.update k pop)
    w'.args = w.args ∧ w'.strats.length = w.strats.length ∧
    (∀ j, j ≠ k → w'.strats[j]? = w.strats[j]?) ∧
    w'.strats[k]? = (w.strats[k]?).map (fun s => update eigh argsort s pop) := by
  intro w'
  refine ⟨rfl, ?_, ?_, ?_⟩
  · simp [w', Step.apply]
  · intro j hj
    exact List.getElem?_modify_ne _ _ (Ne.symm hj)
  · simp only [w', Step.apply]
    rw [List.getElem?_modify_eq]; rfl

/-- no step of the library changes a parameter object of the caller: only the caller's own `setArg` does -/
theorem args_frame {α K : Type} [RealLike α] [LT K] [DecidableLT K]
    (eigh : List (List α) → List α × List (List α)) (argsort : List α → List Nat)
    (w : World α) (steps : List (Step α K))
    (h : ∀ st ∈ steps, ∀ i a, st ≠ Step.setArg i a) :
    (runSteps eigh argsort w steps).args = w.args := by
  induction steps generalizing w with
  | nil => rfl
  | cons st rest ih =>
    simp only [runSteps, List.foldl_cons]
    have hrest : ∀ st ∈ rest, ∀ i a, st ≠ Step.setArg i a := fun s hs => h s (List.mem_cons_of_mem _ hs)
    have := ih (Step.apply eigh argsort w st) hrest
    simp only [runSteps] at this
    rw [this]
    cases st with
    | update k pop => rfl
    | relambda k lam o => rfl
    | setArg i a => exact absurd rfl (h _ List.mem_cons_self i a)
    | spawn i =>
      simp only [Step.apply]
      cases w.args[i]? <;> rfl

theorem step_length_le {α K : Type} [RealLike α] [LT K] [DecidableLT K]
    (eigh : List (List α) → List α × List (List α)) (argsort : List α → List Nat)
    (w : World α) (st : Step α K) : w.strats.length ≤ (Step.apply eigh argsort w st).strats.length := by
  cases st with
  | update k pop => simp [Step.apply]
  | relambda k lam o => simp [Step.apply]
  | setArg i a => simp [Step.apply]
  | spawn i =>
    simp only [Step.apply]
    cases w.args[i]? <;> simp

/-- one step, seen from strategy `j`: its own `onState` if the step addresses `j`, nothing otherwise -/
theorem step_local {α K : Type} [RealLike α] [LT K] [DecidableLT K]
    (eigh : List (List α) → List α × List (List α)) (argsort : List α → List Nat)
    (w : World α) (st : Step α K) (j : Nat) (hj : j < w.strats.length) :
    (Step.apply eigh argsort w st).strats[j]?
      = (w.strats[j]?).map (fun s => if st.touches j then st.onState eigh argsort s else s) := by
  have hsome : w.strats[j]? = some w.strats[j] := List.getElem?_eq_getElem hj
  cases st with
  | update k pop =>
    simp only [Step.apply, Step.touches, Step.onState, List.getElem?_modify, hsome]
    by_cases hk : k = j <;> simp [hk]
  | relambda k lam o =>
    simp only [Step.apply, Step.touches, Step.onState, List.getElem?_modify, hsome]
    by_cases hk : k = j <;> simp [hk]
  | setArg i a => simp [Step.apply, Step.touches, hsome]
  | spawn i =>
    simp only [Step.apply, Step.touches]
    cases w.args[i]? with
    | none => simp [hsome]
    | some a => simp [List.getElem?_append_left hj, hsome]

example : (1 : Nat) < ({ args := [], strats := [exState, exState] } : World ℝ).strats.length := by simp

/-- **strategies_independent.**  Whatever the program does — updates of the strategies in any interleaving,
re-parameterisations, the caller overwriting the objects he passed to the constructors, further strategies built
from those objects — the state of strategy `j` at the end is the result of applying, to ITS OWN initial state, the
steps addressed to `j`, in their order.  Steps addressed to other strategies, caller writes and restarts drop out. -/
theorem strategies_independent {α K : Type} [RealLike α] [LT K] [DecidableLT K]
    (eigh : List (List α) → List α × List (List α)) (argsort : List α → List Nat)
    (w : World α) (steps : List (Step α K)) (j : Nat) (hj : j < w.strats.length) :
    (runSteps eigh argsort w steps).strats[j]?
      = (w.strats[j]?).map (fun s =>
          (steps.filter (fun st => st.touches j)).foldl (fun s st => st.onState eigh argsort s) s) := by
  induction steps generalizing w with
  | nil => simp [runSteps]
  | cons st rest ih =>
    have hj' : j < (Step.apply eigh argsort w st).strats.length :=
      lt_of_lt_of_le hj (step_length_le eigh argsort w st)
    have h := ih (Step.apply eigh argsort w st) hj'
    simp only [runSteps, List.foldl_cons] at h ⊢
    rw [h, step_local eigh argsort w st j hj, List.getElem?_eq_getElem hj]
    by_cases ht : st.touches j = true
    · simp [ht]
    · simp [ht]

example : (0 : Nat) < ({ args := [], strats := [exState] } : World ℝ).strats.length := by simp

/-- **restart_fresh.**  A strategy built from parameter object `i` after the program has run (restart) starts
from exactly the state a strategy built from it at the beginning would have had, unless the CALLER overwrote an
object himself: `init` reads values, and nothing the library did in between changed them. -/
theorem restart_fresh {α K : Type} [RealLike α] [LT K] [DecidableLT K]
    (eigh : List (List α) → List α × List (List α)) (argsort : List α → List Nat)
    (w : World α) (steps : List (Step α K)) (i : Nat) (a : Args α)
    (h : ∀ st ∈ steps, ∀ i a, st ≠ Step.setArg i a) (ha : w.args[i]? = some a) :
    let w1 := runSteps eigh argsort w steps
    (Step.apply eigh argsort w1 (Step.spawn i : Step α K)).strats
      = w1.strats ++ [init eigh argsort a.centroid a.sigma a.o] := by
  intro w1
  have hargs : w1.args = w.args := args_frame eigh argsort w steps h
  simp only [Step.apply, hargs, ha]

example : ∀ st ∈ ([Step.update 0 exPop, Step.spawn 0] : List (Step ℝ Int)), ∀ i a, st ≠ Step.setArg i a := by
  intro st hst i a
  simp only [List.mem_cons, List.mem_nil_iff, or_false] at hst
  rcases hst with rfl | rfl <;> exact fun h => by cases h

/-- **computeParams_refresh.**  After `strategy.lambda_ = lam; strategy.computeParams(params)` the next update is
computed with the refreshed parameters only: it is the update of the state whose `mu`, weights, `mueff` and
learning rates are `computeParams dim lam params`, whatever parameters (and `lambda_`) the strategy had before —
no value derived from the old `lambda_` survives.  Under the guard the new covariance matrix is the published
expression with the refreshed `c_1`, `c_μ`, `c_c` and weights. -/
theorem computeParams_refresh {K : Type} [LT K] [DecidableLT K]
    (eigh : List (List ℝ) → List ℝ × List (List ℝ)) (argsort : List ℝ → List Nat)
    (s : State ℝ) (lam : Nat) (o : Over ℝ) (pop : List (K × List ℝ)) :
    let p := computeParams s.dim lam o
    let s1 := relambda s lam o
    let s' := update eigh argsort s1 pop
    s'.par = p ∧ s'.lambda_ = lam ∧
    (∀ (p0 : Params ℝ) (l0 : Nat),
      update eigh argsort (relambda { s with par := p0, lambda_ := l0 } lam o) pop = s') ∧
    (WellPosed s1 → ∑ i : Fin p.mu, vget p.weights i.val = 1 →
      ∀ a b : Fin s.dim,
        let xs := selectBest p.mu pop
        let r := updateSpec s1 xs
        mget s'.C a.val b.val
          = (1 - p.ccov1 - p.ccovmu) * mget s.C a.val b.val
            + p.ccov1 * (vget r.pc a.val * vget r.pc b.val + (1 - r.hsig) * p.cc * (2 - p.cc) * mget s.C a.val b.val)
            + p.ccovmu * ∑ i : Fin p.mu, vget p.weights i.val
                * ((mget xs i.val a.val - vget s.centroid a.val) / s.sigma
                   * ((mget xs i.val b.val - vget s.centroid b.val) / s.sigma))) := by
  intro p s1 s'
  refine ⟨rfl, rfl, fun _ _ => rfl, ?_⟩
  intro hwp hw a b xs r
  have hC : s'.C = r.C := congrArg Core.C (update_eq_spec s1 xs hwp hw)
  rw [hC]
  exact spec_C s1 xs a b

/-- the parameters of the example below: `mu = 2`, user-supplied `cs = 1/2`, `damps = 1` -/
noncomputable def exOver : Over ℝ := { mu := some 2, scheme := .equal, cs := some (1 / 2), damps := some 1 }

example : WellPosed (relambda exState 6 exOver) ∧
    ∑ i : Fin (computeParams exState.dim 6 exOver).mu, vget (computeParams exState.dim 6 exOver).weights i.val = 1 :=
  ⟨⟨two_pos, one_pos, one_half_pos, exState_wellPosed.cs_lt, one_ne_zero, exState_wellPosed.diagD_pos⟩,
    (weights_pos_noninc_sum1 exState.dim 6 exOver (by decide)).2.2.2⟩

end C13
