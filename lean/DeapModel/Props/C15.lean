/-
C15 — Hypervolume is the exact dominated volume; the indicator finds the least contributor.
Property theorems only.  Models: `Core/Hypervolume.lean` (the specification `hvCells`, the executable reference
`hvSlice`, the two wrappers) and `Core/HvSweep.lean` / `Core/HvC.lean` (the dimension-sweep algorithms of `pyhv.py`
and `_hv.c`, transcribed; proved below to return the specification).

Reading of the objects: a point is a `List ℚ`, its `j`-th coordinate is `p.getD j 0`; the dimension is
`ref.length`; minimisation is implicit, the box of `p` is `∏ⱼ [pⱼ, refⱼ)`.
-/
import DeapModel.Lemmas.C15Measure
import DeapModel.Lemmas.C15HvCFinal

namespace C15
open Hypervolume MeasureTheory

/-- **`hvCells` is the dominated volume**: for every reference point, every dimension `d = ref.length`
and every finite list of points, the Lebesgue measure on `ℝ^d` of `⋃ₚ ∏ⱼ [pⱼ, refⱼ)` equals the
finite cell sum `hvCells ref pts`.  (No hypothesis: a point beyond the reference in some coordinate
has an empty box on both sides.) -/
theorem hvCells_eq_volume (ref : List ℚ) (pts : List Pt) :
    volume (⋃ p ∈ pts, Set.pi Set.univ
        (fun j : Fin ref.length => Set.Ico (((p.getD j 0 : ℚ)) : ℝ) (((ref.getD j 0 : ℚ)) : ℝ)))
      = ENNReal.ofReal ((hvCells ref pts : ℚ) : ℝ) :=
  volume_unionBoxes ref pts

/-- **Discrete Fubini**: the executable slicing recursion (the reference the implementations are
diffed against) computes the specification — so it inherits every statement below. -/
theorem hvSlice_eq_hvCells (ref : List ℚ) (pts : List Pt) : hvSlice ref pts = hvCells ref pts :=
  hvSlice_eq_hvCells' ref pts

/-- The executable definition is the Lebesgue measure of the union of the boxes. -/
theorem hvSlice_eq_volume (ref : List ℚ) (pts : List Pt) :
    volume (⋃ p ∈ pts, Set.pi Set.univ
        (fun j : Fin ref.length => Set.Ico (((p.getD j 0 : ℚ)) : ℝ) (((ref.getD j 0 : ℚ)) : ℝ)))
      = ENNReal.ofReal ((hvSlice ref pts : ℚ) : ℝ) := by
  rw [hvSlice_eq_hvCells]; exact hvCells_eq_volume ref pts

/-- The hypervolume depends only on the *set* of points. -/
theorem hvCells_set (ref : List ℚ) (S T : List Pt) (h : ∀ p, p ∈ S ↔ p ∈ T) : hvCells ref S = hvCells ref T :=
  hvCells_of_mem_iff ref S T h

example : ∀ p : Pt, p ∈ [[1, 2], [2, 1], [1, 2]] ↔ p ∈ [[2, 1], [1, 2]] := by
  intro p; simp only [List.mem_cons, List.not_mem_nil, or_false]
  exact ⟨fun h => h.elim Or.inr (fun h => h.elim Or.inl Or.inr), fun h => h.elim (Or.inr ∘ Or.inl) Or.inl⟩

/-- Permutation invariance. -/
theorem hvCells_perm (ref : List ℚ) (S T : List Pt) (h : S.Perm T) : hvCells ref S = hvCells ref T :=
  hvCells_of_perm ref h

example : ([[1, 2], [2, 1], [0, 3]] : List Pt).Perm [[0, 3], [1, 2], [2, 1]] := by decide

/-- A duplicate changes nothing. -/
theorem hvCells_dup (ref : List ℚ) (S : List Pt) (p : Pt) (h : p ∈ S) : hvCells ref (p :: S) = hvCells ref S :=
  hvCells_of_mem_iff ref _ _ (fun _ => List.mem_cons.trans (or_iff_right_of_imp (fun e => e ▸ h)))

example : ([1, 2] : Pt) ∈ ([[2, 1], [1, 2]] : List Pt) := by decide

/-- Adding a point weakly dominated by a member changes nothing. -/
theorem hvCells_dominated (ref : List ℚ) (S : List Pt) (p q : Pt) (hp : p ∈ S)
    (hd : ∀ j < ref.length, p.getD j 0 ≤ q.getD j 0) : hvCells ref (q :: S) = hvCells ref S :=
  hvCells_dominated' ref S p q hp ((dom_iff ref p q).mpr hd)

example : ∀ j < ([4, 4] : List ℚ).length, ([1, 2] : Pt).getD j 0 ≤ ([1, 3] : Pt).getD j 0 := by decide

/-- A point with a coordinate equal to (or beyond) the reference contributes nothing. -/
theorem hvCells_boundary (ref : List ℚ) (S : List Pt) (q : Pt)
    (hb : ∃ j < ref.length, ref.getD j 0 ≤ q.getD j 0) : hvCells ref (q :: S) = hvCells ref S :=
  hvCells_boundary' ref S q ((onBoundary_iff ref q).mpr hb)

example : ∃ j < ([4, 4] : List ℚ).length, ([4, 4] : List ℚ).getD j 0 ≤ ([1, 4] : Pt).getD j 0 := by decide

/-- Monotone in the point set, and non-negative. -/
theorem hv_mono (ref : List ℚ) (S T : List Pt) (h : S ⊆ T) : hvCells ref S ≤ hvCells ref T := by
  rw [← hvGrid_of_subset ref h]
  exact hvGrid_mono ref T _ (fine_axes ref T) S T (fun c _ hc => covered_of_subset S T h c hc)

example : ([[1, 2]] : List Pt) ⊆ [[2, 1], [1, 2]] := by decide

theorem hv_nonneg (ref : List ℚ) (pts : List Pt) : 0 ≤ hvCells ref pts := hvCells_nonneg ref pts

/-- One point: the volume of its box. -/
theorem hv_single (ref : List ℚ) (q : Pt) : hvCells ref [q] = boxVol ref q := hvCells_single ref q

/-- Inclusion–exclusion step: `hv(q :: S) = hv(S) + vol[q, ref) − hv({max(p, q) | p ∈ S})`. -/
theorem hv_inclusion_exclusion (ref : List ℚ) (q : Pt) (S : List Pt) :
    hvCells ref (q :: S) = hvCells ref S + boxVol ref q - hvCells ref (S.map (fun p => pmax ref p q)) :=
  hvCells_ie ref q S

/-- The exponential inclusion–exclusion recursion computes the same number. -/
theorem hvIE_eq_hvCells (ref : List ℚ) (S : List Pt) : hvIE ref S = hvCells ref S :=
  (hvCells_eq_hvIE ref S).symm

/-- `d = 1`: the hypervolume is `ref − min` (the fold starts at `ref`, so points at or beyond the
reference and the empty set give 0). -/
theorem hv_1d (r : ℚ) (xs : List ℚ) : hvCells [r] (xs.map (fun x => [x])) = r - xs.foldr min r := by
  rw [hvCells_1d, List.map_map]
  have : ((fun p : Pt => p.headD 0) ∘ fun x : ℚ => [x]) = id := by funext x; rfl
  rw [this, List.map_id]

/-- `d = 1`, the guarded form of the statement: at least one point, all at or below the reference:
`ref −` the least coordinate. -/
theorem hv_1d_min (r : ℚ) (xs : List ℚ) (hne : xs ≠ []) (hle : ∀ x ∈ xs, x ≤ r) :
    ∃ m ∈ xs, (∀ x ∈ xs, m ≤ x) ∧ hvCells [r] (xs.map (fun x => [x])) = r - m := by
  rw [hv_1d]
  rcases foldr_min_mem_or r xs with h | h
  · -- the fold stayed at r: every point equals r
    cases xs with
    | nil => exact absurd rfl hne
    | cons x xs =>
      have hx : r ≤ x := by rw [← h]; exact foldr_min_le_mem r _ x (by simp)
      have hxr : x = r := le_antisymm (hle x (by simp)) hx
      refine ⟨x, by simp, ?_, by rw [h, hxr]⟩
      intro y hy
      rw [hxr, ← h]; exact foldr_min_le_mem r _ y hy
  · exact ⟨_, h, fun x hx => foldr_min_le_mem r xs x hx, rfl⟩

example : ([1, 3, 2] : List ℚ) ≠ [] ∧ ∀ x ∈ ([1, 3, 2] : List ℚ), x ≤ 3 := by decide

/-- `d = 2`, the staircase formula: sweep over the distinct abscissae `x₀ < x₁ < … ≤ r₁` (the last slab
ends at `r₁`); the height of the staircase over `[xᵢ, xᵢ₊₁)` is `r₂ −` the least ordinate among the
points with abscissa `≤ xᵢ`. -/
theorem hv_2d (r₁ r₂ : ℚ) (pts : List (ℚ × ℚ)) :
    hvCells [r₁, r₂] (pts.map (fun p => [p.1, p.2]))
      = stepSum (axisOf r₁ (pts.map (fun p => p.1)))
          (fun x => r₂ - ((pts.filter (fun p => decide (p.1 ≤ x))).map (fun p => p.2)).foldr min r₂) := by
  rw [hvCells_cons, List.map_map]
  apply stepSum_congr
  intro x
  rw [hvCells_1d]
  congr 2
  unfold sub
  rw [List.filter_map, List.map_map, List.map_map]
  rfl

/-- **Least contributor**: for a non-empty population (the code needs two individuals: with one, the
compiled extension rejects the empty leave-one-out set), the returned index `i` is a valid index, it
minimises the contribution `hv(all) − hv(all ∖ k)` over all `k` (equivalently maximises the
leave-one-out hypervolume), it is the *first* such index (`numpy.argmax`), and its contribution is
non-negative.  `r` is the reference actually used (given, or max + 1 per objective). -/
theorem indicator_least (w : List ℚ) (vals : List (List ℚ)) (ref : Option (List ℚ)) (hne : vals ≠ []) :
    let pts := wobj w vals
    let r := ref.getD (defaultRef pts)
    let i := leastContributor w vals ref
    i < vals.length ∧
    (∀ k < vals.length,
      hvCells r pts - hvCells r (pts.eraseIdx i) ≤ hvCells r pts - hvCells r (pts.eraseIdx k)) ∧
    (∀ k < i, hvCells r (pts.eraseIdx k) < hvCells r (pts.eraseIdx i)) ∧
    0 ≤ hvCells r pts - hvCells r (pts.eraseIdx i) := by
  intro pts r i
  have hlen : pts.length = vals.length := by simp [pts, wobj]
  have hi : i = argmaxFirst (looValues r pts) := by
    cases ref <;> rfl
  have hne' : looValues r pts ≠ [] := by
    intro h
    have := congrArg List.length h
    rw [looValues_length, hlen] at this
    exact hne (List.length_eq_zero_iff.mp this)
  obtain ⟨h1, h2, h3⟩ := argmaxFirst_spec (looValues r pts) hne'
  rw [← hi, looValues_length] at h1
  rw [← hi] at h2 h3
  rw [looValues_length] at h2
  refine ⟨hlen ▸ h1, ?_, ?_, ?_⟩
  · intro k hk
    have := h2 k (hlen ▸ hk)
    rw [looValues_getD r pts k (hlen ▸ hk), looValues_getD r pts i h1, hvSlice_eq_hvCells,
      hvSlice_eq_hvCells] at this
    linarith
  · intro k hk
    have hk' : k < pts.length := lt_trans hk h1
    have := h3 k hk
    rwa [looValues_getD r pts k hk', looValues_getD r pts i h1, hvSlice_eq_hvCells,
      hvSlice_eq_hvCells] at this
  · have := hv_mono r (pts.eraseIdx i) pts (List.eraseIdx_subset)
    linarith

example : ([[1, 2], [2, 1]] : List (List ℚ)) ≠ [] := by decide

/-- Sign handling, for any mixture of minimised (`w < 0`) and maximised (`w > 0`) objectives: coordinate
`j` of the point handed to the hypervolume routine is `−(value · weight)`, i.e. the value itself for
weight −1 and its negation for weight +1 — smaller is better in every coordinate. -/
theorem population_coord (w v : List ℚ) (j : ℕ) :
    ((wobj w [v]).headD []).getD j 0 = -(v.getD j 0 * w.getD j 0) := by
  simp only [wobj, List.map_cons, List.map_nil, List.headD_cons]
  exact wobj_coord w v j

/-- **Population hypervolume**: `benchmarks.tools.hypervolume(front, ref)` is the grid specification
taken on the negated weighted values, with the reference given or `max + 1` per coordinate. -/
theorem population_hv (w : List ℚ) (vals : List (List ℚ)) (ref : Option (List ℚ)) :
    populationHV w vals ref = hvCells (ref.getD (defaultRef (wobj w vals))) (wobj w vals) := by
  cases ref <;> exact hvSlice_eq_hvCells _ _

/-- … hence the Lebesgue measure of the region dominated by the population's weighted objectives. -/
theorem population_hv_volume (w : List ℚ) (vals : List (List ℚ)) (ref : List ℚ) :
    volume (⋃ p ∈ wobj w vals, Set.pi Set.univ
        (fun j : Fin ref.length => Set.Ico (((p.getD j 0 : ℚ)) : ℝ) (((ref.getD j 0 : ℚ)) : ℝ)))
      = ENNReal.ofReal ((populationHV w vals (some ref) : ℚ) : ℝ) := by
  rw [population_hv]; exact hvCells_eq_volume ref _

/-- The default reference point (`ref=None`): in every objective it is the worst (largest) coordinate
of the population plus one, so every individual strictly dominates it. -/
theorem population_default_ref (w : List ℚ) (vals : List (List ℚ)) (hne : vals ≠ [])
    (hlen : ∀ v ∈ vals, v.length = w.length) :
    (defaultRef (wobj w vals)).length = w.length ∧
    ∀ j < w.length, (∀ q ∈ wobj w vals, q.getD j 0 + 1 ≤ (defaultRef (wobj w vals)).getD j 0) ∧
      (∃ q ∈ wobj w vals, (defaultRef (wobj w vals)).getD j 0 = q.getD j 0 + 1) := by
  apply defaultRef_spec
  · intro h; exact hne (List.map_eq_nil_iff.mp h)
  · intro q hq
    simp only [wobj, List.mem_map] at hq
    obtain ⟨v, hv, rfl⟩ := hq
    simp [wvalues, hlen v hv]

example : ([[1, 2], [2, 1]] : List (List ℚ)) ≠ [] ∧ ∀ v ∈ ([[1, 2], [2, 1]] : List (List ℚ)), v.length = ([1, -1] : List ℚ).length := by decide

/-! ### The algorithm: the transcription `Core/HvSweep.lean` of `pyhv._HyperVolume`

`HvSweep.compute front ref` runs `preProcess` (multi-linked list, node ids for pointers) and
`hvRecursive` (base cases `dimIndex == 0`, `== 1`, general case with bounds pruning, `ignore` marking,
`remove` / `reinsert`) exactly as pyhv.py does; the correspondence run diffs it against pyhv's value AND
observable final state on every hypervolume case.  Proved here: it terminates in every dimension and hands
the lists back intact, and — `sweep_eq_hvCells` — it returns the specification `hvCells` in EVERY dimension.
The proof (Lemmas/C15Gen1-7) is an induction over the levels of `hvRecursive` with an invariant on the
multi-list state: in every dimension `i` the linked list is the static order restricted to the nodes present;
the `area[i]` / `volume[i]` caches of every node strictly below `bounds[i]` hold the `i`-dimensional hypervolume
of the nodes at or before it and the accumulated slabs (`CV`); a node with `ignore = m ≥ 1` is weakly dominated
in the coordinates `0..m` by a present node that precedes it in the orders `1..m` (`IG`).  One dimension is the base
case `dimIndex == 0` alone (`sweep_1d`); `sweep_2d`, `sweep_3d` and `sweep_eq_hvCells_partial` are the instances for
pairs, triples and `d ≤ 3`. -/

open HvSweep in
/-- **Termination in every dimension**: with the fuel `n + 1` that `compute` supplies, no pointer-following
loop of the transcription ever runs out of fuel — on any input, of any dimension. -/
theorem sweep_terminates (front : List (List ℚ)) (ref : List ℚ) : ∃ v, compute front ref = some v := by
  obtain ⟨v, S', h, _⟩ := computeSt_terminates front ref
  exact ⟨v, by unfold compute; rw [h]; rfl⟩

open HvSweep in
/-- … and when it returns, every `next` / `prev` pointer of the multi-list is what `preProcess` built:
each `remove` has been undone by its `reinsert` (the dancing-links discipline of the sweep). -/
theorem sweep_restores_lists (front : List (List ℚ)) (ref : List ℚ) :
    ∃ v S', computeSt front ref = some (v, S') ∧
      ∀ i a, nx S' i a = nx (preProcess ([] :: translate front ref) ref.length front.length) i a ∧
             pv S' i a = pv (preProcess ([] :: translate front ref) ref.length front.length) i a :=
  computeSt_terminates front ref

open HvSweep in
/-- **`sweep_1d`**: in one dimension the transcribed algorithm returns the specification. -/
theorem sweep_1d (r : ℚ) (xs : List ℚ) (hle : ∀ x ∈ xs, x ≤ r) :
    compute (xs.map (fun x => [x])) [r] = some (hvCells [r] (xs.map (fun x => [x]))) := by
  refine sweep_dim1 r _ (fun p hp => ?_) (fun p hp => ?_) <;> obtain ⟨x, hx, rfl⟩ := List.mem_map.mp hp
  · rfl
  · exact hle x hx

example : ∀ x ∈ ([1, 3, 2] : List ℚ), x ≤ 3 := by decide

open HvSweep in
/-- **`sweep_2d`**: in two dimensions the transcribed algorithm (`preProcess`, then the staircase loop of
`dimIndex == 1` over the list sorted by the second coordinate) returns the specification. -/
theorem sweep_2d (r₁ r₂ : ℚ) (pts : List (ℚ × ℚ)) (hle : ∀ p ∈ pts, p.1 ≤ r₁ ∧ p.2 ≤ r₂) :
    compute (pts.map toPt) [r₁, r₂] = some (hvCells [r₁, r₂] (pts.map toPt)) := by
  refine sweep_general [r₁, r₂] (pts.map toPt) (le_refl 2) ?_ ?_
  · intro p hp
    obtain ⟨q, _, rfl⟩ := List.mem_map.mp hp
    rfl
  · intro p hp j hj
    obtain ⟨q, hq, rfl⟩ := List.mem_map.mp hp
    match j, hj with
    | 0, _ => exact (hle q hq).1
    | 1, _ => exact (hle q hq).2

example : ∀ p ∈ ([(1, 2), (2, 1), (3, 3)] : List (ℚ × ℚ)), p.1 ≤ (3 : ℚ) ∧ p.2 ≤ (3 : ℚ) := by decide

/-- the 2-D staircase in pyhv's orientation (ascending second coordinate, running minimum of the first) -/
theorem hv_2d_sweep (r₁ r₂ : ℚ) (p : ℚ × ℚ) (rest : List (ℚ × ℚ))
    (hsorted : (p :: rest).Pairwise (fun a b => a.2 ≤ b.2)) (hx : p.1 ≤ r₁) (hy : ∀ q ∈ p :: rest, q.2 ≤ r₂) :
    stairXY r₁ r₂ rest p.2 (p.1 - r₁) 0 = hvCells [r₁, r₂] ((p :: rest).map toPt) :=
  stairXY_eq_hvCells r₁ r₂ p rest hsorted hx hy

example : ([(2, 1), (1, 2)] : List (ℚ × ℚ)).Pairwise (fun a b => a.2 ≤ b.2) ∧ ((2 : ℚ), (1 : ℚ)).1 ≤ (3 : ℚ) ∧
    ∀ q ∈ ([(2, 1), (1, 2)] : List (ℚ × ℚ)), q.2 ≤ (3 : ℚ) := by decide

/-- **The recursive step, every dimension**: adding a point whose leading coordinate is the largest adds the
slab `(r − z) × ((d−1)-dimensional hypervolume with the point − without it)`. -/
theorem hv_slab_step (r : ℚ) (ref : List ℚ) (P : List Pt) (p : Pt)
    (hz : ∀ s ∈ P, s.headD 0 ≤ p.headD 0) (hr : p.headD 0 ≤ r) :
    hvCells (r :: ref) (p :: P) = hvCells (r :: ref) P
      + (r - p.headD 0) * (hvCells ref ((p :: P).map List.tail) - hvCells ref (P.map List.tail)) :=
  hvCells_add_top_slab r ref P p hz hr

example : (∀ s ∈ ([[1, 2, 0]] : List Pt), s.headD 0 ≤ ([2, 0, 1] : Pt).headD 0) ∧ ([2, 0, 1] : Pt).headD 0 ≤ (3 : ℚ) := by decide

/-- **Slab decomposition, every dimension** — the specification of the sweep's general step: for points
sorted by the swept coordinate, `hv_d = Σ over the points of hv_{d−1}(prefix) × thickness of the slab`
(`slabFold` accumulates exactly as the loop l.168-182 does: `hvol += area(prefix) · (z_next − z)`). -/
theorem hv_slab_decomposition (r : ℚ) (ref : List ℚ) (p : Pt) (rest : List Pt)
    (hsorted : (p :: rest).Pairwise (fun a b => a.headD 0 ≤ b.headD 0)) (hr : ∀ s ∈ p :: rest, s.headD 0 ≤ r) :
    slabFold r ref rest [p] (p.headD 0) 0 = hvCells (r :: ref) (p :: rest) := by
  have hs := List.pairwise_cons.mp hsorted
  apply slabFold_inv r ref rest [p] (p.headD 0) 0
  · intro s hs'; simp at hs'; rw [hs']
  · exact fun s hs' => hs.1 s hs'
  · exact hs.2
  · exact fun s hs' => hr s (by simp [hs'])
  · rw [zero_add, hvCells_const_head r (p.headD 0) ref [p] (by intro s hs'; simp at hs'; rw [hs']),
      min_eq_left (hr p (by simp))]
    ring

example : ([[1, 2, 0], [2, 0, 1]] : List Pt).Pairwise (fun a b => a.headD 0 ≤ b.headD 0) ∧
    ∀ s ∈ ([[1, 2, 0], [2, 0, 1]] : List Pt), s.headD 0 ≤ (3 : ℚ) := by decide

/-- **Coordinate symmetry**: moving the leading coordinate to the end does not change the hypervolume (so the
choice of the swept coordinate is immaterial; the implementations sweep on the last one). -/
theorem hvCells_coordinate_symmetry (r : ℚ) (ref : List ℚ) (S : List Pt) (hl : ∀ p ∈ S, p.length = ref.length + 1) :
    hvCells (ref ++ [r]) (S.map rot) = hvCells (r :: ref) S :=
  hvCells_rot r ref S hl

example : ∀ p ∈ ([[1, 2, 0], [2, 0, 1]] : List Pt), p.length = ([3, 3] : List ℚ).length + 1 := by decide

/-- **The recursive step along the LAST coordinate** — exactly what the general case of the sweep adds when it
reinserts the node with the next larger last coordinate. -/
theorem hv_slab_step_last (r : ℚ) (ref : List ℚ) (P : List Pt) (p : Pt)
    (hl : ∀ s ∈ p :: P, s.length = ref.length + 1)
    (hz : ∀ s ∈ P, s.getLastD 0 ≤ p.getLastD 0) (hr : p.getLastD 0 ≤ r) :
    hvCells (ref ++ [r]) (p :: P) = hvCells (ref ++ [r]) P
      + (r - p.getLastD 0) * (hvCells ref ((p :: P).map List.dropLast) - hvCells ref (P.map List.dropLast)) :=
  hvCells_add_top_slab_last r ref P p hl hz hr

example : (∀ s ∈ ([2, 0, 2] : Pt) :: ([[1, 2, 1]] : List Pt), s.length = ([3, 3] : List ℚ).length + 1) ∧
    (∀ s ∈ ([[1, 2, 1]] : List Pt), s.getLastD 0 ≤ ([2, 0, 2] : Pt).getLastD 0) ∧ ([2, 0, 2] : Pt).getLastD 0 ≤ (3 : ℚ) := by decide

open HvSweep in
/-- **`sweep_3d`**: in three dimensions the transcribed algorithm — `preProcess`, then the GENERAL case of
`hvRecursive` at `dimIndex = 2` (reset of the ignore flags, removal of all nodes but the first from the lists
0 and 1, reinsertion in the order of the third coordinate, the 2-D staircase on the nodes present after each
reinsertion, `hvol += area × thickness`) — returns the specification. -/
theorem sweep_3d (r₀ r₁ r₂ : ℚ) (pts : List (ℚ × ℚ × ℚ)) (hle : ∀ p ∈ pts, p.1 ≤ r₀ ∧ p.2.1 ≤ r₁ ∧ p.2.2 ≤ r₂) :
    compute (pts.map toPt3) [r₀, r₁, r₂] = some (hvCells [r₀, r₁, r₂] (pts.map toPt3)) := by
  refine sweep_general [r₀, r₁, r₂] (pts.map toPt3) (by simp) ?_ ?_
  · intro p hp
    obtain ⟨q, _, rfl⟩ := List.mem_map.mp hp
    rfl
  · intro p hp j hj
    obtain ⟨q, hq, rfl⟩ := List.mem_map.mp hp
    match j, hj with
    | 0, _ => exact (hle q hq).1
    | 1, _ => exact (hle q hq).2.1
    | 2, _ => exact (hle q hq).2.2

example : ∀ p ∈ ([(1, 2, 0), (2, 0, 1), (0, 1, 3)] : List (ℚ × ℚ × ℚ)), p.1 ≤ (3 : ℚ) ∧ p.2.1 ≤ (3 : ℚ) ∧ p.2.2 ≤ (3 : ℚ) := by decide

/-- The full correctness statement of the transcribed algorithm: for every dimension `d ≥ 1`, every list of
points of that dimension at or below the reference, it returns the specification. -/
def sweep_eq_hvCells_Statement : Prop :=
  ∀ (ref : List ℚ) (front : List (List ℚ)), 1 ≤ ref.length → (∀ p ∈ front, p.length = ref.length) →
    (∀ p ∈ front, ∀ j < ref.length, p.getD j 0 ≤ ref.getD j 0) →
    HvSweep.compute front ref = some (hvCells ref front)

/-- **`sweep_eq_hvCells`: the transcribed dimension-sweep algorithm of pyhv (`preProcess`, `hvRecursive` with its
bounds pruning, cached areas / volumes, `ignore` marking, `remove` / `reinsert`) returns the specification in
EVERY dimension** — for every reference point of dimension `d ≥ 1` and every list of points of that dimension at
or below it.  (`d = 1` is the base case `dimIndex == 0`, `sweep_1d`; `d ≥ 2` is the induction over the levels.) -/
theorem sweep_eq_hvCells : sweep_eq_hvCells_Statement := by
  intro ref front hd hlen hle
  rcases Nat.lt_or_ge ref.length 2 with h | h
  · match ref, hd, h with
    | [r], _, _ => exact HvSweep.sweep_dim1 r front hlen (fun p hp => hle p hp 0 Nat.zero_lt_one)
  · exact HvSweep.sweep_general ref front h hlen hle

/-- the instance for dimensions 1, 2 and 3 (extra hypothesis `ref.length ≤ 3`) -/
theorem sweep_eq_hvCells_partial (ref : List ℚ) (front : List (List ℚ)) (hd : 1 ≤ ref.length) (hd2 : ref.length ≤ 3)
    (hlen : ∀ p ∈ front, p.length = ref.length)
    (hle : ∀ p ∈ front, ∀ j < ref.length, p.getD j 0 ≤ ref.getD j 0) :
    HvSweep.compute front ref = some (hvCells ref front) :=
  sweep_eq_hvCells ref front hd hlen hle

example : 1 ≤ ([3, 3] : List ℚ).length ∧ ([3, 3] : List ℚ).length ≤ 3 ∧
    (∀ p ∈ ([[1, 2], [2, 1]] : List (List ℚ)), p.length = ([3, 3] : List ℚ).length) := by decide

/-- … hence the transcribed algorithm returns the Lebesgue measure of the union of the boxes. -/
theorem sweep_eq_volume (ref : List ℚ) (front : List (List ℚ)) (hd : 1 ≤ ref.length)
    (hlen : ∀ p ∈ front, p.length = ref.length) (hle : ∀ p ∈ front, ∀ j < ref.length, p.getD j 0 ≤ ref.getD j 0) :
    ∃ v : ℚ, HvSweep.compute front ref = some v ∧
      volume (⋃ p ∈ front, Set.pi Set.univ
        (fun j : Fin ref.length => Set.Ico (((p.getD j 0 : ℚ)) : ℝ) (((ref.getD j 0 : ℚ)) : ℝ))) = ENNReal.ofReal (v : ℝ) :=
  ⟨hvCells ref front, sweep_eq_hvCells ref front hd hlen hle, hvCells_eq_volume ref front⟩

example : 1 ≤ ([4, 4, 4, 4, 4] : List ℚ).length ∧
    (∀ p ∈ ([[0, 0, 1, 3, 0], [1, 2, 0, 3, 2], [1, 2, 0, 0, 3]] : List (List ℚ)), p.length = ([4, 4, 4, 4, 4] : List ℚ).length) := by decide

/-! ### The COMPILED routine: the transcription `Core/HvC.lean` of `deap/tools/_hypervolume/_hv.c`

`HvC.fpliHv data ref` runs `fpli_hv` (l.1456-1490) as the C source does: `setup_cdllist` (one circular doubly linked
list per coordinate, node ids for pointers), `filter` (unlinks the points that do not strictly dominate the
reference), the cases `n == 0` / `n == 1`, and `hv_recursive` (VARIANT 4: general case with `bound` / `vol` / `area`
caches, `ignore` marks, `delete(_dom)` / `reinsert(_dom)`; base cases `dim == 2` with the AVL tree, `dim == 1`,
`dim == 0`).  The AVL library is abstracted to the ordered sequence it represents (`HvC.St.tree`; see the header of
`Core/HvC.lean`) — that is the one thing about `_hv.c` that is not modelled.  The correspondence run diffs
`HvC.fpliHv` against the extension rebuilt from the working tree on every hypervolume case.

Proved below: in EVERY dimension what `setup_cdllist` + `filter` leave (`hvC_setup_filter`) and the answer when at
most one point survives (`hvC_le_one_point`); for one, two and three objectives the full statement
`hvC_eq_hvCells_partial` (all three base cases of `hv_recursive`: `dim == 0`, `dim == 1`, and `dim == 2` — the sweep
along the third coordinate with the 2-D staircase in the tree — entered with `bound[2] = -DBL_MAX`); and
**`hvC_eq_hvCells`: the transcription returns the specification for EVERY number of objectives** (`hvC_eq_hvCells_dim4` is
the instance the correspondence exercises most).  The proof is an induction over the levels of `hv_recursive` with the
level contract `HvC.InvC` / `HvC.PostC` (`Lemmas/C15HvCInv.lean`): in every dimension `2 ≤ i ≤ k` the linked list is the
static order restricted to the nodes present; the `area[i]` / `vol[i]` caches of every node strictly below `bound[i]` hold the
hypervolume of the nodes at or before it (`CVc`); a mark `ignore = m ≥ 2` is witnessed by a present node that weakly
dominates in the coordinates 0, 1 and precedes in the orders `2..m` (`IGc`; a marked node has `domr = x[2]`); and for a node
strictly below `bound[2]` the cached `domr` is the third coordinate from which on it is beaten, in the staircase of the first
two coordinates, by a present node below the bound — `≥ bound[2]` if there is none (`DMc`).  `hvC_dim3_reentry`: the 3-D base
case entered with ANY `bound[2]` meets the contract (it rebuilds the staircase from the nodes with `domr ≥ bound[2]`, reads
`vol[2]` / `area[2]` of the last node below the bound, and sweeps the rest; `Lemmas/C15HvCRe*`); `hvC_general_step`: the
general case at level `j + 1` meets it if level `j` does (`delete` / `delete_dom`, `reinsert` / `reinsert_dom`, the bound
rule of the deletion loop, the cached start, the promotion of marks; `Lemmas/C15HvCGen*`); `hvC_levels`: every level does.
Totality (`hvC_total`) follows.  The hypothesis that the points lie at or below the reference point is not needed
(`hvC_eq_hvCells_all`): `filter` drops the others, whose boxes are empty; the static context of the proof uses the points
clamped to the reference (`HvC.clC`), which agree with the points themselves on every node that survives `filter`. -/

/-- **`setup_cdllist` + `filter`, every dimension**: for every coordinate `j` the linked list of dimension `j` is a
well-formed circular doubly linked list whose nodes are, in ascending order of coordinate `j`, exactly the input
points that lie strictly below the reference point in every coordinate; the count handed to `hv_recursive` is their
number; nothing but `next` / `prev` has been written. -/
theorem hvC_setup_filter (data : List (List ℚ)) (ref : List ℚ) :
    let C : HvC.Cargo := [] :: data
    let r := HvC.filter C ref ref.length data.length (HvC.setupCdllist C ref.length data.length)
    r.1 = (data.filter (HvC.strictlyBelow ref)).length ∧
    HvC.SameData (HvC.initSt ref.length data.length) r.2 ∧
    ∀ j < ref.length, ∃ G : List ℕ, HvC.DLc data.length r.2 j G ∧ G.length = r.1 ∧
      G.Pairwise (fun a b => HvC.cg C a j ≤ HvC.cg C b j) ∧
      (∀ a, a ∈ G ↔ (1 ≤ a ∧ a ≤ data.length ∧ HvC.strictlyBelow ref (HvC.ptOf C a) = true)) := by
  intro C r
  have hR := HvC.ready data ref
  refine ⟨by rw [hR.count, HvC.count_good], hR.same, ?_⟩
  intro j hj
  obtain ⟨L, hO, hD⟩ := hR.lists j hj
  refine ⟨L.filter (HvC.goodUpTo C ref ref.length), hD, ?_, hO.sorted.filter _, ?_⟩
  · rw [hR.count]; exact HvC.length_filter_perm hO.perm _
  · intro a
    rw [List.mem_filter, hO.perm.mem_iff, HvSweep.mem_ids]
    constructor
    · rintro ⟨⟨h1, h2⟩, h3⟩; exact ⟨h1, h2, h3⟩
    · rintro ⟨h1, h2, h3⟩; exact ⟨⟨h1, h2⟩, h3⟩

/-- **every dimension**: when at most one input point lies strictly below the reference point, `fpli_hv` returns
the specification (0, or the volume of the one box; points on or beyond the reference boundary contribute nothing). -/
theorem hvC_le_one_point (data : List (List ℚ)) (ref : List ℚ) (hd : 1 ≤ ref.length)
    (h : (data.filter (HvC.strictlyBelow ref)).length ≤ 1) : HvC.fpliHv data ref = some (hvCells ref data) := by
  refine HvC.fpliHv_of_rec data ref hd (fun {n' S} hR hn => ?_)
  rw [hR.count, HvC.count_good] at hn
  omega

example : 1 ≤ ([3, 3, 3, 3, 3] : List ℚ).length ∧
    (([[0, 1, 2, 1, 0], [1, 3, 1, 0, 2], [3, 0, 0, 0, 0]] : List (List ℚ)).filter (HvC.strictlyBelow [3, 3, 3, 3, 3])).length ≤ 1 := by decide

/-- **`hvC_base_dim1`** (`hv_recursive`, `dim == 0`): one objective. -/
theorem hvC_base_dim1 (data : List (List ℚ)) (r : ℚ) : HvC.fpliHv data [r] = some (hvCells [r] data) :=
  HvC.fpliHv_dim1 data r

/-- **`hvC_base_dim2`** (`hv_recursive`, `dim == 1`, the staircase loop l.995-1011): two objectives. -/
theorem hvC_base_dim2 (data : List (List ℚ)) (r₁ r₂ : ℚ) (hlen : ∀ p ∈ data, p.length = 2) :
    HvC.fpliHv data [r₁, r₂] = some (hvCells [r₁, r₂] data) :=
  HvC.fpliHv_dim2 data r₁ r₂ hlen

example : ∀ p ∈ ([[1, 2], [2, 1], [3, 3]] : List (List ℚ)), p.length = 2 := by decide

/-- **the 3-D base case over the abstract ordered set** (`hv_recursive`, `dim == 2`, l.825-992, entered with
`bound[2] = -DBL_MAX` and all `ignore` flags 0): on ANY state whose list of dimension 2 is a well-formed list of nodes
sorted by the third coordinate and strictly below the reference, it returns the hypervolume of those nodes — the
staircase of the first two coordinates kept in the tree, its area updated by l.955-982, times the slab thickness. -/
theorem hvC_base_dim3_fresh (C : HvC.Cargo) (R : List ℚ) (d n fuel : ℕ) (S : HvC.St) (a₁ : ℕ) (rest : List ℕ)
    (hD : HvC.DLc n S 2 (a₁ :: rest))
    (hs : (a₁ :: rest).Pairwise (fun a b => HvC.cg C a 2 ≤ HvC.cg C b 2))
    (hfacts : ∀ a ∈ a₁ :: rest, HvC.cg C a 0 < HvC.rf R 0 ∧ HvC.cg C a 1 < HvC.rf R 1 ∧ HvC.cg C a 2 < HvC.rf R 2 ∧
      (HvC.ptOf C a).length = 3)
    (hbound : S.bound.getD 2 none = none) (hign : ∀ a, HvC.ign S a = 0)
    (hd : 2 < d) (hvol : HvSweep.Shaped (n + 1) d S.vol) (harea : HvSweep.Shaped (n + 1) d S.area)
    (hfuel : n < fuel) :
    ∃ S', HvC.dim3 C R fuel S
      = some (hvCells [HvC.rf R 0, HvC.rf R 1, HvC.rf R 2] ((a₁ :: rest).map (HvC.ptOf C)), S') :=
  HvC.dim3_fresh C R d n fuel S a₁ rest hD hs hfacts hbound hign hd hvol harea hfuel

/-- the hypotheses of `hvC_base_dim3_fresh` are what `setup_cdllist` + `filter` establish (here: three points) -/
example : ∃ (S : HvC.St) (a₁ : ℕ) (rest : List ℕ),
    let C : HvC.Cargo := [[], [1, 2, 0], [2, 0, 1], [0, 1, 2]]
    HvC.DLc 3 S 2 (a₁ :: rest) ∧ (a₁ :: rest).Pairwise (fun a b => HvC.cg C a 2 ≤ HvC.cg C b 2) ∧
    S.bound.getD 2 none = none ∧ (∀ a, HvC.ign S a = 0) := by
  have h := hvC_setup_filter [[1, 2, 0], [2, 0, 1], [0, 1, 2]] [3, 3, 3]
  obtain ⟨h1, ⟨e1, _, _, e4, _⟩, h3⟩ := h
  obtain ⟨G, hD, hlen, hs, _⟩ := h3 2 (by decide)
  have hG : G.length = 3 := by rw [hlen, h1]; decide
  match G, hG with
  | a :: rest, _ =>
    refine ⟨_, a, rest, hD, hs, ?_, ?_⟩
    · rw [e4]; exact HvSweep.getD_replicate_self _ _ none
    · intro x
      show (HvC.St.ignore _).getD x 0 = 0
      rw [e1]; exact HvSweep.getD_replicate_self _ _ 0

/-- **`hvC_base_dim3`**: three objectives (`fpli_hv` enters `hv_recursive` at the AVL-tree sweep `dim == 2` with
`bound[2] = -DBL_MAX`).  Proved as the instance `d = 3` of `HvC.fpliHv_ge3_all`, i.e. through the level contract
(`hvC_dim3_reentry` with no bound); `hvC_base_dim3_fresh` above is the direct argument for the same run. -/
theorem hvC_base_dim3 (data : List (List ℚ)) (r₀ r₁ r₂ : ℚ) (hlen : ∀ p ∈ data, p.length = 3) :
    HvC.fpliHv data [r₀, r₁, r₂] = some (hvCells [r₀, r₁, r₂] data) :=
  HvC.fpliHv_ge3_all data [r₀, r₁, r₂] (by simp) hlen

example : ∀ p ∈ ([[1, 2, 0], [2, 0, 1], [0, 1, 3]] : List (List ℚ)), p.length = 3 := by decide

/-- The full correctness statement of the transcribed C routine: for every dimension `d ≥ 1` and every list of
points of that dimension at or below the reference (weakly dominating it), it returns the specification.
Proved: `hvC_eq_hvCells` below. -/
def hvC_eq_hvCells_Statement : Prop :=
  ∀ (ref : List ℚ) (data : List (List ℚ)), 1 ≤ ref.length → (∀ p ∈ data, p.length = ref.length) →
    (∀ p ∈ data, ∀ j < ref.length, p.getD j 0 ≤ ref.getD j 0) →
    HvC.fpliHv data ref = some (hvCells ref data)

/-- one, two and three objectives, where `fpli_hv` enters `hv_recursive` at a base case: `hvC_base_dim1/2/3` (extra
hypothesis `ref.length ≤ 3`; the hypothesis that the points weakly dominate the reference is not needed: `filter` drops
the others, whose boxes are empty) -/
theorem hvC_eq_hvCells_partial (ref : List ℚ) (data : List (List ℚ)) (hd : 1 ≤ ref.length) (hd3 : ref.length ≤ 3)
    (hlen : ∀ p ∈ data, p.length = ref.length) : HvC.fpliHv data ref = some (hvCells ref data) := by
  match ref, hd, hd3 with
  | [r], _, _ => exact hvC_base_dim1 data r
  | [r₁, r₂], _, _ => exact hvC_base_dim2 data r₁ r₂ hlen
  | [r₀, r₁, r₂], _, _ => exact hvC_base_dim3 data r₀ r₁ r₂ hlen

example : 1 ≤ ([3, 3, 3] : List ℚ).length ∧ ([3, 3, 3] : List ℚ).length ≤ 3 ∧
    (∀ p ∈ ([[1, 2, 0], [2, 0, 1], [3, 1, 1]] : List (List ℚ)), p.length = ([3, 3, 3] : List ℚ).length) := by decide

/-- … hence, for up to three objectives, the transcribed C routine returns the Lebesgue measure of the union of
the boxes. -/
theorem hvC_eq_volume_partial (ref : List ℚ) (data : List (List ℚ)) (hd : 1 ≤ ref.length) (hd3 : ref.length ≤ 3)
    (hlen : ∀ p ∈ data, p.length = ref.length) :
    ∃ v : ℚ, HvC.fpliHv data ref = some v ∧
      volume (⋃ p ∈ data, Set.pi Set.univ
        (fun j : Fin ref.length => Set.Ico (((p.getD j 0 : ℚ)) : ℝ) (((ref.getD j 0 : ℚ)) : ℝ))) = ENNReal.ofReal (v : ℝ) :=
  ⟨hvCells ref data, hvC_eq_hvCells_partial ref data hd hd3 hlen, hvCells_eq_volume ref data⟩

example : 1 ≤ ([4, 4] : List ℚ).length ∧ ([4, 4] : List ℚ).length ≤ 3 ∧
    (∀ p ∈ ([[1, 2], [2, 1]] : List (List ℚ)), p.length = ([4, 4] : List ℚ).length) := by decide

/-- Total-ness of the transcription: with the fuel `n + 2` that `fpliHvSt` supplies, no pointer-following loop runs
out of fuel (the loop l.855-857 of the re-entered 3-D base case terminates for a semantic reason: some node has
`domr ≥ bound[2]`).  Proved: `hvC_total` below. -/
def hvC_total_Statement : Prop :=
  ∀ (ref : List ℚ) (data : List (List ℚ)), 1 ≤ ref.length → (∀ p ∈ data, p.length = ref.length) →
    ∃ v, HvC.fpliHv data ref = some v

/-- one, two and three objectives, from `hvC_eq_hvCells_partial` -/
theorem hvC_total_partial (ref : List ℚ) (data : List (List ℚ)) (hd : 1 ≤ ref.length) (hd3 : ref.length ≤ 3)
    (hlen : ∀ p ∈ data, p.length = ref.length) : ∃ v, HvC.fpliHv data ref = some v :=
  ⟨_, hvC_eq_hvCells_partial ref data hd hd3 hlen⟩

example : 1 ≤ ([2] : List ℚ).length ∧ ([2] : List ℚ).length ≤ 3 ∧
    (∀ p ∈ ([[1], [1], [2], [0]] : List (List ℚ)), p.length = ([2] : List ℚ).length) := by decide

/-- **the 3-D base case RE-ENTERED** (`hv_recursive`, `dim == 2`, l.825-992, with ANY `bound[2]` and any sound marks):
on every state that satisfies the level invariant `HvC.InvC … S 2 A` (list of dimension 2 = static order restricted to
`A`; `area[2]` / `vol[2]` of the nodes strictly below `bound[2]` = area / volume of their prefixes; `domr` of those nodes
valid; marks witnessed) with at least two nodes, it returns the 3-D hypervolume of `A` and re-establishes the invariant
(`HvC.PostC`: same pointers, new `bound[2]` = third coordinate of the last node, all caches of level 2 valid, nothing
written outside `A` / above level 2). -/
theorem hvC_dim3_reentry (C : HvC.Cargo) (R : List ℚ) (d n : ℕ) (O : ℕ → List ℕ) (F : ℕ) (c : HvC.CCtx C R d n O)
    (hF : n + 2 ≤ F) (S : HvC.St) (A : List ℕ) (inv : HvC.InvC C R d n O S 2 A) (h2 : 2 ≤ A.length) :
    ∃ v S', HvC.hvRecursive C R F 2 A.length S = some (v, S') ∧ HvC.PostC C R d n O S S' 2 A v :=
  HvC.dim3_ok C R d n O F c hF S A inv h2

/-- the hypotheses of `hvC_dim3_reentry` are what `setup_cdllist` + `filter` establish for three objectives -/
example : ∃ (C : HvC.Cargo) (R : List ℚ) (d n : ℕ) (O : ℕ → List ℕ) (S : HvC.St) (A : List ℕ),
    HvC.CCtx C R d n O ∧ HvC.InvC C R d n O S 2 A ∧ 2 ≤ A.length := by
  obtain ⟨O, G, c, inv, hlen, hG⟩ := (HvC.ready [[1, 2, 0], [2, 0, 1], [0, 1, 2]] [3, 3, 3]).ctx (by decide)
    (by decide)
  refine ⟨_, _, _, _, O, _, G, c, inv, ?_⟩
  rw [hG]; decide

/-- **the general case** (`hv_recursive`, `dim > 2`, l.710-819: reset of the marks below the level, deletion down to the
bound with `delete` / `delete_dom`, the cached start or `c == 1`, reinsertion with `reinsert` / `reinsert_dom`, the
recursive calls, the promotion of marks, `bound[dim]`) **at level `j + 1` meets the level contract if level `j` does.** -/
theorem hvC_general_step (C : HvC.Cargo) (R : List ℚ) (d n : ℕ) (O : ℕ → List ℕ) (F j : ℕ) (c : HvC.CCtx C R d n O)
    (hF : n + 2 ≤ F) (hj : 2 ≤ j) (hjd : j + 1 < d) (hrec : HvC.LevelOKC C R d n O F j) :
    HvC.LevelOKC C R d n O F (j + 1) :=
  HvC.generalStep_ok C R d n O F j c hF hj hjd hrec

/-- **every level `2 ≤ k < d` of `hv_recursive` meets the level contract** (induction over the levels) -/
theorem hvC_levels (C : HvC.Cargo) (R : List ℚ) (d n : ℕ) (O : ℕ → List ℕ) (F : ℕ) (c : HvC.CCtx C R d n O)
    (hF : n + 2 ≤ F) (k : ℕ) (h2 : 2 ≤ k) (hk : k < d) : HvC.LevelOKC C R d n O F k :=
  HvC.levels_ok c F hF k h2 hk

/-- the hypotheses of `hvC_general_step` / `hvC_levels` are satisfiable (four objectives, level 2 is `hvC_dim3_reentry`) -/
example : ∃ (C : HvC.Cargo) (R : List ℚ) (d n : ℕ) (O : ℕ → List ℕ) (F : ℕ),
    HvC.CCtx C R d n O ∧ n + 2 ≤ F ∧ 2 + 1 < d ∧ HvC.LevelOKC C R d n O F 2 := by
  obtain ⟨O, G, c, inv, hlen, hG⟩ := (HvC.ready [[1, 2, 0, 1], [2, 0, 1, 0]] [3, 3, 3, 3]).ctx (by decide)
    (by decide)
  exact ⟨_, _, _, _, O, 4, c, by decide, by decide, hvC_levels _ _ _ _ O 4 c (by decide) 2 (le_refl _) (by decide)⟩

/-- **`hvC_eq_hvCells_dim4`**: four objectives, all inputs (also points beyond the reference point: `filter` drops them). -/
theorem hvC_eq_hvCells_dim4 (data : List (List ℚ)) (r₀ r₁ r₂ r₃ : ℚ) (hlen : ∀ p ∈ data, p.length = 4) :
    HvC.fpliHv data [r₀, r₁, r₂, r₃] = some (hvCells [r₀, r₁, r₂, r₃] data) :=
  HvC.fpliHv_ge3_all data [r₀, r₁, r₂, r₃] (by simp) hlen

example : ∀ p ∈ ([[1, 2, 0, 1], [2, 0, 1, 0], [0, 1, 3, 5]] : List (List ℚ)), p.length = 4 := by decide

/-- **every number of objectives, ALL inputs**: for every reference point of dimension `d ≥ 1` and every list of points
of that dimension — wherever they lie relative to the reference point — the transcribed C routine returns the
specification (points not strictly below the reference are removed by `filter`, and their boxes are empty). -/
theorem hvC_eq_hvCells_all (ref : List ℚ) (data : List (List ℚ)) (hd : 1 ≤ ref.length)
    (hlen : ∀ p ∈ data, p.length = ref.length) : HvC.fpliHv data ref = some (hvCells ref data) := by
  rcases Nat.lt_or_ge ref.length 4 with h | h
  · exact hvC_eq_hvCells_partial ref data hd (by omega) hlen
  · exact HvC.fpliHv_ge3_all data ref (by omega) hlen

example : 1 ≤ ([4, 4, 4, 4, 4] : List ℚ).length ∧
    (∀ p ∈ ([[0, 0, 1, 3, 0], [1, 2, 0, 3, 2], [1, 2, 0, 0, 7]] : List (List ℚ)), p.length = ([4, 4, 4, 4, 4] : List ℚ).length) := by decide

/-- **`hvC_eq_hvCells`: the transcribed C routine `fpli_hv` (`setup_cdllist`, `filter`, `hv_recursive` VARIANT 4 with its
`bound` / `vol` / `area` / `domr` caches, `ignore` marks, `delete(_dom)` / `reinsert(_dom)`, and the AVL-tree sweep as
3-D base case) returns the specification for EVERY number of objectives** — for every reference point of dimension
`d ≥ 1` and every list of points of that dimension at or below it. -/
theorem hvC_eq_hvCells : hvC_eq_hvCells_Statement := by
  intro ref data hd hlen _
  exact hvC_eq_hvCells_all ref data hd hlen

/-- … hence the transcribed C routine returns the Lebesgue measure of the union of the boxes, in every dimension. -/
theorem hvC_eq_volume (ref : List ℚ) (data : List (List ℚ)) (hd : 1 ≤ ref.length)
    (hlen : ∀ p ∈ data, p.length = ref.length) :
    ∃ v : ℚ, HvC.fpliHv data ref = some v ∧
      volume (⋃ p ∈ data, Set.pi Set.univ
        (fun j : Fin ref.length => Set.Ico (((p.getD j 0 : ℚ)) : ℝ) (((ref.getD j 0 : ℚ)) : ℝ))) = ENNReal.ofReal (v : ℝ) :=
  ⟨hvCells ref data, hvC_eq_hvCells_all ref data hd hlen, hvCells_eq_volume ref data⟩

example : 1 ≤ ([4, 4, 4, 4] : List ℚ).length ∧
    (∀ p ∈ ([[1, 2, 3, 0], [2, 1, 0, 3]] : List (List ℚ)), p.length = ([4, 4, 4, 4] : List ℚ).length) := by decide

/-- **`hvC_total`: totality in every dimension** — with the fuel `n + 2` that `fpliHvSt` supplies, no pointer-following
loop of the transcription runs out of fuel, on any input of any dimension (in particular the loop l.855-857 of the
re-entered 3-D base case always finds a node with `domr ≥ bound[2]`). -/
theorem hvC_total : hvC_total_Statement := by
  intro ref data hd hlen
  exact ⟨_, hvC_eq_hvCells_all ref data hd hlen⟩

/-- **The abstraction of `avl_search_closest` is not observable.**  `HvC.Admissible C search` says what a descent
through any search tree over the ordered sequence can answer: a neighbour of the insertion position together with
its side (successor with `-1`, or predecessor with `+1`).  On a tree that is a staircase (what the 3-D sweep keeps),
the body of the main loop l.899-989 returns the same value, area and state for EVERY admissible search as for the
walk `HvC.searchClosest` used by the model — so nothing about the shape of the AVL tree enters the result. -/
theorem hvC_search_choice (C : HvC.Cargo) (R : List ℚ) (search : HvC.St → ℚ × ℚ → ℕ × ℤ) (hadm : HvC.Admissible C search)
    (tfuel pp : ℕ) (hyperv hypera : ℚ) (S : HvC.St)
    (hne : S.tree ≠ []) (hnd : S.tree.Nodup) (h0 : 0 ∉ S.tree) (hpp : pp ∉ S.tree)
    (hst : HvC.Stair (S.tree.map (HvC.item C))) :
    HvC.sweepBodyWith search C R tfuel pp hyperv hypera S = HvC.sweepBody C R tfuel pp hyperv hypera S := by
  obtain ⟨As, B, hT, hAs, hB⟩ := HvC.stair_split C (HvC.item C pp) S.tree hst
  rw [HvC.sweepBody, HvC.sweepBodyWith_eq C R hadm tfuel pp hyperv hypera S As B hT hne hnd h0 hpp hAs hB,
    HvC.sweepBodyWith_eq C R (HvC.admissible_searchClosest C) tfuel pp hyperv hypera S As B hT hne hnd h0 hpp hAs hB]

/-- the walk of the model is itself admissible (so the hypothesis of `hvC_search_choice` is satisfiable) -/
theorem hvC_search_walk_admissible (C : HvC.Cargo) : HvC.Admissible C (HvC.searchClosest C) :=
  HvC.admissible_searchClosest C

example : ∃ (C : HvC.Cargo) (search : HvC.St → ℚ × ℚ → ℕ × ℤ) (S : HvC.St), HvC.Admissible C search ∧
    S.tree ≠ [] ∧ S.tree.Nodup ∧ 0 ∉ S.tree ∧ 3 ∉ S.tree ∧ HvC.Stair (S.tree.map (HvC.item C)) := by
  refine ⟨[[], [0, 2, 0], [1, 1, 1], [2, 0, 2]], HvC.searchClosest _, { HvC.initSt 3 3 with tree := [1, 2] },
    hvC_search_walk_admissible _, by decide, by decide, by decide, by decide, by unfold HvC.Stair; decide⟩

/-- the update formula of l.955-982 in isolation: replacing the run `D` of staircase members dominated by the new
point `p` changes the strip sum by `−Σ_D (y_prev − y_e)(x_next − x_e) + (y_prev(p) − y_p)(x_next − x_p)`. -/
theorem hvC_staircase_update (r₀ r₁ : ℚ) (A D B : List (ℚ × ℚ)) (p : ℚ × ℚ) :
    HvC.hArea r₀ r₁ (A ++ p :: B)
      = HvC.hArea r₀ r₁ (A ++ D ++ B) - HvC.hArea (HvC.headX r₀ B) (HvC.lastY r₁ A) D
        + (HvC.lastY r₁ A - p.2) * (HvC.headX r₀ B - p.1) :=
  HvC.area_update r₀ r₁ A D B p

/-- the strip sum kept in `hypera` is the area dominated by the staircase in the tree -/
theorem hvC_staircase_area (r₀ r₁ : ℚ) (T : List (ℚ × ℚ)) (hs : HvC.Stair T) (hle : ∀ t ∈ T, t.1 ≤ r₀ ∧ t.2 ≤ r₁) :
    HvC.hArea r₀ r₁ T = hvCells [r₀, r₁] (T.map toPt) :=
  HvC.stair_area r₀ r₁ T hs hle

example : HvC.Stair [((0 : ℚ), (2 : ℚ)), (1, 1), (2, 0)] ∧
    ∀ t ∈ [((0 : ℚ), (2 : ℚ)), (1, 1), (2, 0)], t.1 ≤ (3 : ℚ) ∧ t.2 ≤ (3 : ℚ) := by
  unfold HvC.Stair
  decide

end C15
