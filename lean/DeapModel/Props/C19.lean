/-
C19 — Penalty decorators leave feasible fitness intact and never reward infeasibility.
Property theorems only; the model is `DeapModel/Core/Penalty.lean`, helper lemmas are in
`DeapModel/Lemmas/C19.lean` (and `DeapModel/Lemmas/C01Class.lean` for the class-family theorems).

All theorems hold for every linearly ordered ring `α` (so for ℚ, ℝ, ℤ), every type `X` of
individuals, every type `A` of forwarded extra arguments, every feasibility / distance /
closest-point / evaluation function and every number of objectives.  `sgn w = if 0 ≤ w then 1 else -1`
is the code's reading of a weight: a zero weight is treated as `+1`.
-/
import DeapModel.Lemmas.C19
import DeapModel.Lemmas.C19Gen   -- helper lemmas of the translator tie (GenEq/C19.lean.tmpl)
import DeapModel.Lemmas.C01Class

set_option linter.unusedSectionVars false

namespace C19
open Penalty

variable {α : Type} [Ring α] [LinearOrder α] [IsStrictOrderedRing α] {X A : Type}

/-- For a feasible individual `DeltaPenalty` returns exactly what the undecorated function
returns and calls it exactly once, on that individual, with the extra arguments forwarded. -/
theorem feasible_passthrough_delta (feas : X → Bool) (delta : SV α) (dist : Option (X → SV α))
    (weights : X → List α) (f : X → A → List α) (x : X) (a : A) (h : feas x = true) :
    deltaPenalty feas delta dist weights f x a = ⟨some (f x a), [(x, a)]⟩ := by
  rw [deltaPenalty, if_pos h]

/-- Same for `ClosestValidPenalty`: the closest-point function plays no role. -/
theorem feasible_passthrough_closest (feas : X → Bool) (closest : X → X) (alpha : α)
    (dist : Option (X → X → SV α)) (weights : X → List α) (f : X → A → List α) (x : X) (a : A)
    (h : feas x = true) :
    closestValidPenalty feas closest alpha dist weights f x a = ⟨some (f x a), [(x, a)]⟩ := by
  rw [closestValidPenalty, if_pos h]

/-- The evaluation function is not called for an infeasible individual, and a fitness is
returned (no exception). -/
theorem delta_no_call (feas : X → Bool) (delta : SV α) (dist : Option (X → SV α))
    (weights : X → List α) (f : X → A → List α) (x : X) (a : A) (h : feas x = false) :
    (deltaPenalty feas delta dist weights f x a).calls = [] ∧
    (deltaPenalty feas delta dist weights f x a).result.isSome = true := by
  rw [deltaPenalty_infeasible _ _ _ _ _ _ _ h]; exact ⟨rfl, rfl⟩

/-- Exact characterisation of every returned objective: position `i` of the result exists
iff the constant, the weight and the distance all have an `i`-th item (`zip`), and then it is
`δᵢ − sgn(wᵢ)·dᵢ`, where `dᵢ` is `0` without a distance function, the scalar returned by it,
or the `i`-th item of the vector returned by it. -/
theorem delta_formula (feas : X → Bool) (delta : SV α) (dist : Option (X → SV α))
    (weights : X → List α) (f : X → A → List α) (x : X) (a : A) (h : feas x = false) :
    ∃ r, (deltaPenalty feas delta dist weights f x a).result = some r ∧
      ∀ i p, r[i]? = some p ↔
        ∃ δi wi di, delta.get? i = some δi ∧ (weights x)[i]? = some wi ∧
          (deltaDists dist (weights x) x).get? i = some di ∧ p = δi - sgn wi * di :=
  ⟨_, congrArg Out.result (deltaPenalty_infeasible feas delta dist weights f x a h),
    fun i p => penalised_getElem? _ delta _ _ i p⟩

/-- One value per objective when the constants and the distances are well-sized (a scalar, or a
vector with one entry per objective). -/
theorem delta_length (feas : X → Bool) (delta : SV α) (dist : Option (X → SV α))
    (weights : X → List α) (f : X → A → List α) (x : X) (a : A) (h : feas x = false)
    (hδ : ∀ v, delta = .seq v → v.length = (weights x).length)
    (hd : ∀ d v, dist = some d → d x = .seq v → v.length = (weights x).length) :
    ∃ r, (deltaPenalty feas delta dist weights f x a).result = some r ∧
      r.length = (weights x).length := by
  refine ⟨_, congrArg Out.result (deltaPenalty_infeasible feas delta dist weights f x a h),
    penalised_length _ delta _ _ hδ ?_⟩
  cases dist with
  | none => rintro v ⟨⟩; exact List.length_map _
  | some d => exact fun v hv => hd d v rfl hv

/-- Without a distance function the penalised fitness is the constant itself. -/
theorem delta_formula_no_distance (feas : X → Bool) (delta : SV α)
    (weights : X → List α) (f : X → A → List α) (x : X) (a : A) (h : feas x = false) :
    ∃ r, (deltaPenalty feas delta none weights f x a).result = some r ∧
      ∀ i δi, i < (weights x).length → delta.get? i = some δi → r[i]? = some δi := by
  obtain ⟨r, hr, hf⟩ := delta_formula feas delta none weights f x a h
  refine ⟨r, hr, fun i δi hi hδ => ?_⟩
  rw [hf]
  exact ⟨δi, (weights x)[i], 0, hδ, List.getElem?_eq_getElem hi,
    by simp [deltaDists, SV.get?, hi], by simp⟩

/-- The evaluation function is called exactly once, on the supplied closest feasible point,
with the extra arguments forwarded — whether or not the sizes match. -/
theorem closest_calls (feas : X → Bool) (closest : X → X) (alpha : α)
    (dist : Option (X → X → SV α)) (weights : X → List α) (f : X → A → List α) (x : X) (a : A)
    (h : feas x = false) :
    (closestValidPenalty feas closest alpha dist weights f x a).calls = [(closest x, a)] := by
  rw [closestValidPenalty_infeasible _ _ _ _ _ _ _ _ h]; split <;> rfl

/-- Exact characterisation of every returned objective when the evaluation function returns one
value per weight: `fᵢ(valid x) − sgn(wᵢ)·α·dᵢ`, the distance function being asked for
`(valid x, x)`. -/
theorem closest_formula (feas : X → Bool) (closest : X → X) (alpha : α)
    (dist : Option (X → X → SV α)) (weights : X → List α) (f : X → A → List α) (x : X) (a : A)
    (h : feas x = false) (hlen : (f (closest x) a).length = (weights x).length) :
    (closestValidPenalty feas closest alpha dist weights f x a).calls = [(closest x, a)] ∧
    ∃ r, (closestValidPenalty feas closest alpha dist weights f x a).result = some r ∧
      ∀ i p, r[i]? = some p ↔
        ∃ fi wi di, (f (closest x) a)[i]? = some fi ∧ (weights x)[i]? = some wi ∧
          (closestDists dist (weights x) (closest x) x).get? i = some di ∧
          p = fi - sgn wi * alpha * di := by
  rw [closestValidPenalty_infeasible _ _ _ _ _ _ _ _ h, if_pos hlen]
  exact ⟨rfl, _, rfl, fun i p => penalised_getElem? _ (.seq (f (closest x) a)) _ _ i p⟩

/-- One value per objective when the distances are well-sized. -/
theorem closest_length (feas : X → Bool) (closest : X → X) (alpha : α)
    (dist : Option (X → X → SV α)) (weights : X → List α) (f : X → A → List α) (x : X) (a : A)
    (h : feas x = false) (hlen : (f (closest x) a).length = (weights x).length)
    (hd : ∀ d v, dist = some d → d (closest x) x = .seq v → v.length = (weights x).length) :
    ∃ r, (closestValidPenalty feas closest alpha dist weights f x a).result = some r ∧
      r.length = (weights x).length := by
  rw [closestValidPenalty_infeasible _ _ _ _ _ _ _ _ h, if_pos hlen]
  refine ⟨_, rfl, penalised_length _ (.seq (f (closest x) a)) _ _ (by rintro v ⟨⟩; exact hlen) ?_⟩
  cases dist with
  | none => rintro v ⟨⟩; exact List.length_map _
  | some d => exact fun v hv => hd d v rfl hv

/-- The code's guard (constraint.py:128-129): a fitness of the wrong size is rejected with an
exception, after the single call on the closest point. -/
theorem closest_size_mismatch (feas : X → Bool) (closest : X → X) (alpha : α)
    (dist : Option (X → X → SV α)) (weights : X → List α) (f : X → A → List α) (x : X) (a : A)
    (h : feas x = false) (hlen : (f (closest x) a).length ≠ (weights x).length) :
    closestValidPenalty feas closest alpha dist weights f x a = ⟨none, [(closest x, a)]⟩ := by
  rw [closestValidPenalty_infeasible _ _ _ _ _ _ _ _ h, if_neg hlen]

/-- With non-negative distances the penalised fitness is on no objective better than the
constant: in weighted terms `wᵢ·penᵢ ≤ wᵢ·δᵢ` for every sign and magnitude of `wᵢ` (zero included),
i.e. not above `δᵢ` for a maximised (or zero-weight) objective and not below it for a minimised one. -/
theorem never_better_delta (feas : X → Bool) (delta : SV α) (dist : Option (X → SV α))
    (weights : X → List α) (f : X → A → List α) (x : X) (a : A) (h : feas x = false)
    (hd : ∀ d, dist = some d → ∀ v ∈ (d x).vals, 0 ≤ v)
    (r : List α) (hr : (deltaPenalty feas delta dist weights f x a).result = some r)
    (i : Nat) (p δi wi : α) (hp : r[i]? = some p) (hδ : delta.get? i = some δi)
    (hw : (weights x)[i]? = some wi) :
    wi * p ≤ wi * δi ∧ (0 ≤ wi → p ≤ δi) ∧ (wi < 0 → δi ≤ p) := by
  rw [deltaPenalty_infeasible _ _ _ _ _ _ _ h] at hr
  obtain rfl := Option.some.inj hr
  rw [penalised_getElem?, hδ, hw] at hp
  obtain ⟨_, _, di, ⟨⟩, ⟨⟩, hdi, rfl⟩ := hp
  refine penalty_never_better _ _ _ ?_
  cases dist with
  | none => exact (zeros_get? hdi).ge
  | some d => exact hd d rfl di (get?_mem_vals hdi)

/-- With `α ≥ 0` and non-negative distances the penalised fitness is on no objective better
than the fitness of the closest valid point. -/
theorem never_better_closest (feas : X → Bool) (closest : X → X) (alpha : α)
    (dist : Option (X → X → SV α)) (weights : X → List α) (f : X → A → List α) (x : X) (a : A)
    (h : feas x = false) (hα : 0 ≤ alpha)
    (hd : ∀ d, dist = some d → ∀ v ∈ (d (closest x) x).vals, 0 ≤ v)
    (r : List α) (hr : (closestValidPenalty feas closest alpha dist weights f x a).result = some r)
    (i : Nat) (p fi wi : α) (hp : r[i]? = some p) (hfi : (f (closest x) a)[i]? = some fi)
    (hw : (weights x)[i]? = some wi) :
    wi * p ≤ wi * fi ∧ (0 ≤ wi → p ≤ fi) ∧ (wi < 0 → fi ≤ p) := by
  obtain rfl := closestValidPenalty_result feas closest alpha dist weights f x a h r hr
  rw [penalised_getElem?, SV.get?, hfi, hw] at hp
  obtain ⟨_, _, di, ⟨⟩, ⟨⟩, hdi, rfl⟩ := hp
  simp only [mul_assoc]
  refine penalty_never_better _ _ _ (mul_nonneg hα ?_)
  cases dist with
  | none => exact (zeros_get? hdi).ge
  | some d => exact hd d rfl di (get?_mem_vals hdi)

/-- Two distance functions that differ at `x`: where the `i`-th distance is larger, the `i`-th penalised objective is
no better. -/
theorem monotone_in_distance_delta (feas : X → Bool) (delta : SV α) (dist dist' : Option (X → SV α))
    (weights : X → List α) (f : X → A → List α) (x : X) (a : A) (h : feas x = false)
    (r r' : List α) (hr : (deltaPenalty feas delta dist weights f x a).result = some r)
    (hr' : (deltaPenalty feas delta dist' weights f x a).result = some r')
    (i : Nat) (p p' wi di di' : α) (hp : r[i]? = some p) (hp' : r'[i]? = some p')
    (hw : (weights x)[i]? = some wi)
    (hdi : (deltaDists dist (weights x) x).get? i = some di)
    (hdi' : (deltaDists dist' (weights x) x).get? i = some di') (hle : di ≤ di') :
    wi * p' ≤ wi * p ∧ (0 ≤ wi → p' ≤ p) ∧ (wi < 0 → p ≤ p') := by
  rw [deltaPenalty_infeasible _ _ _ _ _ _ _ h] at hr
  rw [deltaPenalty_infeasible _ _ _ _ _ _ _ h] at hr'
  obtain rfl := Option.some.inj hr
  obtain rfl := Option.some.inj hr'
  rw [penalised_getElem?, hw, hdi] at hp
  rw [penalised_getElem?, hw, hdi'] at hp'
  obtain ⟨δi, _, _, hδ, ⟨⟩, ⟨⟩, rfl⟩ := hp
  obtain ⟨_, _, _, hδ', ⟨⟩, ⟨⟩, rfl⟩ := hp'
  cases hδ.symm.trans hδ'
  exact penalty_mono _ _ _ _ hle

/-- Same for the closest-valid decorator, for every `α ≥ 0`. -/
theorem monotone_in_distance_closest (feas : X → Bool) (closest : X → X) (alpha : α)
    (dist dist' : Option (X → X → SV α)) (weights : X → List α) (f : X → A → List α) (x : X) (a : A)
    (h : feas x = false) (hα : 0 ≤ alpha)
    (r r' : List α)
    (hr : (closestValidPenalty feas closest alpha dist weights f x a).result = some r)
    (hr' : (closestValidPenalty feas closest alpha dist' weights f x a).result = some r')
    (i : Nat) (p p' wi di di' : α) (hp : r[i]? = some p) (hp' : r'[i]? = some p')
    (hw : (weights x)[i]? = some wi)
    (hdi : (closestDists dist (weights x) (closest x) x).get? i = some di)
    (hdi' : (closestDists dist' (weights x) (closest x) x).get? i = some di') (hle : di ≤ di') :
    wi * p' ≤ wi * p ∧ (0 ≤ wi → p' ≤ p) ∧ (wi < 0 → p ≤ p') := by
  obtain rfl := closestValidPenalty_result feas closest alpha dist weights f x a h r hr
  obtain rfl := closestValidPenalty_result feas closest alpha dist' weights f x a h r' hr'
  rw [penalised_getElem?, hw, hdi] at hp
  rw [penalised_getElem?, hw, hdi'] at hp'
  obtain ⟨fi, _, _, hf, ⟨⟩, ⟨⟩, rfl⟩ := hp
  obtain ⟨_, _, _, hf', ⟨⟩, ⟨⟩, rfl⟩ := hp'
  cases hf.symm.trans hf'
  simp only [mul_assoc]
  exact penalty_mono _ _ _ _ (mul_le_mul_of_nonneg_left hle hα)

/-- The decorated function has no memory and looks at nothing but the individual it is called on:
two configurations (feasibility, distance, weights, closest point, evaluation function — e.g. the
same decorator instance before and after any number of other calls, or called on individuals of
other fitness classes) that agree AT `x` return the same fitness and the same call log.  Hence a
sequence of calls through one decorator instance is the list of the independent single calls, and
any dependence of the implementation on earlier calls contradicts the model. -/
theorem decorators_stateless (delta : SV α) (alpha : α) (x : X) (a : A)
    (feas feas' : X → Bool) (weights weights' : X → List α) (f f' : X → A → List α)
    (dist dist' : Option (X → SV α)) (closest closest' : X → X) (dist2 dist2' : Option (X → X → SV α))
    (hfe : feas x = feas' x) (hw : weights x = weights' x) (hf : f x a = f' x a)
    (hd : dist.map (· x) = dist'.map (· x))
    (hc : closest x = closest' x) (hfc : f (closest x) a = f' (closest x) a)
    (hd2 : dist2.map (· (closest x) x) = dist2'.map (· (closest x) x)) :
    deltaPenalty feas delta dist weights f x a = deltaPenalty feas' delta dist' weights' f' x a ∧
    closestValidPenalty feas closest alpha dist2 weights f x a =
      closestValidPenalty feas' closest' alpha dist2' weights' f' x a := by
  constructor
  · simp only [deltaPenalty, deltaDists_eq, ← hfe, ← hw, ← hf, hd]
  · simp only [closestValidPenalty, closestDists_eq, ← hfe, ← hw, ← hc, ← hfc, ← hf, hd2]

/-- One decorator object decorating several functions (`toolbox.decorate` called twice with the
same object): a decorated function is a pure function of (decorator parameters, wrapped function,
arguments), so the `j`-th wrapper is the decoration of the `j`-th function and of nothing else —
whatever else was decorated before or after, and whatever fitness is stored on the individual or
on the closest point (the model has no such input). -/
theorem wrappers_independent (feas : X → Bool) (delta : SV α) (dist : Option (X → SV α))
    (closest : X → X) (alpha : α) (dist2 : Option (X → X → SV α)) (weights : X → List α)
    (fs : List (X → A → List α)) (j : Nat) (hj : j < fs.length) (x : X) (a : A) :
    ((fs.map fun f => deltaPenalty feas delta dist weights f)[j]'(by simpa using hj)) x a =
      deltaPenalty feas delta dist weights fs[j] x a ∧
    ((fs.map fun f => closestValidPenalty feas closest alpha dist2 weights f)[j]'(by simpa using hj)) x a =
      closestValidPenalty feas closest alpha dist2 weights fs[j] x a := by
  simp

section Classes
open Fitness

/-- **Class isolation.**  The penalised value (and the call log) of an individual depends on the world of fitness
classes only through the weights its OWN class resolves to: two class tables (e.g. before and after other classes
were created) and two class assignments under which the class of `x` resolves to the same weights give the same
outcome, for both decorators — whatever any other class (parent, child, sibling) declares, and whichever individuals
of those classes went through a decorator before (a decorated call returns no new table: `runHistory`). -/
theorem penalty_class_isolation (tbl tbl' : ClassTable α) (cls cls' : X → Nat) (feas : X → Bool) (delta : SV α)
    (dist : Option (X → SV α)) (closest : X → X) (alpha : α) (dist2 : Option (X → X → SV α))
    (f : X → A → List α) (x : X) (a : A)
    (h : lookupWeights tbl (cls x) = lookupWeights tbl' (cls' x)) :
    deltaPenaltyCls tbl cls feas delta dist f x a = deltaPenaltyCls tbl' cls' feas delta dist f x a ∧
    closestValidPenaltyCls tbl cls feas closest alpha dist2 f x a =
      closestValidPenaltyCls tbl' cls' feas closest alpha dist2 f x a := by
  simp [deltaPenaltyCls, closestValidPenaltyCls, h]

/-- A class that declares its own `weights` is penalised with them, whatever its parent (or any ancestor) declares:
the derived class `creator.create("MinMax", creator.MinMin, weights=(-1, 1))` moves its second objective DOWN. -/
theorem penalty_class_own_weights (tbl : ClassTable α) (cls : X → Nat) (w : List α) (p : Option Nat)
    (feas : X → Bool) (delta : SV α) (dist : Option (X → SV α)) (closest : X → X) (alpha : α)
    (dist2 : Option (X → X → SV α)) (f : X → A → List α) (x : X) (a : A)
    (h : tbl[cls x]? = some ⟨some w, p⟩) :
    deltaPenaltyCls tbl cls feas delta dist f x a = some (deltaPenalty feas delta dist (fun _ => w) f x a) ∧
    closestValidPenaltyCls tbl cls feas closest alpha dist2 f x a =
      some (closestValidPenalty feas closest alpha dist2 (fun _ => w) f x a) := by
  simp [deltaPenaltyCls, closestValidPenaltyCls, C01.lookupWeights_own tbl (cls x) w p h]

/-- A class that declares no `weights` is penalised exactly as an individual of its parent class would be. -/
theorem penalty_class_inherits (tbl : ClassTable α) (hwf : C01.TableWF tbl) (cls cls' : X → Nat) (p : Nat)
    (feas : X → Bool) (delta : SV α) (dist : Option (X → SV α)) (closest : X → X) (alpha : α)
    (dist2 : Option (X → X → SV α)) (f : X → A → List α) (x : X) (a : A)
    (h : tbl[cls x]? = some ⟨none, some p⟩) (hp : cls' x = p) :
    deltaPenaltyCls tbl cls feas delta dist f x a = deltaPenaltyCls tbl cls' feas delta dist f x a ∧
    closestValidPenaltyCls tbl cls feas closest alpha dist2 f x a =
      closestValidPenaltyCls tbl cls' feas closest alpha dist2 f x a :=
  penalty_class_isolation tbl tbl cls cls' feas delta dist closest alpha dist2 f x a
    (by rw [C01.lookupWeights_inherit tbl hwf (cls x) p h, hp])

/-- Classes created later (a derived class, a sibling) change nothing for the individuals of an existing class. -/
theorem penalty_class_later_classes (tbl ext : ClassTable α) (hwf : C01.TableWF tbl) (cls : X → Nat)
    (feas : X → Bool) (delta : SV α) (dist : Option (X → SV α)) (closest : X → X) (alpha : α)
    (dist2 : Option (X → X → SV α)) (f : X → A → List α) (x : X) (a : A) (hc : cls x < tbl.length) :
    deltaPenaltyCls (tbl ++ ext) cls feas delta dist f x a = deltaPenaltyCls tbl cls feas delta dist f x a ∧
    closestValidPenaltyCls (tbl ++ ext) cls feas closest alpha dist2 f x a =
      closestValidPenaltyCls tbl cls feas closest alpha dist2 f x a :=
  penalty_class_isolation (tbl ++ ext) tbl cls cls feas delta dist closest alpha dist2 f x a
    (C01.lookupWeights_append tbl ext hwf (cls x) hc)

/-- **Histories.**  The outcome of the `j`-th call of a history (any decorators of either class, any decorated
functions, individuals of any classes of the family) is the outcome of that call made alone: it does not depend on
which calls came before it, in which order the classes were first used, or on how many calls there were. -/
theorem penalty_history_independent (tbl : ClassTable α) (cls : X → Nat) (h : List (HCall X A α)) (j : Nat)
    (hj : j < h.length) :
    (runHistory tbl cls h)[j]? = some (h[j].run tbl cls) ∧
    ∀ (h' : List (HCall X A α)) (j' : Nat), h'[j']? = some h[j] → (runHistory tbl cls h')[j']? = (runHistory tbl cls h)[j]? := by
  refine ⟨by simp [runHistory, hj], fun h' j' e => ?_⟩
  simp [runHistory, hj, e]

end Classes

/-- The extras are `*args` and the keyword MAP `**kwargs` (names `String`, values `V`).  For a feasible individual
both decorators return what the undecorated function returns when called the same way and call it once with the
same positional arguments and a keyword map in which EVERY name — `verbose`, `func`, `self`, `alpha`, any string —
has the value the caller gave it (and no name was added); for an infeasible individual `ClosestValidPenalty`
evaluates the closest point with that same map. -/
theorem feasible_passthrough_kwargs {P V : Type} (feas : X → Bool) (delta : SV α) (dist : Option (X → SV α))
    (closest : X → X) (alpha : α) (dist2 : Option (X → X → SV α)) (weights : X → List α)
    (f : X → (List P × List (String × V)) → List α) (x : X) (args : List P) (kw : List (String × V)) :
    (feas x = true →
      deltaPenalty feas delta dist weights f x (args, kw) = ⟨some (f x (args, kw)), [(x, (args, kw))]⟩ ∧
      closestValidPenalty feas closest alpha dist2 weights f x (args, kw) = ⟨some (f x (args, kw)), [(x, (args, kw))]⟩) ∧
    (∀ c ∈ (deltaPenalty feas delta dist weights f x (args, kw)).calls ++
        (closestValidPenalty feas closest alpha dist2 weights f x (args, kw)).calls,
      c.2.1 = args ∧ c.2.2 = kw ∧ ∀ name : String, c.2.2.lookup name = kw.lookup name) := by
  refine ⟨fun h => ⟨feasible_passthrough_delta feas delta dist weights f x _ h,
    feasible_passthrough_closest feas closest alpha dist2 weights f x _ h⟩, ?_⟩
  intro c hc
  have key : c.2 = (args, kw) := by
    cases h : feas x
    · have h1 := (delta_no_call feas delta dist weights f x (args, kw) h).1
      have h2 := closest_calls feas closest alpha dist2 weights f x (args, kw) h
      rw [h1, h2] at hc
      simp at hc; rw [hc]
    · rw [feasible_passthrough_delta feas delta dist weights f x _ h,
        feasible_passthrough_closest feas closest alpha dist2 weights f x _ h] at hc
      simp at hc; rw [hc]
  rw [key]; exact ⟨rfl, rfl, fun _ => rfl⟩

/-! ### Non-vacuity: concrete instances (weights of both signs and zero, scalar / vector
constants and distances, a forwarded extra argument) -/

-- infeasible, scalar constant, vector distance, weights (+, −, 0): δ − d, δ + d, δ − d; no call
example : deltaPenalty (fun _ => false) (.scalar (10 : Int)) (some fun _ => .seq [1, 2, 3])
    (fun _ => [2, -3, 0]) (fun (_ : Nat) (_ : Nat) => [0, 0, 0]) 7 5 = ⟨some [9, 12, 7], []⟩ := by
  decide
-- infeasible, per-objective constants, scalar distance
example : deltaPenalty (fun _ => false) (.seq [10, 20]) (some fun _ => .scalar (4 : Int))
    (fun _ => [1, -1]) (fun (_ : Nat) (_ : Nat) => [0, 0]) 7 5 = ⟨some [6, 24], []⟩ := by decide
-- infeasible, no distance function
example : deltaPenalty (fun _ => false) (.seq [10, 20]) (none : Option (Nat → SV Int))
    (fun _ => [1, -1]) (fun (_ : Nat) (_ : Nat) => [0, 0]) 7 5 = ⟨some [10, 20], []⟩ := by decide
-- feasible: untouched result, one call with the extra argument 5
example : deltaPenalty (fun _ => true) (.scalar (10 : Int)) (some fun _ => .scalar 4)
    (fun _ => [1, -1]) (fun (x : Nat) (a : Nat) => [x, a]) 7 5 = ⟨some [7, 5], [(7, 5)]⟩ := by decide
-- closest valid: f is called on `closest x = x + 100` only; α = 2, d = (3, 3)
example : closestValidPenalty (fun _ => false) (· + 100) (2 : Int) (some fun _ _ => .scalar 3)
    (fun _ => [1, -1]) (fun (x : Nat) (a : Nat) => [x, a]) 7 5 = ⟨some [101, 11], [(107, 5)]⟩ := by
  decide
-- the distance function is asked for (closest x, x), in this order
example : closestValidPenalty (fun _ => false) (· + 100) (1 : Int)
    (some fun (c y : Nat) => .seq [(c : Int), (y : Int)])
    (fun _ => [1, -1]) (fun (_ : Nat) (_ : Nat) => [0, 0]) 7 5 = ⟨some [-107, 7], [(107, 5)]⟩ := by
  decide
-- the size guard
example : closestValidPenalty (fun _ => false) (· + 100) (1 : Int) none
    (fun _ => [1, -1]) (fun (x : Nat) (_ : Nat) => [x]) 7 5 = ⟨none, [(107, 5)]⟩ := by decide
-- `decorators_stateless`: two configurations that differ away from x = 7 but agree there
example : deltaPenalty (fun y => decide (y < 5)) (.scalar (10 : Int)) (some fun (y : Nat) => .scalar (y : Int))
      (fun y => if y = 7 then [1, -1] else [-1]) (fun (y : Nat) (_ : Nat) => [y, y]) 7 5 =
    deltaPenalty (fun _ => false) (.scalar (10 : Int)) (some fun _ => .scalar 7)
      (fun _ => [1, -1]) (fun (_ : Nat) (_ : Nat) => [7, 7]) 7 5 := by decide
-- `wrappers_independent`: three functions behind one decorator, the middle wrapper uses the middle one
example : (([fun (y : Nat) (_ : Nat) => [(y : Int)], fun y a => [(y + a : Nat)], fun _ _ => [0]].map
      fun f => deltaPenalty (fun _ => true) (.scalar (10 : Int)) none (fun _ => [1]) f)[1]) 7 5 =
    ⟨some [12], [(7, 5)]⟩ := by decide
-- hypotheses of `never_better_*` / `delta_length`: non-negative distances, well-sized vectors
example : (∀ v ∈ (SV.seq [(1 : Int), 2, 3]).vals, 0 ≤ v) ∧ (∀ v ∈ (SV.scalar (0 : Int)).vals, 0 ≤ v) := by
  decide
-- `penalty_class_own_weights` on a family of three: parent (-1, -1), child overriding with (-1, 1), a grandchild inheriting
-- from the child; the table is well-formed; the child's second objective goes DOWN, whatever the parent declares
example : C01.TableWF ([⟨some [-1, -1], none⟩, ⟨some [-1, 1], some 0⟩, ⟨none, some 1⟩] : Fitness.ClassTable Int) :=
  C01.tableWF_of_lt _ (by decide)
example : (runHistory ([⟨some [-1, -1], none⟩, ⟨some [-1, 1], some 0⟩, ⟨none, some 1⟩] : Fitness.ClassTable Int)
      (fun (x : Nat) => x)
      [⟨false, fun _ => false, .scalar 100, some fun _ => .scalar 7, id, 0, none, fun _ (_ : Nat) => [0, 0], 0, 5⟩,
       ⟨false, fun _ => false, .seq [100, -100], some fun _ => .scalar 7, id, 0, none, fun _ _ => [0, 0], 1, 5⟩,
       ⟨true, fun _ => false, .scalar 0, none, id, 2, some fun _ _ => .scalar 7, fun _ _ => [3, 4], 2, 5⟩]).map
      (fun o => o.bind (·.result)) = [some [107, 107], some [107, -107], some [17, -10]] := by decide
-- `feasible_passthrough_kwargs`: a keyword named `verbose` arrives
example : (closestValidPenalty (fun _ => true) id (1 : Int) none (fun _ => [1])
      (fun (x : Nat) (a : List Nat × List (String × Nat)) => [(x : Int) + ((a.2.lookup "verbose").getD 0 : Nat)])
      7 ([], [("verbose", 2)])).result = some [9] := by decide

end C19
