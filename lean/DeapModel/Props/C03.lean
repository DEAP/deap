/-
C03 — Packaged evolutionary loops keep fitnesses, counts and logs truthful.
The model is `DeapModel/Core/Loops.lean` (eaSimple, eaMuPlusLambda, eaMuCommaLambda, eaGenerateUpdate of
`deap/algorithms.py`, `harm` of `deap/gp.py`).

All theorems hold for EVERY number of generations, EVERY decision tape (selections, variation decisions,
acceptance decisions), EVERY operator pair meeting C02's `OpContract`, EVERY pure `evaluate`.
They are stated for a run over an arbitrary list of generation steps; because a run over `a ++ b` is a run
over `a` followed by a run over `b` (`every_boundary`), every statement holds at EVERY generation boundary,
not only at the end.

Reading of the clauses:
* "every individual of the population carries a valid fitness equal to what evaluate returns"  → `truthful`
* "evaluate called exactly once for each individual new or changed, and for no other;
   that number is the nevals recorded"                     → `evals_exact`, `nevals_logged`
* "one record per generation 0..ngen in order"             → `log_shape` (0..ngen-1 for generate–update)
* "keeps its prescribed size"                              → the size clause of every `*_correct` (`runPop_correct_id` / `_const`)
* "updated in place"                                       → by construction: `LState.pop` IS the caller's list,
                                                             the only population variable of the machine
* "a hall of fame has been shown every evaluated individual" → `hof_fed`
* "μ+λ with truncation selection: best never gets worse"   → `plus_monotone`
* HARM-GP's acceptance arithmetic (not part of the statement, modelled for the replay): `harm_accept_prob_*`

Composition with the library components (`Core/LoopsCompose.lean`; second half of this file):
* the loops run with the C08 model of `HallOfFame(maxsize ≥ 1)`: "its best entry is at least as good as any
  fitness ever logged"                                     → `hof_best_ge_logged` (+`_gu`), `hof_best_never_worse`,
                                                             `hall_of_fame_never_blocks`
* the loops run with the C06 models of `selBest` / `selTournament` / `selRandom` as `toolbox.select`
                                                           → `eaSimpleC/eaMuPlusLambdaC/eaMuCommaLambdaC_correct`,
                                                             `plus_monotone_selBest`; the clause is FALSE for
                                                             μ,λ and for a tournament: `comma_not_monotone`,
                                                             `tournament_not_monotone`
* "the caller's population list is updated in place": list objects have identities
                                                           → `population_updated_in_place`,
                                                             `rebinding_is_not_in_place`
* eaGenerateUpdate's ask/tell protocol                     → `generate_update_protocol`
-/
import DeapModel.Lemmas.C03Harm
import DeapModel.Lemmas.C03ComposeList
import DeapModel.Lemmas.C03ComposeSel
import DeapModel.Lemmas.C03Gen   -- translator tie: lemmas of GenEq/C03.lean.tmpl (elaborated per run by the check)
import Mathlib.Analysis.Complex.ExponentialBounds

namespace C03
open Variation Loops

variable {σ : Type} {ops : Ops σ} {ev : List Int → List Int}

/-- What is assumed of the caller's arguments: the individuals exist, the ones that come with a fitness
carry the value `evaluate` gives for their genotype, the unevaluated ones are distinct objects, nothing has
been logged yet. -/
structure Init (ev : List Int → List Int) (s : LState) : Prop where
  alloc : ∀ p ∈ s.pop, p < s.st.next
  truthful : ∀ p ∈ s.pop, ∀ f, (s.st.heap p).fit = some f → f = ev (s.st.heap p).genome
  distinct : (invalidOf s.st.heap s.pop).Nodup
  log : s.log = []
  evals : s.evals = []
  shown : s.shown = []
  shownObj : s.shownObj = []

/-- evaluate = (sum of the genes) -/
def demoEv (g : List Int) : List Int := [g.foldl (· + ·) 0]

/-- three individuals; #0 pre-evaluated (truthfully: 1+2+3 = 6), #1 and #2 not evaluated -/
def demoHeap : Heap := fun o =>
  match o with
  | 0 => ⟨[1, 2, 3], some [6], none⟩
  | 1 => ⟨[4, 5, 6], none, none⟩
  | 2 => ⟨[7, 8, 9], none, none⟩
  | _ => ⟨[], none, none⟩

def demoState : LState := { st := { heap := demoHeap, next := 3 }, pop := [0, 1, 2] }

theorem demoInit : Init demoEv demoState where
  alloc := by decide
  truthful := by
    intro p hp f hf
    have hp' : p = 0 ∨ p = 1 ∨ p = 2 := by simpa [demoState] using hp
    rcases hp' with rfl | rfl | rfl
    · simp only [demoState, demoHeap, Option.some.injEq] at hf ⊢
      subst hf; decide
    · simp [demoState, demoHeap] at hf
    · simp [demoState, demoHeap] at hf
  distinct := by decide
  log := rfl
  evals := rfl
  shown := rfl
  shownObj := rfl

/-- two generations of eaSimple: selection picks positions 2,0,0; the first pair is mated, the third
offspring is an untouched copy in generation 1 and mutated in generation 2 -/
def demoSimple := eaSimple C02.demoOps demoEv
  [⟨[2, 0, 0], [true], [false, false, false]⟩, ⟨[0, 1, 2], [false], [false, false, true]⟩] () demoState

example : demoSimple.map (fun r => (r.2.pop, r.2.log, r.2.evals)) =
    some ([6, 7, 8], [(0, 2), (1, 2), (2, 1)], [(0, 1), (0, 2), (1, 3), (1, 4), (2, 8)]) := by decide
example : demoSimple.map (fun r => r.2.pop.map (fun o => (r.2.st.heap o).fit)) =
    some [some [12], some [18], some [-6]] := by decide +kernel

/-- one generation of μ+λ (μ = 2, λ = 3): crossover of positions 0,2, mutation of 1, reproduction of 2;
the selector picks candidates 2 and 5 (the old individual #2 and its untouched copy, both 24) -/
def demoPlusSel := eaMuPlusLambda C02.demoOps demoEv 2 3
  [⟨[Choice.cx 0 2, Choice.mutn 1, Choice.rep 2], [2, 5]⟩] () demoState

example : demoPlusSel.map (fun r => (r.2.pop, r.2.log, r.2.evals)) =
    some ([2, 6], [(0, 2), (1, 2)], [(0, 1), (0, 2), (1, 3), (1, 5)]) := by decide
example : demoPlusSel.map (fun r => r.2.pop.map (fun o => (r.2.st.heap o).fit)) =
    some [some [24], some [24]] := by decide

/-- the same generation with `toolbox.select = tools.selBest` -/
def demoPlus := eaMuPlusLambdaBest C02.demoOps demoEv 2 3
  [[Choice.cx 0 2, Choice.mutn 1, Choice.rep 2]] () demoState

/-- The state before the first generation satisfies the run invariant: after generation 0 for the
population-based loops. -/
theorem gen0_establishes (s : LState) (hi : Init ev s) : Inv ev 1 (gen0 ev s) :=
  gen0_inv ev s hi.alloc hi.truthful hi.distinct hi.log hi.evals

example : Init demoEv demoState := demoInit

/-- … and trivially for generate–update, which starts from an empty population and no generation 0. -/
theorem empty_establishes (st : St) : Inv ev 0 { st := st, pop := [] } where
  alloc := by simp
  truthful := by simp
  shownPop := by simp
  shownEvals := by simp
  evalsLt := by simp
  evalsNodup := by simp
  logGens := by simp
  logCount := by simp

/-- **Every generation boundary.**  A run of `a ++ b` generations passes through the state reached by the
run of `a`; so what is proved below about the final state holds after each generation. -/
theorem every_boundary (a b : List (Step σ)) (g : Nat) (t t' : σ) (s s' : LState)
    (h : runGens ev (a ++ b) g t s = some (t', s')) :
    ∃ t1 s1, runGens ev a g t s = some (t1, s1) ∧ runGens ev b (g + a.length) t1 s1 = some (t', s') := by
  rw [runGens_append] at h
  split at h
  · simp at h
  next t1 s1 h1 => exact ⟨t1, s1, h1, h⟩

/-- **Truthful fitnesses.**  After every generation every individual of the population carries a valid
fitness equal to `evaluate` of its current genotype. -/
theorem truthful (steps : List (Step σ)) (hc : ∀ stp ∈ steps, StepContract stp) (g : Nat) (t t' : σ)
    (s s' : LState) (hinv : Inv ev g s) (h : runGens ev steps g t s = some (t', s')) :
    ∀ p ∈ s'.pop, (s'.st.heap p).fit = some (ev (s'.st.heap p).genome) :=
  (runGens_inv steps g t t' s s' hc hinv h).truthful

/-- **Exact evaluation set, one generation.**  With `r` the offspring produced in generation `g`:
`evaluate` is called on exactly the offspring without a valid fitness (all offspring for generate–update),
in order, each once; `nevals = ` their number is what is recorded; every other offspring already carries the
fitness of the population member it is an exact copy of; nothing else is evaluated. -/
theorem evals_exact (stp : Step σ) (hc : StepContract stp) (g : Nat) (t t' : σ) (s s' : LState)
    (hinv : Inv ev g s) (h : generation ev stp g t s = some (t', s')) :
    ∃ r, stp.produce t s.st s.pop = some r ∧
      s'.evals = s.evals ++ (evalSet stp r).map (fun o => (g, o)) ∧
      (evalSet stp r).Nodup ∧
      s'.log = s.log ++ [(g, (evalSet stp r).length)] ∧
      (stp.evalAll = false → evalSet stp r = r.off.filter (fun o => (r.st.heap o).fit.isNone)) ∧
      (stp.evalAll = true → evalSet stp r = r.off) ∧
      (stp.evalAll = false → ∀ o ∈ r.off, o ∉ evalSet stp r →
        ∃ p ∈ s.pop, r.st.heap o = s.st.heap p ∧ s'.st.heap o = r.st.heap o) := by
  obtain ⟨r, u⟩ := generation_unfold h
  have hr := u.produce
  refine ⟨r, hr, u.evals, evalSet_nodup stp r (hc.nodup t s.st s.pop r hinv.alloc hr), u.log, ?_, ?_, ?_⟩
  · intro hall; simp [evalSet, hall, invalidOf]
  · intro hall; simp [evalSet, hall]
  · intro hall o ho hnot
    obtain ⟨p, hp, hcopy⟩ :=
      (hc.copy_or_invalid hall t s.st s.pop r hinv.alloc hr o ho).resolve_left (not_mem_evalSet ho hnot).2
    exact ⟨p, hp, hcopy, by rw [u.heap, assignFits_not_mem _ _ _ _ hnot]⟩

/-- **nevals.**  Every record `(gen, nevals)` of the logbook counts exactly the `evaluate` calls of its
generation, and no (generation, individual) pair is evaluated twice. -/
theorem nevals_logged (steps : List (Step σ)) (hc : ∀ stp ∈ steps, StepContract stp) (g : Nat) (t t' : σ)
    (s s' : LState) (hinv : Inv ev g s) (h : runGens ev steps g t s = some (t', s')) :
    (∀ rec ∈ s'.log, rec.2 = (s'.evals.filter (fun e => e.1 == rec.1)).length) ∧ s'.evals.Nodup :=
  ⟨(runGens_inv steps g t t' s s' hc hinv h).logCount, (runGens_inv steps g t t' s s' hc hinv h).evalsNodup⟩

/-- **Log shape**, population-based loops: one record per generation `0..ngen`, in order. -/
theorem log_shape (steps : List (Step σ)) (hc : ∀ stp ∈ steps, StepContract stp) (t t' : σ) (s s' : LState)
    (hi : Init ev s) (h : runPop ev steps t s = some (t', s')) :
    s'.log.map (·.1) = List.range (steps.length + 1) := by
  have := (runGens_inv steps 1 t t' _ s' hc (gen0_establishes s hi) h).logGens
  rw [this, Nat.add_comm]

/-- **Log shape**, generate–update: records `0..ngen-1` (no generation 0; DESIGN §6). -/
theorem log_shape_gu (steps : List (Step σ)) (hc : ∀ stp ∈ steps, StepContract stp) (t t' : σ) (st : St)
    (s' : LState) (h : runGU ev steps t { st := st, pop := [] } = some (t', s')) :
    s'.log.map (·.1) = List.range steps.length := by
  have := (runGens_inv steps 0 t t' _ s' hc (empty_establishes st) h).logGens
  rw [this, Nat.zero_add]

/-- **Hall of fame.**  Every individual `evaluate` was called on, and every member of the current
population, has been passed to `halloffame.update` (with C08: its best entry is at least as good as any
fitness ever present). -/
theorem hof_fed (steps : List (Step σ)) (hc : ∀ stp ∈ steps, StepContract stp) (g : Nat) (t t' : σ)
    (s s' : LState) (hinv : Inv ev g s) (h : runGens ev steps g t s = some (t', s')) :
    (∀ e ∈ s'.evals, e.2 ∈ s'.shown) ∧ (∀ p ∈ s'.pop, p ∈ s'.shown) :=
  ⟨(runGens_inv steps g t t' s s' hc hinv h).shownEvals, (runGens_inv steps g t t' s s' hc hinv h).shownPop⟩

/-- **The hall of fame is shown EVALUATED individuals** (population-based loops): every individual passed to
`halloffame.update` carried, at that moment, the fitness `evaluate` gives for the genotype it had then —
the evaluation block runs before the update, in generation 0 and in every later generation.  `shownObj` is
the same feed as `shown`, with the content of the individuals. -/
theorem hof_shown_evaluated (steps : List (Step σ)) (hc : ∀ stp ∈ steps, StepContract stp) (t t' : σ)
    (s s' : LState) (hi : Init ev s) (h : runPop ev steps t s = some (t', s')) :
    (∀ e ∈ s'.shownObj, e.2.fit = some (ev e.2.genome)) ∧ s'.shownObj.map (·.1) = s'.shown :=
  runGens_shown steps 1 t t' _ s' hc (gen0_establishes s hi)
    (gen0_shown ev s hi.truthful hi.shown hi.shownObj) h

/-- … and for generate–update. -/
theorem hof_shown_evaluated_gu (steps : List (Step σ)) (hc : ∀ stp ∈ steps, StepContract stp) (t t' : σ)
    (st : St) (s' : LState) (h : runGU ev steps t { st := st, pop := [] } = some (t', s')) :
    (∀ e ∈ s'.shownObj, e.2.fit = some (ev e.2.genome)) ∧ s'.shownObj.map (·.1) = s'.shown :=
  runGens_shown steps 0 t t' _ s' hc (empty_establishes st) ⟨by simp, rfl⟩ h

/-- **All of it, for any population-based loop**: a run of generation 0 and any generations whose steps meet the
contract ends truthful, with the records `0..ngen`, `nevals` exact, no pair evaluated twice and the hall of fame fed. -/
theorem runPop_correct (steps : List (Step σ)) (hc : ∀ stp ∈ steps, StepContract stp) (t t' : σ) (s s' : LState)
    (hi : Init ev s) (h : runPop ev steps t s = some (t', s')) :
    (∀ p ∈ s'.pop, (s'.st.heap p).fit = some (ev (s'.st.heap p).genome)) ∧
    s'.log.map (·.1) = List.range (steps.length + 1) ∧
    (∀ rec ∈ s'.log, rec.2 = (s'.evals.filter (fun e => e.1 == rec.1)).length) ∧ s'.evals.Nodup ∧
    (∀ e ∈ s'.evals, e.2 ∈ s'.shown) ∧ (∀ p ∈ s'.pop, p ∈ s'.shown) :=
  ⟨truthful steps hc 1 t t' _ s' (gen0_establishes s hi) h, log_shape steps hc t t' s s' hi h,
    (nevals_logged steps hc 1 t t' _ s' (gen0_establishes s hi) h).1,
    (nevals_logged steps hc 1 t t' _ s' (gen0_establishes s hi) h).2, hof_fed steps hc 1 t t' _ s' (gen0_establishes s hi) h⟩

theorem runPop_correct_id (steps : List (Step σ)) (hsc : ∀ stp ∈ steps, StepContract stp ∧ SizeIs stp id) (t t' : σ)
    (s s' : LState) (hi : Init ev s) (h : runPop ev steps t s = some (t', s')) :
    (∀ p ∈ s'.pop, (s'.st.heap p).fit = some (ev (s'.st.heap p).genome)) ∧
    s'.log.map (·.1) = List.range (steps.length + 1) ∧
    s'.pop.length = s.pop.length ∧
    (∀ rec ∈ s'.log, rec.2 = (s'.evals.filter (fun e => e.1 == rec.1)).length) ∧ s'.evals.Nodup ∧
    (∀ e ∈ s'.evals, e.2 ∈ s'.shown) ∧ (∀ p ∈ s'.pop, p ∈ s'.shown) :=
  have ⟨a, b, c⟩ := runPop_correct steps (fun x hx => (hsc x hx).1) t t' s s' hi h
  ⟨a, b, runGens_size_id steps 1 t t' (gen0 ev s) s' hsc (gen0_establishes s hi) h, c⟩

theorem runPop_correct_const (mu : Nat) (steps : List (Step σ))
    (hsc : ∀ stp ∈ steps, StepContract stp ∧ SizeIs stp (fun _ => mu)) (t t' : σ)
    (s s' : LState) (hi : Init ev s) (h : runPop ev steps t s = some (t', s')) :
    (∀ p ∈ s'.pop, (s'.st.heap p).fit = some (ev (s'.st.heap p).genome)) ∧
    s'.log.map (·.1) = List.range (steps.length + 1) ∧
    (steps ≠ [] → s'.pop.length = mu) ∧
    (∀ rec ∈ s'.log, rec.2 = (s'.evals.filter (fun e => e.1 == rec.1)).length) ∧ s'.evals.Nodup ∧
    (∀ e ∈ s'.evals, e.2 ∈ s'.shown) ∧ (∀ p ∈ s'.pop, p ∈ s'.shown) :=
  have ⟨a, b, c⟩ := runPop_correct steps (fun x hx => (hsc x hx).1) t t' s s' hi h
  ⟨a, b, fun hne => runGens_size_const mu steps 1 t t' _ s' hne hsc (gen0_establishes s hi) h, c⟩

/-- eaSimple, any `ngen`, any selection/variation decisions: truthful, log 0..ngen, size kept, nevals, hof. -/
theorem eaSimple_correct (hc : OpContract ops) (decs : List SimpleDec) (t t' : σ) (s s' : LState)
    (hi : Init ev s) (h : eaSimple ops ev decs t s = some (t', s')) :
    (∀ p ∈ s'.pop, (s'.st.heap p).fit = some (ev (s'.st.heap p).genome)) ∧
    s'.log.map (·.1) = List.range (decs.length + 1) ∧
    s'.pop.length = s.pop.length ∧
    (∀ rec ∈ s'.log, rec.2 = (s'.evals.filter (fun e => e.1 == rec.1)).length) ∧ s'.evals.Nodup ∧
    (∀ e ∈ s'.evals, e.2 ∈ s'.shown) ∧ (∀ p ∈ s'.pop, p ∈ s'.shown) := by
  simpa only [List.length_map] using runPop_correct_id (decs.map (simpleStep ops))
    (List.forall_mem_map.2 fun d _ => ⟨simpleStep_contract hc d, simpleStep_size d⟩) t t' s s' hi h

example : OpContract C02.demoOps ∧ Init demoEv demoState ∧ demoSimple.isSome = true :=
  ⟨C02.demoOps_contract, demoInit, by decide⟩

/-- eaMuPlusLambda: truthful, log 0..ngen, size μ after at least one generation, nevals, hof. -/
theorem eaMuPlusLambda_correct (hc : OpContract ops) (mu lam : Nat) (decs : List MuLamDec) (t t' : σ)
    (s s' : LState) (hi : Init ev s) (h : eaMuPlusLambda ops ev mu lam decs t s = some (t', s')) :
    (∀ p ∈ s'.pop, (s'.st.heap p).fit = some (ev (s'.st.heap p).genome)) ∧
    s'.log.map (·.1) = List.range (decs.length + 1) ∧
    (decs ≠ [] → s'.pop.length = mu) ∧
    (∀ rec ∈ s'.log, rec.2 = (s'.evals.filter (fun e => e.1 == rec.1)).length) ∧ s'.evals.Nodup ∧
    (∀ e ∈ s'.evals, e.2 ∈ s'.shown) ∧ (∀ p ∈ s'.pop, p ∈ s'.shown) := by
  simpa only [List.length_map, ne_eq, List.map_eq_nil_iff] using runPop_correct_const mu (decs.map (plusStep ops mu lam))
    (List.forall_mem_map.2 fun d _ => ⟨plusStep_contract hc mu lam d, plusStep_size mu lam d⟩) t t' s s' hi h

/-- eaMuCommaLambda (a run exists only when `mu ≤ lambda_`): the same guarantees. -/
theorem eaMuCommaLambda_correct (hc : OpContract ops) (mu lam : Nat) (decs : List MuLamDec) (t t' : σ)
    (s s' : LState) (hi : Init ev s) (h : eaMuCommaLambda ops ev mu lam decs t s = some (t', s')) :
    mu ≤ lam ∧
    (∀ p ∈ s'.pop, (s'.st.heap p).fit = some (ev (s'.st.heap p).genome)) ∧
    s'.log.map (·.1) = List.range (decs.length + 1) ∧
    (decs ≠ [] → s'.pop.length = mu) ∧
    (∀ rec ∈ s'.log, rec.2 = (s'.evals.filter (fun e => e.1 == rec.1)).length) ∧ s'.evals.Nodup ∧
    (∀ e ∈ s'.evals, e.2 ∈ s'.shown) ∧ (∀ p ∈ s'.pop, p ∈ s'.shown) := by
  simp only [eaMuCommaLambda] at h
  split at h
  case isFalse => simp at h
  next hle =>
  exact ⟨by simpa [commaAssert] using hle, by
    simpa only [List.length_map, ne_eq, List.map_eq_nil_iff] using runPop_correct_const mu (decs.map (commaStep ops mu lam))
      (List.forall_mem_map.2 fun d _ => ⟨commaStep_contract hc mu lam d, commaStep_size mu lam d⟩) t t' s s' hi h⟩

/-- one generation of μ,λ (μ = 2, λ = 3): the selector picks offspring 1 and 2 -/
def demoComma := eaMuCommaLambda C02.demoOps demoEv 2 3
  [⟨[Choice.cx 0 2, Choice.mutn 1, Choice.rep 2], [1, 2]⟩] () demoState
example : OpContract C02.demoOps ∧ Init demoEv demoState ∧
    demoComma.map (fun r => (r.2.pop, r.2.log)) = some ([5, 6], [(0, 2), (1, 2)]) :=
  ⟨C02.demoOps_contract, demoInit, by decide⟩
/-- `lambda_ < mu`: the assertion, no run -/
example : (eaMuCommaLambda C02.demoOps demoEv 3 2 [] () demoState).isNone = true := by decide

/-- one HARM generation, `nbrindsmodel = 3`: the natural population is a mutant of #1, and the two children
of a crossover of #0 and #2; the second `_genpop` pops them from the end: the last is rejected, the other two
accepted, then a reproduction of #2 is generated and accepted -/
def demoHarm := harm C02.demoOps demoEv 3
  [⟨[HStep.mutn 1 true, HStep.cx 0 2 true true],
    [HStep.pick false, HStep.pick true, HStep.pick true, HStep.rep 2 true]⟩] () demoState
example : OpContract C02.demoOps ∧ Init demoEv demoState ∧
    demoHarm.map (fun r => (r.2.pop, r.2.log, r.2.evals)) =
      some ([4, 3, 6], [(0, 2), (1, 2)], [(0, 1), (0, 2), (1, 4), (1, 3)]) :=
  ⟨C02.demoOps_contract, demoInit, by decide⟩

/-- gp.harm (control flow; every `acceptfunc` result is a free decision): the same guarantees, with the
population keeping its initial size. -/
theorem harm_correct (hc : OpContract ops) (nbr : Nat) (decs : List (HarmDec Bool)) (t t' : σ) (s s' : LState)
    (hi : Init ev s) (h : harm ops ev nbr decs t s = some (t', s')) :
    (∀ p ∈ s'.pop, (s'.st.heap p).fit = some (ev (s'.st.heap p).genome)) ∧
    s'.log.map (·.1) = List.range (decs.length + 1) ∧
    s'.pop.length = s.pop.length ∧
    (∀ rec ∈ s'.log, rec.2 = (s'.evals.filter (fun e => e.1 == rec.1)).length) ∧ s'.evals.Nodup ∧
    (∀ e ∈ s'.evals, e.2 ∈ s'.shown) ∧ (∀ p ∈ s'.pop, p ∈ s'.shown) := by
  simpa only [List.length_map] using runPop_correct_id (decs.map (harmStep ops nbr))
    (List.forall_mem_map.2 fun d _ => ⟨harmStepG_contract hc nbr _ d, harmStepG_size hc nbr _ d⟩) t t' s s' hi h

/-- gp.harm with the acceptance test COMPUTED by the model (`acceptfunc` = recorded `random()` draw ≤ the
threshold derived from the natural population, for any scalar type — `Float` in the replay, `ℝ` in the
theorems below): the same guarantees.  They do not depend on the acceptance arithmetic at all. -/
theorem harmR_correct {α : Type} [RealLike α] (hc : OpContract ops) (nbr : Nat)
    (ps : List (HarmParams α × HarmDec α)) (t t' : σ) (s s' : LState)
    (hi : Init ev s) (h : harmR ops ev nbr ps t s = some (t', s')) :
    (∀ p ∈ s'.pop, (s'.st.heap p).fit = some (ev (s'.st.heap p).genome)) ∧
    s'.log.map (·.1) = List.range (ps.length + 1) ∧
    s'.pop.length = s.pop.length ∧
    (∀ rec ∈ s'.log, rec.2 = (s'.evals.filter (fun e => e.1 == rec.1)).length) ∧ s'.evals.Nodup ∧
    (∀ e ∈ s'.evals, e.2 ∈ s'.shown) ∧ (∀ p ∈ s'.pop, p ∈ s'.shown) := by
  have hsc : ∀ stp ∈ ps.map (fun pd => harmStepR ops nbr pd.1 pd.2), StepContract stp ∧ SizeIs stp id := by
    intro stp hm
    obtain ⟨d, _, rfl⟩ := List.mem_map.1 hm
    exact ⟨harmStepG_contract hc nbr _ d.2, harmStepG_size hc nbr _ d.2⟩
  simpa only [List.length_map] using runPop_correct_id _ hsc t t' s s' hi h

/-! ### HARM-GP acceptance arithmetic over ℝ (gp.py 1084-1122)

`acceptfunc(s) = random.random() <= probfunc(s)`.  What the code guarantees about the threshold
`probfunc(s)`, for `gamma ≥ 0` and a positive half-life `x·alpha + beta` (the division by
`halflifefunc(x)` is NOT guarded by the code: `alpha = beta = 0` raises `ZeroDivisionError`):
* it is never negative (`harm_accept_prob_nonneg`);
* for sizes up to the cutoff it is exactly 0 or 1 (`harm_accept_prob_unit_below_cutoff`);
* above the cutoff it is `targetfunc/naturalhist`, which the code does NOT clamp: it exceeds 1 whenever the
  target distribution asks for more individuals of a size than the natural one provides — then every
  aspirant of that size is accepted.  So "the threshold is a probability in [0,1]"
  (`harm_accept_prob_unit_Statement`) is false as stated; `harm_accept_prob_exceeds_one` is a witness.
* the division `val * len(population) / nbrindsmodel` is only reached with a non-empty natural population,
  i.e. `nbrindsmodel ≥ 1` (`harm_hist_needs_natural`); `t / n` is guarded by `n > 0` in the code
  (`probHist`). -/

/-- the acceptance threshold is never negative -/
theorem harm_accept_prob_nonneg (p : HarmParams ℝ) (npop nbr : Nat) (inds : List (List Int × Nat))
    (thr : Nat → ℝ) (h : acceptThreshold p npop nbr inds = some thr) (hg : 0 ≤ p.gamma)
    (hl : ∀ x, 0 < halflife p x) : ∀ s, 0 ≤ thr s := by
  simp only [acceptThreshold] at h
  split at h
  next nat cutoff hnat _ =>
    simp only [Option.some.injEq] at h
    subst h
    exact probFunc_nonneg p npop cutoff nat (naturalHist_nonneg _ _ _ _ hnat) hg hl
  · simp at h

example : ∀ x, (0 : ℝ) < halflife (α := ℝ) ⟨0.05, 10, 0.25, 20, 0⟩ x := by
  intro x
  simp only [halflife, RealLike.real_mul, RealLike.real_add, RealLike.real_ofNat]
  positivity

/-- up to the cutoff size the threshold is exactly 0 (no natural individual near that size) or 1 -/
theorem harm_accept_prob_unit_below_cutoff (p : HarmParams ℝ) (npop nbr : Nat) (sizes : List Nat)
    (nat : List ℝ) (hnat : naturalHist sizes npop nbr = some nat) (cutoff s : Nat) (hs : s ≤ cutoff)
    (hlen : s < nat.length) :
    probFunc p npop cutoff (probHist p npop cutoff nat) s = 0 ∨
    probFunc p npop cutoff (probHist p npop cutoff nat) s = 1 :=
  probFunc_below_cutoff p npop cutoff nat (naturalHist_nonneg _ _ _ _ hnat) s hs hlen

/-- the histogram normalisation `… / nbrindsmodel` is only reached with a non-empty natural population -/
theorem harm_hist_needs_natural (sizes : List Nat) (npop nbr : Nat) (nat : List ℝ)
    (h : naturalHist sizes npop nbr = some nat) : sizes ≠ [] := by
  intro e
  subst e
  simp [naturalHist] at h

/-- The full claim "the acceptance threshold is a probability in [0,1]" for every natural histogram — FALSE:
the code does not clamp the ratio `targetfunc / naturalhist` (nor `targetfunc` beyond the histogram). -/
def harm_accept_prob_unit_Statement : Prop :=
  ∀ (p : HarmParams ℝ) (npop cutoff s : Nat) (nat : List ℝ),
    AllNonneg nat → 0 ≤ p.gamma → (∀ x, 0 < halflife p x) →
    0 ≤ probFunc p npop cutoff (probHist p npop cutoff nat) s ∧
    probFunc p npop cutoff (probHist p npop cutoff nat) s ≤ 1

/-- the lower half of it holds … -/
theorem harm_accept_prob_unit_partial (p : HarmParams ℝ) (npop cutoff s : Nat) (nat : List ℝ)
    (hnat : AllNonneg nat) (hg : 0 ≤ p.gamma) (hl : ∀ x, 0 < halflife p x) :
    0 ≤ probFunc p npop cutoff (probHist p npop cutoff nat) s :=
  probFunc_nonneg p npop cutoff nat hnat hg hl s

/-- … the upper half does not: `gamma = 2`, `alpha = 0`, `beta = 1`, one individual, cutoff 20 (the default
`mincutoff`), an aspirant of size 20: the threshold is `2·ln 2 ≈ 1.39`.  (With the recommended parameters the
same happens whenever the natural histogram is thin at a size above the cutoff; the harness counts these runs.)
A threshold above 1 just means "always accept" for `random() <= threshold`. -/
theorem harm_accept_prob_exceeds_one : ¬ harm_accept_prob_unit_Statement := by
  intro hst
  have h := (hst ⟨0, 1, 2, 20, 0⟩ 1 20 20 [] (by intro x hx; simp at hx) (by norm_num)
    (by intro x; simp [halflife])).2
  have hlog := Real.log_two_gt_d9
  simp [probFunc, probHist, targetFunc, halflife] at h
  linarith

/-- eaGenerateUpdate: every individual `generate()` hands back — brand-new or a persistent one moved in
place, whatever fitness it carried — is evaluated (nevals = their number), records `0..ngen-1`, the returned
population is the last generated one (whatever order `update` leaves it in). -/
theorem eaGenerateUpdate_correct (gens : List (List (Nat × Obj) × List Nat)) (t t' : σ) (st : St)
    (s' : LState)
    (h : eaGenerateUpdate ev gens t st = some (t', s')) :
    (∀ p ∈ s'.pop, (s'.st.heap p).fit = some (ev (s'.st.heap p).genome)) ∧
    s'.log.map (·.1) = List.range gens.length ∧
    (∀ last ∈ gens.getLast?, s'.pop.length = last.1.length) ∧
    (∀ rec ∈ s'.log, rec.2 = (s'.evals.filter (fun e => e.1 == rec.1)).length) ∧ s'.evals.Nodup ∧
    (∀ e ∈ s'.evals, e.2 ∈ s'.shown) ∧ (∀ p ∈ s'.pop, p ∈ s'.shown) := by
  have hsc' : ∀ stp ∈ gens.map (fun g => guStep (σ := σ) g.1 g.2), StepContract stp :=
    List.forall_mem_map.2 fun d _ => guStep_contract d.1 d.2
  have h0 : Inv ev 0 { st := st, pop := [] } := empty_establishes st
  have hn := nevals_logged _ hsc' 0 t t' _ s' h0 h
  have hh := hof_fed _ hsc' 0 t t' _ s' h0 h
  refine ⟨truthful _ hsc' 0 t t' _ s' h0 h, ?_, ?_, hn.1, hn.2, hh.1, hh.2⟩
  · simpa using log_shape_gu _ hsc' t t' st s' h
  · intro last hlast
    obtain ⟨ys, rfl⟩ := List.getLast?_eq_some_iff.1 hlast
    simp only [eaGenerateUpdate, List.map_append] at h
    obtain ⟨t1, s1, h1, h2⟩ := every_boundary _ _ 0 t t' _ s' h
    exact runGens_size_const last.1.length [_] _ t1 t' s1 s' (by simp)
      (fun x hx => by
        cases List.mem_singleton.1 hx
        exact ⟨guStep_contract _ _, guStep_size _ _⟩)
      (runGens_inv _ 0 t t1 _ s1 (fun x hx => hsc' x (by simp [hx])) h0 h1) h2

/-- two generations of an ask/tell strategy with two PERSISTENT individuals: in generation 1 `generate`
hands back the same objects, moved, still carrying their (now stale) fitness — they are evaluated again -/
def demoGU := eaGenerateUpdate (σ := Unit) demoEv
  [([(0, ⟨[1, 2], none, none⟩), (1, ⟨[3], none, none⟩)], [1, 0]),
   ([(1, ⟨[5, 5], some [3], none⟩), (0, ⟨[0], some [3], none⟩)], [0, 1])] () { heap := fun _ => ⟨[], none, none⟩, next := 0 }

example : demoGU.map (fun r => (r.2.pop, r.2.log, r.2.evals)) =
    some ([1, 0], [(0, 2), (1, 2)], [(0, 0), (0, 1), (1, 1), (1, 0)]) := by decide
example : demoGU.map (fun r => r.2.pop.map (fun o => (r.2.st.heap o).fit)) = some [some [10], some [0]] := by
  decide

/-- **μ+λ with truncation selection (`selBest`), μ ≥ 1: the best never gets worse.**  For every member of
the population before a sequence of generations there is a member afterwards whose weighted fitness is at
least as good (lexicographic order of `wvalues`, as `Fitness.__le__` compares). -/
theorem plus_monotone (hc : OpContract ops) (mu lam : Nat) (hmu : 0 < mu) (decs : List (List Choice))
    (g : Nat) (t t' : σ) (s s' : LState) (hinv : Inv ev g s)
    (h : runGens ev (decs.map (plusBestStep ops mu lam)) g t s = some (t', s')) :
    ∀ p ∈ s.pop, ∃ q ∈ s'.pop, keyLe (fitKey s.st.heap p) (fitKey s'.st.heap q) :=
  runGens_monotone _ g t t' s s'
    (List.forall_mem_map.2 fun d _ => ⟨plusBestStep_contract hc mu lam d, rfl, plusBestStep_keepsBest ops hmu lam d⟩) hinv h

/-- eaMuPlusLambda with `toolbox.select = tools.selBest` and μ ≤ λ: the model computes the selection itself
(no selection tape); truthful, log 0..ngen, size μ after at least one generation, nevals, hof. -/
theorem eaMuPlusLambdaBest_correct (hc : OpContract ops) (mu lam : Nat) (hle : mu ≤ lam)
    (decs : List (List Choice)) (t t' : σ) (s s' : LState) (hi : Init ev s)
    (h : eaMuPlusLambdaBest ops ev mu lam decs t s = some (t', s')) :
    (∀ p ∈ s'.pop, (s'.st.heap p).fit = some (ev (s'.st.heap p).genome)) ∧
    s'.log.map (·.1) = List.range (decs.length + 1) ∧
    (decs ≠ [] → s'.pop.length = mu) ∧
    (∀ rec ∈ s'.log, rec.2 = (s'.evals.filter (fun e => e.1 == rec.1)).length) ∧ s'.evals.Nodup ∧
    (∀ e ∈ s'.evals, e.2 ∈ s'.shown) ∧ (∀ p ∈ s'.pop, p ∈ s'.shown) := by
  simpa only [List.length_map, ne_eq, List.map_eq_nil_iff] using runPop_correct_const mu (decs.map (plusBestStep ops mu lam))
    (List.forall_mem_map.2 fun d _ => ⟨plusBestStep_contract hc mu lam d, plusBestStep_size mu lam hle d⟩)
    t t' s s' hi h

/-- … in particular over a whole `eaMuPlusLambda` run with `selBest`, from generation 0 on. -/
theorem eaMuPlusLambdaBest_monotone (hc : OpContract ops) (mu lam : Nat) (hmu : 0 < mu)
    (decs : List (List Choice)) (t t' : σ) (s s' : LState) (hi : Init ev s)
    (h : eaMuPlusLambdaBest ops ev mu lam decs t s = some (t', s')) :
    ∀ p ∈ s.pop, ∃ q ∈ s'.pop, keyLe (fitKey (gen0 ev s).st.heap p) (fitKey s'.st.heap q) :=
  plus_monotone hc mu lam hmu decs 1 t t' _ s' (gen0_establishes s hi) h

example : OpContract C02.demoOps ∧ (0 < 2) ∧ Init demoEv demoState ∧ demoPlus.isSome = true :=
  ⟨C02.demoOps_contract, by decide, demoInit, by decide⟩

/-- The truncation selection is `sorted(…, reverse=True)[:k]`: with fitnesses 6, 15, 15, 24 for the oids
0, 1, 2, 3 the three best of `[0, 1, 2, 3]` are 3, 1, 2 — ties keep their original order. -/
def demoFitHeap : Heap := fun o => ⟨[], some [[6, 15, 15, 24].getD o 0], none⟩
example : selBest demoFitHeap [0, 1, 2, 3] 3 = [3, 1, 2] :=
  Option.some.inj (((LoopsC.select_best_eq_selBest ..).symm.trans (LoopsC.select_best_eq ..)).trans (by decide +kernel))

/-! # Composition with the library components

The machine of `Core/LoopsCompose.lean` runs the same generations (`Loops.generation`) with
* the C08 model of `tools.HallOfFame(maxsize)` (default similarity: equal genotypes) fed by every
  `halloffame.update` call of the loop,
* the C06 models of `tools.selBest / selWorst / selRandom / selTournament` as `toolbox.select`,
* list objects with identities (`population[:] = …` versus `population = …`),
* the ask/tell state of the strategy behind `toolbox.generate` / `toolbox.update`. -/

open LoopsC

/-- What is assumed of the caller's arguments in the composed machine: C03's `Init`, a fresh
`HallOfFame(m)` (its deep copies get identities from `base` on), and `population` refers to a list object
holding the population. -/
structure CInit (ev : List Int → List Int) (m base : Nat) (c : CState) : Prop where
  init : Init ev c.ls
  hof : c.hof = Archive.empty m base
  hist : c.hist = []
  refLt : c.popRef < c.nextL
  listPop : c.lists c.popRef = c.ls.pop

/-- the demo population, a `HallOfFame(2)`, the caller's list is list object 0 -/
def demoC : CState := initState demoState.st demoState.pop 2 100

theorem demoCInit : CInit demoEv 2 100 demoC where
  init := demoInit
  hof := rfl
  hist := rfl
  refLt := by decide
  listPop := rfl

theorem composed_gen0_establishes {m base : Nat} (c c0 : CState) (hi : CInit ev m base c)
    (h : cgen0 ev c = some c0) : CInv ev m base 1 c0 := by
  obtain ⟨h', hu, rfl⟩ := hofUpdate_spec h
  obtain ⟨h1, h2⟩ := hof_step (m := m) (base := base) (by rw [hi.hist, hi.hof]; rfl)
    (by rw [hi.hist, hi.init.shownObj]; rfl) hu _ (gen0_shownObj ev c.ls)
  exact ⟨gen0_establishes c.ls hi.init, gen0_shown ev c.ls hi.init.truthful hi.init.shown hi.init.shownObj, h1, h2,
    gen0_popCur ev c.ls, hi.refLt, hi.listPop⟩

example : CInit demoEv 2 100 demoC ∧ (cgen0 demoEv demoC).isSome = true := ⟨demoCInit, by decide⟩

/-- **The composed run is a run of the machine the generic theorems are about**: projected on the loop
state it is `runPop` over the same steps — so `truthful`, `evals_exact`, `nevals_logged`, `log_shape`,
`hof_fed`, the sizes … hold for the loops run with the library components. -/
theorem composed_refines (steps : List (Step σ × Assign)) (t t' : σ) (c c' : CState)
    (h : crunPop ev steps t c = some (t', c')) :
    runPop ev (steps.map (·.1)) t c.ls = some (t', c'.ls) := by
  obtain ⟨c0, h0, h⟩ := Option.bind_eq_some_iff.1 (crunPop_eq ev steps t c ▸ h)
  obtain ⟨_, _, rfl⟩ := hofUpdate_spec h0
  exact crunGens_ls steps 1 t t' _ c' h

/-- **A hall of fame of capacity ≥ 1 never makes a run fail**: the composed run succeeds exactly when the
plain run does (C08 `never_raises`, discharged from the invariant "the archive is the C08 model run on the
batches shown so far"). -/
theorem hall_of_fame_never_blocks {m base : Nat} (hm : 1 ≤ m) (steps : List (Step σ × Assign))
    (hc : ∀ x ∈ steps, StepContract x.1) (t : σ) (c : CState) (hi : CInit ev m base c) :
    (crunPop ev steps t c).isSome = (runPop ev (steps.map (·.1)) t c.ls).isSome := by
  obtain ⟨c0, h0⟩ := cgen0_total ev m base hm c hi.hof
  have hinv := composed_gen0_establishes c c0 hi h0
  obtain ⟨_, _, rfl⟩ := hofUpdate_spec h0
  rw [crunPop_eq, h0]
  exact crunGens_isSome hm steps 1 t _ hc hinv

example : (1 ≤ 2) ∧ CInit demoEv 2 100 demoC := ⟨by decide, demoCInit⟩

theorem crunPop_inv {m base : Nat} (steps : List (Step σ × Assign)) (hc : ∀ x ∈ steps, StepContract x.1) (t t' : σ)
    (c c' : CState) (hi : CInit ev m base c) (h : crunPop ev steps t c = some (t', c')) :
    CInv ev m base (1 + steps.length) c' := by
  obtain ⟨c0, h0, h⟩ := Option.bind_eq_some_iff.1 (crunPop_eq ev steps t c ▸ h)
  exact crunGens_inv steps 1 t t' c0 c' hc (composed_gen0_establishes c c0 hi h0) h

/-- **Hall of fame: the best entry is at least as good as any fitness ever logged**
(eaSimple / eaMuPlusLambda / eaMuCommaLambda / harm run with `HallOfFame(m)`, `m ≥ 1`, any steps meeting the
contract).  At the boundary reached after the generations `a ++ b`, the first member of the archive is at
least as good (lexicographic order of the weighted values, C01) as
* every individual `halloffame.update` was ever shown, with the fitness it carried then — that is every
  evaluated individual (`hof_fed`), and
* every member of the population at the EARLIER boundary reached after `a` (what the statistics of that
  generation logged); `b = []` is the current population.
C08 hypotheses used, all discharged from the loop invariant: capacity ≥ 1 (given); the similarity is
reflexive, symmetric and blind to object identity (`simBase_simEq`: equal genotypes); similar individuals
shown carry equal fitness (`hof_shown_evaluated`: every individual shown carries `evaluate` of its genotype,
so equal genotypes carry equal fitness); the archive is the result of `update` on the batches shown, starting
empty (composed invariant).  Transitivity, room, freshness are not needed. -/
theorem hof_best_ge_logged {m base : Nat} (hm : 1 ≤ m) (a b : List (Step σ × Assign))
    (hc : ∀ x ∈ a ++ b, StepContract x.1) (t t1 t' : σ) (c c1 c' : CState) (hi : CInit ev m base c)
    (h1 : crunPop ev a t c = some (t1, c1))
    (h2 : crunGens ev b (1 + a.length) t1 c1 = some (t', c')) :
    (∀ e ∈ c'.ls.shownObj, ∃ best, c'.hof.items.head? = some best ∧
        keyLe (e.2.fit.getD []) best.fit.wvalues) ∧
    (∀ p ∈ c1.ls.pop, ∃ best, c'.hof.items.head? = some best ∧
        keyLe (fitKey c1.ls.st.heap p) best.fit.wvalues) := by
  have hinv1 := crunPop_inv a (fun x hx => hc x (List.mem_append_left _ hx)) t t1 c c1 hi h1
  have hinv' := crunGens_inv b _ t1 t' c1 c' (fun x hx => hc x (List.mem_append_right _ hx)) hinv1 h2
  exact ⟨cinv_best_ge_shown hm hinv', fun p hp =>
    cinv_best_ge_shown hm hinv' _ (crunGens_shown_mono b _ t1 t' c1 c' h2 _ (hinv1.popCur p hp))⟩

example : (1 ≤ 2) ∧ CInit demoEv 2 100 demoC ∧
    (crunPop demoEv (inPlace [plusSelStep C02.demoOps 2 3 ⟨[Choice.cx 0 2, Choice.mutn 1, Choice.rep 2], .best⟩])
      () demoC).isSome = true :=
  ⟨by decide, demoCInit, by simp only [plusSelStep_best_eval]; decide +kernel⟩

/-- … in DEAP's own operator: `halloffame[0].fitness < f` is `False` for every fitness `f` logged. -/
theorem hof_best_not_lt_logged {m base : Nat} (hm : 1 ≤ m) (steps : List (Step σ × Assign))
    (hc : ∀ x ∈ steps, StepContract x.1) (t t' : σ) (c c' : CState) (hi : CInit ev m base c)
    (h : crunPop ev steps t c = some (t', c')) :
    ∀ p ∈ c'.ls.pop, ∃ best, c'.hof.items.head? = some best ∧
      Fitness.lt best.fit ⟨fitKey c'.ls.st.heap p⟩ = false := by
  intro p hp
  have hinv := crunPop_inv steps hc t t' c c' hi h
  obtain ⟨best, hb, hle⟩ := cinv_best_ge_shown hm hinv _ (hinv.popCur p hp)
  refine ⟨best, hb, ?_⟩
  cases hlt : Fitness.lt best.fit ⟨fitKey c'.ls.st.heap p⟩ with
  | false => rfl
  | true =>
    exact absurd ((C08L.fitlt_iff best.fit ⟨fitKey c'.ls.st.heap p⟩).1 hlt) ((keyLe_iff_not_lt _ _).1 hle)

example : (1 ≤ 2) ∧ CInit demoEv 2 100 demoC ∧ (crunPop demoEv (inPlace [simpleStep C02.demoOps
    ⟨[2, 0, 0], [true], [false, false, false]⟩]) () demoC).isSome = true :=
  ⟨by decide, demoCInit, by decide +kernel⟩

/-- **The best entry never gets worse** from one boundary to a later one. -/
theorem hof_best_never_worse {m base : Nat} (hm : 1 ≤ m) (a b : List (Step σ × Assign))
    (hc : ∀ x ∈ a ++ b, StepContract x.1) (t t1 t' : σ) (c c1 c' : CState) (hi : CInit ev m base c)
    (h1 : crunPop ev a t c = some (t1, c1))
    (h2 : crunGens ev b (1 + a.length) t1 c1 = some (t', c')) :
    ∀ b1, c1.hof.items.head? = some b1 → ∃ b2, c'.hof.items.head? = some b2 ∧
      keyLe b1.fit.wvalues b2.fit.wvalues := by
  have hinv1 := crunPop_inv a (fun x hx => hc x (List.mem_append_left _ hx)) t t1 c c1 hi h1
  have hinv' := crunGens_inv b _ t1 t' c1 c' (fun x hx => hc x (List.mem_append_right _ hx)) hinv1 h2
  intro b1 hb1
  -- the archive at the later boundary is the C08 run over the earlier batches and more
  obtain ⟨more, hmore⟩ := crunGens_hist b _ t1 t' c1 c' h2
  obtain ⟨b2, hb2, hle⟩ := best_monotone hm (hmore ▸ hinv'.simHyp) hinv1.hofRun (hmore ▸ hinv'.hofRun) b1 hb1
  exact ⟨b2, hb2, (keyLe_iff_le _ _).2 hle⟩

/-- a run of one generation followed by one more generation (the two boundaries of `hof_best_never_worse`) -/
example : (1 ≤ 2) ∧ CInit demoEv 2 100 demoC ∧
    ((crunPop demoEv (inPlace [simpleStep C02.demoOps ⟨[2, 0, 0], [true], [false, false, false]⟩]) () demoC).bind
      (fun r => crunGens demoEv (inPlace [simpleStep C02.demoOps ⟨[0, 1, 2], [false], [false, false, true]⟩])
        (1 + 1) r.1 r.2)).isSome = true :=
  ⟨by decide, demoCInit, by decide +kernel⟩

/-- … and for eaGenerateUpdate run with `HallOfFame(m)`: after every generation the best entry is at least as
good as every individual `generate` ever handed out, as evaluated, and as every member of the current
population. -/
theorem hof_best_ge_logged_gu {m base : Nat} (hm : 1 ≤ m) (gens : List (List (Nat × Obj) × List Nat))
    (t t' : σ) (st : St) (c' : CState) (h : eaGenerateUpdateC ev gens t st m base = some (t', c')) :
    (∀ e ∈ c'.ls.shownObj, ∃ best, c'.hof.items.head? = some best ∧
        keyLe (e.2.fit.getD []) best.fit.wvalues) ∧
    (∀ p ∈ c'.ls.pop, ∃ best, c'.hof.items.head? = some best ∧
        keyLe (fitKey c'.ls.st.heap p) best.fit.wvalues) := by
  obtain ⟨hi0, hp0⟩ := initState_inv ev st m base
  obtain ⟨hinv, _⟩ := crunGU_inv gens 0 t t' _ c' hi0 hp0 h
  exact ⟨cinv_best_ge_shown hm hinv, fun p hp => cinv_best_ge_shown hm hinv _ (hinv.popCur p hp)⟩

/-- two generations of an ask/tell strategy (as `demoGU`) with a `HallOfFame(1)` -/
def demoGUC := eaGenerateUpdateC (σ := Unit) demoEv
  [([(0, ⟨[1, 2], none, none⟩), (1, ⟨[3], none, none⟩)], [1, 0]),
   ([(1, ⟨[5, 5], some [3], none⟩), (0, ⟨[0], some [3], none⟩)], [0, 1])] () { heap := fun _ => ⟨[], none, none⟩, next := 0 } 1 100

example : (1 ≤ 1) ∧ demoGUC.isSome = true := ⟨by decide, by decide +kernel⟩
example : demoGUC.map (fun r => (r.2.ls.pop, r.2.hof.items.map (fun i => (i.genome, i.fit.wvalues)))) =
    some ([1, 0], [([5, 5], [10])]) := by decide +kernel

/-- eaSimple with a library selector (`selBest`, `selWorst`, `selRandom`, `selTournament`: the C06 models)
and `HallOfFame(m)`: truthful, log 0..ngen, size kept, nevals, hall of fame shown every evaluated individual. -/
theorem eaSimpleC_correct (hc : OpContract ops) (decs : List SimpleSelDec) (t t' : σ) (c c' : CState)
    {m base : Nat} (hi : CInit ev m base c) (h : eaSimpleC ops ev decs t c = some (t', c')) :
    (∀ p ∈ c'.ls.pop, (c'.ls.st.heap p).fit = some (ev (c'.ls.st.heap p).genome)) ∧
    c'.ls.log.map (·.1) = List.range (decs.length + 1) ∧
    c'.ls.pop.length = c.ls.pop.length ∧
    (∀ rec ∈ c'.ls.log, rec.2 = (c'.ls.evals.filter (fun e => e.1 == rec.1)).length) ∧ c'.ls.evals.Nodup ∧
    (∀ e ∈ c'.ls.evals, e.2 ∈ c'.ls.shown) ∧ (∀ p ∈ c'.ls.pop, p ∈ c'.ls.shown) := by
  have hr := composed_refines _ t t' c c' h
  rw [inPlace_fst] at hr
  simpa only [List.length_map] using runPop_correct_id (decs.map (simpleSelStep ops))
    (List.forall_mem_map.2 fun d _ => ⟨simpleSelStep_contract hc d, simpleSelStep_size d⟩) t t' _ _ hi.init hr

/-- two generations of eaSimple with `selTournament(tournsize=2)`: the six `random.choice` results of each
call are on the tape -/
def demoSimpleC := eaSimpleC C02.demoOps demoEv
  [⟨.tournament 2 [2, 0, 0, 1, 1, 1], [true], [false, false, false]⟩,
   ⟨.tournament 2 [0, 1, 1, 2, 0, 0], [false], [false, false, true]⟩] () demoC
example : OpContract C02.demoOps ∧ CInit demoEv 2 100 demoC ∧ demoSimpleC.isSome = true :=
  ⟨C02.demoOps_contract, demoCInit, by decide +kernel⟩

/-- eaMuPlusLambda with a library selector, μ ≤ λ. -/
theorem eaMuPlusLambdaC_correct (hc : OpContract ops) (mu lam : Nat) (hle : mu ≤ lam) (decs : List MuLamSelDec)
    (t t' : σ) (c c' : CState) {m base : Nat} (hi : CInit ev m base c)
    (h : eaMuPlusLambdaC ops ev mu lam decs t c = some (t', c')) :
    (∀ p ∈ c'.ls.pop, (c'.ls.st.heap p).fit = some (ev (c'.ls.st.heap p).genome)) ∧
    c'.ls.log.map (·.1) = List.range (decs.length + 1) ∧
    (decs ≠ [] → c'.ls.pop.length = mu) ∧
    (∀ rec ∈ c'.ls.log, rec.2 = (c'.ls.evals.filter (fun e => e.1 == rec.1)).length) ∧ c'.ls.evals.Nodup ∧
    (∀ e ∈ c'.ls.evals, e.2 ∈ c'.ls.shown) ∧ (∀ p ∈ c'.ls.pop, p ∈ c'.ls.shown) := by
  have hr := composed_refines _ t t' c c' h
  rw [inPlace_fst] at hr
  simpa only [List.length_map, ne_eq, List.map_eq_nil_iff] using runPop_correct_const mu (decs.map (plusSelStep ops mu lam))
    (List.forall_mem_map.2 fun d _ => ⟨plusSelStep_contract hc mu lam d, plusSelStep_size mu lam hle d⟩)
    t t' _ _ hi.init hr

/-- one generation of μ+λ (μ = 2 ≤ λ = 3) with `selTournament(tournsize=2)`: candidates 0,1,2,3,5,6 with
fitnesses 6, 15, 24, 18, −15, 24; the tournaments {2,4} and {1,0} are won by #2 and #1 -/
def demoPlusC := eaMuPlusLambdaC C02.demoOps demoEv 2 3
  [⟨[Choice.cx 0 2, Choice.mutn 1, Choice.rep 2], .tournament 2 [2, 4, 1, 0]⟩] () demoC
example : OpContract C02.demoOps ∧ (2 ≤ 3) ∧ CInit demoEv 2 100 demoC ∧
    demoPlusC.map (fun r => (r.2.ls.pop, r.2.ls.log)) = some ([2, 1], [(0, 2), (1, 2)]) :=
  ⟨C02.demoOps_contract, by decide, demoCInit, by decide +kernel⟩

/-- eaMuCommaLambda with a library selector (a run exists only when `mu ≤ lambda_`). -/
theorem eaMuCommaLambdaC_correct (hc : OpContract ops) (mu lam : Nat) (decs : List MuLamSelDec)
    (t t' : σ) (c c' : CState) {m base : Nat} (hi : CInit ev m base c)
    (h : eaMuCommaLambdaC ops ev mu lam decs t c = some (t', c')) :
    mu ≤ lam ∧
    (∀ p ∈ c'.ls.pop, (c'.ls.st.heap p).fit = some (ev (c'.ls.st.heap p).genome)) ∧
    c'.ls.log.map (·.1) = List.range (decs.length + 1) ∧
    (decs ≠ [] → c'.ls.pop.length = mu) ∧
    (∀ rec ∈ c'.ls.log, rec.2 = (c'.ls.evals.filter (fun e => e.1 == rec.1)).length) ∧ c'.ls.evals.Nodup ∧
    (∀ e ∈ c'.ls.evals, e.2 ∈ c'.ls.shown) ∧ (∀ p ∈ c'.ls.pop, p ∈ c'.ls.shown) := by
  simp only [eaMuCommaLambdaC] at h
  split at h
  case isFalse => simp at h
  next hle0 =>
  have hle : mu ≤ lam := by simpa [commaAssert] using hle0
  have hr := composed_refines _ t t' c c' h
  rw [inPlace_fst] at hr
  exact ⟨hle, by
    simpa only [List.length_map, ne_eq, List.map_eq_nil_iff] using runPop_correct_const mu (decs.map (commaSelStep ops mu lam))
      (List.forall_mem_map.2 fun d _ => ⟨commaSelStep_contract hc mu lam d, commaSelStep_size mu lam hle d⟩)
      t t' _ _ hi.init hr⟩

/-- one generation of μ,λ (μ = 2, λ = 3) with `selRandom` drawing offspring 2 and 0; `lambda_ < mu` is the
assertion -/
def demoCommaC := eaMuCommaLambdaC C02.demoOps demoEv 2 3
  [⟨[Choice.cx 0 2, Choice.mutn 1, Choice.rep 2], .random [2, 0]⟩] () demoC
example : OpContract C02.demoOps ∧ CInit demoEv 2 100 demoC ∧
    demoCommaC.map (fun r => (r.2.ls.pop, r.2.ls.log)) = some ([6, 3], [(0, 2), (1, 2)]) :=
  ⟨C02.demoOps_contract, demoCInit, by decide +kernel⟩
example : (eaMuCommaLambdaC C02.demoOps demoEv 3 2 [] () demoC).isNone = true := by decide

/-- **μ+λ with `tools.selBest` (the C06 model: stable descending sort on the C01 order, first μ), μ ≥ 1: the
best never gets worse**, for every variation tape: for every member of the population before a sequence of
generations there is a member afterwards whose fitness is at least as good.  (C06 `best_sorted`: no omitted
candidate is better than a kept one; the old population is among the candidates `population + offspring`.) -/
theorem plus_monotone_selBest (hc : OpContract ops) (mu lam : Nat) (hmu : 0 < mu) (decs : List (List Choice))
    (g : Nat) (t t' : σ) (s s' : LState) (hinv : Inv ev g s)
    (h : runGens ev (decs.map (fun ch => plusSelStep ops mu lam ⟨ch, .best⟩)) g t s = some (t', s')) :
    ∀ p ∈ s.pop, ∃ q ∈ s'.pop, keyLe (fitKey s.st.heap p) (fitKey s'.st.heap q) :=
  runGens_monotone _ g t t' s s'
    (List.forall_mem_map.2 fun d _ => ⟨plusSelStep_contract hc mu lam ⟨d, .best⟩, rfl, fun h _ _ np hr => selectBest_keeps_best h _ mu hmu np hr⟩)
    hinv h

/-- **The truncation selection of `plus_monotone` / `eaMuPlusLambdaBest` IS the C06 model of `tools.selBest`**:
the step with the abstract truncation selection of `Core/Loops.lean` and the step with `Selection.selBest`
reading the loop's heap are the same step (same individuals, same order, ties included). -/
theorem truncation_is_selBest (mu lam : Nat) (choices : List Choice) :
    plusBestStep ops mu lam choices = plusSelStep ops mu lam ⟨choices, .best⟩ := by
  simp only [plusBestStep, plusSelStep, select_best_eq_selBest]

/-- the hypotheses of `plus_monotone_selBest` on the demo population after generation 0 -/
example : OpContract C02.demoOps ∧ (0 < 2) ∧ Inv demoEv 1 (gen0 demoEv demoState) ∧
    (runGens demoEv ([[Choice.cx 0 2, Choice.mutn 1, Choice.rep 2]].map
      (fun ch => plusSelStep C02.demoOps 2 3 ⟨ch, .best⟩)) 1 () (gen0 demoEv demoState)).isSome = true :=
  ⟨C02.demoOps_contract, by decide, gen0_establishes demoState demoInit,
    by simp only [plusSelStep_best_eval]; decide +kernel⟩

/-- … over a whole composed `eaMuPlusLambda` run with `selBest` and a hall of fame, from generation 0 on. -/
theorem eaMuPlusLambdaC_selBest_monotone (hc : OpContract ops) (mu lam : Nat) (hmu : 0 < mu)
    (decs : List (List Choice)) (t t' : σ) (c c' : CState) {m base : Nat} (hi : CInit ev m base c)
    (h : eaMuPlusLambdaC ops ev mu lam (decs.map (fun ch => ⟨ch, .best⟩)) t c = some (t', c')) :
    ∀ p ∈ c.ls.pop, ∃ q ∈ c'.ls.pop, keyLe (fitKey (gen0 ev c.ls).st.heap p) (fitKey c'.ls.st.heap q) := by
  have hr := composed_refines _ t t' c c' h
  rw [inPlace_fst, List.map_map] at hr
  exact plus_monotone_selBest hc mu lam hmu decs 1 t t' _ c'.ls (gen0_establishes c.ls hi.init) hr

example : OpContract C02.demoOps ∧ (0 < 2) ∧ CInit demoEv 2 100 demoC ∧
    (eaMuPlusLambdaC C02.demoOps demoEv 2 3
      ([[Choice.cx 0 2, Choice.mutn 1, Choice.rep 2]].map (fun ch => ⟨ch, .best⟩)) () demoC).isSome = true :=
  ⟨C02.demoOps_contract, by decide, demoCInit,
    by simp only [eaMuPlusLambdaC, List.map, plusSelStep_best_eval]; decide +kernel⟩

/-- the selection the composed machine computes: candidates `population + offspring` = oids 0,1,2,3,5,6
with fitnesses 6, 15, 24, 18, -15, 24; `selBest(…, 2)` keeps #2 and its copy #6 (ties in list order) -/
example : (eaMuPlusLambdaC C02.demoOps demoEv 2 3
      ([[Choice.cx 0 2, Choice.mutn 1, Choice.rep 2]].map (fun ch => ⟨ch, .best⟩)) () demoC).map
      (fun r => (r.2.ls.pop, r.2.hof.items.map (fun i => (i.genome, i.fit.wvalues)))) =
    some ([2, 6], [([7, 8, 9], [24]), ([1, 8, 9], [18])]) := by
  simp only [eaMuPlusLambdaC, List.map, plusSelStep_best_eval]
  decide +kernel

/-- the demo population's best is individual 2, fitness 24 -/
theorem demo_best_falls {x : Option (Unit × CState)} {o : Nat} {v : List Int}
    (hview : x.map (fun r => (r.2.ls.pop, r.2.ls.pop.map (fitKey r.2.ls.st.heap))) = some ([o], [v]))
    (hv : ¬ keyLe [24] v) :
    ∃ c', x = some ((), c') ∧ ∃ p ∈ demoC.ls.pop, ∀ q ∈ c'.ls.pop,
      ¬ keyLe (fitKey (gen0 demoEv demoC.ls).st.heap p) (fitKey c'.ls.st.heap q) := by
  obtain ⟨⟨u, c'⟩, rfl, hv'⟩ := Option.map_eq_some_iff.1 hview
  simp only [Prod.mk.injEq] at hv'
  refine ⟨c', rfl, 2, by decide, fun q hq => ?_⟩
  rw [hv'.1] at hq hv'
  cases List.mem_singleton.1 hq
  have h24 : fitKey (gen0 demoEv demoC.ls).st.heap 2 = [24] := by decide +kernel
  rw [h24, (List.cons.inj hv'.2).1]
  exact hv

/-- **The clause needs "μ+λ" — with μ,λ it is false**: one generation of eaMuCommaLambda with `selBest`
(μ = λ = 1) on the demo population: the only offspring is a mutant of #2 (fitness −24), the population's best
falls from 24 to −24 although every guarantee of `eaMuCommaLambdaC_correct` holds. -/
theorem comma_not_monotone :
    ∃ (c' : CState), OpContract C02.demoOps ∧ CInit demoEv 2 100 demoC ∧
      eaMuCommaLambdaC C02.demoOps demoEv 1 1 [⟨[Choice.mutn 2], .best⟩] () demoC = some ((), c') ∧
      ∃ p ∈ demoC.ls.pop, ∀ q ∈ c'.ls.pop,
        ¬ keyLe (fitKey (gen0 demoEv demoC.ls).st.heap p) (fitKey c'.ls.st.heap q) := by
  have hview : (eaMuCommaLambdaC C02.demoOps demoEv 1 1 [⟨[Choice.mutn 2], .best⟩] () demoC).map
      (fun r => (r.2.ls.pop, r.2.ls.pop.map (fitKey r.2.ls.st.heap))) = some ([3], [[-24]]) := by
    simp only [eaMuCommaLambdaC, List.map, commaSelStep_best_eval]
    decide +kernel
  obtain ⟨c', hc', hfall⟩ := demo_best_falls hview (by unfold keyLe; decide)
  exact ⟨c', C02.demoOps_contract, demoCInit, hc', hfall⟩

/-- **… and "truncation selection" — with a tournament it is false** even for μ+λ: `selTournament` with
`tournsize = 1` whose draw picks candidate 0 (fitness 6) out of `population + offspring`: the best falls from
24 to 6. -/
theorem tournament_not_monotone :
    ∃ (c' : CState), OpContract C02.demoOps ∧ CInit demoEv 2 100 demoC ∧
      eaMuPlusLambdaC C02.demoOps demoEv 1 1 [⟨[Choice.rep 0], .tournament 1 [0]⟩] () demoC = some ((), c') ∧
      ∃ p ∈ demoC.ls.pop, ∀ q ∈ c'.ls.pop,
        ¬ keyLe (fitKey (gen0 demoEv demoC.ls).st.heap p) (fitKey c'.ls.st.heap q) := by
  have hview : (eaMuPlusLambdaC C02.demoOps demoEv 1 1 [⟨[Choice.rep 0], .tournament 1 [0]⟩] () demoC).map
      (fun r => (r.2.ls.pop, r.2.ls.pop.map (fitKey r.2.ls.st.heap))) = some ([0], [[6]]) := by decide +kernel
  obtain ⟨c', hc', hfall⟩ := demo_best_falls hview (by unfold keyLe; decide)
  exact ⟨c', C02.demoOps_contract, demoCInit, hc', hfall⟩

/-- **The caller's population list is updated in place.**  In eaSimple, eaMuPlusLambda, eaMuCommaLambda and
harm (every loop whose generations store the next population with `population[:] = …`; `inPlace steps`), at
every boundary: the variable `population` — what the loop returns — still refers to the list object the
caller passed, that object holds the current population, and no other list object the caller could hold has
been written. -/
theorem population_updated_in_place {m base : Nat} (steps : List (Step σ)) (hc : ∀ stp ∈ steps, StepContract stp)
    (t t' : σ) (c c' : CState) (hi : CInit ev m base c)
    (h : crunPop ev (inPlace steps) t c = some (t', c')) :
    c'.popRef = c.popRef ∧ c'.lists c.popRef = c'.ls.pop ∧
    ∀ i, i < c.nextL → i ≠ c.popRef → c'.lists i = c.lists i := by
  obtain ⟨c0, h0, h⟩ := Option.bind_eq_some_iff.1 (crunPop_eq ev (inPlace steps) t c ▸ h)
  have hinv' := crunGens_inv (inPlace steps) 1 t t' c0 c' (List.forall_mem_map.2 hc)
    (composed_gen0_establishes c c0 hi h0) h
  obtain ⟨_, _, rfl⟩ := hofUpdate_spec h0
  obtain ⟨hp, _, hf⟩ := crunGens_inPlace steps 1 t t' _ c' h
  exact ⟨hp, hp ▸ hinv'.listPop, hf⟩

example : CInit demoEv 2 100 demoC ∧ (crunPop demoEv (inPlace [simpleStep C02.demoOps
    ⟨[2, 0, 0], [true], [false, false, false]⟩]) () demoC).isSome = true := ⟨demoCInit, by decide +kernel⟩

/-- **`population = offspring` would not do**: a generation that rebinds the variable leaves the caller's
list object as it was — the machine distinguishes the two assignments.  (`eaGenerateUpdate`, which has no
caller list, is the one loop that rebinds: `population = toolbox.generate()`.) -/
theorem rebinding_is_not_in_place (stp : Step σ) (g : Nat) (t t' : σ) (c c' : CState)
    (hlt : c.popRef < c.nextL) (h : cgeneration ev stp .rebind g t c = some (t', c')) :
    c'.popRef ≠ c.popRef ∧ c'.lists c.popRef = c.lists c.popRef := by
  obtain ⟨ls', h', _, _, rfl⟩ := cgeneration_unfold h
  exact ⟨Nat.ne_of_gt hlt, by simp [assignPop, Nat.ne_of_lt hlt]⟩

/-- a concrete generation of eaSimple stored with a plain assignment: the caller's list still holds the
initial individuals 0, 1, 2 while the loop's population is 6, 7, 8 -/
example : ((cgen0 demoEv demoC).bind (fun c0 => cgeneration demoEv (simpleStep C02.demoOps
      ⟨[2, 0, 0], [true], [false, false, false]⟩) .rebind 1 () c0)).map
      (fun r => (r.2.lists 0, r.2.ls.pop, r.2.popRef)) = some ([0, 1, 2], [3, 4, 5], 1) := by decide +kernel
/-- … and with the slice assignment of the real code the caller's list holds the new population -/
example : ((cgen0 demoEv demoC).bind (fun c0 => cgeneration demoEv (simpleStep C02.demoOps
      ⟨[2, 0, 0], [true], [false, false, false]⟩) .slice 1 () c0)).map
      (fun r => (r.2.lists 0, r.2.ls.pop, r.2.popRef)) = some ([3, 4, 5], [3, 4, 5], 0) := by decide +kernel

/-- **Generate–update protocol.**  In every run of eaGenerateUpdate (any `generate` results — new or
persistent individuals, whatever fitness they carry —, any reordering by `update`, with a hall of fame):
one `toolbox.update` call per generation `0..ngen-1`, in order; every individual handed to `update` in
generation `g` was produced by the `generate` call of that generation (the strategy was waiting for exactly
these objects, in this order; `asks` lists the same), it carries the fitness `evaluate` gives for its
genotype, and the `evaluate` calls of generation `g` are exactly these individuals, in order, each once.
Between generations the strategy is waiting for nothing. -/
theorem generate_update_protocol {m base : Nat} (gens : List (List (Nat × Obj) × List Nat)) (t t' : σ)
    (st : St) (c' : CState) (h : eaGenerateUpdateC ev gens t st m base = some (t', c')) :
    c'.strat.pending = none ∧
    c'.strat.tells.map (·.1) = List.range gens.length ∧
    c'.strat.asks = c'.strat.tells.map (fun x => (x.1, x.2.2.map (·.1))) ∧
    ∀ x ∈ c'.strat.tells,
      x.2.1 = some (x.2.2.map (·.1)) ∧
      (∀ e ∈ x.2.2, e.2.fit = some (ev e.2.genome)) ∧
      c'.ls.evals.filter (fun e => e.1 == x.1) = (x.2.2.map (·.1)).map (fun o => (x.1, o)) ∧
      (x.2.2.map (·.1)).Nodup := by
  obtain ⟨hi0, hp0⟩ := initState_inv ev st m base
  obtain ⟨_, hp⟩ := crunGU_inv gens 0 t t' _ c' hi0 hp0 h
  refine ⟨hp.idle, by simpa using hp.tellsGen, hp.asks, ?_⟩
  intro x hx
  have := hp.tellsOk x hx
  exact ⟨this.pending, this.evaluated, this.once, this.nodup⟩

/-- the two generations of `demoGUC`: generation 1 hands back the persistent objects 1 and 0, moved; `update`
receives them re-evaluated -/
example : demoGUC.map (fun r => r.2.strat.asks) = some [(0, [0, 1]), (1, [1, 0])] := by decide +kernel
example : demoGUC.map (fun r => r.2.strat.tells.map (fun x => (x.1, x.2.2.map (fun e => (e.1, e.2.fit.getD []))))) =
    some [(0, [(0, [3]), (1, [3])]), (1, [(1, [10]), (0, [0])])] := by decide +kernel

/-- the composed eaGenerateUpdate, projected on the loop state, is the `eaGenerateUpdate` of the generic
theorems (`eaGenerateUpdate_correct` applies) -/
theorem eaGenerateUpdateC_refines {m base : Nat} (gens : List (List (Nat × Obj) × List Nat)) (t t' : σ)
    (st : St) (c' : CState) (h : eaGenerateUpdateC ev gens t st m base = some (t', c')) :
    eaGenerateUpdate ev gens t st = some (t', c'.ls) :=
  crunGU_ls gens 0 t t' _ c' h

end C03
