/-
C01 — Fitness comparison and Pareto dominance follow the weighted values.
The model is `DeapModel/Core/Fitness.lean`; the section on families of fitness classes (class
tables, attribute lookup, the world of instances) is about `DeapModel/Core/FitClass.lean`.
-/
import DeapModel.Lemmas.C01Class
import DeapModel.Lemmas.C01Gen   -- helper lemmas of the translator tie (GenEq/C01.lean.tmpl)
import Mathlib.Data.List.Lex
import Mathlib.Data.List.Induction
import Mathlib.Algebra.Order.Field.Rat

set_option linter.unusedSectionVars false

namespace C01
open Fitness

section Order
variable {α : Type} [LinearOrder α]

/-- Python's `<` on tuples is the lexicographic order of `List` (first differing position, then length). -/
theorem tupleLt_iff_lt (x y : List α) : Py.tupleLt x y = true ↔ x < y := by
  induction x generalizing y with
  | nil => cases y <;> simp [Py.tupleLt]
  | cons a as ih =>
    cases y with
    | nil => simp [Py.tupleLt]
    | cons b bs =>
      simp only [Py.tupleLt, List.cons_lt_cons_iff]
      split
      · next h => subst h; rw [ih]; simp
      · next h => simp [h]

/-- `<` on fitnesses is exactly the lexicographic order of the weighted value tuples. -/
theorem lt_iff_lex (a b : Fit α) : lt a b = true ↔ a.wvalues < b.wvalues :=
  tupleLt_iff_lt a.wvalues b.wvalues

theorem eq_iff (a b : Fit α) : eq a b = true ↔ a.wvalues = b.wvalues := by
  simp [eq, Py.tupleEq]

/-- On a total order Python's `<=` of tuples is `not (y < x)`. -/
theorem tupleLe_eq_not_lt (x y : List α) : Py.tupleLe x y = !Py.tupleLt y x := by
  induction x generalizing y with
  | nil => cases y <;> rfl
  | cons a as ih =>
    cases y with
    | nil => rfl
    | cons b bs =>
      simp only [Py.tupleLe, Py.tupleLt, eq_comm (a := b)]
      split
      · exact ih bs
      · rw [← decide_not, decide_eq_decide, not_lt]

theorem le_eq_not_lt (a b : Fit α) : le a b = !lt b a := tupleLe_eq_not_lt a.wvalues b.wvalues

theorem le_iff_lt_or_eq (a b : Fit α) : le a b = true ↔ (lt a b = true ∨ eq a b = true) := by
  rw [le_eq_not_lt, Bool.not_eq_true', ← Bool.not_eq_true, lt_iff_lex, lt_iff_lex, eq_iff, not_lt]
  exact _root_.le_iff_lt_or_eq

/-- Trichotomy: exactly the linear order on tuples — one of `<`, `==`, `>` (swapped `<`). -/
theorem lt_trichotomy (a b : Fit α) : lt a b = true ∨ eq a b = true ∨ lt b a = true := by
  rw [lt_iff_lex, lt_iff_lex, eq_iff]; exact _root_.lt_trichotomy _ _

theorem lt_irrefl (a : Fit α) : lt a a = false := by
  rw [← Bool.not_eq_true, lt_iff_lex]; exact _root_.lt_irrefl _

theorem lt_asymm (a b : Fit α) (h : lt a b = true) : lt b a = false := by
  rw [← Bool.not_eq_true, lt_iff_lex]; exact _root_.lt_asymm ((lt_iff_lex a b).1 h)

theorem lt_trans (a b c : Fit α) (h₁ : lt a b = true) (h₂ : lt b c = true) : lt a c = true := by
  rw [lt_iff_lex] at *; exact _root_.lt_trans h₁ h₂

/-- `>` (defined by the class as `not <=`) is `<` with the operands swapped. -/
theorem gt_iff_swap (a b : Fit α) : gt a b = lt b a := by
  rw [gt, le_eq_not_lt, Bool.not_not]

/-- `>=` (defined as `not <`) is `<=` with the operands swapped. -/
theorem ge_iff_swap (a b : Fit α) : ge a b = le b a := (le_eq_not_lt b a).symm

theorem ne_iff (a b : Fit α) : ne a b = !eq a b := rfl

end Order

section Weights
variable {α : Type} [Field α] [LinearOrder α] [IsStrictOrderedRing α]

/-- A negative weight makes smaller better: weighted values compare in the *opposite* order. -/
theorem weighted_order_neg (w v v' : α) (hw : w < 0) : v * w < v' * w ↔ v' < v :=
  mul_lt_mul_right_of_neg hw

/-- A positive weight keeps the order of the raw values. -/
theorem weighted_order_pos (w v v' : α) (hw : 0 < w) : v * w < v' * w ↔ v < v' :=
  mul_lt_mul_iff_left₀ hw

/-- Values assigned are read back unchanged for every vector of non-zero weights
(in particular ±1). -/
theorem values_roundtrip (weights values : List α) (hlen : values.length = weights.length)
    (hnz : ∀ w ∈ weights, w ≠ 0) :
    (setValues weights values).map (getValues weights) = some values := by
  simp only [setValues, hlen, ↓reduceIte, Option.map_some, getValues, Option.some.injEq]
  induction values generalizing weights with
  | nil => rfl
  | cons v vs ih =>
    obtain ⟨w, ws, rfl⟩ := List.exists_cons_of_length_eq_add_one hlen.symm
    simp only [List.zipWith_cons_cons, mul_div_cancel_right₀ v (hnz w List.mem_cons_self),
      ih ws (Nat.succ.inj hlen) fun x hx => hnz x (List.mem_cons_of_mem _ hx)]

end Weights

section Dominance
variable {α : Type} [LinearOrder α]

theorem dominatesLoop_iff (xs ys : List α) (ne : Bool) :
    dominatesLoop xs ys ne = true ↔
      (∀ p ∈ xs.zip ys, p.2 ≤ p.1) ∧ (ne = true ∨ ∃ p ∈ xs.zip ys, p.2 < p.1) := by
  have base (ne : Bool) : ne = true ↔
      (∀ p ∈ ([] : List (α × α)), p.2 ≤ p.1) ∧ (ne = true ∨ ∃ p ∈ ([] : List (α × α)), p.2 < p.1) :=
    ⟨fun h => ⟨List.forall_mem_nil _, Or.inl h⟩, fun h => h.2.resolve_right fun ⟨_, hp, _⟩ => absurd hp List.not_mem_nil⟩
  induction xs generalizing ys ne with
  | nil => simpa only [dominatesLoop, List.zip_nil_left] using base ne
  | cons x xs ih =>
    cases ys with
    | nil => simpa only [dominatesLoop, List.zip_nil_right] using base ne
    | cons y ys =>
      simp only [dominatesLoop, List.zip_cons_cons, List.forall_mem_cons, List.exists_mem_cons_iff]
      split
      · next h => simp only [ih, h, le_of_lt h, true_and, true_or, or_true]
      · next h =>
        split
        · next h' => simp only [not_le.2 h', false_and, Bool.false_eq_true]
        · next h' => simp only [ih, h, (not_lt.1 h' : y ≤ x), true_and, false_or]

/-- Dominance on any selection of objectives: no worse on every selected weighted objective and
strictly better on at least one. -/
theorem dominates_iff (a b : Fit α) (idxA idxB : List Nat) :
    dominates a b idxA idxB = true ↔
      (∀ p ∈ (Py.slice idxA a.wvalues).zip (Py.slice idxB b.wvalues), p.2 ≤ p.1) ∧
      (∃ p ∈ (Py.slice idxA a.wvalues).zip (Py.slice idxB b.wvalues), p.2 < p.1) := by
  simp only [dominates, dominatesLoop_iff, Bool.false_eq_true, false_or]

theorem dominates_iff_getElem (a b : Fit α) (idx : List Nat) (hlen : a.wvalues.length = b.wvalues.length) :
    dominates a b idx idx = true ↔
      (∀ i ∈ idx, ∀ x y, a.wvalues[i]? = some x → b.wvalues[i]? = some y → y ≤ x) ∧
      (∃ i ∈ idx, ∃ x y, a.wvalues[i]? = some x ∧ b.wvalues[i]? = some y ∧ y < x) := by
  simp only [dominates_iff, Py.zip_slice idx _ _ hlen, Py.mem_slice, List.getElem?_zip_eq_some, Prod.forall, Prod.exists]
  constructor
  · rintro ⟨h1, x, y, ⟨i, hi, hx, hy⟩, hlt⟩
    exact ⟨fun i hi x y hx hy => h1 x y ⟨i, hi, hx, hy⟩, i, hi, x, y, hx, hy, hlt⟩
  · rintro ⟨h1, i, hi, x, y, hx, hy, hlt⟩
    exact ⟨fun x y ⟨i, hi, hx, hy⟩ => h1 i hi x y hx hy, x, y, ⟨i, hi, hx, hy⟩, hlt⟩

set_option linter.unusedVariables false in
/-- For tuples of equal length this is the pointwise statement (`dominates_iff_getElem`; the proof does not need the index
list to be in range: an out-of-range index selects nothing on either side). -/
theorem dominates_iff_pointwise (a b : Fit α) (idx : List Nat)
    (hlen : a.wvalues.length = b.wvalues.length) (hidx : ∀ i ∈ idx, i < a.wvalues.length) :
    dominates a b idx idx = true ↔
      (∀ i ∈ idx, ∀ x y, a.wvalues[i]? = some x → b.wvalues[i]? = some y → y ≤ x) ∧
      (∃ i ∈ idx, ∃ x y, a.wvalues[i]? = some x ∧ b.wvalues[i]? = some y ∧ y < x) :=
  dominates_iff_getElem a b idx hlen

/-- A dominating tuple is lexicographically greater, whatever the two lengths: the first position where the tuples
differ is one where the dominating one is better.  So dominance inherits irreflexivity and asymmetry from the order of tuples. -/
theorem dominatesLoop_imp_lt : ∀ (xs ys : List α), dominatesLoop xs ys false = true → ys < xs
  | x :: xs, y :: ys, h => by
    rw [dominatesLoop] at h
    rw [List.cons_lt_cons_iff]
    split at h
    · next hlt => exact Or.inl hlt
    · split at h
      · cases h
      · next h1 h2 => exact Or.inr ⟨le_antisymm (not_lt.1 h2) (not_lt.1 h1), dominatesLoop_imp_lt xs ys h⟩
  | [], _, h => by simp [dominatesLoop] at h
  | _ :: _, [], h => by simp [dominatesLoop] at h

theorem dominatesLoop_irrefl (xs : List α) : dominatesLoop xs xs false = false :=
  Bool.eq_false_iff.2 fun h => _root_.lt_irrefl _ (dominatesLoop_imp_lt xs xs h)

theorem dominatesLoop_asymm {xs ys : List α} (h : dominatesLoop xs ys false = true) :
    dominatesLoop ys xs false = false :=
  Bool.eq_false_iff.2 fun h' => _root_.lt_asymm (dominatesLoop_imp_lt _ _ h) (dominatesLoop_imp_lt _ _ h')

set_option linter.unusedVariables false in
/-- Dominance on all objectives implies being strictly greater in the lexicographic order: a dominating fitness always
compares `>` (`dominatesLoop_imp_lt`; the proof does not use the equality of the lengths). -/
theorem dominates_imp_gt (xs ys : List α) (hlen : xs.length = ys.length)
    (h : dominatesLoop xs ys false = true) : lt (⟨ys⟩ : Fit α) ⟨xs⟩ = true :=
  (lt_iff_lex _ _).2 (dominatesLoop_imp_lt xs ys h)

/-- Dominance is irreflexive: a fitness that dominated itself would compare `>` to itself. -/
theorem dominates_irrefl (a : Fit α) (idx : List Nat) : dominates a a idx idx = false :=
  dominatesLoop_irrefl _

end Dominance

section History
variable {α : Type} [Mul α]

/-- A fitness is valid exactly while values are assigned and not deleted: after any history of
assignments (of the class's length, which is ≥ 1) and deletions, it is valid iff the last
operation was an assignment. -/
theorem valid_history (weights : List α) (hw : weights ≠ []) (f : Fit α) (ops : List (Op α))
    (hops : ∀ o ∈ ops, ∀ v, o = Op.set v → v.length = weights.length) (hne : ops ≠ []) :
    valid (run weights f ops) = (match ops.getLast hne with | .set _ => true | .del => false) := by
  induction ops using List.reverseRecOn with
  | nil => exact absurd rfl hne
  | append_singleton init o _ =>
    simp only [run, List.foldl_append, List.foldl_cons, List.foldl_nil, List.getLast_append_singleton]
    cases o with
    | del => simp [step, delValues, valid]
    | set v =>
      have hl := hops (Op.set v) (by simp) v rfl
      have : weights.length ≠ 0 := by simpa using hw
      simp [step, setValues, hl, valid, this]

end History

section Clone
variable {α : Type} [LinearOrder α]

/-- A clone compares equal to its original, is neither smaller nor greater, has the same hash key
and the same validity. -/
theorem clone_eq (f : Fit α) :
    eq (deepcopy f) f = true ∧ lt (deepcopy f) f = false ∧ lt f (deepcopy f) = false ∧
    hashKey (deepcopy f) = hashKey f ∧ valid (deepcopy f) = valid f := by
  refine ⟨by simp [eq, deepcopy, Py.tupleEq], ?_, ?_, rfl, rfl⟩ <;> exact lt_irrefl f

/-- Same for constrained fitnesses, whose clone keeps the violation flags. -/
theorem cclone_eq (f : CFit α) :
    ceq (cdeepcopy f) f = true ∧ violates (cdeepcopy f) = violates f ∧ cdeepcopy f = f := by
  have hc : cdeepcopy f = f := rfl
  refine ⟨?_, rfl, rfl⟩
  rw [hc]; simp only [ceq]
  cases h : violates f <;> simp [eq, Py.tupleEq]

end Clone

section Constrained
variable {α : Type} [LinearOrder α]

/-- A constraint-violating fitness never compares better than, equal to, or dominating a
non-violating one (feasible evaluated *or* unevaluated), and the non-violating one is strictly
better and dominates it. -/
theorem constrained_table (v f : CFit α) (hv : violates v = true) (hf : violates f = false) :
    cgt v f = false ∧ cge v f = false ∧ ceq v f = false ∧ cdominates v f = false ∧
    clt v f = true ∧ cle v f = true ∧ cne v f = true ∧
    cgt f v = true ∧ cge f v = true ∧ cdominates f v = true ∧ ceq f v = false ∧
    clt f v = false ∧ cle f v = false := by
  simp [cgt, cge, ceq, cdominates, clt, cle, cne, hv, hf]

/-- Two violating fitnesses are equal to each other and neither dominates. -/
theorem constrained_both (v w : CFit α) (hv : violates v = true) (hw : violates w = true) :
    ceq v w = true ∧ clt v w = false ∧ cgt v w = false ∧ cdominates v w = false ∧
    cle v w = true ∧ cge v w = true := by
  simp [cgt, cge, ceq, cdominates, clt, cle, hv, hw]

/-- Two non-violating constrained fitnesses compare exactly like plain fitnesses. -/
theorem constrained_neither (a b : CFit α) (ha : violates a = false) (hb : violates b = false) :
    clt a b = lt a.base b.base ∧ cle a b = le a.base b.base ∧ ceq a b = eq a.base b.base ∧
    cgt a b = gt a.base b.base ∧ cge a b = ge a.base b.base ∧
    cdominates a b = dominatesLoop a.wvalues b.wvalues false := by
  simp [cgt, cge, ceq, cdominates, clt, cle, gt, ge, ha, hb]

/-- A violating fitness is never valid (the flags only count while unevaluated). -/
theorem violates_not_valid (v : CFit α) (hv : violates v = true) : valid v.base = false := by
  simp only [violates, Bool.and_eq_true, Bool.not_eq_true'] at hv; exact hv.1

end Constrained

section ConstrainedHistory
variable {α : Type} [Mul α]

/-- What "valid exactly while values are assigned and not deleted" means for a history that may also
set the violation record: only assignments and deletions count, the last one decides. -/
def cvalidSpec : List (COp α) → Bool → Bool
  | [], b => b
  | .set _ :: ops, _ => cvalidSpec ops true
  | .del :: ops, _ => cvalidSpec ops false
  | .setCv _ :: ops, b => cvalidSpec ops b

/-- A constrained fitness is valid exactly while values are assigned and not deleted, whatever is done
to its violation record in between. -/
theorem cvalid_history (weights : List α) (hw : weights ≠ []) (f : CFit α) (ops : List (COp α))
    (hops : ∀ o ∈ ops, ∀ v, o = COp.set v → v.length = weights.length) :
    valid (crun weights f ops).base = cvalidSpec ops (valid f.base) := by
  induction ops generalizing f with
  | nil => rfl
  | cons o ops ih =>
    have hrest : ∀ o' ∈ ops, ∀ v, o' = COp.set v → v.length = weights.length :=
      fun o' ho' => hops o' (by simp [ho'])
    simp only [crun, List.foldl_cons] at *
    cases o with
    | set v =>
      have hl := hops (COp.set v) (by simp) v rfl
      have hne : weights.length ≠ 0 := by simpa using hw
      rw [ih _ hrest]
      have : valid (cstep weights f (COp.set v)).base = true := by
        simp [cstep, setValues, hl, valid, CFit.base, hne]
      rw [this]; rfl
    | setCv cv => rw [ih _ hrest]; simp [cstep, cvalidSpec, CFit.base]
    | del => rw [ih _ hrest]; simp [cstep, cvalidSpec, cdelValues, valid, CFit.base]

/-- Deleting the values also clears the violation record: the fitness is then neither valid nor violating. -/
theorem cdel_clears [LT α] [LE α] [DecidableEq α] [DecidableLT α] [DecidableLE α] (weights : List α) (f : CFit α) :
    (cstep weights f COp.del).cv = none ∧ valid (cstep weights f COp.del).base = false ∧
    violates (cstep weights f COp.del) = false := by
  simp [cstep, cdelValues, valid, CFit.base, violates]

end ConstrainedHistory

example : cvalidSpec ([COp.set [1], COp.setCv (some [1]), COp.del, COp.setCv (some [1])] : List (COp Int)) false = false ∧
    valid (crun [1] (⟨[], none⟩ : CFit Int) [COp.set [5], COp.setCv (some [1]), COp.del]).base = false ∧
    valid (crun [1] (⟨[], none⟩ : CFit Int) [COp.del, COp.setCv (some [1]), COp.set [5]]).base = true := by decide

section WeightedTuples
variable {α : Type} [Field α] [LinearOrder α] [IsStrictOrderedRing α]

/-- The order the statement describes: the first objective on which the raw values differ decides, and a
negative weight makes the smaller raw value the better (greater) one. -/
def WLex : List α → List α → List α → Prop
  | w :: ws, v :: vs, v' :: vs' =>
      (v ≠ v' ∧ (if 0 < w then v < v' else v' < v)) ∨ (v = v' ∧ WLex ws vs vs')
  | _, _, _ => False

/-- `<` on two fitnesses of the same class, expressed on the RAW values and the weights. -/
theorem lt_weighted_iff (ws vs vs' : List α) (hl : vs.length = ws.length) (hl' : vs'.length = ws.length)
    (hnz : ∀ w ∈ ws, w ≠ 0) :
    lt (⟨List.zipWith (· * ·) vs ws⟩ : Fit α) ⟨List.zipWith (· * ·) vs' ws⟩ = true ↔ WLex ws vs vs' := by
  simp only [lt]
  induction ws generalizing vs vs' with
  | nil =>
    obtain rfl := List.eq_nil_of_length_eq_zero hl
    obtain rfl := List.eq_nil_of_length_eq_zero hl'
    simp only [List.zipWith_nil_left, Py.tupleLt, WLex, Bool.false_eq_true]
  | cons w ws ih =>
    obtain ⟨v, vs, rfl⟩ := List.exists_cons_of_length_eq_add_one hl
    obtain ⟨v', vs', rfl⟩ := List.exists_cons_of_length_eq_add_one hl'
    have hw : w ≠ 0 := hnz w List.mem_cons_self
    have ih := ih vs vs' (Nat.succ.inj hl) (Nat.succ.inj hl') fun x hx => hnz x (List.mem_cons_of_mem _ hx)
    simp only [List.zipWith_cons_cons, Py.tupleLt, WLex, mul_left_inj' hw]
    by_cases hv : v = v'
    · simp only [hv, ↓reduceIte, ih, ne_eq, not_true_eq_false, false_and, true_and, false_or]
    · simp only [hv, ↓reduceIte, decide_eq_true_eq, ne_eq, not_false_eq_true, true_and, false_and, or_false]
      rcases lt_or_gt_of_ne hw with hneg | hpos
      · rw [if_neg (not_lt.2 hneg.le), mul_lt_mul_right_of_neg hneg]
      · rw [if_pos hpos, mul_lt_mul_iff_left₀ hpos]

/-- Single objective: with a negative weight `a > b` holds exactly when `a`'s raw value is smaller. -/
theorem gt_single_neg (w v v' : α) (hw : w < 0) :
    gt (⟨[v * w]⟩ : Fit α) ⟨[v' * w]⟩ = true ↔ v < v' := by
  rw [gt_iff_swap, lt_iff_lex, List.cons_lt_cons_iff, ← weighted_order_neg w v' v hw]
  exact or_iff_left fun h => List.lt_irrefl _ h.2

end WeightedTuples

example : WLex ([1, -1] : List ℚ) [3, 5] [3, 4] ∧ ¬ WLex ([1, -1] : List ℚ) [3, 4] [3, 5] := by
  simp only [WLex]; decide

/-! ### Comparisons see only the order of the weighted values

Every operator and `dominates` are invariant under a strictly increasing re-labelling of the weighted values.
This is what lets the correspondence drive the (rational) model with an order-isomorphic image of weighted
values that saturated at ±∞ in the implementation's doubles, and it is a law of the implementation's
comparison in its own right (no operator looks at magnitudes). -/
section MonotoneImage
variable {α β : Type} [LinearOrder α] [LinearOrder β]

/-- The image of a fitness under a re-labelling of its weighted values. -/
def mapFit (f : α → β) (a : Fit α) : Fit β := ⟨a.wvalues.map f⟩

theorem tupleLt_map (f : α → β) (hf : StrictMono f) (x y : List α) :
    Py.tupleLt (x.map f) (y.map f) = Py.tupleLt x y := by
  induction x generalizing y with
  | nil => cases y <;> simp [Py.tupleLt]
  | cons a as ih =>
    cases y with
    | nil => simp [Py.tupleLt]
    | cons b bs =>
      simp only [List.map_cons, Py.tupleLt, hf.injective.eq_iff, hf.lt_iff_lt, ih]

theorem tupleLe_map (f : α → β) (hf : StrictMono f) (x y : List α) :
    Py.tupleLe (x.map f) (y.map f) = Py.tupleLe x y := by
  rw [tupleLe_eq_not_lt, tupleLe_eq_not_lt, tupleLt_map f hf]

theorem dominatesLoop_map (f : α → β) (hf : StrictMono f) (x y : List α) (ne : Bool) :
    dominatesLoop (x.map f) (y.map f) ne = dominatesLoop x y ne := by
  induction x generalizing y ne with
  | nil => simp [dominatesLoop]
  | cons a as ih =>
    cases y with
    | nil => simp [dominatesLoop]
    | cons b bs =>
      simp only [List.map_cons, dominatesLoop, hf.lt_iff_lt, ih]

/-- All six operators and `dominates` (on every slice) give the same answers on a strictly increasing image
of the weighted values. -/
theorem compare_order_invariant (f : α → β) (hf : StrictMono f) (a b : Fit α) (idxA idxB : List Nat) :
    lt (mapFit f a) (mapFit f b) = lt a b ∧ le (mapFit f a) (mapFit f b) = le a b ∧
    gt (mapFit f a) (mapFit f b) = gt a b ∧ ge (mapFit f a) (mapFit f b) = ge a b ∧
    eq (mapFit f a) (mapFit f b) = eq a b ∧ ne (mapFit f a) (mapFit f b) = ne a b ∧
    dominates (mapFit f a) (mapFit f b) idxA idxB = dominates a b idxA idxB := by
  have heq : eq (mapFit f a) (mapFit f b) = eq a b := by
    simp only [eq, Py.tupleEq, mapFit]
    exact decide_eq_decide.2 (List.map_injective_iff.2 hf.injective).eq_iff
  refine ⟨tupleLt_map f hf _ _, tupleLe_map f hf _ _, ?_, ?_, heq, ?_, ?_⟩
  · simp only [gt, le, mapFit, tupleLe_map f hf]
  · simp only [ge, lt, mapFit, tupleLt_map f hf]
  · simp only [ne, heq]
  · simp only [dominates, mapFit, Py.slice_map, dominatesLoop_map f hf]

end MonotoneImage

example : lt (mapFit (fun x : Int => 2 * x + 1) ⟨[3, -5]⟩) (mapFit (fun x : Int => 2 * x + 1) ⟨[3, -2]⟩) = true := by decide

example : dominatesLoop ([3, -2] : List Int) [3, -5] false = true ∧ lt (⟨[3, -5]⟩ : Fit Int) ⟨[3, -2]⟩ = true := by decide

/-! ### Families of related fitness classes (`Core/FitClass.lean`): attribute lookup, class isolation, read-back in a hierarchy -/

section Lookup
variable {α : Type}

/-- A class that declares `weights` resolves to its own declaration, whatever its ancestors declare. -/
theorem resolve_own (tbl : ClassTable α) (c : Nat) (w : List α) (p : Option Nat)
    (h : tbl[c]? = some ⟨some w, p⟩) : lookupWeights tbl c = some w :=
  lookupWeights_own tbl c w p h

/-- A class that declares no `weights` resolves to what its parent resolves to (inheritance, any depth). -/
theorem resolve_inherited (tbl : ClassTable α) (h : TableWF tbl) (c p : Nat)
    (hc : tbl[c]? = some ⟨none, some p⟩) : lookupWeights tbl c = lookupWeights tbl p :=
  lookupWeights_inherit tbl h c p hc

/-- Creating further classes (children, siblings, unrelated ones) never changes what an existing class resolves to. -/
theorem resolve_stable (tbl ext : ClassTable α) (h : TableWF tbl) (c : Nat) (hc : c < tbl.length) :
    lookupWeights (tbl ++ ext) c = lookupWeights tbl c :=
  lookupWeights_append tbl ext h c hc

end Lookup

example : TableWF ([⟨some [1], none⟩, ⟨none, some 0⟩, ⟨some [-1], some 1⟩] : ClassTable Int) ∧
    lookupWeights ([⟨some [1], none⟩, ⟨none, some 0⟩, ⟨some [-1], some 1⟩] : ClassTable Int) 1 = some [1] ∧
    lookupWeights ([⟨some [1], none⟩, ⟨none, some 0⟩, ⟨some [-1], some 1⟩] : ClassTable Int) 2 = some [-1] ∧
    lookupWeights ([⟨none, none⟩, ⟨none, some 0⟩] : ClassTable Int) 1 = none :=
  ⟨tableWF_of_lt _ (by decide), by decide, by decide, by decide⟩

section Isolation
variable {α : Type} [LT α] [LE α] [DecidableEq α] [DecidableLT α] [DecidableLE α] [Mul α] [Div α]

/-- Every world a caller can reach from the empty one is well-formed (parents exist before their children, every
object's class exists): the hypothesis `WorldWF` of the theorems below is met by every history. -/
theorem wf_reachable (ops : List (WOp α)) : WorldWF (wrun (World.empty : World α) ops).1 :=
  wrun_wf _ ops worldWF_empty

/-- CLASS ISOLATION.  The result of an operation on fitness objects — what the caller observes and the state left in
the variables it touched — depends only on each object's OWN weighted values and on the weights its OWN class resolves
to (`World.view`).  It is the same in two arbitrary worlds that agree on those views, after two arbitrary histories
`pre`, `pre'` of operations on OTHER variables: assignments, read-backs (in any order of first use), comparisons,
clones, deletions on instances of the same class, of its ancestors and descendants, creation of new classes and
objects.  Nothing done to another class or instance can change a read-back, a comparison, a dominance test or a
clone. -/
theorem class_isolation (W W' : World α) (hW : WorldWF W) (hW' : WorldWF W') (pre pre' : List (WOp α))
    (o : WOp α) (S : List Nat) (hS : o.reads = some S)
    (hpre : ∀ p ∈ pre, ∀ s ∈ S, p.writes ≠ some s) (hpre' : ∀ p ∈ pre', ∀ s ∈ S, p.writes ≠ some s)
    (hview : ∀ s ∈ S, W.view s = W'.view s) :
    (wstep (wrun W pre).1 o).2 = (wstep (wrun W' pre').1 o).2 ∧
    ∀ s, (s ∈ S ∨ (o.writes = some s ∧ (wstep (wrun W pre).1 o).2 ≠ Out.err)) →
      (wstep (wrun W pre).1 o).1.view s = (wstep (wrun W' pre').1 o).1.view s := by
  apply step_congr _ _ o S hS
  intro s hs
  rw [wrun_view_frame W pre s hW (fun p hp => hpre p hp s hs),
    wrun_view_frame W' pre' s hW' (fun p hp => hpre' p hp s hs)]
  exact hview s hs

/-- The single-world reading: a history on other variables changes no result on these. -/
theorem class_isolation_history (W : World α) (hW : WorldWF W) (pre : List (WOp α)) (o : WOp α) (S : List Nat)
    (hS : o.reads = some S) (hpre : ∀ p ∈ pre, ∀ s ∈ S, p.writes ≠ some s) :
    (wstep (wrun W pre).1 o).2 = (wstep W o).2 :=
  (class_isolation W W hW hW pre [] o S hS hpre (by simp) (fun _ _ => rfl)).1

end Isolation

/-- a world with a parent class (weights 1) and a child overriding them (weights -1), one object of each -/
def exWorld : World Int := (wrun (World.empty : World Int)
  [.defclass ⟨some [1], none⟩, .defclass ⟨some [-1], some 0⟩, .new 0 0 ⟨.tuple, [3]⟩, .new 1 1 ⟨.list, [5]⟩]).1

/-- a world with ONE flat class of weights -1 and an object carrying the same weighted values in variable 1 -/
def exFlat : World Int := (wrun (World.empty : World Int)
  [.defclass ⟨some [-1], none⟩, .new 1 0 ⟨.ndarray, [5]⟩, .new 4 0 ⟨.tuple, []⟩]).1

/-- the hypotheses of `class_isolation_history` are met: the parent's object is read, re-assigned, cloned and the clone
deleted; reading the child's object afterwards answers what it answers at once -/
example : (wstep (wrun exWorld [.get 0, .set 0 ⟨.tuple, [4]⟩, .clone 0 2, .del 2, .defclass ⟨none, some 1⟩]).1 (.get 1)).2 =
    (wstep exWorld (.get 1)).2 ∧ (wstep exWorld (.get 1)).2 = Out.values [-5] [5] true :=
  ⟨class_isolation_history exWorld (wf_reachable _) _ (.get 1) [1] rfl (by decide), by decide⟩

/-- the hypotheses of `class_isolation` are met by two different worlds (a derived class under a parent that is used in
between / a flat class): equal views of variable 1, equal answers -/
example : (wstep (wrun exWorld [.get 0, .str 0, .cmp 0 0]).1 (.get 1)).2 =
    (wstep (wrun exFlat [.set 4 ⟨.tuple, [9]⟩, .get 4]).1 (.get 1)).2 :=
  (class_isolation exWorld exFlat (wf_reachable _) (wf_reachable _) _ _ (.get 1) [1] rfl
    (by decide) (by decide) (by intro s hs; simp at hs; subst hs; decide)).1

section ReadbackHierarchy
variable {α : Type} [Field α] [LinearOrder α] [IsStrictOrderedRing α]

/-- Read-back for a class that RESOLVES to non-zero weights `w` (declared by itself or inherited): after
`slot.values = vals` and any history on other variables, `slot.values` is `vals`, `slot.wvalues` the products,
and the fitness is valid. -/
theorem readback_resolved (W : World α) (hW : WorldWF W) (slot : Nat) (x : Inst α) (hx : W.insts slot = some x)
    (w : List α) (hres : lookupWeights W.classes x.cls = some w) (hnz : ∀ u ∈ w, u ≠ 0)
    (box : Box) (vals : List α) (hlen : vals.length = w.length)
    (others : List (WOp α)) (hoth : ∀ o ∈ others, o.writes ≠ some slot) :
    (wstep (wrun (wstep W (.set slot ⟨box, vals⟩)).1 others).1 (.get slot)).2 =
      Out.values (List.zipWith (· * ·) vals w) vals (vals.length != 0) := by
  have hset : setValues w vals = some ⟨List.zipWith (· * ·) vals w⟩ := by simp [setValues, hlen]
  have hstep : (wstep W (.set slot ⟨box, vals⟩)).1 = W.put slot ⟨x.cls, ⟨List.zipWith (· * ·) vals w⟩⟩ := by
    simp only [wstep, hx, hres, hset]
  have hwf : WorldWF (wstep W (.set slot ⟨box, vals⟩)).1 := wstep_wf W _ hW
  have hview : (wrun (wstep W (.set slot ⟨box, vals⟩)).1 others).1.view slot =
      some (List.zipWith (· * ·) vals w, some w) := by
    rw [wrun_view_frame _ others slot hwf hoth, hstep, put_view_self]
    simp only [hres]
  rw [get_of_view _ slot _ w hview]
  have hrt := values_roundtrip w vals hlen hnz
  simp only [hset, Option.map_some, Option.some.injEq] at hrt
  rw [hrt]
  simp [valid, hlen]

/-- READ-BACK IN A HIERARCHY.  For a class that declares weights `w` of +1/−1 itself — whatever parent `p` it has and
whatever that parent and the further ancestors declare — values assigned to an instance are read back unchanged,
after any history of operations on other variables (ancestors' and descendants' instances read first or not). -/
theorem readback_hierarchy (W : World α) (hW : WorldWF W) (slot : Nat) (x : Inst α) (hx : W.insts slot = some x)
    (w : List α) (p : Option Nat) (hcls : W.classes[x.cls]? = some ⟨some w, p⟩)
    (hunit : ∀ u ∈ w, u = 1 ∨ u = -1)
    (box : Box) (vals : List α) (hlen : vals.length = w.length)
    (others : List (WOp α)) (hoth : ∀ o ∈ others, o.writes ≠ some slot) :
    (wstep (wrun (wstep W (.set slot ⟨box, vals⟩)).1 others).1 (.get slot)).2 =
      Out.values (List.zipWith (· * ·) vals w) vals (vals.length != 0) := by
  refine readback_resolved W hW slot x hx w (resolve_own _ _ w p hcls) ?_ box vals hlen others hoth
  intro u hu
  rcases hunit u hu with rfl | rfl
  · exact one_ne_zero
  · exact neg_ne_zero.2 one_ne_zero

end ReadbackHierarchy

/-- the hypotheses are met: a child declaring (-1) under a parent declaring (1); the conclusion then holds for a
history that uses the parent in between -/
example : ∃ (W : World ℚ) (x : Inst ℚ), WorldWF W ∧ W.insts 1 = some x ∧
    W.classes[x.cls]? = some ⟨some [-1], some 0⟩ ∧ (∀ u ∈ ([-1] : List ℚ), u = 1 ∨ u = -1) ∧
    (wstep (wrun (wstep W (.set 1 ⟨.tuple, [7]⟩)).1 [.get 0, .set 0 ⟨.list, [2]⟩, .get 0]).1 (.get 1)).2 =
      Out.values (List.zipWith (· * ·) [7] [-1]) [7] true := by
  -- `by rfl`, not `rfl`: on closed terms the tactic lets the kernel run the history; the elaborator's unifier is slow at it
  refine ⟨(wrun (World.empty : World ℚ) [.defclass ⟨some [1], none⟩, .defclass ⟨some [-1], some 0⟩,
      .new 0 0 ⟨.tuple, []⟩, .new 1 1 ⟨.tuple, []⟩]).1, ⟨1, ⟨[]⟩⟩, wf_reachable _, ?hx, ?hc, by decide,
    readback_hierarchy _ (wf_reachable _) 1 ⟨1, ⟨[]⟩⟩ ?hx [-1] (some 0) ?hc (by decide) .tuple [7] rfl _ (by decide)⟩
  all_goals rfl

/-- `readback_resolved` with INHERITED weights: class 2 declares nothing and resolves to class 1's (-1) -/
example : ∃ (W : World ℚ) (x : Inst ℚ), WorldWF W ∧ W.insts 2 = some x ∧ lookupWeights W.classes x.cls = some [-1] ∧
    (wstep (wrun (wstep W (.set 2 ⟨.list, [7]⟩)).1 [.get 0, .get 1]).1 (.get 2)).2 =
      Out.values (List.zipWith (· * ·) [7] [-1]) [7] true := by
  refine ⟨(wrun (World.empty : World ℚ) [.defclass ⟨some [1], none⟩, .defclass ⟨some [-1], some 0⟩,
      .defclass ⟨none, some 1⟩, .new 0 0 ⟨.tuple, []⟩, .new 1 1 ⟨.tuple, []⟩, .new 2 2 ⟨.tuple, []⟩]).1,
    ⟨2, ⟨[]⟩⟩, wf_reachable _, ?hx, ?hw,
    readback_resolved _ (wf_reachable _) 2 ⟨2, ⟨[]⟩⟩ ?hx [-1] ?hw (by decide) .list [7] rfl _ (by decide)⟩
  all_goals rfl

section Ctor
variable {α : Type} [Mul α]

/-- `Fitness(values)` is valid exactly when the container handed over is non-empty (`len(values) > 0`), for every
container kind. -/
theorem init_valid_iff (weights : List α) (hw : weights ≠ []) (a : Arg α) (f : Fit α)
    (h : init weights a = some f) : valid f = true ↔ a.items ≠ [] := by
  unfold init Arg.len setValues at h
  split at h
  · split at h
    · next hpos hl =>
      obtain rfl := Option.some.inj h
      simp only [valid, List.length_zipWith, hl, Nat.min_self, bne_iff_ne, ne_eq, List.length_eq_zero_iff, hw,
        not_false_eq_true, true_iff]
      exact List.ne_nil_of_length_pos hpos
    · cases h
  · next hpos =>
    obtain rfl := Option.some.inj h
    simp only [valid, List.length_nil, bne_self_eq_false, Bool.false_eq_true, false_iff, not_not]
    exact List.eq_nil_of_length_eq_zero (Nat.eq_zero_of_not_pos hpos)

/-- The constructor looks at the length and the items only: the container kind is irrelevant. -/
theorem init_ignores_container (weights : List α) (b b' : Box) (items : List α) :
    init weights ⟨b, items⟩ = init weights ⟨b', items⟩ := rfl

end Ctor

example : init ([1, -1] : List Int) ⟨.ndarray, [3, 4]⟩ = some ⟨[3, -4]⟩ ∧
    init ([1, -1] : List Int) ⟨.deque, []⟩ = some ⟨[]⟩ ∧ init ([1, -1] : List Int) ⟨.list, [3]⟩ = none := by decide

section CtorArray
variable {α : Type} [Field α] [DecidableEq α]

/-- A falsy but non-empty numpy array (`bool(numpy.array([0.0]))` is `False`) is still assigned: the fitness built
from it is valid and carries the weighted value `0 * w`. -/
theorem init_falsy_array (w : α) :
    (⟨.ndarray, [0]⟩ : Arg α).truthy = some false ∧
    init [w] ⟨.ndarray, [0]⟩ = some ⟨[0 * w]⟩ ∧ valid (⟨[0 * w]⟩ : Fit α) = true := by
  refine ⟨by simp [Arg.truthy], by simp [init, Arg.len, setValues], by simp [valid]⟩

end CtorArray

section StrHash
variable {α : Type}

/-- `str(fitness)` shows exactly `fitness.values` (an unevaluated fitness shows the empty tuple, which is its `values`). -/
theorem str_eq_values [Div α] (weights : List α) (f : Fit α) : strValues weights f = getValues weights f := by
  unfold strValues
  by_cases h : valid f = true
  · simp [h]
  · have : f.wvalues = [] := by
      simp only [valid, bne_iff_ne, ne_eq, Decidable.not_not, List.length_eq_zero_iff] at h; exact h
    simp [getValues, this]

/-- Fitnesses that compare equal hash equal, for every tuple hash `h` (what `sortNondominated`'s grouping of
individuals by fitness in a `dict` relies on). -/
theorem eq_imp_hash_eq [DecidableEq α] {β : Type} (h : List α → β) (a b : Fit α) (hab : Fitness.eq a b = true) :
    hashWith h a = hashWith h b := by
  simp only [Fitness.eq, Py.tupleEq, decide_eq_true_eq] at hab
  simp [hashWith, hab]

/-- A clone hashes like its original. -/
theorem clone_hash_eq {β : Type} (h : List α → β) (f : Fit α) : hashWith h (deepcopy f) = hashWith h f := rfl

end StrHash

example : Fitness.eq (⟨[3, -4]⟩ : Fit Int) ⟨[3, -4]⟩ = true := by decide

/-! ### The clone carries the weighted values themselves; a clone *rebuilt* through `values` does not

`clone_bitwise` needs no arithmetic and no order on the scalars: it is the statement the IEEE-replay stream
(`rclone`) checks bit for bit on the real objects for arbitrary finite non-zero weights.  `clone_no_recompute`
says when a clone recomputed through the public values would still be the original: exactly when
`(x / w) * w = x` for every weighted value — true in a field (`reclone_field`), false under binary64 rounding
(`reclone_witness` for `/`, `recloneInv_witness` for cached inverse weights; `Fitness.R64` = correctly rounded
`*` and `/` on the rationals that are doubles, cross-checked against the machine's `Float` by the driver). -/

section CloneBitwise
variable {α : Type} [LT α] [LE α] [DecidableEq α] [DecidableLT α] [DecidableLE α]

theorem clone_bitwise (f : Fit α) : (deepcopy f).wvalues = f.wvalues ∧ deepcopy f = f := ⟨rfl, rfl⟩

theorem cclone_bitwise (f : CFit α) :
    (cdeepcopy f).wvalues = f.wvalues ∧ (cdeepcopy f).cv = f.cv := ⟨rfl, rfl⟩

/-- What a clone rebuilt by `cls(self.values)` holds: every weighted value pushed through `/ w * w`. -/
theorem reclone_wvalues [Mul α] [Div α] (weights : List α) (f : Fit α) (hl : f.wvalues.length = weights.length) :
    reclone weights f = some ⟨List.zipWith (fun x w => x / w * w) f.wvalues weights⟩ := by
  have h : (getValues weights f).length = weights.length := by simp [getValues, hl]
  unfold reclone setValues
  rw [if_pos h]
  simp [getValues, zipWith_div_mul]

/-- A clone recomputed through the public values is the original exactly when `(x / w) * w = x` for every
weighted value and its weight — nothing the scalar arithmetic has to grant. -/
theorem clone_no_recompute [Mul α] [Div α] (weights : List α) (f : Fit α) (hl : f.wvalues.length = weights.length) :
    reclone weights f = some f ↔ ∀ p ∈ List.zip f.wvalues weights, p.1 / p.2 * p.2 = p.1 := by
  rw [reclone_wvalues weights f hl, ← zipWith_eq_left_iff (fun x w => x / w * w) f.wvalues weights hl]
  constructor
  · intro h; exact congrArg Fit.wvalues (Option.some.inj h)
  · intro h; cases f; simp_all

example : (⟨[3, -4]⟩ : Fit Int).wvalues.length = ([1, -1] : List Int).length := rfl

end CloneBitwise

section CloneField
variable {α : Type} [Field α] [LinearOrder α] [IsStrictOrderedRing α]

/-- In exact arithmetic (any ordered field, non-zero weights) the recomputed clone *is* the original. -/
theorem reclone_field (weights : List α) (f : Fit α) (hl : f.wvalues.length = weights.length)
    (hnz : ∀ w ∈ weights, w ≠ 0) : reclone weights f = some f := by
  rw [clone_no_recompute weights f hl]
  intro p hp
  exact div_mul_cancel₀ p.1 (hnz p.2 (List.of_mem_zip hp).2)

example : (⟨[3, -4]⟩ : Fit ℚ).wvalues.length = ([1, -2] : List ℚ).length ∧ ∀ w ∈ ([1, -2] : List ℚ), w ≠ 0 := by
  decide

end CloneField

section CloneRounded

/-- the doubles -0.7, 1.3 (weights) and 0.1, 0.7 (values) -/
def wWit : List R64 := [⟨-(3152519739159347 / 4503599627370496)⟩, ⟨5854679515581645 / 4503599627370496⟩]
def vWit : List R64 := [⟨3602879701896397 / 36028797018963968⟩, ⟨3152519739159347 / 4503599627370496⟩]

/-- Under binary64 rounding a clone rebuilt through `values` computed with inverse weights is NOT the original:
weights (-0.7, 1.3), values (0.1, 0.7): the second weighted value 0.9099999999999999 comes back as
0.9099999999999998; the clone is not equal, is smaller, and is dominated by its original. -/
theorem recloneInv_witness :
    (setValues wWit vWit).bind (fun f => (recloneInv ⟨1⟩ wWit f).map
      (fun g => (eq g f, lt g f, dominates f g [0, 1] [0, 1], eq (deepcopy f) f))) = some (false, true, true, true) := by
  decide +kernel

/-- Even with the true division the round trip `(x / w) * w` is not the identity on doubles: weight 49.0,
value 0.020408163265306124, weighted value exactly 1.0, rebuilt 0.9999999999999999. -/
theorem reclone_witness :
    (setValues [(⟨49⟩ : R64)] [⟨2941126287262365 / 144115188075855872⟩]).bind (fun f => (reclone [⟨49⟩] f).map
      (fun g => (f.wvalues, eq g f, lt g f, eq (deepcopy f) f))) = some ([⟨1⟩], false, true, true) := by
  decide +kernel

/-- ... so the hypothesis of `clone_no_recompute` fails there: `(1.0 / 49.0) * 49.0 ≠ 1.0` in binary64. -/
theorem r64_div_mul_ne : ((⟨1⟩ : R64) / ⟨49⟩) * ⟨49⟩ ≠ ⟨1⟩ := by decide +kernel

end CloneRounded

section ConstrainedSlice
variable {α : Type} [LT α] [LE α] [DecidableEq α] [DecidableLT α] [DecidableLE α]

/-- on every objective (`obj = slice(None)`: each tuple's own full index range) the sliced constrained dominance is
the unsliced one of the theorems above -/
theorem cdominatesObj_all (a b : CFit α) :
    cdominatesObj a b (List.range a.wvalues.length) (List.range b.wvalues.length) = cdominates a b := by
  unfold cdominatesObj cdominates dominates
  simp only [CFit.base, Py.slice_range]

/-- a violating fitness never dominates and a non-violating one dominates every violating one, on every slice;
between two non-violating ones it is the base class's sliced dominance -/
theorem cdominatesObj_cases (a b : CFit α) (ia ib : List Nat) :
    (violates a = true → cdominatesObj a b ia ib = false) ∧
    (violates a = false → violates b = true → cdominatesObj a b ia ib = true) ∧
    (violates a = false → violates b = false → cdominatesObj a b ia ib = dominates a.base b.base ia ib) := by
  refine ⟨?_, ?_, ?_⟩
  · intro ha; simp [cdominatesObj, ha]
  · intro ha hb; simp [cdominatesObj, ha, hb]
  · intro ha hb; simp [cdominatesObj, ha, hb]

end ConstrainedSlice

example : violates (⟨[], some [1]⟩ : CFit Int) = true ∧ violates (⟨[1, 5], some [1]⟩ : CFit Int) = false ∧
    cdominatesObj (⟨[1, 5], none⟩ : CFit Int) ⟨[2, 4], none⟩ [1] [1] = true ∧
    cdominatesObj (⟨[1, 5], none⟩ : CFit Int) ⟨[], some [1]⟩ [1] [] = true := by decide

example : violates (⟨[], some [1, 0]⟩ : CFit Int) = true ∧ violates (⟨[], some [1, -1]⟩ : CFit Int) = false ∧
    violates (⟨[3, -2], none⟩ : CFit Int) = false := by decide
example : dominates (⟨[3, -2]⟩ : Fit Int) ⟨[3, -5]⟩ [0, 1] [0, 1] = true ∧
    dominates (⟨[3, -2]⟩ : Fit Int) ⟨[4, -5]⟩ [0, 1] [0, 1] = false ∧
    dominates (⟨[3, -2]⟩ : Fit Int) ⟨[4, -5]⟩ [1] [1] = true := by decide
example : lt (⟨[1, 2]⟩ : Fit Int) ⟨[1, 2, 0]⟩ = true ∧ lt (⟨[1, 3]⟩ : Fit Int) ⟨[1, 2, 0]⟩ = false := by decide
example : (setValues [1, -1] [3, 4] : Option (Fit Int)) = some ⟨[3, -4]⟩ := by decide

end C01
