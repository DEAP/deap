/-
C06 — Selection operators return exactly k references and respect their ordering.
The model is `DeapModel/Core/Selection.lean`.

Reading of the result type: an operator returns *population indices* (`List Nat`).  "The very
objects of the input, never copies" is `refs_*` (every returned index is `< pop.length`); "leaves
the population unmodified" is structural: every operator is a function of the immutable population,
the parameters and the tape and returns indices (and the unread tape) only.
-/
import DeapModel.Lemmas.C06Lex
import DeapModel.Lemmas.C06Dcd
import DeapModel.Lemmas.C06Double
import DeapModel.Lemmas.C06Hist
import DeapModel.Lemmas.C06Gen   -- translator tie: lemmas of GenEq/C06.lean.tmpl (elaborated per run by the check)
import Mathlib.Data.List.Nodup

namespace C06
open Selection C06L

set_option linter.unusedVariables false in
/-- Operators that read no draw for `k = 0` return `[]` and leave the tape untouched. -/
theorem k0 (pop : Pop) (w : List Rat) (ts fs : Nat) (rule : Rule) (t : Tape) :
    selRandom pop.length 0 t = some ([], t) ∧ selBest pop 0 = [] ∧ selWorst pop 0 = [] ∧
    selTournament pop 0 ts t = some ([], t) ∧ selSUS w pop 0 t = some ([], t) ∧
    selLexicaseWith rule w pop 0 t = some ([], t) := by
  refine ⟨rfl, by simp [selBest], by simp [selWorst], rfl, by simp [selSUS], rfl⟩

/-- Roulette with `k = 0` on evaluated individuals (`sum_fits` is computed before the loop). -/
theorem k0_roulette (pop : Pop) (w : List Rat) (t : Tape) (fs : List Rat) (h : firstVals w pop = some fs) :
    selRoulette w pop 0 t = some ([], t) := by
  simp [selRoulette, h, Selection.repeatM]

/-- Double tournament with `k = 0` for an admissible parsimony size. -/
theorem k0_double (pop : Pop) (fs : Nat) (ps : Rat) (ff : Bool) (t : Tape) (h : 1 ≤ ps ∧ ps ≤ 2) :
    selDoubleTournament pop 0 fs ps ff t = some ([], t) := by
  cases ff <;> simp [selDoubleTournament, h, sizeTournament, fitTournament, Selection.repeatM]

/-- The crowding tournament with `k = 0` still draws its two samples and returns `[]`. -/
theorem k0_dcd (pop : Pop) (t t' : Tape) (res : List Nat) (h : selTournamentDCD pop 0 t = some (res, t')) :
    res = [] := by
  obtain ⟨_, p1, p2, t2, _, _, _, hloop⟩ := selTournamentDCD_some h
  exact List.eq_nil_of_length_eq_zero (dcdLoop_spec hloop).1

-- the hypotheses of `k0_roulette` and `k0_double` can be met; a run with `k = 0` for `k0_dcd`
example : firstVals [1] [⟨[3], 0, 0⟩, ⟨[2], 0, 0⟩] = some [3, 2] := by decide +kernel
example : (1 : Rat) ≤ 7 / 5 ∧ (7 / 5 : Rat) ≤ 2 := by norm_num
example : selTournamentDCD [⟨[1], 0, 0⟩] 0 [Draw.sample [0], Draw.sample [0]] = some ([], []) := by decide

theorem length_best (pop : Pop) (k : Nat) : (selBest pop k).length = min k pop.length := by
  simp [selBest, (sortedDesc_perm _ _).length_eq]

theorem length_worst (pop : Pop) (k : Nat) : (selWorst pop k).length = min k pop.length := by
  simp [selWorst, (sortedAsc_perm _ _).length_eq]

theorem length_random (n k : Nat) (t t' : Tape) (res : List Nat) (h : selRandom n k t = some (res, t')) :
    res.length = k := repeatM_length _ h

theorem length_tournament (pop : Pop) (k ts : Nat) (t t' : Tape) (res : List Nat)
    (h : selTournament pop k ts t = some (res, t')) : res.length = k := repeatM_length _ h

theorem length_double (pop : Pop) (k fs : Nat) (ps : Rat) (ff : Bool) (t t' : Tape) (res : List Nat)
    (h : selDoubleTournament pop k fs ps ff t = some (res, t')) : res.length = k :=
  (selDouble_ok pop fs ps ff k t res t' h).1

theorem length_lexicase (rule : Rule) (w : List Rat) (pop : Pop) (k : Nat) (t t' : Tape) (res : List Nat)
    (h : selLexicaseWith rule w pop k t = some (res, t')) : res.length = k := repeatM_length _ h

example : selRandom 3 2 [Draw.choice 0, Draw.choice 2] = some ([0, 2], []) := by decide

/-- `selRandom` is total on valid tapes: it returns exactly the drawn individuals. -/
theorem random_total (n : Nat) (l : List Nat) (hl : ∀ i ∈ l, i < n) (t : Tape) :
    selRandom n l.length (l.map Draw.choice ++ t) = some (l, t) :=
  selRandom_spec.2 ⟨rfl, rfl, hl⟩

-- the hypothesis of `random_total`
example : ∀ i ∈ [0, 2, 2], i < 3 := by decide
example : selDoubleTournament [⟨[1], 2, 0⟩, ⟨[3], 1, 0⟩] 0 2 1 false [] = some ([], []) := by decide +kernel

theorem refs_best (pop : Pop) (k : Nat) : ∀ i ∈ selBest pop k, i < pop.length :=
  fun i hi => (mem_sortedDesc_range pop _ i).1 (List.mem_of_mem_take hi)

theorem refs_worst (pop : Pop) (k : Nat) : ∀ i ∈ selWorst pop k, i < pop.length :=
  fun _ hi => List.mem_range.1 ((sortedAsc_perm _ _).mem_iff.1 (List.mem_of_mem_take hi))

theorem refs_random (n k : Nat) (t t' : Tape) (res : List Nat) (h : selRandom n k t = some (res, t')) :
    ∀ i ∈ res, i < n := (selRandom_spec.1 h).2.2

theorem refs_tournament (pop : Pop) (k ts : Nat) (t t' : Tape) (res : List Nat)
    (h : selTournament pop k ts t = some (res, t')) : ∀ i ∈ res, i < pop.length :=
  (fitTournament_ok (selRandom_ok _) k t res t' h).2

theorem refs_double (pop : Pop) (k fs : Nat) (ps : Rat) (ff : Bool) (t t' : Tape) (res : List Nat)
    (h : selDoubleTournament pop k fs ps ff t = some (res, t')) : ∀ i ∈ res, i < pop.length :=
  (selDouble_ok pop fs ps ff k t res t' h).2

/-- `selBest` lists distinct individuals in descending fitness order (no element is worse than a
later one), and no omitted individual is better than a kept one. -/
theorem best_sorted (pop : Pop) (k : Nat) :
    (selBest pop k).Nodup ∧
    (selBest pop k).Pairwise (fun i j => fitLt pop i j = false) ∧
    ∀ i, i < pop.length → i ∉ selBest pop k → ∀ j ∈ selBest pop k, fitLt pop j i = false :=
  take_sorted (sortedDesc_perm _ _) (sortedDesc_pairwise pop _) k

/-- Dually for `selWorst`: ascending order, no omitted individual is worse than a kept one. -/
theorem worst_sorted (pop : Pop) (k : Nat) :
    (selWorst pop k).Nodup ∧
    (selWorst pop k).Pairwise (fun i j => fitLt pop j i = false) ∧
    ∀ i, i < pop.length → i ∉ selWorst pop k → ∀ j ∈ selWorst pop k, fitLt pop i j = false :=
  take_sorted (sortedAsc_perm _ _) (sortedAsc_pairwise pop _) k

/-- The model's comparison is the lexicographic order of the weighted-value tuples (C01). -/
theorem fitLt_is_tuple_order (pop : Pop) (i j : Nat) : fitLt pop i j = true ↔ wvAt pop i < wvAt pop j :=
  fitLt_iff pop i j

/-- The tape splits into `k` groups of `tournsize` choices; the `j`-th selected individual is a
member of the `j`-th group and no member of that group has a better fitness. -/
theorem tournament_winner (pop : Pop) (k ts : Nat) (t t' : Tape) (res : List Nat)
    (h : selTournament pop k ts t = some (res, t')) :
    ∃ groups : List (List Nat), t = (groups.flatten.map Draw.choice) ++ t' ∧
      List.Forall₂ (fun w g => g.length = ts ∧ w ∈ g ∧ (∀ a ∈ g, a < pop.length) ∧
        ∀ a ∈ g, fitLt pop w a = false) res groups := by
  obtain ⟨groups, rfl, _, hall⟩ := (selTournament_parses pop k ts _ _ _).1 h
  exact ⟨groups, by simp only [List.map_flatten, List.flatMap_def],
    hall.imp fun _ _ ⟨⟨hl, hlt⟩, hm⟩ => ⟨hl, (pyMax_spec pop hm).1, hlt, (pyMax_spec pop hm).2⟩⟩

example : selTournament [⟨[1], 0, 0⟩, ⟨[3], 0, 0⟩, ⟨[2], 0, 0⟩] 2 2
    [Draw.choice 0, Draw.choice 2, Draw.choice 1, Draw.choice 1] = some ([2, 1], []) := by decide

/-- For `tournsize ≥ 1` every tape of valid choices yields a result (no exception). -/
theorem tournament_total (pop : Pop) (ts : Nat) (hts : 0 < ts) (groups : List (List Nat))
    (hg : ∀ g ∈ groups, g.length = ts ∧ ∀ a ∈ g, a < pop.length) (t : Tape) :
    ∃ res, selTournament pop groups.length ts (groups.flatten.map Draw.choice ++ t) = some (res, t) := by
  rw [List.map_flatten, ← List.flatMap_def]
  exact (fitStep_random_parses pop ts).repeatM_total groups (fun g hg' =>
    let ⟨w, hw⟩ := pyMax_isSome pop ((hg g hg').1 ▸ hts)
    ⟨w, hg g hg', hw⟩) t

-- the hypothesis of `tournament_total`, for the run above
example : ∀ g ∈ [[0, 2], [1, 1]], g.length = 2 ∧ ∀ a ∈ g, a < ([⟨[1], 0, 0⟩, ⟨[3], 0, 0⟩, ⟨[2], 0, 0⟩] : Pop).length := by
  decide

/-- Double tournament, size tournament first: each selected individual is a fitness-best among the
`fitness_size` winners of the size tournaments that fed its fitness tournament. -/
theorem double_winner_size_first (pop : Pop) (k fs : Nat) (ps : Rat) (t t' : Tape) (res : List Nat)
    (h : selDoubleTournament pop k fs ps false t = some (res, t')) :
    ∀ win ∈ res, ∃ asp : List Nat, asp.length = fs ∧ win ∈ asp ∧
      ∀ a ∈ asp, a < pop.length ∧ fitLt pop win a = false := by
  refine repeatM_forall _ _ ?_ (selDouble_some_iff.1 h).2
  intro t1 win t2 hstep
  obtain ⟨asp, h1, h2, h3⟩ := fitTournStep_spec hstep
  obtain ⟨hl, hlt⟩ := sizeTournament_ok (selRandom_ok _) _ _ _ _ h1
  exact ⟨asp, hl, h2, fun a ha => ⟨hlt a ha, h3 a ha⟩⟩

/-- Double tournament, fitness tournament first: each selected individual is the fitness-best of a
group of `fitness_size` sampled individuals (one of the two groups whose winners met in the size
tournament). -/
theorem double_winner_fitness_first (pop : Pop) (k fs : Nat) (ps : Rat) (t t' : Tape) (res : List Nat)
    (h : selDoubleTournament pop k fs ps true t = some (res, t')) :
    ∀ win ∈ res, ∃ g : List Nat, g.length = fs ∧ win ∈ g ∧
      ∀ a ∈ g, a < pop.length ∧ fitLt pop win a = false := by
  refine repeatM_forall _ _ ?_ (selDouble_some_iff.1 h).2
  intro t1 win t2 hstep
  obtain ⟨i1, i2, t3, r, hsel, _, hw⟩ := sizeTournStep_spec hstep
  have hP := repeatM_forall _ (fun i => ∃ g : List Nat, g.length = fs ∧ i ∈ g ∧
      ∀ a ∈ g, a < pop.length ∧ fitLt pop i a = false) ?_ hsel
  · rcases hw with rfl | rfl <;> exact hP _ (by simp)
  · intro t4 x t5 hx
    obtain ⟨asp, h1, h2, h3⟩ := fitTournStep_spec hx
    obtain ⟨_, hl, hlt⟩ := selRandom_spec.1 h1
    exact ⟨asp, hl, h2, fun a ha => ⟨hlt a ha, h3 a ha⟩⟩

/-- Size tournament first: the tape consists, per selected individual, of `fitness_size` triples
(choice, choice, coin); each triple yields its parsimony pick, and the selected individual is
`max(…, key=fitness)` (first maximum) of these picks.  Conversely every such tape yields that result. -/
theorem double_size_first_iff (pop : Pop) (k fs : Nat) (ps : Rat) (t t' : Tape) (res : List Nat) :
    selDoubleTournament pop k fs ps false t = some (res, t') ↔
      (1 ≤ ps ∧ ps ≤ 2) ∧ ∃ trace : List (List (Nat × Nat × Rat)),
        t = trace.flatMap (fun trips => trips.flatMap enc3) ++ t' ∧ trace.length = k ∧
        List.Forall₂ (fun win trips => trips.length = fs ∧ (∀ d ∈ trips, Valid3 pop.length d) ∧
          pyMax (fitGt pop) (trips.map (fun d => parsimonyPick pop ps d.1 d.2.1 d.2.2)) = some win) res trace :=
  selDouble_some_iff.trans <| and_congr_right fun _ =>
    (fitStep_size_parses pop ps fs).repeatM k t res t'

/-- Fitness tournament first: per selected individual the tape holds two groups of `fitness_size`
choices and a coin; the selected individual is the parsimony pick between the two groups' fitness
winners (`max`, first maximum). -/
theorem double_fitness_first_iff (pop : Pop) (k fs : Nat) (ps : Rat) (t t' : Tape) (res : List Nat) :
    selDoubleTournament pop k fs ps true t = some (res, t') ↔
      (1 ≤ ps ∧ ps ≤ 2) ∧ ∃ trace : List (List Nat × List Nat × Rat),
        t = trace.flatMap encF ++ t' ∧ trace.length = k ∧
        List.Forall₂ (fun win d => d.1.length = fs ∧ d.2.1.length = fs ∧
          (∀ a ∈ d.1, a < pop.length) ∧ (∀ a ∈ d.2.1, a < pop.length) ∧ 0 ≤ d.2.2 ∧ d.2.2 < 1 ∧
          ∃ w1 w2, pyMax (fitGt pop) d.1 = some w1 ∧ pyMax (fitGt pop) d.2.1 = some w2 ∧
            win = parsimonyPick pop ps w1 w2 d.2.2) res trace :=
  selDouble_some_iff.trans <| and_congr_right fun _ =>
    (sizeStep_fit_parses pop ps fs).repeatM k t res t'

/-- The parsimony rule itself: the smaller individual wins exactly for `r < parsimony_size/2`,
with equal sizes the first one exactly for `r < 1/2`. -/
theorem parsimony_rule (pop : Pop) (ps : Rat) (i1 i2 : Nat) (r : Rat) :
    (sizeAt pop i1 < sizeAt pop i2 → (parsimonyPick pop ps i1 i2 r = i1 ↔ r < ps / 2) ∧
        (r < ps / 2 → parsimonyPick pop ps i1 i2 r = i1) ∧ (¬ r < ps / 2 → parsimonyPick pop ps i1 i2 r = i2)) ∧
    (sizeAt pop i2 < sizeAt pop i1 →
        (r < ps / 2 → parsimonyPick pop ps i1 i2 r = i2) ∧ (¬ r < ps / 2 → parsimonyPick pop ps i1 i2 r = i1)) ∧
    (sizeAt pop i1 = sizeAt pop i2 →
        (r < 1 / 2 → parsimonyPick pop ps i1 i2 r = i1) ∧ (¬ r < 1 / 2 → parsimonyPick pop ps i1 i2 r = i2)) := by
  unfold parsimonyPick
  refine ⟨fun h => ?_, fun h => ?_, fun h => ?_⟩
  · rw [if_neg h.ne, if_pos h]
    refine ⟨⟨fun he => ?_, fun hr => if_pos hr⟩, fun hr => if_pos hr, fun hr => if_neg hr⟩
    by_contra hr
    rw [if_neg hr] at he
    exact h.ne (congrArg (sizeAt pop) he.symm)
  · rw [if_neg h.ne', if_neg h.asymm]
    exact ⟨fun hr => if_pos hr, fun hr => if_neg hr⟩
  · rw [if_pos h]
    exact ⟨fun hr => if_pos hr, fun hr => if_neg hr⟩

/-- Totality, size tournament first: for an admissible parsimony size, `fitness_size ≥ 1` and any
valid tape the operator returns (no exception). -/
theorem double_total_size_first (pop : Pop) (fs : Nat) (hfs : 0 < fs) (ps : Rat) (hps : 1 ≤ ps ∧ ps ≤ 2)
    (trace : List (List (Nat × Nat × Rat)))
    (hv : ∀ trips ∈ trace, trips.length = fs ∧ ∀ d ∈ trips, Valid3 pop.length d) (t : Tape) :
    ∃ res, selDoubleTournament pop trace.length fs ps false
      (trace.flatMap (fun trips => trips.flatMap enc3) ++ t) = some (res, t) := by
  obtain ⟨res, h⟩ := (fitStep_size_parses pop ps fs).repeatM_total trace (fun trips ht =>
    let ⟨w, hw⟩ := pyMax_isSome pop (l := trips.map fun d => parsimonyPick pop ps d.1 d.2.1 d.2.2)
      (by rw [List.length_map, (hv trips ht).1]; exact hfs)
    ⟨w, (hv trips ht).1, (hv trips ht).2, hw⟩) t
  exact ⟨res, selDouble_some_iff.2 ⟨hps, h⟩⟩

/-- Totality, fitness tournament first. -/
theorem double_total_fitness_first (pop : Pop) (fs : Nat) (hfs : 0 < fs) (ps : Rat) (hps : 1 ≤ ps ∧ ps ≤ 2)
    (trace : List (List Nat × List Nat × Rat))
    (hv : ∀ d ∈ trace, d.1.length = fs ∧ d.2.1.length = fs ∧ (∀ a ∈ d.1, a < pop.length) ∧
      (∀ a ∈ d.2.1, a < pop.length) ∧ 0 ≤ d.2.2 ∧ d.2.2 < 1) (t : Tape) :
    ∃ res, selDoubleTournament pop trace.length fs ps true (trace.flatMap encF ++ t) = some (res, t) := by
  obtain ⟨res, h⟩ := (sizeStep_fit_parses pop ps fs).repeatM_total trace (fun d hd =>
    let ⟨h1, h2, h3, h4, h5, h6⟩ := hv d hd
    let ⟨w1, hw1⟩ := pyMax_isSome pop (h1 ▸ hfs)
    let ⟨w2, hw2⟩ := pyMax_isSome pop (h2 ▸ hfs)
    ⟨_, h1, h2, h3, h4, h5, h6, w1, w2, hw1, hw2, rfl⟩) t
  exact ⟨res, selDouble_some_iff.2 ⟨hps, h⟩⟩

-- the hypotheses of `double_total_size_first` and `double_total_fitness_first`
example : (∀ trips ∈ [[((0 : Nat), (1 : Nat), (1 / 4 : Rat))]], trips.length = 1 ∧ ∀ d ∈ trips, Valid3 2 d) ∧
    (∀ d ∈ [(([0] : List Nat), ([1] : List Nat), (3 / 4 : Rat))], d.1.length = 1 ∧ d.2.1.length = 1 ∧
      (∀ a ∈ d.1, a < 2) ∧ (∀ a ∈ d.2.1, a < 2) ∧ 0 ≤ d.2.2 ∧ d.2.2 < 1) := by
  simp only [Valid3]; decide +kernel

example : selDoubleTournament [⟨[1], 2, 0⟩, ⟨[3], 1, 0⟩, ⟨[2], 1, 0⟩] 1 2 (7 / 5) true
    [Draw.choice 0, Draw.choice 2, Draw.choice 1, Draw.choice 1, Draw.random 0] = some ([2], []) := by decide +kernel

/-! ### Roulette: each individual is picked over its share of the unit interval

`fs` are the first-objective values (`firstVals`), all strictly positive; the wheel is laid out in
the order `o = sorted(individuals, reverse=True)`.  `sumOn fs pre` is the total of the individuals
placed before a given one. -/

/-- `selRoulette` reads `k` draws `r ∈ [0,1)` and returns `k` individuals; for every individual
`j` (at its place `o = pre ++ j :: post` on the wheel) the draw `r` selects `j` **iff**
`r ∈ [c/S, (c + fⱼ)/S)` with `c = sumOn fs pre` — an interval of length `fⱼ/S`. -/
theorem roulette_share (w : List Rat) (pop : Pop) (k : Nat) (t t' : Tape) (res : List Nat) (fs : List Rat)
    (hfs : firstVals w pop = some fs) (hne : pop ≠ []) (hpos : ∀ f ∈ fs, 0 < f)
    (h : selRoulette w pop k t = some (res, t')) :
    ∃ rs : List Rat, t = rs.map Draw.random ++ t' ∧ rs.length = k ∧
      List.Forall₂ (fun r i => 0 ≤ r ∧ r < 1 ∧ i < pop.length ∧
        ∀ j pre post, sortedDesc (fitLt pop) (List.range pop.length) = pre ++ j :: post →
          (i = j ↔ sumOn fs pre / fs.sum ≤ r ∧ r < (sumOn fs pre + fs.getD j 0) / fs.sum)) rs res := by
  obtain ⟨hnd, hpo, hsum, hpy⟩ := wheel_facts hfs hpos
  obtain ⟨rs, rfl, hlen, rfl, hrs⟩ := (selRoulette_parses hfs k _ _ _).1 h
  have hS : 0 < fs.sum := by rw [← hsum]; exact sumOn_pos hpo (sortedDesc_range_ne_nil hne)
  refine ⟨rs, rfl, hlen, forall₂_filterMap rs fun r hr => ?_⟩
  obtain ⟨hr0, hr1⟩ := hrs r hr
  have hu0 : (0 : ℚ) ≤ r * pySum fs := by rw [hpy]; exact mul_nonneg hr0 hS.le
  have hu1 : r * pySum fs < 0 + sumOn fs (sortedDesc (fitLt pop) (List.range pop.length)) := by
    rw [hpy, hsum, zero_add]; exact mul_lt_of_lt_one_left hS hr1
  obtain ⟨i, hi⟩ := spin_isSome fs _ _ 0 hu0 hu1
  refine ⟨i, hi, hr0, hr1, (mem_sortedDesc_range pop _ i).1 (spin_mem hi), fun j pre post ho => ?_⟩
  have key := spin_some_iff fs (r * pySum fs) _ 0 hpo hu0 j
  rw [hi, hpy] at key
  simp only [Option.some.injEq, zero_add] at key
  rw [key, div_le_iff₀ hS, lt_div_iff₀ hS]
  exact decomp_iff hnd ho

-- the hypotheses of `roulette_share`
example : firstVals [1] [⟨[3], 0, 0⟩, ⟨[1], 0, 0⟩] = some [3, 1] ∧ ∀ f ∈ [(3 : Rat), 1], 0 < f := by decide +kernel

/-- Every tape of draws from `[0,1)` yields a result (on evaluated individuals). -/
theorem roulette_total (w : List Rat) (pop : Pop) (fs : List Rat) (hfs : firstVals w pop = some fs)
    (rs : List Rat) (hv : ∀ r ∈ rs, 0 ≤ r ∧ r < 1) (t : Tape) :
    ∃ res, selRoulette w pop rs.length (rs.map Draw.random ++ t) = some (res, t) :=
  ⟨_, (selRoulette_parses hfs _).total ⟨rfl, rfl, hv⟩ t⟩

-- the hypothesis of `roulette_total`
example : ∀ r ∈ [(0 : Rat), 7 / 8], 0 ≤ r ∧ r < 1 := by norm_num

/-- On strictly positive fitnesses every turn of the wheel stops: exactly `k` individuals. -/
theorem length_roulette (w : List Rat) (pop : Pop) (k : Nat) (t t' : Tape) (res : List Nat) (fs : List Rat)
    (hfs : firstVals w pop = some fs) (hne : pop ≠ []) (hpos : ∀ f ∈ fs, 0 < f)
    (h : selRoulette w pop k t = some (res, t')) : res.length = k := by
  obtain ⟨rs, _, hlen, hall⟩ := roulette_share w pop k t t' res fs hfs hne hpos h
  rw [← hall.length_eq]; exact hlen

/-- Whatever the fitness values, roulette returns input individuals only. -/
theorem refs_roulette (w : List Rat) (pop : Pop) (k : Nat) (t t' : Tape) (res : List Nat)
    (h : selRoulette w pop k t = some (res, t')) : ∀ i ∈ res, i < pop.length := by
  cases hfs : firstVals w pop with
  | none => simp [selRoulette, hfs] at h
  | some fs =>
    obtain ⟨rs, _, _, rfl, _⟩ := (selRoulette_parses hfs k _ _ _).1 h
    intro i hi
    obtain ⟨x, hx, hxi⟩ := List.mem_filterMap.1 hi
    obtain ⟨r, _, rfl⟩ := List.mem_map.1 hx
    exact (mem_sortedDesc_range pop _ i).1 (spin_mem hxi)

/-- Universal sampling returns exactly `k` input individuals whenever it returns. -/
theorem length_refs_sus (w : List Rat) (pop : Pop) (k : Nat) (t t' : Tape) (res : List Nat)
    (h : selSUS w pop k t = some (res, t')) : res.length = k ∧ ∀ i ∈ res, i < pop.length := by
  by_cases hk : k = 0
  · subst hk; simp [selSUS] at h; simp [h.1]
  cases hfs : firstVals w pop with
  | none => simp [selSUS, hk, hfs] at h
  | some fs =>
    obtain ⟨r, _, hres⟩ := (selSUS_some_iff hk hfs).1 h
    refine ⟨by rw [List.mapM_length _ _ _ hres]; simp [susPoints], ?_⟩
    intro i hi
    obtain ⟨p, _, hp⟩ := List.mapM_mem _ _ _ hres i hi
    exact (mem_sortedDesc_range pop _ i).1 (susPoint_mem hp)

/-- On strictly positive fitnesses the walk `while sum_ < p` never runs past the end of the
list: for every draw `r ∈ [0,1)` the operator has a result, of length `k`, of input indices. -/
theorem sus_total (w : List Rat) (pop : Pop) (k : Nat) (t : Tape) (fs : List Rat) (r : Rat)
    (hfs : firstVals w pop = some fs) (hne : pop ≠ []) (hpos : ∀ f ∈ fs, 0 < f) (hk0 : 0 < k)
    (hr0 : 0 ≤ r) (hr1 : r < 1) :
    ∃ res, selSUS w pop k (Draw.random r :: t) = some (res, t) ∧ res.length = k ∧
      ∀ i ∈ res, i < pop.length := by
  have hk : k ≠ 0 := Nat.pos_iff_ne_zero.1 hk0
  obtain ⟨hnd, hpo, hsum, hpy⟩ := wheel_facts hfs hpos
  have hone := sortedDesc_range_ne_nil hne
  have hS : 0 < fs.sum := by rw [← hsum]; exact sumOn_pos hpo hone
  obtain ⟨res, hres⟩ := susPoints_mapM_isSome fs _ k r hone hk0 (hsum ▸ hS) hr1
  rw [hsum, ← hpy] at hres
  have hsel := (selSUS_some_iff (t' := t) hk hfs).2 ⟨r, popRandom_some.2 ⟨rfl, hr0, hr1⟩, hres⟩
  exact ⟨res, hsel, length_refs_sus w pop k _ t res hsel⟩

/-- For an interior draw `0 < r < 1` every individual `i` is selected `⌊k·fᵢ/S⌋` or `⌈k·fᵢ/S⌉`
times. -/
theorem sus_counts (w : List Rat) (pop : Pop) (k : Nat) (t t' : Tape) (res : List Nat) (fs : List Rat)
    (r : Rat) (hfs : firstVals w pop = some fs) (hpos : ∀ f ∈ fs, 0 < f) (hk : 0 < k) (hr : 0 < r)
    (h : selSUS w pop k (Draw.random r :: t) = some (res, t')) :
    ∀ i, i < pop.length →
      ((res.count i : ℕ) : ℤ) = ⌊(k : ℚ) * fs.getD i 0 / fs.sum⌋ ∨
      ((res.count i : ℕ) : ℤ) = ⌈(k : ℚ) * fs.getD i 0 / fs.sum⌉ := by
  intro i hi
  obtain ⟨pre, post, ho⟩ := List.append_of_mem ((mem_sortedDesc_range pop _ i).2 hi)
  obtain ⟨_, hr1, a, b, ha0, hb0, hbpos, hab, hcount⟩ := sus_sector hfs hpos hk h ho
  rw [hcount]
  exact pointers_interior k r a _ b (pre = []) (post = []) hr hr1 ha0 hb0 hbpos hab

/-- The boundary draw `r = 0` (F13: `start = 0.0`, a pointer exactly on a wheel boundary goes to the
earlier individual, and pointer 0 goes to the first): the first individual of the sorted order
receives `⌊q⌋ + 1` pointers, the last `⌈q⌉ - 1`, every other one `⌊q⌋` or `⌈q⌉`
(`q = k·fᵢ/S`); a single individual receives all `k`. -/
theorem sus_counts_r0 (w : List Rat) (pop : Pop) (k : Nat) (t t' : Tape) (res : List Nat) (fs : List Rat)
    (hfs : firstVals w pop = some fs) (hpos : ∀ f ∈ fs, 0 < f) (hk : 0 < k)
    (h : selSUS w pop k (Draw.random 0 :: t) = some (res, t')) :
    ∀ i pre post, sortedDesc (fitLt pop) (List.range pop.length) = pre ++ i :: post →
      (pre ≠ [] → post ≠ [] →
        ((res.count i : ℕ) : ℤ) = ⌊(k : ℚ) * fs.getD i 0 / fs.sum⌋ ∨
        ((res.count i : ℕ) : ℤ) = ⌈(k : ℚ) * fs.getD i 0 / fs.sum⌉) ∧
      (pre = [] → post ≠ [] → ((res.count i : ℕ) : ℤ) = ⌊(k : ℚ) * fs.getD i 0 / fs.sum⌋ + 1) ∧
      (pre ≠ [] → post = [] → ((res.count i : ℕ) : ℤ) = ⌈(k : ℚ) * fs.getD i 0 / fs.sum⌉ - 1) ∧
      (pre = [] → post = [] → res.count i = k) := by
  intro i pre post ho
  obtain ⟨_, _, a, b, ha0, hb0, hbpos, hab, hcount⟩ := sus_sector hfs hpos hk h ho
  simp only [sub_zero] at hcount
  obtain ⟨h1, h2, h3, h4⟩ := pointers_boundary k a _ b (pre = []) (post = []) ha0 hb0 hbpos hab _ hcount
  exact ⟨h1, h2, h3, fun hp1 hp2 => by exact_mod_cast h4 hp1 hp2⟩

-- the hypotheses of `sus_counts` (interior draw 1/2: one pointer each) and of `sus_counts_r0` (draw 0: both pointers to the first)
example : firstVals [1] [⟨[2], 0, 0⟩, ⟨[2], 0, 0⟩] = some [2, 2] ∧ (∀ f ∈ [(2 : Rat), 2], 0 < f) ∧
    selSUS [1] [⟨[2], 0, 0⟩, ⟨[2], 0, 0⟩] 2 [Draw.random (1 / 2)] = some ([0, 1], []) := by
  refine ⟨by decide +kernel, by decide +kernel, ?_⟩
  rw [selSUS_some_iff (fs := [2, 2]) (by decide) (by decide +kernel)]
  refine ⟨1 / 2, by decide +kernel, ?_⟩
  rw [show ([⟨[2], 0, 0⟩, ⟨[2], 0, 0⟩] : Pop).length = 2 from rfl, sortedDesc_tie]
  decide +kernel

example : selSUS [1] [⟨[2], 0, 0⟩, ⟨[2], 0, 0⟩] 2 [Draw.random 0] = some ([0, 0], []) := by
  rw [selSUS_some_iff (fs := [2, 2]) (by decide) (by decide +kernel)]
  refine ⟨0, by decide +kernel, ?_⟩
  rw [show ([⟨[2], 0, 0⟩, ⟨[2], 0, 0⟩] : Pop).length = 2 from rfl, sortedDesc_tie]
  decide +kernel

/-- Generic form for the three operators.  Every selected individual `win` is an input individual;
it was chosen with some shuffle `cases` of the fitness cases, and for every individual `x` that is
at least as good as `win` on every case: at every processed case `x` is still a candidate and does
*not* beat `win` by more than the tolerance used at that case; moreover, unless `x` is `win` itself,
no case was skipped. -/
theorem lexicase_tol (rule : Rule) (w : List Rat) (pop : Pop) (k : Nat) (t t' : Tape) (res : List Nat)
    (h : selLexicaseWith rule w pop k t = some (res, t')) :
    ∀ win ∈ res, win < pop.length ∧ ∃ cases : List Nat, cases.Perm (List.range (nCases w pop)) ∧
      ∀ x, x < pop.length → (∀ c, c < nCases w pop → geqOn w (pop.map (values w)) c x win) →
        (∀ p ∈ lexTrace rule w (pop.map (values w)) cases (List.range pop.length),
          x ∈ p.2 ∧ win ∈ p.2 ∧
          ¬ betterBy w (pop.map (values w)) p.1 x win (tolAt rule (pop.map (values w)) p.1 p.2)) ∧
        (x ≠ win → (lexTrace rule w (pop.map (values w)) cases (List.range pop.length)).map Prod.fst = cases) := by
  refine repeatM_forall _ _ ?_ h
  intro t1 win t2 hstep
  obtain ⟨cases, j, _, hperm, hwin⟩ := lexStep_spec hstep
  have hwn : win < pop.length := List.mem_range.1 (lexLoop_sub _ _ _ _ _ win hwin)
  refine ⟨hwn, cases, hperm, ?_⟩
  intro x hx hg
  exact lexTrace_spec hwin (List.mem_range.2 hx)
    (fun c hc => hg c (List.mem_range.1 ((hperm.mem_iff).1 hc)))

theorem length_refs_lexicase (rule : Rule) (w : List Rat) (pop : Pop) (k : Nat) (t t' : Tape) (res : List Nat)
    (h : selLexicaseWith rule w pop k t = some (res, t')) : res.length = k ∧ ∀ i ∈ res, i < pop.length :=
  ⟨repeatM_length _ h, fun i hi => (lexicase_tol rule w pop k t t' res h i hi).1⟩

/-- Plain lexicase: the winner is Pareto non-dominated — an individual that is at least as good on
every case is equal to it on every case (so none is also strictly better somewhere). -/
theorem lexicase_pareto (w : List Rat) (pop : Pop) (k : Nat) (t t' : Tape) (res : List Nat)
    (h : selLexicaseWith Rule.exact w pop k t = some (res, t')) :
    ∀ win ∈ res, ∀ x, x < pop.length →
      (∀ c, c < nCases w pop → geqOn w (pop.map (values w)) c x win) →
      ∀ c, c < nCases w pop → valAt (pop.map (values w)) x c = valAt (pop.map (values w)) win c := by
  intro win hwin x hx hg c hc
  by_cases hne : x = win
  · rw [hne]
  obtain ⟨_, cases, hperm, hspec⟩ := lexicase_tol _ w pop k t t' res h win hwin
  obtain ⟨h1, h2⟩ := hspec x hx hg
  have hcm : c ∈ (lexTrace Rule.exact w (pop.map (values w)) cases (List.range pop.length)).map Prod.fst := by
    rw [h2 hne, hperm.mem_iff]; exact List.mem_range.2 hc
  obtain ⟨p, hp, rfl⟩ := List.mem_map.1 hcm
  exact eq_of_geqOn_of_not_betterBy (hg p.1 hc) (h1 p hp).2.2

/-- ε-lexicase (`ε ≥ 0`): no individual that is at least as good as the winner on every case is
better than it by more than `ε` on any case. -/
theorem epsilon_lexicase_tol (e : Rat) (he : 0 ≤ e) (w : List Rat) (pop : Pop) (k : Nat) (t t' : Tape)
    (res : List Nat) (h : selLexicaseWith (Rule.eps e) w pop k t = some (res, t')) :
    ∀ win ∈ res, ∀ x, x < pop.length →
      (∀ c, c < nCases w pop → geqOn w (pop.map (values w)) c x win) →
      ∀ c, c < nCases w pop → ¬ betterBy w (pop.map (values w)) c x win e := by
  intro win hwin x hx hg c hc
  by_cases hne : x = win
  · rw [hne]; exact not_betterBy_self w _ c win he
  obtain ⟨_, cases, hperm, hspec⟩ := lexicase_tol _ w pop k t t' res h win hwin
  obtain ⟨h1, h2⟩ := hspec x hx hg
  have hcm : c ∈ (lexTrace (Rule.eps e) w (pop.map (values w)) cases (List.range pop.length)).map Prod.fst := by
    rw [h2 hne, hperm.mem_iff]; exact List.mem_range.2 hc
  obtain ⟨p, hp, rfl⟩ := List.mem_map.1 hcm
  exact (h1 p hp).2.2

/-- Automatic-ε lexicase, spelled out: an individual that is at least as good as the winner on every
case is, at every case the loop processed, still a candidate and not better than the winner by more
than the median absolute deviation of the candidates' values on that case; and unless it is the
winner itself every case was processed. -/
theorem auto_lexicase_tol (w : List Rat) (pop : Pop) (k : Nat) (t t' : Tape) (res : List Nat)
    (h : selLexicaseWith Rule.auto w pop k t = some (res, t')) :
    ∀ win ∈ res, ∃ cases : List Nat, cases.Perm (List.range (nCases w pop)) ∧
      ∀ x, x < pop.length → (∀ c, c < nCases w pop → geqOn w (pop.map (values w)) c x win) →
        (∀ p ∈ lexTrace Rule.auto w (pop.map (values w)) cases (List.range pop.length),
          x ∈ p.2 ∧ win ∈ p.2 ∧
          ¬ betterBy w (pop.map (values w)) p.1 x win
            (median ((p.2.map (fun i => valAt (pop.map (values w)) i p.1)).map
              (fun v => absRat (v - median (p.2.map (fun i => valAt (pop.map (values w)) i p.1))))))) ∧
        (x ≠ win → (lexTrace Rule.auto w (pop.map (values w)) cases (List.range pop.length)).map Prod.fst = cases) := by
  intro win hwin
  obtain ⟨_, cases, hperm, hspec⟩ := lexicase_tol Rule.auto w pop k t t' res h win hwin
  exact ⟨cases, hperm, hspec⟩

/-- With a non-negative tolerance (`RuleOK`: `ε ≥ 0`; plain and automatic always) on a non-empty
population of evaluated individuals of one fitness class, the candidate list never becomes empty
and every shuffle of the cases followed by any valid choice yields a selection (no exception). -/
theorem lexicase_step_total (rule : Rule) (hr : RuleOK rule) (w : List Rat) (pop : Pop) (hne : pop ≠ [])
    (hwf : ∀ x ∈ pop, (values w x).length = nCases w pop) (cases : List Nat)
    (hperm : cases.Perm (List.range (nCases w pop))) :
    lexLoop rule w (pop.map (values w)) cases (List.range pop.length) ≠ [] ∧
    ∀ j, j < (lexLoop rule w (pop.map (values w)) cases (List.range pop.length)).length → ∀ t,
      lexStep rule w pop (Draw.shuffle cases :: Draw.choice j :: t) =
        some ((lexLoop rule w (pop.map (values w)) cases (List.range pop.length)).getD j 0, t) := by
  have hrange : List.range pop.length ≠ [] := fun h0 => hne (List.eq_nil_of_length_eq_zero (by simpa using h0))
  exact ⟨lexLoop_ne_nil hr _ _ _ hrange, fun j hj t =>
    (lexStep_parses rule w pop).total (d := (cases, j)) ⟨hne, hwf, hperm, hj, rfl⟩ t⟩

-- the hypotheses of `lexicase_step_total`
example : RuleOK (Rule.eps (1 / 2)) ∧ RuleOK Rule.auto ∧ RuleOK Rule.exact := by
  refine ⟨?_, trivial, trivial⟩; show (0 : ℚ) ≤ 1 / 2; norm_num
example : (∀ x ∈ [(⟨[1, -2], 0, 0⟩ : Ind), ⟨[1, -3], 0, 0⟩], (values [1, -1] x).length = nCases [1, -1] [⟨[1, -2], 0, 0⟩, ⟨[1, -3], 0, 0⟩])
    ∧ [1, 0].Perm (List.range (nCases [1, -1] [⟨[1, -2], 0, 0⟩, ⟨[1, -3], 0, 0⟩])) := by decide +kernel

/-- The tolerance of the automatic variant is the median absolute deviation of the candidates'
values on the case (numpy's median: mean of the two middle elements). -/
theorem tolAt_auto (vals : List (List Rat)) (c : Nat) (cands : List Nat) :
    tolAt Rule.auto vals c cands =
      median ((cands.map (fun i => valAt vals i c)).map
        (fun x => absRat (x - median (cands.map (fun i => valAt vals i c))))) := rfl

example : selLexicaseWith Rule.exact [1, -1] [⟨[1, -2], 0, 0⟩, ⟨[1, -3], 0, 0⟩, ⟨[0, 0], 0, 0⟩] 1
    [Draw.shuffle [0, 1], Draw.choice 0] = some ([0], []) := by decide +kernel

/-- For `k` a multiple of four the tournament returns exactly `k` individuals. -/
theorem length_dcd (pop : Pop) (k : Nat) (t t' : Tape) (res : List Nat) (hk : 4 ∣ k)
    (h : selTournamentDCD pop k t = some (res, t')) : res.length = k := by
  obtain ⟨_, p1, p2, t2, _, _, _, hloop⟩ := selTournamentDCD_some h
  rw [(dcdLoop_spec hloop).1, four_mul_rounds hk]

theorem refs_dcd (pop : Pop) (k : Nat) (t t' : Tape) (res : List Nat)
    (h : selTournamentDCD pop k t = some (res, t')) : ∀ i ∈ res, i < pop.length := by
  obtain ⟨_, p1, p2, t2, _, hp1, hp2, hloop⟩ := selTournamentDCD_some h
  intro i hi
  have h0 : 0 < p1.count i + p2.count i := lt_of_lt_of_le (List.count_pos_iff.2 hi) ((dcdLoop_spec hloop).2 i)
  rcases Nat.add_pos_iff_pos_or_pos.1 h0 with h' | h'
  · exact List.mem_range.1 (hp1.mem_iff.1 (List.count_pos_iff.1 h'))
  · exact List.mem_range.1 (hp2.mem_iff.1 (List.count_pos_iff.1 h'))

/-- No individual (= position of the duplicate-free input list) is selected more than twice. -/
theorem dcd_twice (pop : Pop) (k : Nat) (t t' : Tape) (res : List Nat)
    (h : selTournamentDCD pop k t = some (res, t')) : ∀ i, res.count i ≤ 2 := by
  obtain ⟨_, p1, p2, t2, _, hp1, hp2, hloop⟩ := selTournamentDCD_some h
  intro i
  have h1 : p1.count i ≤ 1 := List.nodup_iff_count_le_one.1 (hp1.nodup_iff.2 List.nodup_range) i
  have h2 : p2.count i ≤ 1 := List.nodup_iff_count_le_one.1 (hp2.nodup_iff.2 List.nodup_range) i
  have := (dcdLoop_spec hloop).2 i
  omega

/-- For `k ≤ n`, `4 ∣ k`, two valid sample draws and a supply of `k` valid coins the tournament
returns (no `IndexError` / `ValueError`). -/
theorem dcd_total (pop : Pop) (k : Nat) (hk : k ≤ pop.length) (h4 : 4 ∣ k) (p1 p2 : List Nat)
    (hp1 : p1.Perm (List.range pop.length)) (hp2 : p2.Perm (List.range pop.length))
    (coins : List Rat) (hc : k ≤ coins.length) (hv : ∀ r ∈ coins, 0 ≤ r ∧ r < 1) (t : Tape) :
    ∃ res t', selTournamentDCD pop k (Draw.sample p1 :: Draw.sample p2 :: (coins.map Draw.random ++ t))
      = some (res, t') := by
  simp only [selTournamentDCD, if_neg (Nat.not_lt.2 hk),
    if_neg fun h : k = pop.length ∧ k % 4 ≠ 0 => h.2 (Nat.mod_eq_zero_of_dvd h4),
    popSample_some.2 ⟨rfl, hp1⟩, popSample_some.2 ⟨rfl, hp2⟩]
  have hl1 := hp1.length_eq
  have hl2 := hp2.length_eq
  rw [List.length_range] at hl1 hl2
  have hr := four_mul_rounds h4
  exact dcdLoop_total pop ((k + 3) / 4) p1 p2 _ (by rw [hr, hl1]; exact hk) (by rw [hr, hl2]; exact hk)
    (Coins.of_map coins t (by rw [hr]; exact hc) hv)

-- the hypotheses of `dcd_total`, for the run below
example : [2, 0, 3, 1].Perm (List.range 4) ∧ (4 : ℕ) ∣ 4 := by decide

example : selTournamentDCD [⟨[1], 0, 0⟩, ⟨[2], 0, 0⟩, ⟨[1], 0, 1⟩, ⟨[0], 0, 0⟩] 4
    [Draw.sample [0, 1, 2, 3], Draw.sample [2, 0, 3, 1]] = some ([1, 2, 2, 1], []) := by
  decide

/-! ### Populations with repeated object references

A population is a list of positions; two positions may hold the very same object (a mating pool made by a
selector with replacement).  Nothing above assumes the entries of `pop` distinct: every theorem is about
positions.  What identity (`is`) can observe of an object is the set `obj` of positions holding it; the two
theorems below state the roulette and universal-sampling clauses for such a set — every position keeps its own
sector of the wheel, and the total is taken over positions, not over distinct objects. -/

/-- Roulette over positions: the draw `r` returns a position of `obj` iff it falls in the sector of one of the
positions of `obj` (each of length `fⱼ/S`, `S` the total over all positions). -/
theorem roulette_shares_positions (w : List Rat) (pop : Pop) (k : Nat) (t t' : Tape) (res : List Nat)
    (fs : List Rat) (hfs : firstVals w pop = some fs) (hne : pop ≠ []) (hpos : ∀ f ∈ fs, 0 < f)
    (h : selRoulette w pop k t = some (res, t')) (obj : List Nat) :
    ∃ rs : List Rat, t = rs.map Draw.random ++ t' ∧ rs.length = k ∧
      List.Forall₂ (fun r i => i < pop.length ∧
        (i ∈ obj ↔ ∃ j ∈ obj, ∃ pre post,
          sortedDesc (fitLt pop) (List.range pop.length) = pre ++ j :: post ∧
          sumOn fs pre / fs.sum ≤ r ∧ r < (sumOn fs pre + fs.getD j 0) / fs.sum)) rs res := by
  obtain ⟨rs, ht, hlen, hall⟩ := roulette_share w pop k t t' res fs hfs hne hpos h
  refine ⟨rs, ht, hlen, hall.imp ?_⟩
  rintro r i ⟨_, _, hi, hiff⟩
  refine ⟨hi, fun hio => ?_, fun ⟨j, hj, pre, post, hpp, hr⟩ => (hiff j pre post hpp).2 hr ▸ hj⟩
  obtain ⟨pre, post, hpp⟩ := List.append_of_mem ((mem_sortedDesc_range pop _ i).2 hi)
  exact ⟨i, hio, pre, post, hpp, (hiff i pre post hpp).1 rfl⟩

/-- A wheel with the same object at positions 0 and 2 (equal entries, fitnesses 1, 2, 1: total 4). -/
example : ([⟨[1], 0, 0⟩, ⟨[2], 0, 0⟩, ⟨[1], 0, 0⟩] : Pop) ≠ [] ∧ (∀ f ∈ [(1 : Rat), 2, 1], 0 < f) := by
  refine ⟨by simp, by norm_num⟩

/-- Universal sampling over positions: the positions `obj` of one object are returned, together, between the
sum of the floors and the sum of the ceilings of `k·fᵢ/S` (each position `⌊·⌋` or `⌈·⌉` times, `sus_counts`);
for a duplicate-free `obj` that sum is the number of returned elements lying in `obj`. -/
theorem sus_counts_positions (w : List Rat) (pop : Pop) (k : Nat) (t t' : Tape) (res : List Nat) (fs : List Rat)
    (r : Rat) (hfs : firstVals w pop = some fs) (hpos : ∀ f ∈ fs, 0 < f) (hk : 0 < k) (hr : 0 < r)
    (h : selSUS w pop k (Draw.random r :: t) = some (res, t')) (obj : List Nat)
    (hobj : ∀ i ∈ obj, i < pop.length) :
    (obj.map (fun i => ⌊(k : ℚ) * fs.getD i 0 / fs.sum⌋)).sum ≤ (obj.map (fun i => ((res.count i : ℕ) : ℤ))).sum ∧
    (obj.map (fun i => ((res.count i : ℕ) : ℤ))).sum ≤ (obj.map (fun i => ⌈(k : ℚ) * fs.getD i 0 / fs.sum⌉)).sum ∧
    (obj.Nodup → (obj.map (fun i => ((res.count i : ℕ) : ℤ))).sum =
      ((res.countP (fun x => decide (x ∈ obj)) : ℕ) : ℤ)) := by
  have hb (i : Nat) (hi : i ∈ obj) : ⌊(k : ℚ) * fs.getD i 0 / fs.sum⌋ ≤ ((res.count i : ℕ) : ℤ) ∧
      ((res.count i : ℕ) : ℤ) ≤ ⌈(k : ℚ) * fs.getD i 0 / fs.sum⌉ := by
    rcases sus_counts w pop k t t' res fs r hfs hpos hk hr h i (hobj i hi) with e | e <;> rw [e]
    exacts [⟨le_rfl, Int.floor_le_ceil _⟩, ⟨Int.floor_le_ceil _, le_rfl⟩]
  refine ⟨sum_map_le_sum_map obj _ _ fun i hi => (hb i hi).1, sum_map_le_sum_map obj _ _ fun i hi => (hb i hi).2,
    fun hnd => ?_⟩
  rw [← sum_count_eq_countP obj res hnd]
  exact sum_map_natCast obj _

-- the hypotheses of `sus_counts_positions` for the object at positions 0 and 2
example : (∀ f ∈ [(1 : Rat), 2, 1], 0 < f) ∧ (∀ i ∈ [0, 2], i < 3) ∧ [0, 2].Nodup := by
  refine ⟨by norm_num, by decide, by decide⟩

/-! ### Sessions: a selector keeps nothing between calls

`Core/SelectionHist.lean`: a session is a list of class statements and selector calls, one tape threaded through
all of them; a call reads the weights its population's class resolves to *now* (MRO lookup) and nothing else of
the world. -/

/-- A call made after any session `hist` gives exactly what the same call gives when it is the first thing ever
done (in the initial world `tbl`), on the tape the session left: earlier selector calls — on the same or on other
populations, classes (base or derived, weights inherited or overridden, in any order of first use), parameters —
and later class statements change neither its result nor the world it leaves. -/
theorem sel_history_independent (tbl : Fitness.ClassTable Rat) (hwf : C01.TableWF tbl) (hist : List Event)
    (cls : Nat) (hc : cls < tbl.length) (pop : Pop) (sel : Sel) (t t1 t' : Tape)
    (tbl1 tbl' : Fitness.ClassTable Rat) (outs1 outs : List (List Nat))
    (hh : runHistory tbl hist t = some (tbl1, outs1, t1)) :
    runHistory tbl (hist ++ [Event.call cls pop sel]) t = some (tbl', outs, t') ↔
      ∃ r, runEvent tbl (Event.call cls pop sel) t1 = some (tbl, some r, t') ∧
        outs = outs1 ++ [r] ∧ tbl' = tbl1 := by
  have htab := runHistory_table tbl hist t t1 tbl1 outs1 hh
  have hlw : Fitness.lookupWeights tbl1 cls = Fitness.lookupWeights tbl cls := by
    rw [htab]; exact C01.lookupWeights_append tbl _ hwf cls hc
  rw [runHistory_append, hh]
  simp only [runHistory, runEvent, hlw]
  rcases Fitness.lookupWeights tbl cls with _ | wts
  · simp
  · dsimp only
    rcases runSel wts pop sel t1 with _ | ⟨r, tx⟩
    · simp
    · simp only [Option.some.injEq, Prod.mk.injEq, true_and]
      constructor
      · rintro ⟨rfl, rfl, rfl⟩; exact ⟨r, ⟨rfl, rfl⟩, rfl, rfl⟩
      · rintro ⟨_, ⟨rfl, rfl⟩, rfl, rfl⟩; exact ⟨rfl, rfl, rfl⟩

/-- The result of a call is a function of the weights of the population's class, the positions of the population
passed now, the parameters and the tape: the only thing read of the world is `lookupWeights`. -/
theorem sel_reads_weights_only (tbl tbl2 : Fitness.ClassTable Rat) (c c2 : Nat) (pop : Pop) (sel : Sel) (t : Tape)
    (hw : Fitness.lookupWeights tbl c = Fitness.lookupWeights tbl2 c2) :
    (runEvent tbl (Event.call c pop sel) t).map (fun x => x.2) =
      (runEvent tbl2 (Event.call c2 pop sel) t).map (fun x => x.2) := by
  simp only [runEvent, hw]
  rcases Fitness.lookupWeights tbl2 c2 with _ | w
  · rfl
  · dsimp only
    rcases runSel w pop sel t with _ | x <;> rfl

/-- A class derived from a maximising class with its own, minimising weights; lexicase on the base class first,
then on the derived class: each call follows the weights of its own class. -/
example : runHistory [] [Event.defclass ⟨some [1, 1], none⟩, Event.defclass ⟨some [-1, -1], some 0⟩,
      Event.call 0 [⟨[1, 0], 0, 0⟩, ⟨[2, 0], 0, 0⟩] (Sel.lex Rule.exact 1),
      Event.call 1 [⟨[-1, 0], 0, 0⟩, ⟨[-2, 0], 0, 0⟩] (Sel.lex Rule.exact 1)]
    [Draw.shuffle [0, 1], Draw.choice 0, Draw.shuffle [0, 1], Draw.choice 0]
    = some ([⟨some [1, 1], none⟩, ⟨some [-1, -1], some 0⟩], [[1], [0]], []) := by decide +kernel

-- the hypotheses of `sel_history_independent` for the table of the session above
example : C01.TableWF ([⟨some [1, 1], none⟩, ⟨some [-1, -1], some 0⟩] : Fitness.ClassTable Rat) ∧
    (1 : Nat) < ([⟨some [1, 1], none⟩, ⟨some [-1, -1], some 0⟩] : Fitness.ClassTable Rat).length :=
  ⟨C01.tableWF_of_lt _ (by decide), by decide⟩

end C06
