/-
C11 — GP trees stay well-formed, well-typed and within limits under all operators.
Property theorems, with the fixtures of their `example`s; model `DeapModel/Core/GpTree.lean`, with `Core/GpSemantic.lean` for
the semantic operators and `Core/GpPset.lean` for the primitive-set declarations; helper lemmas `DeapModel/Lemmas/C11*.lean`.

Reading guide.  `flatten t` is the prefix-order node list of a tree (what `PrimitiveTree` stores).
`WellFormed sub σ l` says: `l` is the prefix form of a tree that is well typed for a slot of type `σ`
(every argument has a type accepted — `issubclass` = `sub` — by its parent; with the trivial `sub`
this is just "complete prefix expression").  All operator theorems quantify over every tape.
The hypotheses' vocabulary is defined where it is first needed: `PsetOK`, `PsetFull`, `nodes` in `Lemmas/C11Gen`, `Benign` in
`C11Tape`, `subTrue`, `aritySum` in `C11Span`, `SemOK`, `SemArity` in `C11Semantic`, `NoTouch`, `Plain` in `C11Pset`.
-/
import DeapModel.Lemmas.C11Run
import DeapModel.Lemmas.C11Ex
import DeapModel.Lemmas.C11Hist
import DeapModel.Lemmas.C11Semantic
import DeapModel.Lemmas.C11Pset

namespace C11
open GpTree

def WellFormed (sub : Nat → Nat → Bool) (σ : Nat) (l : List Prim) : Prop :=
  ∃ t, wt sub σ t = true ∧ flatten t = l

/-- the executable typed stack machine decides `WellFormed` -/
theorem wellFormed_iff_typed {sub σ l} : WellFormed sub σ l ↔ typed sub [σ] l = true :=
  typed_iff_tree.symm

/-- A node list is `flatten t` for a unique well-formed tree `t` iff the running arity count
(`closes`: starts at 1, must stay positive, must end at 0) accepts it. -/
theorem complete_iff (l : List Prim) :
    complete l = true ↔ ∃ t, (wf t = true ∧ flatten t = l) ∧ ∀ t', wf t' = true ∧ flatten t' = l → t' = t := by
  rw [complete_iff_tree]
  exact exists_tree_iff_unique (fun _ h => h) l

/-- … and the count is literally the prefix sum `1 + Σ (arity − 1)`: positive before every node,
zero at the end. -/
theorem complete_iff_count (l : List Prim) :
    complete l = true ↔
      (∀ k, k < l.length → 0 < 1 + aritySum (l.take k)) ∧ 1 + aritySum l = 0 := by
  simpa [complete] using closes_iff_sums l 1

/-- typed version: accepted by the typed stack machine ⇔ prefix form of a unique well-typed tree -/
theorem typed_iff (sub : Nat → Nat → Bool) (σ : Nat) (l : List Prim) :
    typed sub [σ] l = true ↔ ∃ t, (wt sub σ t = true ∧ flatten t = l) ∧ ∀ t', wt sub σ t' = true ∧ flatten t' = l → t' = t := by
  rw [typed_iff_tree]
  exact exists_tree_iff_unique (fun _ => wf_of_wt) l

/-- (non-negative index) `searchSubtree` on the prefix form of `t` at index `i` returns exactly the span
`[i, i + size s)` of the subtree `s` rooted at the `i`-th node, and that slice is `flatten s`. -/
theorem searchSubtree_span_nat (t s : Tree) (i : Nat) (hw : wf t = true) (hs : subAt t i = some s) :
    searchSubtree (flatten t) i = some (i, i + s.size) ∧
    getSlice (flatten t) i (i + s.size) = flatten s := by
  obtain ⟨pre, post, e, hl⟩ := subAt_decomp t i s hs
  rw [e, ← hl]
  refine ⟨searchSubtree_at pre post s (subAt_wf t i s hw hs), ?_⟩
  have := getSlice_at pre post (flatten s)
  rwa [flatten_length] at this

/-- **The method at any Python index.**  For an index `i` that Python's list indexing maps to the node at position
`j` (`j = i` for `0 ≤ i < len`, `j = i + len` for `-len ≤ i < 0` — `searchSubtree_index` shows these are exactly the
indices of nodes), `PrimitiveTree.searchSubtree(i)` returns exactly the span `[j, j + size s)` of the subtree `s`
rooted at that node, and that slice is `flatten s`. -/
theorem searchSubtree_span (t s : Tree) (i : Int) (j : Nat) (hw : wf t = true)
    (hj : (j : Int) = pyIndex t.size i) (hs : subAt t j = some s) :
    searchSubtreePy (flatten t) i = some ((j : Int), (j : Int) + (s.size : Int)) ∧
    getSlice (flatten t) j (j + s.size) = flatten s := by
  obtain ⟨h1, h2⟩ := searchSubtree_span_nat t s j hw hs
  refine ⟨?_, h2⟩
  rw [searchSubtreePy_nat (flatten t) i j (by rw [flatten_length]; exact hj.symm), h1]
  simp

/-- the last node through the index `-1`: a leaf, span `[len-1, len)` -/
example : searchSubtreePy [pAdd, pOne, pOne] (-1) = some (2, 3) ∧ searchSubtreePy [pAdd, pOne, pOne] (-3) = some (0, 3) :=
  ⟨by decide, by decide⟩

/-- every index `-len ≤ i < len` is the index of a node, which is the root of a subtree (so `searchSubtree_span`
applies at every index Python accepts for the list) -/
theorem searchSubtree_index (t : Tree) (i : Int) (hlo : -(t.size : Int) ≤ i) (hhi : i < (t.size : Int)) :
    ∃ (j : Nat) (s : Tree), (j : Int) = pyIndex t.size i ∧ subAt t j = some s := by
  obtain ⟨j, hj, hlt⟩ := pyIndex_range t.size i hlo hhi
  obtain ⟨s, hs⟩ := subAt_exists t j hlt
  exact ⟨j, s, hj, hs⟩

/-- every index of the list is the root of a subtree (so `searchSubtree_span` applies everywhere) -/
theorem searchSubtree_total (t : Tree) (i : Nat) (hi : i < (flatten t).length) : ∃ s, subAt t i = some s :=
  subAt_exists t i (by rwa [flatten_length] at hi)

example : ∃ t s, wf t = true ∧ subAt t 1 = some s ∧ s.size = 2 :=
  ⟨.node ⟨"f", 0, [0, 0], .prim, ""⟩ [.node ⟨"g", 0, [0], .prim, ""⟩ [.node ⟨"x", 0, [], .term, "x"⟩ []],
      .node ⟨"y", 0, [], .term, "y"⟩ []], _, by decide, rfl, by decide⟩

/-- the depth-stack algorithm of `PrimitiveTree.height` computes the height of the tree … -/
theorem height_eq (t : Tree) (hw : wf t = true) : heightL (flatten t) = some t.height :=
  heightL_flatten hw

example : wf (.node ⟨"g", 0, [0], .prim, ""⟩ [.node ⟨"x", 0, [], .term, "x"⟩ []]) = true := by decide

/-- … and `Tree.height` is the depth of the deepest node: no leaf is deeper, one leaf is that deep
(every node lies on a path to a leaf). -/
theorem height_deepest (t : Tree) :
    (∀ x ∈ leafDepths 0 t, x ≤ t.height) ∧ ∃ x ∈ leafDepths 0 t, x = t.height := by
  refine ⟨fun x hx => by simpa using leafDepths_le t 0 x hx, ?_⟩
  obtain ⟨x, hx, e⟩ := exists_deepest t 0
  exact ⟨x, hx, by simpa using e⟩

/-- Replacing the span of the subtree rooted at `i` by `flatten u`, where `u` is well typed for the
return type of the node it replaces, passes the `__setitem__` guard and yields the prefix form of a
tree that is again well typed for the original slot. -/
theorem splice_welltyped {sub : Nat → Nat → Bool}
    (refl : ∀ a, sub a a = true) (trans : ∀ a b c, sub a b = true → sub b c = true → sub a c = true)
    (σ : Nat) (t s u : Tree) (i : Nat)
    (ht : wt sub σ t = true) (hs : subAt t i = some s) (hu : wt sub s.root.ret u = true) :
    ∃ t', setSlice (flatten t) i (i + s.size) (flatten u) = some (flatten t') ∧ wt sub σ t' = true ∧
      t'.size + s.size = t.size + u.size := by
  have hty : typed sub [σ] (flatten t) = true := typed_iff_tree.2 ⟨t, ht, rfl⟩
  obtain ⟨pre, post, e, hl⟩ := subAt_decomp t i s hs
  have hp : (flatten t)[i]? = some s.root := by rw [e, ← hl, getElem?_at]
  obtain ⟨e', hsr, _, _, _, _, hset⟩ := splice trans refl hty hp
  have hspan := (searchSubtree_span_nat t s i (wf_of_wt ht) hs).1
  rw [hspan] at hsr; simp at hsr; subst hsr
  obtain ⟨h1, h2⟩ := hset (flatten u) (typed_iff_tree.2 ⟨u, hu, rfl⟩)
  obtain ⟨t', hw', hf'⟩ := typed_iff_tree.1 h2
  refine ⟨t', by rw [h1, hf'], hw', ?_⟩
  have hlen := congrArg List.length hf'
  have hlt := congrArg List.length e
  simp [flatten_length] at hlen hlt
  omega

example : wt subTrue 0 (.node ⟨"x", 0, [], .term, "x"⟩ []) = true := by decide

/-- untyped version: splicing the prefix form of any well-formed tree gives a complete expression -/
theorem splice_complete (t s u : Tree) (i : Nat)
    (ht : wf t = true) (hs : subAt t i = some s) (hu : wf u = true) :
    ∃ t', setSlice (flatten t) i (i + s.size) (flatten u) = some (flatten t') ∧ wf t' = true := by
  obtain ⟨t', h1, h2, _⟩ := splice_welltyped (sub := subTrue) (fun _ => rfl) (fun _ _ _ _ _ => rfl) 0 t s u i
    (by rwa [wt_true_eq_wf]) hs (by rwa [wt_true_eq_wf])
  exact ⟨t', h1, by rwa [wt_true_eq_wf] at h2⟩

/-- `genFull`: whenever it returns, the result is the prefix form of a tree that is well typed for
the requested type, all of whose leaves are at one depth `h` with `min ≤ h ≤ max`, and `h` is its
height. -/
theorem gen_full (ps : Pset) (ok : PsetOK ps) (mn mx τ : Nat) (tp tp' : Tape) (out : List Prim)
    (hg : genFull ps mn mx τ tp = .ok (out, tp')) :
    ∃ t, flatten t = out ∧ wt ps.sub τ t = true ∧
      ∃ h, mn ≤ h ∧ h ≤ mx ∧ (∀ x ∈ leafDepths 0 t, x = h) ∧ t.height = h := by
  obtain ⟨h, h1, h2, H⟩ := generate_ok ok hg
  obtain ⟨t, hf, hw, hP⟩ := H (fun d t => ∀ y ∈ leafDepths d t, y = h)
    (by intro d tp tp' term hc y hy
        simp [condition] at hc
        simp [leafDepths] at hy; omega)
    (by intro d tp tp' p c cs _ hcs y hy
        rw [leafDepths, mem_leafDepthsF] at hy
        obtain ⟨z, hz, hy⟩ := hy
        exact hcs z hz y hy)
  obtain ⟨y, hy, e⟩ := exists_deepest t 0
  exact ⟨t, hf, hw, h, h1, h2, hP, by have := hP y hy; omega⟩

example : genFull exPs 1 1 1 [.randint 1 1 1, .choice 3 0, .choice 3 2, .randint 0 9 4, .choice 3 1] =
    .ok ([pAdd, { pEph with text := "4" }, pTrue], []) := by rfl

/-- `genGrow`: whenever it returns, the result is the prefix form of a tree that is well typed for
the requested type, no leaf is shallower than `min`, and the height lies in `[min, max]`. -/
theorem gen_grow (ps : Pset) (ok : PsetOK ps) (mn mx τ : Nat) (tp tp' : Tape) (out : List Prim)
    (hg : genGrow ps mn mx τ tp = .ok (out, tp')) :
    ∃ t, flatten t = out ∧ wt ps.sub τ t = true ∧
      (∀ x ∈ leafDepths 0 t, mn ≤ x) ∧ mn ≤ t.height ∧ t.height ≤ mx := by
  obtain ⟨h, h1, h2, H⟩ := generate_ok ok hg
  obtain ⟨t, hf, hw, hP⟩ := H (fun d t => d ≤ h → ∀ y ∈ leafDepths d t, mn ≤ y ∧ y ≤ h)
    (by intro d tp tp' term hc hd y hy
        simp [leafDepths] at hy; subst hy
        refine ⟨?_, hd⟩
        simp only [condition] at hc
        split at hc
        · rename_i he; simp at he; omega
        · split at hc
          · assumption
          · simp at hc)
    (by intro d tp tp' p c cs hc hcs hd y hy
        have hne : d ≠ h := by intro he; simp [condition, he] at hc
        rw [leafDepths, mem_leafDepthsF] at hy
        obtain ⟨z, hz, hy⟩ := hy
        exact hcs z hz (by omega) y hy)
  have hP := hP (Nat.zero_le _)
  obtain ⟨y, hy, e⟩ := exists_deepest t 0
  have := hP y hy
  exact ⟨t, hf, hw, fun z hz => (hP z hz).1, by omega, by omega⟩

example : genGrow exPs 0 0 1 [.randint 0 0 0, .choice 3 1] = .ok ([pTrue], []) := by rfl

/-- `genHalfAndHalf` returns what `genGrow` or `genFull` returns, so its trees satisfy the grow
guarantees (which the full guarantees imply). -/
theorem gen_half (ps : Pset) (ok : PsetOK ps) (mn mx τ : Nat) (tp tp' : Tape) (out : List Prim)
    (hg : genHalfAndHalf ps mn mx τ tp = .ok (out, tp')) :
    ∃ t, flatten t = out ∧ wt ps.sub τ t = true ∧
      (∀ x ∈ leafDepths 0 t, mn ≤ x) ∧ mn ≤ t.height ∧ t.height ≤ mx := by
  unfold genHalfAndHalf at hg
  split at hg
  · simp at hg
  · rename_i m tp1 _
    cases m with
    | grow => exact gen_grow ps ok mn mx τ tp1 tp' out hg
    | full =>
      obtain ⟨t, hf, hw, h, h1, h2, h3, h4⟩ := gen_full ps ok mn mx τ tp1 tp' out hg
      exact ⟨t, hf, hw, fun x hx => by rw [h3 x hx]; exact h1, by omega, by omega⟩

example : genHalfAndHalf exPs 1 1 2 [.choice 2 1, .randint 1 1 1, .choice 2 1, .choice 1 0, .choice 1 0] =
    .ok ([pAnd, pTrue, pTrue], []) := by rfl

/-- `genRamped` (the deprecated name of `genHalfAndHalf`) gives the same guarantees -/
theorem gen_ramped (ps : Pset) (ok : PsetOK ps) (mn mx τ : Nat) (tp tp' : Tape) (out : List Prim)
    (hg : genRamped ps mn mx τ tp = .ok (out, tp')) :
    ∃ t, flatten t = out ∧ wt ps.sub τ t = true ∧
      (∀ x ∈ leafDepths 0 t, mn ≤ x) ∧ mn ≤ t.height ∧ t.height ≤ mx :=
  gen_half ps ok mn mx τ tp tp' out hg

example : genRamped exPs 1 1 2 [.choice 2 1, .randint 1 1 1, .choice 2 1, .choice 1 0, .choice 1 0] =
    .ok ([pAnd, pTrue, pTrue], []) := by rfl

section Ops
variable {sub : Nat → Nat → Bool}
  (refl : ∀ a, sub a a = true) (trans : ∀ a b c, sub a b = true → sub b c = true → sub a c = true)
include refl trans

/-- `cxOnePoint` maps two well-formed well-typed trees to two such trees (each for its own root
slot) and conserves the total node count — for every primitive set, loosely or strongly typed,
whatever the root returns (it always matches return types). -/
theorem cx_closed {r1 r2 : Nat} {ind1 ind2 o1 o2 : List Prim} {tp tp' : Tape}
    (h1 : WellFormed sub r1 ind1) (h2 : WellFormed sub r2 ind2)
    (h : cxOnePoint ind1 ind2 tp = .ok (o1, o2, tp')) :
    WellFormed sub r1 o1 ∧ WellFormed sub r2 o2 ∧ o1.length + o2.length = ind1.length + ind2.length := by
  simp only [wellFormed_iff_typed] at h1 h2 ⊢
  exact (cxOnePoint_run refl trans tp h1 h2).2 _ h

omit refl trans in
example : WellFormed exSub 1 [pAdd, pOne, pOne] ∧ WellFormed exSub 1 [pAdd, pTrue, pAdd, pOne, pOne] ∧
    cxOnePoint [pAdd, pOne, pOne] [pAdd, pTrue, pAdd, pOne, pOne] [.choice 1 0, .choice 2 0, .choice 3 0] =
      .ok ([pAdd, pAdd, pOne, pOne, pOne], [pAdd, pTrue, pOne], []) :=
  ⟨(wellFormed_iff_typed.2 ex_ty3), (wellFormed_iff_typed.2 ex_ty5), by rfl⟩

/-- `cxOnePointLeafBiased`: same guarantees, for every `termpb` (it always matches return types). -/
theorem cxlb_closed {r1 r2 : Nat} {ind1 ind2 o1 o2 : List Prim} {termpb : Float} {tp tp' : Tape}
    (h1 : WellFormed sub r1 ind1) (h2 : WellFormed sub r2 ind2)
    (h : cxOnePointLeafBiased ind1 ind2 termpb tp = .ok (o1, o2, tp')) :
    WellFormed sub r1 o1 ∧ WellFormed sub r2 o2 ∧ o1.length + o2.length = ind1.length + ind2.length := by
  simp only [wellFormed_iff_typed] at h1 h2 ⊢
  exact (cxOnePointLeafBiased_run refl trans termpb tp h1 h2).2 _ h

omit refl trans in
example : ∃ o, cxOnePointLeafBiased [pAdd, pOne, pOne] [pOne] 0.5 [] = .ok o := ⟨_, rfl⟩

omit refl trans in
/-- the swap path: whenever both `random()` draws fall below `termpb` (terminal crossover points), the
leaves `ind1[1]` and `ind2[4]` of the common type are exchanged -/
example (x1 x2 termpb : Float) (h1 : decide (x1 < termpb) = true) (h2 : decide (x2 < termpb) = true) :
    cxOnePointLeafBiased [pAdd, pOne, pEph] [pAdd, pTrue, pAdd, pOne, pEph] termpb
      [.rnd x1, .rnd x2, .choice 1 0, .choice 2 0, .choice 2 1] =
    .ok ([pAdd, pEph, pEph], [pAdd, pTrue, pAdd, pOne, pOne], []) := by
  simp only [cxOnePointLeafBiased, popRnd, h1, h2]
  rfl

/-- `mutUniform` with ANY replacement generator that returns well-formed trees of the requested
type (`gen_full`, `gen_grow`, `gen_half` show the three DEAP generators qualify). -/
theorem mutUniform_closed {r : Nat} {ind out : List Prim} {tp tp' : Tape}
    {expr : Nat → Tape → R (List Prim × Tape)}
    (hexpr : ∀ τ tp o tp', expr τ tp = .ok (o, tp') → WellFormed sub τ o)
    (h1 : WellFormed sub r ind) (h : mutUniform ind expr tp = .ok (out, tp')) :
    WellFormed sub r out := by
  simp only [wellFormed_iff_typed] at hexpr h1 ⊢
  exact (mutUniform_run (B := 0) refl trans tp hexpr h1).2 _ h

omit refl trans in
example : (∀ τ tp o tp', genFull exPs 0 0 τ tp = .ok (o, tp') → WellFormed exSub τ o) ∧
    mutUniform [pAdd, pOne, pOne] (genFull exPs 0 0) [.randrange 0 3 2, .randint 0 0 0, .choice 3 1] =
      .ok ([pAdd, pOne, pTrue], []) :=
  ⟨fun τ tp o tp' h => wellFormed_iff_typed.2 (generate_typed exPs_ok h), by rfl⟩

/-- `mutNodeReplacement`: well-formedness and typing are kept, and the tree keeps its shape
(same node count). -/
theorem nodeRepl_closed {ps : Pset} (ok : PsetOK ps) (hsub : ps.sub = sub)
    {r : Nat} {ind out : List Prim} {tp tp' : Tape}
    (h1 : WellFormed sub r ind) (h : mutNodeReplacement ind ps tp = .ok (out, tp')) :
    WellFormed sub r out ∧ out.length = ind.length := by
  subst hsub
  simp only [wellFormed_iff_typed] at h1 ⊢
  exact ((mutNodeReplacement_run ok ind tp).2 _ h).imp_left fun hty => hty r h1

omit refl trans in
example : mutNodeReplacement [pAdd, pOne, pOne] exPs [.randrange 1 3 1, .choice 3 1] = .ok ([pAdd, pTrue, pOne], []) := by rfl

omit refl trans in
/-- `mutEphemeral` (both modes): typing and shape are kept. -/
theorem ephemeral_closed {r : Nat} {ind out : List Prim} {one : Bool} {tp tp' : Tape}
    (h1 : WellFormed sub r ind) (h : mutEphemeral ind one tp = .ok (out, tp')) :
    WellFormed sub r out ∧ out.length = ind.length := by
  simp only [wellFormed_iff_typed] at h1 ⊢
  exact ((mutEphemeral_run ind one tp).2 _ h).imp_left fun hty => hty h1

omit refl trans in
example : mutEphemeral [pAdd, pEph, pOne] true [.choice 1 0, .randint 0 9 3] =
    .ok ([pAdd, { pEph with text := "3" }, pOne], []) := by rfl

/-- `mutInsert`: closed, and never shrinks the tree. -/
theorem insert_closed {ps : Pset} (ok : PsetOK ps) (hsub : ps.sub = sub)
    {r : Nat} {ind out : List Prim} {tp tp' : Tape}
    (h1 : WellFormed sub r ind) (h : mutInsert ind ps tp = .ok (out, tp')) :
    WellFormed sub r out ∧ ind.length ≤ out.length := by
  subst hsub
  simp only [wellFormed_iff_typed] at h1 ⊢
  exact (mutInsert_run (A := 0) ok tp h1).2 _ h

omit refl trans in
example : mutInsert [pAdd, pOne, pOne] exPs [.randrange 0 3 1, .choice 2 0, .choice 2 1, .choice 3 1] =
    .ok ([pAdd, pAdd, pTrue, pOne, pOne], []) := by rfl

omit refl trans in
/-- `mutShrink`: closed, and never grows the tree. -/
theorem shrink_closed
    (refl : ∀ a, sub a a = true) (trans : ∀ a b c, sub a b = true → sub b c = true → sub a c = true)
    {r : Nat} {ind out : List Prim} {tp tp' : Tape}
    (h1 : WellFormed sub r ind) (h : mutShrink ind tp = .ok (out, tp')) :
    WellFormed sub r out ∧ out.length ≤ ind.length := by
  simp only [wellFormed_iff_typed] at h1 ⊢
  exact (mutShrink_run trans tp h1).2 _ h

omit refl trans in
example : mutShrink [pAdd, pAdd, pOne, pTrue, pOne] [.choice 1 0, .choice 2 1] = .ok ([pAdd, pTrue, pOne], []) := by rfl

end Ops

/-- An operator wrapped by `staticLimit` never returns a tree exceeding the limit when its inputs
respected it (for any `key` — `len`, `height` —, any wrapped operator and however many of the trees are passed
positionally: every child is measured, also those whose parent came by keyword). -/
theorem staticLimit_sound (key : List Prim → Option Nat) (maxv : Nat) (npos : Nat)
    (op : List (List Prim) → Tape → R (List (List Prim) × Tape))
    (args outs : List (List Prim)) (tp tp' : Tape)
    (hin : ∀ a ∈ args, ∃ k, key a = some k ∧ k ≤ maxv)
    (h : staticLimit key maxv npos op args tp = .ok (outs, tp')) :
    ∀ o ∈ outs, ∃ k, key o = some k ∧ k ≤ maxv := by
  obtain ⟨new, tp1, _, h⟩ := staticLimit_ok h
  intro o ho
  rcases ((staticLimitLoop_run new tp1).2 _ h).2.1 o ho with h' | ⟨_, h'⟩
  · exact hin o (List.mem_of_mem_take (List.mem_of_mem_take h'))
  · exact h'

example : (∀ a ∈ [[pAdd, pOne, pOne]], ∃ k, (fun l : List Prim => some l.length) a = some k ∧ k ≤ 3) ∧
    staticLimit (fun l => some l.length) 3 1
      (fun args tp => match args with
        | [x] => (match mutInsert x exPs tp with | .ok (r, tp) => .ok ([r], tp) | .error e => .error e)
        | _ => .error .raised)
      [[pAdd, pOne, pOne]] [.randrange 0 3 1, .choice 2 0, .choice 2 1, .choice 3 1, .choice 1 0] =
      .ok ([[pAdd, pOne, pOne]], []) :=
  ⟨by simp, by rfl⟩

/-- … and every returned tree is either one the operator returned or a copy of an argument, so the
wrapper preserves whatever the operator preserves (well-formedness, typing). -/
theorem staticLimit_closed (Q : List Prim → Prop) (key : List Prim → Option Nat) (maxv : Nat) (npos : Nat)
    (op : List (List Prim) → Tape → R (List (List Prim) × Tape))
    (args outs : List (List Prim)) (tp tp' : Tape)
    (hin : ∀ a ∈ args, Q a)
    (hop : ∀ new tp1, op args tp = .ok (new, tp1) → ∀ n ∈ new, Q n)
    (h : staticLimit key maxv npos op args tp = .ok (outs, tp')) :
    (∀ o ∈ outs, Q o) ∧ ∀ new tp1, op args tp = .ok (new, tp1) → outs.length = new.length := by
  obtain ⟨new, tp1, hop1, h⟩ := staticLimit_ok h
  obtain ⟨hl, hm, _⟩ := (staticLimitLoop_run new tp1).2 _ h
  refine ⟨?_, ?_⟩
  · intro o ho
    rcases hm o ho with h' | ⟨h', _⟩
    · exact hin o (List.mem_of_mem_take (List.mem_of_mem_take h'))
    · exact hop new tp1 hop1 o h'
  · intro new' tp1' e; rw [hop1] at e; simp at e; rw [← e.1]; exact hl

/-- `staticLimit_closed` instantiated: `mutInsert` under a size limit keeps trees well formed and well typed -/
example (tp tp' : Tape) (outs : List (List Prim))
    (h : staticLimit (fun l => some l.length) 3 1
      (fun args tp => match args with
        | [x] => (match mutInsert x exPs tp with | .ok (r, tp) => .ok ([r], tp) | .error e => .error e)
        | _ => .error .raised) [[pAdd, pOne, pOne]] tp = .ok (outs, tp')) :
    ∀ o ∈ outs, WellFormed exSub 1 o :=
  (staticLimit_closed (WellFormed exSub 1) _ 3 1 _ _ outs tp tp'
    (by intro a ha; simp at ha; subst ha; exact wellFormed_iff_typed.2 ex_ty3)
    (by intro new tp1 hop n hn
        simp only at hop
        split at hop
        · rename_i r tp2 hins
          obtain ⟨rfl, _⟩ := hop
          simp at hn; subst hn
          exact (insert_closed exSub_refl exSub_trans exPs_ok rfl (wellFormed_iff_typed.2 ex_ty3) hins).1
        · simp at hop)
    h).1

/-! ## Totality

A run of the model ends in `.ok result` or in a `Fault`: `raised` (the Python code raises:
IndexError of `random.choice([])`, of an index past the end, ValueError of the `__setitem__` guard /
of an empty `randrange`), `fuel` (a modelled loop hit its iteration bound), `tapeEnd` (the tape is
exhausted) or `mismatch` (the next draw does not answer the call the code makes — an ill-typed tape).
`Benign n tape r` says: `r` is a result, or the tape is ill-typed, or the tape is shorter than `n`;
in particular the code never raises and the loop bound is never hit.  `GpTree.total_of_benign` turns it
into "every well-typed tape of length ≥ n yields a result". -/

/-- `generate` (hence `genFull`, `genGrow`) terminates and raises no IndexError: for a primitive set
in which every requestable type has a terminal and a primitive (`PsetFull`, arities ≤ `A`), for every
`min ≤ max`, it returns on every well-typed tape of length ≥ `3·(1 + A + … + A^max) + 1`
(one `randint`, then at most `random()`, `choice`, and an ephemeral draw per node). -/
theorem gen_total (ps : Pset) (Rq : Nat → Prop) (A : Nat) (full : PsetFull ps Rq A) (mode : GenMode)
    (mn mx τ : Nat) (hmm : mn ≤ mx) (hτ : Rq τ) (tp : Tape) :
    Benign (3 * nodes A mx + 1) tp (generate mode ps mn mx τ tp) :=
  (generate_run tp).1 ⟨full, hmm, hτ⟩

/-- the bound for `exPs` (A = 2), `max = 1`: 3·(1 + 2) + 1 = 10 draws always suffice -/
example : 3 * nodes 2 1 + 1 = 10 := by decide

/-- a concrete instance: a well-typed tape of 10 draws makes `genFull exPs 1 1` return (the run uses 5) -/
example : ∃ x, genFull exPs 1 1 1 [.randint 1 1 1, .choice 3 0, .choice 3 2, .randint 0 9 4, .choice 3 1,
    .choice 1 0, .choice 1 0, .choice 1 0, .choice 1 0, .choice 1 0] = .ok x :=
  total_of_benign (gen_total exPs _ 2 exPs_full .full 1 1 1 (by omega) (Or.inl rfl) _) (by decide)
    (by rw [show genFull exPs 1 1 1 [.randint 1 1 1, .choice 3 0, .choice 3 2, .randint 0 9 4, .choice 3 1,
          .choice 1 0, .choice 1 0, .choice 1 0, .choice 1 0, .choice 1 0] =
          .ok ([pAdd, { pEph with text := "4" }, pTrue], [.choice 1 0, .choice 1 0, .choice 1 0, .choice 1 0, .choice 1 0]) from rfl]
        simp)

/-- `genHalfAndHalf`: one more draw (the `choice` between grow and full) -/
theorem gen_half_total (ps : Pset) (Rq : Nat → Prop) (A : Nat) (full : PsetFull ps Rq A)
    (mn mx τ : Nat) (hmm : mn ≤ mx) (hτ : Rq τ) (tp : Tape) :
    Benign (3 * nodes A mx + 2) tp (genHalfAndHalf ps mn mx τ tp) := by
  unfold genHalfAndHalf
  cases hch : popChoice [GenMode.grow, GenMode.full] tp with
  | error e => exact (popChoice_err (by simp) hch).benign (by omega)
  | ok v =>
    obtain ⟨m, tp1⟩ := v
    exact (gen_total ps Rq A full m mn mx τ hmm hτ tp1).shift (k := 1) (Nat.le_of_eq (popChoice_ok hch).2) (by omega)

section TotalOps
variable {sub : Nat → Nat → Bool}
  (refl : ∀ a, sub a a = true) (trans : ∀ a b c, sub a b = true → sub b c = true → sub a c = true)
include refl trans

/-- `cxOnePoint` on two well-formed trees never raises: it returns on every well-typed tape of
length ≥ 3 (`choice` of the type, `choice` of each index). -/
theorem cx_total {r1 r2 : Nat} {ind1 ind2 : List Prim} (tp : Tape)
    (h1 : WellFormed sub r1 ind1) (h2 : WellFormed sub r2 ind2) :
    Benign 3 tp (cxOnePoint ind1 ind2 tp) :=
  (cxOnePoint_run refl trans tp (wellFormed_iff_typed.1 h1) (wellFormed_iff_typed.1 h2)).1 trivial

/-- `cxOnePointLeafBiased`: never raises; tapes of length ≥ 5 suffice (two `random()`, three `choice`). -/
theorem cxlb_total {r1 r2 : Nat} {ind1 ind2 : List Prim} (termpb : Float) (tp : Tape)
    (h1 : WellFormed sub r1 ind1) (h2 : WellFormed sub r2 ind2) :
    Benign 5 tp (cxOnePointLeafBiased ind1 ind2 termpb tp) :=
  (cxOnePointLeafBiased_run refl trans termpb tp (wellFormed_iff_typed.1 h1) (wellFormed_iff_typed.1 h2)).1 trivial

/-- `mutUniform` with a replacement generator that is total with bound `B` and returns well-formed
trees of the requested type: never raises; tapes of length ≥ `B + 1` suffice. -/
theorem mutUniform_total {r : Nat} {ind : List Prim} (tp : Tape) {B : Nat}
    {expr : Nat → Tape → R (List Prim × Tape)}
    (hexpr : ∀ τ tp o tp', expr τ tp = .ok (o, tp') → WellFormed sub τ o)
    (htot : ∀ p ∈ ind, ∀ tp, Benign B tp (expr p.ret tp))
    (h1 : WellFormed sub r ind) : Benign (B + 1) tp (mutUniform ind expr tp) := by
  simp only [wellFormed_iff_typed] at hexpr h1
  exact (mutUniform_run refl trans tp hexpr h1).1 htot

omit refl trans in
/-- … in particular with DEAP's own generators as replacement generator (`expr = genFull/genGrow(min, max)`),
when the return type of every node of the tree can be requested. -/
theorem mutUniform_gen_total {ps : Pset} (ok : PsetOK ps) {Rq : Nat → Prop} {A : Nat} (full : PsetFull ps Rq A)
    (mode : GenMode) (mn mx : Nat) (hmm : mn ≤ mx) {r : Nat} {ind : List Prim} (tp : Tape)
    (hind : ∀ p ∈ ind, Rq p.ret) (h1 : WellFormed ps.sub r ind) :
    Benign (3 * nodes A mx + 2) tp (mutUniform ind (generate mode ps mn mx) tp) := by
  refine mutUniform_total ok.refl ok.trans tp ?_ (fun p hp tp => gen_total ps Rq A full mode mn mx p.ret hmm (hind p hp) tp) h1
  exact fun τ tp o tp' h => wellFormed_iff_typed.2 (generate_typed ok h)

omit refl trans in
/-- `mutNodeReplacement`: never raises when the tree's nodes come from the primitive set (a terminal
node's type has terminals; a primitive node has a same-signature primitive in its type's pool —
itself); tapes of length ≥ 3 suffice. -/
theorem nodeRepl_total {ps : Pset} (ok : PsetOK ps) {ind : List Prim} (tp : Tape)
    (hfrom : ∀ p ∈ ind, (p.arity = 0 → ps.terms p.ret ≠ []) ∧
      (p.arity ≠ 0 → ∃ q ∈ ps.prims p.ret, q.args = p.args)) :
    Benign 3 tp (mutNodeReplacement ind ps tp) :=
  (mutNodeReplacement_run ok ind tp).1 hfrom

omit refl trans in
/-- `mutEphemeral` never raises; tapes of length ≥ `len(individual) + 2` suffice (one `choice`
in mode "one", one generator draw per ephemeral). -/
theorem ephemeral_total {ind : List Prim} (one : Bool) (tp : Tape) :
    Benign (ind.length + 2) tp (mutEphemeral ind one tp) :=
  (mutEphemeral_run (sub := subTrue) (ss := []) ind one tp).1 trivial

/-- `mutInsert`: never raises when every argument type of the set's primitives has a terminal and
arities are ≤ `A`; tapes of length ≥ `2·A + 4` suffice. -/
theorem insert_total {ps : Pset} (ok : PsetOK ps) (hsub : ps.sub = sub) {A : Nat}
    (hterms : ∀ τ p, p ∈ ps.prims τ → p.args.length ≤ A ∧ ∀ a ∈ p.args, ps.terms a ≠ [])
    {r : Nat} {ind : List Prim} (tp : Tape) (h1 : WellFormed sub r ind) :
    Benign (2 * A + 4) tp (mutInsert ind ps tp) := by
  subst hsub
  exact (mutInsert_run ok tp (wellFormed_iff_typed.1 h1)).1 hterms

omit refl trans in
/-- `mutShrink` on a well-formed tree never raises; tapes of length ≥ 2 suffice. -/
theorem shrink_total
    (refl : ∀ a, sub a a = true) (trans : ∀ a b c, sub a b = true → sub b c = true → sub a c = true)
    {r : Nat} {ind : List Prim} (tp : Tape) (h1 : WellFormed sub r ind) :
    Benign 2 tp (mutShrink ind tp) :=
  (mutShrink_run trans tp (wellFormed_iff_typed.1 h1)).1 trivial

end TotalOps

example (tp : Tape) : Benign (3 * nodes 2 1 + 2) tp (genHalfAndHalf exPs 1 1 2 tp) :=
  gen_half_total exPs _ 2 exPs_full 1 1 2 (by omega) (Or.inr rfl) tp

example (tp : Tape) : Benign 5 tp (cxOnePointLeafBiased [pAdd, pOne, pOne] [pAdd, pTrue, pAdd, pOne, pOne] 0.5 tp) :=
  cxlb_total exSub_refl exSub_trans 0.5 tp (wellFormed_iff_typed.2 ex_ty3) (wellFormed_iff_typed.2 ex_ty5)

example (tp : Tape) : Benign (3 * nodes 2 2 + 2) tp (mutUniform [pAdd, pOne, pOne] (generate .grow exPs 0 2) tp) :=
  mutUniform_gen_total exPs_ok exPs_full .grow 0 2 (by omega) tp
    (by intro p hp; simp at hp; rcases hp with rfl | rfl <;> decide) (wellFormed_iff_typed.2 ex_ty3)

example (tp : Tape) : Benign 3 tp (mutNodeReplacement [pAdd, pOne, pOne] exPs tp) :=
  nodeRepl_total exPs_ok tp (by
    intro p hp; simp at hp
    rcases hp with rfl | rfl
    · exact ⟨by decide, fun _ => ⟨pAdd, by simp [exPs, pAdd], rfl⟩⟩
    · exact ⟨fun _ => by simp [exPs, pOne], by decide⟩)

example (tp : Tape) : Benign 5 tp (mutEphemeral [pAdd, pEph, pOne] false tp) := ephemeral_total false tp

example (tp : Tape) : Benign (2 * 2 + 4) tp (mutInsert [pAdd, pOne, pOne] exPs tp) :=
  insert_total exSub_refl exSub_trans exPs_ok rfl (A := 2)
    (by intro τ p hp
        by_cases h : τ = 1 ∨ τ = 2
        · exact (exPs_full.closed τ h p hp).imp_right fun hr a ha => exPs_full.terms_ne a (hr a ha)
        · rw [not_or] at h; simp [exPs, h.1, h.2] at hp)
    tp (wellFormed_iff_typed.2 ex_ty3)

example (tp : Tape) : Benign 2 tp (mutShrink [pAdd, pAdd, pOne, pTrue, pOne] tp) :=
  shrink_total exSub_refl exSub_trans tp (r := 1) (wellFormed_iff_typed.2 (by decide))

example : Benign 3 [.choice 1 0, .choice 2 0, .choice 3 0]
    (cxOnePoint [pAdd, pOne, pOne] [pAdd, pTrue, pAdd, pOne, pOne] [.choice 1 0, .choice 2 0, .choice 3 0]) :=
  cx_total exSub_refl exSub_trans _ (wellFormed_iff_typed.2 ex_ty3) (wellFormed_iff_typed.2 ex_ty5)

/-- **The wrapper returns whenever the wrapped operator does.**  If the operator returned `new` (leaving the tape
`tp1`), every returned tree can be measured by `key` (`len` always, `height` on a complete expression) and — when
there is a child at all — at least one tree was passed positionally (the pool of kept parents is not empty), then the
wrapper never raises: it returns on every well-typed rest tape holding one `choice` per child; and whenever it returns
it returns exactly as many trees as the operator and has drawn at most one `choice` per child. -/
theorem staticLimit_total (key : List Prim → Option Nat) (maxv npos : Nat)
    (op : List (List Prim) → Tape → R (List (List Prim) × Tape))
    (args new : List (List Prim)) (tp tp1 : Tape)
    (hop : op args tp = .ok (new, tp1))
    (hkey : ∀ n ∈ new, ∃ k, key n = some k)
    (hpool : new ≠ [] → 0 < npos ∧ args ≠ []) :
    Benign new.length tp1 (staticLimit key maxv npos op args tp) ∧
    ∀ outs tp', staticLimit key maxv npos op args tp = .ok (outs, tp') →
      outs.length = new.length ∧ tp'.length ≤ tp1.length ∧ tp1.length ≤ tp'.length + new.length := by
  rw [staticLimit_of_ok hop]
  have hkeep : new ≠ [] → (args.take npos).take new.length ≠ [] := by
    intro hn
    obtain ⟨h1, h2⟩ := hpool hn
    cases args with
    | nil => exact absurd rfl h2
    | cons a as =>
      cases new with
      | nil => exact absurd rfl hn
      | cons n ns =>
        cases npos with
        | zero => omega
        | succ k => simp
  have hr := staticLimitLoop_run (key := key) (maxv := maxv) (keep := (args.take npos).take new.length) new tp1
  exact ⟨hr.1 ⟨hkeep, hkey⟩, fun outs tp' h => ⟨(hr.2 _ h).1, (hr.2 _ h).2.2⟩⟩

/-- … and a fault of the operator is the wrapper's fault (it adds none of its own before the operator ran) -/
theorem staticLimit_fault (key : List Prim → Option Nat) (maxv npos : Nat)
    (op : List (List Prim) → Tape → R (List (List Prim) × Tape)) (args : List (List Prim)) (tp : Tape) (e : Fault)
    (hop : op args tp = .error e) : staticLimit key maxv npos op args tp = .error e := by
  unfold staticLimit; rw [hop]

/-- instance: `mutInsert` under a size limit 3 on a 3-node tree; the child has 5 nodes, one `choice` is drawn -/
example : ∃ new tp1,
    (fun (args : List (List Prim)) tp => match args with
        | [x] => lift1 (mutInsert x exPs tp)
        | _ => .error .raised) [[pAdd, pOne, pOne]]
      [.randrange 0 3 1, .choice 2 0, .choice 2 1, .choice 3 1, .choice 1 0] = .ok (new, tp1) ∧
    (∀ n ∈ new, ∃ k, (fun l : List Prim => some l.length) n = some k) ∧ (new ≠ [] → 0 < 1 ∧ [[pAdd, pOne, pOne]] ≠ []) :=
  ⟨[[pAdd, pAdd, pTrue, pOne, pOne]], [.choice 1 0], by rfl, by simp, by simp⟩

/-! ## Histories

`runHistory ps steps pop tape`: a finite sequence of the modelled operators (each bare or wrapped by `staticLimit`)
applied to the tree objects of a population, results written back to the objects they came from, one tape threaded
through.  Positions are object identities: two positions are two distinct objects. -/

/-- **One operator, one step.**  Every modelled operator (both crossovers, the five mutations, `mutUniform` with any of
the three DEAP generators as replacement generator) maps well-formed well-typed trees for the slot `σ` to as many such
trees. -/
theorem op_closed {ps : Pset} (ok : PsetOK ps) (σ : Nat) (op : Op) (args outs : List (List Prim)) (tp tp' : Tape)
    (hargs : ∀ a ∈ args, WellFormed ps.sub σ a)
    (h : applyOp ps op args tp = .ok (outs, tp')) :
    outs.length = args.length ∧ ∀ o ∈ outs, WellFormed ps.sub σ o := by
  unfold applyOp at h
  split at h
  · rename_i i j x y
    exact lift2_all h fun o1 o2 hr =>
      have H := cx_closed ok.refl ok.trans (hargs x (by simp)) (hargs y (by simp)) hr
      ⟨H.1, H.2.1⟩
  · rename_i i j pb x y
    exact lift2_all h fun o1 o2 hr =>
      have H := cxlb_closed ok.refl ok.trans (hargs x (by simp)) (hargs y (by simp)) hr
      ⟨H.1, H.2.1⟩
  · rename_i i m mn mx x
    exact lift1_all h fun o hr => mutUniform_closed ok.refl ok.trans
      (fun τ tp o tp' hg => wellFormed_iff_typed.2 (runGen_typed ok hg)) (hargs x (by simp)) hr
  · rename_i i x
    exact lift1_all h fun o hr => (nodeRepl_closed ok.refl ok.trans ok rfl (hargs x (by simp)) hr).1
  · rename_i i one x
    exact lift1_all h fun o hr => (ephemeral_closed (hargs x (by simp)) hr).1
  · rename_i i x
    exact lift1_all h fun o hr => (insert_closed ok.refl ok.trans ok rfl (hargs x (by simp)) hr).1
  · rename_i i x
    exact lift1_all h fun o hr => (shrink_closed ok.refl ok.trans (hargs x (by simp)) hr).1
  · cases h

example : (∀ a ∈ [[pAdd, pOne, pOne], [pAdd, pTrue, pAdd, pOne, pOne]], WellFormed exPs.sub 1 a) ∧
    applyOp exPs (.cx 0 1) [[pAdd, pOne, pOne], [pAdd, pTrue, pAdd, pOne, pOne]] [.choice 1 0, .choice 2 0, .choice 3 0] =
      .ok ([[pAdd, pAdd, pOne, pOne, pOne], [pAdd, pTrue, pOne]], []) :=
  ⟨by intro a ha; simp at ha; rcases ha with rfl | rfl
      · exact wellFormed_iff_typed.2 ex_ty3
      · exact wellFormed_iff_typed.2 ex_ty5, by rfl⟩

/-- `staticLimit_total` instantiated for the modelled operators and DEAP's two usual keys: around any modelled
operator applied to well-formed well-typed trees, with at least one tree passed positionally, the wrapper with
`key = height` (and likewise `len`, which is always defined) never raises: `height` is defined on everything the
operator returns (`op_closed`, `height_eq`). -/
theorem staticLimit_height_total {ps : Pset} (ok : PsetOK ps) (σ : Nat) (op : Op) (maxv npos : Nat)
    (args new : List (List Prim)) (tp tp1 : Tape)
    (hargs : ∀ a ∈ args, WellFormed ps.sub σ a) (hne : args ≠ []) (hnp : 0 < npos)
    (hop : applyOp ps op args tp = .ok (new, tp1)) :
    Benign new.length tp1 (staticLimit heightL maxv npos (applyOp ps op) args tp) ∧
    Benign new.length tp1 (staticLimit (fun l => some l.length) maxv npos (applyOp ps op) args tp) := by
  have hwf := (op_closed ok σ op args new tp tp1 hargs hop).2
  refine ⟨(staticLimit_total heightL maxv npos _ args new tp tp1 hop ?_ (fun _ => ⟨hnp, hne⟩)).1,
    (staticLimit_total _ maxv npos _ args new tp tp1 hop (fun n _ => ⟨n.length, rfl⟩) (fun _ => ⟨hnp, hne⟩)).1⟩
  intro n hn
  obtain ⟨t, hw, rfl⟩ := hwf n hn
  exact ⟨t.height, height_eq t (wf_of_wt hw)⟩

example : (∀ a ∈ [[pAdd, pOne, pOne]], WellFormed exPs.sub 1 a) ∧ [[pAdd, pOne, pOne]] ≠ [] ∧
    applyOp exPs (.muti 0) [[pAdd, pOne, pOne]] [.randrange 0 3 1, .choice 2 0, .choice 2 1, .choice 3 1, .choice 1 0] =
      .ok ([[pAdd, pAdd, pTrue, pOne, pOne]], [.choice 1 0]) :=
  ⟨by intro a ha; simp at ha; subst ha; exact wellFormed_iff_typed.2 ex_ty3, by simp, by rfl⟩

/-- **Closure along every history.**  Any finite sequence of the modelled operators — each bare or wrapped by
`staticLimit` with any key, limit and number of positional trees — applied to a population of well-formed well-typed
trees (distinct objects, one root slot `σ` as in a population) yields a population of as many well-formed well-typed
trees, whatever the tape: induction over the operator list. -/
theorem ops_closed_history {ps : Pset} (ok : PsetOK ps) (σ : Nat) (steps : List Step)
    (pop pop' : List (List Prim)) (tp tp' : Tape)
    (hpop : ∀ t ∈ pop, WellFormed ps.sub σ t)
    (h : runHistory ps steps pop tp = .ok (pop', tp')) :
    pop'.length = pop.length ∧ ∀ t ∈ pop', WellFormed ps.sub σ t := by
  refine runHistory_inv (WellFormed ps.sub σ) steps pop pop' tp tp' hpop ?_ h
  intro s _ pop tp pop' tp' hpop hs
  refine stepState_inv (WellFormed ps.sub σ) hpop ?_ hs
  intro args outs tp1 hmem hr
  have hargs : ∀ a ∈ args, WellFormed ps.sub σ a := fun a ha => hpop a (hmem a ha)
  split at hr
  · exact (op_closed ok σ s.op args outs tp tp1 hargs hr).2
  · rename_i L _
    exact (staticLimit_closed (WellFormed ps.sub σ) L.key L.maxv L.npos (applyOp ps s.op) args outs tp tp1 hargs
      (fun new tp2 hop => (op_closed ok σ s.op args new tp tp2 hargs hop).2) hr).1

/-- a two-step history on the fixture set: a crossover, then `mutShrink` of the first child under a size limit -/
example : (∀ t ∈ [[pAdd, pOne, pOne], [pAdd, pTrue, pAdd, pOne, pOne]], WellFormed exPs.sub 1 t) ∧
    runHistory exPs [⟨.cx 0 1, none⟩, ⟨.muts 0, some ⟨fun l => some l.length, 5, 1⟩⟩]
      [[pAdd, pOne, pOne], [pAdd, pTrue, pAdd, pOne, pOne]]
      [.choice 1 0, .choice 2 0, .choice 3 0, .choice 1 0, .choice 2 1] =
      .ok ([[pAdd, pOne, pOne], [pAdd, pTrue, pOne]], []) :=
  ⟨by intro a ha; simp at ha; rcases ha with rfl | rfl
      · exact wellFormed_iff_typed.2 ex_ty3
      · exact wellFormed_iff_typed.2 ex_ty5, by rfl⟩

/-- **The static limit is an invariant of the whole history.**  If every operator of the history is wrapped by
`staticLimit(key, maxv)` (any operators, any positions, any number of positional trees) and every tree of the
initial population respects the limit, every tree of every later population does — for ANY primitive set and ANY
trees (no well-formedness needed: the wrapper measures what it returns). -/
theorem ops_limit_history (ps : Pset) (key : List Prim → Option Nat) (maxv : Nat) (steps : List Step)
    (pop pop' : List (List Prim)) (tp tp' : Tape)
    (hall : ∀ s ∈ steps, ∃ np, s.lim = some ⟨key, maxv, np⟩)
    (hpop : ∀ t ∈ pop, ∃ k, key t = some k ∧ k ≤ maxv)
    (h : runHistory ps steps pop tp = .ok (pop', tp')) :
    pop'.length = pop.length ∧ ∀ t ∈ pop', ∃ k, key t = some k ∧ k ≤ maxv := by
  refine runHistory_inv (fun t => ∃ k, key t = some k ∧ k ≤ maxv) steps pop pop' tp tp' hpop ?_ h
  intro s hs pop tp pop' tp' hpop hst
  obtain ⟨np, hl⟩ := hall s hs
  refine stepState_inv (fun t => ∃ k, key t = some k ∧ k ≤ maxv) hpop ?_ hst
  intro args outs tp1 hmem hr
  rw [hl] at hr
  exact staticLimit_sound key maxv np (applyOp ps s.op) args outs tp tp1 (fun a ha => hpop a (hmem a ha)) hr

/-- the hypotheses on the two-step history above with both steps limited to 5 nodes -/
example : (∀ s ∈ [(⟨.cx 0 1, some ⟨fun l => some l.length, 5, 2⟩⟩ : Step), ⟨.muts 0, some ⟨fun l => some l.length, 5, 1⟩⟩],
      ∃ np, s.lim = some ⟨fun l => some l.length, 5, np⟩) ∧
    (∀ t ∈ [[pAdd, pOne, pOne], [pAdd, pTrue, pAdd, pOne, pOne]], ∃ k, (fun l : List Prim => some l.length) t = some k ∧ k ≤ 5) :=
  ⟨by intro s hs; simp at hs; rcases hs with rfl | rfl
      · exact ⟨2, rfl⟩
      · exact ⟨1, rfl⟩,
   by intro t ht; simp at ht; rcases ht with rfl | rfl <;> simp⟩

/-! ## Geometric semantic operators (`mutSemantic`, `cxSemantic`)

Both operators work IN PLACE (`new_ind = individual; new_ind.insert(0, …)`): the returned trees are the parent
objects, like every DEAP variation operator (`algorithms.varAnd` clones before it calls them).  The node OBJECTS of
the parents, of the random trees (twice, `extend(tr)` is called two times per child) and — for `cxSemantic` — of the
first child are shared between the returned lists; nodes are never mutated in place by any operator (`mutEphemeral`
replaces the list element), and `PrimitiveTree.__deepcopy__` shares them as well, so no clause of C02 / C11 is touched
(observation).  At list level sharing is invisible: the model returns values. -/

/-- **`mutSemantic` is closed.**  Over a GSGP signature (`SemOK`: `add`, `mul`, `sub` binary and `lf` unary over the
type `ρ`, which also accepts the `object`-typed constant `ms`), a parent and random trees that are well-formed trees for
a `ρ` slot give a well-formed tree for a `ρ` slot — whatever `ms` is and for every tape. -/
theorem semantic_mut_closed {sub : Nat → Nat → Bool} {mapping : String → Option Prim} {reprF : Float → String} {ρ : Nat}
    {ind out : List Prim} {gen : Tape → R (List Prim × Tape)} {ms : Option Float} {tp tp' : Tape}
    (hok : ∀ pc, semPieces mapping = some pc → SemOK sub pc ρ)
    (hind : WellFormed sub ρ ind)
    (hgen : ∀ tp o tp', gen tp = .ok (o, tp') → WellFormed sub ρ o)
    (h : mutSemantic mapping reprF ind gen ms tp = .ok (out, tp')) :
    WellFormed sub ρ out := by
  obtain ⟨pc, tr1, tp1, tr2, tp2, v, hpc, h1, h2, _, rfl⟩ := mutSemantic_ok h
  obtain ⟨ti, hti, rfl⟩ := hind
  obtain ⟨t1, ht1, rfl⟩ := hgen _ _ _ h1
  obtain ⟨t2, ht2, rfl⟩ := hgen _ _ _ h2
  exact ⟨_, semMutTree_wt (hok pc hpc) _ hti ht1 ht2, (semMutList_flatten _ _ _ _ _).symm⟩

theorem gs_ok : ∀ pc, semPieces gsMapping = some pc → SemOK subTrue pc 0 := by
  intro pc h
  cases gs_pieces h
  constructor <;> rfl

example : (∀ pc, semPieces gsMapping = some pc → SemOK subTrue pc 0) ∧ WellFormed subTrue 0 [gsX] ∧
    (∀ tp o tp', gsGen tp = .ok (o, tp') → WellFormed subTrue 0 o) ∧
    (mutSemantic gsMapping (fun _ => "0.5") [gsX] gsGen (some 0.5) []).toOption.map (fun r => r.1.map (·.name)) =
      some ["add", "ARG0", "mul", "0.5", "sub", "lf", "ARG0", "lf", "ARG0"] := by
  refine ⟨gs_ok, ⟨.node gsX [], by decide, rfl⟩, ?_, by decide⟩
  intro tp o tp' h
  obtain ⟨rfl, _⟩ := h
  exact ⟨.node gsX [], by decide, rfl⟩

/-- arities only: with `lf` unary and `add`, `mul`, `sub` binary (whatever the types), complete prefix expressions
give a complete prefix expression -/
theorem semantic_mut_complete {mapping : String → Option Prim} {reprF : Float → String}
    {ind out : List Prim} {gen : Tape → R (List Prim × Tape)} {ms : Option Float} {tp tp' : Tape}
    (hok : ∀ pc, semPieces mapping = some pc → SemArity pc)
    (hind : complete ind = true)
    (hgen : ∀ tp o tp', gen tp = .ok (o, tp') → complete o = true)
    (h : mutSemantic mapping reprF ind gen ms tp = .ok (out, tp')) :
    complete out = true := by
  obtain ⟨pc, tr1, tp1, tr2, tp2, v, hpc, h1, h2, _, rfl⟩ := mutSemantic_ok h
  obtain ⟨ti, hti, rfl⟩ := complete_iff_tree.1 hind
  obtain ⟨t1, ht1, rfl⟩ := complete_iff_tree.1 (hgen _ _ _ h1)
  obtain ⟨t2, ht2, rfl⟩ := complete_iff_tree.1 (hgen _ _ _ h2)
  exact complete_iff_tree.2 ⟨_, semMutTree_wf (hok pc hpc) _ hti ht1 ht2, (semMutList_flatten _ _ _ _ _).symm⟩

example : (∀ pc, semPieces gsMapping = some pc → SemArity pc) ∧ complete [gsX] = true := by
  refine ⟨?_, by decide⟩
  intro pc h
  cases gs_pieces h
  constructor <;> rfl

/-- **Size of a semantic mutant.**  The two random trees are the results of two consecutive calls of the generator;
the child has exactly `len(parent) + len(tr1) + len(tr2) + 6` nodes (root `add`, `mul`, the constant, `sub`, two `lf`),
the parent's nodes sit unchanged behind the new root, and the mutation step is the given `ms` or, when none is given,
`0 + (2 - 0) · x` for the next `random()` draw `x` — the tape is otherwise consumed by the generator only. -/
theorem semantic_mut_size {mapping : String → Option Prim} {reprF : Float → String}
    {ind out : List Prim} {gen : Tape → R (List Prim × Tape)} {ms : Option Float} {tp tp' : Tape}
    (h : mutSemantic mapping reprF ind gen ms tp = .ok (out, tp')) :
    ∃ tr1 tp1 tr2 tp2, gen tp = .ok (tr1, tp1) ∧ gen tp1 = .ok (tr2, tp2) ∧
      out.length = ind.length + tr1.length + tr2.length + 6 ∧
      (out.drop 1).take ind.length = ind ∧
      ((∃ v, ms = some v ∧ tp' = tp2) ∨ (ms = none ∧ ∃ x, tp2 = .rnd x :: tp')) := by
  obtain ⟨pc, tr1, tp1, tr2, tp2, v, hpc, h1, h2, hms, rfl⟩ := mutSemantic_ok h
  refine ⟨tr1, tp1, tr2, tp2, h1, h2, semMutList_length _ _ _ _ _, semMutList_parent _ _ _ _ _, ?_⟩
  rcases hms with ⟨hv, ht⟩ | ⟨hn, hu⟩
  · exact Or.inl ⟨v, hv, ht⟩
  · refine Or.inr ⟨hn, ?_⟩
    unfold popUniform popRnd at hu
    split at hu
    · cases hu
    · rename_i x tp3 hx
      split at hx
      · cases hx
      · rename_i y tpy
        injection hx with hx; injection hx with _ e2
        injection hu with hu; injection hu with _ e4
        exact ⟨y, by rw [← e4, ← e2]⟩
      · cases hx

example : ∃ out tp', mutSemantic gsMapping (fun _ => "m") [gsX] gsGen none [.rnd 0.25] = .ok (out, tp') ∧
    out.length = 9 := ⟨_, _, rfl, rfl⟩

/-- **`cxSemantic` is closed** (both children), under the same hypotheses.  The second child is assembled after
the first parent object was changed in place, so its last argument is the first CHILD (see `semantic_cx_size`). -/
theorem semantic_cx_closed {sub : Nat → Nat → Bool} {mapping : String → Option Prim} {reprF : Float → String} {ρ : Nat}
    {ind1 ind2 o1 o2 : List Prim} {gen : Tape → R (List Prim × Tape)} {tp tp' : Tape}
    (hok : ∀ pc, semPieces mapping = some pc → SemOK sub pc ρ)
    (h1 : WellFormed sub ρ ind1) (h2 : WellFormed sub ρ ind2)
    (hgen : ∀ tp o tp', gen tp = .ok (o, tp') → WellFormed sub ρ o)
    (h : cxSemantic mapping reprF ind1 ind2 gen tp = .ok (o1, o2, tp')) :
    WellFormed sub ρ o1 ∧ WellFormed sub ρ o2 := by
  obtain ⟨pc, tr, hpc, hg, e1, e2⟩ := cxSemantic_ok h
  obtain ⟨ta, hta, rfl⟩ := h1
  obtain ⟨tb, htb, rfl⟩ := h2
  obtain ⟨t, ht, rfl⟩ := hgen _ _ _ hg
  have ok := hok pc hpc
  have w1 : wt sub ρ (semCxTree pc (constNode (reprF 1.0)) ta tb t) = true := semCxTree_wt ok _ hta htb ht
  rw [semCxList_flatten] at e1
  subst e1
  rw [semCxList_flatten] at e2
  subst e2
  exact ⟨⟨_, w1, rfl⟩, ⟨_, semCxTree_wt ok _ htb w1 ht, rfl⟩⟩

example : (cxSemantic gsMapping (fun _ => "1.0") [gsX] [gsX] gsGen []).toOption.map
    (fun r => (r.1.map (·.name), r.2.1.length)) =
      some (["add", "mul", "ARG0", "lf", "ARG0", "mul", "sub", "1.0", "lf", "ARG0", "ARG0"], 21) := by decide

/-- arities only, both children -/
theorem semantic_cx_complete {mapping : String → Option Prim} {reprF : Float → String}
    {ind1 ind2 o1 o2 : List Prim} {gen : Tape → R (List Prim × Tape)} {tp tp' : Tape}
    (hok : ∀ pc, semPieces mapping = some pc → SemArity pc)
    (h1 : complete ind1 = true) (h2 : complete ind2 = true)
    (hgen : ∀ tp o tp', gen tp = .ok (o, tp') → complete o = true)
    (h : cxSemantic mapping reprF ind1 ind2 gen tp = .ok (o1, o2, tp')) :
    complete o1 = true ∧ complete o2 = true := by
  obtain ⟨pc, tr, hpc, hg, e1, e2⟩ := cxSemantic_ok h
  obtain ⟨ta, hta, rfl⟩ := complete_iff_tree.1 h1
  obtain ⟨tb, htb, rfl⟩ := complete_iff_tree.1 h2
  obtain ⟨t, ht, rfl⟩ := complete_iff_tree.1 (hgen _ _ _ hg)
  have ok := hok pc hpc
  have w1 : wf (semCxTree pc (constNode (reprF 1.0)) ta tb t) = true := semCxTree_wf ok _ hta htb ht
  rw [semCxList_flatten] at e1
  subst e1
  rw [semCxList_flatten] at e2
  subst e2
  exact ⟨complete_iff_tree.2 ⟨_, w1, rfl⟩, complete_iff_tree.2 ⟨_, semCxTree_wf ok _ htb w1 ht, rfl⟩⟩

example : complete [gsX] = true ∧ ∀ tp o tp', gsGen tp = .ok (o, tp') → complete o = true := by
  refine ⟨by decide, ?_⟩
  intro tp o tp' h
  obtain ⟨rfl, _⟩ := h
  decide

/-- **Sizes of the semantic offspring.**  One random tree `tr` is generated (the only draws taken from the tape).
Child 1 has `len(ind1) + len(ind2) + 2·len(tr) + 7` nodes.  Child 2 contains CHILD 1 (not parent 1: `new_ind1` is
`ind1`, extended in place before `new_ind2.extend(ind1)` runs), so it has `len(ind2) + len(child1) + 2·len(tr) + 7 =
len(ind1) + 2·len(ind2) + 4·len(tr) + 14` nodes; each child starts with `add`, `mul` followed by its own parent. -/
theorem semantic_cx_size {mapping : String → Option Prim} {reprF : Float → String}
    {ind1 ind2 o1 o2 : List Prim} {gen : Tape → R (List Prim × Tape)} {tp tp' : Tape}
    (h : cxSemantic mapping reprF ind1 ind2 gen tp = .ok (o1, o2, tp')) :
    ∃ tr, gen tp = .ok (tr, tp') ∧
      o1.length = ind1.length + ind2.length + 2 * tr.length + 7 ∧
      o2.length = ind1.length + 2 * ind2.length + 4 * tr.length + 14 ∧
      (o1.drop 2).take ind1.length = ind1 ∧ (o2.drop 2).take ind2.length = ind2 ∧
      o2.drop (o2.length - o1.length) = o1 := by
  obtain ⟨pc, tr, hpc, hg, e1, e2⟩ := cxSemantic_ok h
  have l1 : o1.length = ind1.length + ind2.length + 2 * tr.length + 7 := by rw [e1, semCxList_length]
  have l2 : o2.length = ind2.length + o1.length + 2 * tr.length + 7 := by rw [e2, semCxList_length]
  refine ⟨tr, hg, l1, by omega, by rw [e1, semCxList_parent], by rw [e2, semCxList_parent], ?_⟩
  have : o2.length - o1.length = ind2.length + 2 * tr.length + 7 := by
    rw [show o2.length = ind2.length + 2 * tr.length + 7 + o1.length by omega, Nat.add_sub_cancel]
  rw [this, e2, semCxList_suffix]

example : ∃ o1 o2 tp', cxSemantic gsMapping (fun _ => "1.0") [gsX] [gsX, gsX] gsGen [] = .ok (o1, o2, tp') :=
  ⟨_, _, _, rfl⟩

/-- **The assertion on the primitive set.**  When one of the names `lf`, `mul`, `add`, `sub` is not a key of
`pset.mapping`, neither operator returns anything (the code raises before it generates a tree or draws a number). -/
theorem semantic_missing_primitive {mapping : String → Option Prim} (reprF : Float → String)
    (ind ind2 : List Prim) (gen : Tape → R (List Prim × Tape)) (ms : Option Float) (tp : Tape)
    (hmiss : mapping "lf" = none ∨ mapping "mul" = none ∨ mapping "add" = none ∨ mapping "sub" = none) :
    mutSemantic mapping reprF ind gen ms tp = .error .raised ∧
    cxSemantic mapping reprF ind ind2 gen tp = .error .raised := by
  have hp : semPieces mapping = none := by
    unfold semPieces
    cases h1 : mapping "lf" <;> cases h2 : mapping "mul" <;> cases h3 : mapping "add" <;>
      cases h4 : mapping "sub" <;> simp_all
  simp [mutSemantic, cxSemantic, hp]

example : (fun k => if k = "add" then some gsAdd else none : String → Option Prim) "lf" = none := by decide

/-- `PrimitiveSetTyped._add` (as modelled by `addPrim`): after any sequence of additions, the pool
`primitives[τ]` only holds `Primitive`s whose return type is a subclass of `τ`, and `terminals[τ]`
only terminals / ephemerals whose return type is a subclass of `τ` — the pool part of `PsetOK`. -/
theorem add_pools_ok (sub : Nat → Nat → Bool)
    (trans : ∀ a b c, sub a b = true → sub b c = true → sub a c = true) (nodes : List Prim) (τ : Nat) (x : Prim) :
    (x ∈ dictGet (nodes.foldl (addPrim sub) ⟨[], []⟩).prims τ → sub x.ret τ = true ∧ x.kind = .prim) ∧
    (x ∈ dictGet (nodes.foldl (addPrim sub) ⟨[], []⟩).terms τ → sub x.ret τ = true ∧ x.kind ≠ .prim) :=
  foldl_addPrim_get trans nodes (fun _ _ => ⟨id, id⟩) τ x

example : (dictGet ([pTrue, pAdd, pLt].foldl (addPrim exSub) ⟨[], []⟩).terms 1) = [pTrue] := by decide

/-- the primitive set a sequence of `_add` calls builds: the two dictionaries read through `dictGet`
(a missing key is the empty list of the `defaultdict`) -/
def psetOfAdds (sub : Nat → Nat → Bool) (nodes : List Prim) (ret termsCount primsCount : Nat) : Pset :=
  let ds := nodes.foldl (addPrim sub) ⟨[], []⟩
  ⟨sub, dictGet ds.prims, dictGet ds.terms, ret, termsCount, primsCount⟩

/-- **Bridge `_add` → `PsetOK`.**  Whatever the order of the registrations, the primitive set built by
`PrimitiveSetTyped._add` satisfies the hypothesis `PsetOK` of the generator / operator theorems, provided
`issubclass` is a preorder and every registered `Primitive` has at least one argument and every registered
terminal / ephemeral none.  The last two conditions are exactly what is ASSUMED about the registrations:
`_add` itself accepts a zero-argument `Primitive` (it is modelled: it lands in `primitives[τ]` like any other
primitive and `generate` may then place it as a leaf above the requested depth), which the property's
quantifier ("primitives of arity 1..3") excludes. -/
theorem psetOK_of_adds (sub : Nat → Nat → Bool) (refl : ∀ a, sub a a = true)
    (trans : ∀ a b c, sub a b = true → sub b c = true → sub a c = true) (nodes : List Prim) (ret tc pc : Nat)
    (harity : ∀ p ∈ nodes, (p.kind = .prim → p.args ≠ []) ∧ (p.kind ≠ .prim → p.args = [])) :
    PsetOK (psetOfAdds sub nodes ret tc pc) :=
  ⟨refl, trans, fun τ p => (foldl_addPrim_get trans nodes harity τ p).1, fun τ p => (foldl_addPrim_get trans nodes harity τ p).2⟩

example : ∀ p ∈ [pTrue, pAdd, pLt, pOne], (p.kind = .prim → p.args ≠ []) ∧ (p.kind ≠ .prim → p.args = []) := by decide

/-! ## The primitive set as a state machine of declarations

`PrimitiveSetTyped(name, in_types, ret)` / `PrimitiveSet(name, arity)` followed by any history of `addPrimitive`,
`addTerminal`, `addEphemeralConstant`, `addADF`, `renameArguments` (`Core/GpPset.lean`: `runDecls` from `PState.init`).
`declPrims` / `declTerms` are the nodes the history handed to `_add` ("the declared symbols"). -/

/-- **Every lookup returns exactly the declared symbols whose return type is a subclass of the key.**  After any
history of declarations and renamings that succeeds (no assertion fails) and in which nobody READ the pools of a type
the set did not know yet, for every type `τ` the set knows (a key of the dictionary: the return or an argument type of
some declared symbol), `pset.primitives[τ]` holds a node iff it is a declared `Primitive` (or ADF) with
`issubclass(ret, τ)`, and `pset.terminals[τ]` iff it is a declared terminal / argument / ephemeral class with
`issubclass(ret, τ)` — whatever the order in which supertypes, subtypes and symbols were first seen. -/
theorem pset_lookup_exact (sub : Nat → Nat → Bool) (refl : ∀ a, sub a a = true)
    (trans : ∀ a b c, sub a b = true → sub b c = true → sub a c = true)
    (inTypes : List Nat) (pre : String) (ret : Nat) (ds : List Decl) (st : PState) (hn : NoTouch ds)
    (hs : runDecls sub (PState.init sub inTypes pre) ds = some st) (τ : Nat) (x : Prim) :
    (dictHas st.dicts.prims τ = true →
      (x ∈ (st.toPset sub ret).prims τ ↔ (x ∈ st.declPrims ∧ sub x.ret τ = true))) ∧
    (dictHas st.dicts.terms τ = true →
      (x ∈ (st.toPset sub ret).terms τ ↔ (x ∈ st.declTerms ∧ sub x.ret τ = true))) := by
  have hex := runDecls_exact refl trans ds _ st hn (init_exact refl trans inTypes pre) hs
  exact ⟨fun hk => dictGet_exact x hex.1 hk, fun hk => dictGet_exact x hex.2 hk⟩

/-- two declaration histories of the same symbols: the subclass terminal before / after the supertype is known -/
def exDeclsA : List Decl :=
  [.term (some "b1") 10 .other "10" "10" 2, .prim "g" 11 [1] 2, .prim "f" 12 [1, 1] 1, .term none 13 (.int 1) "1" "1" 1,
   .eph "E" 14 2]
def exDeclsB : List Decl := exDeclsA.reverse

theorem exDecls_plain : Plain exDeclsA ∧ Plain exDeclsB := by
  constructor <;> (intro d hd; simp [exDeclsA, exDeclsB] at hd; rcases hd with rfl | rfl | rfl | rfl | rfl <;> rfl)

example : NoTouch exDeclsA := plain_noTouch exDecls_plain.1

example : (runDecls exSub (PState.init exSub [1] "ARG") exDeclsA).map
      (fun st => ((dictGet st.dicts.terms 1).map (·.name), (dictGet st.dicts.prims 2).map (·.name))) =
      some (["ARG0", "b1", "1", "E"], ["g"]) := by decide

example : (runDecls exSub (PState.init exSub [1] "ARG") exDeclsA).map
      (fun st => (st.termsCount, st.primsCount, st.context.map (·.1))) = some (4, 2, ["b1", "g", "f", "1"]) := by decide

example : (runDecls exSub (PState.init exSub [1] "ARG") exDeclsA).map (fun st => st.mapping.map (·.1)) =
    some ["ARG0", "b1", "g", "f", "1", "E"] := by decide

/-- **Which symbols are declared, and the counters.**  For a history of declarations proper (`Plain`: no renaming,
no read access) that succeeds: the declared primitives are the `Primitive` nodes of the declarations in order
(`addPrimitive`, `addADF`), the declared terminals are the argument terminals of the constructor followed by the
terminal / ephemeral nodes of the declarations (an ephemeral class declared again under the same name with the same
function and type is the same node again); `prims_count` / `terms_count` are their numbers (arguments included), and
`terminalRatio` is `terms / (terms + prims)`. -/
theorem pset_declared (sub : Nat → Nat → Bool) (inTypes : List Nat) (pre : String) (ds : List Decl) (st : PState)
    (hp : Plain ds) (hs : runDecls sub (PState.init sub inTypes pre) ds = some st) :
    st.declPrims = (ds.filterMap Decl.node).filter (fun x => decide (x.kind = .prim)) ∧
    (∃ args, args.length = inTypes.length ∧ (∀ a ∈ args, a.kind = .term) ∧
      st.declTerms = args ++ (ds.filterMap Decl.node).filter (fun x => !decide (x.kind = .prim))) ∧
    st.primsCount = ((ds.filterMap Decl.node).filter (fun x => decide (x.kind = .prim))).length ∧
    st.termsCount = inTypes.length + ((ds.filterMap Decl.node).filter (fun x => !decide (x.kind = .prim))).length ∧
    st.terminalRatio = (if st.termsCount + st.primsCount = 0 then none
      else some (Float.ofNat st.termsCount / Float.ofNat (st.termsCount + st.primsCount))) := by
  obtain ⟨m0, a0, b0, c0, d0, e0⟩ := init_decl sub inTypes pre
  obtain ⟨_, a, b, c, d, _⟩ := runDecls_plain ds _ st hp m0 hs
  exact ⟨by rw [a, a0, List.nil_append], ⟨_, b0, e0, b⟩, by rw [c, c0, Nat.zero_add], by rw [d, d0], rfl⟩

example : Plain exDeclsA ∧ Plain exDeclsB := exDecls_plain

/-- **Lookups do not depend on the order of the declarations.**  Two histories that declare the same symbols in
different orders (permutations of one another, both accepted): every type known to both sets has the same members in
`primitives[τ]` and in `terminals[τ]`, and the two sets have the same counters, hence the same `terminalRatio`.
(The ORDER of the members inside a pool does follow the history — it decides which element a given `random.choice`
draw picks, not what can be picked; and a symbol declared twice can occur once or twice in a pool depending on whether
the key existed at the time — multiplicity is not claimed.) -/
theorem pset_lookup_order_independent (sub : Nat → Nat → Bool) (refl : ∀ a, sub a a = true)
    (trans : ∀ a b c, sub a b = true → sub b c = true → sub a c = true)
    (inTypes : List Nat) (pre : String) (ret : Nat) (ds1 ds2 : List Decl) (st1 st2 : PState)
    (hperm : ds1.Perm ds2) (hp : Plain ds1)
    (h1 : runDecls sub (PState.init sub inTypes pre) ds1 = some st1)
    (h2 : runDecls sub (PState.init sub inTypes pre) ds2 = some st2) :
    (∀ τ x, dictHas st1.dicts.prims τ = true → dictHas st2.dicts.prims τ = true →
      (x ∈ (st1.toPset sub ret).prims τ ↔ x ∈ (st2.toPset sub ret).prims τ)) ∧
    (∀ τ x, dictHas st1.dicts.terms τ = true → dictHas st2.dicts.terms τ = true →
      (x ∈ (st1.toPset sub ret).terms τ ↔ x ∈ (st2.toPset sub ret).terms τ)) ∧
    st1.termsCount = st2.termsCount ∧ st1.primsCount = st2.primsCount ∧ st1.terminalRatio = st2.terminalRatio := by
  have hp2 : Plain ds2 := fun d hd => hp d (hperm.mem_iff.2 hd)
  obtain ⟨m0, _⟩ := init_decl sub inTypes pre
  obtain ⟨_, a1, b1, c1, d1, _⟩ := runDecls_plain ds1 _ st1 hp m0 h1
  obtain ⟨_, a2, b2, c2, d2, _⟩ := runDecls_plain ds2 _ st2 hp2 m0 h2
  have pn := hperm.filterMap Decl.node
  have pP := pn.filter (fun x => decide (x.kind = .prim))
  have pT := pn.filter (fun x => !decide (x.kind = .prim))
  have eP : ∀ x, x ∈ st1.declPrims ↔ x ∈ st2.declPrims := by
    intro x; rw [a1, a2, List.mem_append, List.mem_append, pP.mem_iff]
  have eT : ∀ x, x ∈ st1.declTerms ↔ x ∈ st2.declTerms := by
    intro x; rw [b1, b2, List.mem_append, List.mem_append, pT.mem_iff]
  have hc : st1.termsCount = st2.termsCount := by rw [d1, d2, pT.length_eq]
  have hq : st1.primsCount = st2.primsCount := by rw [c1, c2, pP.length_eq]
  have l1 := pset_lookup_exact sub refl trans inTypes pre ret ds1 st1 (plain_noTouch hp) h1
  have l2 := pset_lookup_exact sub refl trans inTypes pre ret ds2 st2 (plain_noTouch hp2) h2
  exact ⟨fun τ x k1 k2 => by rw [(l1 τ x).1 k1, (l2 τ x).1 k2, eP],
    fun τ x k1 k2 => by rw [(l1 τ x).2 k1, (l2 τ x).2 k2, eT], hc, hq, by simp [PState.terminalRatio, hc, hq]⟩

example : exDeclsA.Perm exDeclsB ∧
    (runDecls exSub (PState.init exSub [1] "ARG") exDeclsB).map
      (fun st => ((dictGet st.dicts.terms 1).map (·.name), (dictGet st.dicts.prims 2).map (·.name))) =
      some (["ARG0", "E", "1", "b1"], ["g"]) :=
  ⟨(List.reverse_perm _).symm, by decide⟩

/-- **Why the hypothesis `NoTouch` is there (observation on DEAP's code).**  The pools are `defaultdict`s:
READING `pset.terminals[T]` for a type the set has not seen yet stores an empty list under `T`; when `T` is
declared later, `_add` finds the key present and does not collect the already declared subclass symbols.  The same
three steps in another order give another pool. -/
theorem pset_read_before_declare :
    (runDecls exSub (PState.init exSub [] "ARG")
        [.term (some "b1") 10 .other "10" "10" 2, .touchT 1, .prim "f" 12 [1] 1]).map
      (fun st => (dictGet st.dicts.terms 1).map (·.name)) = some [] ∧
    (runDecls exSub (PState.init exSub [] "ARG")
        [.term (some "b1") 10 .other "10" "10" 2, .prim "f" 12 [1] 1, .touchT 1]).map
      (fun st => (dictGet st.dicts.terms 1).map (·.name)) = some ["b1"] := by decide

/-- **`PrimitiveSet`, the untyped wrapper.**  Every symbol declared through `PrimitiveSet.addPrimitive / addTerminal /
addEphemeralConstant` returns `object`; the statement is about the declared PRIMITIVES: each takes `object`s, at least one,
and `pset.primitives[object]` holds it. -/
theorem pset_untyped (sub : Nat → Nat → Bool) (refl : ∀ a, sub a a = true)
    (trans : ∀ a b c, sub a b = true → sub b c = true → sub a c = true)
    (arity : Nat) (pre : String) (ds : List Decl) (st : PState)
    (hu : ∀ d ∈ ds, (∃ n o a, d = .uprim n o a) ∨ (∃ n o v s r, d = .uterm n o v s r) ∨ (∃ n f, d = .ueph n f))
    (hs : runDecls sub (PState.initU sub arity pre) ds = some st) (x : Prim) :
    (x ∈ st.declPrims → x.ret = objT ∧ (∀ a ∈ x.args, a = objT) ∧ x.args ≠ [] ∧
      x ∈ (st.toPset sub objT).prims objT) := by
  have hpl : Plain ds := by
    intro d hd
    rcases hu d hd with ⟨n, o, a, rfl⟩ | ⟨n, o, v, s, r, rfl⟩ | ⟨n, f, rfl⟩
    · rfl
    · cases n <;> rfl
    · rfl
  obtain ⟨hP, _⟩ := pset_declared sub (List.replicate arity objT) pre ds st hpl hs
  intro hx
  have hx' := hx
  rw [hP, List.mem_filter, List.mem_filterMap] at hx'
  obtain ⟨⟨d, hd, hn⟩, hk⟩ := hx'
  have hform : x.ret = objT ∧ (∀ a ∈ x.args, a = objT) ∧ x.args ≠ [] := by
    rcases hu d hd with ⟨n, o, a, rfl⟩ | ⟨n, o, v, s, r, rfl⟩ | ⟨n, f, rfl⟩
    · simp only [Decl.node, Option.some.injEq] at hn
      subst hn
      refine ⟨rfl, fun a ha => (List.mem_replicate.1 ha).2, ?_⟩
      -- `arity > 0` is asserted by the wrapper: a zero arity makes the history fail
      intro h0
      have ha0 : a = 0 := by simpa using h0
      subst ha0
      exact absurd hs (uprim_zero_fails sub _ ds n o hd)
    · cases n <;> (simp only [Decl.node, Option.some.injEq] at hn; subst hn; simp at hk)
    · simp only [Decl.node, Option.some.injEq] at hn; subst hn; simp at hk
  refine ⟨hform.1, hform.2.1, hform.2.2, ?_⟩
  have hex := runDecls_exact refl trans ds _ st (plain_noTouch hpl) (init_exact refl trans _ pre) hs
  have hkey : dictHas st.dicts.prims objT = true := by
    have := hex.1.2 x hx
    rwa [hform.1] at this
  exact (dictGet_exact x hex.1 hkey).2 ⟨hx, by rw [hform.1]; exact refl _⟩

example : (runDecls subTrue (PState.initU subTrue 1 "ARG") [.uprim "neg" 1 0]) = none ∧
    (runDecls subTrue (PState.initU subTrue 1 "ARG") [.uprim "neg" 1 1, .uterm none 2 (.int 1) "1" "1", .ueph "E" 3]).map
      (fun st => ((dictGet st.dicts.prims 0).map (·.name), (dictGet st.dicts.terms 0).map (·.name), st.context.map (·.1))) =
      some (["neg"], ["ARG0", "1", "E"], ["neg", "1"]) := by decide

end C11
