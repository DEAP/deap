/-
C07 — SPEA2 and NSGA-III select exactly k, best fronts first, niches balanced; the reference-point
generator returns exactly C(M+p-1, p) distinct non-negative points summing to 1.

Property theorems, with the two definitions their statements need (`ndCount`,
`old_formula_denominator_pos`).  Models: `Core/Spea2.lean`, `Core/Nsga3.lean`; helper lemmas:
`Lemmas/C07*.lean`.  Individuals are their positions in the input list, so "an input object, none
twice" is "a duplicate-free list of positions `< N`".  `Props.C01` is imported for the asymmetry of
dominance (`domW_asymmetric`); `Lemmas.C07Gen` (the lemmas of the translator tie) is used by
nothing here and is imported so that it is built with the cluster.
-/
import DeapModel.Props.C01
import DeapModel.Lemmas.C07Transl
import DeapModel.Lemmas.C07E2E
import DeapModel.Lemmas.C07E2EN
import DeapModel.Lemmas.C07Gen

set_option linter.unusedSectionVars false
set_option linter.unusedVariables false

namespace C07
open Spea2 Nsga3 C07L NDSort

/-! ## SPEA2 (`selSPEA2`, emo.py:708-824)

`dom` is the dominance test between two positions, `fits` the line-759 values (raw fitness plus
density), `D` the squared distances — the theorems hold for **every** `fits` and `D` and every
scalar type with a decidable `<` (no order axioms), so the quick-select, `sqrt(N)` and all float
arithmetic are irrelevant to them. -/

section SPEA2
variable {α : Type} [DecidableEq α] [LT α] [DecidableLT α]

/-- `selSPEA2` returns exactly `k` individuals for `1 ≤ k ≤ N` (all three branches). -/
theorem spea2_len (dom : Nat → Nat → Bool) (N k : Nat) (fits : Nat → α) (D : Nat → Nat → α)
    (hk : 1 ≤ k) (hkN : k ≤ N) : (selSPEA2 dom N k fits D).length = k :=
  (selSPEA2V_spec dom N k fits (fun i j => DVal.fin (D i j)) hk hkN).1

example : (1 : Nat) ≤ 2 ∧ 2 ≤ 3 := by decide
/-- the three branches on concrete populations (weighted values, maximisation): one non-dominated
individual for `k = 2` (fill), two for `k = 2` (exact), three for `k = 2` (truncate). -/
example : chosen0 (domW [[1, 2], [2, 1], [3, 3]]) 3 = [2] ∧
    chosen0 (domW [[1, 2], [2, 1], [0, 0]]) 3 = [0, 1] ∧
    chosen0 (domW [[1, 2], [2, 1], [0, 3]]) 3 = [0, 1, 2] := by decide +kernel
example : selSPEA2 (domW [[1, 2], [2, 1], [0, 0]]) 3 2 (fun _ => (0 : Int)) (fun _ _ => 0) = [0, 1] := by
  decide +kernel

/-- every returned individual is an input object and none is returned twice. -/
theorem spea2_sub_perm (dom : Nat → Nat → Bool) (N k : Nat) (fits : Nat → α) (D : Nat → Nat → α)
    (hk : 1 ≤ k) (hkN : k ≤ N) :
    (selSPEA2 dom N k fits D).Nodup ∧ ∀ i ∈ selSPEA2 dom N k fits D, i < N :=
  (selSPEA2V_spec dom N k fits (fun i j => DVal.fin (D i j)) hk hkN).2.imp_right And.left

example : (1 : Nat) ≤ 1 ∧ 1 ≤ 4 := by decide

/-- the truncation loop of the "archive too large" branch removes `N - k` pairwise distinct
positions (the invariant: a removed position has an all-`inf` row and is never `min_pos` again). -/
theorem spea2_to_remove_distinct (D : Nat → Nat → α) (N k : Nat) (hk : 1 ≤ k) (hkN : k ≤ N) :
    (toRemove D N k).Nodup ∧ (∀ r ∈ toRemove D N k, r < N) ∧ (toRemove D N k).length = N - k :=
  toRemove_spec D N k hk hkN

example : toRemove (fun i j => ((i + 2 * j : Nat) : Int)) 4 2 = [0, 1] := by decide +kernel

/-- the number of non-dominated individuals -/
def ndCount (dom : Nat → Nat → Bool) (N : Nat) : Nat :=
  ((List.range N).filter (fun i => decide (NonDom dom N i))).length

/-- when at most `k` individuals are non-dominated, every one of them is returned. -/
theorem spea2_all_nd_when_few (dom : Nat → Nat → Bool) (N k : Nat) (fits : Nat → α)
    (D : Nat → Nat → α) (hasym : ∀ i j, dom i j = true → dom j i = false)
    (hk : 1 ≤ k) (hkN : k ≤ N) (hfew : ndCount dom N ≤ k) :
    ∀ i, i < N → NonDom dom N i → i ∈ selSPEA2 dom N k fits D :=
  (selSPEA2V_nd dom N k fits (fun i j => DVal.fin (D i j)) hasym hk).1 hkN hfew

example : ndCount (domW [[1, 2], [2, 1], [0, 0]]) 3 = 2 := by decide +kernel

/-- when at least `k` individuals are non-dominated, only non-dominated ones are returned. -/
theorem spea2_only_nd_when_many (dom : Nat → Nat → Bool) (N k : Nat) (fits : Nat → α)
    (D : Nat → Nat → α) (hasym : ∀ i j, dom i j = true → dom j i = false)
    (hk : 1 ≤ k) (hmany : k ≤ ndCount dom N) :
    ∀ i ∈ selSPEA2 dom N k fits D, NonDom dom N i :=
  (selSPEA2V_nd dom N k fits (fun i j => DVal.fin (D i j)) hasym hk).2 hmany

example : (1 : Nat) ≤ 1 ∧ 1 ≤ ndCount (domW [[1, 2], [2, 1], [0, 0]]) 3 := by decide +kernel

/-- Pareto dominance of weighted values (the C01 model) is asymmetric, so the two theorems above
apply to every population of evaluated individuals. -/
theorem domW_asymmetric {β : Type} [LinearOrder β] (pop : List (List β)) :
    ∀ i j, domW pop i j = true → domW pop j i = false :=
  fun _ _ h => C01.dominatesLoop_asymm h

/-- the two nd-clauses for a concrete population given by its weighted values. -/
theorem spea2_nd_clauses {β : Type} [LinearOrder β] (pop : List (List β)) (k : Nat)
    (fits : Nat → β) (D : Nat → Nat → β) (hk : 1 ≤ k) (hkN : k ≤ pop.length) :
    (ndCount (domW pop) pop.length ≤ k →
      ∀ i, i < pop.length → NonDom (domW pop) pop.length i →
        i ∈ selSPEA2 (domW pop) pop.length k fits D) ∧
    (k ≤ ndCount (domW pop) pop.length →
      ∀ i ∈ selSPEA2 (domW pop) pop.length k fits D, NonDom (domW pop) pop.length i) :=
  ⟨spea2_all_nd_when_few _ _ _ _ _ (domW_asymmetric pop) hk hkN,
   spea2_only_nd_when_many _ _ _ _ _ (domW_asymmetric pop) hk⟩

example : (1 : Nat) ≤ 2 ∧ 2 ≤ [[1, 2], [2, 1], [0, 0]].length := by decide

/-! ### squared distances that overflowed to `float("inf")`

`selSPEA2V` takes the *computed* matrix entries as float values: `fin a` or `inf` (objective values
beyond ~1e154: `val * val` overflows).  Then a surviving row can tie with a removed all-`inf` row and
`to_remove` can repeat position 0; the deletion loop still removes one element per entry.  The four
clauses of the property hold for EVERY matrix of computed entries. -/

/-- without overflow `selSPEA2V` is `selSPEA2`. -/
theorem spea2V_no_overflow (dom : Nat → Nat → Bool) (N k : Nat) (fits : Nat → α) (D : Nat → Nat → α) :
    selSPEA2V dom N k fits (fun i j => DVal.fin (D i j)) = selSPEA2 dom N k fits D := rfl

/-- exactly `k` individuals, whatever overflowed. -/
theorem spea2V_len (dom : Nat → Nat → Bool) (N k : Nat) (fits : Nat → α) (D : Nat → Nat → DVal α)
    (hk : 1 ≤ k) (hkN : k ≤ N) : (selSPEA2V dom N k fits D).length = k :=
  (selSPEA2V_spec dom N k fits D hk hkN).1

/-- six mutually non-dominated individuals, every distance overflowed, `k = 2`: `to_remove` is
`[0, 0, 0, 0]` and the four deletions of position 0 leave the last two individuals. -/
example : toRemoveV (fun _ _ => (DVal.inf : DVal Int)) 6 2 = [0, 0, 0, 0] ∧
    chosen0 (domW [[0, -5], [-1, -4], [-2, -3], [-3, -2], [-4, -1], [-5, 0]]) 6 = [0, 1, 2, 3, 4, 5] ∧
    delDesc [0, 1, 2, 3, 4, 5] [0, 0, 0, 0] = [4, 5] :=
  ⟨by decide +kernel, by decide +kernel, by rw [delDesc_eq_isort]; rfl⟩

/-- input objects, none twice, whatever overflowed. -/
theorem spea2V_sub_perm (dom : Nat → Nat → Bool) (N k : Nat) (fits : Nat → α) (D : Nat → Nat → DVal α)
    (hk : 1 ≤ k) (hkN : k ≤ N) :
    (selSPEA2V dom N k fits D).Nodup ∧ ∀ i ∈ selSPEA2V dom N k fits D, i < N :=
  (selSPEA2V_spec dom N k fits D hk hkN).2.imp_right And.left

example : (1 : Nat) ≤ 2 ∧ 2 ≤ 6 := by decide

/-- the truncation loop for arbitrary computed entries appends `N - k` positions `< N`; a position
other than 0 is never appended twice (`min_pos` leaves its initial value 0 only for a row that wins
a strict comparison, which an all-`inf` row never does). -/
theorem spea2_to_remove_overflow (D : Nat → Nat → DVal α) (N k : Nat) (hk : 1 ≤ k) (hkN : k ≤ N) :
    ((toRemoveV D N k).filter (fun r => decide (r ≠ 0))).Nodup ∧ (∀ r ∈ toRemoveV D N k, r < N) ∧
    (toRemoveV D N k).length = N - k :=
  toRemoveV_spec D N k hk hkN

example : toRemoveV (fun i j => if i + j = 3 then DVal.fin (1 : Int) else DVal.inf) 5 2 = [0, 1, 0] := by
  decide +kernel

/-- the deletion loop `for index in reversed(sorted(to_remove)): del chosen_indices[index]` on a list
of positions in which only 0 repeats: every `del` is in range and removes one element. -/
theorem spea2_deletion_loop (chosen rem : List Nat)
    (hnz : (rem.filter (fun r => decide (r ≠ 0))).Nodup) (hlt : ∀ r ∈ rem, r < chosen.length)
    (hlen : rem.length ≤ chosen.length) :
    (delDesc chosen rem).length = chosen.length - rem.length ∧ (delDesc chosen rem).Sublist chosen :=
  delDesc_spec chosen rem hnz hlt hlen

example : delDesc [10, 11, 12, 13, 14] [0, 3, 0] = [12, 14] := by rw [delDesc_eq_isort]; rfl

/-- every non-dominated individual when at most `k` are, whatever overflowed. -/
theorem spea2V_all_nd_when_few (dom : Nat → Nat → Bool) (N k : Nat) (fits : Nat → α)
    (D : Nat → Nat → DVal α) (hasym : ∀ i j, dom i j = true → dom j i = false)
    (hk : 1 ≤ k) (hkN : k ≤ N) (hfew : ndCount dom N ≤ k) :
    ∀ i, i < N → NonDom dom N i → i ∈ selSPEA2V dom N k fits D :=
  (selSPEA2V_nd dom N k fits D hasym hk).1 hkN hfew

example : ndCount (domW [[1, 2], [2, 1], [0, 0]]) 3 ≤ 2 := by decide +kernel

/-- only non-dominated individuals when at least `k` are, whatever overflowed. -/
theorem spea2V_only_nd_when_many (dom : Nat → Nat → Bool) (N k : Nat) (fits : Nat → α)
    (D : Nat → Nat → DVal α) (hasym : ∀ i j, dom i j = true → dom j i = false)
    (hk : 1 ≤ k) (hmany : k ≤ ndCount dom N) :
    ∀ i ∈ selSPEA2V dom N k fits D, NonDom dom N i :=
  (selSPEA2V_nd dom N k fits D hasym hk).2 hmany

example : (1 : Nat) ≤ 2 ∧
    2 ≤ ndCount (domW [[0, -5], [-1, -4], [-2, -3], [-3, -2], [-4, -1], [-5, 0]]) 6 := by decide +kernel

end SPEA2

/-! ### the quick-select behind `kth_dist` (`_randomizedSelect`, emo.py:827-862)

A tape entry is the offset of the `random.randint(begin, end)` draw, read modulo the range size,
so the theorems are for every sequence of pivot draws. -/

section Select
variable {β : Type} [LinearOrder β] [Sub β]

/-- the quick-select terminates on any pivot tape, never indexes outside the array … -/
theorem quickselect_terminates (ofNat : Nat → β) (a : List β) (b e : Nat) (i : β) (tape : List Nat)
    (hbe : b ≤ e) (he : e < a.length) (ht : e - b ≤ tape.length) :
    (randomizedSelect ofNat (a.length + 2) a b e i tape).isSome := by
  obtain ⟨v, rest, h, _⟩ := randomizedSelectT_total ofNat (a.length + 2) a b e i tape hbe he (by omega) (by omega)
  rw [← randomizedSelectT_fst, h]; rfl

example : randomizedSelect (fun n => (n : Int)) 8 [7, 2, 9, 2, 5, 1] 0 5 3 [4, 2, 1, 0, 3] = some 5 := by
  decide +kernel

/-- … and returns an element of the array. -/
theorem quickselect_mem (ofNat : Nat → β) (fuel : Nat) (a : List β) (b e : Nat) (i : β)
    (tape : List Nat) (v : β) (h : randomizedSelect ofNat fuel a b e i tape = some v) : v ∈ a := by
  fun_induction randomizedSelect ofNat fuel a b e i tape with
  | case1 | case3 | case4 => cases h
  | case2 => exact List.mem_of_getElem? h
  | case5 | case6 => rename_i hrp _ _ ih; exact (randomizedPartition_perm hrp).subset (ih h)

/-- the Hoare partition returns a split point `begin ≤ q < end` and permutes the array. -/
theorem partition_split (a : List β) (b e d : Nat) (hbe : b < e) (he : e < a.length) :
    ∃ a' q, randomizedPartition a b e d = some (a', q) ∧ a'.length = a.length ∧ b ≤ q ∧ q < e ∧
      a'.Perm a :=
  let ⟨a', q, h, hl, hb, hq, hp, _⟩ := randomizedPartition_spec a b e d hbe he
  ⟨a', q, h, hl, hb, hq, hp⟩

example : randomizedPartition [3, 5, 1, 4, 1, 3] 0 5 3 = some ([3, 1, 1, 3, 5, 4], 3) := by decide +kernel

end Select

section SelectCorrect
variable {β : Type} [Ring β] [LinearOrder β] [IsStrictOrderedRing β]

/-- `_randomizedSelect(array, begin, end, i)` with `r ≤ i < r + 1` (`r = ⌊i⌋`, `r ≤ end - begin`): on
every pivot tape (each draw is read modulo the size of its range, so every tape stays in range) with
at least `end - begin` draws it terminates, and it returns entry `r` of the sorted sub-array
`sorted(array[begin..end])` — the `r`-th smallest element (0-based). -/
theorem randomizedSelect_correct (a : List β) (b e : Nat) (i : β) (r : Nat) (tape : List Nat)
    (hbe : b ≤ e) (he : e < a.length) (hr : r ≤ e - b) (hi1 : (r : β) ≤ i) (hi2 : i < (r : β) + 1)
    (ht : e - b ≤ tape.length) :
    ∃ v, randomizedSelect (fun n => (n : β)) (a.length + 2) a b e i tape = some v ∧
      (((a.drop b).take (e + 1 - b)).mergeSort (fun x y => decide (x ≤ y)))[r]? = some v := by
  have hs := quickselect_terminates (fun n => (n : β)) a b e i tape hbe he ht
  obtain ⟨v, hv⟩ := Option.isSome_iff_exists.1 hs
  exact ⟨v, hv, randomizedSelect_sorted _ a b e i r tape v hbe he hr hi1 hi2 hv⟩

example : (0 : Nat) ≤ 5 ∧ 5 < ([7, 2, 9, 2, 5, 1] : List ℚ).length ∧ (2 : Nat) ≤ 5 - 0 ∧
    ((2 : Nat) : ℚ) ≤ 5 / 2 ∧ (5 / 2 : ℚ) < ((2 : Nat) : ℚ) + 1 ∧ 5 - 0 ≤ [4, 2, 1, 0, 3].length := by
  refine ⟨by decide, by decide, by decide, by norm_num, by norm_num, by decide⟩

/-- … and whenever it answers at all (any fuel, any tape, even a short one) the answer is that
order statistic. -/
theorem quickselect_answer_correct (fuel : Nat) (a : List β) (b e : Nat) (i : β) (r : Nat)
    (tape : List Nat) (v : β) (hbe : b ≤ e) (he : e < a.length) (hr : r ≤ e - b)
    (hi1 : (r : β) ≤ i) (hi2 : i < (r : β) + 1)
    (h : randomizedSelect (fun n => (n : β)) fuel a b e i tape = some v) :
    (((a.drop b).take (e + 1 - b)).mergeSort (fun x y => decide (x ≤ y)))[r]? = some v :=
  randomizedSelect_sorted fuel a b e i r tape v hbe he hr hi1 hi2 h

/-- index 5/2 on `[7, 2, 9, 2, 5, 1]`: the answer 2 is entry 2 of `[1, 2, 2, 5, 7, 9]`. -/
example : randomizedSelect (fun n => ((n : Nat) : ℚ)) 8 [7, 2, 9, 2, 5, 1] 0 5 (5 / 2) [4, 2, 1, 0, 3] = some 2 := by
  decide +kernel

/-- the order statistic is permutation invariant: the sorted form depends on the multiset only. -/
theorem order_statistic_perm_invariant (l l' : List β) (h : l.Perm l') :
    l.mergeSort (fun x y => decide (x ≤ y)) = l'.mergeSort (fun x y => decide (x ≤ y)) ∧
    (l.mergeSort (fun x y => decide (x ≤ y))).Pairwise (· ≤ ·) ∧
    (l.mergeSort (fun x y => decide (x ≤ y))).Perm l :=
  ⟨sortL_eq_of_perm h, sortL_pairwise l, sortL_perm l⟩

example : ([3, 1, 2] : List ℚ).Perm [1, 2, 3] := by decide

/-- the selection reads only the integer part of its index argument: `K = sqrt(N)` behaves as
`⌊sqrt N⌋` (the code only compares `K - c < k` with integers `c`, `k`). -/
theorem quickselect_floor (fuel : Nat) (a : List β) (b e : Nat) (i : β) (r : Nat) (tape : List Nat)
    (hi1 : (r : β) ≤ i) (hi2 : i < (r : β) + 1) :
    randomizedSelect (fun n => (n : β)) fuel a b e i tape =
      randomizedSelect (fun n => (n : β)) fuel a b e (r : β) tape :=
  randomizedSelect_floor fuel a b e i r tape hi1 hi2

example : ((1 : Nat) : ℚ) ≤ 3 / 2 ∧ (3 / 2 : ℚ) < ((1 : Nat) : ℚ) + 1 := by constructor <;> norm_num

end SelectCorrect

/-- the quick-select that hands back the rest of the tape (consecutive calls of `selSPEA2` draw from
one generator) returns the same value, and the rest is a suffix of the tape. -/
theorem quickselect_threaded {β : Type} [LinearOrder β] [Sub β] (ofNat : Nat → β) (fuel : Nat)
    (a : List β) (b e : Nat) (i : β) (tape : List Nat) :
    (randomizedSelectT ofNat fuel a b e i tape).map Prod.fst = randomizedSelect ofNat fuel a b e i tape ∧
    ∀ v rest, randomizedSelectT ofNat fuel a b e i tape = some (v, rest) → rest.IsSuffix tape :=
  ⟨randomizedSelectT_fst ofNat fuel a b e i tape,
   randomizedSelectT_suffix ofNat fuel a b e i tape⟩

/-! ### `selSPEA2` end to end (`selSPEA2E`): strengths, raw fitness, distances, quick-select and
densities computed by the model from the weights and the weighted values -/

section SPEA2E
variable {β : Type} [Field β] [LinearOrder β] [IsStrictOrderedRing β]

/-- whatever `selSPEA2E` answers — on every tape of pivot draws — satisfies every SPEA2 clause of the
property: exactly `k` input objects, none twice, all non-dominated ones when at most `k` are, only
non-dominated ones when at least `k` are. -/
theorem spea2_e2e_spec (w : List β) (wv : List (List β)) (k : Nat) (tape : List Nat) (res : List Nat)
    (h : selSPEA2E (fun n => (n : β)) w wv k tape = some res) (hk : 1 ≤ k) (hkN : k ≤ wv.length) :
    res.length = k ∧ res.Nodup ∧ (∀ i ∈ res, i < wv.length) ∧
    (ndCount (domW wv) wv.length ≤ k →
      ∀ i, i < wv.length → NonDom (domW wv) wv.length i → i ∈ res) ∧
    (k ≤ ndCount (domW wv) wv.length → ∀ i ∈ res, NonDom (domW wv) wv.length i) := by
  obtain ⟨fits, rfl, _⟩ := selSPEA2E_eq w wv k tape res h
  exact ⟨spea2_len _ _ _ _ _ hk hkN, (spea2_sub_perm _ _ _ _ _ hk hkN).1,
    (spea2_sub_perm _ _ _ _ _ hk hkN).2,
    spea2_nd_clauses wv k fits (distE w wv) hk hkN⟩

example : selSPEA2E (fun n => ((n : Nat) : ℚ)) [1, 1] [[1, 2], [2, 1], [0, 0]] 2 [] = some [0, 1] := by
  decide +kernel

/-- `selSPEA2E` is `selSPEA2` for the squared distances of the fitness values and — archive too
small — for the line-759 values `raw fitness + 1 / (kth + 2)`, where `kth` is entry `⌊sqrt N⌋` of the
sorted row `[0.0] * (i + 1) + [dist(i, j) for j > i]` (the `⌊sqrt N⌋`-th nearest "neighbour" as the
code defines it). -/
theorem spea2_e2e_density (w : List β) (wv : List (List β)) (k : Nat) (tape : List Nat) (res : List Nat)
    (h : selSPEA2E (fun n => (n : β)) w wv k tape = some res) :
    ∃ fits : Nat → β,
      res = selSPEA2 (domW wv) wv.length k fits (distE w wv) ∧
      ((chosen0 (domW wv) wv.length).length < k → 2 ≤ wv.length →
        ∀ t, t < wv.length → ∃ kth,
          ((distRow (fun n => (n : β)) (fun i => valuesOf w (wv.getD i [])) wv.length t).mergeSort
            (fun x y => decide (x ≤ y)))[Nat.sqrt wv.length]? = some kth ∧
          fits t = (rawFit (domW wv) wv.length t : β) + 1 / (kth + 2)) :=
  selSPEA2E_eq w wv k tape res h

/-- `selSPEA2E` answers on every tape with `N (N - 1)` pivot draws (each of the `N` selections needs
at most `N - 1`). -/
theorem spea2_e2e_terminates (w : List β) (wv : List (List β)) (k : Nat) (tape : List Nat)
    (ht : wv.length * (wv.length - 1) ≤ tape.length) :
    (selSPEA2E (fun n => (n : β)) w wv k tape).isSome := by
  unfold selSPEA2E
  simp only []
  split
  · obtain ⟨p, hd⟩ := densLoop_total (domW wv) (fun i => valuesOf w (wv.getD i [])) wv.length
      wv.length 0 [] tape id ht
    rw [hd]; rfl
  · split <;> rfl

/-- archive too small (two non-dominated individuals, `k = 3`): an answer exists on the all-zero tape. -/
example : ∃ res, selSPEA2E (fun n => ((n : Nat) : ℚ)) [1, 1] [[1, 2], [2, 1], [0, 0], [0, 1]] 3
    (List.replicate 12 0) = some res :=
  Option.isSome_iff_exists.1 (spea2_e2e_terminates _ _ _ _ (by decide))

end SPEA2E

/-! ## NSGA-III (`niching`, `selNSGA3`, emo.py:492-573, 643-677)

`tape` carries the result of every `numpy.random.shuffle`; all theorems are for every tape. -/

section NSGA3
variable {α : Type} [LT α] [DecidableLT α]

/-- `niching` returns exactly `k` individuals. -/
theorem niching_len (L k nref : Nat) (niches : Nat → Nat) (dist : Nat → α) (counts0 : Nat → Nat)
    (tape : Tape) (st : NState) (h : niching L k nref niches dist counts0 tape = .ok st) :
    st.selected.length = k :=
  (niching_spec h).2

example : (match niching 3 2 2 (fun p => p % 2) (fun p => p) (fun _ => 0) [[1, 0], [1], [2, 0]] with
    | .ok st => st.selected | .error _ => []) = [1, 0] := by decide +kernel

/-- `niching` selects pairwise distinct members of the last front. -/
theorem niching_distinct (L k nref : Nat) (niches : Nat → Nat) (dist : Nat → α)
    (counts0 : Nat → Nat) (tape : Tape) (st : NState)
    (h : niching L k nref niches dist counts0 tape = .ok st) :
    st.selected.Nodup ∧ ∀ p ∈ st.selected, p < L :=
  ⟨(niching_spec h).1.nodup,
   (niching_spec h).1.lt⟩

/-- `niching` terminates and raises nothing: whatever the tape, the only failure is a tape that
does not fit (a draw that is not a permutation of the shuffled array, or too few draws). -/
theorem niching_terminates (L k nref : Nat) (niches : Nat → Nat) (dist : Nat → α)
    (counts0 : Nat → Nat) (tape : Tape) (hkL : k ≤ L) (hn : ∀ p, p < L → niches p < nref) :
    ∀ e, niching L k nref niches dist counts0 tape = .error e → e = Err.badTape :=
  fun _ he => (niching_run counts0 tape).err he ⟨hkL, hn⟩

example : (2 : Nat) ≤ 3 ∧ ∀ p, p < 3 → p % 2 < 2 := ⟨by decide, fun p _ => Nat.mod_lt _ (by decide)⟩

/-- niche balance: the final count of a niche is its initial count plus its selected last-front
members (`niche_counts` as mutated in place); a niche that received a member never ends more than
one above a niche that still has an unselected candidate. -/
theorem niche_balance (L k nref : Nat) (niches : Nat → Nat) (dist : Nat → α) (counts0 : Nat → Nat)
    (tape : Tape) (st : NState) (h : niching L k nref niches dist counts0 tape = .ok st) :
    (∀ j, st.counts j = counts0 j + st.selected.countP (fun p => niches p == j)) ∧
    ∀ a b, (∃ p ∈ st.selected, niches p = a) →
      (∃ q, q < L ∧ q ∉ st.selected ∧ niches q = b) → st.counts a ≤ st.counts b + 1 := by
  have inv := (niching_spec h).1
  refine ⟨inv.counts, ?_⟩
  intro a b ha ⟨q, hqL, hqs, hqb⟩
  exact inv.bal a b ha ⟨q, hqL, (inv.avail_iff q hqL).2 hqs, hqb⟩

/-- the premises of `niche_balance` on a concrete run: 3 last-front members (niches 0,1,0), k = 2:
niche 1 received member 1, niche 0 received member 0 and still has the unselected candidate 2;
final counts 1 and 1. -/
example : (match niching 3 2 2 (fun p => p % 2) (fun p => p) (fun _ => 0) [[1, 0], [1], [2, 0]] with
    | .ok st => decide ((∃ p ∈ st.selected, p % 2 = 1) ∧ (∃ q ∈ List.range 3, q ∉ st.selected ∧ q % 2 = 0) ∧
        st.counts 1 ≤ st.counts 0 + 1)
    | .error _ => false) = true := by decide +kernel

/-- `selNSGA3` returns exactly `k` individuals (the fronts before the last hold at most `k`). -/
theorem nsga3_len (fronts : List (List Nat)) (k : Nat) (niches : List Nat) (dist : List α)
    (dflt : α) (nref : Nat) (tape : Tape) (res : List Nat)
    (hk : fronts.dropLast.flatten.length ≤ k)
    (h : selNSGA3 fronts k niches dist dflt nref tape = .ok res) : res.length = k :=
  (selNSGA3_spec h).1 hk

example : (match selNSGA3 [[3, 1], [0, 2, 4]] 4 [0, 1, 0, 1, 1] [1, 2, 3, 1, 2] (0 : Nat) 2
    [[0, 1], [0], [2, 1]] with | .ok r => r | .error _ => []) = [3, 1, 0, 4] := by decide +kernel

/-- every returned individual is an input object and none is returned twice. -/
theorem nsga3_sub_perm (fronts : List (List Nat)) (k : Nat) (niches : List Nat) (dist : List α)
    (dflt : α) (nref : Nat) (tape : Tape) (res : List Nat) (hnd : fronts.flatten.Nodup)
    (h : selNSGA3 fronts k niches dist dflt nref tape = .ok res) :
    res.Nodup ∧ ∀ x ∈ res, x ∈ fronts.flatten :=
  ⟨(selNSGA3_spec h).2.2.1 hnd,
   (selNSGA3_spec h).2.1⟩

example : ([[3, 1], [0, 2, 4]] : List (List Nat)).flatten.Nodup := by decide

/-- front priority: an individual of a strictly better front than some front handed to the
selection is always returned — in particular none is left out in favour of a worse-front one. -/
theorem nsga3_front_priority (fronts : List (List Nat)) (k : Nat) (niches : List Nat)
    (dist : List α) (dflt : α) (nref : Nat) (tape : Tape) (res : List Nat)
    (h : selNSGA3 fronts k niches dist dflt nref tape = .ok res)
    (f1 f2 : Nat) (h12 : f1 < f2) (h2 : f2 < fronts.length) (y : Nat)
    (hy : y ∈ fronts.getD f1 []) : y ∈ res :=
  (selNSGA3_spec h).2.2.2.1 f1 f2 h12 h2 y hy

example : (0 : Nat) < 1 ∧ 1 < ([[3, 1], [0, 2, 4]] : List (List Nat)).length ∧
    3 ∈ ([[3, 1], [0, 2, 4]] : List (List Nat)).getD 0 [] := by decide

/-- niche balance on the result of `selNSGA3`: the niche counts are those of all selected
individuals (earlier fronts + chosen last-front members). -/
theorem nsga3_niche_balance (fronts : List (List Nat)) (k : Nat) (niches : List Nat)
    (dist : List α) (dflt : α) (nref : Nat) (tape : Tape) (res : List Nat)
    (h : selNSGA3 fronts k niches dist dflt nref tape = .ok res) :
    ∃ (last sel : List Nat), fronts.getLast? = some last ∧
      res = fronts.dropLast.flatten ++ sel.map (fun p => last.getD p 0) ∧
      sel.Nodup ∧ (∀ p ∈ sel, p < last.length) ∧
      ∀ a b, (∃ p ∈ sel, nichesL fronts niches p = a) →
        (∃ q, q < last.length ∧ q ∉ sel ∧ nichesL fronts niches q = b) →
        counts0L niches last a + sel.countP (fun p => nichesL fronts niches p == a) ≤
          counts0L niches last b + sel.countP (fun p => nichesL fronts niches p == b) + 1 :=
  (selNSGA3_spec h).2.2.2.2

/-- the premises on a concrete run: last front {0, 2, 4} with niches 0, 1, 1; members 0 (niche 0) and
4 (niche 1) are selected, member 2 (niche 1) is left: both niches received, niche 1 has a candidate
left; final counts 2 and 2. -/
example : (match selNSGA3 [[3, 1], [0, 2, 4]] 4 [0, 1, 0, 1, 1] [1, 2, 3, 1, 2] (0 : Nat) 2
    [[0, 1], [0], [2, 1]] with
    | .ok r => decide (0 ∈ r ∧ 4 ∈ r ∧ 2 ∉ r ∧ r.length = 4) | .error _ => false) = true := by decide +kernel

/-- `selNSGA3` (after sorting and association) terminates and raises nothing for `k ≤ n`. -/
theorem nsga3_terminates (fronts : List (List Nat)) (k : Nat) (niches : List Nat) (dist : List α)
    (dflt : α) (nref : Nat) (tape : Tape) (last : List Nat)
    (hl : fronts.getLast? = some last) (hk : k ≤ fronts.flatten.length)
    (hn : ∀ j ∈ niches, j < nref) (hlen : niches.length = fronts.flatten.length) :
    ∀ e, selNSGA3 fronts k niches dist dflt nref tape = .error e → e = Err.badTape :=
  fun _ he => (selNSGA3_run fronts k niches dist dflt nref tape).err he
    (fun h => by rw [h] at hl; cases hl) hk hn hlen

example : ([[3, 1], [0, 2, 4]] : List (List Nat)).getLast? = some [0, 2, 4] ∧
    4 ≤ ([[3, 1], [0, 2, 4]] : List (List Nat)).flatten.length ∧
    (∀ j ∈ [0, 1, 0, 1, 1], j < 2) ∧
    [0, 1, 0, 1, 1].length = ([[3, 1], [0, 2, 4]] : List (List Nat)).flatten.length := by decide

end NSGA3

/-! ## association (`associate_to_niche`, emo.py:623-641), over ℝ -/

/-- the coded distance is the Euclidean distance of the normalised point to its orthogonal
projection on the reference direction … -/
theorem associate_formula (fn r : List ℝ) (hlen : fn.length = r.length) (hr : ∃ x ∈ r, x ≠ 0) :
    perpDist fn r =
      Real.sqrt ((List.zipWith (fun f x => (f - (sdot fn r / sdot r r) * x) ^ 2) fn r).sum) :=
  perpDist_eq fn r hr

example : ([(3 : ℝ), 4].length = [(1 : ℝ), 0].length) ∧ ∃ x ∈ [(1 : ℝ), 0], x ≠ 0 :=
  ⟨rfl, 1, List.mem_cons_self, one_ne_zero⟩

/-- … i.e. the distance to the *line* through the origin and the reference point. -/
theorem associate_line_distance (fn r : List ℝ) (hlen : fn.length = r.length)
    (hr : ∃ x ∈ r, x ≠ 0) (t : ℝ) :
    perpDist fn r ≤ Real.sqrt ((List.zipWith (fun f x => (f - t * x) ^ 2) fn r).sum) := by
  have hS : 0 < sdot r r := sdot_self_pos r hr
  rw [perpDist_eq fn r hr]
  apply Real.sqrt_le_sqrt
  have h := sum_sq_diff fn r hlen hS t
  have h2 : 0 ≤ (t - sdot fn r / sdot r r) ^ 2 * sdot r r :=
    mul_nonneg (sq_nonneg _) hS.le
  linarith

example : ([(3 : ℝ), 4].length = [(1 : ℝ), 1].length) ∧ ∃ x ∈ [(1 : ℝ), 1], x ≠ 0 :=
  ⟨rfl, 1, by simp, by norm_num⟩

/-- each individual is associated with a reference point of smallest perpendicular distance
(the first one on ties) and the reported distance is that distance. -/
theorem associate_argmin (refs : List (List ℝ)) (best intercepts f : List ℝ) (hne : refs ≠ []) :
    let fn := normalise best intercepts f
    (associate1 refs best intercepts f).1 < refs.length ∧
    (∀ r ∈ refs, (associate1 refs best intercepts f).2 ≤ perpDist fn r) ∧
    (associate1 refs best intercepts f).2
      = perpDist fn (refs.getD (associate1 refs best intercepts f).1 []) := by
  intro fn
  obtain ⟨hlt, hle, _⟩ := argminIdx_map (perpDist fn) refs hne
  have h2 : (associate1 refs best intercepts f).2
      = perpDist fn (refs.getD (argminIdx (refs.map (perpDist fn))) []) := by
    show (refs.map (perpDist fn)).getD _ _ = _
    rw [List.getD_eq_getElem _ _ (by rw [List.length_map]; exact hlt), List.getElem_map,
      List.getD_eq_getElem _ _ hlt]
  rw [h2]
  exact ⟨hlt, hle, rfl⟩

example : [[(1 : ℝ), 0], [0, 1]] ≠ [] := List.cons_ne_nil _ _

/-- the association with every dimension explicit: all vectors have `M` coordinates (so no
`zipWith` truncation), the reference directions are non-zero, the denominators of the normalisation
are non-zero.  Then the normalised point has the `M` coordinates `(f_m - z_m)/(a_m - z_m + eps)`,
the chosen niche is a valid index, its reported distance is ≤ the distance from the normalised
point to EVERY point `t·r` of EVERY reference line, and equals the distance to the orthogonal
projection on the chosen line. -/
theorem associate_correct (M : Nat) (refs : List (List ℝ)) (best intercepts f : List ℝ)
    (hne : refs ≠ [])
    (hrefs : ∀ r ∈ refs, r.length = M ∧ ∃ x ∈ r, x ≠ 0)
    (hb : best.length = M) (hi : intercepts.length = M) (hf : f.length = M)
    (hden : ∀ d ∈ List.zipWith (fun i b => i - b + (eps : ℝ)) intercepts best, d ≠ 0) :
    let fn := normalise best intercepts f
    let res := associate1 refs best intercepts f
    fn.length = M ∧
    (∀ m (hm : m < M) (h1 : m < fn.length) (h2 : m < f.length) (h3 : m < best.length)
        (h4 : m < intercepts.length),
        fn[m] = (f[m] - best[m]) / (intercepts[m] - best[m] + eps)) ∧
    res.1 < refs.length ∧
    (∀ r ∈ refs, ∀ t : ℝ,
      res.2 ≤ Real.sqrt ((List.zipWith (fun a x => (a - t * x) ^ 2) fn r).sum)) ∧
    res.2 = Real.sqrt ((List.zipWith (fun a x =>
      (a - (sdot fn (refs.getD res.1 []) / sdot (refs.getD res.1 []) (refs.getD res.1 [])) * x) ^ 2)
        fn (refs.getD res.1 [])).sum) := by
  intro fn res
  have hfn : fn.length = M := normalise_length M best intercepts f hb hi hf
  obtain ⟨a1, a2, a3⟩ := associate_argmin refs best intercepts f hne
  have hmem : refs.getD res.1 [] ∈ refs := by
    rw [List.getD_eq_getElem _ _ a1]
    exact List.getElem_mem a1
  refine ⟨hfn, fun m hm h1 h2 h3 h4 => normalise_getElem best intercepts f m h1 h2 h3 h4, a1,
    fun r hr t => ?_, ?_⟩
  · obtain ⟨hrl, hr0⟩ := hrefs r hr
    exact le_trans (a2 r hr) (associate_line_distance fn r (by rw [hfn, hrl]) hr0 t)
  · obtain ⟨hrl, hr0⟩ := hrefs _ hmem
    rw [← perpDist_eq fn _ hr0]
    exact a3

example : ([[1, 0], [0, 1]] : List (List ℝ)) ≠ [] ∧
    (∀ r ∈ ([[1, 0], [0, 1]] : List (List ℝ)), r.length = 2 ∧ ∃ x ∈ r, x ≠ 0) :=
  ⟨nofun, List.forall_mem_cons.2 ⟨⟨rfl, 1, List.mem_cons_self, one_ne_zero⟩, List.forall_mem_cons.2
    ⟨⟨rfl, 1, List.mem_cons_of_mem _ List.mem_cons_self, one_ne_zero⟩, nofun⟩⟩⟩

example : ([[(1 : ℝ), 0], [0, 1], [1, 1]] : List (List ℝ)) ≠ [] ∧
    (∀ r ∈ ([[(1 : ℝ), 0], [0, 1], [1, 1]] : List (List ℝ)), r.length = 2 ∧ ∃ x ∈ r, x ≠ 0) ∧
    [(0 : ℝ), 0].length = 2 ∧ [(1 : ℝ), 2].length = 2 ∧ [(1 / 2 : ℝ), 1].length = 2 ∧
    (∀ d ∈ List.zipWith (fun i b => i - b + (eps : ℝ)) [(1 : ℝ), 2] [(0 : ℝ), 0], d ≠ 0) := by
  refine ⟨nofun, List.forall_mem_cons.2 ⟨⟨rfl, 1, List.mem_cons_self, one_ne_zero⟩, List.forall_mem_cons.2
    ⟨⟨rfl, 1, List.mem_cons_of_mem _ List.mem_cons_self, one_ne_zero⟩, List.forall_mem_cons.2
    ⟨⟨rfl, 1, List.mem_cons_self, one_ne_zero⟩, nofun⟩⟩⟩, rfl, rfl, rfl, fun d hd => ?_⟩
  have he := eps_pos
  simp at hd
  rcases hd with rfl | rfl <;> exact ne_of_gt (by linarith)

/-! ## normalisation (`selNSGA3` 546-557, `find_extreme_points` 577-593, `find_intercepts`
596-620), over ℝ; `numpy.linalg.solve` is the parameter `solve` -/

/-- the ideal point is the componentwise minimum of the population (and of the remembered ideal
point in the memory variant): a lower bound that is attained. -/
theorem ideal_min (r0 : List ℝ) (rs : List (List ℝ)) (hrect : ∀ r ∈ rs, r.length = r0.length) :
    ((idealPoint (r0 :: rs) none).length = r0.length ∧
      ∀ j (hj : j < r0.length) (h : j < (idealPoint (r0 :: rs) none).length),
        (∀ r ∈ r0 :: rs, ∀ hr : j < r.length, (idealPoint (r0 :: rs) none)[j] ≤ r[j]) ∧
        (∃ r ∈ r0 :: rs, ∃ hr : j < r.length, (idealPoint (r0 :: rs) none)[j] = r[j])) ∧
    (∀ m : List ℝ, m.length = r0.length →
      (idealPoint (r0 :: rs) (some m)).length = m.length ∧
      ∀ j (hj : j < m.length) (h : j < (idealPoint (r0 :: rs) (some m)).length),
        (idealPoint (r0 :: rs) (some m))[j] ≤ m[j] ∧
        (∀ r ∈ r0 :: rs, ∀ hr : j < r.length, (idealPoint (r0 :: rs) (some m))[j] ≤ r[j]) ∧
        ((idealPoint (r0 :: rs) (some m))[j] = m[j] ∨
          ∃ r ∈ r0 :: rs, ∃ hr : j < r.length, (idealPoint (r0 :: rs) (some m))[j] = r[j])) := by
  have h0 := stepSpec_ideal.2 r0 rs hrect
  refine ⟨⟨h0.1, fun j _ h => h0.2 j h⟩, fun m hm => ?_⟩
  have h1 := stepSpec_ideal.1 (r0 :: rs) m
    (List.forall_mem_cons.2 ⟨hm.symm, fun r h => (hrect r h).trans hm.symm⟩)
  exact ⟨h1.1, h1.split⟩

example : ∀ r ∈ [[(2 : ℝ), 7]], r.length = [(4 : ℝ), 1].length := by decide

/-- the extreme point of axis `j` is the first row (population, then remembered extreme points)
minimising the achievement scalarising function `max_m (f_m - ideal_m) · (1 if m = j else 1e6)`. -/
theorem extreme_argmin (fits : List (List ℝ)) (best : List ℝ) (ext : Option (List (List ℝ)))
    (hne : extRows fits ext ≠ []) (j : Nat) (hj : j < best.length) :
    ∃ i, i < (extRows fits ext).length ∧
      (findExtremePoints fits best ext).getD j [] = (extRows fits ext).getD i [] ∧
      (∀ r ∈ extRows fits ext,
        asf best.length j (List.zipWith (· - ·) ((extRows fits ext).getD i []) best) ≤
          asf best.length j (List.zipWith (· - ·) r best)) ∧
      (∀ i', i' < i →
        asf best.length j (List.zipWith (· - ·) ((extRows fits ext).getD i []) best) <
          asf best.length j (List.zipWith (· - ·) ((extRows fits ext).getD i' []) best)) := by
  obtain ⟨hlt, hle, hfirst⟩ := argminIdx_map
    (fun r => asf best.length j (List.zipWith (· - ·) r best)) (extRows fits ext) hne
  refine ⟨_, hlt, ?_, hle, hfirst⟩
  have : findExtremePoints fits best ext =
      (List.range best.length).map (fun j => (extRows fits ext).getD (argminIdx
        (((extRows fits ext).map (fun r => List.zipWith (· - ·) r best)).map (asf best.length j))) []) := by
    unfold findExtremePoints
    cases ext <;> rfl
  rw [this]
  simp [List.getD_eq_getElem?_getD, hj, Function.comp_def]

example : extRows [[(1 : ℝ), 2]] none ≠ [] ∧ 1 < [(0 : ℝ), 0].length := ⟨List.cons_ne_nil _ _, by simp⟩

/-- `find_intercepts` answers the worst point (singular system), the front's worst point (a zero
component or a failed acceptance test), or `1/x + ideal` for a solution that passed the acceptance
test (fix F21: the hyperplane intercepts are made absolute). -/
theorem intercepts_cases (solve : List (List ℝ) → List ℝ → Option (List ℝ))
    (extreme : List (List ℝ)) (best worst frontWorst : List ℝ) :
    let A := extreme.map (fun r => List.zipWith (· - ·) r best)
    let b := List.replicate best.length (RealLike.ofNat 1 : ℝ)
    (solve A b = none ∧ findIntercepts solve extreme best worst frontWorst = worst) ∨
    (findIntercepts solve extreme best worst frontWorst = frontWorst) ∨
    (∃ x, solve A b = some x ∧ x.any isZero = false ∧ acceptIntercepts A x best worst = true ∧
      findIntercepts solve extreme best worst frontWorst =
        List.zipWith (· + ·) (x.map (fun v => RealLike.ofNat 1 / v)) best) := by
  intro A b
  unfold findIntercepts
  simp only []
  split
  · next h => left; exact ⟨h, rfl⟩
  · next x h =>
    right
    split
    · left; rfl
    · next hz =>
      split
      · next ha => right; exact ⟨x, h, by simpa using hz, ha, rfl⟩
      · left; rfl

/-- accepted hyperplane intercepts: the contract `A·x = 1` holds up to `allclose`, every intercept
(measured from the ideal point) exceeds `1e-6`, and ideal + intercept stays within the worst point. -/
theorem intercepts_pos (A : List (List ℝ)) (x best worst : List ℝ)
    (h : acceptIntercepts A x best worst = true) :
    (∀ row ∈ A, |dot row x - 1| ≤ 1 / 100000000 + 1 / 100000 * |(1 : ℝ)|) ∧
    (∀ v ∈ x, (1 : ℝ) / 1000000 < 1 / v) ∧
    (∀ p ∈ List.zip (List.zipWith (· + ·) (x.map (fun v => (1 : ℝ) / v)) best) worst, p.1 ≤ p.2) :=
  acceptIntercepts_spec A x best worst h

example : acceptIntercepts [[(3 : ℝ), 0], [0, 3]] [1 / 3, 1 / 3] [5, 5] [8, 8] = true := accept_example

/-- the two fallback answers of the model's own normalisation are componentwise ≥ its ideal point. -/
theorem fallback_ge_ideal (r0 : List ℝ) (rs : List (List ℝ)) (hrect : ∀ r ∈ rs, r.length = r0.length) :
    (∀ p ∈ List.zip (colMax0 (r0 :: rs)) (idealPoint (r0 :: rs) none), p.2 ≤ p.1) ∧
    (∀ mb mw : List ℝ, mb.length = r0.length → mw.length = r0.length →
      (∀ p ∈ List.zip (colMax0 (r0 :: rs)) (idealPoint (r0 :: rs) (some mb)), p.2 ≤ p.1) ∧
      (∀ p ∈ List.zip (worstPoint (r0 :: rs) (some mw)) (idealPoint (r0 :: rs) (some mb)), p.2 ≤ p.1)) :=
  by
  have hmem : r0 ∈ r0 :: rs := List.mem_cons_self
  -- ideal ≤ r0 ≤ worst in every coordinate, with and without remembered points
  obtain ⟨iL, iJ⟩ := stepSpec_ideal.2 r0 rs hrect
  obtain ⟨wL, wJ⟩ := stepSpec_worst.2 r0 rs hrect
  have hi := fun j (hj : j < r0.length) h => (wJ j h).1 r0 hmem hj
  refine ⟨zip_le_through r0 _ _ iL wL (fun j hj h => (iJ j h).1 r0 hmem hj) hi, fun mb mw hb hw => ?_⟩
  have hr : ∀ m : List ℝ, m.length = r0.length → ∀ r ∈ r0 :: rs, r.length = m.length := fun m hm =>
    List.forall_mem_cons.2 ⟨hm.symm, fun r h => (hrect r h).trans hm.symm⟩
  obtain ⟨bL, bJ⟩ := stepSpec_ideal.1 (r0 :: rs) mb (hr mb hb)
  obtain ⟨mL, mJ⟩ := stepSpec_worst.1 (r0 :: rs) mw (hr mw hw)
  have lo := fun j (hj : j < r0.length) h => (bJ j h).1 r0 (List.mem_append_left _ hmem) hj
  exact ⟨zip_le_through r0 _ _ (bL.trans hb) wL lo hi,
    zip_le_through r0 _ _ (bL.trans hb) (mL.trans hw) lo
      (fun j hj h => (mJ j h).1 r0 (List.mem_append_left _ hmem) hj)⟩

example : ∀ r ∈ [[(2 : ℝ), 7]], r.length = [(4 : ℝ), 1].length := by decide

/-- the normalisation (line 627) never divides by a non-positive number: for every answer of
`solve`, every remembered extreme-point set, with and without memory, each denominator
`intercept - ideal + eps` of the model's own normalisation is positive. -/
theorem norm_denominator_pos (solve : List (List ℝ) → List ℝ → Option (List ℝ))
    (r0 : List ℝ) (rs : List (List ℝ)) (hrect : ∀ r ∈ rs, r.length = r0.length)
    (me : Option (List (List ℝ))) :
    (∀ d ∈ List.zipWith (fun i b => i - b + (eps : ℝ))
        (normalisation solve (r0 :: rs) none none me).2.2.2
        (normalisation solve (r0 :: rs) none none me).1, 0 < d) ∧
    (∀ mb mw : List ℝ, mb.length = r0.length → mw.length = r0.length →
      ∀ d ∈ List.zipWith (fun i b => i - b + (eps : ℝ))
        (normalisation solve (r0 :: rs) (some mb) (some mw) me).2.2.2
        (normalisation solve (r0 :: rs) (some mb) (some mw) me).1, 0 < d) := by
  have key : ∀ (best worst fw : List ℝ) (extreme : List (List ℝ)),
      (∀ p ∈ List.zip worst best, p.2 ≤ p.1) → (∀ p ∈ List.zip fw best, p.2 ≤ p.1) →
      ∀ d ∈ List.zipWith (fun i b => i - b + (eps : ℝ))
        (findIntercepts solve extreme best worst fw) best, 0 < d := by
    intro best worst fw extreme hw hf d hd
    rcases intercepts_cases solve extreme best worst fw with ⟨_, h⟩ | h | ⟨x, _, _, ha, h⟩
    · rw [h] at hd; exact (denominator_pos_of_ge worst best hw d hd).2
    · rw [h] at hd; exact (denominator_pos_of_ge fw best hf d hd).2
    · rw [h] at hd
      have hpos : ∀ v ∈ x.map (fun v => (RealLike.ofNat 1 : ℝ) / v), 0 < v := by
        intro v hv
        obtain ⟨u, hu, rfl⟩ := List.mem_map.1 hv
        have := (acceptIntercepts_spec _ x best worst ha).2.1 u hu
        rw [show (RealLike.ofNat 1 / u : ℝ) = 1 / u by simp only [RealLike.real_ofNat, Nat.cast_one]]
        exact lt_trans (by norm_num) this
      exact lt_trans eps_pos (denominator_pos_fixed_aux _ best hpos d hd)
  obtain ⟨f1, f2⟩ := fallback_ge_ideal r0 rs hrect
  exact ⟨key _ _ _ _ f1 f1, fun mb mw hb hw => key _ _ _ _ (f2 mb mw hb hw).2 (f2 mb mw hb hw).1⟩

example : ∀ r ∈ [[(8 : ℝ), 5], [5, 8]], r.length = [(6 : ℝ), 6].length := by decide

/-- the formula BEFORE fix F21 (accepted intercepts returned as `1/x`, relative to the ideal point,
and the ideal point subtracted again in line 627): denominators positive for every accepted `x`. -/
def old_formula_denominator_pos : Prop :=
  ∀ (A : List (List ℝ)) (x best worst : List ℝ), acceptIntercepts A x best worst = true →
    ∀ d ∈ List.zipWith (fun i b => i - b + (eps : ℝ)) (x.map (fun v => (1 : ℝ) / v)) best, 0 < d

/-- the old formula was wrong: ideal (5,5), extreme points (8,5),(5,8), worst (8,8) — accepted
intercepts (3,3), denominators `3 - 5 + eps < 0`. -/
theorem old_formula_refuted : ¬ old_formula_denominator_pos := fun h =>
  have hd : (1 : ℝ) / (1 / 3) - 5 + eps ∈ List.zipWith (fun i b => i - b + (eps : ℝ))
      ([1 / 3, 1 / 3].map (fun v => (1 : ℝ) / v)) [5, 5] := by simp
  lt_asymm (h [[3, 0], [0, 3]] [1 / 3, 1 / 3] [5, 5] [8, 8] accept_example _ hd) (old_denominators_neg _ hd)

/-- translation invariance of the association: shifting every objective vector, the remembered
ideal / worst point and the remembered extreme points by one constant vector `c` leaves every niche
and every distance unchanged — for the SAME `solve` on both sides (nothing is assumed about it: it
only ever sees `extreme - ideal` and the vector of ones, which the translation does not change). -/
theorem association_translation_invariant
    (solve : List (List ℝ) → List ℝ → Option (List ℝ))
    (fits refs : List (List ℝ)) (c : List ℝ)
    (mb mw : Option (List ℝ)) (me : Option (List (List ℝ)))
    (hne : fits ≠ [])
    (hfits : ∀ r ∈ fits, r.length = c.length)
    (hmb : ∀ m, mb = some m → m.length = c.length)
    (hmw : ∀ m, mw = some m → m.length = c.length)
    (hme : ∀ e, me = some e → ∀ r ∈ e, r.length = c.length) :
    let n  := normalisation solve fits mb mw me
    let n' := normalisation solve (fits.map (Transl.shift c)) (mb.map (Transl.shift c))
                (mw.map (Transl.shift c)) (me.map (List.map (Transl.shift c)))
    associate (fits.map (Transl.shift c)) refs n'.1 n'.2.2.2 = associate fits refs n.1 n.2.2.2 :=
  Transl.association_translation_invariant solve fits refs c mb mw me hne hfits hmb hmw hme

example : ([[1, 2], [3, 0]] : List (List ℝ)) ≠ [] ∧
    ∀ r ∈ ([[1, 2], [3, 0]] : List (List ℝ)), r.length = ([5, 7] : List ℝ).length := by decide

/-! ## NSGA-III end to end: Pareto depth (C04), own normalisation and association -/

/-- front priority in terms of the Pareto depth of C04: whenever the fronts handed to the
selection are the depth classes of the population (`hfr`, which is what C04 proves for both
sorting back-ends), no omitted individual has a strictly smaller depth — lies in a strictly
better front — than a selected one. -/
theorem nsga3_depth_priority {β : Type} [DecidableEq β] {γ : Type} [LT γ] [DecidableLT γ]
    (dom : β → β → Bool) (S : List β) (idOf : β → Nat)
    (hinj : ∀ x ∈ S, ∀ y ∈ S, idOf x = idOf y → x = y)
    (fr : List (List β))
    (hfr : ∀ i f, fr[i]? = some f → ∀ x, x ∈ f ↔ x ∈ S ∧ depth dom S x = i)
    (k : Nat) (niches : List Nat) (dist : List γ) (dflt : γ) (nref : Nat) (tape : Tape) (res : List Nat)
    (h : selNSGA3 (fr.map (·.map idOf)) k niches dist dflt nref tape = .ok res) :
    ∀ x ∈ S, ∀ y ∈ S, idOf x ∈ res → depth dom S y < depth dom S x → idOf y ∈ res := by
  intro x hx y hy hxr hlt
  obtain ⟨-, hfl, -, hprio, -⟩ := selNSGA3_spec h
  obtain ⟨l, hl, hxl⟩ := List.mem_flatten.1 (hfl _ hxr)
  obtain ⟨f, hf, rfl⟩ := List.mem_map.1 hl
  obtain ⟨x', hx'f, hx'⟩ := List.mem_map.1 hxl
  obtain ⟨f2, h2, hf2⟩ := List.getElem_of_mem hf
  have hget2 : fr[f2]? = some f := by rw [List.getElem?_eq_getElem h2, hf2]
  have hx'S := (hfr f2 f hget2 x').1 hx'f
  have hxx : x' = x := hinj x' hx'S.1 x hx hx'
  have hdx : depth dom S x = f2 := hxx ▸ hx'S.2
  have h1 : depth dom S y < fr.length := by omega
  have hyf : y ∈ fr[depth dom S y] := (hfr _ _ (List.getElem?_eq_getElem h1) y).2 ⟨hy, rfl⟩
  refine hprio (depth dom S y) f2 (hdx ▸ hlt) (by simpa using h2) (idOf y) ?_
  rw [List.getD_eq_getElem _ _ (by simpa using h1), List.getElem_map]
  exact List.mem_map.2 ⟨y, hyf, rfl⟩

/-- the hypotheses of `C07.nsga3_depth_priority` on a concrete instance: four individuals, `k = 2`,
the fronts of `sortNondominated` (`[[0], [1, 2]]` as ids); the first front is taken whole and the
niching picks individual `2` out of the last front — individual `1` (same depth) is omitted. -/
example :
    (∀ x ∈ exPopD, ∀ y ∈ exPopD, x.id = y.id → x = y) ∧
    (∀ i f, ([[⟨0, [2, 2]⟩], [⟨1, [1, 0]⟩, ⟨2, [0, 1]⟩]] : List (List (Ind Int)))[i]? = some f →
      ∀ x, x ∈ f ↔ x ∈ exPopD ∧ depth domI exPopD x = i) ∧
    selNSGA3 (([[⟨0, [2, 2]⟩], [⟨1, [1, 0]⟩, ⟨2, [0, 1]⟩]] : List (List (Ind Int))).map (·.map (·.id)))
      2 [0, 0, 1] ([0, 5, 3] : List Int) 0 2 [[1], [1]] = .ok [0, 2] := by
  refine ⟨by decide, ?_, by decide⟩
  exact C04.sortStd_front_iff_depth exPopD (by decide) 2 (by decide) 2 _ (by decide)

/-- … with the fronts computed by `sortNondominated` (C04 model `sortStd`).  (In the example below
the population `exPopD` has depths 0,1,1,2; with `k = 2` the second front is cut.) -/
theorem nsga3_depth_priority_std {α : Type} [LinearOrder α] {γ : Type} [LT γ] [DecidableLT γ]
    (pop : List (Ind α)) (hne : pop ≠ []) (m : Nat) (hlen : ∀ x ∈ pop, x.w.length = m)
    (hid : (pop.map (·.id)).Nodup) (k : Nat) (fr : List (List (Ind α)))
    (hs : sortStd pop k false = some fr)
    (niches : List Nat) (dist : List γ) (dflt : γ) (nref : Nat) (tape : Tape) (res : List Nat)
    (h : selNSGA3 (fr.map (·.map (·.id))) k niches dist dflt nref tape = .ok res) :
    ∀ x ∈ pop, ∀ y ∈ pop, x.id ∈ res → depth domI pop y < depth domI pop x → y.id ∈ res :=
  nsga3_depth_priority domI pop (·.id) (id_inj_of_nodup pop hid) fr
    (C04.sortStd_front_iff_depth pop hne m hlen k fr hs) k niches dist dflt nref tape res h

example : exPopD ≠ [] ∧ (∀ x ∈ exPopD, x.w.length = 2) ∧ (exPopD.map (·.id)).Nodup ∧
    sortStd exPopD 2 false = some [[⟨0, [2, 2]⟩], [⟨1, [1, 0]⟩, ⟨2, [0, 1]⟩]] := by decide +kernel

example : exPopD ≠ [] ∧ (∀ x ∈ exPopD, x.w.length = 2) ∧ (exPopD.map (·.id)).Nodup ∧
    sortStd exPopD 2 false = some [[⟨0, [2, 2]⟩], [⟨1, [1, 0]⟩, ⟨2, [0, 1]⟩]] ∧
    selNSGA3 (([[⟨0, [2, 2]⟩], [⟨1, [1, 0]⟩, ⟨2, [0, 1]⟩]] : List (List (Ind Int))).map (·.map (·.id)))
      2 [0, 0, 1] ([0, 5, 3] : List Int) 0 2 [[1], [1]] = .ok [0, 2] := by decide +kernel

/-- … and by `sortLogNondominated` (C04 model `sortLog`, at least two objectives). -/
theorem nsga3_depth_priority_log {𝕜 : Type} [Field 𝕜] [LinearOrder 𝕜] [IsStrictOrderedRing 𝕜]
    [Inhabited 𝕜] {γ : Type} [LT γ] [DecidableLT γ]
    (pop : List (Ind 𝕜)) (m : Nat) (hm : 2 ≤ m) (hne : pop ≠ []) (hlen : ∀ x ∈ pop, x.w.length = m)
    (hid : (pop.map (·.id)).Nodup) (k : Nat) (fr : List (List (Ind 𝕜)))
    (hs : sortLog pop k = some fr)
    (niches : List Nat) (dist : List γ) (dflt : γ) (nref : Nat) (tape : Tape) (res : List Nat)
    (h : selNSGA3 (fr.map (·.map (·.id))) k niches dist dflt nref tape = .ok res) :
    ∀ x ∈ pop, ∀ y ∈ pop, x.id ∈ res → depth domI pop y < depth domI pop x → y.id ∈ res :=
  nsga3_depth_priority domI pop (·.id) (id_inj_of_nodup pop hid) fr
    (C04.sortLog_front_iff_depth pop m hm hne hlen k fr hs) k niches dist dflt nref tape res h

example : (2 : Nat) ≤ 2 ∧ ([⟨0, [2, 2]⟩, ⟨1, [1, 0]⟩, ⟨2, [1, 0]⟩] : List (Ind ℚ)) ≠ [] ∧
    (([⟨0, [2, 2]⟩, ⟨1, [1, 0]⟩, ⟨2, [1, 0]⟩] : List (Ind ℚ)).map (·.id)).Nodup := by decide

example : (2 : Nat) ≤ 2 ∧
    ([⟨0, [2, 2]⟩, ⟨1, [1, 0]⟩, ⟨2, [1, 0]⟩] : List (Ind ℚ)) ≠ [] ∧
    (∀ x ∈ ([⟨0, [2, 2]⟩, ⟨1, [1, 0]⟩, ⟨2, [1, 0]⟩] : List (Ind ℚ)), x.w.length = 2) ∧
    (([⟨0, [2, 2]⟩, ⟨1, [1, 0]⟩, ⟨2, [1, 0]⟩] : List (Ind ℚ)).map (·.id)).Nodup ∧
    sortLog ([⟨0, [2, 2]⟩, ⟨1, [1, 0]⟩, ⟨2, [1, 0]⟩] : List (Ind ℚ)) 2 =
      some [[⟨0, [2, 2]⟩], [⟨1, [1, 0]⟩, ⟨2, [1, 0]⟩]] ∧
    selNSGA3 (([[⟨0, [2, 2]⟩], [⟨1, [1, 0]⟩, ⟨2, [1, 0]⟩]] : List (List (Ind ℚ))).map (·.map (·.id)))
      2 [0, 0, 1] ([0, 5, 3] : List Int) 0 2 [[1], [1]] = .ok [0, 2] := by
  refine ⟨by decide, by simp, by decide, by decide, ?_, by decide⟩
  simp [sortLog, logRanks, dset, dget, dkeys, dvalues, helperA, logFronts, logTruncate, logTruncate.go,
    List.modify, List.mergeSort, Py.tupleLt, isDominated, isDominatedLoop, bump]

section Full
variable {α : Type} [RealLike α]

/-- `selNSGA3Full` = normalisation → association → niching, nothing taken as input but the fronts,
the objective vectors, the reference points, the memory, `solve` and the tape: exactly `k`
individuals, input objects none twice, earlier fronts whole, and niche balance where the niche of
an individual is the reference index ITS OWN association (`assocOf`) gives it and the counts are
those of the returned selection. -/
theorem nsga3_full_spec (solve : List (List α) → List α → Option (List α)) (fronts : List (List Nat))
    (k : Nat) (fitOf : Nat → List α) (refs : List (List α)) (mb mw : Option (List α))
    (me : Option (List (List α))) (tape : Tape) (res : List Nat)
    (h : selNSGA3Full solve fronts k fitOf refs mb mw me tape = .ok res) :
    (fronts.dropLast.flatten.length ≤ k → res.length = k) ∧
    (fronts.flatten.Nodup → res.Nodup ∧ ∀ x ∈ res, x ∈ fronts.flatten) ∧
    (∀ f1 f2, f1 < f2 → f2 < fronts.length → ∀ y ∈ fronts.getD f1 [], y ∈ res) ∧
    ∃ (last sel : List Nat), fronts.getLast? = some last ∧
      res = fronts.dropLast.flatten ++ sel.map (fun p => last.getD p 0) ∧
      sel.Nodup ∧ (∀ p ∈ sel, p < last.length) ∧
      ∀ a b,
        (∃ p ∈ sel, (assocOf solve fronts fitOf refs mb mw me (fitOf (last.getD p 0))).1 = a) →
        (∃ q, q < last.length ∧ q ∉ sel ∧
          (assocOf solve fronts fitOf refs mb mw me (fitOf (last.getD q 0))).1 = b) →
        (res.map (fun i => (assocOf solve fronts fitOf refs mb mw me (fitOf i)).1)).count a ≤
          (res.map (fun i => (assocOf solve fronts fitOf refs mb mw me (fitOf i)).1)).count b + 1 := by
  rw [selNSGA3Full_eq] at h
  set g : Nat → Nat := fun i => (assocOf solve fronts fitOf refs mb mw me (fitOf i)).1
  obtain ⟨h1, h2, h3, h4, last, sel, hl, hres, hnd, hlt, hbal⟩ := selNSGA3_spec h
  refine ⟨h1, fun hn => ⟨h3 hn, h2⟩, h4, last, sel, hl, hres, hnd, hlt, ?_⟩
  intro a b ⟨p, hp, hpa⟩ ⟨q, hq, hqs, hqb⟩
  have hn := nichesL_full fronts last g hl
  have := hbal a b ⟨p, hp, by rw [hn p (hlt p hp)]; exact hpa⟩ ⟨q, hq, hqs, by rw [hn q hq]; exact hqb⟩
  rw [counts0L_full fronts last g hl, counts0L_full fronts last g hl] at this
  have hc : ∀ j, (res.map g).count j =
      (fronts.dropLast.flatten.map g).count j + sel.countP (fun p => nichesL fronts (fronts.flatten.map g) p == j) := by
    intro j
    rw [hres, List.map_append, List.count_append, List.map_map]
    congr 1
    rw [List.count, List.countP_map]
    exact List.countP_congr fun p hp => by simp only [Function.comp_def, hn p (hlt p hp)]
  rw [hc a, hc b]
  exact this

example : ([[3], [0, 1, 2]] : List (List Nat)).dropLast.flatten.length ≤ 3 ∧
    ([[3], [0, 1, 2]] : List (List Nat)).flatten.Nodup ∧
    (0 < 1 ∧ 1 < ([[3], [0, 1, 2]] : List (List Nat)).length ∧ 3 ∈ ([[3], [0, 1, 2]] : List (List Nat)).getD 0 []) := by
  decide

/-- `selNSGA3Full` terminates and raises nothing for `k ≤ n` and a non-empty reference set — the
niche numbers it consumes are valid by construction. -/
theorem nsga3_full_terminates (solve : List (List α) → List α → Option (List α))
    (fronts : List (List Nat)) (k : Nat) (fitOf : Nat → List α) (refs : List (List α))
    (mb mw : Option (List α)) (me : Option (List (List α))) (tape : Tape) (last : List Nat)
    (hl : fronts.getLast? = some last) (hk : k ≤ fronts.flatten.length) (hne : refs ≠ []) :
    ∀ e, selNSGA3Full solve fronts k fitOf refs mb mw me tape = .error e → e = Err.badTape := by
  rw [selNSGA3Full_eq]
  refine nsga3_terminates fronts k _ _ _ _ tape last hl hk (fun j hj => ?_) (by rw [List.length_map])
  obtain ⟨i, _, rfl⟩ := List.mem_map.1 hj
  exact assocOf_lt solve fronts fitOf refs mb mw me hne _

example : ([[3], [0, 1, 2]] : List (List Nat)).getLast? = some [0, 1, 2] ∧
    3 ≤ ([[3], [0, 1, 2]] : List (List Nat)).flatten.length ∧
    ([[0.0, 1.0], [1.0, 0.0]] : List (List Float)) ≠ [] := ⟨by decide, by decide, List.cons_ne_nil _ _⟩

end Full

/-- every niche consumed by `selNSGA3Full` is the association of that individual with the model's
own ideal point and intercepts (`assocOf … = associate1 refs best intercepts`), hence — dimensions
as in `associate_correct` — a reference direction of smallest perpendicular distance in the
normalised objective space. -/
theorem nsga3_full_association (solve : List (List ℝ) → List ℝ → Option (List ℝ))
    (fronts : List (List Nat)) (fitOf : Nat → List ℝ) (refs : List (List ℝ))
    (mb mw : Option (List ℝ)) (me : Option (List (List ℝ))) (f : List ℝ) :
    assocOf solve fronts fitOf refs mb mw me f =
      associate1 refs (normalisation solve (fronts.flatten.map fitOf) mb mw me).1
        (normalisation solve (fronts.flatten.map fitOf) mb mw me).2.2.2 f := rfl

/-! ### `selNSGA3` end to end (`selNSGA3E`): the non-dominated sort included -/

section NSGA3E
variable {α : Type} [RealLike α]
variable {𝕜 : Type} [Field 𝕜] [LinearOrder 𝕜] [IsStrictOrderedRing 𝕜] [Inhabited 𝕜]

/-- `selNSGA3E` = the C04 model of `sortNondominated` / `sortLogNondominated` on the weighted values →
`-wvalues` → normalisation → association → niching, nothing taken from the implementation but `solve`
and the shuffles.  Whatever it answers: exactly `k` individuals (for `k ≤ n`), input objects none
twice, no omitted individual of a strictly better front (smaller Pareto depth) than a selected one,
and it is an answer of `selNSGA3Full` on the fronts the sort computed — so the balance and
association clauses of `nsga3_full_spec` / `nsga3_full_association` hold for it. -/
theorem nsga3_e2e_spec (toF : 𝕜 → α) (solve : List (List α) → List α → Option (List α))
    (logSort : Bool) (wv : List (List 𝕜)) (k : Nat) (refs : List (List α)) (mb mw : Option (List α))
    (me : Option (List (List α))) (tape : Tape) (res : List Nat)
    (h : selNSGA3E toF solve logSort wv k refs mb mw me tape = .ok res)
    (hne : wv ≠ []) (m : Nat) (hlen : ∀ x ∈ wv, x.length = m) (hm : logSort = true → 2 ≤ m)
    (hk : 1 ≤ k) (hkN : k ≤ wv.length) :
    res.length = k ∧ res.Nodup ∧ (∀ i ∈ res, i < wv.length) ∧
    (∀ x ∈ mkPop wv, ∀ y ∈ mkPop wv, x.id ∈ res →
      depth domI (mkPop wv) y < depth domI (mkPop wv) x → y.id ∈ res) ∧
    ∃ fronts, sortBy logSort wv k = some fronts ∧
      selNSGA3Full solve fronts k (fun i => (wv.getD i []).map (fun x => - toF x)) refs mb mw me tape
        = .ok res := by
  obtain ⟨fr, hs, hperm, hdepth⟩ := sortBy_some logSort wv k hne m hlen hm
  unfold selNSGA3E at h
  simp only [hs] at h
  obtain ⟨s1, s2, s3, _⟩ := sortBy_shape wv k m hlen fr hperm
  obtain ⟨f1, f2, _, _⟩ := nsga3_full_spec solve _ k _ refs mb mw me tape res h
  refine ⟨f1 s3, (f2 s1).1, fun i hi => s2 i ((f2 s1).2 i hi), ?_, _, hs, h⟩
  rw [selNSGA3Full_eq] at h
  exact nsga3_depth_priority domI (mkPop wv) (·.id)
    (id_inj_of_nodup _ (by rw [mkPop_ids]; exact List.nodup_range)) fr hdepth k _ _ _ _ tape res h

example : sortBy false ([[2, 2], [1, 0], [0, 1], [0, 0]] : List (List ℚ)) 2 = some [[0], [1, 2]] ∧
    ([[2, 2], [1, 0], [0, 1], [0, 0]] : List (List ℚ)) ≠ [] ∧
    (∀ x ∈ ([[2, 2], [1, 0], [0, 1], [0, 0]] : List (List ℚ)), x.length = 2) := by
  refine ⟨by decide +kernel, by simp, by decide⟩

/-- `selNSGA3E` terminates and raises nothing (1 ≤ k ≤ n, a non-empty reference set): the sort
terminates (C04) and the only failure left is a tape that does not fit. -/
theorem nsga3_e2e_terminates (toF : 𝕜 → α) (solve : List (List α) → List α → Option (List α))
    (logSort : Bool) (wv : List (List 𝕜)) (k : Nat) (refs : List (List α)) (mb mw : Option (List α))
    (me : Option (List (List α))) (tape : Tape)
    (hne : wv ≠ []) (m : Nat) (hlen : ∀ x ∈ wv, x.length = m) (hm : logSort = true → 2 ≤ m)
    (hk : 1 ≤ k) (hkN : k ≤ wv.length) (hr : refs ≠ []) :
    ∀ e, selNSGA3E toF solve logSort wv k refs mb mw me tape = .error e → e = Err.badTape := by
  obtain ⟨fr, hs, hperm, _⟩ := sortBy_some logSort wv k hne m hlen hm
  obtain ⟨_, _, _, s4⟩ := sortBy_shape wv k m hlen fr hperm
  rw [Nat.min_eq_left hkN] at s4
  unfold selNSGA3E
  simp only [hs]
  cases hg : (fr.map (·.map (·.id))).getLast? with
  | none => rw [List.getLast?_eq_none_iff.1 hg] at s4; simp at s4; omega
  | some last => exact nsga3_full_terminates solve _ k _ refs mb mw me tape last hg s4 hr

example : (1 : Nat) ≤ 2 ∧ 2 ≤ ([[2, 2], [1, 0], [0, 1], [0, 0]] : List (List ℚ)).length ∧
    ([[0.0, 1.0], [1.0, 0.0]] : List (List Float)) ≠ [] := ⟨by decide, by decide, List.cons_ne_nil _ _⟩

end NSGA3E

/-! ## reference points (`uniform_reference_points`, emo.py:680-701) -/

/-- exactly C(M+p-1, p) points. -/
theorem refpoints_card (nobj p : Nat) (hn : 1 ≤ nobj) (hp : 1 ≤ p) (s : Option Rat) :
    (uniformRefPoints nobj p s).length = Nat.choose (nobj + p - 1) p := by
  have e : nobj - 1 + p = nobj + p - 1 := by omega
  cases s with
  | none => simp only [uniformRefPoints, genRefs_length, e]
  | some s => simp only [uniformRefPoints, List.length_map, genRefs_length, e]

example : (uniformRefPoints 3 2 none).length = 6 := by decide

/-- pairwise distinct (with a scaling factor: whenever it is non-zero). -/
theorem refpoints_nodup (nobj p : Nat) (hn : 1 ≤ nobj) (hp : 1 ≤ p) :
    (uniformRefPoints nobj p none).Nodup ∧
    ∀ s : Rat, s ≠ 0 → (uniformRefPoints nobj p (some s)).Nodup :=
  have hnd := genRefs_nodup p (by omega) (nobj - 1) (List.replicate nobj 0) p 0 (by simp; omega)
  ⟨hnd, fun s hs => List.Nodup.map
    (List.map_injective_iff.2 ((add_left_injective _).comp (mul_left_injective₀ hs))) hnd⟩

example : (1 : Nat) ≤ 3 ∧ (1 : Nat) ≤ 2 ∧ (1 / 2 : Rat) ≠ 0 := by
  refine ⟨by decide, by decide, by norm_num⟩

/-- on the simplex: `nobj` coordinates, all non-negative (with scaling `0 ≤ s ≤ 1`: shrinking
towards the centroid), summing to 1 (for every scaling factor). -/
theorem refpoints_simplex (nobj p : Nat) (hn : 1 ≤ nobj) (hp : 1 ≤ p) :
    (∀ s, ∀ pt ∈ uniformRefPoints nobj p s, pt.length = nobj ∧ pt.sum = 1) ∧
    (∀ pt ∈ uniformRefPoints nobj p none, ∀ x ∈ pt, 0 ≤ x) ∧
    (∀ s : Rat, 0 ≤ s → s ≤ 1 → ∀ pt ∈ uniformRefPoints nobj p (some s), ∀ x ∈ pt, 0 ≤ x) :=
  by
  have hp' : (p : Rat) ≠ 0 := Nat.cast_ne_zero.2 (by omega)
  have base := base_mem nobj p hn
  refine ⟨fun s pt hpt => ?_, fun pt hpt => (base pt hpt).2.2, fun s h0 h1 pt hpt x hx => ?_⟩
  · cases s with
    | none => exact ⟨(base pt hpt).1, by rw [(base pt hpt).2.1, div_self hp']⟩
    | some s =>
      obtain ⟨q, hq, rfl⟩ := List.mem_map.1 hpt
      obtain ⟨h1, h2, _⟩ := base q hq
      refine ⟨by rw [List.length_map, h1], ?_⟩
      rw [sum_map_affine, h1, h2, div_self hp']
      field_simp
      ring
  · obtain ⟨q, hq, rfl⟩ := List.mem_map.1 hpt
    obtain ⟨y, hy, rfl⟩ := List.mem_map.1 hx
    exact add_nonneg (mul_nonneg ((base q hq).2.2 y hy) h0)
      (div_nonneg (by linarith) (Nat.cast_nonneg _))

example : (0 : Rat) ≤ 1 / 2 ∧ (1 / 2 : Rat) ≤ 1 := by constructor <;> norm_num

/-! ## memory of `selNSGA3WithMemory` -/

section Memory
variable {β : Type} [LinearOrder β]

/-- the remembered best point is the componentwise minimum of everything seen: it never gets
worse and does not depend on the order of the individuals. -/
theorem memory_best (rows rows' : List (List β)) (mem : List β)
    (hrect : ∀ r ∈ rows, r.length = mem.length) :
    (colMin rows mem).length = mem.length ∧
    (∀ j (hj : j < mem.length) (h : j < (colMin rows mem).length),
      (colMin rows mem)[j] ≤ mem[j] ∧ ∀ r ∈ rows, ∀ hr : j < r.length, (colMin rows mem)[j] ≤ r[j]) ∧
    (rows.Perm rows' → colMin rows mem = colMin rows' mem) :=
  ⟨colMin_length rows mem hrect,
   fun j hj _ => ⟨(colMin_getElem rows mem hrect j hj).1, (colMin_getElem rows mem hrect j hj).2.1⟩,
   colF_perm selMin rows rows' mem hrect⟩

/-- the remembered worst point likewise (componentwise maximum). -/
theorem memory_worst (rows rows' : List (List β)) (mem : List β)
    (hrect : ∀ r ∈ rows, r.length = mem.length) :
    (colMax rows mem).length = mem.length ∧
    (∀ j (hj : j < mem.length) (h : j < (colMax rows mem).length),
      mem[j] ≤ (colMax rows mem)[j] ∧ ∀ r ∈ rows, ∀ hr : j < r.length, r[j] ≤ (colMax rows mem)[j]) ∧
    (rows.Perm rows' → colMax rows mem = colMax rows' mem) :=
  ⟨colMax_length rows mem hrect,
   fun j hj _ => ⟨(colMax_getElem rows mem hrect j hj).1, (colMax_getElem rows mem hrect j hj).2.1⟩,
   colF_perm selMax rows rows' mem hrect⟩

example : (∀ r ∈ [[3, 1], [2, 5]], r.length = [(4 : Nat), 0].length) ∧
    [[(3 : Nat), 1], [2, 5]].Perm [[2, 5], [3, 1]] := ⟨by decide, List.Perm.swap _ _ _⟩

end Memory

/-- `selNSGA3WithMemory` over any sequence of calls: the remembered ideal point is the
componentwise minimum of every objective vector seen in all calls so far (a lower bound that is
attained), the remembered worst point the componentwise maximum. -/
theorem memory_after_calls (solve : List (List ℝ) → List ℝ → Option (List ℝ))
    (calls : List (List (List ℝ))) (M : Nat) (hne : calls ≠ [])
    (hrect : ∀ fits ∈ calls, fits ≠ [] ∧ ∀ r ∈ fits, r.length = M) :
    (∃ b, (memAfter solve Mem.init calls).best = some b ∧ b.length = M ∧
      ∀ j (hj : j < M) (hb : j < b.length),
        (∀ fits ∈ calls, ∀ r ∈ fits, ∀ hr : j < r.length, b[j] ≤ r[j]) ∧
        (∃ fits ∈ calls, ∃ r ∈ fits, ∃ hr : j < r.length, b[j] = r[j])) ∧
    (∃ w, (memAfter solve Mem.init calls).worst = some w ∧ w.length = M ∧
      ∀ j (hj : j < M) (hw : j < w.length),
        (∀ fits ∈ calls, ∀ r ∈ fits, ∀ hr : j < r.length, r[j] ≤ w[j]) ∧
        (∃ fits ∈ calls, ∃ r ∈ fits, ∃ hr : j < r.length, w[j] = r[j])) :=
  by
  rw [(memAfter_eq solve Mem.init calls).1, (memAfter_eq solve Mem.init calls).2]
  exact ⟨pointAfter_none (R := fun a b => a ≤ b) (fun _ _ _ => le_trans) idealPoint stepSpec_ideal M calls hne hrect,
    pointAfter_none (R := fun a b => b ≤ a) (fun _ _ _ h1 h2 => le_trans h2 h1) worstPoint
      stepSpec_worst M calls hne hrect⟩

example : ([[[1, 2], [3, 0]], [[0, 5]]] : List (List (List ℝ))) ≠ [] ∧
    ∀ fits ∈ ([[[1, 2], [3, 0]], [[0, 5]]] : List (List (List ℝ))), fits ≠ [] ∧ ∀ r ∈ fits, r.length = 2 := by decide

end C07
