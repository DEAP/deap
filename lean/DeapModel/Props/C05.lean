/-
C05 — NSGA-II selection: exact size, references only, rank- then crowding-elitist.
Model: `DeapModel/Core/Crowding.lean` (on top of the C04 models).

Reading guide
* `FrontsSpec pop k fronts` is C04's specification of what a sorting back-end answers for `(pop, k)`:
  front by front (up to the order inside a front) the leading fronts of the Pareto ranking needed to
  reach `k`.  Every theorem about the selection is stated for **any** `fronts` with `FrontsSpec`
  (back-end agnostic); `selNSGA2_standard` instantiates it with the quadratic sort and `selNSGA2_log`
  with the log-time sort (both proved correct in C04).
* `selFromFronts weights fronts k` is emo.py:41-50; distances are `Option α`, `none` = `inf`.

`Lemmas/C05Gen` (the translator tie) is imported only so that it is built and audited with the properties.
-/
import DeapModel.Lemmas.C05Gen
import DeapModel.Props.C04

set_option linter.unusedSectionVars false

namespace C05
open NDSort Crowding C04L C05L

variable {α : Type} [Field α] [LinearOrder α] [IsStrictOrderedRing α] [Inhabited α]

abbrev exPop : List (Ind ℚ) := [⟨0, [1, 2]⟩, ⟨1, [2, 1]⟩, ⟨2, [0, 0]⟩, ⟨3, [1, 2]⟩, ⟨4, [1, 1]⟩]
theorem exPop_ok : (∀ x ∈ exPop, x.w.length = 2) ∧ exPop.Nodup := by decide

/-- the distances `selNSGA2` uses for the cut: those of the last front -/
abbrev lastDist (weights : List α) (fronts : List (List (Ind α))) : List (Dist α) :=
  assignCrowdingDist (((fronts.getLast?).getD []).map (values weights))

theorem lastDist_length (weights : List α) (fronts : List (List (Ind α))) :
    (lastDist weights fronts).length = ((fronts.getLast?).getD []).length := by
  simp [assignCrowdingDist_length]

/-- **size.**  The selection has exactly `min k n` individuals. -/
theorem selection_size (m : Nat) (pop : List (Ind α)) (hlen : ∀ x ∈ pop, x.w.length = m) (k : Nat)
    (fronts : List (List (Ind α))) (hspec : FrontsSpec pop k fronts) (weights : List α) :
    (selFromFronts weights fronts k).length = min k pop.length :=
  cut_length m pop hlen k fronts hspec _ (lastDist_length weights fronts)

example : (∀ x ∈ exPop, x.w.length = 2) ∧
    FrontsSpec exPop 4 [[⟨0, [1, 2]⟩, ⟨3, [1, 2]⟩, ⟨1, [2, 1]⟩], [⟨4, [1, 1]⟩]] := by
  refine ⟨exPop_ok.1, ?_⟩
  have : leading (peel domI exPop) 4 = [[⟨0, [1, 2]⟩, ⟨1, [2, 1]⟩, ⟨3, [1, 2]⟩], [⟨4, [1, 1]⟩]] := by decide
  unfold FrontsSpec; rw [this]
  exact .cons (by decide) (.cons (List.Perm.refl _) .nil)

/-- **references only, none twice.**  The selection is a sub-permutation of the input: every
selected individual is an input individual (same identity), none occurs more often than it is
listed, so none twice when the individuals are distinct. -/
theorem selection_subperm (m : Nat) (pop : List (Ind α)) (hlen : ∀ x ∈ pop, x.w.length = m) (k : Nat)
    (fronts : List (List (Ind α))) (hspec : FrontsSpec pop k fronts) (weights : List α) :
    (selFromFronts weights fronts k).Subperm pop ∧
    (pop.Nodup → (selFromFronts weights fronts k).Nodup) :=
  ⟨cut_subperm m pop hlen k fronts hspec _ (lastDist_length weights fronts),
   cut_nodup m pop hlen k fronts hspec _ (lastDist_length weights fronts)⟩

example : (∀ x ∈ exPop, x.w.length = 2) ∧ exPop.Nodup := exPop_ok

/-- **rank-elitist.**  No individual left out belongs to a strictly better non-domination front
than a selected one. -/
theorem front_priority (m : Nat) (pop : List (Ind α)) (hlen : ∀ x ∈ pop, x.w.length = m) (k : Nat)
    (fronts : List (List (Ind α))) (hspec : FrontsSpec pop k fronts) (weights : List α)
    (x y : Ind α) (hx : x ∈ selFromFronts weights fronts k) (hy : y ∈ pop)
    (hyn : y ∉ selFromFronts weights fronts k) : depth domI pop x ≤ depth domI pop y :=
  cut_front_priority m pop hlen k fronts hspec _ (lastDist_length weights fronts) x y hx hy hyn

example : (⟨4, [1, 1]⟩ : Ind ℚ) ∈ selFromFronts [1, 1] [[⟨0, [1, 2]⟩, ⟨3, [1, 2]⟩, ⟨1, [2, 1]⟩], [⟨4, [1, 1]⟩]] 4 ∧
    (⟨2, [0, 0]⟩ : Ind ℚ) ∉ selFromFronts [1, 1] [[⟨0, [1, 2]⟩, ⟨3, [1, 2]⟩, ⟨1, [2, 1]⟩], [⟨4, [1, 1]⟩]] 4 := by
  rw [selFromFronts_last_single _ _ ⟨4, [1, 1]⟩ 4 rfl (by decide)]; decide

/-- **one partial front, crowding-elitist.**  All fronts but the last are taken completely; the
last front is split into `kept` and `dropped` (pairs of an individual and the crowding distance
`assignCrowdingDist` gave it, together a permutation of the last front with its distances), the
selection is the whole fronts followed by `kept`, and every kept distance is at least as large as
every dropped one. -/
theorem one_partial_front_crowding_cut (m : Nat) (pop : List (Ind α)) (hlen : ∀ x ∈ pop, x.w.length = m)
    (k : Nat) (fronts : List (List (Ind α))) (hspec : FrontsSpec pop k fronts) (weights : List α) :
    fronts = [] ∨ ∃ (init : List (List (Ind α))) (last : List (Ind α)) (kept dropped : List (Ind α × Dist α)),
      fronts = init ++ [last] ∧
      selFromFronts weights fronts k = init.flatten ++ kept.map (·.1) ∧
      (kept ++ dropped).Perm (last.zip (assignCrowdingDist (last.map (values weights)))) ∧
      (∀ p ∈ kept, ∀ q ∈ dropped, Dist.lt p.2 q.2 = false) ∧
      (∀ f ∈ init, ∀ x ∈ f, x ∈ selFromFronts weights fronts k) := by
  rcases cut_crowding m pop hlen k fronts hspec _ (lastDist_length weights fronts) with h | h
  · exact Or.inl h
  · obtain ⟨init, last, kept, dropped, h1, h2, h3, h4, h5⟩ := h
    refine Or.inr ⟨init, last, kept, dropped, h1, h2, ?_, h4, h5⟩
    have : lastDist weights fronts = assignCrowdingDist (last.map (values weights)) := by
      simp [lastDist, h1]
    rw [← this]; exact h3

/-- the hypotheses hold in a situation where the cut really drops somebody: one front of five mutually
non-dominated individuals, `k = 4`; the distances are `∞, 7/16, 9/16, 9/16, ∞`, the two extremes and the two
individuals at `9/16` are kept, the individual at `7/16` is dropped -/
example :
    let pop5 : List (Ind ℚ) := [⟨0, [0, 8]⟩, ⟨1, [1, 6]⟩, ⟨2, [2, 3]⟩, ⟨3, [5, 1]⟩, ⟨4, [8, 0]⟩]
    (∀ x ∈ pop5, x.w.length = 2) ∧ FrontsSpec pop5 4 [pop5] ∧
    assignCrowdingDist (pop5.map (values [1, 1])) = [none, some (7/16), some (9/16), some (9/16), none] ∧
    selFromFronts [1, 1] [pop5] 4 = [⟨0, [0, 8]⟩, ⟨4, [8, 0]⟩, ⟨2, [2, 3]⟩, ⟨3, [5, 1]⟩] := by
  intro pop5
  have hd5 : assignCrowdingDist (pop5.map (values [1, 1])) =
      [none, some (7/16), some (9/16), some (9/16), none] := by
    simp only [pop5, assignCrowdingDist, List.map_cons]
    rw [show (values [1, 1] (⟨0, [0, 8]⟩ : Ind ℚ)).length = 2 from rfl]
    simp only [List.range, List.range.loop, List.foldl_cons, objStep, sortCrowd_eq_isort]
    decide +kernel
  refine ⟨by decide, ?_, hd5, ?_⟩
  · have : leading (peel domI pop5) 4 = [pop5] := by decide
    unfold FrontsSpec; rw [this]
    exact .cons (List.Perm.refl _) .nil
  · have e : selFromFronts [1, 1] [pop5] 4 =
        cutWith [pop5] (assignCrowdingDist (pop5.map (values [1, 1]))) 4 := rfl
    rw [e, hd5]
    norm_num [pop5, cutWith, sortByDistDesc, Dist.lt, List.mergeSort]

/-- `Dist.lt p q = false` means `q ≤ p` with `none` (= `inf`) on top. -/
theorem distLt_false_iff (p q : Dist α) :
    Dist.lt p q = false ↔ (p = none ∨ ∃ a b, p = some a ∧ q = some b ∧ b ≤ a) := by
  cases p <;> cases q <;> simp [Dist.lt]

/-- **standard back-end.**  `selNSGA2(pop, k, nd='standard')` is the cut applied to fronts that
meet the specification (C04.sortStd_eq_peel), so all theorems above apply to it. -/
theorem selNSGA2_standard (weights : List α) (pop : List (Ind α)) (hne : pop ≠ []) (m : Nat)
    (hlen : ∀ x ∈ pop, x.w.length = m) (k : Nat) :
    ∃ fronts, FrontsSpec pop k fronts ∧
      selNSGA2 weights pop k false = some (selFromFronts weights fronts k) := by
  obtain ⟨fronts, h1, h2⟩ := C04.sortStd_eq_peel pop hne m hlen k
  exact ⟨fronts, h2, by simp [selNSGA2, h1]⟩

example : exPop ≠ [] ∧ (∀ x ∈ exPop, x.w.length = 2) ∧
    selNSGA2 [1, -1] exPop 4 false = some [⟨0, [1, 2]⟩, ⟨3, [1, 2]⟩, ⟨1, [2, 1]⟩, ⟨4, [1, 1]⟩] := by
  have h : sortStd exPop 4 false = some [[⟨0, [1, 2]⟩, ⟨3, [1, 2]⟩, ⟨1, [2, 1]⟩], [⟨4, [1, 1]⟩]] := by decide
  refine ⟨by decide, exPop_ok.1, ?_⟩
  rw [selNSGA2, if_neg (by decide), h, Option.map_some, selFromFronts_last_single _ _ ⟨4, [1, 1]⟩ 4 rfl (by decide)]
  rfl

/-- **log-time back-end (unfolding).**  `selNSGA2(pop, k, nd='log')` is the same cut applied to the
answer of `sortLogNondominated`. -/
theorem selNSGA2_log_partial (weights : List α) (pop : List (Ind α)) (k : Nat)
    (fronts : List (List (Ind α))) (h : sortLog pop k = some fronts) :
    selNSGA2 weights pop k true = some (selFromFronts weights fronts k) := by
  simp [selNSGA2, h]

example : sortLog ([⟨0, [1, 2]⟩, ⟨1, [0, 0]⟩] : List (Ind ℚ)) 2 = some [[⟨0, [1, 2]⟩], [⟨1, [0, 0]⟩]] :=
  sortLog_pair _ _ 1 2 0 0 rfl rfl (by norm_num) (by norm_num)

/-- **log-time back-end.**  With at least two objectives `selNSGA2(pop, k, nd='log')` is the cut
applied to fronts that meet the specification (C04.sortLog_eq_peel), so all theorems above apply to
it as well: both back-ends give a selection satisfying the same contract. -/
theorem selNSGA2_log (weights : List α) (pop : List (Ind α)) (hne : pop ≠ []) (m : Nat) (hm : 2 ≤ m)
    (hlen : ∀ x ∈ pop, x.w.length = m) (k : Nat) :
    ∃ fronts, FrontsSpec pop k fronts ∧
      selNSGA2 weights pop k true = some (selFromFronts weights fronts k) := by
  obtain ⟨fronts, h1, h2⟩ := C04.sortLog_eq_peel pop m hm hne hlen k
  exact ⟨fronts, h2, by simp [selNSGA2, h1]⟩

example : exPop ≠ [] ∧ (2 : Nat) ≤ 2 ∧ (∀ x ∈ exPop, x.w.length = 2) := ⟨by decide, by decide, exPop_ok.1⟩

/-- **back-end agnostic contract**, in one statement: for any fronts meeting C04's specification the
selection has `min k n` members, is a sub-permutation of the input without repetition, and leaves
out nobody of a strictly better front than a selected individual. -/
theorem backend_agnostic (m : Nat) (pop : List (Ind α)) (hlen : ∀ x ∈ pop, x.w.length = m) (hnd : pop.Nodup)
    (k : Nat) (fronts : List (List (Ind α))) (hspec : FrontsSpec pop k fronts) (weights : List α) :
    (selFromFronts weights fronts k).length = min k pop.length ∧
    (selFromFronts weights fronts k).Subperm pop ∧ (selFromFronts weights fronts k).Nodup ∧
    (∀ x ∈ selFromFronts weights fronts k, ∀ y ∈ pop, y ∉ selFromFronts weights fronts k →
      depth domI pop x ≤ depth domI pop y) :=
  ⟨selection_size m pop hlen k fronts hspec weights,
   (selection_subperm m pop hlen k fronts hspec weights).1,
   (selection_subperm m pop hlen k fronts hspec weights).2 hnd,
   fun x hx y hy hyn => front_priority m pop hlen k fronts hspec weights x y hx hy hyn⟩

example : (∀ x ∈ exPop, x.w.length = 2) ∧ exPop.Nodup := exPop_ok

/-- What the neighbour / range functions of the specification mean: `predOf col v` is the greatest
value of the column strictly below `v`, `succOf col v` the least one strictly above, `minOf` /
`maxOf` the extremes of the column. -/
theorem neighbours_spec (col : List α) (v x : α) :
    (predOf col v = some x ↔ x ∈ col ∧ x < v ∧ ∀ u ∈ col, u < v → u ≤ x) ∧
    (succOf col v = some x ↔ x ∈ col ∧ v < x ∧ ∀ u ∈ col, v < u → x ≤ u) ∧
    (minOf col = some x ↔ x ∈ col ∧ ∀ u ∈ col, x ≤ u) ∧
    (maxOf col = some x ↔ x ∈ col ∧ ∀ u ∈ col, u ≤ x) :=
  ⟨predOf_eq_some_iff col v x, succOf_eq_some_iff col v x, minOf_eq_some_iff col x, maxOf_eq_some_iff col x⟩

/-- **crowding formula.**  On a front whose objective values are pairwise distinct in every
objective, `assignCrowdingDist` gives individual `j` the distance `d` with: `d = ∞` when `j` is an
extreme (least or greatest value) of some objective; otherwise `d` is the sum over the objectives of
(least larger value − greatest smaller value) / (nobj · (max − min)).  Nothing in the right-hand
sides depends on the order of the front. -/
theorem crowding_spec (vals : List (List α))
    (hdist : ∀ i < (vals.headD []).length, (vals.map (fun v => val v i)).Nodup)
    (j : Nat) (hj : j < vals.length) :
    ∃ d, (assignCrowdingDist vals)[j]? = some d ∧
      ((∃ i < (vals.headD []).length,
          (∀ u ∈ vals.map (fun v => val v i), val (vals.getD j []) i ≤ u) ∨
          (∀ u ∈ vals.map (fun v => val v i), u ≤ val (vals.getD j []) i)) → d = none) ∧
      ((∀ i < (vals.headD []).length,
          (∃ u ∈ vals.map (fun v => val v i), u < val (vals.getD j []) i) ∧
          (∃ u ∈ vals.map (fun v => val v i), val (vals.getD j []) i < u)) →
        d = some (((List.range (vals.headD []).length).map (fun i =>
          ((succOf (vals.map (fun v => val v i)) (val (vals.getD j []) i)).getD (val (vals.getD j []) i) -
           (predOf (vals.map (fun v => val v i)) (val (vals.getD j []) i)).getD (val (vals.getD j []) i)) /
          (((vals.headD []).length : α) *
            ((maxOf (vals.map (fun v => val v i))).getD (val (vals.getD j []) i) -
             (minOf (vals.map (fun v => val v i))).getD (val (vals.getD j []) i))))).sum)) := by
  have hmem : ∀ i, val (vals.getD j []) i ∈ vals.map (fun v => val v i) := by
    intro i
    have e : vals.getD j [] = vals[j] := by simp [hj]
    rw [e]; exact List.mem_map_of_mem (List.getElem_mem hj)
  refine ⟨crowdSpec vals j, assignCrowdingDist_spec vals hdist j hj, ?_, ?_⟩
  · rintro ⟨i, hi, hext⟩
    exact crowdPartial_none vals _ j _ ⟨i, hi, (contrib_eq_none_iff _ _ _ (hmem i)).2 hext⟩
  · intro hint
    have := crowdPartial_some vals (vals.headD []).length j (vals.headD []).length (by
      intro i hi hc
      obtain ⟨⟨u, hu, hlt⟩, ⟨u', hu', hlt'⟩⟩ := hint i hi
      rcases (contrib_eq_none_iff _ _ _ (hmem i)).1 hc with h | h
      · exact absurd (h u hu) (not_le.2 hlt)
      · exact absurd (h u' hu') (not_le.2 hlt'))
    simpa [crowdSpec, gap] using this

example : (∀ i < (([[0, 4], [1, 3], [2, 1], [4, 0]] : List (List ℚ)).headD []).length,
    (([[0, 4], [1, 3], [2, 1], [4, 0]] : List (List ℚ)).map (fun v => val v i)).Nodup) ∧
    (1 : Nat) < ([[0, 4], [1, 3], [2, 1], [4, 0]] : List (List ℚ)).length := by
  refine ⟨?_, by decide⟩
  intro i hi
  have : i = 0 ∨ i = 1 := by simp at hi; omega
  rcases this with rfl | rfl <;> decide

end C05
