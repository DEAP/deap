/-
C17 — Runs are reproducible, resumable from any checkpoint, and independent of the completion
schedule of the map.  Property theorems; the model is `DeapModel/Core/Resume.lean`, the lemmas about the result buffer
of `pmap` and about runs with hidden state are in `DeapModel/Lemmas/C17Buf.lean`.

What is proved here is the algebra: *if* the checkpoint round-trips the complete loop state and
*if* the map is order-preserving, then the three equations hold.  The premises themselves
(the real objects pickle their whole state, no operator keeps state elsewhere) are checked on
the implementation by `harness/props/c17.py`.

The section `C03` instantiates the algebra on the loop model of property C03
(`DeapModel/Core/Loops.lean`): the machine state (generation counter, tape, `LState`) is complete
(`state_complete`), `Loops.runGens` is the iterate of the machine step (`runGens_eq_run`), killing and
resuming `runGens` / `eaSimple` / … from a round-tripping checkpoint gives the uninterrupted run
(`c03_resume…`), and the evaluation block is independent of the completion schedule of the map
(`c03_schedule_independent`, `c03_evalPhase_…`, `c03_runGens_…`).  Helpers: `DeapModel/Lemmas/C17Loops.lean`.

The section `Mig` is about `tools.migRing` (`DeapModel/Core/Migration.lean`, helpers `DeapModel/Lemmas/C17Mig.lean`).
-/
import DeapModel.Lemmas.C17Loops
import DeapModel.Lemmas.C17Mig

namespace C17
open Resume

section Run
variable {S B : Type}

/-- `a + b` generations are `a` generations followed by `b` generations. -/
theorem run_add (r : Run S B) (a b : Nat) (s : S) : run r (a + b) s = run r b (run r a s) := by
  induction a generalizing s with
  | zero => rw [Nat.zero_add]; rfl
  | succ a ih => rw [Nat.succ_add, run_succ, ih, run_succ]

/-- The other unfolding: the last generation can be split off as well. -/
theorem run_succ' (r : Run S B) (n : Nat) (s : S) : run r (n + 1) s = r.step (run r n s) :=
  run_add r n 1 s

/-- Reproducibility, pointwise: a second process whose code (step function) agrees with the first on the
states the first run actually visits goes through the same states; its checkpoint format may differ. -/
theorem deterministic_on {B' : Type} (r₁ : Run S B) (r₂ : Run S B') (s : S)
    (h : ∀ i, r₁.step (run r₁ i s) = r₂.step (run r₁ i s)) : ∀ n, run r₁ n s = run r₂ n s := by
  intro n
  induction n with
  | zero => rfl
  | succ n ih => rw [run_succ', run_succ', ← ih, h]

/-- Reproducibility: a second process executing the same code (a run whose step function is
extensionally the same; its checkpoint format may even differ) goes through the same states. -/
theorem deterministic {B' : Type} (r₁ : Run S B) (r₂ : Run S B')
    (h : ∀ s, r₁.step s = r₂.step s) : ∀ n s, run r₁ n s = run r₂ n s :=
  fun n s => deterministic_on r₁ r₂ s (fun _ => h _) n

example : ∀ s, (toyRun false).step s = (toyRun true).step s := fun _ => rfl

/-- Pointwise form: the round trip is only needed at the state that is checkpointed. -/
theorem resume_at (r : Run S B) (n k : Nat) (hk : k ≤ n) (s : S)
    (h : r.dec (r.enc (run r k s)) = some (run r k s)) :
    (r.dec (r.enc (run r k s))).map (run r (n - k)) = some (run r n s) := by
  rw [h, Option.map_some, ← run_add, Nat.add_sub_cancel' hk]

/-- If checkpoints round-trip the complete state, then killing the process after any
generation `k ≤ n` and resuming from the checkpoint ends in the state of the uninterrupted run. -/
theorem resume (r : Run S B) (h : ∀ s, r.dec (r.enc s) = some s) :
    ∀ n k, k ≤ n → ∀ s, (r.dec (r.enc (run r k s))).map (run r (n - k)) = some (run r n s) :=
  fun n k hk s => resume_at r n k hk s (h _)

/-- The same in terms of `resumeFrom`. -/
theorem resumeFrom_eq (r : Run S B) (h : ∀ s, r.dec (r.enc s) = some s) (n k : Nat)
    (hk : k ≤ n) (s : S) : resumeFrom r k n s = some (run r n s) :=
  resume r h n k hk s

example : ∀ s, (toyRun false).dec ((toyRun false).enc s) = some s := fun _ => rfl
example : resumeFrom (toyRun false) 2 5 (1, 1) = some (16, 6) ∧
    run (toyRun false) 5 (1, 1) = (16, 6) := by decide

/-- Any number of crashes: the process is at generation `g`, is killed at the generations
`ks` (non-decreasing, between `g` and `n`) and resumed after each; the final state is that of
the uninterrupted run. -/
theorem resume_many_from (r : Run S B) (h : ∀ s, r.dec (r.enc s) = some s) (n : Nat) :
    ∀ (ks : List Nat) (g : Nat), (g :: ks).Pairwise (· ≤ ·) → (∀ k ∈ g :: ks, k ≤ n) →
      ∀ s, resumeMany r ks g n s = some (run r (n - g) s) := by
  intro ks
  induction ks with
  | nil => intro g _ _ s; rfl
  | cons k ks ih =>
    intro g hp hn s
    obtain ⟨hg, hp'⟩ := List.pairwise_cons.1 hp
    have := hg k (List.mem_cons_self ..)
    have := hn k (List.mem_cons_of_mem _ (List.mem_cons_self ..))
    rw [resumeMany, reload, h, Option.bind_some, ih k hp' (fun j hj => hn j (List.mem_cons_of_mem _ hj)),
      show n - g = (k - g) + (n - k) by omega, run_add]

/-- Multi-crash version from generation 0. -/
theorem resume_many (r : Run S B) (h : ∀ s, r.dec (r.enc s) = some s) (n : Nat)
    (ks : List Nat) (hs : ks.Pairwise (· ≤ ·)) (hn : ∀ k ∈ ks, k ≤ n) (s : S) :
    resumeMany r ks 0 n s = some (run r n s) :=
  resume_many_from r h n ks 0 (List.pairwise_cons.2 ⟨fun _ _ => Nat.zero_le _, hs⟩)
    (List.forall_mem_cons.2 ⟨Nat.zero_le _, hn⟩) s

example : [0, 2, 2, 3, 5].Pairwise (· ≤ ·) ∧ (∀ k ∈ [0, 2, 2, 3, 5], k ≤ 5) := by decide
example : resumeMany (toyRun false) [0, 2, 2, 3, 5] 0 5 (1, 1) = some (16, 6) := by decide

end Run

/-- The round-trip hypothesis is not decorative: a checkpoint that drops one component of the
state (`toyRun true` forgets `b`) breaks resumption, although the encoded run is the same code. -/
theorem resume_needs_complete_state :
    (toyRun true).dec ((toyRun true).enc (4, 3)) ≠ some (4, 3) ∧
    run (toyRun true) 5 (1, 1) = (16, 6) ∧
    resumeFrom (toyRun true) 2 5 (1, 1) = some (7, 3) ∧
    resumeFrom (toyRun true) 2 5 (1, 1) ≠ some (run (toyRun true) 5 (1, 1)) := by decide

section PMap
variable {α β : Type}

/-- General form: every schedule in which each submitted task completes at least once — repeats
and indices that were never submitted are harmless — yields the sequential result, in
submission order. -/
theorem schedule_covering (f : α → β) (xs : List α) (sched : List Nat)
    (h : ∀ i, i < xs.length → i ∈ sched) : pmap f xs sched = some (xs.map f) := by
  have : pmapBuf f xs sched = (xs.map f).map some := by
    apply List.ext_getElem?
    intro i
    rw [getElem?_pmapBuf]
    by_cases hi : i < xs.length
    · simp [h i hi, List.getElem?_eq_getElem hi]
    · have hx : xs[i]? = none := List.getElem?_eq_none_iff.2 (Nat.le_of_not_lt hi)
      by_cases hm : i ∈ sched
      · simp [hm, hx]
      · simp [hm, hi]
  rw [pmap, this, collect_map_some]

/-- `Pool.map` is schedule independent: whatever the order in which the tasks complete, the
caller sees `map f xs`. -/
theorem schedule_independent (f : α → β) (xs : List α) (sched : List Nat)
    (h : sched.Perm (List.range xs.length)) : pmap f xs sched = some (xs.map f) :=
  schedule_covering f xs sched (fun _ hi => h.mem_iff.2 (List.mem_range.2 hi))

/-- Conversely, if a submitted task never completes there is no result at all. -/
theorem schedule_missing (f : α → β) (xs : List α) (sched : List Nat) (i : Nat)
    (hi : i < xs.length) (hm : i ∉ sched) : pmap f xs sched = none := by
  apply collect_eq_none_of_mem
  have : (pmapBuf f xs sched)[i]? = some none := by
    rw [getElem?_pmapBuf]; simp [hm, hi]
  exact List.mem_of_getElem? this

/-- Together: `pmap` answers iff every submitted task completed, and then with `map f xs`. -/
theorem pmap_eq_some_iff (f : α → β) (xs : List α) (sched : List Nat) (ys : List β) :
    pmap f xs sched = some ys ↔ (∀ i, i < xs.length → i ∈ sched) ∧ ys = xs.map f := by
  by_cases hc : ∀ i, i < xs.length → i ∈ sched
  · rw [schedule_covering f xs sched hc, Option.some.injEq, eq_comm, and_iff_right hc]
  · obtain ⟨i, hi, hm⟩ : ∃ i, i < xs.length ∧ i ∉ sched := by simpa using hc
    rw [schedule_missing f xs sched i hi hm]
    exact ⟨nofun, fun h => absurd h.1 hc⟩

example : [2, 0, 3, 1].Perm (List.range [10, 20, 30, 40].length) := by decide
example : pmap (fun x : Int => 3 * x + 1) [10, 20, 30, 40] [2, 0, 3, 1] = some [31, 61, 91, 121] := by
  decide
example : ∀ i, i < [10, 20, 30].length → i ∈ [7, 2, 2, 0, 1, 0] := by decide
example : pmap (fun x : Int => 3 * x + 1) [10, 20, 30] [7, 2, 2, 0, 1, 0] = some [31, 61, 91] := by
  decide
example : 1 < [10, 20, 30].length ∧ 1 ∉ [2, 0, 2] ∧
    pmap (fun x : Int => 3 * x + 1) [10, 20, 30] [2, 0, 2] = none := by decide

end PMap

section Loop
variable {σ α β : Type}

/-- Any two families of mappers that return the same lists drive the loop through the same
states. -/
theorem genLoop_congr (m₁ m₂ : Nat → (α → β) → List α → List β) (L : Loop σ α β)
    (h : ∀ g f xs, m₁ g f xs = m₂ g f xs) :
    ∀ n st, genLoop m₁ L n st = genLoop m₂ L n st := by
  have hs : ∀ st, genStep m₁ L st = genStep m₂ L st := by
    intro st; simp only [genStep, evaluated, evalStep, h]
  intro n
  induction n with
  | zero => intro st; rfl
  | succ n ih => intro st; simp only [genLoop, hs, ih]

/-- Any mapper that behaves like `map` — whatever it does internally, and it may be a different
one in every generation — yields the state of the sequential loop after every generation. -/
theorem loop_mapper_independent (m : Nat → (α → β) → List α → List β) (L : Loop σ α β)
    (h : ∀ g f xs, m g f xs = xs.map f) :
    ∀ n st, genLoop m L n st = genLoop seqMapper L n st :=
  genLoop_congr m seqMapper L h

/-- The same for the initial evaluation. -/
theorem init_mapper_independent (m : Nat → (α → β) → List α → List β) (L : Loop σ α β)
    (h : ∀ g f xs, m g f xs = xs.map f) (aux : σ) (pop : List α) :
    genInit m L aux pop = genInit seqMapper L aux pop := by
  simp only [genInit, evaluated, evalStep, h, seqMapper]

/-- A parallel map whose every call completes in some permutation of the submission order is
such a mapper. -/
theorem schedMapper_eq_map (sch : Nat → Nat → List Nat)
    (h : ∀ g n, (sch g n).Perm (List.range n)) (g : Nat) (f : α → β) (xs : List α) :
    schedMapper sch g f xs = xs.map f := by
  rw [schedMapper, schedule_independent f xs _ (h g xs.length), Option.getD_some]

/-- The generation loop is schedule independent: with `toolbox.map` a parallel map under any
family of completion permutations (one per generation and task count) the state after `n`
generations — population, fitnesses, generator states, everything in `aux` — is that of the
loop run with the builtin `map`. -/
theorem loop_schedule_independent (sch : Nat → Nat → List Nat)
    (h : ∀ g n, (sch g n).Perm (List.range n)) (L : Loop σ α β) (n : Nat) (aux : σ)
    (pop : List α) :
    genLoop (schedMapper sch) L n (genInit (schedMapper sch) L aux pop) =
      genLoop seqMapper L n (genInit seqMapper L aux pop) := by
  rw [init_mapper_independent _ L (schedMapper_eq_map sch h),
    loop_mapper_independent _ L (schedMapper_eq_map sch h)]

/-- The loop is itself a `Run` (with the identity checkpoint), so `deterministic`, `run_add` and
`resume` apply to it. -/
theorem genLoop_eq_run (m : Nat → (α → β) → List α → List β) (L : Loop σ α β) (n : Nat)
    (st : LoopState σ α β) :
    genLoop m L n st = run (⟨genStep m L, id, some⟩ : Run _ (LoopState σ α β)) n st := by
  induction n generalizing st with
  | zero => rfl
  | succ n ih => simp only [genLoop, run, ih]

example : ∀ g n, (flipSched g n).Perm (List.range n) := by
  intro g n; unfold flipSched; split
  · exact List.Perm.refl _
  · exact List.reverse_perm _

example : genLoop (schedMapper flipSched) toyLoop 3 (genInit (schedMapper flipSched) toyLoop 0 [1, -2, 5])
    = genLoop seqMapper toyLoop 3 (genInit seqMapper toyLoop 0 [1, -2, 5]) ∧
    (genLoop seqMapper toyLoop 3 (genInit seqMapper toyLoop 0 [1, -2, 5])).pop = [91, -101, 347] := by
  decide +kernel

/-- Not decorative either: a mapper that returns results in *completion* order (not order
preserving) changes the state. -/
example : genLoop (fun _ f xs => (xs.map f).reverse) toyLoop 1 (genInit seqMapper toyLoop 0 [1, -2, 5])
    ≠ genLoop seqMapper toyLoop 1 (genInit seqMapper toyLoop 0 [1, -2, 5]) := by decide

end Loop

/-! ### C17 on the loop model of C03 (`DeapModel/Core/Loops.lean`)

The theorems above are about an abstract step function.  Here the step is the ACTUAL generation of the packaged
loops, `Loops.generation` (eaSimple, eaMuPlusLambda, eaMuCommaLambda, harm, eaGenerateUpdate), and the statements
are about `Loops.runGens` / `Loops.eaSimple` … themselves. -/

section C03
open Variation Loops
variable {σ B : Type}

/-- One generation is a function of (generation number, tape, `st`, `pop`): `genCore` reads the tape, `st` and
`pop` only, the generation number only labels the appended records, and the ghost records `log`, `shown`,
`shownObj`, `evals` are only appended to. -/
theorem state_complete_core (ev : List Int → List Int) (stp : Step σ) (g : Nat) (t : σ) (s : LState) :
    generation ev stp g t s =
      (genCore ev stp t s.st s.pop).map (fun c =>
        (c.tape, { st := c.st, pop := c.pop, log := s.log ++ [(g, c.nevals)],
                   shown := s.shown ++ c.offspring,
                   shownObj := s.shownObj ++ c.offspringObj,
                   evals := s.evals ++ c.evaluated.map (fun o => (g, o)) })) := by
  unfold generation genCore
  cases stp.produce t s.st s.pop with
  | none => rfl
  | some r =>
    simp only [evalPhase]
    cases stp.replace (assignFits ev r.st.heap (if stp.evalAll then r.off else invalidOf r.st.heap r.off))
        s.pop r.off with
    | none => rfl
    | some np => rfl

/-- The non-ghost part of a generation (new tape, heap and oid counter, population; success or failure) does not
read the ghost records, and the ghost records are extended by the same suffixes — `(g, nevals)`, the offspring,
the offspring with their content when shown, `(g, o)` for the evaluated `o`, all computed by `genCore` from `(t, s.st, s.pop)` — whatever they held. -/
theorem state_complete (ev : List Int → List Int) (stp : Step σ) (g : Nat) (t : σ) (s s' : LState)
    (hst : s.st = s'.st) (hpop : s.pop = s'.pop) :
    (generation ev stp g t s).map (fun r => (r.1, r.2.st, r.2.pop)) =
      (generation ev stp g t s').map (fun r => (r.1, r.2.st, r.2.pop)) ∧
    ∀ r, generation ev stp g t s = some r →
      ∃ r', generation ev stp g t s' = some r' ∧
      ∃ c, genCore ev stp t s.st s.pop = some c ∧
        r.2.log = s.log ++ [(g, c.nevals)] ∧ r'.2.log = s'.log ++ [(g, c.nevals)] ∧
        r.2.shown = s.shown ++ c.offspring ∧ r'.2.shown = s'.shown ++ c.offspring ∧
        r.2.shownObj = s.shownObj ++ c.offspringObj ∧ r'.2.shownObj = s'.shownObj ++ c.offspringObj ∧
        r.2.evals = s.evals ++ c.evaluated.map (fun o => (g, o)) ∧
        r'.2.evals = s'.evals ++ c.evaluated.map (fun o => (g, o)) := by
  rw [state_complete_core ev stp g t s, state_complete_core ev stp g t s', ← hst, ← hpop]
  cases genCore ev stp t s.st s.pop with
  | none => simp
  | some c =>
    refine ⟨rfl, ?_⟩
    intro r hr
    simp only [Option.map_some, Option.some.injEq] at hr
    subst hr
    exact ⟨_, rfl, c, rfl, rfl, rfl, rfl, rfl, rfl, rfl, rfl, rfl⟩

/-- two loop states with the same heap and population and different ghost records -/
example : tapeState.st = tapeStateG.st ∧ tapeState.pop = tapeStateG.pop ∧
    tapeState.log ≠ tapeStateG.log ∧ tapeState.shown ≠ tapeStateG.shown ∧
    tapeState.shownObj ≠ tapeStateG.shownObj ∧ tapeState.evals ≠ tapeStateG.evals :=
  ⟨rfl, rfl, by decide, by decide, by decide, by decide⟩

example : (generation tapeEv (simpleStep tapeOps ⟨[1, 0], [false], [true, true]⟩) 1 5
      tapeStateG).map observe =
    some ⟨7, [2, 3], [⟨[5], some [5], none⟩, ⟨[6], some [6], none⟩], 4, [(0, 1), (1, 2)], [0, 1, 2, 3],
      [(0, ⟨[1, 2, 3], some [6], none⟩), (1, ⟨[4, 5, 6], some [15], none⟩), (2, ⟨[5], some [5], none⟩), (3, ⟨[6], some [6], none⟩)],
      [(0, 1), (1, 2), (1, 3)]⟩ := by decide +kernel

/-- `runGens` is the n-fold machine step (`n` = number of decision records): final tape and loop state agree. -/
theorem runGens_eq_run (ev : List Int → List Int) (enc : MState σ → B) (dec : B → Option (MState σ))
    (steps : List (Step σ)) (g : Nat) (t : σ) (s : LState) :
    runGens ev steps g t s =
      (run (loopRun ev enc dec) steps.length (some ((g, t, s), steps))).map
        (fun m => (m.1.2.1, m.1.2.2)) := by
  rw [run_loopRun ev enc dec steps.length steps g t s, List.take_length]
  cases runGens ev steps g t s with
  | none => rfl
  | some r => rfl

/-- `resume` for the machine: if the checkpoint round-trips (counter, generator state, loop state), killing the
machine after any `k ≤ n` steps and resuming ends in the state of the uninterrupted machine. -/
theorem c03_resume_machine (ev : List Int → List Int) (enc : MState σ → B) (dec : B → Option (MState σ))
    (h : ∀ m, dec (enc m) = some m) (n k : Nat) (hk : k ≤ n) (x : Option (MState σ × List (Step σ))) :
    resumeFrom (loopRun ev enc dec) k n x = some (run (loopRun ev enc dec) n x) :=
  resumeFrom_eq (loopRun ev enc dec) (loopRun_roundtrip ev enc dec h) n k hk x

/-- The same about `runGens` itself, for every `k` (also beyond the end): run `k` generations, pickle
(counter, generator state, loop state), get killed, unpickle, continue with the remaining decision records =
the uninterrupted run (same tape, heap, population, logbook, hall-of-fame feed, evaluation calls; a failing run
fails in both). -/
theorem c03_resume (ev : List Int → List Int) (enc : MState σ → B) (dec : B → Option (MState σ))
    (h : ∀ m, dec (enc m) = some m) (steps : List (Step σ)) (k g : Nat) (t : σ) (s : LState) :
    runGens ev steps g t s =
      (runGens ev (steps.take k) g t s).bind (fun r =>
        (dec (enc (g + min k steps.length, r.1, r.2))).bind (fun m =>
          runGens ev (steps.drop k) m.1 m.2.1 m.2.2)) := by
  rw [runGens_take_drop ev steps k]
  exact congrArg _ (funext fun r => by rw [h]; rfl)

/-- `c03_resume` restricted to the crash points `k ≤ steps.length`, those `Resume.resume` speaks of.  (The machine-level statement is
`c03_resume_machine`, an instance of `resumeFrom_eq` for `loopRun`; `runGens_eq_run` says that `runGens` is that machine's run.) -/
theorem c03_resume_via_run (ev : List Int → List Int) (enc : MState σ → B) (dec : B → Option (MState σ))
    (h : ∀ m, dec (enc m) = some m) (steps : List (Step σ)) (k : Nat) (hk : k ≤ steps.length) (g : Nat) (t : σ)
    (s : LState) :
    runGens ev steps g t s =
      (runGens ev (steps.take k) g t s).bind (fun r =>
        (dec (enc (g + min k steps.length, r.1, r.2))).bind (fun m =>
          runGens ev (steps.drop k) m.1 m.2.1 m.2.2)) :=
  c03_resume ev enc dec h steps k g t s

/-- a checkpoint format that is not the identity: the components in another order -/
example : ∀ m : MState Nat,
    (fun b : LState × Nat × Nat => some (b.2.2, b.2.1, b.1)) ((fun m => (m.2.2, m.2.1, m.1)) m) = some m :=
  fun _ => rfl

/-- The population-based loops (generation 0, then `for gen in range(1, ngen+1)`): a checkpoint after
generation `k` (`k = 0`: right after the initial evaluation) holds the counter `1 + k`. -/
theorem c03_resume_runPop (ev : List Int → List Int) (enc : MState σ → B) (dec : B → Option (MState σ))
    (h : ∀ m, dec (enc m) = some m) (steps : List (Step σ)) (k : Nat) (t : σ) (s : LState) :
    runPop ev steps t s =
      (runPop ev (steps.take k) t s).bind (fun r =>
        (dec (enc (1 + min k steps.length, r.1, r.2))).bind (fun m =>
          runGens ev (steps.drop k) m.1 m.2.1 m.2.2)) :=
  c03_resume ev enc dec h steps k 1 t (gen0 ev s)

/-- `eaSimple` with `ngen = decs.length`, interrupted after generation `k`. -/
theorem c03_resume_eaSimple (ops : Ops σ) (ev : List Int → List Int) (enc : MState σ → B)
    (dec : B → Option (MState σ)) (h : ∀ m, dec (enc m) = some m) (decs : List SimpleDec) (k : Nat) (t : σ)
    (s : LState) :
    eaSimple ops ev decs t s =
      (eaSimple ops ev (decs.take k) t s).bind (fun r =>
        (dec (enc (1 + min k decs.length, r.1, r.2))).bind (fun m =>
          runGens ev ((decs.drop k).map (simpleStep ops)) m.1 m.2.1 m.2.2)) := by
  have e := c03_resume_runPop ev enc dec h (decs.map (simpleStep ops)) k t s
  simpa only [eaSimple, List.map_take, List.map_drop, List.length_map] using e

theorem c03_resume_eaMuPlusLambda (ops : Ops σ) (ev : List Int → List Int) (mu lam : Nat) (enc : MState σ → B)
    (dec : B → Option (MState σ)) (h : ∀ m, dec (enc m) = some m) (decs : List MuLamDec) (k : Nat) (t : σ)
    (s : LState) :
    eaMuPlusLambda ops ev mu lam decs t s =
      (eaMuPlusLambda ops ev mu lam (decs.take k) t s).bind (fun r =>
        (dec (enc (1 + min k decs.length, r.1, r.2))).bind (fun m =>
          runGens ev ((decs.drop k).map (plusStep ops mu lam)) m.1 m.2.1 m.2.2)) := by
  have e := c03_resume_runPop ev enc dec h (decs.map (plusStep ops mu lam)) k t s
  simpa only [eaMuPlusLambda, List.map_take, List.map_drop, List.length_map] using e

theorem c03_resume_eaMuCommaLambda (ops : Ops σ) (ev : List Int → List Int) (mu lam : Nat) (enc : MState σ → B)
    (dec : B → Option (MState σ)) (h : ∀ m, dec (enc m) = some m) (decs : List MuLamDec) (k : Nat) (t : σ)
    (s : LState) :
    eaMuCommaLambda ops ev mu lam decs t s =
      (eaMuCommaLambda ops ev mu lam (decs.take k) t s).bind (fun r =>
        (dec (enc (1 + min k decs.length, r.1, r.2))).bind (fun m =>
          runGens ev ((decs.drop k).map (commaStep ops mu lam)) m.1 m.2.1 m.2.2)) := by
  have e := c03_resume_runPop ev enc dec h (decs.map (commaStep ops mu lam)) k t s
  unfold eaMuCommaLambda
  cases commaAssert mu lam with
  | false => rfl
  | true => simpa only [List.map_take, List.map_drop, List.length_map, if_true] using e

theorem c03_resume_harm (ops : Ops σ) (ev : List Int → List Int) (nbr : Nat) (enc : MState σ → B)
    (dec : B → Option (MState σ)) (h : ∀ m, dec (enc m) = some m) (decs : List (HarmDec Bool)) (k : Nat) (t : σ)
    (s : LState) :
    harm ops ev nbr decs t s =
      (harm ops ev nbr (decs.take k) t s).bind (fun r =>
        (dec (enc (1 + min k decs.length, r.1, r.2))).bind (fun m =>
          runGens ev ((decs.drop k).map (harmStep ops nbr)) m.1 m.2.1 m.2.2)) := by
  have e := c03_resume_runPop ev enc dec h (decs.map (harmStep ops nbr)) k t s
  simpa only [harm, List.map_take, List.map_drop, List.length_map] using e

/-- `eaGenerateUpdate` (`for gen in range(ngen)`, no generation 0): the counter after `k` generations is `k`. -/
theorem c03_resume_eaGenerateUpdate (ev : List Int → List Int) (enc : MState σ → B)
    (dec : B → Option (MState σ)) (h : ∀ m, dec (enc m) = some m) (gens : List (List (Nat × Obj) × List Nat))
    (k : Nat) (t : σ) (st : St) :
    eaGenerateUpdate ev gens t st =
      (eaGenerateUpdate ev (gens.take k) t st).bind (fun r =>
        (dec (enc (min k gens.length, r.1, r.2))).bind (fun m =>
          runGens ev ((gens.drop k).map (fun g => guStep (σ := σ) g.1 g.2)) m.1 m.2.1 m.2.2)) := by
  have e := c03_resume ev enc dec h (gens.map (fun g => guStep (σ := σ) g.1 g.2)) k 0 t { st := st, pop := [] }
  simpa only [eaGenerateUpdate, runGU, List.map_take, List.map_drop, List.length_map, Nat.zero_add] using e

/-- `eaSimple` with operators that draw from the tape, three generations, interrupted after the first, with the
identity checkpoint: equal to the uninterrupted run. -/
example : ((eaSimple tapeOps tapeEv (tapeDecs.take 1) 5 tapeState).bind (fun r =>
      (some (1 + min 1 tapeDecs.length, r.1, r.2)).bind (fun m =>
        runGens tapeEv ((tapeDecs.drop 1).map (simpleStep tapeOps)) m.1 m.2.1 m.2.2))).map observe =
    (eaSimple tapeOps tapeEv tapeDecs 5 tapeState).map observe := by decide +kernel

/-- The round-trip hypothesis is not decorative for the real loop either: a checkpoint that forgets the generator
state (`encNoTape` restarts the tape at 0, the rest is kept) resumes into a different run — the individual mutated
in generation 3 gets the genome `[0]` instead of `[7]` (and is shown to the hall of fame with it). -/
theorem c03_resume_needs_tape :
    encNoTape (2, 7, tapeState) ≠ (2, 7, tapeState) ∧
    (eaSimple tapeOps tapeEv tapeDecs 5 tapeState).map observe =
      some ⟨8, [6, 7], [⟨[7], some [7], none⟩, ⟨[5], some [5], none⟩], 8, [(0, 1), (1, 2), (2, 0), (3, 1)],
        [0, 1, 2, 3, 4, 5, 6, 7],
        [(0, ⟨[1, 2, 3], some [6], none⟩), (1, ⟨[4, 5, 6], some [15], none⟩), (2, ⟨[5], some [5], none⟩), (3, ⟨[6], some [6], none⟩),
         (4, ⟨[5], some [5], none⟩), (5, ⟨[5], some [5], none⟩), (6, ⟨[7], some [7], none⟩), (7, ⟨[5], some [5], none⟩)],
        [(0, 1), (1, 2), (1, 3), (3, 6)]⟩ ∧
    ((eaSimple tapeOps tapeEv (tapeDecs.take 1) 5 tapeState).bind (fun r =>
      (some (encNoTape (1 + min 1 tapeDecs.length, r.1, r.2))).bind (fun m =>
        runGens tapeEv ((tapeDecs.drop 1).map (simpleStep tapeOps)) m.1 m.2.1 m.2.2))).map observe =
      some ⟨1, [6, 7], [⟨[0], some [0], none⟩, ⟨[5], some [5], none⟩], 8, [(0, 1), (1, 2), (2, 0), (3, 1)],
        [0, 1, 2, 3, 4, 5, 6, 7],
        [(0, ⟨[1, 2, 3], some [6], none⟩), (1, ⟨[4, 5, 6], some [15], none⟩), (2, ⟨[5], some [5], none⟩), (3, ⟨[6], some [6], none⟩),
         (4, ⟨[5], some [5], none⟩), (5, ⟨[5], some [5], none⟩), (6, ⟨[0], some [0], none⟩), (7, ⟨[5], some [5], none⟩)],
        [(0, 1), (1, 2), (1, 3), (3, 6)]⟩ := by
  refine ⟨fun e => ?_, by decide +kernel, by decide +kernel⟩
  have : (0 : Nat) = 7 := congrArg (fun m : MState Nat => m.2.1) e
  exact absurd this (by decide)

/-- `fitnesses = pool.map(toolbox.evaluate, invalid_ind)` under ANY completion permutation, then
`for ind, fit in zip(invalid_ind, fitnesses): ind.fitness.values = fit` = the sequential evaluate-and-assign
loop of the model (`inv` may list an individual more than once). -/
theorem c03_schedule_independent (ev : List Int → List Int) (h : Heap) (inv : List Nat) (sched : List Nat)
    (hs : sched.Perm (List.range inv.length)) :
    (pmap (fun o => ev (h o).genome) inv sched).map (assignZip h inv) = some (assignFits ev h inv) := by
  rw [schedule_independent _ inv sched hs, Option.map_some, assignFits_eq_zip]

example : [2, 0, 1].Perm (List.range [1, 0, 1].length) := by decide
example : ((pmap (fun o => tapeEv (tapeHeap o).genome) [1, 0, 1] [2, 0, 1]).map
      (fun fits => [0, 1].map (assignZip tapeHeap [1, 0, 1] fits))) =
    some [⟨[1, 2, 3], some [6], none⟩, ⟨[4, 5, 6], some [15], none⟩] ∧
    [0, 1].map (assignFits tapeEv tapeHeap [1, 0, 1]) = [⟨[1, 2, 3], some [6], none⟩, ⟨[4, 5, 6], some [15], none⟩] := by
  decide +kernel

/-- `evalPhaseWith` with the builtin `map` is `Loops.evalPhase`. -/
theorem c03_evalPhase_seq (ev : List Int → List Int) (all : Bool) (g : Nat) (s : LState) (l : List Nat) :
    evalPhaseWith (fun f xs => xs.map f) ev all g s l = evalPhase ev all g s l :=
  evalPhaseWith_eq _ (fun _ _ => rfl) ev all g s l

/-- Any `toolbox.map` that returns what `map` returns — whatever it does internally — gives the evaluation block
of the model: heap, hall-of-fame feed, evaluation records and `nevals`. -/
theorem c03_evalPhase_mapper_independent (mapper : (Nat → List Int) → List Nat → List (List Int))
    (hm : ∀ f xs, mapper f xs = xs.map f) (ev : List Int → List Int) (all : Bool) (g : Nat) (s : LState)
    (l : List Nat) : evalPhaseWith mapper ev all g s l = evalPhase ev all g s l :=
  evalPhaseWith_eq mapper hm ev all g s l

/-- In particular the parallel map under any family of completion permutations (`schedMapper`). -/
theorem c03_evalPhase_schedule_independent (sch : Nat → Nat → List Nat)
    (h : ∀ g n, (sch g n).Perm (List.range n)) (ev : List Int → List Int) (all : Bool) (g : Nat) (s : LState)
    (l : List Nat) : evalPhaseWith (schedMapper sch g) ev all g s l = evalPhase ev all g s l :=
  c03_evalPhase_mapper_independent _ (schedMapper_eq_map sch h g) ev all g s l

/-- Pointwise form: one call, one schedule — a permutation of the submission indices of the individuals this
very call evaluates. -/
theorem c03_evalPhase_schedule_at (ev : List Int → List Int) (all : Bool) (g : Nat) (s : LState) (l : List Nat)
    (sched : List Nat)
    (hs : sched.Perm (List.range (if all then l else invalidOf s.st.heap l).length)) :
    evalPhaseWith (fun f xs => (pmap f xs sched).getD []) ev all g s l = evalPhase ev all g s l := by
  simp only [evalPhaseWith, evalPhase, schedule_independent _ _ sched hs, Option.getD_some, assignFits_eq_zip]

example : ∀ g n, (flipSched g n).Perm (List.range n) := by
  intro g n; unfold flipSched; split
  · exact List.Perm.refl _
  · exact List.reverse_perm _

example : [1, 0].Perm (List.range (if false then [0, 1, 2] else invalidOf
    (fun o => if o = 0 then ⟨[1], some [1], none⟩ else ⟨[2], none, none⟩) [0, 1, 2]).length) := by decide

/-- Not decorative: a map that hands the results back in completion order gives other fitnesses. -/
example : [0, 1].map (evalPhaseWith (fun f xs => (xs.map f).reverse) tapeEv true 7 tapeState [1, 0]).1.st.heap =
      [⟨[1, 2, 3], some [15], none⟩, ⟨[4, 5, 6], some [6], none⟩] ∧
    [0, 1].map (evalPhase tapeEv true 7 tapeState [1, 0]).1.st.heap =
      [⟨[1, 2, 3], some [6], none⟩, ⟨[4, 5, 6], some [15], none⟩] := by decide +kernel

theorem c03_generation_schedule_independent (sch : Nat → Nat → List Nat)
    (h : ∀ g n, (sch g n).Perm (List.range n)) (ev : List Int → List Int) (stp : Step σ) (g : Nat) (t : σ)
    (s : LState) : generationWith (schedMapper sch g) ev stp g t s = generation ev stp g t s :=
  generationWith_eq _ (schedMapper_eq_map sch h g) ev stp g t s

/-- Any family of maps (one per generation) that return what `map` returns drives `runGens` through the same
states. -/
theorem c03_runGens_mapper_independent (m : Nat → (Nat → List Int) → List Nat → List (List Int))
    (hm : ∀ g f xs, m g f xs = xs.map f) (ev : List Int → List Int) (steps : List (Step σ)) (g : Nat) (t : σ)
    (s : LState) : runGensWith m ev steps g t s = runGens ev steps g t s := by
  induction steps generalizing g t s with
  | nil => rfl
  | cons stp rest ih =>
    simp only [runGensWith, runGens, generationWith_eq (m g) (hm g)]
    cases generation ev stp g t s with
    | none => rfl
    | some r => exact ih (g + 1) r.1 r.2

/-- The run of the C03 loops with `toolbox.map` a parallel map under any family of completion permutations (one
per generation and task count) = the run with the builtin `map`: same tape, heap, population, records. -/
theorem c03_runGens_schedule_independent (sch : Nat → Nat → List Nat)
    (h : ∀ g n, (sch g n).Perm (List.range n)) (ev : List Int → List Int) (steps : List (Step σ)) (g : Nat)
    (t : σ) (s : LState) : runGensWith (schedMapper sch) ev steps g t s = runGens ev steps g t s :=
  c03_runGens_mapper_independent _ (schedMapper_eq_map sch h) ev steps g t s

theorem c03_runPop_schedule_independent (sch : Nat → Nat → List Nat)
    (h : ∀ g n, (sch g n).Perm (List.range n)) (ev : List Int → List Int) (steps : List (Step σ)) (t : σ)
    (s : LState) : runPopWith (schedMapper sch) ev steps t s = runPop ev steps t s := by
  rw [runPopWith, runPop, gen0With_eq _ (schedMapper_eq_map sch h 0),
    c03_runGens_mapper_independent _ (schedMapper_eq_map sch h)]

theorem c03_eaSimple_schedule_independent (sch : Nat → Nat → List Nat)
    (h : ∀ g n, (sch g n).Perm (List.range n)) (ops : Ops σ) (ev : List Int → List Int) (decs : List SimpleDec)
    (t : σ) (s : LState) :
    runPopWith (schedMapper sch) ev (decs.map (simpleStep ops)) t s = eaSimple ops ev decs t s :=
  c03_runPop_schedule_independent sch h ev _ t s

example : (runPopWith (schedMapper flipSched) tapeEv (tapeDecs.map (simpleStep tapeOps)) 5 tapeState).map observe =
    (eaSimple tapeOps tapeEv tapeDecs 5 tapeState).map observe := by decide +kernel

end C03

section Hidden
variable {V H B : Type}

/-- The premise the harness's hidden-state detector checks on the implementation: if no step changes the hidden
component (it may be READ: constant tables, registries) and the visible part round-trips, a run killed after any
generation `k ≤ n` and resumed in a new process — where importing the library gives the same hidden value `h` the
first process started with — ends in the state of the uninterrupted run. -/
theorem resume_of_hidden_constant (r : HRun V H B) (hrt : ∀ v, r.dec (r.enc v) = some v)
    (hc : HiddenConstant r) (n k : Nat) (hk : k ≤ n) (v : V) (h : H) :
    hresumeFrom r h k n (v, h) = some (hrun r n (v, h)) := by
  have e : hrun r k (v, h) = ((hrun r k (v, h)).1, h) := Prod.ext rfl (hrun_snd_of_hiddenConstant r hc k (v, h))
  rw [hresumeFrom, hrt, Option.map_some, ← e, ← hrun_add, Nat.add_sub_cancel' hk]

example : HiddenConstant toyConst ∧ ∀ v, toyConst.dec (toyConst.enc v) = some v := ⟨fun _ => rfl, fun _ => rfl⟩
example : hresumeFrom toyConst 3 2 5 (1, 3) = some (16, 3) ∧ hrun toyConst 5 (1, 3) = (16, 3) := by decide

/-- … and a second run in the same process, and a checkpoint restored in the same process, agree with it too. -/
theorem rerun_of_hidden_constant (r : HRun V H B) (hc : HiddenConstant r) (n : Nat) (v : V) (h : H) :
    hrerun r n v h = hrun r n (v, h) := by
  rw [hrerun, hrun_snd_of_hiddenConstant r hc n (v, h)]

/-- (i)  When the step DOES write the hidden component, resumption is correct exactly when the hidden component never
reaches the visible output: for a round-tripping checkpoint, "for every start state, every hidden value `h0` the new
process may come up with, every `n` and every crash point `k ≤ n` the resumed run shows the visible state of the
uninterrupted run" is equivalent to non-interference of the step. -/
theorem resume_iff_hidden_irrelevant (r : HRun V H B) (hrt : ∀ v, r.dec (r.enc v) = some v) :
    (∀ (h0 : H) (s : V × H) (n k : Nat), k ≤ n →
        (hresumeFrom r h0 k n s).map Prod.fst = some (hrun r n s).1) ↔ NonInterfering r := by
  constructor
  · intro hres v h h'
    have := hres h' (v, h) 1 0 (Nat.zero_le _)
    simp only [hresumeFrom, hrun, hrt, Option.map_some, Option.some.injEq] at this
    exact this.symm
  · intro hni h0 s n k hk
    rw [hresumeFrom, hrt, Option.map_some, Option.map_some]
    have e : hrun r n s = hrun r (n - k) ((hrun r k s).1, (hrun r k s).2) := by
      rw [← Nat.add_sub_cancel' hk, hrun_add, Nat.add_sub_cancel' hk]
    rw [e, hrun_fst_of_nonInterfering r hni (n - k) (hrun r k s).1 h0 (hrun r k s).2]

/-- The direction the check relies on, spelled out for one crash point. -/
theorem resume_of_hidden_irrelevant (r : HRun V H B) (hrt : ∀ v, r.dec (r.enc v) = some v)
    (hni : NonInterfering r) (h0 : H) (s : V × H) (n k : Nat) (hk : k ≤ n) :
    (hresumeFrom r h0 k n s).map Prod.fst = some (hrun r n s).1 :=
  (resume_iff_hidden_irrelevant r hrt).2 hni h0 s n k hk

/-- The same for the two in-process histories of the harness: the run started a second time, and a checkpoint
restored after the uninterrupted run has finished, show the same visible states. -/
theorem rerun_of_hidden_irrelevant (r : HRun V H B) (hni : NonInterfering r) (n : Nat) (v : V) (h : H) :
    (hrerun r n v h).1 = (hrun r n (v, h)).1 :=
  hrun_fst_of_nonInterfering r hni n v _ _

theorem restoreSame_of_hidden_irrelevant (r : HRun V H B) (hrt : ∀ v, r.dec (r.enc v) = some v)
    (hni : NonInterfering r) (s : V × H) (n k : Nat) (hk : k ≤ n) :
    (hrestoreSame r k n s).map Prod.fst = some (hrun r n s).1 := by
  have := resume_of_hidden_irrelevant r hrt hni (hrun r n s).2 s n k hk
  simpa [hrestoreSame, hresumeFrom] using this

/-- a machine that WRITES its hidden state in every step and never reads it: non-interfering, not hidden-constant —
the detector reports it, and no failing history exists -/
example : NonInterfering (toyHidden false) ∧ ¬ HiddenConstant (toyHidden false) ∧
    ∀ v, (toyHidden false).dec ((toyHidden false).enc v) = some v := by
  refine ⟨fun v h h' => rfl, fun hc => ?_, fun _ => rfl⟩
  have := hc (0, false)
  simp [toyHidden] at this

/-- (ii)  The converse witness (a cycle kept at module level, outside the checkpoint): the step reads the hidden
component, the checkpoint round-trips everything it is given, and still the run killed after generation 1 and
resumed in a new process (cycle at its start position) differs from the uninterrupted run; so does the run started a
second time in the same process; the checkpoint of generation 1 restored in the same process after a 3-generation
run happens to agree (the cycle is back in step) and after a 4-generation run it does not — which is why the harness
varies the run lengths. -/
theorem hidden_state_breaks_resume :
    (∀ v, (toyHidden true).dec ((toyHidden true).enc v) = some v) ∧
    ¬ NonInterfering (toyHidden true) ∧
    hrun (toyHidden true) 3 (1, false) = (10, true) ∧
    hresumeFrom (toyHidden true) false 1 3 (1, false) = some (9, false) ∧
    (hresumeFrom (toyHidden true) false 1 3 (1, false)).map Prod.fst ≠ some (hrun (toyHidden true) 3 (1, false)).1 ∧
    (hrerun (toyHidden true) 3 1 false).1 ≠ (hrun (toyHidden true) 3 (1, false)).1 ∧
    (hrestoreSame (toyHidden true) 1 3 (1, false)).map Prod.fst = some (hrun (toyHidden true) 3 (1, false)).1 ∧
    (hrestoreSame (toyHidden true) 1 4 (1, false)).map Prod.fst ≠ some (hrun (toyHidden true) 4 (1, false)).1 := by
  refine ⟨fun _ => rfl, fun hni => ?_, by decide, by decide, by decide, by decide, by decide, by decide⟩
  have := hni 0 true false
  simp [toyHidden] at this

/-- A run without hidden state is a `Run`: the two notions of "n generations" agree. -/
theorem hrun_unit (r : HRun V Unit B) (n : Nat) (v : V) : (hrun r n (v, ())).1 = run r.toRun n v := by
  induction n generalizing v with
  | zero => rfl
  | succ n ih =>
    rw [hrun_succ]
    show (hrun r n ((r.step (v, ())).1, (r.step (v, ())).2)).1 = run r.toRun n ((r.step (v, ())).1)
    exact ih _

end Hidden

section C03Hidden
open Variation Loops
variable {τ H B : Type}

/-- The hidden-state premise on the C03 machine itself.  The tape of the generational machine of `Core/Loops.lean` is
a pair (generator states, hidden component); the checkpoint saves counter, GENERATOR states and loop state only
(`hideEnc`), the new process comes up with the import-time hidden value `h0` (`hideDec`).  If every generation leaves
the hidden component as it found it, then killing `runGens` after any number `k` of generations and resuming gives
the uninterrupted run — for every loop of C03 (each is `runGens` over its decision records). -/
theorem c03_resume_hidden_constant (ev : List Int → List Int) (enc : MState τ → B) (dec : B → Option (MState τ))
    (hrt : ∀ m, dec (enc m) = some m) (steps : List (Step (τ × H))) (hk : ∀ stp ∈ steps, KeepsHidden stp)
    (k g : Nat) (t : τ) (h0 : H) (s : LState) :
    runGens ev steps g (t, h0) s =
      (runGens ev (steps.take k) g (t, h0) s).bind (fun r =>
        (hideDec dec h0 (hideEnc enc (g + min k steps.length, r.1, r.2))).bind (fun m =>
          runGens ev (steps.drop k) m.1 m.2.1 m.2.2)) := by
  rw [runGens_take_drop ev steps k]
  refine Option.bind_congr fun r hr => ?_
  have hh : r.1.2 = h0 :=
    runGens_keeps_hidden ev (steps.take k) (fun x hx => hk x (List.mem_of_mem_take hx)) g (t, h0) s r hr
  rw [hideDec, hideEnc, hrt, ← hh]; rfl

example (stp : Step τ) : KeepsHidden (liftHidden (H := H) stp) := liftHidden_keeps stp

end C03Hidden

open Migration

section Mig
variable {α κ : Type} [DecidableEq κ]

/-- `migRing` is the second loop applied to the results of the selection / replacement calls of the first loop. -/
theorem migRing_eq_with (key : α → κ) (pops : List (List α)) (k : Nat) (sel : List α → Nat → List α)
    (rep : Option (List α → Nat → List α)) (ma : Option (List Nat)) :
    migRing key pops k sel rep ma =
      migRingWith key pops (pops.map (fun p => sel p k))
        (match rep with
         | none => pops.map (fun p => sel p k)
         | some f => pops.map (fun p => f p k)) ma := by
  cases rep <;> rfl

/-- Determinism of a migration given its inputs: the result is a function of the populations, `k`, the migration
array and of what the selection and replacement callables return ON THESE DEMES — nothing else (no hidden state,
no dependence on the callables beyond their results). -/
theorem migRing_deterministic (key : α → κ) (pops : List (List α)) (k : Nat)
    (sel₁ sel₂ : List α → Nat → List α) (rep₁ rep₂ : Option (List α → Nat → List α)) (ma : Option (List Nat))
    (hs : ∀ p ∈ pops, sel₁ p k = sel₂ p k)
    (hr : ∀ p ∈ pops, rep₁.map (fun f => f p k) = rep₂.map (fun f => f p k)) :
    migRing key pops k sel₁ rep₁ ma = migRing key pops k sel₂ rep₂ ma := by
  rw [migRing_eq_with, migRing_eq_with, List.map_congr_left hs]
  cases pops with
  | nil => cases rep₁ <;> cases rep₂ <;> rfl
  | cons p ps =>
    have hp := hr p (List.mem_cons_self ..)
    cases rep₁ <;> cases rep₂ <;> first | rfl | cases hp | skip
    next f g =>
      show migRingWith key _ _ (List.map (fun q => f q k) _) ma = migRingWith key _ _ (List.map (fun q => g q k) _) ma
      rw [List.map_congr_left fun q hq => Option.some.inj (hr q hq)]

example : ∀ p ∈ [[1, 2, 3], [4, 5, 6]], selFirst p 2 = (fun (q : List Nat) k => (q.take 5).take k) p 2 := by decide

/-- A migration keeps the number of demes and the size of every deme. -/
theorem migRing_shape (key : α → κ) (pops : List (List α)) (k : Nat) (sel : List α → Nat → List α)
    (rep : Option (List α → Nat → List α)) (ma : Option (List Nat)) (pops' : List (List α))
    (h : migRing key pops k sel rep ma = some pops') :
    pops'.map List.length = pops.map List.length := by
  rw [migRing_eq_with] at h
  exact (migrate_spec key _ _ _ pops pops' h).1

/-- three demes of three, the two best of each move on along the ring and replace the emigrants there -/
example : migRing (fun x : Nat => x) [[1, 2, 3], [4, 5, 6], [7, 8, 9]] 2 selFirst none none =
    some [[7, 8, 3], [1, 2, 6], [4, 5, 9]] := by decide +kernel

/-- with a replacement strategy (the worst leave) and an explicit migration array -/
example : migRing (fun x : Nat => x) [[1, 2, 3], [4, 5, 6], [7, 8, 9]] 1 selFirst (some selLast) (some [2, 0, 1]) =
    some [[1, 2, 4], [4, 5, 7], [7, 8, 1]] := by decide +kernel

/-- the documented pitfall: a replacement strategy that names the same individual twice makes `index` fail
(`ValueError`) as soon as no equal individual is left -/
example : migRing (fun x : Nat => x) [[1, 2], [3, 4]] 2 selFirst (some (fun p _ => [p.headD 0, p.headD 0])) none =
    none := by decide

/-- Conservation: with no replacement strategy (immigrants take the places of the emigrants), a selection that
returns the same number of emigrants for every deme, and a migration array that is a permutation of the deme indices
(or the default ring), a migration only MOVES genomes: the genomes of all demes together are the same multiset before
and after (`index` works with `==`, so this is a statement about genomes, not objects). -/
theorem migRing_conserves (key : α → κ) (pops : List (List α)) (k : Nat) (sel : List α → Nat → List α)
    (ma : Option (List Nat)) (hma : ∀ m, ma = some m → m.Perm (List.range pops.length))
    (hlen : ∀ p ∈ pops, ∀ q ∈ pops, (sel p k).length = (sel q k).length) (pops' : List (List α))
    (h : migRing key pops k sel none ma = some pops') :
    (pops'.flatten.map key).Perm (pops.flatten.map key) := by
  have hm : (ma.getD (defaultRing pops.length)).Perm (List.range (pops.map (fun p => sel p k)).length) := by
    rw [List.length_map]
    cases ma with
    | some m => exact hma m rfl
    | none =>
      cases pops with
      | nil => cases h
      | cons p ps => exact defaultRing_perm _ (Nat.succ_pos _)
  have hl : ∀ a ∈ pops.map (fun p => sel p k), ∀ b ∈ pops.map (fun p => sel p k), a.length = b.length :=
    List.forall_mem_map.2 fun p hp => List.forall_mem_map.2 (hlen p hp)
  exact (List.perm_append_right_iff _).1 ((migrate_spec key _ _ _ pops pops' h).2.trans
    (List.Perm.append_left _ (leaving_perm_arriving key _ _ hm hl).symm))

example : [2, 0, 1].Perm (List.range [[1, 2, 3], [4, 5, 6], [7, 8, 9]].length) ∧
    (∀ p ∈ [[1, 2, 3], [4, 5, 6], [7, 8, 9]], ∀ q ∈ [[1, 2, 3], [4, 5, 6], [7, 8, 9]],
      (selFirst p 2).length = (selFirst q 2).length) ∧
    migRing (fun x : Nat => x) [[1, 2, 3], [4, 5, 6], [7, 8, 9]] 2 selFirst none (some [2, 0, 1]) =
      some [[4, 5, 3], [7, 8, 6], [1, 2, 9]] := by decide +kernel

/-- Not decorative: with a replacement strategy genomes are overwritten (3, 6 and 9 are lost; 1, 4 and 7 are doubled). -/
example : migRing (fun x : Nat => x) [[1, 2, 3], [4, 5, 6], [7, 8, 9]] 1 selFirst (some selLast) none =
    some [[1, 2, 7], [4, 5, 1], [7, 8, 4]] := by decide +kernel

end Mig
end C17
