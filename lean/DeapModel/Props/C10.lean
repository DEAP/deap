/-
C10 — Real-coded operators stay finite, in bounds and centred on the parents (model: `DeapModel/Core/RealOps.lean`).

Reading.  A run of an operator is `op … rs (gs) = .ok (…)` where `rs` / `gs` are the results of its
`random.random()` / `random.gauss` calls in call order; the theorems hold for every such run, i.e. for
every seed.  `*_runs` show that a tape that is long enough always gives a run (no vacuity).
"Well-defined" = every `/` and `**` of the source is applied inside its real domain (divisor ≠ 0,
base of a real power ≥ 0, base > 0 under a negative exponent): over `ℝ` this is what "finite real
genes, never NaN or complex" means.

Two further semantics of the same model definitions carry the float side (sections "the rounded semantics" and
"the sum clause and the blend range clause under the standard model" below): `XFA A` — finite rational | +inf | -inf |
nan under ANY lawful rounded arithmetic `A` (`Core/RoundedOps.lean`) — for the clamp and the NaN analysis of the two
bounded operators, and `FlNum M` — reals with `fl(a op b) = (a op b)(1 + d)` (`Lemmas/C10Fl.lean`) — for the sum clause
and the blend range clause.
The ES mutations (`gauss_*_rounded`, `lognormal_*_rounded`, with the exact boundary of "positive strategies stay
positive" and witnesses beyond it), the blend range clause (`blend_range_rounded`, `esblend_range_rounded`, explicit
allowance) and unbounded SBX (`sbx_rounded*`) have rounded theorems as well.
The level stays *partial*: that CPython's doubles and libm's `pow` / `exp` satisfy the laws of these semantics is
trusted (and probed by the harness).
-/
import DeapModel.Lemmas.C10Fl
import DeapModel.Lemmas.C10Es
import DeapModel.Lemmas.C10Gen

namespace C10
open RealOps

/-- every value is one `random.random()` can return: `0 ≤ r < 1` -/
def UnitDraws (rs : List ℝ) : Prop := ∀ r ∈ rs, 0 ≤ r ∧ r < 1

/-- every gene lies inside the bound pair in force at its locus -/
def InBox (xs : List ℝ) (low up : Bound ℝ) : Prop :=
  ∀ (i : Nat) x l u, xs[i]? = some x → low.get? i = some l → up.get? i = some u → l ≤ x ∧ x ≤ u

/-- the bound pairs are ordered (`low ≤ up`; the property's domain has `low < up`) -/
def BoundsOrdered (low up : Bound ℝ) : Prop :=
  ∀ (i : Nat) l u, low.get? i = some l → up.get? i = some u → l ≤ u

/-- the bound pairs are strictly ordered: `low < up` at every locus (the property's domain) -/
def BoundsStrict (low up : Bound ℝ) : Prop :=
  ∀ (i : Nat) l u, low.get? i = some l → up.get? i = some u → l < u

theorem blend_runs (ind1 ind2 : Ind ℝ) (alpha : ℝ) (rs : List ℝ)
    (h : min ind1.genes.length ind2.genes.length ≤ rs.length) :
    ∃ out, cxBlend ind1 ind2 alpha rs = .ok out :=
  pairOp_total _ ind1 ind2 rs h

example : ∃ out, cxBlend ⟨1, [0, 1], 0, []⟩ ⟨2, [2, 4, 8], 0, []⟩ (1 / 2 : ℝ) [1 / 2, 0] = .ok out :=
  blend_runs _ _ _ _ (by decide)

theorem sbx_runs (ind1 ind2 : Ind ℝ) (eta : ℝ) (rs : List ℝ)
    (h : min ind1.genes.length ind2.genes.length ≤ rs.length) :
    ∃ out, cxSimulatedBinary ind1 ind2 eta rs = .ok out :=
  pairOp_total _ ind1 ind2 rs h

example : ∃ out, cxSimulatedBinary ⟨1, [0, 1], 0, []⟩ ⟨2, [2, 4], 0, []⟩ (20 : ℝ) [1 / 2, 3 / 4] = .ok out :=
  sbx_runs _ _ _ _ (by decide)

theorem esblend_runs (ind1 ind2 : Ind ℝ) (alpha : ℝ) (rs : List ℝ)
    (h : 2 * min (min ind1.genes.length ind1.strategy.length) (min ind2.genes.length ind2.strategy.length)
          ≤ rs.length) :
    ∃ out, cxESBlend ind1 ind2 alpha rs = .ok out :=
  cxESBlend_total ind1 ind2 alpha rs h

example : ∃ out, cxESBlend ⟨1, [0], 3, [1]⟩ ⟨2, [2], 4, [3]⟩ (1 / 2 : ℝ) [1 / 2, 0] = .ok out :=
  esblend_runs _ _ _ _ (by decide)

/-- bounded SBX returns whenever the bound *sequences* are as long as the shorter parent (what the
code demands, else `IndexError`) and three draws per locus are available -/
theorem sbxb_runs (ind1 ind2 : Ind ℝ) (eta : ℝ) (low up : Bound ℝ) (rs : List ℝ)
    (hlow : ∀ l, low = .seq l → min ind1.genes.length ind2.genes.length ≤ l.length)
    (hup : ∀ l, up = .seq l → min ind1.genes.length ind2.genes.length ≤ l.length)
    (h : 3 * min ind1.genes.length ind2.genes.length ≤ rs.length) :
    ∃ out, cxSimulatedBinaryBounded ind1 ind2 eta low up rs = .ok out :=
  cxSBXB_total ind1 ind2 eta low up rs hlow hup h

example : ∃ out, cxSimulatedBinaryBounded ⟨1, [0, 1 / 2], 0, []⟩ ⟨2, [1, 1 / 2], 0, []⟩ (20 : ℝ)
    (.scalar 0) (.seq [1, 1]) [1 / 4, 1 / 2, 3 / 4, 1 / 4, 0, 0] = .ok out :=
  sbxb_runs _ _ _ _ _ _ nofun (fun _ h => by cases h; decide) (by decide)

theorem poly_runs (ind : Ind ℝ) (eta : ℝ) (low up : Bound ℝ) (indpb : ℝ) (rs : List ℝ)
    (hlow : ∀ l, low = .seq l → ind.genes.length ≤ l.length)
    (hup : ∀ l, up = .seq l → ind.genes.length ≤ l.length)
    (h : 2 * ind.genes.length ≤ rs.length) :
    ∃ out, mutPolynomialBounded ind eta low up indpb rs = .ok out :=
  mutPoly_total ind eta low up indpb rs hlow hup h

example : ∃ out, mutPolynomialBounded ⟨1, [0, 1 / 2], 0, []⟩ (20 : ℝ) (.scalar 0) (.scalar 1) 1
    [1 / 4, 1 / 2, 3 / 4, 1 / 4] = .ok out :=
  poly_runs _ _ _ _ _ _ nofun nofun (by decide)

theorem gauss_runs (ind : Ind ℝ) (mu sigma : Bound ℝ) (indpb : ℝ) (rs gs : List ℝ)
    (hmu : ∀ l, mu = .seq l → ind.genes.length ≤ l.length)
    (hsigma : ∀ l, sigma = .seq l → ind.genes.length ≤ l.length)
    (hr : ind.genes.length ≤ rs.length) (hg : ind.genes.length ≤ gs.length) :
    ∃ out, mutGaussian ind mu sigma indpb rs gs = .ok out :=
  mutGaussian_total ind mu sigma indpb rs gs hmu hsigma hr hg

example : ∃ out, mutGaussian ⟨1, [0, 1 / 2], 0, []⟩ (.scalar 0) (.seq [1, 2]) (1 / 2 : ℝ)
    [1 / 4, 3 / 4] [-3, 5] = .ok out :=
  gauss_runs _ _ _ _ _ _ nofun (fun _ h => by cases h; decide) (by decide) (by decide)

/-- log-normal mutation returns for a non-empty individual whose strategy is at least as long -/
theorem lognormal_runs (ind : Ind ℝ) (c indpb : ℝ) (rs gs : List ℝ)
    (hne : 0 < ind.genes.length) (hs : ind.genes.length ≤ ind.strategy.length)
    (hr : ind.genes.length ≤ rs.length) (hg : 2 * ind.genes.length + 1 ≤ gs.length) :
    ∃ out, mutESLogNormal ind c indpb rs gs = .ok out :=
  mutESLogNormal_total ind c indpb rs gs hne hs hr hg

example : ∃ out, mutESLogNormal ⟨1, [0, 1 / 2], 3, [1, 2]⟩ (1 : ℝ) (1 / 2) [1 / 4, 3 / 4] [-1, 1, 2, 0, 0]
    = .ok out :=
  lognormal_runs _ _ _ _ _ (by decide) (by decide) (by decide) (by decide)

/-- `cxBlend`: at every locus the two children sum to what the two parents sum to. -/
theorem blend_sum (ind1 ind2 : Ind ℝ) (alpha : ℝ) (rs : List ℝ) (o1 o2 : Ind ℝ) (rest : List ℝ)
    (hrun : cxBlend ind1 ind2 alpha rs = .ok (o1, o2, rest)) :
    ∀ (i : Nat) x1 x2 y1 y2, ind1.genes[i]? = some x1 → ind2.genes[i]? = some x2 →
      o1.genes[i]? = some y1 → o2.genes[i]? = some y2 → y1 + y2 = x1 + x2 :=
  pairOp_locus hrun fun r _ _ x1 x2 _ _ => blendPair_sum alpha x1 x2 r

/-- `cxBlend`: for `alpha ≥ 0` and draws in `[0,1)` both children lie in the parental interval
widened by `alpha` times its width on each side. -/
theorem blend_range (ind1 ind2 : Ind ℝ) (alpha : ℝ) (rs : List ℝ) (o1 o2 : Ind ℝ) (rest : List ℝ)
    (ha : 0 ≤ alpha) (hr : UnitDraws rs)
    (hrun : cxBlend ind1 ind2 alpha rs = .ok (o1, o2, rest)) :
    ∀ (i : Nat) x1 x2 y1 y2, ind1.genes[i]? = some x1 → ind2.genes[i]? = some x2 →
      o1.genes[i]? = some y1 → o2.genes[i]? = some y2 →
      (min x1 x2 - alpha * |x1 - x2| ≤ y1 ∧ y1 ≤ max x1 x2 + alpha * |x1 - x2|) ∧
      (min x1 x2 - alpha * |x1 - x2| ≤ y2 ∧ y2 ≤ max x1 x2 + alpha * |x1 - x2|) :=
  pairOp_locus hrun fun r hm _ _ _ _ _ => blendPair_range ha (hr r hm).1 (hr r hm).2

theorem unitDraws_half_zero : UnitDraws [1 / 2, 0] := by
  simp only [UnitDraws, List.forall_mem_cons]; norm_num

example : (0 : ℝ) ≤ 1 / 2 ∧ UnitDraws [1 / 2, 0] ∧
    ∃ out, cxBlend ⟨1, [0, 1], 0, []⟩ ⟨2, [2, 4, 8], 0, []⟩ (1 / 2 : ℝ) [1 / 2, 0] = .ok out :=
  ⟨by norm_num, unitDraws_half_zero, blend_runs _ _ _ _ (by decide)⟩

/-- `cxESBlend`: the sum is kept at every locus, for the genes and for the strategies. -/
theorem esblend_sum (ind1 ind2 : Ind ℝ) (alpha : ℝ) (rs : List ℝ) (o1 o2 : Ind ℝ) (rest : List ℝ)
    (hrun : cxESBlend ind1 ind2 alpha rs = .ok (o1, o2, rest)) :
    ∀ (i : Nat) x1 s1 x2 s2 y1 u1 y2 u2, ind1.genes[i]? = some x1 → ind1.strategy[i]? = some s1 →
      ind2.genes[i]? = some x2 → ind2.strategy[i]? = some s2 →
      o1.genes[i]? = some y1 → o1.strategy[i]? = some u1 → o2.genes[i]? = some y2 → o2.strategy[i]? = some u2 →
      y1 + y2 = x1 + x2 ∧ u1 + u2 = s1 + s2 :=
  cxESBlend_locus hrun (fun r _ x1 x2 => blendPair_sum alpha x1 x2 r) fun q _ s1 s2 => blendPair_sum alpha s1 s2 q

/-- `cxESBlend`: genes and strategies of the children stay in the widened parental intervals. -/
theorem esblend_range (ind1 ind2 : Ind ℝ) (alpha : ℝ) (rs : List ℝ) (o1 o2 : Ind ℝ) (rest : List ℝ)
    (ha : 0 ≤ alpha) (hr : UnitDraws rs)
    (hrun : cxESBlend ind1 ind2 alpha rs = .ok (o1, o2, rest)) :
    ∀ (i : Nat) x1 s1 x2 s2 y1 u1 y2 u2, ind1.genes[i]? = some x1 → ind1.strategy[i]? = some s1 →
      ind2.genes[i]? = some x2 → ind2.strategy[i]? = some s2 →
      o1.genes[i]? = some y1 → o1.strategy[i]? = some u1 → o2.genes[i]? = some y2 → o2.strategy[i]? = some u2 →
      ((min x1 x2 - alpha * |x1 - x2| ≤ y1 ∧ y1 ≤ max x1 x2 + alpha * |x1 - x2|) ∧
       (min x1 x2 - alpha * |x1 - x2| ≤ y2 ∧ y2 ≤ max x1 x2 + alpha * |x1 - x2|)) ∧
      ((min s1 s2 - alpha * |s1 - s2| ≤ u1 ∧ u1 ≤ max s1 s2 + alpha * |s1 - s2|) ∧
       (min s1 s2 - alpha * |s1 - s2| ≤ u2 ∧ u2 ≤ max s1 s2 + alpha * |s1 - s2|)) :=
  cxESBlend_locus hrun (fun r hm _ _ => blendPair_range ha (hr r hm).1 (hr r hm).2)
    fun q hm _ _ => blendPair_range ha (hr q hm).1 (hr q hm).2

example : (0 : ℝ) ≤ 2 ∧ UnitDraws [1 / 2, 0] ∧
    ∃ out, cxESBlend ⟨1, [0], 3, [1]⟩ ⟨2, [2], 4, [3]⟩ (2 : ℝ) [1 / 2, 0] = .ok out :=
  ⟨by norm_num, unitDraws_half_zero, esblend_runs _ _ _ _ (by decide)⟩

/-- `cxSimulatedBinary`: the sum is kept at every locus (for every crowding degree and every draw). -/
theorem sbx_sum (ind1 ind2 : Ind ℝ) (eta : ℝ) (rs : List ℝ) (o1 o2 : Ind ℝ) (rest : List ℝ)
    (hrun : cxSimulatedBinary ind1 ind2 eta rs = .ok (o1, o2, rest)) :
    ∀ (i : Nat) x1 x2 y1 y2, ind1.genes[i]? = some x1 → ind2.genes[i]? = some x2 →
      o1.genes[i]? = some y1 → o2.genes[i]? = some y2 → y1 + y2 = x1 + x2 :=
  pairOp_locus hrun fun r _ _ x1 x2 _ _ => sbxPair_sum eta x1 x2 r

/-- `cxSimulatedBinary` :279-283 is well defined for `eta ≥ 0` and a draw in `[0,1)`: the divisors
`eta + 1` and `2(1 - rand)` are non-zero and the base of `beta **= 1/(eta+1)` is non-negative. -/
theorem sbx_welldefined (eta rand : ℝ) (he : 0 ≤ eta) (h0 : 0 ≤ rand) (h1 : rand < 1) :
    eta + 1 ≠ 0 ∧ 2 * (1 - rand) ≠ 0 ∧ 0 ≤ (if rand ≤ 1 / 2 then 2 * rand else 1 / (2 * (1 - rand))) := by
  refine ⟨by linarith, by intro h; linarith, ?_⟩
  split
  · linarith
  · apply div_nonneg <;> linarith

example : (0 : ℝ) ≤ 1000 ∧ (0 : ℝ) ≤ 3 / 4 ∧ (3 / 4 : ℝ) < 1 := by norm_num

/-- One locus of `cxSimulatedBinaryBounded` (:327-350), parents inside `[xl, xu]`, guard
`abs(x1 - x2) > 1e-14` passed, `eta ≥ 0`, `rand ∈ [0,1)`.  With `lo = min`, `hi = max`:
the divisor `hi - lo` is positive; both `beta ≥ 1` (bases of `beta ** -(eta+1)`, non-zero);
both `alpha ∈ [1,2)` (divisors of `1.0/alpha`); `eta + 1 ≠ 0`; the power bases `rand*alpha` are
`≥ 0`; the divisors `2 - rand*alpha` and the power bases `1/(2 - rand*alpha)` are `> 0`; and both
children are inside `[xl, xu]` *before* the clamp (`beta_q ≤ beta`), so the clamp changes nothing. -/
theorem sbxb_welldefined (eta x1 x2 xl xu rand : ℝ) (he : 0 ≤ eta)
    (h1 : xl ≤ x1 ∧ x1 ≤ xu) (h2 : xl ≤ x2 ∧ x2 ≤ xu) (hguard : (eps : ℝ) < |x1 - x2|)
    (hr0 : 0 ≤ rand) (hr1 : rand < 1) :
    let lo := RealLike.pmin x1 x2
    let hi := RealLike.pmax x1 x2
    let b1 := sbxbBeta (lo - xl) (hi - lo)
    let b2 := sbxbBeta (xu - hi) (hi - lo)
    let a1 := sbxbAlpha eta b1
    let a2 := sbxbAlpha eta b2
    0 < hi - lo ∧ eta + 1 ≠ 0 ∧ 1 ≤ b1 ∧ 1 ≤ b2 ∧ (1 ≤ a1 ∧ a1 < 2) ∧ (1 ≤ a2 ∧ a2 < 2) ∧
    (0 ≤ rand * a1 ∧ 0 < 2 - rand * a1 ∧ 0 < 1 / (2 - rand * a1)) ∧
    (0 ≤ rand * a2 ∧ 0 < 2 - rand * a2 ∧ 0 < 1 / (2 - rand * a2)) ∧
    (xl ≤ sbxbRaw1 eta lo hi xl rand ∧ sbxbRaw1 eta lo hi xl rand ≤ xu) ∧
    (xl ≤ sbxbRaw2 eta lo hi xu rand ∧ sbxbRaw2 eta lo hi xu rand ≤ xu) ∧
    sbxbChildren eta lo hi xl xu rand = (sbxbRaw1 eta lo hi xl rand, sbxbRaw2 eta lo hi xu rand) := by
  intro lo hi b1 b2 a1 a2
  have hw : 0 < hi - lo := sbxb_guard hguard
  obtain ⟨hl, hu⟩ := pmin_pmax_mem h1 h2
  have hb1 : 1 ≤ b1 := sbxbBeta_ge_one (sub_nonneg.2 hl) hw
  have hb2 : 1 ≤ b2 := sbxbBeta_ge_one (sub_nonneg.2 hu) hw
  have ha1 := sbxbAlpha_mem he hb1
  have ha2 := sbxbAlpha_mem he hb2
  obtain ⟨r1, r2⟩ := sbxbRaw_mem he hl (by linarith) hu hr0 hr1
  exact ⟨hw, by linarith, hb1, hb2, ha1, ha2, sbxbBetaQ_bases ha1 hr0 hr1, sbxbBetaQ_bases ha2 hr0 hr1,
    r1, r2, sbxbChildren_eq_raw he hl (sub_pos.1 hw) hu hr0 hr1⟩

example : (0 : ℝ) ≤ 20 ∧ ((0 : ℝ) ≤ 0 ∧ (0 : ℝ) ≤ 1) ∧ ((0 : ℝ) ≤ 1 ∧ (1 : ℝ) ≤ 1) ∧
    (eps : ℝ) < |(0 : ℝ) - 1| ∧ (0 : ℝ) ≤ 3 / 4 ∧ (3 / 4 : ℝ) < 1 := by
  refine ⟨by norm_num, by norm_num, by norm_num, ?_, by norm_num, by norm_num⟩
  rw [eps_real]; norm_num

/-- `cxSimulatedBinaryBounded`: parents inside the bounds give children inside the bounds, at every
locus, for every crowding degree and every draw (also draws outside `[0,1)`: this is the clamp). -/
theorem sbxb_bounds (ind1 ind2 : Ind ℝ) (eta : ℝ) (low up : Bound ℝ) (rs : List ℝ) (o1 o2 : Ind ℝ)
    (rest : List ℝ) (hord : BoundsOrdered low up) (h1 : InBox ind1.genes low up) (h2 : InBox ind2.genes low up)
    (hrun : cxSimulatedBinaryBounded ind1 ind2 eta low up rs = .ok (o1, o2, rest)) :
    InBox o1.genes low up ∧ InBox o2.genes low up := by
  obtain ⟨⟨l1, l2⟩, h3, h4, h5⟩ := cxSBXB_spec hrun
  have key : ∀ {i : Nat} {y1 y2 l u}, o1.genes[i]? = some y1 → o2.genes[i]? = some y2 → low.get? i = some l →
      up.get? i = some u → (l ≤ y1 ∧ y1 ≤ u) ∧ (l ≤ y2 ∧ y2 ≤ u) := by
    intro i y1 y2 l u hc1 hc2 hlg hug
    obtain ⟨x1, hx1⟩ := getElem?_of_length_eq l1 hc1
    obtain ⟨x2, hx2⟩ := getElem?_of_length_eq l2 hc2
    obtain ⟨rs', rest', _, hg⟩ := h3 hx1 hx2 hlg hug hc1 hc2
    exact sbxbGene_bounds (hord i l u hlg hug) (h1 i x1 l u hx1 hlg hug) (h2 i x2 l u hx2 hlg hug) hg
  constructor
  · intro i y l u hy hlg hug
    by_cases hb : i < ind2.genes.length
    · exact (key hy (List.getElem?_eq_getElem (l2 ▸ hb)) hlg hug).1
    · exact h1 i y l u (h4 i (Nat.not_lt.1 hb) ▸ hy) hlg hug
  · intro i y l u hy hlg hug
    by_cases ha : i < ind1.genes.length
    · exact (key (List.getElem?_eq_getElem (l1 ▸ ha)) hy hlg hug).2
    · exact h2 i y l u (h5 i (Nat.not_lt.1 ha) ▸ hy) hlg hug

theorem inBox_scalar {xs : List ℝ} {l u : ℝ} (h : ∀ x ∈ xs, l ≤ x ∧ x ≤ u) : InBox xs (.scalar l) (.scalar u) := by
  intro i x l' u' hx hl hu
  cases hl; cases hu
  exact h x (List.mem_of_getElem? hx)

example : BoundsOrdered (.scalar (0 : ℝ)) (.seq [1, 1]) ∧ InBox [0, 1 / 2] (.scalar (0 : ℝ)) (.seq [1, 1]) ∧
    InBox [1, 1 / 2] (.scalar (0 : ℝ)) (.seq [1, 1]) ∧
    ∃ out, cxSimulatedBinaryBounded ⟨1, [0, 1 / 2], 0, []⟩ ⟨2, [1, 1 / 2], 0, []⟩ (20 : ℝ)
      (.scalar 0) (.seq [1, 1]) [1 / 4, 1 / 2, 3 / 4, 1 / 4, 0, 0] = .ok out := by
  refine ⟨?_, ?_, ?_, sbxb_runs _ _ _ _ _ _ nofun (fun _ h => by cases h; decide) (by decide)⟩
  · intro i l u hl hu
    cases hl
    rcases i with _ | _ | i <;> cases hu <;> norm_num
  all_goals
    intro i x l u hx hl hu
    cases hl
    rcases i with _ | _ | i <;> cases hx <;> cases hu <;> norm_num

/-- `cxSimulatedBinaryBounded`, list level, ties `sbxb_welldefined` to every run: with parents inside the
bounds, `eta ≥ 0` and draws in `[0,1)`, each locus of the children is either the parents' locus or — the
guard `abs(x1 - x2) > 1e-14` having passed — the *unclamped* children `sbxbRaw1`, `sbxbRaw2` of one draw of
the tape, in either order.  Over the reals the clamp never fires. -/
theorem sbxb_unclamped (ind1 ind2 : Ind ℝ) (eta : ℝ) (low up : Bound ℝ) (rs : List ℝ) (o1 o2 : Ind ℝ)
    (rest : List ℝ) (he : 0 ≤ eta) (hr : UnitDraws rs)
    (h1 : InBox ind1.genes low up) (h2 : InBox ind2.genes low up)
    (hrun : cxSimulatedBinaryBounded ind1 ind2 eta low up rs = .ok (o1, o2, rest)) :
    ∀ (i : Nat) x1 x2 l u y1 y2, ind1.genes[i]? = some x1 → ind2.genes[i]? = some x2 →
      low.get? i = some l → up.get? i = some u → o1.genes[i]? = some y1 → o2.genes[i]? = some y2 →
      (y1 = x1 ∧ y2 = x2) ∨
      ((eps : ℝ) < |x1 - x2| ∧ ∃ rand ∈ rs,
        (y1 = sbxbRaw1 eta (RealLike.pmin x1 x2) (RealLike.pmax x1 x2) l rand ∧
         y2 = sbxbRaw2 eta (RealLike.pmin x1 x2) (RealLike.pmax x1 x2) u rand) ∨
        (y1 = sbxbRaw2 eta (RealLike.pmin x1 x2) (RealLike.pmax x1 x2) u rand ∧
         y2 = sbxbRaw1 eta (RealLike.pmin x1 x2) (RealLike.pmax x1 x2) l rand)) := by
  obtain ⟨_, h3, _, _⟩ := cxSBXB_spec hrun
  intro i x1 x2 l u y1 y2 hx1 hx2 hlg hug hy1 hy2
  obtain ⟨rs', rest', hsub, hg⟩ := h3 hx1 hx2 hlg hug hy1 hy2
  rcases (sbxbGene_spec hg).2 with h | ⟨hguard, rand, hmem, hc⟩
  · exact Or.inl h
  · have hrand := hr rand (hsub rand hmem)
    obtain ⟨hl, hu⟩ := pmin_pmax_mem (h1 i x1 l u hx1 hlg hug) (h2 i x2 l u hx2 hlg hug)
    rw [sbxbChildren_eq_raw he hl (sub_pos.1 (sbxb_guard hguard)) hu hrand.1 hrand.2] at hc
    exact Or.inr ⟨hguard, rand, hsub rand hmem, hc⟩

theorem inBox_zero_half : InBox [0, 1 / 2] (.scalar (0 : ℝ)) (.scalar 1) :=
  inBox_scalar (by simp only [List.forall_mem_cons]; norm_num)

example : (0 : ℝ) ≤ 20 ∧ UnitDraws [1 / 4, 1 / 2, 3 / 4, 1 / 4, 0, 0] ∧
    InBox [0, 1 / 2] (.scalar (0 : ℝ)) (.scalar 1) ∧ InBox [1, 1 / 2] (.scalar (0 : ℝ)) (.scalar 1) ∧
    ∃ out, cxSimulatedBinaryBounded ⟨1, [0, 1 / 2], 0, []⟩ ⟨2, [1, 1 / 2], 0, []⟩ (20 : ℝ)
      (.scalar 0) (.scalar 1) [1 / 4, 1 / 2, 3 / 4, 1 / 4, 0, 0] = .ok out := by
  refine ⟨by norm_num, ?_, inBox_zero_half, inBox_scalar ?_, sbxb_runs _ _ _ _ _ _ nofun nofun (by decide)⟩
  · simp only [UnitDraws, List.forall_mem_cons]; norm_num
  · simp only [List.forall_mem_cons]; norm_num

/-- One mutated locus of `mutPolynomialBounded` (:77-93), `x ∈ [xl, xu]`, `xl < xu`, `eta ≥ 0`,
`rand ∈ [0,1)`: the divisors `xu - xl` and `eta + 1` are non-zero; `delta_1, delta_2 ∈ [0,1]`, so the
power bases `xy = 1 - delta` are `≥ 0`; `val ∈ [0,1]` in the branch taken (base of `val ** mut_pow`);
and the mutant is inside `[xl, xu]` before the clamp, so the clamp changes nothing. -/
theorem poly_welldefined (eta x xl xu rand : ℝ) (he : 0 ≤ eta) (hx : xl ≤ x ∧ x ≤ xu) (hw : xl < xu)
    (hr0 : 0 ≤ rand) (hr1 : rand < 1) :
    xu - xl ≠ 0 ∧ eta + 1 ≠ 0 ∧
    (0 ≤ polyDelta1 x xl xu ∧ polyDelta1 x xl xu ≤ 1) ∧ (0 ≤ polyDelta2 x xl xu ∧ polyDelta2 x xl xu ≤ 1) ∧
    (rand < 1 / 2 → 0 ≤ polyValLow eta rand (polyDelta1 x xl xu) ∧ polyValLow eta rand (polyDelta1 x xl xu) ≤ 1) ∧
    (1 / 2 ≤ rand → 0 ≤ polyValHigh eta rand (polyDelta2 x xl xu) ∧ polyValHigh eta rand (polyDelta2 x xl xu) ≤ 1) ∧
    (xl ≤ polyRaw eta x xl xu rand ∧ polyRaw eta x xl xu rand ≤ xu) ∧
    polyGene eta x xl xu rand = polyRaw eta x xl xu rand := by
  obtain ⟨d1, d2⟩ := polyDelta_mem hx.1 hx.2 hw
  have raw := polyRaw_mem he hx.1 hx.2 hw hr0 hr1
  refine ⟨by intro h; linarith, by linarith, d1, d2, ?_, ?_, raw, ?_⟩
  · intro h
    obtain ⟨v0, v1⟩ := polyValLow_mem he hr0 h d1
    exact ⟨(pow_unit_mem he d1).1.trans v0, v1⟩
  · intro h
    obtain ⟨v0, v1⟩ := polyValHigh_mem he h hr1 d2
    exact ⟨(pow_unit_mem he d2).1.trans v0, v1⟩
  · exact polyGene_eq_raw he hx.1 hx.2 hw hr0 hr1

example : (0 : ℝ) ≤ 20 ∧ ((0 : ℝ) ≤ 0 ∧ (0 : ℝ) ≤ 1) ∧ (0 : ℝ) < 1 ∧ (0 : ℝ) ≤ 3 / 4 ∧ (3 / 4 : ℝ) < 1 := by
  norm_num

/-- `mutPolynomialBounded`: an individual inside the bounds stays inside the bounds, at every locus,
for every crowding degree, probability and draw. -/
theorem poly_bounds (ind : Ind ℝ) (eta : ℝ) (low up : Bound ℝ) (indpb : ℝ) (rs : List ℝ) (o : Ind ℝ)
    (rest : List ℝ) (hord : BoundsOrdered low up) (h : InBox ind.genes low up)
    (hrun : mutPolynomialBounded ind eta low up indpb rs = .ok (o, rest)) :
    InBox o.genes low up := by
  obtain ⟨l1, h2⟩ := mutPoly_spec hrun
  intro i y l u hy hlg hug
  obtain ⟨x, hx⟩ := getElem?_of_length_eq l1 hy
  rcases h2 hx hlg hug hy with rfl | ⟨rand, _, rfl⟩
  · exact h i y l u hx hlg hug
  · exact clamp_mem _ (hord i l u hlg hug)

example : BoundsOrdered (.scalar (0 : ℝ)) (.scalar 1) ∧ InBox [0, 1 / 2] (.scalar (0 : ℝ)) (.scalar 1) ∧
    ∃ out, mutPolynomialBounded ⟨1, [0, 1 / 2], 0, []⟩ (20 : ℝ) (.scalar 0) (.scalar 1) 1
      [1 / 4, 1 / 2, 3 / 4, 1 / 4] = .ok out := by
  refine ⟨?_, inBox_zero_half, poly_runs _ _ _ _ _ _ nofun nofun (by decide)⟩
  intro i l u hl hu
  cases hl; cases hu; norm_num

/-- `mutPolynomialBounded`, list level, ties `poly_welldefined` to every run: with the individual inside
strictly ordered bounds, `eta ≥ 0` and draws in `[0,1)`, each locus is either untouched or the *unclamped*
mutant `polyRaw` of one draw of the tape.  Over the reals the clamp never fires. -/
theorem poly_unclamped (ind : Ind ℝ) (eta : ℝ) (low up : Bound ℝ) (indpb : ℝ) (rs : List ℝ) (o : Ind ℝ)
    (rest : List ℝ) (he : 0 ≤ eta) (hr : UnitDraws rs) (hord : BoundsStrict low up)
    (h : InBox ind.genes low up)
    (hrun : mutPolynomialBounded ind eta low up indpb rs = .ok (o, rest)) :
    ∀ (i : Nat) x l u y, ind.genes[i]? = some x → low.get? i = some l → up.get? i = some u →
      o.genes[i]? = some y → y = x ∨ ∃ rand ∈ rs, y = polyRaw eta x l u rand := by
  obtain ⟨_, h2⟩ := mutPoly_spec hrun
  intro i x l u y hx hlg hug hy
  rcases h2 hx hlg hug hy with rfl | ⟨rand, hmem, rfl⟩
  · exact Or.inl rfl
  · have hbox := h i x l u hx hlg hug
    exact Or.inr ⟨rand, hmem, polyGene_eq_raw he hbox.1 hbox.2 (hord i l u hlg hug) (hr rand hmem).1 (hr rand hmem).2⟩

example : (0 : ℝ) ≤ 20 ∧ UnitDraws [1 / 4, 1 / 2, 3 / 4, 1 / 4] ∧
    BoundsStrict (.scalar (0 : ℝ)) (.scalar 1) ∧ InBox [0, 1 / 2] (.scalar (0 : ℝ)) (.scalar 1) ∧
    ∃ out, mutPolynomialBounded ⟨1, [0, 1 / 2], 0, []⟩ (20 : ℝ) (.scalar 0) (.scalar 1) 1
      [1 / 4, 1 / 2, 3 / 4, 1 / 4] = .ok out := by
  refine ⟨by norm_num, ?_, ?_, inBox_zero_half, poly_runs _ _ _ _ _ _ nofun nofun (by decide)⟩
  · simp only [UnitDraws, List.forall_mem_cons]; norm_num
  · intro i l u hl hu
    cases hl; cases hu; norm_num

/-- `mutGaussian` keeps the length. -/
theorem gauss_len (ind : Ind ℝ) (mu sigma : Bound ℝ) (indpb : ℝ) (rs gs : List ℝ) (o : Ind ℝ)
    (rr gr : List ℝ) (hrun : mutGaussian ind mu sigma indpb rs gs = .ok (o, rr, gr)) :
    o.genes.length = ind.genes.length :=
  mutGaussian_len hrun

/-- `mutGaussian` with `indpb = 0` leaves the individual untouched: `random.random() < 0` never
holds for a draw `r ≥ 0`. -/
theorem gauss_indpb0 (ind : Ind ℝ) (mu sigma : Bound ℝ) (rs gs : List ℝ) (o : Ind ℝ) (rr gr : List ℝ)
    (hr : ∀ r ∈ rs, 0 ≤ r) (hrun : mutGaussian ind mu sigma 0 rs gs = .ok (o, rr, gr)) :
    o = ind :=
  mutGaussian_id (fun g hg => not_lt.2 (hr g hg)) hrun

example : (∀ r ∈ ([1 / 4, 0] : List ℝ), 0 ≤ r) ∧
    ∃ out, mutGaussian ⟨1, [0, 1 / 2], 0, []⟩ (.scalar 0) (.seq [1, 2]) (0 : ℝ) [1 / 4, 0] [-3, 5] = .ok out :=
  ⟨draws_quarter_zero_nonneg, gauss_runs _ _ _ _ _ _ nofun (fun _ h => by cases h; decide) (by decide) (by decide)⟩

/-- `mutESLogNormal` keeps the length of the individual and of its strategy. -/
theorem lognormal_len (ind : Ind ℝ) (c indpb : ℝ) (rs gs : List ℝ) (o : Ind ℝ) (rr gr : List ℝ)
    (hrun : mutESLogNormal ind c indpb rs gs = .ok (o, rr, gr)) :
    o.genes.length = ind.genes.length ∧ o.strategy.length = ind.strategy.length :=
  mutESLogNormal_len hrun

/-- `mutESLogNormal` with `indpb = 0` leaves the individual and its strategy untouched. -/
theorem lognormal_indpb0 (ind : Ind ℝ) (c : ℝ) (rs gs : List ℝ) (o : Ind ℝ) (rr gr : List ℝ)
    (hr : ∀ r ∈ rs, 0 ≤ r) (hrun : mutESLogNormal ind c 0 rs gs = .ok (o, rr, gr)) :
    o = ind :=
  mutESLogNormal_id (fun g hg => not_lt.2 (hr g hg)) hrun

example : (∀ r ∈ ([1 / 4, 0] : List ℝ), 0 ≤ r) ∧
    ∃ out, mutESLogNormal ⟨1, [0, 1 / 2], 3, [1, 2]⟩ (1 : ℝ) 0 [1 / 4, 0] [-1, 1, 2, 0, 0] = .ok out :=
  ⟨draws_quarter_zero_nonneg, lognormal_runs _ _ _ _ _ (by decide) (by decide) (by decide) (by decide)⟩

/-- `mutESLogNormal`: strictly positive strategy values stay strictly positive
(`sigma * exp(·) > 0`), whatever `c`, `indpb` and the draws. -/
theorem lognormal_pos (ind : Ind ℝ) (c indpb : ℝ) (rs gs : List ℝ) (o : Ind ℝ) (rr gr : List ℝ)
    (hpos : ∀ s ∈ ind.strategy, 0 < s) (hrun : mutESLogNormal ind c indpb rs gs = .ok (o, rr, gr)) :
    ∀ s ∈ o.strategy, 0 < s := by
  obtain ⟨_, n, gs', ys, ts, _, hl, rfl⟩ := mutESLogNormal_ok hrun
  intro u hu
  rcases lognLoop_strategy_mem hl u hu with h | ⟨s, hs, z, _, rfl⟩
  · exact hpos u h
  · exact lognSigma_pos (hpos s hs) _ _ _

example : (∀ s ∈ ([1, 2] : List ℝ), 0 < s) ∧
    ∃ out, mutESLogNormal ⟨1, [0, 1 / 2], 3, [1, 2]⟩ (1 : ℝ) (1 / 2) [1 / 4, 3 / 4] [-1, 1, 2, 0, 0] = .ok out := by
  refine ⟨?_, lognormal_runs _ _ _ _ _ (by decide) (by decide) (by decide) (by decide)⟩
  simp only [List.forall_mem_cons]; norm_num

/-- `mutESLogNormal` :233-234: for a non-empty individual the two divisors `sqrt(2*sqrt(size))` and
`sqrt(2*size)` are positive (an empty individual is `ZeroDivisionError`, `Outcome.zeroDivision`). -/
theorem lognormal_welldefined (size : Nat) (h : 0 < size) :
    0 < Real.sqrt (2 * Real.sqrt (size : ℝ)) ∧ 0 < Real.sqrt (2 * (size : ℝ)) :=
  ⟨Real.sqrt_pos.2 (by positivity), Real.sqrt_pos.2 (by positivity)⟩

example : 0 < 3 := by decide

/-! ## the rounded semantics: what survives rounding, overflow and `nan`

`Core/RoundedOps.lean`: the same model definitions run on `XFA A` = finite rational | `+inf` | `-inf` | `nan`
under ANY arithmetic `A` that is `Lawful` (rounding monotone, exact on representable results, `nan` only for the
IEEE invalid operations; `nan` also stands for "Python raises").  `FinIn v lo hi` = "`v` is a finite number in
`[lo, hi]`". -/

open RoundedOps in
/-- a lawful arithmetic exists (a fixed-point format with steps of `2^-60` that rounds downwards and overflows to
the infinities beyond `2^60`): the hypothesis `A.Lawful` of the theorems below is satisfiable -/
theorem lawful_exists : ∃ A : Arith, A.Lawful := ⟨toy, toy_lawful⟩

open RoundedOps in
/-- The final clamp `min(max(c, xl), xu)` as Python evaluates it, with finite `xl ≤ xu`: every `c` that is not
`nan` — finite or infinite, whatever rounding produced it — comes out as a finite number inside `[xl, xu]`. -/
theorem clamp_in_bounds (A : Arith) (c : XFA A) (xl xu : Rat) (h : xl ≤ xu) (hc : c.val ≠ .nan) :
    FinIn (clamp c ⟨.fin xl⟩ ⟨.fin xu⟩).val xl xu := by
  rw [xf_clamp]; exact clamp_in h hc

example : (0 : Rat) ≤ 1 ∧ RoundedOps.XF.pinf ≠ RoundedOps.XF.nan := ⟨by norm_num, by simp⟩

open RoundedOps in
/-- The clamp does NOT sanitise `nan`: `min(max(nan, xl), xu)` is `nan`, whatever the bounds. -/
theorem clamp_nan (A : Arith) (xl xu : XFA A) : (clamp (⟨.nan⟩ : XFA A) xl xu).val = .nan := by
  rw [xf_clamp]; exact clamp_nan' _ _

open RoundedOps in
/-- Hence, for floats, the in-bounds clause of the property is *exactly* NaN-freedom of the value before the clamp. -/
theorem clamp_in_bounds_iff (A : Arith) (c : XFA A) (xl xu : Rat) (h : xl ≤ xu) :
    FinIn (clamp c ⟨.fin xl⟩ ⟨.fin xu⟩).val xl xu ↔ c.val ≠ .nan := by
  constructor
  · intro hf hc
    rw [xf_clamp, hc, clamp_nan'] at hf
    exact hf.ne_nan rfl
  · exact clamp_in_bounds A c xl xu h

example : (0 : Rat) ≤ 1 := by norm_num

open RoundedOps in
/-- One locus of `cxSimulatedBinaryBounded` (:324-357) in ANY lawful arithmetic: `eta ≥ 0` with `eta + 1` finite,
finite parents inside finite bounds whose width `xu - xl` and whose sum `x1 + x2` are finite (`sbxbMag`), draws in
`[0, top]`: whatever the gate, the guard `abs(x1 - x2) > 1e-14` and the swap decide, no `inf - inf`, `0 * inf`,
`0 / 0`, `inf / inf`, zero divisor, negative base or overflowing power arises, and both genes that come out are
finite numbers inside `[xl, xu]`. -/
theorem sbxb_rounded_locus (A : Arith) (hA : A.Lawful) (eta x1 x2 xl xu : Rat) (rs rest : List (XFA A))
    (y1 y2 : XFA A) (hm : sbxbMag A.toMag eta x1 x2 xl xu = true) (hr : DrawsTop A rs)
    (hrun : sbxbGene (⟨.fin eta⟩ : XFA A) ⟨.fin x1⟩ ⟨.fin x2⟩ ⟨.fin xl⟩ ⟨.fin xu⟩ rs = some (y1, y2, rest)) :
    FinIn y1.val xl xu ∧ FinIn y2.val xl xu :=
  sbxbGene_rounded hA hm hr hrun

open RoundedOps in
example : toy.Lawful ∧ sbxbMag toy.toMag 20 0 1 0 1 = true ∧
    DrawsTop toy [⟨.fin (1 / 4)⟩, ⟨.fin (1 - 1 / 2 ^ 53)⟩, ⟨.fin 0⟩] ∧
    ∃ out, sbxbGene (⟨.fin 20⟩ : XFA toy) ⟨.fin 0⟩ ⟨.fin 1⟩ ⟨.fin 0⟩ ⟨.fin 1⟩
      [⟨.fin (1 / 4)⟩, ⟨.fin (1 - 1 / 2 ^ 53)⟩, ⟨.fin 0⟩] = some out := by
  refine ⟨toy_lawful, toy_sbxbMag, toy_drawsTop, ?_⟩
  obtain ⟨_, _, _, h, _⟩ := sbxbGene_total (⟨.fin 20⟩ : XFA toy) ⟨.fin 0⟩ ⟨.fin 1⟩ ⟨.fin 0⟩ ⟨.fin 1⟩
    [⟨.fin (1 / 4)⟩, ⟨.fin (1 - 1 / 2 ^ 53)⟩, ⟨.fin 0⟩] (by decide)
  exact ⟨_, h⟩

/- the decidable hypotheses at the magnitudes of IEEE-754 binary64 (`RoundedOps.binary64`): the statement's domain
(and far beyond: eta = 1e6, bounds up to 8.9e307) satisfies them; `low = -1e308, up = 1e308` fails `width`, and
`low = 0, up = 1.7e308` with parents `8.5e307, 1.7e308` fails `sum` — the two classes of inputs on which the real code
returns `nan` genes (harness stream `xmag`). -/
set_option exponentiation.threshold 2000 in
open RoundedOps in
example : sbxbMag binary64 1000 0 1 0 1 = true ∧ sbxbMag binary64 1000000 (-10 ^ 6) (10 ^ 6) (-10 ^ 6) (10 ^ 6) = true ∧
    sbxbMag binary64 0 (-10 ^ 308) (10 ^ 308) (-10 ^ 308) (10 ^ 308) = false ∧
    sbxbMag binary64 0 (85 * 10 ^ 306) (17 * 10 ^ 307) 0 (17 * 10 ^ 307) = false ∧
    polyMag binary64 1000000 (1 / 2) 0 1 = true ∧ polyMag binary64 20 (-10 ^ 308) (-10 ^ 308) (10 ^ 308) = false := by
  decide +kernel

open RoundedOps in
/-- `cxSimulatedBinaryBounded` on whole individuals in ANY lawful arithmetic: if at every locus the two parents
and the bound pair are finite and satisfy `sbxbMag` (inside the bounds, width and sum finite) and the draws lie in
`[0, top]`, then at every locus both children are finite numbers inside the bounds of that locus — for floats
too, not only over the reals. -/
theorem sbxb_rounded (A : Arith) (hA : A.Lawful) (ind1 ind2 : Ind (XFA A)) (eta : Rat) (low up : Bound (XFA A))
    (rs : List (XFA A)) (o1 o2 : Ind (XFA A)) (rest : List (XFA A))
    (hmag : ∀ (i : Nat) x1 x2 l u, ind1.genes[i]? = some x1 → ind2.genes[i]? = some x2 → low.get? i = some l →
      up.get? i = some u → ∃ p q ql qu : Rat, x1 = ⟨.fin p⟩ ∧ x2 = ⟨.fin q⟩ ∧ l = ⟨.fin ql⟩ ∧ u = ⟨.fin qu⟩ ∧
        sbxbMag A.toMag eta p q ql qu = true)
    (hr : DrawsTop A rs)
    (hrun : cxSimulatedBinaryBounded ind1 ind2 ⟨.fin eta⟩ low up rs = .ok (o1, o2, rest)) :
    ∀ (i : Nat) y1 y2 l u, o1.genes[i]? = some y1 → o2.genes[i]? = some y2 → low.get? i = some l →
      up.get? i = some u → ∃ ql qu : Rat, l = ⟨.fin ql⟩ ∧ u = ⟨.fin qu⟩ ∧ FinIn y1.val ql qu ∧ FinIn y2.val ql qu := by
  obtain ⟨⟨l1, l2⟩, h3, _, _⟩ := cxSBXB_spec hrun
  intro i y1 y2 l u hc1 hc2 hlg hug
  obtain ⟨x1, hx1⟩ := getElem?_of_length_eq l1 hc1
  obtain ⟨x2, hx2⟩ := getElem?_of_length_eq l2 hc2
  obtain ⟨rs', rest', hsub, hg⟩ := h3 hx1 hx2 hlg hug hc1 hc2
  obtain ⟨p, q, ql, qu, rfl, rfl, rfl, rfl, hm⟩ := hmag i x1 x2 l u hx1 hx2 hlg hug
  exact ⟨ql, qu, rfl, rfl, sbxbGene_rounded hA hm (fun r hr' => hr r (hsub r hr')) hg⟩

open RoundedOps in
example : toy.Lawful ∧ sbxbMag toy.toMag 20 0 1 0 1 = true ∧ sbxbMag toy.toMag 20 (1 / 2) (1 / 2) 0 1 = true ∧
    DrawsTop toy [⟨.fin (1 / 4)⟩, ⟨.fin (1 - 1 / 2 ^ 53)⟩, ⟨.fin 0⟩] :=
  ⟨toy_lawful, toy_sbxbMag, by decide +kernel, toy_drawsTop⟩

open RoundedOps in
/-- One mutated locus of `mutPolynomialBounded` (:77-93) in ANY lawful arithmetic: `eta ≥ 0` with `eta + 1`
finite, a finite gene inside finite bounds whose width `xu - xl` is finite and at least the guard `1e-14`
(`polyMag`), the draw in `[0, 1)`: every `/` and `**` is defined (`delta_1, delta_2 ∈ [0, 1]`, `val ∈ [0, 2]`), the
value before the clamp is not `nan`, and the gene that comes out is a finite number inside `[xl, xu]`. -/
theorem poly_rounded_locus (A : Arith) (hA : A.Lawful) (eta x xl xu rand : Rat)
    (hm : polyMag A.toMag eta x xl xu = true) (h0 : 0 ≤ rand) (h1 : rand < 1) :
    FinIn (polyGene (⟨.fin eta⟩ : XFA A) ⟨.fin x⟩ ⟨.fin xl⟩ ⟨.fin xu⟩ ⟨.fin rand⟩).val xl xu :=
  polyGene_rounded hA hm h0 h1

open RoundedOps in
example : toy.Lawful ∧ polyMag toy.toMag 20 0 0 1 = true ∧ (0 : Rat) ≤ 3 / 4 ∧ (3 / 4 : Rat) < 1 :=
  ⟨toy_lawful, toy_polyMag, by norm_num, by norm_num⟩

open RoundedOps in
/-- `mutPolynomialBounded` on a whole individual in ANY lawful arithmetic: if at every locus the gene and the bound
pair are finite and satisfy `polyMag` and the draws lie in `[0, 1)`, every gene that comes out is a finite number
inside the bounds of its locus, for every `indpb`. -/
theorem poly_rounded (A : Arith) (hA : A.Lawful) (ind : Ind (XFA A)) (eta : Rat) (low up : Bound (XFA A))
    (indpb : XFA A) (rs : List (XFA A)) (o : Ind (XFA A)) (rest : List (XFA A))
    (hmag : ∀ (i : Nat) x l u, ind.genes[i]? = some x → low.get? i = some l → up.get? i = some u →
      ∃ p ql qu : Rat, x = ⟨.fin p⟩ ∧ l = ⟨.fin ql⟩ ∧ u = ⟨.fin qu⟩ ∧ polyMag A.toMag eta p ql qu = true)
    (hr : DrawsUnit A rs)
    (hrun : mutPolynomialBounded ind ⟨.fin eta⟩ low up indpb rs = .ok (o, rest)) :
    ∀ (i : Nat) y l u, o.genes[i]? = some y → low.get? i = some l → up.get? i = some u →
      ∃ ql qu : Rat, l = ⟨.fin ql⟩ ∧ u = ⟨.fin qu⟩ ∧ FinIn y.val ql qu := by
  obtain ⟨l1, h2⟩ := mutPoly_spec hrun
  intro i y l u hy hlg hug
  obtain ⟨x, hx⟩ := getElem?_of_length_eq l1 hy
  obtain ⟨p, ql, qu, rfl, rfl, rfl, hm⟩ := hmag i x l u hx hlg hug
  refine ⟨ql, qu, rfl, rfl, ?_⟩
  rcases h2 hx hlg hug hy with rfl | ⟨rand, hmem, rfl⟩
  · obtain ⟨_, hbox, _⟩ := polyMag_iff.1 hm
    exact ⟨p, rfl, hbox.1, hbox.2⟩
  · obtain ⟨t, rfl, t0, t1⟩ := hr rand hmem
    exact polyGene_rounded hA hm t0 t1

open RoundedOps in
example : toy.Lawful ∧ polyMag toy.toMag 20 0 0 1 = true ∧ DrawsUnit toy [⟨.fin (1 / 4)⟩, ⟨.fin (3 / 4)⟩] :=
  ⟨toy_lawful, toy_polyMag, .cons (by norm_num) (by norm_num) (.cons (by norm_num) (by norm_num) .nil)⟩

open RoundedOps in
/-- The magnitude hypothesis is needed: when the width `xu - xl` of the bounds overflows to `+inf` (binary64:
`xl = -1e308`, `xu = 1e308`), `mutPolynomialBounded` turns a gene on the lower bound into `nan` for the draw
`rand = 0` (`delta_q = 0`, `x + 0 * inf`), for every `eta ≥ 0` — and the clamp keeps the `nan`. -/
theorem poly_width_overflow_nan (A : Arith) (hA : A.Lawful) (eta xl xu : Rat) (he : 0 ≤ eta)
    (hov : A.rnd (xu - xl) = .pinf) :
    (polyGene (⟨.fin eta⟩ : XFA A) ⟨.fin xl⟩ ⟨.fin xl⟩ ⟨.fin xu⟩ ⟨.fin 0⟩).val = .nan := by
  have hee : A.rnd (eta + 1) ≠ .nan := hA.rnd_not_nan _
  have hmp : A.div (.fin 1) (A.rnd (eta + 1)) ≠ .nan := by
    rcases rnd_ge hA hA.rep_one (by linarith : (1 : Rat) ≤ eta + 1) with h | ⟨r, h, hr⟩
    · rw [h]; nofun
    · rw [h, div_fin _ (by linarith : r ≠ 0)]; exact hA.rnd_not_nan _
  have hlt : XF.lt (.fin 0) (.fin (1 / 2)) = true := (lt_fin_fin _ _).2 one_half_pos
  have e3 : A.div (.fin 0) .pinf = .fin 0 := rfl
  have e9 : A.mul (.fin 0) .pinf = .nan := by simp [Arith.mul]
  have e10 : A.add (.fin xl) .nan = .nan := rfl
  xsimp [polyGene, polyRaw, polyDeltaQ, polyValLow, polyDelta1, xf_half hA]
  -- `delta_1 = 0 / inf = 0`, `val = 0 + 1 * 1 ** (eta + 1) = 1`, `delta_q = 1 ** mut_pow - 1 = 0`, then `x + 0 * inf`
  simp only [hlt, if_true, sub_fin, add_fin, mul_fin, hov, sub_self, sub_zero, mul_zero, mul_one, zero_add, rnd_zero hA,
    rnd_one hA, e3, powPy_one_base hA hee, powPy_one_base hA hmp, e9, e10, clamp_nan']

open RoundedOps in
example : toy.Lawful ∧ (0 : Rat) ≤ 20 ∧ toy.rnd (2 ^ 60 - (-2 ^ 60)) = .pinf :=
  ⟨toy_lawful, by norm_num, toy_width_overflow⟩

open RoundedOps in
/-- Likewise bounded SBX: parents on the two bounds of a pair whose width overflows, `eta = 0`, `rand = 0`:
`beta_q = 0` and `beta_q * (x2 - x1) = 0 * inf` — both children are `nan` after the clamp. -/
theorem sbxb_width_overflow_nan (A : Arith) (hA : A.Lawful) (xl xu : Rat) (hov : A.rnd (xu - xl) = .pinf) :
    (sbxbChildren (⟨.fin 0⟩ : XFA A) ⟨.fin xl⟩ ⟨.fin xu⟩ ⟨.fin xl⟩ ⟨.fin xu⟩ ⟨.fin 0⟩).1.val = .nan ∧
    (sbxbChildren (⟨.fin 0⟩ : XFA A) ⟨.fin xl⟩ ⟨.fin xu⟩ ⟨.fin xl⟩ ⟨.fin xu⟩ ⟨.fin 0⟩).2.val = .nan := by
  have hle : XF.le (.fin 0) (.fin 1) = true := (le_fin_fin _ _).2 zero_le_one
  have e3 : A.div (.fin 0) .pinf = .fin 0 := rfl
  have e8 : (2 : Rat) - 1 = 1 := by norm_num
  have e11 : A.mul (.fin 0) .pinf = .nan := by simp [Arith.mul]
  have e12 : ∀ x, A.sub x .nan = .nan := by intro x; cases x <;> rfl
  have e13 : ∀ x, A.add x .nan = .nan := by intro x; cases x <;> rfl
  have e14 : A.mul (.fin (1 / 2)) .nan = .nan := rfl
  have p1 : A.powPy (.fin 1) (.fin (-1)) = .fin 1 := powPy_one_base hA nofun
  have p0 : A.powPy (.fin 0) (.fin 1) = .fin 0 := powPy_eq_of_pow (hA.pow_one_exp 0 hA.rep_zero le_rfl)
  -- for either child: `beta = 1 + 2 * 0 / inf = 1`, `alpha = 2 - 1 ** -1 = 1`, `beta_q = (0 * 1) ** 1 = 0`, then `0 * inf`
  constructor <;> xsimp [sbxbChildren, sbxbRaw1, sbxbRaw2, sbxbBetaQ, sbxbAlpha, sbxbBeta, xf_half hA] <;>
    simp only [sub_fin, add_fin, mul_fin, div_fin _ one_ne_zero, hov, sub_self, mul_zero, zero_mul, add_zero, zero_add,
      div_one, e8, rnd_zero hA, rnd_one hA, e3, XF.neg, p1, hle, if_true, p0, e11, e12, e13, e14, clamp_nan']

open RoundedOps in
example : toy.Lawful ∧ toy.rnd (2 ^ 60 - (-2 ^ 60)) = .pinf :=
  ⟨toy_lawful, toy_width_overflow⟩

open RoundedOps in
/-- One locus of `cxSimulatedBinary` (:279-285) in ANY lawful arithmetic: `eta ≥ 0` with `eta + 1` finite, the draw
in `[0, top]`, finite parents whose magnitudes leave room for the spread (`SbxCaps`: representable caps `C ≥ 1 + beta_max
= 1 + 1/(2 - 2 top)` and `P ≥ C * max(|x1|, |x2|)` with `2 P ≤ omega`; binary64: `C = 2^53`, genes up to `4.9e291`):
the divisor `2(1 - rand)` is not zero, the base of `beta **= 1/(eta+1)` is not negative, no power or product
overflows, no `inf - inf` arises, and both children are finite numbers. -/
theorem sbx_rounded_locus (A : Arith) (hA : A.Lawful) (eta x1 x2 rand C P : Rat) (hc : SbxCaps A eta x1 x2 C P)
    (hr0 : 0 ≤ rand) (hr1 : rand ≤ A.top) :
    FinIn (sbxBeta (⟨.fin eta⟩ : XFA A) ⟨.fin rand⟩).val 0 (C - 1) ∧
    FinIn (sbxPair (⟨.fin eta⟩ : XFA A) ⟨.fin x1⟩ ⟨.fin x2⟩ ⟨.fin rand⟩).1.val (-A.omega) A.omega ∧
    FinIn (sbxPair (⟨.fin eta⟩ : XFA A) ⟨.fin x1⟩ ⟨.fin x2⟩ ⟨.fin rand⟩).2.val (-A.omega) A.omega :=
  ⟨sbxBeta_ok hA hc hr0 hr1, sbxPair_rounded hA hc hr0 hr1⟩

open RoundedOps in
example : toy.Lawful ∧ SbxCaps toy 20 (-3) 50 (2 ^ 53) (2 ^ 59) ∧ (0 : Rat) ≤ 1 - 1 / 2 ^ 53 ∧
    (1 - 1 / 2 ^ 53 : Rat) ≤ toy.top := by
  refine ⟨toy_lawful, ?_, by norm_num, toy_top_le_top⟩
  constructor <;> decide +kernel

open RoundedOps in
/-- `cxSimulatedBinary` on whole individuals in ANY lawful arithmetic: if at every locus the two parents are finite
numbers satisfying `SbxCaps` (for caps `C`, `P` common to all loci) and the draws lie in `[0, top]`, then at every
locus both children are finite numbers — for floats too, not only over the reals. -/
theorem sbx_rounded (A : Arith) (hA : A.Lawful) (ind1 ind2 : Ind (XFA A)) (eta C P : Rat) (rs : List (XFA A))
    (o1 o2 : Ind (XFA A)) (rest : List (XFA A))
    (hmag : ∀ (i : Nat) x1 x2, ind1.genes[i]? = some x1 → ind2.genes[i]? = some x2 →
      ∃ p q : Rat, x1 = ⟨.fin p⟩ ∧ x2 = ⟨.fin q⟩ ∧ SbxCaps A eta p q C P)
    (hr : DrawsTop A rs)
    (hrun : cxSimulatedBinary ind1 ind2 ⟨.fin eta⟩ rs = .ok (o1, o2, rest)) :
    ∀ (i : Nat) x1 x2 y1 y2, ind1.genes[i]? = some x1 → ind2.genes[i]? = some x2 →
      o1.genes[i]? = some y1 → o2.genes[i]? = some y2 →
      FinIn y1.val (-A.omega) A.omega ∧ FinIn y2.val (-A.omega) A.omega :=
  pairOp_locus hrun fun r hm i x1 x2 ha hb => by
    obtain ⟨p, q, rfl, rfl, hcap⟩ := hmag i x1 x2 ha hb
    obtain ⟨t, rfl, t0, t1⟩ := hr r hm
    exact sbxPair_rounded hA hcap t0 t1

open RoundedOps in
example : toy.Lawful ∧ DrawsTop toy [⟨.fin (1 / 4)⟩, ⟨.fin (1 - 1 / 2 ^ 53)⟩] :=
  ⟨toy_lawful, .cons (by norm_num) toy_quarter_le_top (.cons (by norm_num) toy_top_le_top .nil)⟩

open RoundedOps in
/-- `mutGaussian` keeps the length — in the rounded semantics too (any arithmetic). -/
theorem gauss_len_rounded (A : Arith) (ind : Ind (XFA A)) (mu sigma : Bound (XFA A)) (indpb : XFA A)
    (rs gs : List (XFA A)) (o : Ind (XFA A)) (rr gr : List (XFA A))
    (hrun : mutGaussian ind mu sigma indpb rs gs = .ok (o, rr, gr)) :
    o.genes.length = ind.genes.length :=
  mutGaussian_len hrun

open RoundedOps in
/-- `mutGaussian` with `indpb = 0` (the float `0.0`, or the int `0`) leaves the individual untouched in the rounded
semantics, including the decision: `random.random() < 0.0` is evaluated as a float comparison and is false for every
draw that is a finite number `≥ 0`. -/
theorem gauss_indpb0_rounded (A : Arith) (ind : Ind (XFA A)) (mu sigma : Bound (XFA A))
    (rs gs : List (XFA A)) (o : Ind (XFA A)) (rr gr : List (XFA A)) (hr : DrawsUnit A rs)
    (hrun : mutGaussian ind mu sigma ⟨.fin 0⟩ rs gs = .ok (o, rr, gr)) :
    o = ind :=
  mutGaussian_id (not_lt_zero_of_unit hr) hrun

open RoundedOps in
example : DrawsUnit toy [⟨.fin (1 / 4)⟩, ⟨.fin 0⟩] ∧
    ∃ out, mutGaussian (⟨1, [⟨.fin 0⟩, ⟨.fin (1 / 2)⟩], 0, []⟩ : Ind (XFA toy)) (.scalar ⟨.fin 0⟩) (.scalar ⟨.fin 1⟩)
      ⟨.fin 0⟩ [⟨.fin (1 / 4)⟩, ⟨.fin 0⟩] [⟨.fin (-3)⟩, ⟨.fin 5⟩] = .ok out :=
  ⟨toy_drawsUnit, mutGaussian_total _ _ _ _ _ _ nofun nofun (by decide) (by decide)⟩

open RoundedOps in
/-- `mutESLogNormal` keeps the lengths in the rounded semantics (any arithmetic). -/
theorem lognormal_len_rounded (A : Arith) (ind : Ind (XFA A)) (c indpb : XFA A) (rs gs : List (XFA A))
    (o : Ind (XFA A)) (rr gr : List (XFA A)) (hrun : mutESLogNormal ind c indpb rs gs = .ok (o, rr, gr)) :
    o.genes.length = ind.genes.length ∧ o.strategy.length = ind.strategy.length :=
  mutESLogNormal_len hrun

open RoundedOps in
/-- `mutESLogNormal` with `indpb = 0` leaves the individual and its strategy untouched in the rounded semantics
(whatever `c` is, also when `t`, `t0` come out infinite or `nan`: they are not used). -/
theorem lognormal_indpb0_rounded (A : Arith) (ind : Ind (XFA A)) (c : XFA A) (rs gs : List (XFA A))
    (o : Ind (XFA A)) (rr gr : List (XFA A)) (hr : DrawsUnit A rs)
    (hrun : mutESLogNormal ind c ⟨.fin 0⟩ rs gs = .ok (o, rr, gr)) :
    o = ind :=
  mutESLogNormal_id (not_lt_zero_of_unit hr) hrun

open RoundedOps in
example : DrawsUnit toy [⟨.fin (1 / 4)⟩, ⟨.fin 0⟩] := toy_drawsUnit

open RoundedOps in
/-- an arithmetic with a lawful `exp` exists (the toy format with a step-function exponential) -/
theorem lawful_exp_exists : ∃ A : Arith, A.Lawful ∧ A.LawfulExp := ⟨toy, toy_lawful, toy_lawfulExp⟩

open RoundedOps in
/-- One mutated locus of `mutESLogNormal` (:240 `strategy *= math.exp(t0_n + t * random.gauss(0, 1))`) in ANY lawful
arithmetic with a lawful `exp`: if the exponent argument the code computed is the finite number `a` and the
decidable magnitude hypothesis `lognMag` holds for the strategy `s` and some `k` — `s > 0`, `a ≤ expmax` (binary64:
709), `k ≤ kmax` (1074), `-0.693 k ≤ a`, `s * 2^-k ≥ tiny` (2^-1074) — then no exception is raised and the new strategy
value is strictly positive: a finite number `≥ tiny`, or `+inf` when the product overflows. -/
theorem lognormal_pos_rounded_locus (A : Arith) (hA : A.Lawful) (hE : A.LawfulExp) (s a : Rat) (k : Nat)
    (hm : lognMag A.toMag s a k = true) (t0n t z : XFA A) (harg : (t0n + t * z).val = .fin a) :
    (lognSigma (⟨.fin s⟩ : XFA A) t0n t z).val = .pinf ∨
      ∃ q, (lognSigma (⟨.fin s⟩ : XFA A) t0n t z).val = .fin q ∧ A.tiny ≤ q ∧ 0 < q :=
  (lognSigma_rounded hA hE hm t0n t z harg).imp_right fun ⟨q, h, hq⟩ => ⟨q, h, hq, hE.tiny_pos.trans_le hq⟩

open RoundedOps in
example : toy.Lawful ∧ toy.LawfulExp ∧ lognMag toy.toMag 1 (-3) 5 = true ∧
    ((⟨.fin (-1)⟩ : XFA toy) + ⟨.fin 2⟩ * ⟨.fin (-1)⟩).val = .fin (-3) :=
  ⟨toy_lawful, toy_lawfulExp, by decide +kernel, by decide +kernel⟩

/- the hypothesis at the magnitudes of binary64: the statement's domain and the learning rates in use satisfy it
(strategy 1e-6, argument -600: `k = 866`); a subnormal strategy, an argument below `-745` or above `709` do not -/
set_option exponentiation.threshold 3000 in
open RoundedOps in
example : lognMag binary64 (1 / 10 ^ 6) (-600) 866 = true ∧ lognMag binary64 1 (-744) 1074 = true ∧
    lognMag binary64 1 (-746) 1077 = false ∧ lognMag binary64 (1 / 2 ^ 1074) (-1) 2 = false ∧
    lognMag binary64 1 710 0 = false := by
  decide +kernel

open RoundedOps in
/-- `mutESLogNormal` on a whole individual in ANY lawful arithmetic with a lawful `exp`: if every strategy value is a
finite positive number and, for every strategy value `s` and every gauss draw `z` after the first, the exponent
argument `t0 * n + t * z` as the code computes it is a finite number `a` with `lognMag s a k` for some `k`, then every
strategy value that comes out is strictly positive (`0 < u` as the arithmetic compares). -/
theorem lognormal_pos_rounded (A : Arith) (hA : A.Lawful) (hE : A.LawfulExp) (ind : Ind (XFA A)) (c indpb : XFA A)
    (rs gs : List (XFA A)) (o : Ind (XFA A)) (rr gr : List (XFA A))
    (hpos : ∀ s ∈ ind.strategy, ∃ q : Rat, s = ⟨.fin q⟩ ∧ 0 < q)
    (hmag : ∀ n gs', gs = n :: gs' → ∀ s ∈ ind.strategy, ∀ z ∈ gs', ∃ (q a : Rat) (k : Nat), s = ⟨.fin q⟩ ∧
      (lognT0 c ind.genes.length * n + lognT c ind.genes.length * z).val = .fin a ∧
      lognMag A.toMag q a k = true)
    (hrun : mutESLogNormal ind c indpb rs gs = .ok (o, rr, gr)) :
    ∀ u ∈ o.strategy, XF.lt (.fin 0) u.val = true := by
  obtain ⟨_, n, gs', ys, ts, hp, hl, rfl⟩ := mutESLogNormal_ok hrun
  have hgs := pop_eq_some hp
  intro u hu
  rcases lognLoop_strategy_mem hl u hu with h | ⟨s, hs, z, hz, rfl⟩
  · obtain ⟨q, rfl, hq⟩ := hpos u h
    simpa using hq
  · obtain ⟨q, a, k, rfl, harg, hm⟩ := hmag n gs' hgs s hs z hz
    rcases lognSigma_rounded hA hE hm _ _ z harg with h | ⟨q', h, hq⟩
    · rw [h]; rfl
    · rw [h]; exact (lt_fin_fin 0 q').2 (hE.tiny_pos.trans_le hq)

open RoundedOps in
example : toy.Lawful ∧ toy.LawfulExp ∧
    (∀ s ∈ (⟨1, [⟨.fin 0⟩, ⟨.fin 5⟩], 3, [⟨.fin 1⟩, ⟨.fin (1 / 4)⟩]⟩ : Ind (XFA toy)).strategy,
      ∃ q : Rat, s = ⟨.fin q⟩ ∧ 0 < q) ∧
    (∀ n gs', ([⟨.fin 3⟩, ⟨.fin 1⟩, ⟨.fin (-2)⟩] : List (XFA toy)) = n :: gs' →
      ∀ s ∈ (⟨1, [⟨.fin 0⟩, ⟨.fin 5⟩], 3, [⟨.fin 1⟩, ⟨.fin (1 / 4)⟩]⟩ : Ind (XFA toy)).strategy, ∀ z ∈ gs',
      ∃ (q a : Rat) (k : Nat), s = ⟨.fin q⟩ ∧
      (lognT0 (⟨.fin 0⟩ : XFA toy) (⟨1, [⟨.fin 0⟩, ⟨.fin 5⟩], 3, [⟨.fin 1⟩, ⟨.fin (1 / 4)⟩]⟩ : Ind (XFA toy)).genes.length * n
        + lognT ⟨.fin 0⟩ (⟨1, [⟨.fin 0⟩, ⟨.fin 5⟩], 3, [⟨.fin 1⟩, ⟨.fin (1 / 4)⟩]⟩ : Ind (XFA toy)).genes.length * z).val
        = .fin a ∧ lognMag toy.toMag q a k = true) := by
  refine ⟨toy_lawful, toy_lawfulExp, ?_, ?_⟩
  · exact List.forall_mem_cons.2 ⟨⟨1, rfl, by norm_num⟩, List.forall_mem_cons.2 ⟨⟨1 / 4, rfl, by norm_num⟩, nofun⟩⟩
  · intro n gs' hgs s hs z hz
    cases hgs
    simp only [List.mem_cons, List.not_mem_nil, or_false] at hs hz
    -- `t0 = t = 0 / sqrt(..) = 0`, so the argument of `exp` is `0` for every draw
    rcases hs with rfl | rfl
    · rcases hz with rfl | rfl <;> exact ⟨1, 0, 0, rfl, by decide +kernel, by decide +kernel⟩
    · rcases hz with rfl | rfl <;> exact ⟨1 / 4, 0, 0, rfl, by decide +kernel, by decide +kernel⟩

set_option linter.unusedVariables false in
open RoundedOps in
/-- Outside the hypothesis the clause is FALSE for floats (1): whenever the product `s * exp(a)` rounds to `0` —
`exp(a)` underflowed (binary64: `a < -745.13`) or the strategy is too small (`s = 5e-324`, `a = -1`) — the positive
strategy becomes `0.0`.  The real code does exactly this (harness stream `xlogn`); recorded reading, not a defect
inside the statement's domain. -/
theorem lognormal_underflow_zero (A : Arith) (hA : A.Lawful) (s a e : Rat) (t0n t z : XFA A)
    (harg : (t0n + t * z).val = .fin a) (hexp : A.exp (.fin a) = .fin e) (hund : A.rnd (s * e) = .fin 0) :
    (lognSigma (⟨.fin s⟩ : XFA A) t0n t z).val = .fin 0 := by
  rw [lognSigma_val s t0n t z harg]
  simp only [Arith.expPy, hexp, mul_fin, hund]

open RoundedOps in
example : toy.Lawful ∧ ((⟨.fin (-1)⟩ : XFA toy) + ⟨.fin 0⟩ * ⟨.fin 1⟩).val = .fin (-1) ∧
    toy.exp (.fin (-1)) = .fin (1 / 4) ∧ toy.rnd (1 / 2 ^ 60 * (1 / 4)) = .fin 0 :=
  ⟨toy_lawful, by decide +kernel, by decide +kernel, by decide +kernel⟩

open RoundedOps in
/-- (2): when `exp(a)` overflows (binary64: `a > 709.78`), `math.exp` raises `OverflowError` (`nan` here). -/
theorem lognormal_overflow_raises (A : Arith) (s a : Rat) (t0n t z : XFA A)
    (harg : (t0n + t * z).val = .fin a) (hexp : A.exp (.fin a) = .pinf) :
    (lognSigma (⟨.fin s⟩ : XFA A) t0n t z).val = .nan := by
  rw [lognSigma_val s t0n t z harg]
  simp only [Arith.expPy, hexp]
  rfl

open RoundedOps in
example : ((⟨.fin 42⟩ : XFA toy) + ⟨.fin 0⟩ * ⟨.fin 1⟩).val = .fin 42 ∧ toy.exp (.fin 42) = .pinf := by
  decide +kernel

/-! ## the sum clause and the blend range clause under the standard model of floating-point arithmetic

`FlModel` (`Lemmas/C10Fl.lean`): `fl(a op b) = (a op b)(1 + d)`, `|d| ≤ u`, a product additionally `+ e`, `|e| ≤ nu`
(underflow); binary64: `u = 2^-53`, `nu = 2^-1075`.  `FlNum M` runs the model definitions with these operations. -/

/-- `cxBlend` in floating-point arithmetic: at every locus the sum of the two children differs from the sum of the
two parents by at most `6 u (|x1| + |x2|) (1 + |gamma|) + 5 nu`, where `gamma` is the value
`(1. + 2. * alpha) * random.random() - alpha` the code computed from one draw `r` of the tape. -/
theorem blend_sum_rounded (M : FlModel) (hu : M.u ≤ 1 / 8) (ind1 ind2 : Ind (FlNum M)) (alpha : FlNum M)
    (rs : List (FlNum M)) (o1 o2 : Ind (FlNum M)) (rest : List (FlNum M))
    (hrun : cxBlend ind1 ind2 alpha rs = .ok (o1, o2, rest)) :
    ∀ (i : Nat) x1 x2 y1 y2, ind1.genes[i]? = some x1 → ind2.genes[i]? = some x2 →
      o1.genes[i]? = some y1 → o2.genes[i]? = some y2 →
      ∃ r ∈ rs, |(y1.val + y2.val) - (x1.val + x2.val)|
        ≤ 6 * M.u * (|x1.val| + |x2.val|) * (1 + |(blendGamma alpha r).val|) + 5 * M.nu :=
  pairOp_locus hrun fun r hm _ x1 x2 _ _ => ⟨r, hm, blendPair_sum_fl M hu alpha x1 x2 r⟩

example : infl64.u ≤ 1 / 8 ∧ ∃ out, cxBlend (⟨1, [⟨0⟩, ⟨1⟩], 0, []⟩ : Ind (FlNum infl64)) ⟨2, [⟨2⟩, ⟨4⟩], 0, []⟩
    ⟨1 / 2⟩ [⟨1 / 2⟩, ⟨0⟩] = .ok out := by
  rw [cxBlend_eq]
  exact ⟨infl64_u, pairOp_total _ _ _ _ (by decide)⟩

/-- `cxESBlend` in floating-point arithmetic: the same bound at every locus, for the genes and for the strategies. -/
theorem esblend_sum_rounded (M : FlModel) (hu : M.u ≤ 1 / 8) (ind1 ind2 : Ind (FlNum M)) (alpha : FlNum M)
    (rs : List (FlNum M)) (o1 o2 : Ind (FlNum M)) (rest : List (FlNum M))
    (hrun : cxESBlend ind1 ind2 alpha rs = .ok (o1, o2, rest)) :
    ∀ (i : Nat) x1 s1 x2 s2 y1 u1 y2 u2, ind1.genes[i]? = some x1 → ind1.strategy[i]? = some s1 →
      ind2.genes[i]? = some x2 → ind2.strategy[i]? = some s2 →
      o1.genes[i]? = some y1 → o1.strategy[i]? = some u1 → o2.genes[i]? = some y2 → o2.strategy[i]? = some u2 →
      (∃ r ∈ rs, |(y1.val + y2.val) - (x1.val + x2.val)|
        ≤ 6 * M.u * (|x1.val| + |x2.val|) * (1 + |(blendGamma alpha r).val|) + 5 * M.nu) ∧
      (∃ q ∈ rs, |(u1.val + u2.val) - (s1.val + s2.val)|
        ≤ 6 * M.u * (|s1.val| + |s2.val|) * (1 + |(blendGamma alpha q).val|) + 5 * M.nu) :=
  cxESBlend_locus hrun (fun r hm x1 x2 => ⟨r, hm, blendPair_sum_fl M hu alpha x1 x2 r⟩)
    fun q hm s1 s2 => ⟨q, hm, blendPair_sum_fl M hu alpha s1 s2 q⟩

example : infl64.u ≤ 1 / 8 := infl64_u

/-- `cxBlend` in floating-point arithmetic, the range clause: for `alpha ≥ 0` and draws in `[0, 1)` both children lie
in the parental interval widened by `alpha` times its width PLUS the rounding allowance
`E = (7/2 u (2 + alpha + Eg) + Eg)(|x1| + |x2|) + 9/4 nu`, `Eg = 6 u (1 + 2 alpha) + 4 nu` (`RealOps.blendRangeErr`;
binary64, `alpha ≤ 2`: `blendRangeErr_binary64`), on each side. -/
theorem blend_range_rounded (M : FlModel) (hu : M.u ≤ 1 / 8) (ind1 ind2 : Ind (FlNum M)) (alpha : FlNum M)
    (rs : List (FlNum M)) (o1 o2 : Ind (FlNum M)) (rest : List (FlNum M))
    (ha : 0 ≤ alpha.val) (hr : ∀ r ∈ rs, 0 ≤ r.val ∧ r.val < 1)
    (hrun : cxBlend ind1 ind2 alpha rs = .ok (o1, o2, rest)) :
    ∀ (i : Nat) x1 x2 y1 y2, ind1.genes[i]? = some x1 → ind2.genes[i]? = some x2 →
      o1.genes[i]? = some y1 → o2.genes[i]? = some y2 →
      let E := blendRangeErr M.u M.nu alpha.val (|x1.val| + |x2.val|)
      (min x1.val x2.val - alpha.val * |x1.val - x2.val| - E ≤ y1.val ∧
        y1.val ≤ max x1.val x2.val + alpha.val * |x1.val - x2.val| + E) ∧
      (min x1.val x2.val - alpha.val * |x1.val - x2.val| - E ≤ y2.val ∧
        y2.val ≤ max x1.val x2.val + alpha.val * |x1.val - x2.val| + E) :=
  pairOp_locus hrun fun r hm _ x1 x2 _ _ => blendPair_range_fl M hu alpha x1 x2 r ha (hr r hm).1 (hr r hm).2.le

example : infl64.u ≤ 1 / 8 ∧ (0 : ℝ) ≤ (⟨1 / 2⟩ : FlNum infl64).val ∧
    (∀ r ∈ ([⟨1 / 2⟩, ⟨0⟩] : List (FlNum infl64)), 0 ≤ r.val ∧ r.val < 1) ∧
    ∃ out, cxBlend (⟨1, [⟨0⟩, ⟨1⟩], 0, []⟩ : Ind (FlNum infl64)) ⟨2, [⟨2⟩, ⟨4⟩], 0, []⟩ ⟨1 / 2⟩ [⟨1 / 2⟩, ⟨0⟩]
      = .ok out := by
  rw [cxBlend_eq]
  refine ⟨infl64_u, by norm_num, ?_, pairOp_total _ _ _ _ (by decide)⟩
  simp only [List.forall_mem_cons]; norm_num

/-- `cxESBlend` in floating-point arithmetic, the range clause: the same allowance at every locus, for the genes and
for the strategies. -/
theorem esblend_range_rounded (M : FlModel) (hu : M.u ≤ 1 / 8) (ind1 ind2 : Ind (FlNum M)) (alpha : FlNum M)
    (rs : List (FlNum M)) (o1 o2 : Ind (FlNum M)) (rest : List (FlNum M))
    (ha : 0 ≤ alpha.val) (hr : ∀ r ∈ rs, 0 ≤ r.val ∧ r.val < 1)
    (hrun : cxESBlend ind1 ind2 alpha rs = .ok (o1, o2, rest)) :
    ∀ (i : Nat) x1 s1 x2 s2 y1 u1 y2 u2, ind1.genes[i]? = some x1 → ind1.strategy[i]? = some s1 →
      ind2.genes[i]? = some x2 → ind2.strategy[i]? = some s2 →
      o1.genes[i]? = some y1 → o1.strategy[i]? = some u1 → o2.genes[i]? = some y2 → o2.strategy[i]? = some u2 →
      let E := blendRangeErr M.u M.nu alpha.val (|x1.val| + |x2.val|)
      let F := blendRangeErr M.u M.nu alpha.val (|s1.val| + |s2.val|)
      ((min x1.val x2.val - alpha.val * |x1.val - x2.val| - E ≤ y1.val ∧
         y1.val ≤ max x1.val x2.val + alpha.val * |x1.val - x2.val| + E) ∧
       (min x1.val x2.val - alpha.val * |x1.val - x2.val| - E ≤ y2.val ∧
         y2.val ≤ max x1.val x2.val + alpha.val * |x1.val - x2.val| + E)) ∧
      ((min s1.val s2.val - alpha.val * |s1.val - s2.val| - F ≤ u1.val ∧
         u1.val ≤ max s1.val s2.val + alpha.val * |s1.val - s2.val| + F) ∧
       (min s1.val s2.val - alpha.val * |s1.val - s2.val| - F ≤ u2.val ∧
         u2.val ≤ max s1.val s2.val + alpha.val * |s1.val - s2.val| + F)) :=
  cxESBlend_locus hrun (fun r hm x1 x2 => blendPair_range_fl M hu alpha x1 x2 r ha (hr r hm).1 (hr r hm).2.le)
    fun q hm s1 s2 => blendPair_range_fl M hu alpha s1 s2 q ha (hr q hm).1 (hr q hm).2.le

example : infl64.u ≤ 1 / 8 ∧ (0 : ℝ) ≤ (⟨2⟩ : FlNum infl64).val ∧
    (∀ r ∈ ([⟨1 / 2⟩, ⟨0⟩] : List (FlNum infl64)), 0 ≤ r.val ∧ r.val < 1) := by
  refine ⟨infl64_u, by norm_num, ?_⟩
  simp only [List.forall_mem_cons]; norm_num

set_option linter.unusedVariables false in
/-- the allowance of `blend_range_rounded` at the constants of binary64 (`u = 2^-53`, `nu = 2^-1075`) and
`alpha ≤ 2` is below `45 u (|x1| + |x2|) + 5 nu (1 + |x1| + |x2|)` -/
theorem blendRangeErr_binary64 (alpha X : ℝ) (ha0 : 0 ≤ alpha) (ha2 : alpha ≤ 2) (hX : 0 ≤ X) :
    blendRangeErr ((2 : ℝ) ^ (-53 : ℤ)) ((2 : ℝ) ^ (-1075 : ℤ)) alpha X
      ≤ 45 * (2 : ℝ) ^ (-53 : ℤ) * X + 5 * (2 : ℝ) ^ (-1075 : ℤ) * (1 + X) := by
  refine blendRangeErr_le (by positivity) ?_ (by positivity) ha2 hX
  exact (zpow_le_zpow_right₀ one_le_two (by norm_num : (-53 : ℤ) ≤ -10)).trans (by norm_num)

example : (0 : ℝ) ≤ 2 ∧ (2 : ℝ) ≤ 2 ∧ (0 : ℝ) ≤ 3 := by norm_num

/-- `cxSimulatedBinary` in floating-point arithmetic: at every locus the sum of the two children differs from the
sum of the two parents by at most `5 u (|x1| + |x2|) (1 + |beta|) + 5 nu`, where `beta` is the spread factor the
code computed from one draw `r` of the tape. -/
theorem sbx_sum_rounded (M : FlModel) (hu : M.u ≤ 1 / 8) (ind1 ind2 : Ind (FlNum M)) (eta : FlNum M)
    (rs : List (FlNum M)) (o1 o2 : Ind (FlNum M)) (rest : List (FlNum M))
    (hrun : cxSimulatedBinary ind1 ind2 eta rs = .ok (o1, o2, rest)) :
    ∀ (i : Nat) x1 x2 y1 y2, ind1.genes[i]? = some x1 → ind2.genes[i]? = some x2 →
      o1.genes[i]? = some y1 → o2.genes[i]? = some y2 →
      ∃ r ∈ rs, |(y1.val + y2.val) - (x1.val + x2.val)|
        ≤ 5 * M.u * (|x1.val| + |x2.val|) * (1 + |(sbxBeta eta r).val|) + 5 * M.nu :=
  pairOp_locus hrun fun r hm _ x1 x2 _ _ => ⟨r, hm, sbxPair_sum_fl M hu eta x1 x2 r⟩

example : infl64.u ≤ 1 / 8 := infl64_u

/-! ## in place: the operators return the objects they were given, with the same lengths

Honest reading: the model builds its result as `{ ind with genes := … }`, so "same `oid` / `soid`" holds by
construction of the model — these theorems cannot express an implementation that returns a copy.  What they
add is that lengths are kept and that the fields an operator must not touch (the strategy of the non-ES
operators) are untouched.  The clause "modify and return the objects they were given" of the property is
established on the real objects by the harness (`is` tests on every explored call, harness/props/c10.py). -/

theorem blend_in_place (ind1 ind2 : Ind ℝ) (alpha : ℝ) (rs : List ℝ) (o1 o2 : Ind ℝ) (rest : List ℝ)
    (hrun : cxBlend ind1 ind2 alpha rs = .ok (o1, o2, rest)) :
    (o1.oid = ind1.oid ∧ o1.soid = ind1.soid ∧ o1.strategy = ind1.strategy ∧ o1.genes.length = ind1.genes.length) ∧
    (o2.oid = ind2.oid ∧ o2.soid = ind2.soid ∧ o2.strategy = ind2.strategy ∧ o2.genes.length = ind2.genes.length) := by
  obtain ⟨c1, c2, hl, rfl, rfl⟩ := pairOp_ok hrun
  obtain ⟨l1, l2, _⟩ := pairLoop_spec hl
  exact ⟨⟨rfl, rfl, rfl, l1⟩, rfl, rfl, rfl, l2⟩

theorem sbx_in_place (ind1 ind2 : Ind ℝ) (eta : ℝ) (rs : List ℝ) (o1 o2 : Ind ℝ) (rest : List ℝ)
    (hrun : cxSimulatedBinary ind1 ind2 eta rs = .ok (o1, o2, rest)) :
    (o1.oid = ind1.oid ∧ o1.soid = ind1.soid ∧ o1.strategy = ind1.strategy ∧ o1.genes.length = ind1.genes.length) ∧
    (o2.oid = ind2.oid ∧ o2.soid = ind2.soid ∧ o2.strategy = ind2.strategy ∧ o2.genes.length = ind2.genes.length) := by
  obtain ⟨c1, c2, hl, rfl, rfl⟩ := pairOp_ok hrun
  obtain ⟨l1, l2, _⟩ := pairLoop_spec hl
  exact ⟨⟨rfl, rfl, rfl, l1⟩, rfl, rfl, rfl, l2⟩

theorem sbxb_in_place (ind1 ind2 : Ind ℝ) (eta : ℝ) (low up : Bound ℝ) (rs : List ℝ) (o1 o2 : Ind ℝ)
    (rest : List ℝ) (hrun : cxSimulatedBinaryBounded ind1 ind2 eta low up rs = .ok (o1, o2, rest)) :
    (o1.oid = ind1.oid ∧ o1.soid = ind1.soid ∧ o1.strategy = ind1.strategy ∧ o1.genes.length = ind1.genes.length) ∧
    (o2.oid = ind2.oid ∧ o2.soid = ind2.soid ∧ o2.strategy = ind2.strategy ∧ o2.genes.length = ind2.genes.length) := by
  obtain ⟨lo, hi, c1, c2, _, _, hl, rfl, rfl⟩ := cxSBXB_ok hrun
  obtain ⟨l1, l2, _⟩ := cxSBXBLoop_spec hl
  exact ⟨⟨rfl, rfl, rfl, l1⟩, rfl, rfl, rfl, l2⟩

theorem esblend_in_place (ind1 ind2 : Ind ℝ) (alpha : ℝ) (rs : List ℝ) (o1 o2 : Ind ℝ) (rest : List ℝ)
    (hrun : cxESBlend ind1 ind2 alpha rs = .ok (o1, o2, rest)) :
    (o1.oid = ind1.oid ∧ o1.soid = ind1.soid ∧ o1.genes.length = ind1.genes.length ∧
      o1.strategy.length = ind1.strategy.length) ∧
    (o2.oid = ind2.oid ∧ o2.soid = ind2.soid ∧ o2.genes.length = ind2.genes.length ∧
      o2.strategy.length = ind2.strategy.length) := by
  obtain ⟨c1, t1, c2, t2, hl, rfl, rfl⟩ := cxESBlend_ok hrun
  obtain ⟨⟨l1, l2, l3, l4⟩, _⟩ := cxESBlendLoop_spec hl
  exact ⟨⟨rfl, rfl, l1, l2⟩, rfl, rfl, l3, l4⟩

theorem poly_in_place (ind : Ind ℝ) (eta : ℝ) (low up : Bound ℝ) (indpb : ℝ) (rs : List ℝ) (o : Ind ℝ)
    (rest : List ℝ) (hrun : mutPolynomialBounded ind eta low up indpb rs = .ok (o, rest)) :
    o.oid = ind.oid ∧ o.soid = ind.soid ∧ o.strategy = ind.strategy ∧ o.genes.length = ind.genes.length := by
  obtain ⟨lo, hi, ys, _, _, hl, rfl⟩ := mutPoly_ok hrun
  exact ⟨rfl, rfl, rfl, (polyLoop_spec hl).1⟩

theorem gauss_in_place (ind : Ind ℝ) (mu sigma : Bound ℝ) (indpb : ℝ) (rs gs : List ℝ) (o : Ind ℝ)
    (rr gr : List ℝ) (hrun : mutGaussian ind mu sigma indpb rs gs = .ok (o, rr, gr)) :
    o.oid = ind.oid ∧ o.soid = ind.soid ∧ o.strategy = ind.strategy := by
  obtain ⟨m, s, ys, _, _, hl, rfl⟩ := mutGaussian_ok hrun
  exact ⟨rfl, rfl, rfl⟩

theorem lognormal_in_place (ind : Ind ℝ) (c indpb : ℝ) (rs gs : List ℝ) (o : Ind ℝ) (rr gr : List ℝ)
    (hrun : mutESLogNormal ind c indpb rs gs = .ok (o, rr, gr)) :
    o.oid = ind.oid ∧ o.soid = ind.soid := by
  obtain ⟨_, n, gs', ys, ts, _, hl, rfl⟩ := mutESLogNormal_ok hrun
  exact ⟨rfl, rfl⟩

end C10
