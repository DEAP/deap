/-
C07 — `selSPEA2E` (strengths, raw fitness, squared distances, quick-select and densities computed
from the weights and the weighted values): it is `selSPEA2` for the distances and densities the
model computed itself, every density is `1 / (kth + 2)` with `kth` the order statistic of the row of
distances, and the density loop answers on every tape of `N (N - 1)` pivot draws.
-/
import DeapModel.Lemmas.C07Select
import DeapModel.Lemmas.C07Spea2
import Mathlib.Algebra.Order.Field.Basic

set_option linter.unusedSectionVars false

namespace C07L
open Spea2

section Dens
variable {β : Type} [Field β] [LinearOrder β] [IsStrictOrderedRing β]

/-- what one round of the density loop appends -/
def DensOK (dom : Nat → Nat → Bool) (vals : Nat → List β) (N i : Nat) (f : β) : Prop :=
  ∃ kth, (sortL (distRow (fun n => (n : β)) vals N i))[Nat.sqrt N]? = some kth ∧
    f = (rawFit dom N i : β) + 1 / (kth + 2)

theorem distRow_length (vals : Nat → List β) (N i : Nat) :
    (distRow (fun n => (n : β)) vals N i).length = N := tab_length _ _

/-- `kth_dist` of individual `i`: whatever the quick-select answers on its row of distances is entry
`⌊sqrt N⌋` of the sorted row -/
theorem kth_sorted (vals : Nat → List β) (N : Nat) (hN : 2 ≤ N) (i : Nat) (tape tape' : List Nat) (kth : β)
    (hsel : randomizedSelectT (fun n => (n : β)) (N + 2) (distRow (fun n => (n : β)) vals N i) 0 (N - 1)
      ((Nat.sqrt N : Nat) : β) tape = some (kth, tape')) :
    (sortL (distRow (fun n => (n : β)) vals N i))[Nat.sqrt N]? = some kth := by
  have hN0 : 0 < N := Nat.lt_of_lt_of_le Nat.zero_lt_two hN
  have hk := randomizedSelect_nat_sorted (N + 2) (distRow (fun n => (n : β)) vals N i) 0 (N - 1)
    _ (Nat.sqrt N) tape kth rfl (Nat.zero_le _) (by rw [distRow_length]; exact Nat.sub_lt hN0 Nat.one_pos)
    (by rw [Nat.zero_add]; exact Nat.le_sub_one_of_lt (Nat.sqrt_lt_self hN))
    (by rw [← randomizedSelectT_fst, hsel]; rfl)
  rwa [seg_all _ _ (by rw [distRow_length]; exact Nat.sub_add_cancel hN0)] at hk

theorem densLoop_spec (dom : Nat → Nat → Bool) (vals : Nat → List β) (N : Nat) (hN : 2 ≤ N)
    (n i : Nat) (acc : List β) (tape : List Nat) (fits : List β) (rest : List Nat)
    (h : densLoop (fun n => (n : β)) dom vals N n i acc tape = some (fits, rest)) :
    ∃ new, fits = acc.reverse ++ new ∧ new.length = n ∧
      ∀ t, t < n → DensOK dom vals N (i + t) (new.getD t 0) := by
  fun_induction densLoop (fun n => (n : β)) dom vals N n i acc tape with
  | case1 => cases h; exact ⟨[], by simp, rfl, fun t ht => absurd ht (Nat.not_lt_zero _)⟩
  | case2 => cases h
  | case3 n i acc tape kth tape' hsel ih =>
    obtain ⟨new, h1, h2, h3⟩ := ih h
    refine ⟨_ :: new, by rw [h1, List.reverse_cons, List.append_assoc]; rfl,
      by rw [List.length_cons, h2], fun t ht => ?_⟩
    cases t with
    | zero =>
      refine ⟨kth, kth_sorted vals N hN i tape tape' kth hsel, ?_⟩
      show _ + ((1 : Nat) : β) / (kth + ((2 : Nat) : β)) = _
      rw [Nat.cast_one, Nat.cast_ofNat]
      rfl
    | succ t =>
      have := h3 t (Nat.lt_of_succ_lt_succ ht)
      rwa [Nat.add_assoc, Nat.add_comm 1 t] at this

theorem densLoop_total (dom : Nat → Nat → Bool) (vals : Nat → List β) (N : Nat) :
    ∀ (n i : Nat) (acc : List β) (tape : List Nat), (1 ≤ n → 1 ≤ N) → n * (N - 1) ≤ tape.length →
      ∃ r, densLoop (fun n => (n : β)) dom vals N n i acc tape = some r := by
  intro n
  induction n with
  | zero => intro i acc tape _ _; exact ⟨_, rfl⟩
  | succ n ih =>
    intro i acc tape hN' ht
    have hN : 1 ≤ N := hN' (by omega)
    unfold densLoop
    rw [Nat.succ_mul] at ht
    obtain ⟨v, rest, hv, hl⟩ := randomizedSelectT_total (fun n => (n : β)) (N + 2)
      (distRow (fun n => (n : β)) vals N i) 0 (N - 1) ((Nat.sqrt N : Nat) : β) tape (by omega)
      (by rw [distRow_length]; omega) (by omega) (by omega)
    rw [hv]
    exact ih _ _ _ (fun _ => hN) (by omega)

/-- the distances the end-to-end model computes -/
def distE (w : List β) (wv : List (List β)) (i j : Nat) : β :=
  sqDist (fun n => (n : β)) (valuesOf w (wv.getD i [])) (valuesOf w (wv.getD j []))

theorem selSPEA2E_eq (w : List β) (wv : List (List β)) (k : Nat) (tape : List Nat) (res : List Nat)
    (h : selSPEA2E (fun n => (n : β)) w wv k tape = some res) :
    ∃ fits : Nat → β,
      res = selSPEA2 (domW wv) wv.length k fits (distE w wv) ∧
      ((chosen0 (domW wv) wv.length).length < k → 2 ≤ wv.length →
        ∀ t, t < wv.length →
          DensOK (domW wv) (fun i => valuesOf w (wv.getD i [])) wv.length t (fits t)) := by
  unfold selSPEA2E at h
  simp only [] at h
  split at h
  · rename_i hsmall
    split at h
    · exact absurd h (by simp)
    · rename_i fits rest hd
      simp only [Option.some.injEq] at h
      refine ⟨fun i => fits.getD i 0, ?_, ?_⟩
      · rw [← h]; unfold selSPEA2; simp only [hsmall, if_true]; simp
      · intro _ hN t ht
        obtain ⟨new, h1, _, h3⟩ := densLoop_spec (domW wv) (fun i => valuesOf w (wv.getD i []))
          wv.length hN wv.length 0 [] tape fits rest hd
        have := h3 t ht
        rwa [Nat.zero_add, ← show fits = new from h1] at this
  · rename_i hns
    refine ⟨fun _ => 0, ?_, fun hc => absurd hc hns⟩
    unfold selSPEA2
    simp only [hns, if_false]
    split at h
    · rename_i hl
      simp only [Option.some.injEq] at h
      simp only [hl, if_true]; rw [← h]; rfl
    · rename_i hl
      simp only [Option.some.injEq] at h
      simp only [hl, if_false]; exact h.symm

end Dens

end C07L
