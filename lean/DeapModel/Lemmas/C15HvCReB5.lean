import DeapModel.Lemmas.C15HvCReB4
/-!
C15 — the 3-D base case of `_hv.c` re-entered: Case 3 of the entry phase assembled (`skipLoop`, l.860-862,
`reconnectLoop`, l.877-898 give the invariant of the main loop for the nodes below the bound), and the level theorem
`dim3_ok : Dim3_Statement`.
-/
namespace HvC
open HvSweep (Hj RL ARv VOLv Shaped Seg)

theorem first_split (p : ℕ → Prop) : ∀ (l : List ℕ), (∃ x ∈ l, p x) →
    ∃ l0 m l1, l = l0 ++ m :: l1 ∧ p m ∧ ∀ x ∈ l0, ¬ p x
  | [], h => by obtain ⟨x, hx, _⟩ := h; exact absurd hx (List.not_mem_nil)
  | y :: l, h => by
    by_cases hy : p y
    · exact ⟨[], y, l, rfl, hy, by simp⟩
    · have h1 : ∃ x ∈ l, p x := by
        obtain ⟨x, hx, hpx⟩ := h
        rcases List.mem_cons.mp hx with rfl | hx
        · exact absurd hpx hy
        · exact ⟨x, hx, hpx⟩
      obtain ⟨l0, m, l1, hl, hm, h0⟩ := first_split p l h1
      refine ⟨y :: l0, m, l1, by rw [hl]; rfl, hm, ?_⟩
      intro x hx
      rcases List.mem_cons.mp hx with rfl | hx
      · exact hy
      · exact h0 x hx

theorem case3_entry {C : Cargo} {R : List ℚ} {d n : ℕ} {O : ℕ → List ℕ} {F : ℕ}
    (c : CCtx C R d n O) (hF : n + 2 ≤ F) {S : St} {A : List ℕ} (inv : InvC C R d n O S 2 A)
    {b : ℚ} {P Q : List ℕ} (h3 : C3 C R d n O S A b P Q) :
    ∃ S3 P' Q' hv ha, EntryRes C R d n O A S S3 P' Q' hv ha ∧
      (∀ v S', sweepLoop C R F F (Q'.headD 0) hv ha S3 = some (v, S') → dim3 C R F S = some (v, avlClearTree S')) := by
  have l2 := l2_of_inv c inv
  have hd2 : 2 < d := l2.hd
  have hb := h3.hb
  have hD : DLc n S 2 (P ++ Q) := h3.split ▸ l2.dl
  have hLnd : (P ++ Q).Nodup := hD.2.1
  have hLn : (P ++ Q).length ≤ n := HvSweep.dl_length_le hD
  have hPA : ∀ a ∈ P, a ∈ A := fun a ha => h3.pA l2 ha
  have hQA : ∀ a ∈ Q, a ∈ A := fun a ha => h3.qA l2 ha
  have hle_n : ∀ a ∈ A, a ≤ n := fun a ha => ((HvSweep.mem_ids n a).mp (inv.sub a ha)).2
  have hdoml : ∀ a ∈ A, a < S.domr.length := fun a ha => by rw [inv.tsh.domr]; exact Nat.lt_succ_of_le (hle_n a ha)
  have hignl : ∀ a ∈ A, a < S.ignore.length := fun a ha => by rw [inv.tsh.ign]; exact Nat.lt_succ_of_le (hle_n a ha)
  obtain ⟨q0, Qt, rfl⟩ := List.exists_cons_of_ne_nil h3.qne
  obtain ⟨Pi, pl, hP⟩ : ∃ Pi pl, P = Pi ++ [pl] := ⟨_, _, (List.dropLast_append_getLast h3.pne).symm⟩
  obtain ⟨a1, Pt, hPc⟩ := List.exists_cons_of_ne_nil h3.pne
  have hplP : pl ∈ P := by rw [hP]; simp
  have ha1P : a1 ∈ P := by rw [hPc]; simp
  have hq0Q : q0 ∈ q0 :: Qt := by simp
  have hq00 : q0 ≠ 0 := Nat.one_le_iff_ne_zero.mp ((HvSweep.mem_ids n q0).mp (inv.sub q0 (hQA q0 hq0Q))).1
  -- the first node whose `domr` is at or above the bound
  obtain ⟨t, htP, htd, _⟩ := h3.cover c inv hplP
  obtain ⟨P0, m₀, P1, hPs, hm0, hP0⟩ := first_split (fun a => b ≤ dr S a) P ⟨t, htP, htd⟩
  have hm0P : m₀ ∈ P := by rw [hPs]; simp
  have hP1P : ∀ a ∈ P1, a ∈ P := fun a ha => by rw [hPs]; exact List.mem_append_right _ (List.mem_cons_of_mem _ ha)
  have hPnd : P.Nodup := (List.nodup_append.mp hLnd).1
  have hPsnd : (P0 ++ m₀ :: P1).Nodup := hPs ▸ hPnd
  have hm0P1 : m₀ ∉ P1 := (List.nodup_cons.mp (List.nodup_append.mp hPsnd).2.1).1
  have hP1nd : P1.Nodup := (List.nodup_cons.mp (List.nodup_append.mp hPsnd).2.1).2
  -- a part of the list of dimension 2 is shorter than the fuel
  have hfuel : ∀ L : List ℕ, L.Sublist P → L.length < F := fun L h =>
    lt_of_le_of_lt ((h.trans (List.sublist_append_left P _)).length_le.trans hLn) (Nat.lt_of_succ_lt (Nat.lt_of_succ_le hF))
  have hseg : Seg (toSw S) 2 0 (P ++ q0 :: Qt) 0 := hD.1
  have e1 : P ++ q0 :: Qt = P0 ++ m₀ :: (P1 ++ q0 :: Qt) := by rw [hPs]; simp
  have hs0 := (HvSweep.seg_append (toSw S) 2 P0 0 m₀ (P1 ++ q0 :: Qt) 0).mp (e1 ▸ hseg)
  have hs1 := (HvSweep.seg_append (toSw S) 2 P1 m₀ q0 Qt 0).mp hs0.2
  have hnx0 : nx S 2 0 = a1 := by
    have := hseg
    rw [hPc] at this
    exact this.1.1
  have hpvq : pv S 2 q0 = pl :=
    (HvSweep.seg_node (toSw S) 2 P 0 q0 Qt 0 hseg).1.trans (by simp [hP])
  have hnxpl : nx S 2 pl = q0 := by
    have e2 : P ++ q0 :: Qt = Pi ++ pl :: (q0 :: Qt) := by rw [hP]; simp
    exact (HvSweep.seg_node (toSw S) 2 Pi 0 pl (q0 :: Qt) 0 (e2 ▸ hseg)).2.1
  have hlastQ : pv S 2 0 ∈ q0 :: Qt := by
    rw [pv0_last hD (by simp), List.getLast_append_of_ne_nil _ (List.cons_ne_nil q0 Qt)]
    exact List.getLast_mem _
  -- the tests of l.838, l.844
  have hlt_last : ltBound S 2 (cg C (pv S 2 0) 2) = false := by
    rw [ltBound_some hb]
    exact decide_eq_false (not_lt.mpr (h3.qge _ hlastQ))
  have hge1 : geBound S 2 (cg C (nx S 2 0) 2) = false := by
    rw [geBound_some hb, hnx0]
    exact decide_eq_false (not_le.mpr (h3.plt a1 ha1P))
  -- l.855-857
  have hmlt : ltBound S 2 (dr S m₀) = false := by
    rw [ltBound_some hb]
    exact decide_eq_false (not_lt.mpr hm0)
  have hskip : skipLoop F (nx S 2 0) S = some m₀ :=
    skipLoop_spec S m₀ hmlt P0 0 F hs0.1
      (fun a ha => by rw [ltBound_some hb]; exact decide_eq_true (not_le.mp (hP0 a ha)))
      (hfuel P0 (hPs ▸ List.sublist_append_left P0 _))
  -- l.860-862
  let S1 := setDr (avlInsertTop (setIgn S m₀ 0) m₀) m₀ (rf R 2)
  have hS1 : S1 = setDr (avlInsertTop (setIgn S m₀ 0) m₀) m₀ (rf R 2) := rfl
  have hm0dl := hdoml m₀ (hPA m₀ hm0P)
  have hI1 : RInv C R b S m₀ [m₀] S1 :=
    { next := rfl
      prev := rfl
      bound := rfl
      area := rfl
      vol := rfl
      ign := rfl
      dlen := List.length_set
      tnd := List.nodup_singleton m₀
      tmem := fun t => ⟨fun ht => by rw [List.mem_singleton.mp ht]; exact ⟨List.mem_singleton_self _, hm0⟩, fun h => h.1⟩
      stair := List.pairwise_singleton _ _
      drT := fun t ht => by rw [List.mem_singleton.mp ht]; exact dr_setDr_self _ m₀ _ hm0dl
      drO := fun a ha => dr_setDr_ne _ m₀ a _ (fun e => ha (List.mem_singleton.mpr e)) }
  -- l.867-876
  obtain ⟨S'', hrec, hI⟩ := reconnect_spec C R b S m₀ q0 P hb
    (fun p e hp he hdp hde hne => h3.incomp c inv hp he hdp hde hne) (h3.qge q0 hq0Q) hm0 P1 [m₀] m₀ F S1 hI1
    (List.mem_singleton_self m₀) (fun a ha => List.mem_singleton.mp ha ▸ hm0P) hs1.1
    (fun a ha => ⟨hP1P a ha, h3.plt a (hP1P a ha), fun hm => hm0P1 (List.mem_singleton.mp hm ▸ ha),
      hdoml a (hPA a (hP1P a ha))⟩)
    hP1nd (hfuel P1 (hPs ▸ (List.sublist_cons_self m₀ P1).trans (List.sublist_append_right P0 _)))
  -- the tree holds the reconnected nodes of `P`
  have hTP : ∀ t, t ∈ S''.tree ↔ t ∈ P ∧ b ≤ dr S t := fun t => by
    rw [hI.tmem t, hPs]
    simp only [List.mem_append, List.mem_cons, List.not_mem_nil, or_false]
    exact ⟨fun ⟨h1, h2⟩ => ⟨Or.inr h1, h2⟩, fun ⟨h1, h2⟩ => ⟨h1.resolve_left (fun h => hP0 t h h2), h2⟩⟩
  have hcv : ∀ a ∈ P, ar S a 2 = ARv R (spt C R) O 1 A a ∧ vl S a 2 = VOLv (stc C R) R (spt C R) O 1 A a :=
    fun a ha => inv.cv 1 (le_refl _) (by omega) a (hPA a ha) b hb (h3.plt a ha)
  have hL : RL O (1 + 1) A = Pi ++ pl :: (q0 :: Qt) := by
    show RL O 2 A = _
    rw [h3.split, hP]; simp
  let S3 := setBound S'' 2 (cg C (pv S 2 0) 2)
  have hS3 : S3 = setBound S'' 2 (cg C (pv S 2 0) 2) := rfl
  have hm0il := hignl m₀ (hPA m₀ hm0P)
  have hignm : ign S3 m₀ = 0 := by
    show S''.ignore.getD m₀ 0 = 0
    rw [hI.ign]; exact List.getD_set_self _ _ _ _ hm0il
  have hignne : ∀ q, q ≠ m₀ → ign S3 q = ign S q := by
    intro q hq
    show S''.ignore.getD q 0 = S.ignore.getD q 0
    rw [hI.ign]; exact List.getD_set_ne _ _ _ hq
  have har3 : ∀ a i, ar S3 a i = ar S a i := fun a i => congrArg (HvSweep.tget · a i 0) hI.area
  have hvl3 : ∀ a i, vl S3 a i = vl S a i := fun a i => congrArg (HvSweep.tget · a i 0) hI.vol
  have hdrT : ∀ t ∈ S3.tree, dr S3 t = rf R 2 := fun t ht => hI.drT t ht
  have hdrO : ∀ a, a ∉ S3.tree → dr S3 a = dr S a := fun a ha => hI.drO a ha
  have hT3 : ∀ t, t ∈ S3.tree ↔ t ∈ P ∧ b ≤ dr S t := hTP
  have hgoodP : ∀ a ∈ P, (item C a).1 < rf R 0 ∧ (item C a).2 < rf R 1 := fun a ha =>
    ⟨inv.good a (hPA a ha) 0 (lt_trans Nat.zero_lt_two hd2), inv.good a (hPA a ha) 1 (lt_trans Nat.one_lt_two hd2)⟩
  have hcover : ∀ q ∈ P, ∃ t ∈ S3.tree, (item C t).1 ≤ (item C q).1 ∧ (item C t).2 ≤ (item C q).2 := by
    intro q hq
    obtain ⟨t, ht, htd, hle⟩ := h3.cover c inv hq
    exact ⟨t, (hT3 t).mpr ⟨ht, htd⟩, hle⟩
  have hm0T : m₀ ∈ S3.tree := (hT3 m₀).mpr ⟨hm0P, hm0⟩
  have hTne : S3.tree ≠ [] := fun e => by rw [e] at hm0T; exact absurd hm0T (List.not_mem_nil)
  have hTI : TreeInv C (rf R 0) (rf R 1) S3 P (hArea (rf R 0) (rf R 1) (S3.tree.map (item C))) :=
    ⟨hTne, hI.tnd, fun t ht => ((hT3 t).mp ht).1, hI.stair, hcover, rfl⟩
  have harP : ar S pl 2 = Hj R (spt C R) 1 P := by
    rw [(hcv pl hplP).1, HvSweep.ARv_of_split c.g hd2 inv.sub hL, ← hP]
  have hareaP : ar S pl 2 = hArea (rf R 0) (rf R 1) (S3.tree.map (item C)) :=
    harP.trans (area_Hj c S3 P _ (fun a ha => ⟨inv.sub a (hPA a ha), hgoodP a ha⟩) hTI).symm
  have hvalP : vl S pl 2 + ar S pl 2 * (cg C q0 2 - cg C pl 2) + ar S pl 2 * (rf R 2 - cg C q0 2)
      = Hj R (spt C R) 2 P := by
    rw [(hcv pl hplP).2, HvSweep.VOLv_of_split c.g hd2 inv.sub hL, ← hP, ← harP,
      c.cg_tr' (inv.sub pl (hPA pl hplP)) hd2 (inv.good pl (hPA pl hplP) 2 hd2)]
    ring
  have hmarks := marks_cleared (C := C) (O := O) hignm hignne
    (fun q _ hm => hdrO q fun ht => h3.noMark inv ((hT3 q).mp ht).1 ((hT3 q).mp ht).2 hm) inv.ig inv.igd
  refine ⟨S3, P, q0 :: Qt, vl S pl 2 + ar S pl 2 * (cg C q0 2 - cg C pl 2), ar S pl 2, ?_, ?_⟩
  · refine
      { sl :=
          { anodup := inv.nodup
            asub := inv.sub
            agood := inv.good
            split := h3.split
            prene := h3.pne
            shape := shapeC_of_fields (T := S3) inv.shape hI.next hI.prev
            tsh := ⟨?_, ?_, ?_, ?_, ?_⟩
            dl := dlc_ptrEqC (T := S3) (ptrEqC_of_fields hI.next hI.prev) l2.dl
            tne := hTne
            tnd := hI.tnd
            tsub := fun t ht => ((hT3 t).mp ht).1
            tign := ?tign
            stair := hI.stair
            cover := hcover
            area := hareaP
            val := hvalP
            cache := fun a ha => by rw [har3, hvl3]; exact hcv a ha
            drT := hdrT
            drge := ?drge
            drout := ?drout
            drL := ?drL
            ig := hmarks.1
            igd := hmarks.2 }
        next := hI.next
        prev := hI.prev
        bound := by show S''.bound.set 2 _ = _; rw [hI.bound]
        ign_out := fun y hy => hignne y (fun e => hy (e ▸ hPA m₀ hm0P))
        dr_out := fun y hy => hdrO y (fun ht => hy (hPA y ((hT3 y).mp ht).1))
        cache_hi := fun a i _ => ⟨har3 a i, hvl3 a i⟩ }
    · show Shaped (n + 1) d S''.area; rw [hI.area]; exact inv.tsh.area
    · show Shaped (n + 1) d S''.vol; rw [hI.vol]; exact inv.tsh.vol
    · show S''.ignore.length = n + 1; rw [hI.ign, List.length_set]; exact inv.tsh.ign
    · show S''.domr.length = n + 1; rw [hI.dlen]; exact inv.tsh.domr
    · show (S''.bound.set 2 _).length = d; rw [List.length_set, hI.bound]; exact inv.tsh.bound
    case tign =>
      intro t ht
      obtain ⟨h1, h2⟩ := (hT3 t).mp ht
      by_cases htm : t = m₀
      · rw [htm, hignm]; decide
      · rw [hignne t htm]; exact h3.noMark inv h1 h2
    case drge =>
      intro a ha
      by_cases hat : a ∈ S3.tree
      · rw [hdrT a hat]; exact le_of_lt (inv.good a (hPA a ha) 2 hd2)
      · rw [hdrO a hat]; exact (inv.dm a (hPA a ha) b hb (h3.plt a ha)).1
    case drout =>
      intro a ha hat
      have hlt : dr S a < b := by
        by_contra hc
        exact hat ((hT3 a).mpr ⟨ha, not_lt.mp hc⟩)
      rw [hdrO a hat]
      refine ⟨fun p hp => le_trans (le_of_lt hlt) (h3.qge p hp), ?_⟩
      obtain ⟨q, hqA, hbt, hz⟩ := (inv.dm a (hPA a ha) b hb (h3.plt a ha)).2.2 hlt
      exact ⟨q, h3.inP l2 hqA (lt_of_le_of_lt hz hlt), hbt, hz⟩
    case drL =>
      intro a ha q hq hbt
      have hdm := (inv.dm a (hPA a ha) b hb (h3.plt a ha)).2.1 q (hPA q hq) (h3.plt q hq) hbt
      by_cases hat : a ∈ S3.tree
      · have h2 := ((hT3 a).mp hat).2
        exact absurd (max_lt (h3.plt a ha) (h3.plt q hq)) (not_lt.mpr (h2.trans hdm))
      · rw [hdrO a hat]; exact hdm
  · intro v S' hsw
    have hpvq' : pv S'' 2 q0 = pl := (congrArg (HvSweep.tget · 2 q0 0) hI.prev).trans hpvq
    have hnxpl' : nx S'' 2 pl = q0 := (congrArg (HvSweep.tget · 2 pl 0) hI.next).trans hnxpl
    have hpv0 : pv S'' 2 0 = pv S 2 0 := congrArg (HvSweep.tget · 2 0 0) hI.prev
    rw [dim3_phases C R F hlt_last (by rw [hge1, if_neg Bool.false_ne_true, hskip]; rfl) hS1 hrec, hpvq',
      show nx (setBound S'' 2 _) 2 pl = q0 from hnxpl', hnxpl', if_pos hq00, hpv0, show vl S'' pl 2 = vl S pl 2 from hvl3 pl 2,
      show ar S'' pl 2 = ar S pl 2 from har3 pl 2, ← hS3]
    exact congrArg _ hsw

theorem dim3_ok : Dim3_Statement := by
  intro C R d n O F c hF S0 A inv0 hA
  have inv := invC_tick inv0 2
  suffices h : ∃ v S', dim3 C R F (tick S0 2) = some (v, S') ∧ PostC C R d n O (tick S0 2) S' 2 A v by
    obtain ⟨v, S', h1, h2⟩ := h
    exact ⟨v, S', (hvRecursive_two C R F A.length S0).trans h1, postC_tick 2 h2⟩
  generalize tick S0 2 = S at inv
  have l2 := l2_of_inv c inv
  have fromEntry : (∃ S3 P Q hv ha, EntryRes C R d n O A S S3 P Q hv ha ∧
      (∀ v S', sweepLoop C R F F (Q.headD 0) hv ha S3 = some (v, S') → dim3 C R F S = some (v, avlClearTree S'))) →
      ∃ v S', dim3 C R F S = some (v, S') ∧ PostC C R d n O S S' 2 A v :=
    fun ⟨_, _, _, _, _, hE, hrun⟩ => exit_post c hF inv hA hE hrun
  cases hbd : S.bound.getD 2 none with
  | none =>
    exact fromEntry (caseA_entry c hF inv hA (fun a _ => geBound_none S _ hbd))
  | some b =>
    obtain ⟨P, Q, hL, hP, hQ⟩ := split_at_bound C b (RL O 2 A) l2.sorted
    by_cases hQn : Q = []
    · -- Case 1
      subst hQn
      rw [List.append_nil] at hL
      exact case1_post c inv hA hbd (hP _ (hL ▸ l2.last_mem hA))
    · by_cases hPn : P = []
      · -- Case 2
        subst hPn
        rw [List.nil_append] at hL
        refine fromEntry (caseA_entry c hF inv hA ?_)
        intro a ha
        rw [geBound_some hbd]
        exact decide_eq_true (hQ a (hL ▸ ha))
      · -- Case 3
        exact fromEntry (case3_entry c hF inv ⟨hbd, hL, hPn, hQn, hP, hQ⟩)

end HvC
