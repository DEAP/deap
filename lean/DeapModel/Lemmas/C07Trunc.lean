/-
C07 — the "archive too large" branch of `selSPEA2`: the truncation loop appends `N - k` positions
`< N` to `to_remove`.

The computed squared distances are matrix values (`dist0V`): `fin a`, or `inf` for a sum of squares
that overflowed.  With `inf` among the computed entries a surviving row can tie with a removed
(all-`inf`) row, so `min_pos` may stay at its initial value 0 although position 0 was removed before:
`to_remove` may repeat position 0 — and only position 0, because `min_pos` moves to a row only when
that row wins a strict comparison, which an all-`inf` row never does (`TInv`: a fact about the
distance matrix alone, so this half holds whatever the index rows contain).  Without overflow
(`dist0`, the same matrix by definition) a removed position is never `min_pos` again and the
positions are pairwise distinct; this is where the sorted index rows and their bubbling matter
(`TFin`).
-/
import DeapModel.Lemmas.C07Common

set_option linter.unusedSectionVars false

namespace C07L
open Spea2

theorem shiftLoop_spec (lt : Nat → Nat → Bool) (j m : Nat) (s : Nat → Nat) :
    (shiftLoop lt j m s).2 ≤ m ∧
    ∀ p, (shiftLoop lt j m s).1 p = if (shiftLoop lt j m s).2 < p ∧ p ≤ m then s (p - 1) else s p := by
  fun_induction shiftLoop lt j m s with
  | case1 | case3 => exact ⟨Nat.le_refl _, fun p => (if_neg (by omega)).symm⟩
  | case2 m s _ ih =>
    obtain ⟨h1, h2⟩ := ih
    refine ⟨by omega, fun p => ?_⟩
    rw [h2 p]
    by_cases hp : p = m + 1
    · subst hp
      rw [if_neg (by omega), if_pos (by omega)]; simp
    · by_cases hc : (shiftLoop lt j m (upd s (m + 1) (s m))).2 < p ∧ p ≤ m
      · rw [if_pos hc, if_pos (by omega)]
        exact upd_ne _ _ _ _ (by omega)
      · rw [if_neg hc, if_neg (by omega)]
        exact upd_ne _ _ _ _ hp

/-- a row is *good up to `i`*: on positions `< i` it is injective with values `< i`. -/
def RowGood (g : Nat → Nat) (i : Nat) : Prop :=
  (∀ p, p < i → g p < i) ∧ (∀ p q, p < i → q < i → g p = g q → p = q)

/-- the position in the old row that position `p ≠ m` of the new row reads after an insertion at `m` -/
def skipAt (m p : Nat) : Nat := if m < p then p - 1 else p

theorem skipAt_lt {m p i : Nat} (hm : m ≤ i) (hp : p ≤ i) (hpm : p ≠ m) : skipAt m p < i := by
  unfold skipAt
  split
  · next h => exact Nat.sub_one_lt_of_le (Nat.zero_lt_of_lt h) hp
  · next h => exact Nat.lt_of_lt_of_le (Nat.lt_of_le_of_ne (Nat.le_of_not_lt h) hpm) hm

theorem skipAt_inj {m p q : Nat} (hp : p ≠ m) (hq : q ≠ m) (h : skipAt m p = skipAt m q) : p = q := by
  -- `x ↦ if x < m then x else x + 1` undoes `skipAt m` away from `m`
  have back : ∀ x, x ≠ m → (if skipAt m x < m then skipAt m x else skipAt m x + 1) = x := by
    intro x hx
    unfold skipAt
    by_cases hmx : m < x
    · rw [if_pos hmx, if_neg (Nat.not_lt.2 (Nat.le_sub_one_of_lt hmx)),
        Nat.sub_add_cancel (Nat.zero_lt_of_lt hmx)]
    · rw [if_neg hmx, if_pos (Nat.lt_of_le_of_ne (Nat.le_of_not_lt hmx) hx)]
  rw [← back p hp, ← back q hq, h]

theorem insert_good (lt : Nat → Nat → Bool) (g : Nat → Nat) (i : Nat) (h : RowGood g i) :
    RowGood (upd (shiftLoop lt i i g).1 (shiftLoop lt i i g).2 i) (i + 1) := by
  obtain ⟨hm, hs⟩ := shiftLoop_spec lt i i g
  obtain ⟨hv, hi⟩ := h
  generalize (shiftLoop lt i i g).2 = m at hm hs
  generalize (shiftLoop lt i i g).1 = s at hs
  -- away from the insertion point `m` the new row reads the old one at `p` or `p - 1`
  have key : ∀ p, p < i + 1 → p ≠ m → upd s m i p = g (skipAt m p) ∧ skipAt m p < i := by
    intro p hp hpm
    refine ⟨?_, skipAt_lt hm (Nat.le_of_lt_succ hp) hpm⟩
    rw [upd_ne _ _ _ _ hpm, hs p]
    unfold skipAt
    by_cases hc : m < p
    · rw [if_pos ⟨hc, Nat.le_of_lt_succ hp⟩, if_pos hc]
    · rw [if_neg fun h => hc h.1, if_neg hc]
  -- the inserted value `i` is above every value of the old row
  have hne : ∀ p, p < i + 1 → p ≠ m → upd s m i p ≠ i := fun p hp hpm => by
    rw [(key p hp hpm).1]; exact Nat.ne_of_lt (hv _ (key p hp hpm).2)
  constructor
  · intro p hp
    by_cases hpm : p = m
    · subst hpm; rw [upd_same]; exact Nat.lt_succ_self i
    · rw [(key p hp hpm).1]; exact Nat.lt_succ_of_lt (hv _ (key p hp hpm).2)
  · intro p q hp hq he
    by_cases hpm : p = m <;> by_cases hqm : q = m
    · exact hpm.trans hqm.symm
    · subst hpm; rw [upd_same] at he; exact absurd he.symm (hne q hq hqm)
    · subst hqm; rw [upd_same] at he; exact absurd he (hne p hp hpm)
    · rw [(key p hp hpm).1, (key q hq hqm).1] at he
      exact skipAt_inj hpm hqm (hi _ _ (key p hp hpm).2 (key q hq hqm).2 he)

theorem sortRow_good (lt : Nat → Nat → Bool) (N : Nat) (hN : 1 ≤ N) :
    RowGood (look (sortRow lt N)) N := by
  have h := forRange_inv (fun i (l : List Nat) => i ≤ N ∧ RowGood (look l) i)
    (fun j (l : List Nat) => let r := shiftLoop lt j j (look l); tab N (upd r.1 r.2 j))
    (N - 1) 1 (tab N (fun _ => 0))
    ⟨hN, fun p hp => by rw [look_tab N _ p (by omega)]; omega, fun p q hp hq _ => by omega⟩
    (by
      intro i l h1 h2 ⟨_, hg⟩
      obtain ⟨ha, hb⟩ := insert_good lt (look l) i hg
      refine ⟨by omega, fun p hp => ?_, fun p q hp hq => ?_⟩
      · rw [look_tab N _ p (by omega)]; exact ha p hp
      · rw [look_tab N _ p (by omega), look_tab N _ q (by omega)]; exact hb p q hp hq)
  rw [show 1 + (N - 1) = N by omega] at h
  exact h.2

def swapAt (i x : Nat) : Nat := if x = i then i + 1 else if x = i + 1 then i else x

theorem swapAt_invol (i x : Nat) : swapAt i (swapAt i x) = x := by
  by_cases h1 : x = i
  · subst h1; simp [swapAt]
  · by_cases h2 : x = i + 1
    · subst h2; simp [swapAt]
    · simp [swapAt, h1, h2]

theorem swapAt_mem (i x lo hi : Nat) (h1 : lo ≤ i) (h2 : i + 1 < hi) (hx1 : lo ≤ x) (hx2 : x < hi) :
    lo ≤ swapAt i x ∧ swapAt i x < hi := by
  unfold swapAt; split <;> [omega; (split <;> omega)]

theorem look_swap (N i : Nat) (l : List Nat) (x : Nat) (hx : x < N) :
    look (tab N (upd (upd (look l) i (look l (i + 1))) (i + 1) (look l i))) x =
      look l (swapAt i x) := by
  rw [look_tab N _ x hx, upd_apply, upd_apply]
  unfold swapAt
  split_ifs <;> first | rfl | omega

theorem bubble_spec (mp size N : Nat) (row : List Nat) (Pr : Nat → Prop) (hsz : size ≤ N)
    (hinj : ∀ p q, p < N → q < N → look row p = look row q → p = q)
    (hP : ∀ p, 1 ≤ p → p < size → Pr (look row p)) :
    (∀ p q, p < N → q < N → look (bubble mp size N row) p = look (bubble mp size N row) q → p = q) ∧
    (∀ p, 1 ≤ p → p < size → Pr (look (bubble mp size N row) p)) ∧
    (∀ p, 1 ≤ p → p + 1 < size → look (bubble mp size N row) p ≠ mp) := by
  have h := forRange_inv
    (fun j (l : List Nat) =>
      (∀ p q, p < N → q < N → look l p = look l q → p = q) ∧
      (∀ p, 1 ≤ p → p < size → Pr (look l p)) ∧
      (∀ p, 1 ≤ p → p < j → look l p ≠ mp))
    (fun j (l : List Nat) =>
      if look l j = mp then tab N (upd (upd (look l) j (look l (j + 1))) (j + 1) mp) else l)
    (size - 2) 1 row ⟨hinj, hP, fun p h1 h2 => absurd h2 (Nat.not_lt.2 h1)⟩
    (by
      intro i l h1 h2 ⟨hi, hp, hne⟩
      have hi1 : i + 1 < size := by omega
      have hiN : i + 1 < N := Nat.lt_of_lt_of_le hi1 hsz
      by_cases hc : look l i = mp
      · subst hc
        simp only [if_true]
        have sw : ∀ x, x < N → swapAt i x < N := fun x hx =>
          (swapAt_mem i x 0 N (Nat.zero_le _) hiN (Nat.zero_le _) hx).2
        -- `swapAt i` is its own inverse, so equal images have equal arguments
        have cancel : ∀ x y, swapAt i x = y → x = swapAt i y := fun x y e => by
          rw [← e, swapAt_invol]
        refine ⟨fun p q hp' hq' he => ?_, fun p hp1 hp2 => ?_, fun p hp1 hp2 he => ?_⟩
        · rw [look_swap N i l p hp', look_swap N i l q hq'] at he
          rw [cancel p _ (hi _ _ (sw p hp') (sw q hq') he), swapAt_invol]
        · rw [look_swap N i l p (Nat.lt_of_lt_of_le hp2 hsz)]
          obtain ⟨a, b⟩ := swapAt_mem i p 1 size h1 hi1 hp1 hp2
          exact hp _ a b
        · have hpN : p < N := Nat.lt_trans hp2 hiN
          rw [look_swap N i l p hpN] at he
          have := cancel p i (hi _ _ (sw p hpN) (Nat.lt_of_succ_lt hiN) he)
          simp only [swapAt, if_true] at this
          exact Nat.lt_irrefl _ (this ▸ hp2)
      · simp only [hc, if_false]
        exact ⟨hi, hp, fun p hp1 hp2 => if hpi : p = i then hpi ▸ hc else hne p hp1 (Nat.lt_of_le_of_ne (Nat.le_of_lt_succ hp2) hpi)⟩)
  exact ⟨h.1, h.2.1, fun p h1 h2 => h.2.2 p h1
    (by rw [Nat.add_comm]; exact Nat.lt_succ_of_le (Nat.le_sub_of_add_le h2))⟩

section DV
variable {α : Type} [LT α] [DecidableLT α]

theorem inf_lt (x : DVal α) : (DVal.inf : DVal α).lt x = false := by cases x <;> rfl

theorem lt_inf (x : DVal α) (h : x ≠ DVal.inf) : x.lt DVal.inf = true := by
  cases x <;> first | rfl | exact absurd rfl h

theorem innerCmp_cases (dist : Mat (DVal α)) (sorted : Mat Nat) (i mp j cnt : Nat) :
    innerCmp dist sorted i mp j cnt = mp ∨
      (innerCmp dist sorted i mp j cnt = i ∧ ∃ x y, (look2 dist i x).lt y = true) := by
  fun_induction innerCmp dist sorted i mp j cnt with
  | case1 => exact Or.inl rfl
  | case2 => rename_i h; exact Or.inr ⟨rfl, _, _, h⟩
  | case3 => exact Or.inl rfl
  | case4 => rename_i ih; exact ih

theorem innerCmp_first (dist : Mat (DVal α)) (sorted : Mat Nat) (i mp j cnt : Nat)
    (h : (look2 dist i (look2 sorted i j)).lt (look2 dist mp (look2 sorted mp j)) = true) :
    innerCmp dist sorted i mp j (cnt + 1) = i := by
  unfold innerCmp; simp [h]

/-- the state of the truncation loop, as far as it does not depend on the index rows: `R` = the
positions appended to `to_remove` so far (position 0 possibly several times); a removed row reads
`inf` at EVERY column index, in range or not (`overwrite` re-tabulates the matrix and the default of
a read is `inf`), so no bound on what the index rows hold is needed. -/
structure TInv (N size : Nat) (dist : Mat (DVal α)) (R : List Nat) : Prop where
  rowInf : ∀ r ∈ R, ∀ x, look2 dist r x = DVal.inf
  lt : ∀ r ∈ R, r < N
  nz : (R.filter (fun r => decide (r ≠ 0))).Nodup
  card : R.length + size = N

variable {N size : Nat} {dist : Mat (DVal α)} {sorted : Mat Nat} {R : List Nat}

/-- a row that wins a strict comparison is not all-`inf`, hence not a removed one — whatever the
index rows hold -/
theorem innerCmp_live (inv : TInv N size dist R) (sorted : Mat Nat) (i mp j cnt : Nat) :
    innerCmp dist sorted i mp j cnt = mp ∨ (innerCmp dist sorted i mp j cnt = i ∧ i ∉ R) := by
  rcases innerCmp_cases dist sorted i mp j cnt with h | ⟨h, x, y, hlt⟩
  · exact Or.inl h
  · refine Or.inr ⟨h, fun hiR => ?_⟩
    rw [inv.rowInf i hiR x, inf_lt] at hlt
    exact Bool.false_ne_true hlt

theorem minPos_spec (inv : TInv N size dist R) (sorted : Mat Nat) (hN : 1 ≤ N) (sz : Nat) :
    minPos dist sorted N sz < N ∧ (minPos dist sorted N sz ∈ R → minPos dist sorted N sz = 0) := by
  refine forRange_inv (fun _ (mp : Nat) => mp < N ∧ (mp ∈ R → mp = 0))
    (fun i mp => innerCmp dist sorted i mp 1 (sz - 1)) (N - 1) 1 0 ⟨by omega, fun _ => rfl⟩ ?_
  intro i mp h1 h2 hmp
  rcases innerCmp_live inv sorted i mp 1 (sz - 1) with h | ⟨h, hi⟩
  · simp only [h]; exact hmp
  · simp only [h]; exact ⟨by omega, fun hiR => absurd hiR hi⟩

theorem look2_overwrite (dist : Mat (DVal α)) (N mp a b : Nat) (ha : a < N) :
    look2 (overwrite dist N mp) a b =
      if b < N then (if b = mp ∨ a = mp then DVal.inf else look2 dist a b) else DVal.inf := by
  unfold overwrite tab2
  rw [look2_tab N _ a b ha]
  split
  · next hb => exact look_tab N _ b hb
  · next hb => exact look_tab_ge N _ b (Nat.le_of_not_lt hb)

theorem TInv_step (inv : TInv N size dist R) (sorted : Mat Nat) (hsize : 1 ≤ size) (sz : Nat) :
    TInv N (size - 1) (overwrite dist N (minPos dist sorted N sz)) (R ++ [minPos dist sorted N sz]) := by
  obtain ⟨hmN, hmR⟩ := minPos_spec inv sorted (by have := inv.card; omega) sz
  generalize minPos dist sorted N sz = mp at hmN hmR
  have hlt : ∀ r ∈ R ++ [mp], r < N := fun r hr => by
    rcases List.mem_append.1 hr with h | h
    · exact inv.lt r h
    · rwa [List.mem_singleton.1 h]
  refine ⟨fun r hr x => ?_, hlt, ?_, by have := inv.card; simp; omega⟩
  · rw [look2_overwrite dist N mp r x (hlt r hr)]
    split
    · split
      · rfl
      · next hne =>
        rcases List.mem_append.1 hr with h | h
        · exact inv.rowInf r h x
        · exact absurd (List.mem_singleton.1 h) (by omega)
    · rfl
  · rw [List.filter_append]
    by_cases h0 : mp = 0
    · subst h0; simpa using inv.nz
    · rw [show [mp].filter (fun r => decide (r ≠ 0)) = [mp] by simp [h0]]
      refine List.nodup_append.2 ⟨inv.nz, by simp, fun a ha b hb hab => ?_⟩
      rw [List.mem_singleton.1 hb] at hab
      exact h0 (hmR (hab ▸ (List.mem_filter.1 ha).1))

theorem TInv_init (dist : Mat (DVal α)) (N : Nat) : TInv N N dist [] :=
  ⟨by simp, by simp, by simp, by simp⟩

/-- what holds in addition when no computed entry is `inf`: live rows hold no `inf` in live columns,
every index row is injective and its positions `1..size-1` hold live positions; then `R` has no
repetition. -/
structure TFin (N size : Nat) (dist : Mat (DVal α)) (sorted : Mat Nat) (R : List Nat) : Prop where
  fin : ∀ i, i < N → i ∉ R → ∀ x, x < N → x ∉ R → look2 dist i x ≠ DVal.inf
  inj : ∀ i, i < N → ∀ p q, p < N → q < N → look2 sorted i p = look2 sorted i q → p = q
  live : ∀ i, i < N → ∀ p, 1 ≤ p → p < size → look2 sorted i p < N ∧ look2 sorted i p ∉ R
  nodup : R.Nodup

theorem minPos_live (inv : TInv N size dist R) (fin : TFin N size dist sorted R) (hsize : 2 ≤ size) :
    minPos dist sorted N size ∉ R := by
  have hN : 1 ≤ N := Nat.le_trans (Nat.le_of_succ_le hsize) (inv.card ▸ Nat.le_add_left _ _)
  have he1 : 1 + (N - 1) = N := Nat.add_sub_cancel' hN
  obtain ⟨w, hwN, hwR⟩ := exists_not_mem N R
    (inv.card ▸ Nat.lt_add_of_pos_right (Nat.lt_of_lt_of_le Nat.zero_lt_two hsize))
  have h := forRange_inv
    (fun i (mp : Nat) => mp < N ∧ ((∃ x, x < i ∧ x ∉ R) → mp ∉ R))
    (fun i mp => innerCmp dist sorted i mp 1 (size - 1)) (N - 1) 1 0
    ⟨hN, fun ⟨x, hx, hxR⟩ => by rwa [Nat.lt_one_iff.1 hx] at hxR⟩
    (by
      intro i mp h1 h2 ⟨hmpN, hmp⟩
      have hiN : i < N := he1 ▸ h2
      obtain ⟨c, hc⟩ := Nat.exists_eq_succ_of_ne_zero (Nat.sub_ne_zero_of_lt hsize)
      rcases innerCmp_live inv sorted i mp 1 (size - 1) with h | ⟨h, hi⟩
      · simp only [h]
        refine ⟨hmpN, ?_⟩
        rintro ⟨x, hx, hxR⟩
        by_cases hxi : x = i
        · subst hxi
          -- `i` is live; if `mp` were removed the first comparison would have picked `i`
          by_contra hmpR
          obtain ⟨l1, l2⟩ := fin.live x hiN 1 (Nat.le_refl _) hsize
          have ha := fin.fin x hiN hxR _ l1 l2
          rw [hc, innerCmp_first dist sorted x mp 1 c (by rw [inv.rowInf mp hmpR]; exact lt_inf _ ha)] at h
          exact hxR (h ▸ hmpR)
        · exact hmp ⟨x, Nat.lt_of_le_of_ne (Nat.le_of_lt_succ hx) hxi, hxR⟩
      · simp only [h]; exact ⟨hiN, fun _ => hi⟩)
  rw [he1] at h
  exact h.2 ⟨w, hwN, hwR⟩

theorem look2_shuffleRows (sorted : Mat Nat) (N size mp i p : Nat) (hi : i < N) :
    look2 (shuffleRows sorted N size mp) i p = look (bubble mp size N (sorted.getD i [])) p := by
  unfold shuffleRows; rw [look2_tab N _ i p hi]

theorem TFin_step (inv : TInv N size dist R) (fin : TFin N size dist sorted R) (hsize : 2 ≤ size) :
    TFin N (size - 1) (overwrite dist N (minPos dist sorted N size))
      (shuffleRows sorted N size (minPos dist sorted N size)) (R ++ [minPos dist sorted N size]) := by
  have hmR := minPos_live inv fin hsize
  generalize minPos dist sorted N size = mp at hmR
  have hszN : size ≤ N := by have := inv.card; omega
  have hb := fun i (hi : i < N) => bubble_spec mp size N (sorted.getD i []) (fun x => x < N ∧ x ∉ R) hszN
    (fin.inj i hi) (fin.live i hi)
  refine ⟨fun i hi hiR x hx hxR => ?_, fun i hi p q hp hq => ?_, fun i hi p h1 h2 => ?_, ?_⟩
  · simp only [List.mem_append, List.mem_singleton, not_or] at hiR hxR
    rw [look2_overwrite dist N mp i x hi, if_pos hx, if_neg (by omega)]
    exact fin.fin i hi hiR.1 x hx hxR.1
  · rw [look2_shuffleRows sorted N size mp i p hi, look2_shuffleRows sorted N size mp i q hi]
    exact (hb i hi).1 p q hp hq
  · rw [look2_shuffleRows sorted N size mp i p hi]
    simp only [List.mem_append, List.mem_singleton, not_or]
    obtain ⟨a, b⟩ := (hb i hi).2.1 p h1 (by omega)
    exact ⟨a, b, (hb i hi).2.2 p h1 (by omega)⟩
  · exact List.nodup_append.2 ⟨fin.nodup, by simp, fun a ha b hb hab =>
      hmR (List.mem_singleton.1 hb ▸ hab ▸ ha)⟩

theorem TFin_init (D : Nat → Nat → α) (N : Nat) (hN : 1 ≤ N) :
    TFin N N (dist0 D N) (sorted0 (dist0 D N) N) [] := by
  have hs : ∀ i, i < N → ∀ p, look2 (sorted0 (dist0 D N) N) i p =
      look (sortRow (fun a b => (look2 (dist0 D N) i a).lt (look2 (dist0 D N) i b)) N) p :=
    fun i hi p => by unfold sorted0; rw [look2_tab N _ i p hi]
  refine ⟨fun i hi _ x hx _ => ?_, fun i hi p q hp hq => ?_, fun i hi p h1 h2 => ?_, List.nodup_nil⟩
  · unfold dist0; rw [look2_tab2 N _ i x hi hx]
    split <;> simp
  · rw [hs i hi p, hs i hi q]
    exact (sortRow_good _ N hN).2 p q hp hq
  · rw [hs i hi p]
    exact ⟨(sortRow_good _ N hN).1 p h2, List.not_mem_nil⟩

/-- the loop for ANY index matrix: `N - k` positions `< N`, only 0 repeated; and no repetition at all
from a state without `inf` among the live entries. -/
theorem truncLoop_inv (N k : Nat) (hk : 1 ≤ k) :
    ∀ (n : Nat) (dist : Mat (DVal α)) (sorted : Mat Nat) (R : List Nat),
      TInv N (k + n) dist R →
      (∃ dist' : Mat (DVal α), TInv N k dist' (truncLoop N k n dist sorted R)) ∧
        (TFin N (k + n) dist sorted R → (truncLoop N k n dist sorted R).Nodup) := by
  intro n
  induction n with
  | zero => intro dist sorted R inv; exact ⟨⟨dist, inv⟩, fun fin => fin.nodup⟩
  | succ n ih =>
    intro dist sorted R inv
    obtain ⟨a, b⟩ := ih _ (shuffleRows sorted N (k + (n + 1)) (minPos dist sorted N (k + (n + 1)))) _
      (TInv_step inv sorted (by omega) (k + (n + 1)))
    exact ⟨a, fun fin => b (TFin_step inv fin (by omega))⟩

theorem toRemoveV_spec (D : Nat → Nat → DVal α) (N k : Nat) (hk : 1 ≤ k) (hkN : k ≤ N) :
    ((toRemoveV D N k).filter (fun r => decide (r ≠ 0))).Nodup ∧ (∀ r ∈ toRemoveV D N k, r < N) ∧
    (toRemoveV D N k).length = N - k := by
  obtain ⟨⟨_, inv⟩, _⟩ := truncLoop_inv N k hk (N - k) (dist0V D N) (sorted0 (dist0V D N) N) []
    (by rw [show k + (N - k) = N by omega]; exact TInv_init _ N)
  exact ⟨inv.nz, inv.lt, Nat.eq_sub_of_add_eq inv.card⟩

theorem toRemoveV_fin (D : Nat → Nat → α) (N k : Nat) :
    toRemoveV (fun i j => DVal.fin (D i j)) N k = toRemove D N k := rfl

/-- without overflow `to_remove` holds `N - k` pairwise distinct positions `< N` -/
theorem toRemove_spec (D : Nat → Nat → α) (N k : Nat) (hk : 1 ≤ k) (hkN : k ≤ N) :
    (toRemove D N k).Nodup ∧ (∀ r ∈ toRemove D N k, r < N) ∧ (toRemove D N k).length = N - k := by
  have e : k + (N - k) = N := Nat.add_sub_cancel' hkN
  refine ⟨(truncLoop_inv N k hk (N - k) _ _ [] (by rw [e]; exact TInv_init _ N)).2
    (by rw [e]; exact TFin_init D N (Nat.le_trans hk hkN)), ?_⟩
  rw [← toRemoveV_fin]
  exact (toRemoveV_spec _ N k hk hkN).2

end DV

end C07L
