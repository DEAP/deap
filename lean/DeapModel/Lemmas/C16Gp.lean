/-
C16 — GP node objects: `__setstate__ ∘ __getstate__` is the identity on every slot, and
`renameArguments` never touches a `name` slot (so `name` cannot be rebuilt from `value`).
-/
import DeapModel.Core.Heap

namespace Heap.Gp

/-- Every slot of a node survives `__getstate__` / `__setstate__` — set or unset. -/
theorem loadNode_dumpNode (n : Node) : loadNode (dumpNode n) = n := by
  cases n with
  | prim a b c d e =>
    cases a <;> cases b <;> cases c <;> cases d <;> cases e <;> rfl
  | term a b c d =>
    cases a <;> cases b <;> cases c <;> cases d <;> rfl

/-- `terminal.value = new_name` leaves every `name` slot as it was. -/
theorem setValue_names {nodes nodes' : List Node} {i : Nat} {x : Int}
    (h : setValue nodes i x = some nodes') : nodes'.map Node.name = nodes.map Node.name := by
  simp only [setValue] at h
  split at h
  · rename_i n v r c hi
    cases h
    obtain ⟨hlt, hn⟩ := List.getElem?_eq_some_iff.1 hi
    have hname : Node.name (.term n (some x) r c) = (nodes.map Node.name)[i]'(by simpa using hlt) := by
      rw [List.getElem_map, hn]
      rfl
    rw [List.map_set, hname, List.set_getElem_self]
  · cases h

theorem renamePass2_names : ∀ (ren : List (Int × Nat)) (nodes : List Node) (mp : List (Int × Nat))
    (nodes' : List Node) (mp' : List (Int × Nat)),
    renamePass2 ren nodes mp = some (nodes', mp') → nodes'.map Node.name = nodes.map Node.name := by
  intro ren
  induction ren with
  | nil =>
    intro nodes mp nodes' mp' h
    cases h
    rfl
  | cons p ren ih =>
    intro nodes mp nodes' mp' h
    simp only [renamePass2] at h
    split at h
    · cases h
    · rename_i nodes1 h1
      rw [ih _ _ _ _ h, setValue_names h1]

theorem renameArguments_names {ps ps' : PSet} {kargs : List (Int × Int)}
    (h : renameArguments ps kargs = some ps') : ps'.nodes.map Node.name = ps.nodes.map Node.name := by
  simp only [renameArguments] at h
  split at h
  · cases h
  · split at h
    · cases h
    · rename_i nodes mp' h2
      cases h
      exact renamePass2_names _ _ _ _ _ h2

theorem renameHistory_names : ∀ (hist : List (List (Int × Int))) (ps ps' : PSet),
    renameHistory ps hist = some ps' → ps'.nodes.map Node.name = ps.nodes.map Node.name := by
  intro hist
  induction hist with
  | nil =>
    intro ps ps' h
    cases h
    rfl
  | cons k ks ih =>
    intro ps ps' h
    simp only [renameHistory] at h
    split at h
    · cases h
    · rename_i ps1 h1
      rw [ih _ _ h, renameArguments_names h1]


/-- As built by `PrimitiveSet("MAIN", 2)` + `addPrimitive(add, 2)` (`ARG0` = 100, `ARG1` = 101, `add` = 5): for every terminal
`name = str(value)` (the same atom here: the argument values are strings). -/
def exPset : PSet :=
  { nodes := [.term (some 100) (some 100) (some 7) (some 8), .term (some 101) (some 101) (some 7) (some 8),
              .prim (some 5) (some 2) (some 9) (some 7) (some 10)],
    arguments := [100, 101],
    mapping := [(100, 0), (101, 1), (5, 2)] }

end Heap.Gp
