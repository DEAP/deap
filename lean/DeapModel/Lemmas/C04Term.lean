/-
C04 lemmas: the splits of the log-time sort always make progress (so the helpers never answer `none`,
`helperB_total` / `helperA_total`).  The argument is the balance argument of
`splitA` / `splitB`: the median of a non-empty list lies between two of its elements, so the side
that receives the elements equal to the median can only be chosen empty/full when all elements are
equal on the objective — which the callers exclude.
-/
import DeapModel.Lemmas.C04Log

set_option linter.unusedSectionVars false

namespace C04L
open NDSort

variable {α : Type} [Field α] [LinearOrder α] [IsStrictOrderedRing α] [Inhabited α]

theorem median2_sandwich {β : Type} [Inhabited β] (key : β → α) (seq : List β) (hne : seq ≠ []) :
    (∃ x ∈ seq, key x + key x ≤ median2 seq key) ∧ (∃ y ∈ seq, median2 seq key ≤ key y + key y) := by
  have hperm : (pySortedBy key seq).Perm seq := List.mergeSort_perm _ _
  have hsorted : (pySortedBy key seq).Pairwise (fun a b => key a ≤ key b) :=
    List.pairwise_mergeSort_key key (fun a b => decide (key a < key b)) (fun _ _ => decide_eq_true_iff) seq
  have hn : 0 < seq.length := List.length_pos_iff.2 hne
  have hp : (seq.length - 1) / 2 < (pySortedBy key seq).length := by
    rw [hperm.length_eq]; exact lt_of_le_of_lt (Nat.div_le_self _ _) (Nat.sub_lt hn Nat.one_pos)
  have hq : seq.length / 2 < (pySortedBy key seq).length := by
    rw [hperm.length_eq]; exact Nat.div_lt_self hn (by decide)
  have hle : key (pySortedBy key seq)[(seq.length - 1) / 2] ≤ key (pySortedBy key seq)[seq.length / 2] := by
    rcases Nat.lt_or_ge ((seq.length - 1) / 2) (seq.length / 2) with hlt | hge
    · exact List.pairwise_iff_getElem.1 hsorted _ _ hp hq hlt
    · exact le_of_eq (by congr 2; exact Nat.le_antisymm (Nat.div_le_div_right (Nat.sub_le _ _)) hge)
  have hmp := hperm.mem_iff.1 (List.getElem_mem hp)
  have hmq := hperm.mem_iff.1 (List.getElem_mem hq)
  simp only [median2, List.getD_eq_getElem?_getD, List.getElem?_eq_getElem hp, List.getElem?_eq_getElem hq,
    Option.getD_some]
  split
  · exact ⟨⟨_, hmp, le_refl _⟩, ⟨_, hmp, le_refl _⟩⟩
  · exact ⟨⟨_, hmp, add_le_add_right hle _⟩, ⟨_, hmq, add_le_add_left hle _⟩⟩

theorem add_self_lt {a b : α} (h : a + a < b + b) : a < b := by
  by_contra hc
  exact absurd h (not_lt.2 (add_le_add (not_lt.1 hc) (not_lt.1 hc)))

theorem add_self_inj {a b : α} (h : a + a = b + b) : a = b :=
  le_antisymm (not_lt.1 fun hc => (add_lt_add hc hc).ne' h) (not_lt.1 fun hc => (add_lt_add hc hc).ne h)

theorem cutAt_lt {β : Type} {key : β → α} {med2 : α} {up : Prop} [Decidable up] {l l' : List β} {x y : β}
    (hx : x ∈ (cutAt key med2 up l).1) (hy : y ∈ (cutAt key med2 up l').2) : key y < key x := by
  obtain ⟨-, hx⟩ := mem_cutAt_fst.1 hx
  obtain ⟨-, hy1, hy2⟩ := mem_cutAt_snd.1 hy
  rcases hx with hx | ⟨hu, hx⟩
  · exact add_self_lt (lt_of_le_of_lt (not_lt.1 hy1) hx)
  · exact add_self_lt (lt_of_lt_of_le (hy2 hu) (not_lt.1 hx))

theorem splitA_progress (fits : List (List α)) (obj : Nat) (hne : fits ≠ [])
    (hnc : ∃ z ∈ fits, median2 fits (fun f => nth f obj) < nth z obj + nth z obj ∨
                        nth z obj + nth z obj < median2 fits (fun f => nth f obj)) :
    (splitA fits obj).1.length < fits.length ∧ (splitA fits obj).2.length < fits.length ∧
    (splitA fits obj).1.length + (splitA fits obj).2.length ≤ fits.length := by
  obtain ⟨hlo, hhi⟩ := median2_sandwich (fun f : List α => nth f obj) fits hne
  rw [splitA_eq]
  exact ⟨(cutAt_progress _ _ fits hlo hhi hnc).1, (cutAt_progress _ _ fits hlo hhi hnc).2, cutAt_length.le⟩

theorem eraseDups_const {γ : Type} [DecidableEq γ] (c : γ) : ∀ (l : List γ), l ≠ [] → (∀ a ∈ l, a = c) →
    l.eraseDups = [c]
  | [], h, _ => absurd rfl h
  | a :: l, _, hall => by
    have ha : a = c := hall a (by simp)
    subst ha
    rw [List.eraseDups_cons]
    have : l.filter (fun b => !b == a) = [] := by
      rw [List.filter_eq_nil_iff]; intro b hb; simp [hall b (by simp [hb])]
    rw [this]; simp

theorem all_on_pivot {β : Type} {key : β → α} {med2 : α} {l : List β}
    (h : ¬ ∃ z ∈ l, med2 < key z + key z ∨ key z + key z < med2) : ∀ z ∈ l, key z + key z = med2 :=
  fun z hz => not_not.1 fun hne => (lt_or_gt_of_ne hne).elim (fun h1 => h ⟨z, hz, Or.inr h1⟩)
    fun h1 => h ⟨z, hz, Or.inl h1⟩

theorem off_median_of_not_constant (fits : List (List α)) (obj : Nat) (hne : fits ≠ [])
    (h : objConstant fits obj = false) :
    ∃ z ∈ fits, median2 fits (fun f => nth f obj) < nth z obj + nth z obj ∨
                nth z obj + nth z obj < median2 fits (fun f => nth f obj) := by
  by_contra hc
  have hall := all_on_pivot hc
  obtain ⟨z0, hz0⟩ := List.exists_mem_of_ne_nil fits hne
  have hconst : ∀ a ∈ fits.map (fun f => nth f obj), a = nth z0 obj := by
    intro a ha
    obtain ⟨z, hz, rfl⟩ := List.mem_map.1 ha
    exact add_self_inj ((hall z hz).trans (hall z0 hz0).symm)
  have := eraseDups_const (nth z0 obj) (fits.map (fun f => nth f obj)) (by simpa using hne) hconst
  simp [objConstant, this] at h

theorem splitB_progress (best worst : List (List α)) (obj : Nat) (hb : best ≠ []) (hw : worst ≠ [])
    (hskip : ¬ optGe (minKey best obj) (maxKey worst obj) = true) :
    (splitB best worst obj).1.length + (splitB best worst obj).2.2.1.length < best.length + worst.length ∧
    (splitB best worst obj).2.1.length + (splitB best worst obj).2.2.2.length < best.length + worst.length ∧
    (splitB best worst obj).1.length + (splitB best worst obj).2.2.2.length ≤ best.length + worst.length := by
  -- the median is taken over the larger list, a non-empty part of `best ++ worst`
  have hLne : (if best.length > worst.length then best else worst) ≠ [] := by split <;> assumption
  have hLsub : ∀ x ∈ (if best.length > worst.length then best else worst), x ∈ best ++ worst := by
    intro x hx; split at hx
    · exact List.mem_append_left _ hx
    · exact List.mem_append_right _ hx
  obtain ⟨⟨x, hx, hxm⟩, ⟨y, hy, hym⟩⟩ := median2_sandwich (fun f : List α => nth f obj) _ hLne
  generalize hmed : median2 (if best.length > worst.length then best else worst) (fun f => nth f obj) = med2
    at hxm hym
  -- not every element sits on the median, otherwise the caller's `>=` test would have held
  have hoff : ∃ z ∈ best ++ worst, med2 < nth z obj + nth z obj ∨ nth z obj + nth z obj < med2 := by
    by_contra hc
    have hall := all_on_pivot hc
    exact hskip ((optGe_minKey_maxKey best worst obj hb hw).2 fun b hb' w hw' => le_of_eq (add_self_inj
      ((hall w (List.mem_append_right _ hw')).trans (hall b (List.mem_append_left _ hb')).symm)))
  obtain ⟨p1, p2⟩ := cutAt_progress (fun f : List α => nth f obj) med2 (best ++ worst) ⟨x, hLsub x hx, hxm⟩
    ⟨y, hLsub y hy, hym⟩ hoff
  rw [splitB_eq best worst obj _ med2 rfl hmed.symm]
  rw [cutAt_append] at p1 p2
  simp only [List.length_append] at p1 p2
  have s1 := (cutAt_sublist (key := fun f : List α => nth f obj) (med2 := med2)
    (up := cutRule (fun f => nth f obj) med2 (best ++ worst)) (l := best)).1.length_le
  have s2 := (cutAt_sublist (key := fun f : List α => nth f obj) (med2 := med2)
    (up := cutRule (fun f => nth f obj) med2 (best ++ worst)) (l := worst)).2.length_le
  exact ⟨p1, p2, Nat.add_le_add s1 s2⟩

end C04L
