import DeapModel.Lemmas.C15SweepPtr
import Mathlib.Data.List.Induction
import Mathlib.Data.List.Perm.Subperm
/-!
C15 — running the loops of the transcription `Core/HvSweep.lean` along a well-formed list:
the 2-D loop and the reset loop as pure folds, the removal loop, what `remove` / `reinsert` do to the other fields,
and termination in every dimension.
-/
namespace HvSweep

/-- the values `(hvol, h, q)` that the loop l.120-130 computes on the list of remaining nodes -/
def stairNodes (C : Cargo) : List ℕ → (q : ℕ) → (h hvol : ℚ) → ℚ × ℚ × ℕ
  | [], q, h, hvol => (hvol, h, q)
  | p :: l, q, h, hvol =>
    if cg C p 0 < h then stairNodes C l p (cg C p 0) (hvol + h * (cg C q 1 - cg C p 1))
    else stairNodes C l p h (hvol + h * (cg C q 1 - cg C p 1))

/-- what the same loop does to the state: a node that does not improve the running minimum `h` of the first
coordinate is marked `ignore = 1`, unless it carries a mark already -/
def markNodes (C : Cargo) : List ℕ → (h : ℚ) → St → St
  | [], _, S => S
  | p :: l, h, S =>
    if cg C p 0 < h then markNodes C l (cg C p 0) S
    else markNodes C l h (if ign S p = 0 then setIgn S p 1 else S)

theorem markNodes_field {α : Type} (f : St → α) (hf : ∀ S a v, f (setIgn S a v) = f S) (C : Cargo) :
    ∀ (l : List ℕ) (h : ℚ) (S : St), f (markNodes C l h S) = f S
  | [], _, _ => rfl
  | p :: l, h, S => by
    unfold markNodes
    split
    · exact markNodes_field f hf C l _ S
    · rw [markNodes_field f hf C l h]
      split
      · exact hf S p 1
      · rfl

theorem markNodes_ptrEq (C : Cargo) (l : List ℕ) (h : ℚ) (S : St) : PtrEq S (markNodes C l h S) :=
  ptrEq_of_fields (markNodes_field (·.next) (fun _ _ _ => rfl) C l h S) (markNodes_field (·.prev) (fun _ _ _ => rfl) C l h S)

theorem ign_markNodes_of_notMem (C : Cargo) : ∀ (l : List ℕ) (h : ℚ) (S : St) (y : ℕ), y ∉ l →
    ign (markNodes C l h S) y = ign S y
  | [], _, _, _, _ => rfl
  | p :: l, h, S, y, hy => by
    have hyl : y ∉ l := fun hm => hy (List.mem_cons_of_mem _ hm)
    unfold markNodes
    split
    · exact ign_markNodes_of_notMem C l _ S y hyl
    · rw [ign_markNodes_of_notMem C l h _ y hyl]
      split
      · exact ign_setIgn_ne S p 1 y (fun e => hy (by simp [e]))
      · rfl

theorem loop2d_run (C : Cargo) : ∀ (l : List ℕ) (fuel q : ℕ) (h hvol : ℚ) (S : St),
    l.length ≤ fuel → Seg S 1 q l 0 → (∀ p ∈ l, p ≠ 0) →
    loop2d C fuel (nx S 1 q) q h hvol S
      = some ((stairNodes C l q h hvol).1, (stairNodes C l q h hvol).2.1, (stairNodes C l q h hvol).2.2,
          markNodes C l h S)
  | [], fuel, q, h, hvol, S, _, hs, _ => by
    have : nx S 1 q = 0 := hs.1
    rw [this]
    cases fuel <;> rfl
  | p :: l, fuel, q, h, hvol, S, hf, hs, hne => by
    have hp : nx S 1 q = p := hs.1.1
    have hp0 : p ≠ 0 := hne p (by simp)
    obtain ⟨f, rfl, hf'⟩ := exists_fuel_succ hf
    have hne' : ∀ x ∈ l, x ≠ 0 := fun x hx => hne x (List.mem_cons_of_mem _ hx)
    rw [hp]
    unfold loop2d stairNodes markNodes
    rw [if_neg hp0]
    by_cases hlt : cg C p 0 < h
    · simp only [if_pos hlt]
      exact loop2d_run C l f p (cg C p 0) _ S hf' hs.2 hne'
    · simp only [if_neg hlt]
      -- marking `p` leaves the pointers alone, so the rest of the list is still linked
      have hpe : PtrEq S (if ign S p = 0 then setIgn S p 1 else S) := by
        split
        · exact fun _ _ => ⟨rfl, rfl⟩
        · exact PtrEq.refl S
      exact loop2d_run C l f p h _ _ hf' (seg_congr (hpe.dim 1) l p 0 hs.2) hne'

/-- the fields other than the pointers after removing / reinserting `x` in the dimensions `< k` -/
structure BFrame (C : Cargo) (x k : ℕ) (S T : St) : Prop where
  area : T.area = S.area
  volume : T.volume = S.volume
  ignore : T.ignore = S.ignore
  bounds_ge : ∀ j, k ≤ j → T.bounds.getD j none = S.bounds.getD j none
  bounds_lt : ∀ j, j < k → ∀ b', T.bounds.getD j none = some b' →
    ∃ b, S.bounds.getD j none = some b ∧ b' ≤ b ∧ b' ≤ cg C x j

/-- same area and ignore; bounds of the dimensions `≥ k` unchanged (what a sequence of removals leaves alone) -/
structure SameAI (k : ℕ) (S T : St) : Prop where
  area : T.area = S.area
  ignore : T.ignore = S.ignore
  bounds : ∀ j, k ≤ j → T.bounds.getD j none = S.bounds.getD j none

theorem getD_some_lt {α : Type} (l : List (Option α)) (i : ℕ) (b : α) (h : l.getD i none = some b) : i < l.length := by
  by_contra hc
  rw [List.getD_eq_getElem?_getD, List.getElem?_eq_none (by omega)] at h
  cases h

theorem lowerBound_bframe (C : Cargo) (S : St) (x i : ℕ) :
    (lowerBound C S x i).area = S.area ∧ (lowerBound C S x i).volume = S.volume ∧
    (lowerBound C S x i).ignore = S.ignore ∧
    (∀ j, j ≠ i → (lowerBound C S x i).bounds.getD j none = S.bounds.getD j none) ∧
    (∀ b', (lowerBound C S x i).bounds.getD i none = some b' →
      ∃ b, S.bounds.getD i none = some b ∧ b' ≤ b ∧ b' ≤ cg C x i) := by
  unfold lowerBound
  cases hb : S.bounds.getD i none with
  | none =>
    have hbg : boundGt S i (cg C x i) = false := by unfold boundGt; rw [hb]
    rw [hbg, if_neg Bool.false_ne_true]
    exact ⟨rfl, rfl, rfl, fun _ _ => rfl, fun b' h => by rw [hb] at h; cases h⟩
  | some b =>
    by_cases hlt : cg C x i < b
    · have hbg : boundGt S i (cg C x i) = true := by unfold boundGt; rw [hb]; simpa using hlt
      rw [hbg, if_pos rfl]
      refine ⟨rfl, rfl, rfl, fun j hj => ?_, fun b' h => ?_⟩
      · show (S.bounds.set i _).getD j none = _
        exact List.getD_set_ne _ _ _ hj
      · have hi := getD_some_lt S.bounds i b hb
        have : (S.bounds.set i (some (cg C x i))).getD i none = some (cg C x i) := List.getD_set_self _ _ _ _ hi
        have h' : (S.bounds.set i (some (cg C x i))).getD i none = some b' := h
        rw [this] at h'
        cases h'
        exact ⟨b, rfl, le_of_lt hlt, le_refl _⟩
    · have hbg : boundGt S i (cg C x i) = false := by unfold boundGt; rw [hb]; simpa using hlt
      rw [hbg, if_neg Bool.false_ne_true]
      refine ⟨rfl, rfl, rfl, fun _ _ => rfl, fun b' h => ?_⟩
      rw [hb] at h
      cases h
      exact ⟨b, rfl, le_refl _, not_lt.mp hlt⟩

/-- `remove` and `reinsert` are the same fold: relink the pointers of dimension `i` (which leaves the other fields
alone), then lower `bounds[i]` to the coordinate of `x` -/
theorem linkFold_bframe (C : Cargo) (x : ℕ) (link : St → ℕ → St)
    (hl : ∀ S i, (link S i).area = S.area ∧ (link S i).volume = S.volume ∧ (link S i).ignore = S.ignore ∧
      (link S i).bounds = S.bounds) :
    ∀ (k : ℕ) (S : St), BFrame C x k S ((List.range k).foldl (fun S i => lowerBound C (link S i) x i) S)
  | 0, S => ⟨rfl, rfl, rfl, fun _ _ => rfl, fun j hj => by omega⟩
  | k + 1, S => by
    rw [List.range_succ, List.foldl_append]
    have ih := linkFold_bframe C x link hl k S
    generalize (List.range k).foldl (fun S i => lowerBound C (link S i) x i) S = T at ih ⊢
    obtain ⟨a1, a2, a3, a4⟩ := hl T k
    obtain ⟨l1, l2, l3, l4, l5⟩ := lowerBound_bframe C (link T k) x k
    refine ⟨(l1.trans a1).trans ih.area, (l2.trans a2).trans ih.volume, (l3.trans a3).trans ih.ignore, ?_, ?_⟩
    · intro j hj
      exact ((l4 j (by omega)).trans (by rw [a4])).trans (ih.bounds_ge j (by omega))
    · intro j hj b' hb'
      by_cases hjk : j = k
      · subst hjk
        obtain ⟨b, h1, h2, h3⟩ := l5 b' hb'
        rw [a4, ih.bounds_ge j (le_refl _)] at h1
        exact ⟨b, h1, h2, h3⟩
      · have hb'' : (lowerBound C (link T k) x k).bounds.getD j none = some b' := hb'
        rw [l4 j hjk, a4] at hb''
        exact ih.bounds_lt j (by omega) b' hb''

theorem remove_bframe (C : Cargo) (x k : ℕ) (S : St) : BFrame C x k S (remove C S x k) :=
  linkFold_bframe C x (fun S i => unlink S i x) (fun _ _ => ⟨rfl, rfl, rfl, rfl⟩) k S

theorem reinsert_bframe (C : Cargo) (x k : ℕ) (S : St) : BFrame C x k S (reinsert C S x k) :=
  linkFold_bframe C x (fun S i => relink S i x) (fun _ _ => ⟨rfl, rfl, rfl, rfl⟩) k S

theorem seg_unique (S : St) (i : ℕ) : ∀ (l₁ l₂ : List ℕ) (a : ℕ), Seg S i a l₁ 0 → Seg S i a l₂ 0 →
    (∀ x ∈ l₁, x ≠ 0) → (∀ x ∈ l₂, x ≠ 0) → l₁ = l₂
  | [], [], _, _, _, _, _ => rfl
  | [], b :: l₂, a, h1, h2, _, hn2 => by
    have e1 : nx S i a = 0 := h1.1
    have e2 : nx S i a = b := h2.1.1
    exact absurd (e2.symm.trans e1) (hn2 b (by simp))
  | b :: l₁, [], a, h1, h2, hn1, _ => by
    have e1 : nx S i a = b := h1.1.1
    have e2 : nx S i a = 0 := h2.1
    exact absurd (e1.symm.trans e2) (hn1 b (by simp))
  | b :: l₁, c :: l₂, a, h1, h2, hn1, hn2 => by
    have e1 : nx S i a = b := h1.1.1
    have e2 : nx S i a = c := h2.1.1
    have hbc : b = c := e1.symm.trans e2
    subst hbc
    rw [seg_unique S i l₁ l₂ b h1.2 h2.2 (fun x hx => hn1 x (by simp [hx])) (fun x hx => hn2 x (by simp [hx]))]

theorem dl_unique {n : ℕ} {S : St} {i : ℕ} {L₁ L₂ : List ℕ} (h1 : DL n S i L₁) (h2 : DL n S i L₂) : L₁ = L₂ :=
  seg_unique S i L₁ L₂ 0 h1.1 h2.1 (fun _ hx h0 => dl_zero_notMem h1 (h0 ▸ hx)) (fun _ hx h0 => dl_zero_notMem h2 (h0 ▸ hx))

theorem dl_mem_of_dl {n : ℕ} {S : St} {i : ℕ} {L₁ L₂ : List ℕ} (h1 : DL n S i L₁) (h2 : DL n S i L₂) (a : ℕ)
    (ha : a ∈ L₁) : a ∈ L₂ := dl_unique h1 h2 ▸ ha

/-- the lists of the dimensions `0 .. k-1` are well formed and hold the node set `A` -/
def WFlt (n : ℕ) (S : St) (k : ℕ) (A : List ℕ) : Prop := ∀ i < k, ∃ L, DL n S i L ∧ L.Perm A

theorem wflt_ptrEq {n : ℕ} {S T : St} {k : ℕ} {A : List ℕ} (h : PtrEq S T) (hw : WFlt n S k A) : WFlt n T k A :=
  fun i hi => let ⟨L, hd, hp⟩ := hw i hi; ⟨L, dl_ptrEq h hd, hp⟩

theorem wflt_mono {n : ℕ} {S : St} {k k' : ℕ} {A : List ℕ} (h : k' ≤ k) (hw : WFlt n S k A) : WFlt n S k' A :=
  fun i hi => hw i (by omega)

theorem remove_wf {dims n : ℕ} (C : Cargo) {S : St} {k : ℕ} {A : List ℕ} {x : ℕ} (hS : Shape dims n S) (hk : k ≤ dims)
    (hw : WFlt n S k A) (hx : x ∈ A) :
    WFlt n (remove C S x k) k (A.erase x) ∧ ∀ i < k, NodeFacts n S i x := by
  have hnf : ∀ i < k, NodeFacts n S i x := by
    intro i hi
    obtain ⟨L, hd, hp⟩ := hw i hi
    exact dl_nodeFacts hd (hp.mem_iff.mpr hx)
  refine ⟨?_, hnf⟩
  intro i hi
  obtain ⟨L, hd, hp⟩ := hw i hi
  have hxL : x ∈ L := hp.mem_iff.mpr hx
  obtain ⟨h1, _, _⟩ := dl_unlink hS (by omega : i < dims) hd hxL
  exact ⟨L.erase x, dl_congr (remove_lt C x k S hS hk hnf i hi) h1, hp.erase x⟩

/-- remove the nodes `rs`, in this order, from the lists `0 .. k-1` -/
def removeSeq (C : Cargo) (k : ℕ) (S : St) (rs : List ℕ) : St := rs.foldl (fun S x => remove C S x k) S

theorem removeSeq_cons (C : Cargo) (k : ℕ) (S : St) (x : ℕ) (rs : List ℕ) :
    removeSeq C k S (x :: rs) = removeSeq C k (remove C S x k) rs := rfl

theorem removeSeq_snoc (C : Cargo) (k : ℕ) (S : St) (rs : List ℕ) (y : ℕ) :
    removeSeq C k S (rs ++ [y]) = remove C (removeSeq C k S rs) y k := by
  unfold removeSeq; rw [List.foldl_append]; rfl

theorem shape_removeSeq {dims n : ℕ} (C : Cargo) (k : ℕ) : ∀ (rs : List ℕ) (S : St),
    Shape dims n S → Shape dims n (removeSeq C k S rs)
  | [], _, h => h
  | x :: rs, S, h => shape_removeSeq C k rs _ (shape_remove C x k S h)

theorem removeSeq_ge (C : Cargo) (k : ℕ) : ∀ (rs : List ℕ) (S : St) (j : ℕ), k ≤ j → DimEq j S (removeSeq C k S rs)
  | [], S, j, _ => DimEq.refl j S
  | x :: rs, S, j, h => (remove_ge C x k S j h).trans (removeSeq_ge C k rs _ j h)

theorem removeSeq_dl {dims n : ℕ} (C : Cargo) {k : ℕ} (hk : k ≤ dims) {i : ℕ} (hi : i < k) :
    ∀ (rs : List ℕ) (S : St) (A L₀ : List ℕ), Shape dims n S → WFlt n S k A → DL n S i L₀ → rs.Nodup →
      (∀ y ∈ rs, y ∈ A) → DL n (removeSeq C k S rs) i (L₀.diff rs)
  | [], S, A, L₀, _, _, hd, _, _ => by rw [List.diff_nil]; exact hd
  | x :: rs, S, A, L₀, hS, hw, hd, hnd, hsub => by
    have hnd' := List.nodup_cons.mp hnd
    have hx : x ∈ A := hsub x (by simp)
    obtain ⟨hw1, hnf⟩ := remove_wf C hS hk hw hx
    have hxL : x ∈ L₀ := by
      obtain ⟨L, hdL, hp⟩ := hw i hi
      rw [dl_unique hd hdL]
      exact hp.mem_iff.mpr hx
    obtain ⟨h1, _, _⟩ := dl_unlink hS (by omega : i < dims) hd hxL
    have hd1 : DL n (remove C S x k) i (L₀.erase x) := dl_congr (remove_lt C x k S hS hk hnf i hi) h1
    rw [removeSeq_cons, List.diff_cons]
    exact removeSeq_dl C hk hi rs _ (A.erase x) (L₀.erase x) (shape_remove C x k S hS) hw1 hd1 hnd'.2
      (fun y hy => (List.mem_erase_of_ne (fun e : y = x => hnd'.1 (e ▸ hy))).mpr (hsub y (by simp [hy])))

theorem removeSeq_wflt {dims n : ℕ} (C : Cargo) {k : ℕ} (hk : k ≤ dims) {S : St} {A : List ℕ} (hS : Shape dims n S)
    (hw : WFlt n S k A) (rs : List ℕ) (hnd : rs.Nodup) (hsub : ∀ y ∈ rs, y ∈ A) :
    WFlt n (removeSeq C k S rs) k (A.diff rs) := fun i hi =>
  let ⟨L, hd, hp⟩ := hw i hi
  ⟨L.diff rs, removeSeq_dl C hk hi rs S A L hS hw hd hnd hsub, hp.diff_right rs⟩

theorem length_split {α : Type} {L l₁ l₂ : List α} {a : α} (h : L = l₁ ++ a :: l₂) :
    l₁.length + 1 + l₂.length = L.length := by
  rw [h, List.length_append, List.length_cons]; omega

theorem length_diff_add : ∀ (rs A : List ℕ), rs.Nodup → (∀ y ∈ rs, y ∈ A) → (A.diff rs).length + rs.length = A.length
  | [], A, _, _ => by simp
  | x :: rs, A, hnd, hsub => by
    have hnd' := List.nodup_cons.mp hnd
    have hx : x ∈ A := hsub x (by simp)
    have := length_diff_add rs (A.erase x) hnd'.2
      (fun y hy => (List.mem_erase_of_ne (fun e : y = x => hnd'.1 (e ▸ hy))).mpr (hsub y (by simp [hy])))
    rw [List.length_erase_of_mem hx] at this
    have : 0 < A.length := List.length_pos_of_mem hx
    rw [List.diff_cons, List.length_cons]
    omega

/-- reinserting the node removed last gives back the pointers of the state before its removal, whatever happened
to the other fields in between -/
theorem reinsert_back {dims n : ℕ} (C : Cargo) {k : ℕ} (hk : k ≤ dims) {S₀ : St} {A : List ℕ} (hS₀ : Shape dims n S₀)
    (hw : WFlt n S₀ k A) (p : ℕ) (todo : List ℕ) (hnd : (p :: todo).Nodup) (hsub : ∀ y ∈ p :: todo, y ∈ A)
    {T : St} (hT : Shape dims n T) (hpe : PtrEq (removeSeq C k S₀ (p :: todo).reverse) T) :
    PtrEq (removeSeq C k S₀ todo.reverse) (reinsert C T p k) ∧ Shape dims n (reinsert C T p k) := by
  have hnd' := List.nodup_cons.mp hnd
  have hrs_nd : todo.reverse.Nodup := List.nodup_reverse.mpr hnd'.2
  have hrsA : ∀ y ∈ todo.reverse, y ∈ A := fun y hy => hsub y (List.mem_cons_of_mem _ (List.mem_reverse.mp hy))
  have hpA : p ∈ A.diff todo.reverse :=
    List.mem_diff_of_mem (hsub p List.mem_cons_self) (fun h => hnd'.1 (List.mem_reverse.mp h))
  obtain ⟨_, hnf⟩ := remove_wf C (shape_removeSeq C k _ S₀ hS₀) hk (removeSeq_wflt C hk hS₀ hw _ hrs_nd hrsA) hpA
  rw [List.reverse_cons, removeSeq_snoc] at hpe
  exact ⟨reinsert_remove C p k _ T (shape_removeSeq C k _ S₀ hS₀) hT hk hnf hpe, shape_reinsert C p k T hT⟩

/-- the body of the loop l.139-142 -/
def resetStep (k : ℕ) (S : St) (q : ℕ) : St := if ign S q < k then setIgn S q 0 else S

theorem foldl_resetStep_field {α : Type} (f : St → α) (hf : ∀ S a v, f (setIgn S a v) = f S) (k : ℕ) :
    ∀ (as : List ℕ) (S : St), f (as.foldl (resetStep k) S) = f S
  | [], _ => rfl
  | a :: as, S => by
    rw [List.foldl_cons, foldl_resetStep_field f hf k as]
    unfold resetStep
    split
    · exact hf S a 0
    · rfl

/-- clearing a mark needs no bound on the node id: out of range the flag reads 0 anyway -/
theorem ign_setIgn_zero (S : St) (a : ℕ) : ign (setIgn S a 0) a = 0 := by
  show (S.ignore.set a 0).getD a 0 = 0
  by_cases h : a < S.ignore.length
  · exact List.getD_set_self _ _ _ _ h
  · rw [List.set_eq_of_length_le (by omega), List.getD_eq_getElem?_getD, List.getElem?_eq_none (by omega)]
    rfl

theorem ign_resetStep (k : ℕ) (S : St) (q y : ℕ) :
    ign (resetStep k S q) y = if y = q ∧ ign S y < k then 0 else ign S y := by
  unfold resetStep
  by_cases hy : y = q
  · subst hy
    by_cases h : ign S y < k
    · rw [if_pos h, if_pos ⟨rfl, h⟩]; exact ign_setIgn_zero S y
    · rw [if_neg h, if_neg (fun c => h c.2)]
  · rw [if_neg (show ¬(y = q ∧ ign S y < k) from fun c => hy c.1)]
    split
    · exact ign_setIgn_ne S q 0 y hy
    · rfl

theorem ign_foldl_resetStep (k : ℕ) : ∀ (as : List ℕ) (S : St) (y : ℕ),
    ign (as.foldl (resetStep k) S) y = if y ∈ as ∧ ign S y < k then 0 else ign S y
  | [], S, y => by simp
  | a :: as, S, y => by
    rw [List.foldl_cons, ign_foldl_resetStep k as, ign_resetStep]
    by_cases hy : y = a
    · subst hy
      by_cases h : ign S y < k <;> simp [h]
    · simp [hy]

theorem resetLoop_run (k : ℕ) : ∀ (l : List ℕ) (q : ℕ) (S : St) (fuel : ℕ),
    Seg S k 0 l q → l.length + 1 ≤ fuel → (∀ a ∈ q :: l, a ≠ 0) →
    resetLoop k fuel q S = some ((q :: l.reverse).foldl (resetStep k) S) := by
  intro l
  induction l using List.reverseRecOn with
  | nil =>
    intro q S fuel hs hf hne
    obtain ⟨f, rfl, hf'⟩ := exists_fuel_succ hf
    unfold resetLoop
    rw [if_neg (hne q (by simp))]
    show resetLoop k f (pv (resetStep k S q) k q) (resetStep k S q) = _
    have hpv : pv (resetStep k S q) k q = 0 :=
      (foldl_resetStep_field (fun S => pv S k q) (fun _ _ _ => rfl) k [q] S).trans hs.2
    rw [hpv]
    cases f <;> rfl
  | append_singleton l b ih =>
    intro q S fuel hs hf hne
    obtain ⟨f, rfl, hf'⟩ := exists_fuel_succ hf
    have hs' := (seg_append S k l 0 b [] q).mp hs
    unfold resetLoop
    rw [if_neg (hne q (by simp))]
    show resetLoop k f (pv (resetStep k S q) k q) (resetStep k S q) = _
    have hpe : PtrEq S (resetStep k S q) :=
      ptrEq_of_fields (foldl_resetStep_field (·.next) (fun _ _ _ => rfl) k [q] S)
        (foldl_resetStep_field (·.prev) (fun _ _ _ => rfl) k [q] S)
    have hpv : pv (resetStep k S q) k q = b := (hpe k q).2.trans hs'.2.2
    rw [hpv, ih b _ f (seg_congr (hpe.dim k) l 0 b hs'.1)
      (by rwa [List.length_append, List.length_singleton] at hf')
      (fun a ha => hne a (by
        rcases List.mem_cons.mp ha with rfl | ha
        · simp
        · simp [ha]))]
    simp

theorem stop_of_cond_false (o : Option ℚ) (x y : ℚ)
    (h : ((match o with | none => true | some b => decide (b < x)) ||
      (match o with | none => true | some b => decide (b ≤ y))) = false) : ∃ b, o = some b ∧ x ≤ b ∧ y < b := by
  cases o with
  | none => simp at h
  | some b =>
    simp only [Bool.or_eq_false_iff, decide_eq_false_iff_not, not_lt, not_le] at h
    exact ⟨b, rfl, h.1, h.2⟩

/-- **the deletion loop** of the general case (pyhv l.144-148, `_hv.c` l.724-744), for any state type `σ` seen through
a projection `π` of its pointer tables; the loop is given by its equations, the deletion `del` by what it leaves alone:
which nodes are deleted (`rs`, from the end of the list of dimension `k`), and why the loop stopped -/
theorem delLoop_stop {σ : Type} (π : σ → St) (k : ℕ) (X : ℕ → ℚ) (bd : σ → Option ℚ) (cond : σ → ℕ → Bool)
    (del : σ → ℕ → σ) (loop : ℕ → ℕ → ℕ → σ → ℕ × ℕ × ℕ × σ)
    (h1 : ∀ p q S, loop 1 p q S = (p, q, 1, S))
    (h2 : ∀ len p q S, loop (len + 2) p q S =
      if cond S q then loop (len + 1) q (pv (π (del S q)) k q) (del S q) else (p, q, len + 2, S))
    (hdel : ∀ S q, DimEq k (π S) (π (del S q))) (hbd : ∀ S q, bd (del S q) = bd S)
    (hstop : ∀ S q, cond S q = false → ∃ b, bd S = some b ∧ X q ≤ b ∧ X (pv (π S) k q) < b) :
    ∀ (len : ℕ) (pre : List ℕ) (q : ℕ) (suf : List ℕ) (p : ℕ) (S : σ),
    len = pre.length + 1 → Seg (π S) k 0 (pre ++ q :: suf) 0 →
    ∃ (pre' : List ℕ) (q' : ℕ) (rs : List ℕ),
      loop len p q S = ((rs.reverse ++ [p]).headD 0, q', pre'.length + 1, rs.foldl del S) ∧
      pre ++ [q] = pre' ++ q' :: rs.reverse ∧
      ∀ d0 p0, pre' = d0 ++ [p0] → ∃ b, bd S = some b ∧ X q' ≤ b ∧ X p0 < b
  | 0, pre, q, suf, p, S, hl, _ => by omega
  | 1, pre, q, suf, p, S, hl, _ => by
    obtain rfl : pre = [] := List.length_eq_zero_iff.mp (by omega)
    exact ⟨[], q, [], h1 p q S, rfl, fun d0 p0 h => by simp at h⟩
  | len + 2, pre, q, suf, p, S, hl, hs => by
    have hpre : pre ≠ [] := by intro h; rw [h] at hl; simp at hl
    obtain ⟨pre0, q1, rfl⟩ : ∃ pre0 q1, pre = pre0 ++ [q1] :=
      ⟨pre.dropLast, pre.getLast hpre, (List.dropLast_append_getLast hpre).symm⟩
    have hpvS : pv (π S) k q = q1 := by
      rw [(seg_node (π S) k (pre0 ++ [q1]) 0 q suf 0 hs).1]; simp
    rw [h2]
    by_cases hc : cond S q = true
    · rw [if_pos hc, show pv (π (del S q)) k q = q1 from ((hdel S q q).2).trans hpvS]
      have hs1 : Seg (π (del S q)) k 0 (pre0 ++ q1 :: q :: suf) 0 := by
        simpa using seg_congr (hdel S q) _ 0 0 hs
      obtain ⟨pre', q', rs', e1, e2, e3⟩ := delLoop_stop π k X bd cond del loop h1 h2 hdel hbd hstop (len + 1) pre0 q1
        (q :: suf) q (del S q) (by simp at hl; omega) hs1
      refine ⟨pre', q', q :: rs', ?_, ?_, fun d0 p0 hd => ?_⟩
      · rw [e1, List.foldl_cons]
        congr 1
        simp only [List.reverse_cons, List.append_assoc]
        cases rs'.reverse <;> simp
      · rw [List.reverse_cons, ← List.cons_append, ← List.append_assoc, ← e2]
      · rw [← hbd S q]; exact e3 d0 p0 hd
    · rw [if_neg hc]
      refine ⟨pre0 ++ [q1], q, [], by simp [hl], by simp, fun d0 p0 hd => ?_⟩
      obtain rfl : p0 = q1 := by
        have := congrArg List.getLast? hd
        simpa using this.symm
      exact hpvS ▸ hstop S q (by simpa using hc)

theorem removeLoop_stop (C : Cargo) (k : ℕ) (len : ℕ) (pre : List ℕ) (q : ℕ) (suf : List ℕ) (p : ℕ) (S : St)
    (hl : len = pre.length + 1) (hs : Seg S k 0 (pre ++ q :: suf) 0) :
    ∃ pre' q' rs, removeLoop C k len p q S = ((rs.reverse ++ [p]).headD 0, q', pre'.length + 1, removeSeq C k S rs) ∧
      pre ++ [q] = pre' ++ q' :: rs.reverse ∧
      ∀ d0 p0, pre' = d0 ++ [p0] →
        ∃ b, S.bounds.getD k none = some b ∧ cg C q' k ≤ b ∧ cg C p0 k < b :=
  delLoop_stop id k (cg C · k) (·.bounds.getD k none)
    (fun S q => gtBound S k (cg C q k) || geBound S k (cg C (pv S k q) k)) (fun S q => remove C S q k)
    (removeLoop C k) (fun _ _ _ => rfl) (fun _ _ _ _ => rfl) (fun S q => remove_ge C q k S k le_rfl)
    (fun S q => (remove_bframe C q k S).bounds_ge k le_rfl) (fun _ _ h => stop_of_cond_false _ _ _ h) len pre q suf p S hl hs

theorem hvRecursive_len_zero (C : Cargo) (fuel : ℕ) : ∀ (k : ℕ) (S : St), hvRecursive C fuel k 0 S = some (0, tick S k)
  | 0, _ => rfl
  | 1, _ => rfl
  | _ + 2, _ => rfl

theorem hvRecursive_zero (C : Cargo) (fuel : ℕ) {len : ℕ} (h : len ≠ 0) (S : St) :
    hvRecursive C fuel 0 len S = some (-(cg C (nx (tick S 0) 0 0) 0), tick S 0) := by
  unfold hvRecursive; exact if_neg h

theorem hvRecursive_one (C : Cargo) (fuel : ℕ) {len : ℕ} (h : len ≠ 0) (S : St) :
    hvRecursive C fuel 1 len S =
      match loop2d C fuel (nx (tick S 1) 1 (nx (tick S 1) 1 0)) (nx (tick S 1) 1 0) (cg C (nx (tick S 1) 1 0) 0) 0
          (tick S 1) with
      | none => none
      | some (hvol, h, q, S) => some (hvol + h * cg C q 1, S) := by
  unfold hvRecursive; exact if_neg h

theorem hvRecursive_add_two (C : Cargo) (fuel k : ℕ) {len : ℕ} (h : len ≠ 0) (S : St) :
    hvRecursive C fuel (k + 2) len S = general (hvRecursive C fuel (k + 1)) C fuel (k + 2) len (tick S (k + 2)) := by
  rw [hvRecursive]; exact if_neg h

/-- the recursive call of level `k` terminates on every well-formed state and restores the pointers -/
def RecOK (dims n : ℕ) (rec : ℕ → St → Option (ℚ × St)) (k : ℕ) : Prop :=
  ∀ (len : ℕ) (S : St) (A : List ℕ), Shape dims n S → WFlt n S (k + 1) A → A.length = len →
    ∃ v S', rec len S = some (v, S') ∧ PtrEq S S' ∧ Shape dims n S'

theorem areaStep_ok {dims n : ℕ} {rec : ℕ → St → Option (ℚ × St)} {k : ℕ} (hrec : RecOK dims n rec k)
    (len q : ℕ) (S : St) (A : List ℕ) (hS : Shape dims n S) (hw : WFlt n S (k + 1) A) (hl : A.length = len) :
    ∃ S', areaStep rec (k + 1) len q S = some S' ∧ PtrEq S S' ∧ Shape dims n S' := by
  unfold areaStep
  split
  · exact ⟨_, rfl, fun _ _ => ⟨rfl, rfl⟩, hS⟩
  · obtain ⟨v, S', h1, h2, h3⟩ := hrec len S A hS hw hl
    rw [h1]
    dsimp only
    split
    · exact ⟨_, rfl, h2.trans (fun _ _ => ⟨rfl, rfl⟩), h3⟩
    · exact ⟨_, rfl, h2.trans (fun _ _ => ⟨rfl, rfl⟩), h3⟩

theorem headD_append_singleton (l : List ℕ) (a b : ℕ) : (l ++ [a] ++ [b]).headD 0 = (l ++ [a]).headD 0 := by
  cases l <;> rfl

theorem reinsLoop_ok {dims n : ℕ} (C : Cargo) {rec : ℕ → St → Option (ℚ × St)} {k : ℕ} (hk : k + 1 < dims)
    (hrec : RecOK dims n rec k) (S₀ : St) (A : List ℕ) (hS₀ : Shape dims n S₀) (hw : WFlt n S₀ (k + 1) A) :
    ∀ (todo : List ℕ) (q : ℕ) (hvol : ℚ) (len : ℕ) (T : St) (fuel : ℕ),
      PtrEq (removeSeq C (k + 1) S₀ todo.reverse) T → Shape dims n T → Seg S₀ (k + 1) q todo 0 →
      todo.length ≤ fuel → todo.Nodup → (∀ y ∈ todo, y ∈ A) → (∀ y ∈ todo, y ≠ 0) → len + todo.length = A.length →
      ∃ q' hv' T', reinsLoop rec C (k + 1) fuel ((todo ++ [0]).headD 0) q hvol len T = some (q', hv', T') ∧
        PtrEq S₀ T' ∧ Shape dims n T' := by
  intro todo
  induction todo with
  | nil =>
    intro q hvol len T fuel hpe hT _ _ _ _ _ _
    exact ⟨q, hvol, T, by cases fuel <;> rfl, hpe, hT⟩
  | cons p todo ih =>
    intro q hvol len T fuel hpe hT hseg hf hnd hsub hne hlen
    obtain ⟨f, rfl, hf'⟩ := exists_fuel_succ hf
    have hnd' := List.nodup_cons.mp hnd
    have hkd : k + 1 ≤ dims := hk.le
    obtain ⟨hback, hT2s⟩ := reinsert_back C hkd hS₀ hw p todo hnd hsub (T := setBound T (k + 1) (cg C p (k + 1))) hT
      (hpe.trans (fun _ _ => ⟨rfl, rfl⟩))
    have hrs_nd : todo.reverse.Nodup := List.nodup_reverse.mpr hnd'.2
    have hrsA : ∀ y ∈ todo.reverse, y ∈ A := fun y hy => hsub y (List.mem_cons_of_mem _ (List.mem_reverse.mp hy))
    have hlenU : (A.diff todo.reverse).length = len + 1 := by
      have := length_diff_add todo.reverse A hrs_nd hrsA
      rw [List.length_reverse] at this
      rw [List.length_cons] at hlen
      omega
    -- the next node in the list of dimension k+1, which the removals did not touch
    have hnext : nx (reinsert C (setBound T (k + 1) (cg C p (k + 1))) p (k + 1)) (k + 1) p = (todo ++ [0]).headD 0 := by
      rw [(hback (k + 1) p).1, (removeSeq_ge C (k + 1) todo.reverse S₀ (k + 1) (le_refl _) p).1,
        seg_nx_start S₀ (k + 1) todo p 0 hseg.2]
      cases todo <;> rfl
    have hhead : ((p :: todo) ++ [0]).headD 0 = p := rfl
    rw [hhead]
    unfold reinsLoop
    rw [if_neg (hne p List.mem_cons_self)]
    dsimp only
    obtain ⟨T4, h4, hpe4, hT4s⟩ := areaStep_ok hrec (len + 1) p
      (setVl (reinsert C (setBound T (k + 1) (cg C p (k + 1))) p (k + 1)) p (k + 1)
        (hvol + ar T q (k + 1) * (cg C p (k + 1) - cg C q (k + 1)))) (A.diff todo.reverse) hT2s
      (wflt_ptrEq (hback.trans (fun _ _ => ⟨rfl, rfl⟩)) (removeSeq_wflt C hkd hS₀ hw _ hrs_nd hrsA)) hlenU
    rw [h4]
    rw [hnext]
    exact ih p _ (len + 1) T4 f ((hback.trans (fun _ _ => ⟨rfl, rfl⟩)).trans hpe4) hT4s hseg.2 hf'
      hnd'.2 (fun z hz => hsub z (List.mem_cons_of_mem _ hz)) (fun z hz => hne z (List.mem_cons_of_mem _ hz))
      (by rw [List.length_cons] at hlen; omega)

theorem dl_length_le {n : ℕ} {S : St} {i : ℕ} {L : List ℕ} (hd : DL n S i L) : L.length ≤ n := by
  have hsub : L ⊆ ids n := fun a ha => (mem_ids n a).mpr (hd.2.2 a ha)
  have := (List.subperm_of_subset hd.2.1 hsub).length_le
  simpa [ids] using this

theorem foldl_setAr_field {α : Type} (f : St → α) (hf : ∀ S a i v, f (setAr S a i v) = f S) (C : Cargo) (q : ℕ) :
    ∀ (l : List ℕ) (S : St), f (l.foldl (fun S i => setAr S q (i + 1) (ar S q i * -(cg C q i))) S) = f S
  | [], _ => rfl
  | i :: l, S => (foldl_setAr_field f hf C q l _).trans (hf S q (i + 1) _)

/-- **the general case of `hvRecursive` terminates and restores the pointers**, given that the level below does -/
theorem general_ok {dims n : ℕ} (C : Cargo) {rec : ℕ → St → Option (ℚ × St)} {k : ℕ} (hk : k + 1 < dims)
    (hrec : RecOK dims n rec k) (fuel : ℕ) (hfuel : n + 1 ≤ fuel) (len : ℕ) (S : St) (A : List ℕ)
    (hS : Shape dims n S) (hw : WFlt n S (k + 2) A) (hl : A.length = len) (hlen : len ≠ 0) :
    ∃ v S', general rec C fuel (k + 1) len S = some (v, S') ∧ PtrEq S S' ∧ Shape dims n S' := by
  have hkd : k + 1 ≤ dims := hk.le
  obtain ⟨Lk, hdk, hpk⟩ := hw (k + 1) (by omega)
  have hLk_len : Lk.length = len := hpk.length_eq.trans hl
  have hLk_n : Lk.length ≤ n := dl_length_le hdk
  have hLk_ne : Lk ≠ [] := by intro h; rw [h] at hLk_len; simp at hLk_len; omega
  obtain ⟨pre, q0, rfl⟩ : ∃ pre q0, Lk = pre ++ [q0] := ⟨Lk.dropLast, Lk.getLast hLk_ne, (List.dropLast_append_getLast hLk_ne).symm⟩
  have hpl : pre.length + 1 = len := by rw [← hLk_len, List.length_append, List.length_singleton]
  have hsplit := (seg_append S (k + 1) pre 0 q0 [] 0).mp hdk.1
  have hq0 : pv S (k + 1) 0 = q0 := hsplit.2.2
  unfold general
  rw [hq0]
  rw [resetLoop_run (k + 1) pre q0 S fuel hsplit.1 (by rw [hLk_len] at hLk_n; omega)
    (fun a ha h0 => dl_zero_notMem hdk (h0 ▸ (by simpa [or_comm] using ha : a ∈ pre ++ [q0])))]
  have hnx1 := foldl_resetStep_field (·.next) (fun _ _ _ => rfl) (k + 1) (q0 :: pre.reverse) S
  have hpv1 := foldl_resetStep_field (·.prev) (fun _ _ _ => rfl) (k + 1) (q0 :: pre.reverse) S
  generalize (q0 :: pre.reverse).foldl (resetStep (k + 1)) S = S1 at hnx1 hpv1 ⊢
  have hpe1 : PtrEq S S1 := ptrEq_of_fields hnx1 hpv1
  have hS1 : Shape dims n S1 := shape_ptr_fields hS hnx1 hpv1
  dsimp only
  rw [show pv S1 (k + 1) 0 = q0 from (hpe1 (k + 1) 0).2.trans hq0]
  have hdk1 : DL n S1 (k + 1) (pre ++ [q0]) := dl_ptrEq hpe1 hdk
  have hw1 : WFlt n S1 (k + 1) A := wflt_ptrEq hpe1 (wflt_mono (by omega) hw)
  obtain ⟨pre', q', rs, hr2, hnodes, _⟩ := removeLoop_stop C (k + 1) len pre q0 [] 0 S1 hpl.symm hdk1.1
  rw [hr2]
  dsimp only
  have hnd : (pre' ++ q' :: rs.reverse).Nodup := hnodes ▸ hdk1.2.1
  have hrs_nd : rs.reverse.Nodup := (List.nodup_cons.mp (List.nodup_append.mp hnd).2.1).2
  have hrs_sub : ∀ y ∈ rs.reverse, y ∈ pre ++ [q0] := fun y hy => by
    rw [hnodes]; exact List.mem_append_right _ (List.mem_cons_of_mem _ hy)
  have hrs_A : ∀ y ∈ rs.reverse, y ∈ A := fun y hy => hpk.mem_iff.mp (hrs_sub y hy)
  have hcount : pre'.length + 1 + rs.reverse.length = A.length :=
    (length_split hnodes).trans (hLk_len.trans hl.symm)
  have hS2 : Shape dims n (removeSeq C (k + 1) S1 rs) := shape_removeSeq C (k + 1) rs S1 hS1
  -- loop 3, from any state `T` with the pointers after the removals
  have loop3 : ∀ (hv : ℚ) (T : St), PtrEq (removeSeq C (k + 1) S1 rs) T → Shape dims n T →
      ∃ v S', (match reinsLoop rec C (k + 1) fuel ((rs.reverse ++ [0]).headD 0) q' hv (pre'.length + 1)
          (setVl T q' (k + 1) hv) with
        | none => none
        | some (q, hvol, S) => some (hvol - ar S q (k + 1) * cg C q (k + 1), S)) = some (v, S') ∧
        PtrEq S S' ∧ Shape dims n S' := by
    intro hv T hm2 hm3
    obtain ⟨q'', hv', T', hr3, hpe3, hT'⟩ := reinsLoop_ok C hk hrec S1 A hS1 hw1 rs.reverse q' hv
      (pre'.length + 1) (setVl T q' (k + 1) hv) fuel
      (by rw [List.reverse_reverse]; exact hm2.trans (fun _ _ => ⟨rfl, rfl⟩))
      hm3 ((seg_append S1 (k + 1) pre' 0 q' rs.reverse 0).mp (hnodes ▸ hdk1.1)).2
      (by rw [hLk_len] at hLk_n; omega) hrs_nd hrs_A (fun y hy h0 => dl_zero_notMem hdk1 (h0 ▸ hrs_sub y hy)) hcount
    rw [hr3]
    exact ⟨_, T', rfl, hpe1.trans hpe3, hT'⟩
  by_cases hc : 1 < pre'.length + 1
  · rw [if_pos hc]
    have hw2 := removeSeq_wflt C hkd hS1 hw1 rs (List.nodup_reverse.mp hrs_nd)
      (fun y hy => hrs_A y (List.mem_reverse.mpr hy))
    have hlen2 := length_diff_add rs A (List.nodup_reverse.mp hrs_nd) (fun y hy => hrs_A y (List.mem_reverse.mpr hy))
    obtain ⟨T, h1, h2, h3⟩ := areaStep_ok hrec (pre'.length + 1) q' _ (A.diff rs) hS2 hw2
      (by rw [List.length_reverse] at hcount; omega)
    rw [h1]
    exact loop3 _ T h2 h3
  · rw [if_neg hc]
    have h2 := foldl_setAr_field (·.next) (fun _ _ _ _ => rfl) C q' (List.range (k + 1))
      (setAr (removeSeq C (k + 1) S1 rs) q' 0 1)
    have h3 := foldl_setAr_field (·.prev) (fun _ _ _ _ => rfl) C q' (List.range (k + 1))
      (setAr (removeSeq C (k + 1) S1 rs) q' 0 1)
    exact loop3 0 _ (ptrEq_of_fields h2 h3) (shape_ptr_fields hS2 h2 h3)

/-- **`hvRecursive` terminates (never runs out of fuel `≥ n + 1`) at every level, on every well-formed state,
and hands the lists back exactly as it found them.** -/
theorem hvRecursive_ok {dims n : ℕ} (C : Cargo) (fuel : ℕ) (hfuel : n + 1 ≤ fuel) :
    ∀ (k : ℕ), k < dims → RecOK dims n (hvRecursive C fuel k) k
  | 0, _ => by
    intro len S A hS _ _
    rcases eq_or_ne len 0 with rfl | hlen
    · exact ⟨_, _, hvRecursive_len_zero C fuel 0 S, fun _ _ => ⟨rfl, rfl⟩, hS⟩
    · exact ⟨_, _, hvRecursive_zero C fuel hlen S, fun _ _ => ⟨rfl, rfl⟩, hS⟩
  | 1, _ => by
    intro len S A hS hw hl
    rcases eq_or_ne len 0 with rfl | hlen
    · exact ⟨_, _, hvRecursive_len_zero C fuel 1 S, fun _ _ => ⟨rfl, rfl⟩, hS⟩
    · rw [hvRecursive_one C fuel hlen S]
      obtain ⟨L, hd, hp⟩ := hw 1 (by omega)
      have hd' : DL n (tick S 1) 1 L := dl_ptrEq (S := S) (fun _ _ => ⟨rfl, rfl⟩) hd
      have hLn := dl_length_le hd
      cases L with
      | nil =>
        have := hp.length_eq
        simp at this
        omega
      | cons a l =>
        have hnx : nx (tick S 1) 1 0 = a := hd'.1.1.1
        rw [hnx]
        rw [loop2d_run C l fuel a (cg C a 0) 0 (tick S 1) (by simp at hLn; omega) hd'.1.2
          (fun p hp h0 => dl_zero_notMem hd (h0 ▸ List.mem_cons_of_mem _ hp))]
        exact ⟨_, _, rfl, (show PtrEq S (tick S 1) from fun _ _ => ⟨rfl, rfl⟩).trans (markNodes_ptrEq C l _ _),
          shape_ptr_fields hS (markNodes_field (·.next) (fun _ _ _ => rfl) C l _ (tick S 1))
            (markNodes_field (·.prev) (fun _ _ _ => rfl) C l _ (tick S 1))⟩
  | k + 2, hk => by
    intro len S A hS hw hl
    rcases eq_or_ne len 0 with rfl | hlen
    · exact ⟨_, _, hvRecursive_len_zero C fuel (k + 2) S, fun _ _ => ⟨rfl, rfl⟩, hS⟩
    · rw [hvRecursive_add_two C fuel k hlen S]
      have hrec : RecOK dims n (hvRecursive C fuel (k + 1)) (k + 1) := hvRecursive_ok C fuel hfuel (k + 1) (by omega)
      obtain ⟨v, S', h1, h2, h3⟩ := general_ok C (k := k + 1) (by omega) hrec fuel hfuel len (tick S (k + 2)) A hS
        (wflt_ptrEq (S := S) (fun _ _ => ⟨rfl, rfl⟩) hw) hl hlen
      exact ⟨v, S', h1, (show PtrEq S (tick S (k + 2)) from fun _ _ => ⟨rfl, rfl⟩).trans h2, h3⟩

theorem preProcess_wf (C : Cargo) (dims n : ℕ) : WFlt n (preProcess C dims n) dims (ids n) := by
  intro i hi
  obtain ⟨L, hL⟩ := cum_exists C (List.range dims) (ids n) i (List.mem_range.mpr hi)
  exact ⟨L, (preProcess_spec C dims n).2 i L hL, cum_perm C _ _ i L hL⟩

/-- **Termination**: the transcribed algorithm never runs out of fuel, in any dimension, on any input;
moreover it returns the multi-list with all pointers as `preProcess` built them. -/
theorem computeSt_terminates (front : List (List ℚ)) (ref : List ℚ) :
    ∃ v S', computeSt front ref = some (v, S') ∧
      PtrEq (preProcess ([] :: translate front ref) ref.length front.length) S' := by
  unfold computeSt
  set C : Cargo := [] :: translate front ref
  set n := front.length
  by_cases hd : ref.length = 0
  · rw [hd]
    simp only [Nat.zero_sub]
    by_cases hlen : n = 0
    · rw [hlen]; exact ⟨_, _, hvRecursive_len_zero C _ 0 _, fun _ _ => ⟨rfl, rfl⟩⟩
    · exact ⟨_, _, hvRecursive_zero C (n + 1) hlen _, fun _ _ => ⟨rfl, rfl⟩⟩
  · have hk : ref.length - 1 < ref.length := by omega
    have hw := preProcess_wf C ref.length n
    have hw' : WFlt n (preProcess C ref.length n) (ref.length - 1 + 1) (ids n) := by
      rw [show ref.length - 1 + 1 = ref.length by omega]; exact hw
    obtain ⟨v, S', h1, h2, _⟩ := hvRecursive_ok (dims := ref.length) (n := n) C (n + 1) (le_refl _) (ref.length - 1) hk n
      (preProcess C ref.length n) (ids n) (preProcess_spec C ref.length n).1 hw' (by simp [ids])
    exact ⟨v, S', h1, h2⟩

end HvSweep
