/-
C07 — the normalisation of `selNSGA3` over ℝ: ideal / worst point (in one call and over a sequence of
calls of `selNSGA3WithMemory`), `find_intercepts` (with `numpy.linalg.solve` as a parameter) and the
denominators of line 627.
-/
import DeapModel.Lemmas.C07Assoc

namespace C07L
open Nsga3

theorem colMin_bridge (rows : List (List ℝ)) (mem : List ℝ) :
    @Nsga3.colMin ℝ RealLike.toLT RealLike.instDecidableLT rows mem = @Nsga3.colMin ℝ _ _ rows mem := by
  unfold Nsga3.colMin; congr

theorem colMax_bridge (rows : List (List ℝ)) (mem : List ℝ) :
    @Nsga3.colMax ℝ RealLike.toLT RealLike.instDecidableLT rows mem = @Nsga3.colMax ℝ _ _ rows mem := by
  unfold Nsga3.colMax; congr

/-- what `idealPoint` / `worstPoint` do: with a remembered point `m`, the extremum of `m` and the
rows; without, the extremum of the rows of a non-empty rectangular matrix -/
def StepSpec (R : ℝ → ℝ → Prop) (stepf : List (List ℝ) → Option (List ℝ) → List ℝ) : Prop :=
  (∀ fits m, (∀ r ∈ fits, r.length = m.length) → Ext R m.length (fits ++ [m]) (stepf fits (some m))) ∧
  (∀ r0 rs, (∀ r ∈ rs, r.length = r0.length) → Ext R r0.length (r0 :: rs) (stepf (r0 :: rs) none))

theorem stepSpec_of_sel {f : ℝ → ℝ → ℝ} {R : ℝ → ℝ → Prop} (S : Sel f R)
    (stepf : List (List ℝ) → Option (List ℝ) → List ℝ)
    (h1 : ∀ fits m, stepf fits (some m) = colF f fits m)
    (h2 : ∀ r0 rs, stepf (r0 :: rs) none = colF f rs r0) : StepSpec R stepf := by
  refine ⟨fun fits m hrect => ?_, fun r0 rs hrect => ?_⟩
  · rw [h1]; exact colF_ext S fits m hrect
  · rw [h2]
    exact (colF_ext S rs r0 hrect).of_mem_iff fun r => by
      rw [List.mem_cons, List.mem_append, List.mem_singleton, or_comm]

theorem stepSpec_ideal : StepSpec (fun a b => a ≤ b) idealPoint :=
  stepSpec_of_sel selMin _ colMin_bridge (fun r0 rs => colMin_bridge rs r0)

theorem stepSpec_worst : StepSpec (fun a b => b ≤ a) worstPoint :=
  stepSpec_of_sel selMax _ colMax_bridge (fun r0 rs => colMax_bridge rs r0)

example : ∀ r ∈ [[(2 : ℝ), 5], [3, 1]], r.length = [(4 : ℝ), 0].length := by decide

/-- the rows among which the extreme points are searched (population + remembered extremes) -/
def extRows (fits : List (List ℝ)) (ext : Option (List (List ℝ))) : List (List ℝ) :=
  match ext with
  | some e => fits ++ e
  | none => fits

theorem acceptIntercepts_spec (A : List (List ℝ)) (x best worst : List ℝ)
    (h : acceptIntercepts A x best worst = true) :
    (∀ row ∈ A, |dot row x - 1| ≤ 1 / 100000000 + 1 / 100000 * |(1 : ℝ)|) ∧
    (∀ v ∈ x, (1 : ℝ) / 1000000 < 1 / v) ∧
    (∀ p ∈ List.zip (List.zipWith (· + ·) (x.map (fun v => (1 : ℝ) / v)) best) worst, p.1 ≤ p.2) := by
  unfold acceptIntercepts allcloseOne at h
  simp only [Bool.and_eq_true, Bool.not_eq_true', List.all_eq_true, List.any_eq_false,
    decide_eq_true_eq, ← List.map_uncurry_zip_eq_zipWith (l := List.zipWith _ _ _), List.mem_map,
    forall_exists_index, and_imp, forall_apply_eq_imp_iff₂] at h
  obtain ⟨⟨h1, h2⟩, h3⟩ := h
  refine ⟨fun row hrow => ?_, fun v hv => ?_, fun p hp => ?_⟩
  · simpa [real_bridge] using h1 row hrow
  · simpa [real_bridge] using h2 v hv
  · have := h3 p (by simpa [real_bridge] using hp)
    simpa [Function.uncurry] using this

theorem eps_pos : (0 : ℝ) < (eps : ℝ) := by
  unfold eps
  rw [RealLike.real_ofRatio]
  positivity

theorem eps_lt_one : (eps : ℝ) < 1 := by
  unfold eps; rw [RealLike.real_ofRatio]; norm_num

/-- fallback answers (`front_worst`, `current_worst`) are componentwise ≥ the ideal point, so every
denominator is at least `eps`: no division by zero, no sign flip. -/
theorem denominator_pos_of_ge (intercepts best : List ℝ)
    (hge : ∀ p ∈ List.zip intercepts best, p.2 ≤ p.1) :
    ∀ d ∈ List.zipWith (fun i b => i - b + (eps : ℝ)) intercepts best, (eps : ℝ) ≤ d ∧ 0 < d := by
  intro d hd
  rw [← List.map_uncurry_zip_eq_zipWith] at hd
  obtain ⟨p, hp, rfl⟩ := List.mem_map.1 hd
  have := hge p hp
  have he := eps_pos
  simp only [Function.uncurry]
  constructor <;> linarith

/-- OLD formula (before fix F21, accepted hyperplane answer returned as `1/x` relative to the ideal
point): the denominators are positive only when the ideal point is componentwise ≤ 0. -/
theorem denominator_pos_of_accept (A : List (List ℝ)) (x best worst : List ℝ)
    (h : acceptIntercepts A x best worst = true) (hb : ∀ b ∈ best, b ≤ 0) :
    ∀ d ∈ List.zipWith (fun i b => i - b + (eps : ℝ)) (x.map (fun v => (1 : ℝ) / v)) best, 0 < d := by
  intro d hd
  rw [← List.map_uncurry_zip_eq_zipWith] at hd
  obtain ⟨p, hp, rfl⟩ := List.mem_map.1 hd
  obtain ⟨v, hv, hv'⟩ := List.mem_map.1 (List.of_mem_zip hp).1
  have := (acceptIntercepts_spec A x best worst h).2.1 v hv
  have hb' := hb p.2 (List.of_mem_zip hp).2
  have he := eps_pos
  simp only [Function.uncurry]
  rw [← hv']
  have : (0 : ℝ) < 1 / v := lt_trans (by norm_num) this
  linarith

theorem zip_le_through (r0 lo hi : List ℝ) (h1 : lo.length = r0.length) (h2 : hi.length = r0.length)
    (hlo : ∀ j (hj : j < r0.length) (h : j < lo.length), lo[j] ≤ r0[j])
    (hhi : ∀ j (hj : j < r0.length) (h : j < hi.length), r0[j] ≤ hi[j]) :
    ∀ p ∈ List.zip hi lo, p.2 ≤ p.1 := by
  intro p hp
  obtain ⟨i, hi', rfl⟩ := List.getElem_of_mem hp
  simp only [List.length_zip] at hi'
  simp only [List.getElem_zip]
  exact le_trans (hlo i (by omega) (by omega)) (hhi i (by omega) (by omega))

theorem accept_example : acceptIntercepts [[(3 : ℝ), 0], [0, 3]] [1 / 3, 1 / 3] [5, 5] [8, 8] = true := by
  unfold acceptIntercepts allcloseOne dot RealLike.sum
  simp only [List.map, List.zipWith, List.foldl, List.all_cons, List.all_nil, List.any_cons, List.any_nil,
    RealLike.real_ofNat, RealLike.real_ofRatio, RealLike.real_abs, RealLike.real_add, RealLike.real_mul,
    RealLike.real_sub, RealLike.real_div, RealLike.real_lt, RealLike.real_le, Bool.and_true, Bool.or_false,
    Bool.and_eq_true, decide_eq_true_eq, Bool.not_eq_true', Bool.or_eq_false_iff, decide_eq_false_iff_not, id]
  norm_num

/-- the denominators of the old formula for the accepted answer `(1/3, 1/3)` at ideal point (5,5):
both are `3 - 5 + eps < 0` -/
theorem old_denominators_neg :
    ∀ d ∈ List.zipWith (fun i b => i - b + (eps : ℝ)) ([1 / 3, 1 / 3].map (fun v => (1 : ℝ) / v)) [5, 5],
      d < 0 := by
  have he := eps_lt_one
  intro d hd
  simp only [List.map, List.zipWith, List.mem_cons, List.not_mem_nil, or_false] at hd
  rcases hd with h | h <;> (rw [h]; norm_num; linarith)

/-- OLD formula (before fix F21): the unconditional statement "the normalisation never divides by a
non-positive number" was FALSE: `find_intercepts` returned the hyperplane intercepts *relative to
the ideal point* (it tests `intercepts + best_point > current_worst`), but line 627 subtracts the
ideal point from them again.  Ideal point (5,5), extreme points (8,5), (5,8), worst point (8,8):
the solve answer (1/3, 1/3) passes every guard, the intercepts are (3,3), and both denominators
are `3 - 5 + eps < 0` (every normalised coordinate changes sign). -/
theorem denominator_can_be_negative :
    ∃ (A : List (List ℝ)) (x best worst : List ℝ), acceptIntercepts A x best worst = true ∧
      ∀ d ∈ List.zipWith (fun i b => i - b + (eps : ℝ)) (x.map (fun v => (1 : ℝ) / v)) best, d < 0 :=
  ⟨[[3, 0], [0, 3]], [1 / 3, 1 / 3], [5, 5], [8, 8], accept_example, old_denominators_neg⟩

/-- the fixed code (F21): accepted intercepts are returned as `1/x + ideal` -/
theorem denominator_pos_fixed_aux : ∀ (inv best : List ℝ), (∀ v ∈ inv, 0 < v) →
    ∀ d ∈ List.zipWith (fun i b => i - b + (eps : ℝ)) (List.zipWith (· + ·) inv best) best,
      (eps : ℝ) < d := by
  intro inv
  induction inv with
  | nil => intro best _ d hd; simp at hd
  | cons v vs ih =>
    intro best hpos d hd
    cases best with
    | nil => simp at hd
    | cons b bs =>
      simp only [List.zipWith_cons_cons, List.mem_cons] at hd
      rcases hd with h | h
      · have := hpos v (by simp); rw [h]; linarith
      · exact ih bs (fun v' hv' => hpos v' (by simp [hv'])) d h

theorem Ext.step {R : ℝ → ℝ → Prop} (htr : ∀ a b c, R a b → R b c → R a c) {M : Nat}
    {seen fits : List (List ℝ)} {m p : List ℝ} (hm : Ext R M seen m) (hp : Ext R M (fits ++ [m]) p) :
    Ext R M (seen ++ fits) p := by
  refine ⟨hp.1, fun j hb => ?_⟩
  have hjm : j < m.length := by rw [hm.1, ← hp.1]; exact hb
  obtain ⟨a1, a2, a3⟩ := hp.split j hjm hb
  obtain ⟨b1, b2⟩ := hm.2 j hjm
  constructor
  · intro r hr hrl
    rcases List.mem_append.1 hr with h | h
    · exact htr _ _ _ a1 (b1 r h hrl)
    · exact a2 r h hrl
  · rcases a3 with h | ⟨r, hr, hrl, h⟩
    · obtain ⟨r, hr, hrl, h'⟩ := b2
      exact ⟨r, List.mem_append_left _ hr, hrl, h.trans h'⟩
    · exact ⟨r, List.mem_append_right _ hr, hrl, h⟩

/-- the fold `memAfter` performs on one of the two remembered points -/
def pointAfter (stepf : List (List ℝ) → Option (List ℝ) → List ℝ) :
    Option (List ℝ) → List (List (List ℝ)) → Option (List ℝ)
  | o, [] => o
  | o, fits :: rest => pointAfter stepf (some (stepf fits o)) rest

theorem memAfter_eq (solve : List (List ℝ) → List ℝ → Option (List ℝ)) (st : Mem ℝ)
    (calls : List (List (List ℝ))) :
    (memAfter solve st calls).best = pointAfter idealPoint st.best calls ∧
    (memAfter solve st calls).worst = pointAfter worstPoint st.worst calls := by
  induction calls generalizing st with
  | nil => exact ⟨rfl, rfl⟩
  | cons fits rest ih =>
    exact ih ⟨some (idealPoint fits st.best), some (worstPoint fits st.worst),
      some (findExtremePoints fits (idealPoint fits st.best) st.extreme)⟩

theorem pointAfter_some {R : ℝ → ℝ → Prop} (htr : ∀ a b c, R a b → R b c → R a c)
    (stepf : List (List ℝ) → Option (List ℝ) → List ℝ) (hs : StepSpec R stepf) (M : Nat)
    (rest : List (List (List ℝ))) (seen : List (List ℝ)) (b0 : List ℝ) (hinv : Ext R M seen b0)
    (hrect : ∀ fits ∈ rest, ∀ r ∈ fits, r.length = M) :
    ∃ b, pointAfter stepf (some b0) rest = some b ∧ Ext R M (seen ++ rest.flatten) b := by
  induction rest generalizing seen b0 with
  | nil => exact ⟨b0, rfl, by rw [List.flatten_nil, List.append_nil]; exact hinv⟩
  | cons fits rest ih =>
    have hp := hs.1 fits b0 fun r hr => by rw [hinv.1]; exact hrect fits List.mem_cons_self r hr
    rw [hinv.1] at hp
    obtain ⟨b, hb, hE⟩ := ih (seen ++ fits) _ (hinv.step htr hp)
      (fun f hf => hrect f (List.mem_cons_of_mem _ hf))
    exact ⟨b, hb, by rw [List.flatten_cons, ← List.append_assoc]; exact hE⟩

theorem pointAfter_none {R : ℝ → ℝ → Prop} (htr : ∀ a b c, R a b → R b c → R a c)
    (stepf : List (List ℝ) → Option (List ℝ) → List ℝ) (hs : StepSpec R stepf) (M : Nat)
    (calls : List (List (List ℝ))) (hne : calls ≠ [])
    (hrect : ∀ fits ∈ calls, fits ≠ [] ∧ ∀ r ∈ fits, r.length = M) :
    ∃ b, pointAfter stepf none calls = some b ∧ b.length = M ∧
      ∀ j (_ : j < M) (hb : j < b.length),
        (∀ fits ∈ calls, ∀ r ∈ fits, ∀ hr : j < r.length, R b[j] r[j]) ∧
        (∃ fits ∈ calls, ∃ r ∈ fits, ∃ hr : j < r.length, b[j] = r[j]) := by
  obtain ⟨b, hb, hl, hE⟩ : ∃ b, pointAfter stepf none calls = some b ∧ Ext R M calls.flatten b := by
    cases calls with
    | nil => exact absurd rfl hne
    | cons fits rest =>
      obtain ⟨hfne, hfrect⟩ := hrect fits List.mem_cons_self
      cases fits with
      | nil => exact absurd rfl hfne
      | cons r0 rs =>
        have h0 : r0.length = M := hfrect r0 List.mem_cons_self
        have hinv := hs.2 r0 rs fun r hr => by rw [h0]; exact hfrect r (List.mem_cons_of_mem _ hr)
        rw [h0] at hinv
        exact pointAfter_some htr stepf hs M rest (r0 :: rs) _ hinv
          (fun f hf => (hrect f (List.mem_cons_of_mem _ hf)).2)
  refine ⟨b, hb, hl, fun j hj hbj => ?_⟩
  obtain ⟨h1, r, hr, hrl, h2⟩ := hE j hbj
  obtain ⟨fits, hf, hr'⟩ := List.mem_flatten.1 hr
  exact ⟨fun fits hf r hr hrl => h1 r (List.mem_flatten.2 ⟨fits, hf, hr⟩) hrl, fits, hf, r, hr', hrl, h2⟩

example : ([[[(1 : ℝ), 2], [3, 0]], [[0, 5]]] : List (List (List ℝ))) ≠ [] ∧
    ∀ fits ∈ ([[[(1 : ℝ), 2], [3, 0]], [[0, 5]]] : List (List (List ℝ))),
      fits ≠ [] ∧ ∀ r ∈ fits, r.length = 2 := by decide

example : ([[[(1 : ℝ), 2, 7]], [[3, 0, 4]], [[0, 5, 9]]] : List (List (List ℝ))) ≠ [] ∧
    ∀ fits ∈ ([[[(1 : ℝ), 2, 7]], [[3, 0, 4]], [[0, 5, 9]]] : List (List (List ℝ))),
      fits ≠ [] ∧ ∀ r ∈ fits, r.length = 3 := by decide

end C07L
