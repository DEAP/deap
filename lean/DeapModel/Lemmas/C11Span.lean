/-
Helper lemmas for C11: uniqueness of parsing, completeness count, spans, height, guard, leaf depths (`leafDepths_le`,
`exists_deepest`), the subtree at a position (`subAt_decomp`, `subAt_wf`, `subAt_exists`).
-/
import DeapModel.Lemmas.C11Basic

namespace GpTree

mutual
theorem flatten_inj : ∀ (t t' : Tree) (l l' : List Prim), wf t = true → wf t' = true →
    flatten t ++ l = flatten t' ++ l' → t = t' ∧ l = l'
  | .node p as, .node p' as', l, l', h, h', e => by
    simp [flatten] at e
    obtain ⟨rfl, e⟩ := e
    simp [wf] at h h'
    obtain ⟨rfl, rfl⟩ := flattenF_inj as as' l l' h.2 h'.2 (by rw [h.1, h'.1]) e
    exact ⟨rfl, rfl⟩
theorem flattenF_inj : ∀ (ts ts' : List Tree) (l l' : List Prim), wfF ts = true → wfF ts' = true →
    ts.length = ts'.length → flattenF ts ++ l = flattenF ts' ++ l' → ts = ts' ∧ l = l'
  | [], [], l, l', _, _, _, e => by simpa [flattenF] using e
  | t :: ts, t' :: ts', l, l', h, h', hl, e => by
    simp [wfF] at h h'
    simp [flattenF] at e
    obtain ⟨rfl, e2⟩ := flatten_inj t t' _ _ h.1 h'.1 e
    obtain ⟨rfl, rfl⟩ := flattenF_inj ts ts' l l' h.2 h'.2 (by simpa using hl) e2
    exact ⟨rfl, rfl⟩
  | [], _ :: _, _, _, _, _, hl, _ => by simp at hl
  | _ :: _, [], _, _, _, _, hl, _ => by simp at hl
end

def subTrue : Nat → Nat → Bool := fun _ _ => true

theorem typed_true_eq_closes : ∀ (l : List Prim) (ss : List Nat), typed subTrue ss l = closes ss.length l
  | [], ss => by cases ss <;> simp [typed, closes]
  | p :: l, [] => by simp [typed, closes]
  | p :: l, s :: ss => by
    simp [typed, closes, subTrue]
    rw [typed_true_eq_closes l (p.args ++ ss)]
    simp [Prim.arity]; congr 1; omega

mutual
theorem wt_true_eq_wf : ∀ (σ : Nat) (t : Tree), wt subTrue σ t = wf t
  | σ, .node p as => by
    simp [wt, wf, subTrue]
    rw [wtF_true_eq p.args as]; simp [Prim.arity, Bool.and_comm]
    by_cases h : as.length = p.args.length <;> simp [h]
theorem wtF_true_eq : ∀ (ss : List Nat) (ts : List Tree),
    wtF subTrue ss ts = (decide (ts.length = ss.length) && wfF ts)
  | [], [] => by simp [wtF, wfF]
  | s :: ss, t :: ts => by
    simp [wtF, wfF]
    rw [wt_true_eq_wf s t, wtF_true_eq ss ts]
    by_cases h : ts.length = ss.length <;> simp [h]
  | [], _ :: _ => by simp [wtF]
  | _ :: _, [] => by simp [wtF]
end

theorem complete_iff_tree {l : List Prim} : complete l = true ↔ ∃ t, wf t = true ∧ flatten t = l := by
  have : complete l = typed subTrue [0] l := by simp [complete, typed_true_eq_closes]
  rw [this, typed_iff_tree]
  simp only [wt_true_eq_wf]

/-- a prefix list is the prefix form of at most one well-formed tree, so existence is unique existence -/
theorem exists_tree_iff_unique {P : Tree → Prop} (hP : ∀ t, P t → wf t = true) (l : List Prim) :
    (∃ t, P t ∧ flatten t = l) ↔ ∃ t, (P t ∧ flatten t = l) ∧ ∀ t', P t' ∧ flatten t' = l → t' = t := by
  constructor
  · rintro ⟨t, hw, rfl⟩
    exact ⟨t, ⟨hw, rfl⟩, fun t' ⟨hw', e⟩ => (flatten_inj t' t [] [] (hP _ hw') (hP _ hw) (by simpa using e)).1⟩
  · rintro ⟨t, h, _⟩; exact ⟨t, h⟩

def aritySum : List Prim → Int
  | [] => 0
  | p :: l => ((p.arity : Int) - 1) + aritySum l

theorem aritySum_append (a b : List Prim) : aritySum (a ++ b) = aritySum a + aritySum b := by
  induction a with
  | nil => simp [aritySum]
  | cons p l ih => simp [aritySum, ih]; omega

theorem closes_iff_sums : ∀ (l : List Prim) (c : Nat),
    closes c l = true ↔ ((∀ k, k < l.length → 0 < (c : Int) + aritySum (l.take k)) ∧ (c : Int) + aritySum l = 0)
  | [], c => by simp [closes, aritySum]
  | p :: l, 0 => by
    simp only [closes, Bool.false_eq_true, false_iff, not_and]
    intro h
    exact absurd (h 0 (Nat.succ_pos _)) (by simp [aritySum])
  | p :: l, c + 1 => by
    -- the count before position `k + 1` of `p :: l` from `c + 1` is the count before `k` of `l` from `c + arity p`
    have e : ∀ x : Int, ((c + 1 : Nat) : Int) + (((p.arity : Int) - 1) + x) = ((c + p.arity : Nat) : Int) + x := by
      omega
    have h0 : (0 : Int) < ((c + 1 : Nat) : Int) := by omega
    simp only [closes, closes_iff_sums l (c + p.arity), List.length_cons, Nat.forall_lt_succ_left, List.take_succ_cons,
      List.take_zero, aritySum, e, Int.add_zero, h0, true_and]

mutual
theorem aritySum_flatten : ∀ t : Tree, wf t = true → aritySum (flatten t) = -1
  | .node p as, h => by
    simp [wf] at h
    simp [flatten, aritySum, aritySum_flattenF as h.2, h.1]; omega
theorem aritySum_flattenF : ∀ ts : List Tree, wfF ts = true → aritySum (flattenF ts) = -(ts.length : Int)
  | [], _ => by simp [flattenF, aritySum]
  | t :: ts, h => by
    simp [wfF] at h
    simp [flattenF, aritySum_append, aritySum_flatten t h.1, aritySum_flattenF ts h.2]; omega
end

theorem foldl_guard (vs : List Prim) (a : Int) :
    vs.foldl (fun tot n => tot + ((n.arity : Int) - 1)) a = a + aritySum vs := by
  induction vs generalizing a with
  | nil => simp [aritySum]
  | cons v vs ih => simp [ih, aritySum]; omega

theorem guardTotal_flatten {t : Tree} (h : wf t = true) : guardTotal (flatten t) = some 0 := by
  cases t with
  | node p as =>
    simp [wf] at h
    simp [flatten, guardTotal, foldl_guard, aritySum_flattenF as h.2, h.1]; omega

theorem guardTotal_of_typed {sub} {σ : Nat} {v : List Prim} (h : typed sub [σ] v = true) :
    guardTotal v = some 0 := by
  obtain ⟨t, hw, rfl⟩ := typed_iff_tree.1 h
  exact guardTotal_flatten (wf_of_wt hw)

mutual
theorem walk_flatten : ∀ (t : Tree) (l : List Prim) (c e : Nat), wf t = true →
    walk (flatten t ++ l) (c + 1) e = walk l c (e + t.size)
  | .node p as, l, c, e, h => by
    simp [wf] at h
    simp [flatten, walk, Tree.size]
    have := walk_flattenF as l c (e + 1) h.2
    rw [h.1] at this
    rw [Nat.add_comm c p.arity, this]; congr 1; omega
theorem walk_flattenF : ∀ (ts : List Tree) (l : List Prim) (c e : Nat), wfF ts = true →
    walk (flattenF ts ++ l) (ts.length + c) e = walk l c (e + sizeF ts)
  | [], l, c, e, _ => by simp [flattenF, sizeF]
  | t :: ts, l, c, e, h => by
    simp [wfF] at h
    simp [flattenF, sizeF]
    have h1 := walk_flatten t (flattenF ts ++ l) (ts.length + c) e h.1
    have h2 := walk_flattenF ts l c (e + t.size) h.2
    rw [show ts.length + 1 + c = ts.length + c + 1 by omega, h1, h2]; congr 1; omega
end

theorem searchSubtree_at (pre post : List Prim) (s : Tree) (h : wf s = true) :
    searchSubtree (pre ++ flatten s ++ post) pre.length = some (pre.length, pre.length + s.size) := by
  cases s with
  | node p as =>
    simp [wf] at h
    have hd : (pre ++ flatten (.node p as) ++ post).drop pre.length = p :: (flattenF as ++ post) := by
      simp [flatten, List.append_assoc]
    simp only [searchSubtree, hd]
    have := walk_flattenF as post 0 (pre.length + 1) h.2
    rw [h.1] at this
    simp at this
    simp [this, walk, Tree.size]; omega

theorem getElem?_at (pre post : List Prim) (s : Tree) : (pre ++ flatten s ++ post)[pre.length]? = some s.root := by
  rw [List.append_assoc, List.getElem?_append_right (Nat.le_refl _), Nat.sub_self,
    List.getElem?_append_left (flatten_length s ▸ size_pos s), flatten_root]

theorem getSlice_at (pre post mid : List Prim) :
    getSlice (pre ++ mid ++ post) pre.length (pre.length + mid.length) = mid := by
  simp [getSlice, List.take_append]

/-- The decomposition everything about positions rests on: the node at index `i` of a typed prefix list is the root of a
subtree `s`, the list is `pre ++ flatten s ++ post` with `pre` of length `i`, and typing a list that starts with `pre` is
typing the rest for the slot of `s` (type `σ`) followed by the slots `rest` that `post` fills. -/
theorem subtree_at {sub} : ∀ (i : Nat) (l : List Prim) (ss : List Nat) (p : Prim), typed sub ss l = true → l[i]? = some p →
    ∃ pre s post σ rest, l = pre ++ flatten s ++ post ∧ pre.length = i ∧ s.root = p ∧ wt sub σ s = true ∧
      typed sub rest post = true ∧ ∀ x, typed sub ss (pre ++ x) = typed sub (σ :: rest) x
  | _, [], _, _, _, hp => by simp at hp
  | _, _ :: _, [], _, h, _ => by simp [typed] at h
  | 0, q :: l, σ :: ss, p, h, hp => by
    obtain ⟨s, y', hw, e, hr⟩ := typed_parse_one h
    refine ⟨[], s, y', σ, ss, by simpa using e, rfl, ?_, hw, hr, by simp⟩
    have := getElem?_at [] y' s
    rw [List.nil_append, ← e, List.length_nil, hp] at this
    exact (Option.some.inj this).symm
  | i + 1, q :: l, σ0 :: ss, p, h, hp => by
    simp [typed] at h
    obtain ⟨pre, s, post, σ, rest, e, hl, hroot, hw, hr, hx⟩ := subtree_at i l (q.args ++ ss) p h.2 (by simpa using hp)
    exact ⟨q :: pre, s, post, σ, rest, by simp [e], by simp [hl], hroot, hw, hr, fun x => by simp [typed, h.1, hx]⟩

mutual
theorem heightGo_flatten : ∀ (t : Tree) (l : List Prim) (d : Nat) (st : List Nat) (m : Nat), wf t = true →
    heightGo (flatten t ++ l) (d :: st) m = heightGo l st (max m (d + t.height))
  | .node p as, l, d, st, m, h => by
    simp only [wf, Bool.and_eq_true, beq_iff_eq] at h
    have := heightGo_flattenF as l d st (max m d) h.2 (Nat.le_max_right m d)
    rw [h.1] at this
    rw [flatten, List.cons_append, heightGo, this, Tree.height, Nat.max_assoc, Nat.max_eq_right (Nat.le_add_right d _)]
theorem heightGo_flattenF : ∀ (ts : List Tree) (l : List Prim) (d : Nat) (st : List Nat) (m : Nat), wfF ts = true →
    d ≤ m → heightGo (flattenF ts ++ l) (List.replicate ts.length (d + 1) ++ st) m = heightGo l st (max m (d + heightF ts))
  | [], l, d, st, m, _, hm => by
    simp only [flattenF, heightF, Nat.add_zero, Nat.max_eq_left hm, List.nil_append, List.length_nil, List.replicate_zero]
  | t :: ts, l, d, st, m, h, hm => by
    simp only [wfF, Bool.and_eq_true] at h
    rw [flattenF, List.append_assoc, List.length_cons, List.replicate_succ, List.cons_append,
      heightGo_flatten t _ (d + 1) _ m h.1, heightGo_flattenF ts l d st _ h.2 (Nat.le_trans hm (Nat.le_max_left _ _)),
      heightF, Nat.max_assoc, ← Nat.add_max_add_left, Nat.add_assoc, Nat.add_comm 1]
end

theorem heightL_flatten {t : Tree} (h : wf t = true) : heightL (flatten t) = some t.height := by
  have := heightGo_flatten t [] 0 [] 0 h
  simp at this
  simp [heightL, this, heightGo]

theorem mem_leafDepthsF {d y : Nat} : ∀ {ts : List Tree}, y ∈ leafDepthsF d ts ↔ ∃ t ∈ ts, y ∈ leafDepths d t
  | [] => by simp [leafDepthsF]
  | t :: ts => by simp [leafDepthsF, mem_leafDepthsF (ts := ts)]

mutual
theorem leafDepths_le : ∀ (t : Tree) (d : Nat), ∀ x ∈ leafDepths d t, x ≤ d + t.height
  | .node p [], d, x, hx => by simp [leafDepths] at hx; omega
  | .node p (a :: as), d, x, hx => by
    have := leafDepthsF_le (a :: as) (d + 1) x hx
    simp only [Tree.height]; omega
theorem leafDepthsF_le : ∀ (ts : List Tree) (d : Nat), ∀ x ∈ leafDepthsF d ts, x + 1 ≤ d + heightF ts
  | [], d, x, hx => by simp [leafDepthsF] at hx
  | t :: ts, d, x, hx => by
    simp only [leafDepthsF, List.mem_append] at hx
    simp only [heightF]
    rcases hx with hx | hx
    · have := leafDepths_le t d x hx; omega
    · have := leafDepthsF_le ts d x hx; omega
end

mutual
theorem exists_deepest : ∀ (t : Tree) (d : Nat), ∃ x ∈ leafDepths d t, x = d + t.height
  | .node p [], d => by simp [leafDepths, Tree.height, heightF]
  | .node p (a :: as), d => by
    obtain ⟨x, hx, e⟩ := exists_deepestF (a :: as) (d + 1) (by simp)
    exact ⟨x, by simpa only [leafDepths] using hx, by simp only [Tree.height]; omega⟩
theorem exists_deepestF : ∀ (ts : List Tree) (d : Nat), ts ≠ [] →
    ∃ x ∈ leafDepthsF d ts, x + 1 = d + heightF ts
  | [], _, h => by simp at h
  | t :: ts, d, _ => by
    obtain ⟨x, hx, e⟩ := exists_deepest t d
    simp only [heightF]
    by_cases hc : heightF ts ≤ t.height + 1
    · exact ⟨x, by simp [leafDepthsF, hx], by omega⟩
    · have hne : ts ≠ [] := by intro h; subst h; simp [heightF] at hc
      obtain ⟨y, hy, e'⟩ := exists_deepestF ts d hne
      refine ⟨y, ?_, by omega⟩
      simp only [leafDepthsF, List.mem_append]
      exact Or.inr hy
end

mutual
theorem subAt_decomp : ∀ (t : Tree) (i : Nat) (s : Tree), subAt t i = some s →
    ∃ pre post, flatten t = pre ++ flatten s ++ post ∧ pre.length = i
  | .node p as, i, s, h => by
    simp only [subAt] at h
    split at h
    · rename_i h0
      simp at h; subst h; subst h0; exact ⟨[], [], by simp, rfl⟩
    · obtain ⟨pre, post, e, hl⟩ := subAtF_decomp as (i - 1) s h
      exact ⟨p :: pre, post, by simp [flatten, e], by simp [hl]; omega⟩
theorem subAtF_decomp : ∀ (ts : List Tree) (i : Nat) (s : Tree), subAtF ts i = some s →
    ∃ pre post, flattenF ts = pre ++ flatten s ++ post ∧ pre.length = i
  | [], _, _, h => by simp [subAtF] at h
  | t :: ts, i, s, h => by
    simp only [subAtF] at h
    split at h
    · obtain ⟨pre, post, e, hl⟩ := subAt_decomp t i s h
      exact ⟨pre, post ++ flattenF ts, by simp [flattenF, e], hl⟩
    · obtain ⟨pre, post, e, hl⟩ := subAtF_decomp ts (i - t.size) s h
      exact ⟨flatten t ++ pre, post, by simp [flattenF, e], by simp [flatten_length, hl]; omega⟩
end

mutual
theorem subAt_wf : ∀ (t : Tree) (i : Nat) (s : Tree), wf t = true → subAt t i = some s → wf s = true
  | .node p as, i, s, hw, h => by
    simp only [subAt] at h
    split at h
    · simp at h; subst h; exact hw
    · simp [wf] at hw; exact subAtF_wf as (i - 1) s hw.2 h
theorem subAtF_wf : ∀ (ts : List Tree) (i : Nat) (s : Tree), wfF ts = true → subAtF ts i = some s → wf s = true
  | [], _, _, _, h => by simp [subAtF] at h
  | t :: ts, i, s, hw, h => by
    simp [wfF] at hw
    simp only [subAtF] at h
    split at h
    · exact subAt_wf t i s hw.1 h
    · exact subAtF_wf ts (i - t.size) s hw.2 h
end

mutual
theorem subAt_exists : ∀ (t : Tree) (i : Nat), i < t.size → ∃ s, subAt t i = some s
  | .node p as, i, h => by
    simp only [subAt]
    split
    · exact ⟨_, rfl⟩
    · exact subAtF_exists as (i - 1) (by simp [Tree.size] at h; omega)
theorem subAtF_exists : ∀ (ts : List Tree) (i : Nat), i < sizeF ts → ∃ s, subAtF ts i = some s
  | [], _, h => by simp [sizeF] at h
  | t :: ts, i, h => by
    simp only [subAtF]
    split
    · rename_i hlt; exact subAt_exists t i hlt
    · exact subAtF_exists ts (i - t.size) (by simp [sizeF] at h; omega)
end

end GpTree
