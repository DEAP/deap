import DeapModel.Lemmas.C15HvCGenA1
import DeapModel.Lemmas.C15HvCGenB2
/-!
C15 — the general case of `hv_recursive` in `_hv.c`, first phase: what ONE deletion (`delete` or `delete_dom`) of the
last node of the list of the level does to the parts of the invariant: cache validity `CVc`, the cached `domr` (`DMc`),
the soundness of the marks `IGc`.
-/
namespace HvC
open HvSweep (RL pos ids)

section ctx
variable {C : Cargo} {R : List ℚ} {d n : ℕ} {O : ℕ → List ℕ}

theorem gA_pos_inj (c : CCtx C R d n O) {i : ℕ} (hi : i < d) {a b : ℕ} (ha : a ∈ ids n) (hb : b ∈ ids n)
    (h : pos O i a = pos O i b) : a = b :=
  HvSweep.pos_inj O i a b ((c.g.mem hi a).mpr ha) ((c.g.mem hi b).mpr hb) h

theorem gA_RL_erase (c : CCtx C R d n O) {i : ℕ} (hi : i < d) (A B : List ℕ) (x : ℕ)
    (hB : ∀ a, a ∈ B ↔ a ∈ A ∧ a ≠ x) : (RL O i A).erase x = RL O i B := by
  simpa using HvSweep.RL_diff c.g hi A B [x] (by simpa using hB)

theorem gA_last_pos (c : CCtx C R d n O) {i : ℕ} (hi : i < d) {A : List ℕ} (hA : ∀ a ∈ A, a ∈ ids n) (l : List ℕ) (x : ℕ)
    (hL : RL O i A = l ++ [x]) : x ∈ A ∧ x ∉ l ∧ ∀ a ∈ A, a ≠ x → pos O i a < pos O i x := by
  obtain ⟨_, _, hl, hx⟩ := HvSweep.RL_split c.g hi hA hL
  refine ⟨hx x (by simp), fun h => ((hl x).mp h).2 (by simp), fun a ha hax => ?_⟩
  exact (HvSweep.pos_lt_of_split O i (c.g.nodup hi) _ l [] x (HvSweep.RL_sublist O i A) hL).1 a
    ((hl a).mpr ⟨ha, by simpa using hax⟩)

theorem gA_RL_init (c : CCtx C R d n O) {i : ℕ} (hi : i < d) {A : List ℕ} (hA : ∀ a ∈ A, a ∈ ids n) (l : List ℕ) (x : ℕ)
    (hL : RL O i A = l ++ [x]) (B : List ℕ) (hB : ∀ a, a ∈ B ↔ a ∈ A ∧ a ≠ x) : RL O i B = l := by
  obtain ⟨_, hxl, _⟩ := gA_last_pos c hi hA l x hL
  rw [← gA_RL_erase c hi A B x hB, hL, List.erase_append_right _ hxl]
  simp

/-- `delete_dom`: the bounds stay, and the ideal cache contents do not change because the deleted node is dominated -/
theorem gA_cv_dom (c : CCtx C R d n O) {j : ℕ} (hjd : j + 1 < d) {S T : St} {A B : List ℕ} {x w m : ℕ}
    (hm : j + 1 ≤ m) (hxA : x ∈ A) (hwA : w ∈ A) (hdom : DomC C O m w x)
    (hA : ∀ a ∈ A, a ∈ ids n) (hB : ∀ a, a ∈ B ↔ a ∈ A ∧ a ≠ x) (hdat : gA_Data S T) (hbd : T.bound = S.bound)
    (hcv : CVc C R O S (j + 1) A) : CVc C R O T (j + 1) B := by
  intro j' hj1 hjK a ha b hb hlt
  rw [hbd] at hb
  obtain ⟨e1, e2⟩ := hcv j' hj1 hjK a ((hB a).mp ha).1 b hb hlt
  have hAB : ∀ a, a ∈ A ↔ a = x ∨ a ∈ B := fun a => by
    rw [hB a]
    by_cases h : a = x
    · simp [h, hxA]
    · simp [h]
  rw [hdat.ar, hdat.vl, e1, e2]
  exact caches_insert_dom c j' (by omega) B A x w hAB (fun a ha => hA a ((hB a).mp ha).1) (hA x hxA)
    ((hB w).mpr ⟨hwA, hdom.1⟩) (fun i hi => domC_cg_le c (hA w hwA) (hA x hxA) hdom i (by omega) (by omega))
    (hdom.2.2.2 (j' + 1) (by omega) (by omega)) a

theorem gA_dm_dom (c : CCtx C R d n O) {S T : St} {A B : List ℕ} {x w m : ℕ} (hm : 2 ≤ m)
    (hxA : x ∈ A) (hwA : w ∈ A) (hdom : DomC C O m w x) (hA : ∀ a ∈ A, a ∈ ids n)
    (hB : ∀ a, a ∈ B ↔ a ∈ A ∧ a ≠ x) (hdat : gA_Data S T) (hbd : T.bound = S.bound)
    (hdm : DMc C O S A) : DMc C O T B := by
  have hd2 : 2 < d := c.hd
  intro a ha b hb hlt
  rw [hbd] at hb
  obtain ⟨haA, hax⟩ := (hB a).mp ha
  obtain ⟨d1, d2, d3⟩ := hdm a haA b hb hlt
  rw [hdat.dr]
  refine ⟨d1, fun q hq hqlt hbt => d2 q ((hB q).mp hq).1 hqlt hbt, fun hdr => ?_⟩
  obtain ⟨q, hqA, hbt, hq2⟩ := d3 hdr
  by_cases hqx : q = x
  · subst hqx
    have hpwx : pos O 2 w < pos O 2 q := hdom.2.2.2 2 (le_refl _) hm
    exact ⟨w, (hB w).mpr ⟨hwA, hdom.1⟩, beats_trans C O w q a ⟨hdom.1, hdom.2.1, hdom.2.2.1, fun _ => hpwx⟩ hbt,
      le_trans (c.le_of_pos hd2 (hA q hxA) (hA w hwA) (le_of_lt hpwx)) hq2⟩
  · exact ⟨q, (hB q).mpr ⟨hqA, hqx⟩, hbt, hq2⟩

/-- the witness of a mark at least the level precedes the marked node in the order of the level, hence is not the last
node `x` of that order -/
theorem gA_ig_step (c : CCtx C R d n O) {j : ℕ} (hj2 : 2 ≤ j) (hjd : j + 1 < d) {S T : St} {A B : List ℕ} {x : ℕ} {l : List ℕ}
    (hA : ∀ a ∈ A, a ∈ ids n) (hL : RL O (j + 1) A = l ++ [x]) (hB : ∀ a, a ∈ B ↔ a ∈ A ∧ a ≠ x)
    (hdat : gA_Data S T) (zb : ∀ y ∈ A, ign S y = 0 ∨ ((j + 1 : ℕ) : ℤ) ≤ ign S y) (hig : IGc C O S A) :
    IGc C O T B := by
  obtain ⟨hxA, _, hlast⟩ := gA_last_pos c hjd hA l x hL
  intro y hy hm
  rw [hdat.ign] at hm ⊢
  obtain ⟨hyA, hyx⟩ := (hB y).mp hy
  have hbig : ((j + 1 : ℕ) : ℤ) ≤ ign S y := by
    rcases zb y hyA with h | h
    · omega
    · exact h
  obtain ⟨w, hwA, hdom⟩ := hig y hyA hm
  refine ⟨w, (hB w).mpr ⟨hwA, ?_⟩, hdom⟩
  intro e
  have h1 : pos O (j + 1) w < pos O (j + 1) y := hdom.2.2.2 (j + 1) (by omega) (by omega)
  have h2 := hlast y hyA hyx
  rw [e] at h1
  omega

end ctx

end HvC
