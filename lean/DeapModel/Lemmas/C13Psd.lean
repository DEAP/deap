/-
C13 helper lemmas: positive semi-definiteness is preserved by the covariance update, and under the
`eigh` contract the eigenvalues of a PSD matrix are non-negative; `μ_eff > 0` and the ranges of the default
learning rates, of the factor of `chiN` and of the argument of the default `lambda_`, as functions of a real `N ≥ 1`.
-/
import DeapModel.Lemmas.C13Eig

open Cma

namespace C13L

/-- positive semi-definiteness of the leading `n × n` block: `vᵀ M v ≥ 0` for every `v`.  Not `Matrix.PosSemidef`: that
bundles symmetry, which is a clause of its own here (`C13.C_symm`, `Pre.symm`), and this form reads the list through the
total getters, so it needs no shape hypothesis. -/
def PSD (n : Nat) (M : List (List ℝ)) : Prop :=
  ∀ v : Fin n → ℝ, 0 ≤ ∑ a : Fin n, ∑ b : Fin n, v a * mget M a.val b.val * v b

/-- the bilinear form of `Σ_j c_j u_j u_jᵀ` -/
theorem quad_outer_sum {n m : Nat} (x y : Fin n → ℝ) (c : Fin m → ℝ) (u : Fin m → Fin n → ℝ) :
    ∑ a, ∑ b, x a * (∑ j, c j * (u j a * u j b)) * y b
      = ∑ j, c j * ((∑ a, x a * u j a) * (∑ b, u j b * y b)) := by
  calc ∑ a, ∑ b, x a * (∑ j, c j * (u j a * u j b)) * y b
      = ∑ a, ∑ j, ∑ b, c j * ((x a * u j a) * (u j b * y b)) :=
        Finset.sum_congr rfl fun a _ => by
          rw [Finset.sum_comm]
          refine Finset.sum_congr rfl fun b _ => ?_
          rw [Finset.mul_sum, Finset.sum_mul]
          exact Finset.sum_congr rfl fun j _ => by ring
    _ = ∑ j, ∑ a, ∑ b, c j * ((x a * u j a) * (u j b * y b)) := Finset.sum_comm
    _ = _ := Finset.sum_congr rfl fun j _ => by
        rw [Finset.sum_mul_sum]; simp only [Finset.mul_sum]

theorem eigval_eq_quadform {n : Nat} {C : List (List ℝ)} {w : List ℝ} {V : List (List ℝ)}
    (hc : EighContract n C w V) (k : Fin n) :
    ∑ a : Fin n, ∑ b : Fin n, mget V a.val k.val * mget C a.val b.val * mget V b.val k.val = vget w k.val := by
  have hr : ∀ a b : Fin n, mget C a.val b.val = ∑ j : Fin n, vget w j.val * (mget V a.val j.val * mget V b.val j.val) :=
    fun a b => (hc.recon a b).trans (Finset.sum_congr rfl fun j _ => by ring)
  simp only [hr]
  rw [quad_outer_sum (fun a => mget V a.val k.val) (fun b => mget V b.val k.val) (fun j => vget w j.val)
    (fun j a => mget V a.val j.val)]
  simp [hc.cols]

theorem eigvals_nonneg {n : Nat} {C : List (List ℝ)} {w : List ℝ} {V : List (List ℝ)}
    (hc : EighContract n C w V) (hpsd : PSD n C) (k : Fin n) : 0 ≤ vget w k.val := by
  rw [← eigval_eq_quadform hc k]
  exact hpsd (fun a => mget V a.val k.val)

/-- the quadratic form of the updated covariance matrix: `k₁·vᵀCv + c₁ (v·p_c)² + c_μ/σ² Σ w_i (v·a_i)²` -/
theorem newC_quadform (s : State ℝ) (hsig : ℝ) (pc : List ℝ) (artmp : List (List ℝ)) (v : Fin s.dim → ℝ) :
    ∑ a : Fin s.dim, ∑ b : Fin s.dim, v a * mget (newC s hsig pc artmp) a.val b.val * v b
      = (1 - s.par.ccov1 - s.par.ccovmu + (1 - hsig) * s.par.ccov1 * s.par.cc * (2 - s.par.cc))
          * (∑ a : Fin s.dim, ∑ b : Fin s.dim, v a * mget s.C a.val b.val * v b)
        + s.par.ccov1 * ((∑ a : Fin s.dim, v a * vget pc a.val) * (∑ a : Fin s.dim, v a * vget pc a.val))
        + s.par.ccovmu / s.sigma ^ 2 * ∑ i : Fin s.par.mu, vget s.par.weights i.val
            * ((∑ a : Fin s.dim, v a * mget artmp i.val a.val) * (∑ a : Fin s.dim, v a * mget artmp i.val a.val)) := by
  have h := quad_outer_sum v v (fun i : Fin s.par.mu => vget s.par.weights i.val) (fun i a => mget artmp i.val a.val)
  simp only [mul_comm _ (v _)] at h
  rw [← h, Finset.sum_mul_sum]
  simp only [Finset.mul_sum, ← Finset.sum_add_distrib]
  refine Finset.sum_congr rfl fun a _ => Finset.sum_congr rfl fun b _ => ?_
  simp only [newC, real_bridge, Finset.mul_sum, Finset.sum_div]
  rw [mul_add, mul_add, add_mul, add_mul, Finset.mul_sum, Finset.sum_mul]
  refine congrArg₂ _ (congrArg₂ _ (by ring) (by ring)) (Finset.sum_congr rfl fun i _ => by ring)

theorem newC_psd (s : State ℝ) (hsig : ℝ) (pc : List ℝ) (artmp : List (List ℝ)) (hpsd : PSD s.dim s.C)
    (hk : 0 ≤ 1 - s.par.ccov1 - s.par.ccovmu + (1 - hsig) * s.par.ccov1 * s.par.cc * (2 - s.par.cc))
    (h1 : 0 ≤ s.par.ccov1) (hmu : 0 ≤ s.par.ccovmu) (hw : ∀ i : Fin s.par.mu, 0 ≤ vget s.par.weights i.val) :
    PSD s.dim (newC s hsig pc artmp) := by
  intro v
  rw [newC_quadform]
  have t1 := mul_nonneg hk (hpsd v)
  have t2 := mul_nonneg h1 (mul_self_nonneg (∑ a : Fin s.dim, v a * vget pc a.val))
  have t3 : 0 ≤ s.par.ccovmu / s.sigma ^ 2 * ∑ i : Fin s.par.mu, vget s.par.weights i.val
            * ((∑ a : Fin s.dim, v a * mget artmp i.val a.val) * (∑ a : Fin s.dim, v a * mget artmp i.val a.val)) := by
    apply mul_nonneg (div_nonneg hmu (sq_nonneg _))
    exact Finset.sum_nonneg (fun i _ => mul_nonneg (hw i) (mul_self_nonneg _))
  linarith

theorem hsigOf_cases (s : State ℝ) (ps : List ℝ) : hsigOf s ps = 1 ∨ hsigOf s ps = 0 := by
  simp only [hsigOf]
  split_ifs
  · left; simp only [real_bridge]
  · right; simp only [real_bridge]

/-- the coefficient of the old `C` in cma.py:158-159 is non-negative when `c₁, c_μ ≥ 0`, `c₁ + c_μ ≤ 1`
(guaranteed by the `min` of cma.py:205), `0 ≤ c_c ≤ 2` and `h_σ ∈ {0, 1}` -/
theorem k1_nonneg {c1 cmu cc h : ℝ} (h1 : 0 ≤ c1) (hs : c1 + cmu ≤ 1) (hc0 : 0 ≤ cc) (hc2 : cc ≤ 2)
    (hh : h = 1 ∨ h = 0) : 0 ≤ 1 - c1 - cmu + (1 - h) * c1 * cc * (2 - cc) := by
  rcases hh with rfl | rfl
  · linarith
  · have : 0 ≤ c1 * cc * (2 - cc) := mul_nonneg (mul_nonneg h1 hc0) (by linarith)
    linarith

theorem identity_mget {n : Nat} (a b : Fin n) : mget (identity n : List (List ℝ)) a.val b.val = if a = b then 1 else 0 := by
  simp only [identity, mget_tab2_fin, Fin.ext_iff]
  split_ifs <;> simp only [real_bridge]

theorem identity_psd (n : Nat) : PSD n (identity n) := by
  intro v
  simp only [identity_mget]
  refine Finset.sum_nonneg (fun a _ => ?_)
  simp only [mul_ite, mul_one, mul_zero, ite_mul, zero_mul, Finset.sum_ite_eq, Finset.mem_univ, if_true]
  exact mul_self_nonneg _

theorem sq_sum_tab (n : Nat) (f : Nat → ℝ) :
    ((tab n f).map (fun x => x ^ 2)).sum = ∑ i : Fin n, f i.val ^ 2 := by
  rw [fin_sum_eq_list n (fun i => f i ^ 2)]
  simp only [tab, List.map_map]
  rfl

theorem mueffOf_pos {n : Nat} (w : List ℝ) (hlen : w.length = n) (hn : 1 ≤ n)
    (hpos : ∀ i : Fin n, 0 < vget w i.val) : 0 < mueffOf w := by
  have : Nonempty (Fin n) := ⟨⟨0, hn⟩⟩
  rw [← tab_vget w hlen]
  simp only [mueffOf, real_bridge, sq_sum_tab]
  exact one_div_pos.2 (Finset.sum_pos (fun i _ => pow_pos (hpos i) 2) Finset.univ_nonempty)

/-- the default learning rates of cma.py:197-204 as functions of `N ≥ 1` and `μ_eff > 0` -/
theorem default_rates {N me : ℝ} (hN : 1 ≤ N) (hme : 0 < me) :
    0 ≤ 2 / ((N + 13 / 10) ^ 2 + me) ∧ 2 / ((N + 13 / 10) ^ 2 + me) ≤ 1 ∧
    0 ≤ 2 * (me - 2 + 1 / me) / ((N + 2) ^ 2 + me) ∧
    0 ≤ 4 / (N + 4) ∧ 4 / (N + 4) ≤ 2 ∧ 0 < (me + 2) / (N + me + 3) ∧ (me + 2) / (N + me + 3) < 2 := by
  -- `N + 1.3 ≥ 2`, so its square is at least `4`
  have hsq : 2 ≤ (N + 13 / 10) ^ 2 :=
    (by norm_num : (2 : ℝ) ≤ 2 ^ 2).trans (pow_le_pow_left₀ zero_le_two (by linarith) 2)
  refine ⟨by positivity, (div_le_one (by positivity)).2 (le_add_of_le_of_nonneg hsq hme.le), ?_, by positivity,
    (div_le_iff₀ (by positivity)).2 (by linarith), by positivity, (div_lt_iff₀ (by positivity)).2 (by linarith)⟩
  have hnum : me - 2 + 1 / me = (me - 1) ^ 2 / me := by field_simp; ring
  rw [hnum]; positivity

/-- the factor `1 - 1/(4N) + 1/(21N²)` of `chiN` (cma.py:97-98) for a real `N ≥ 1` -/
theorem chi_factor_pos {x : ℝ} (hx : 1 ≤ x) : 0 < 1 - 1 / (4 * x) + 1 / (21 * x ^ 2) := by
  have h4 : 1 / (4 * x) ≤ 1 / 4 :=
    div_le_div_of_nonneg_left zero_le_one (by norm_num) (le_mul_of_one_le_right (by norm_num) hx)
  exact add_pos_of_pos_of_nonneg (sub_pos.2 (h4.trans_lt (by norm_num))) (by positivity)

/-- the argument of `int(4 + 3 * log(N))` (cma.py:110) for a real `N ≥ 1` lies in `[4, 4 + 3N]` (`0 ≤ ln N ≤ N - 1`) -/
theorem lambda_arg_range {x : ℝ} (hx : 1 ≤ x) : 4 ≤ 4 + 3 * Real.log x ∧ 4 + 3 * Real.log x ≤ 4 + 3 * x := by
  have h0 := Real.log_nonneg hx
  have h1 := Real.log_le_sub_one_of_pos (zero_lt_one.trans_le hx)
  exact ⟨by linarith, by linarith⟩

end C13L
