/-
C08 helper lemmas: the loops of `update` are folds of one iteration over the individuals shown, so how a history
is cut into `update` calls does not matter, and what one iteration keeps holds along a whole history.
-/
import DeapModel.Lemmas.C08Pf

namespace C08L
open Archive
open Gen08L (foldOpt foldOpt_append foldOpt_inv foldOpt_inv_some)

variable {G α : Type} [LinearOrder α] (sim : Ind G α → Ind G α → Bool)

theorem pfUpdate_append (h : HoF G α) (xs ys : List (Ind G α)) :
    pfUpdate sim h (xs ++ ys) = (pfUpdate sim h xs).bind (fun h' => pfUpdate sim h' ys) := by
  simp only [Gen08L.pfUpdate_eq, foldOpt_append]

theorem pfRun_eq_flatten (h : HoF G α) (hist : List (List (Ind G α))) :
    pfRun sim h hist = pfUpdate sim h hist.flatten := by
  induction hist generalizing h with
  | nil => rfl
  | cons b bs ih =>
    simp only [pfRun, List.flatten_cons, pfUpdate_append]
    cases pfUpdate sim h b with
    | none => rfl
    | some h1 => exact ih h1

theorem step_nonempty (p0 ind : Ind G α) (h h' : HoF G α) (e : step sim p0 h ind = some h') :
    h'.items ≠ [] := by
  rcases Gen08L.step_result e with ⟨rfl, hne⟩ | ⟨h1, _, y, rfl⟩
  · exact hne
  · exact List.ne_nil_of_mem ((mem_insert h1 y _).2 (Or.inl rfl))

/-- `population[0]` is read only while the archive is empty -/
theorem step_pop0_irrelevant (p0 q0 ind : Ind G α) (h : HoF G α) (hne : h.items ≠ []) :
    step sim p0 h ind = step sim q0 h ind := by
  obtain ⟨w, hw⟩ := Option.isSome_iff_exists.1 (List.getLast?_isSome.2 hne)
  rw [step_of_last hw, step_of_last hw]

theorem updateLoop_eq_fold (p0 : Ind G α) :
    ∀ (l : List (Ind G α)) (h : HoF G α), (h.items = [] → ∀ x, l.head? = some x → p0 = x) →
      updateLoop sim p0 h l = foldOpt (fun h x => step sim x h x) h l
  | [], _, _ => rfl
  | x :: xs, h, hp => by
    have e : step sim p0 h x = step sim x h x := by
      by_cases he : h.items = []
      · rw [hp he x rfl]
      · exact step_pop0_irrelevant sim p0 x x h he
    simp only [updateLoop, foldOpt, e]
    cases e1 : step sim x h x with
    | none => rfl
    | some h1 => exact updateLoop_eq_fold p0 xs h1 (fun he => absurd he (step_nonempty sim x x h h1 e1))

/-- `update` folds, over the population, the iteration in which `population[0]` is the current individual. -/
theorem update_eq_fold (h : HoF G α) (pop : List (Ind G α)) :
    update sim h pop = foldOpt (fun h x => step sim x h x) h pop := by
  cases pop with
  | nil => rfl
  | cons p0 t => exact updateLoop_eq_fold sim p0 (p0 :: t) h (fun _ x hx => by simpa using hx)

theorem update_append (h : HoF G α) (xs ys : List (Ind G α)) :
    update sim h (xs ++ ys) = (update sim h xs).bind (fun h' => update sim h' ys) := by
  simp only [update_eq_fold, foldOpt_append]

theorem run_eq_flatten (h : HoF G α) (hist : List (List (Ind G α))) :
    run sim h hist = update sim h hist.flatten := by
  induction hist generalizing h with
  | nil => rfl
  | cons b bs ih =>
    simp only [run, List.flatten_cons, update_append]
    cases update sim h b with
    | none => rfl
    | some h1 => exact ih h1

theorem run_append (h : HoF G α) (a b : List (List (Ind G α))) :
    run sim h (a ++ b) = (run sim h a).bind (fun h' => run sim h' b) := by
  simp only [run_eq_flatten, List.flatten_append, update_append]

theorem run_eq_fold (h : HoF G α) (hist : List (List (Ind G α))) :
    run sim h hist = foldOpt (fun h x => step sim x h x) h hist.flatten := by
  rw [run_eq_flatten, update_eq_fold]

theorem update_str {base m : Nat} (hm : 1 ≤ m) (pop seen : List (Ind G α)) (h : HoF G α)
    (hs : HStr base m seen h) :
    ∃ h', update sim h pop = some h' ∧ HStr base m (seen ++ pop) h' := by
  obtain ⟨h', e, s, _⟩ := foldOpt_inv (P := fun _ _ => True) (fun _ _ x hs => step_hstr sim x hs hm)
    (fun _ _ _ _ _ _ _ => trivial) pop seen h hs trivial
  exact ⟨h', (update_eq_fold sim h pop).trans e, s⟩

/-- Along a history (capacity ≥ 1) the structural invariant is kept, and so is any family `P seen h` that one
iteration keeps. -/
theorem hof_inv (P : List (Ind G α) → HoF G α → Prop) {base m : Nat} (hm : 1 ≤ m)
    (hstep : ∀ (seen : List (Ind G α)) (h : HoF G α) (ind : Ind G α) (h' : HoF G α), HStr base m seen h →
      P seen h → step sim ind h ind = some h' → P (seen ++ [ind]) h')
    {hist : List (List (Ind G α))} {seen : List (Ind G α)} {h h' : HoF G α} (hs : HStr base m seen h)
    (hP : P seen h) (hr : run sim h hist = some h') :
    HStr base m (seen ++ hist.flatten) h' ∧ P (seen ++ hist.flatten) h' :=
  foldOpt_inv_some (fun _ _ x hs => step_hstr sim x hs hm) hstep hs hP ((run_eq_fold sim h hist).symm.trans hr)

section FromEmpty
variable {base m : Nat} (hm : 1 ≤ m) {hist : List (List (Ind G α))} {h : HoF G α}
include hm

theorem hof_hstr (hr : run sim (empty m base) hist = some h) : HStr base m hist.flatten h :=
  (hof_inv sim (fun _ _ => True) hm (fun _ _ _ _ _ _ _ => trivial) (hstr_empty m base) trivial hr).1

variable {sim}

theorem hof_best (hh : SimHyp sim hist.flatten) (hr : run sim (empty m base) hist = some h) :
    Best sim m hist.flatten h :=
  (hof_inv sim (fun seen h => (∀ x ∈ seen, x ∈ hist.flatten) → Best sim m seen h) hm
    (fun _ _ _ _ hs hP e hU => step_best hh hs (hP (fun x hx => hU x (by simp [hx]))) hm hU e)
    (hstr_empty m base) (fun _ _ hx => nomatch hx) hr).2 (fun _ hx => hx)

end FromEmpty

theorem pfRun_eq_fold (h : HoF G α) (hist : List (List (Ind G α))) :
    pfRun sim h hist = foldOpt (pfStep sim) h hist.flatten := by
  rw [pfRun_eq_flatten, Gen08L.pfUpdate_eq]

theorem pf_total {base : Nat} (hist : List (List (Ind G α))) {seen : List (Ind G α)} {h : HoF G α}
    (hs : Str base seen h) : ∃ h', pfRun sim h hist = some h' := by
  obtain ⟨h', e, _⟩ := foldOpt_inv (P := fun _ _ => True) (fun _ _ x hs => pfStep_str sim x hs)
    (fun _ _ _ _ _ _ _ => trivial) hist.flatten seen h hs trivial
  exact ⟨h', (pfRun_eq_fold sim h hist).trans e⟩

theorem pf_inv (P : List (Ind G α) → HoF G α → Prop) {base : Nat}
    (hstep : ∀ (seen : List (Ind G α)) (h : HoF G α) (ind : Ind G α) (h' : HoF G α), Str base seen h →
      P seen h → pfStep sim h ind = some h' → P (seen ++ [ind]) h')
    {hist : List (List (Ind G α))} {seen : List (Ind G α)} {h h' : HoF G α} (hs : Str base seen h)
    (hP : P seen h) (hr : pfRun sim h hist = some h') :
    Str base (seen ++ hist.flatten) h' ∧ P (seen ++ hist.flatten) h' :=
  foldOpt_inv_some (fun _ _ x hs => pfStep_str sim x hs) hstep hs hP ((pfRun_eq_fold sim h hist).symm.trans hr)

theorem pf_str {base m : Nat}
    {hist : List (List (Ind G α))} {h : HoF G α} (hr : pfRun sim (empty m base) hist = some h) :
    Str base hist.flatten h :=
  (pf_inv sim (fun _ _ => True) (fun _ _ _ _ _ _ _ => trivial) (str_empty m base) trivial hr).1

variable {sim}

theorem pf_sem {n base m : Nat} {hist : List (List (Ind G α))} {h : HoF G α}
    (hlen : ∀ x ∈ hist.flatten, x.fit.wvalues.length = n) (hr : pfRun sim (empty m base) hist = some h) :
    Anti h ∧ (SimSym sim → NoTwin sim h) ∧ (SimBase sim → Cover sim hist.flatten h) :=
  (pf_inv sim (fun seen h => (∀ x ∈ seen, x ∈ hist.flatten) →
      Anti h ∧ (SimSym sim → NoTwin sim h) ∧ (SimBase sim → Cover sim seen h))
    (fun seen h ind h' hs hP e hU => by
      obtain ⟨ha, hn, hc⟩ := hP (fun x hx => hU x (by simp [hx]))
      obtain ⟨ha', hn', hc'⟩ := pfStep_sem (fun x hx => hlen x (hU x hx)) hs ha e
      exact ⟨ha', fun hh => hn' hh (hn hh), fun hh => hc' hh (hc hh)⟩)
    (str_empty m base)
    (fun _ => ⟨by simp [Anti, empty], fun _ => List.Pairwise.nil, fun _ _ hx => nomatch hx⟩) hr).2
    (fun _ hx => hx)

end C08L
