/-
C04 lemmas: the model of `sortNondominated` computes the peeling.
Phase 1 (`rankFirst`): after the double loop the counter of every fitness is its number of
dominators, `dominated_fits[f]` lists what `f` dominates, `current_front` is the non-dominated set.
Phase 2 (`whileLoop`): invariant "the counters of the remaining fitnesses count their remaining
dominators"; every iteration emits exactly the next front.
-/
import DeapModel.Lemmas.C04Dict

namespace C04L
open NDSort

-- as in C04Dict, for the reason given there
attribute [local instance 2000] List.instLawfulBEq instLawfulBEq LinearOrder.toDecidableLT LinearOrder.toDecidableLE

variable {α : Type} [LinearOrder α]

/-- number of dominators of `f` inside `R` (as the Python `int` counter) -/
def cntOf (R : List (List α)) (f : List α) : Int := ((R.filter (fun g => domW g f)).length : Int)

theorem cntOf_append (P Q : List (List α)) (f : List α) : cntOf (P ++ Q) f = cntOf P f + cntOf Q f := by
  simp [cntOf]

theorem cntOf_eq_zero_iff (R : List (List α)) (f : List α) :
    cntOf R f = 0 ↔ (R.any (fun g => domW g f)) = false := by
  simp only [cntOf, Int.natCast_eq_zero, List.length_eq_zero_iff, List.filter_eq_nil_iff,
    List.any_eq_false]

theorem cntOf_cons (g : List α) (R : List (List α)) (f : List α) :
    cntOf (g :: R) f = (if domW g f = true then 1 else 0) + cntOf R f := by
  simp only [cntOf, List.filter_cons]; split <;> simp [Int.add_comm]

theorem cntOf_perm {R R' : List (List α)} (h : R.Perm R') (f : List α) : cntOf R f = cntOf R' f := by
  simp only [cntOf]; rw [(h.filter _).length_eq]

theorem pairStep_current (fi fj : List α) (s : StdState α) : (pairStep fi fj s).current = s.current := by
  simp only [pairStep]; split
  · rfl
  · split <;> rfl

theorem pairStep_get {fi fj : List α} (s : StdState α)
    (hasym : domW fi fj = true → domW fj fi = false) (f : List α) :
    dget (pairStep fi fj s).cnt 0 f = dget s.cnt 0 f +
      ((if f = fj ∧ domW fi fj = true then 1 else 0) + (if f = fi ∧ domW fj fi = true then 1 else 0)) ∧
    dget (pairStep fi fj s).dominated [] f = dget s.dominated [] f ++
      ((if f = fi ∧ domW fi fj = true then [fj] else []) ++ (if f = fj ∧ domW fj fi = true then [fi] else [])) := by
  have key : ∀ (a b : List α) (c : List (List α × Int)) (d : List (List α × List (List α))),
      dget (dset c b (dget c 0 b + 1)) 0 f = dget c 0 f + (if f = b then 1 else 0) ∧
      dget (dset d a (dget d [] a ++ [b])) [] f = dget d [] f ++ (if f = a then [b] else []) := by
    intro a b c d
    simp only [dget_dset, @eq_comm _ f]
    constructor <;> split <;> simp [*]
  unfold pairStep
  by_cases h1 : domW fi fj = true
  · simpa [h1, hasym h1] using key fi fj s.cnt s.dominated
  · by_cases h2 : domW fj fi = true
    · simpa [h1, h2] using key fj fi s.cnt s.dominated
    · simp [h1, h2]

theorem count_filter_cons {γ : Type} [BEq γ] [LawfulBEq γ] [DecidableEq γ] (p : γ → Bool) (b : γ) (l : List γ) (f : γ) :
    List.count f ((b :: l).filter p) = (if f = b ∧ p b = true then 1 else 0) + List.count f (l.filter p) := by
  rw [List.filter_cons]
  by_cases hp : p b = true
  · rw [if_pos hp, List.count_cons, Nat.add_comm]
    by_cases h : f = b
    · simp [h, hp]
    · simp [h, Ne.symm h]
  · rw [if_neg hp]; simp [hp]

/-- one row `for fit_j in fits[i+1:]`: `fit_i` gets its dominators in the row counted and what it
dominates there listed; a member `f` of the row gets one count and one entry `fit_i` for each time it
occurs dominated by / dominating `fit_i` -/
theorem row_spec (fi : List α) (rest : List (List α)) (s : StdState α) (hfi : fi ∉ rest)
    (hasym : ∀ b ∈ rest, domW fi b = true → domW b fi = false) :
    (rest.foldl (fun s fj => pairStep fi fj s) s).current = s.current ∧
    dget (rest.foldl (fun s fj => pairStep fi fj s) s).cnt 0 fi = dget s.cnt 0 fi + cntOf rest fi ∧
    (∀ f, f ≠ fi → dget (rest.foldl (fun s fj => pairStep fi fj s) s).cnt 0 f =
      dget s.cnt 0 f + List.count f (rest.filter (fun b => domW fi b))) ∧
    dget (rest.foldl (fun s fj => pairStep fi fj s) s).dominated [] fi =
      dget s.dominated [] fi ++ rest.filter (fun b => domW fi b) ∧
    (∀ f, f ≠ fi → dget (rest.foldl (fun s fj => pairStep fi fj s) s).dominated [] f =
      dget s.dominated [] f ++ List.replicate (List.count f (rest.filter (fun b => domW b fi))) fi) := by
  induction rest generalizing s with
  | nil => simp [cntOf]
  | cons b rest ih =>
    have hb : fi ≠ b := fun e => hfi (by simp [e])
    obtain ⟨i1, i2, i3, i4, i5⟩ := ih (pairStep fi b s) (fun h => hfi (by simp [h]))
      (fun c hc => hasym c (by simp [hc]))
    have hstep := pairStep_get s (hasym b (by simp))
    simp only [List.foldl_cons]
    refine ⟨by rw [i1, pairStep_current], ?_, fun f hf => ?_, ?_, fun f hf => ?_⟩
    · rw [i2, (hstep fi).1, cntOf_cons]
      simp only [hb, false_and, if_false, true_and]; omega
    · rw [i3 f hf, (hstep f).1, count_filter_cons]
      simp only [hf, false_and, if_false]
      by_cases hc : f = b ∧ domW fi b = true
      · simp only [hc, and_self, if_true]; omega
      · simp only [hc, if_false]; omega
    · rw [i4, (hstep fi).2, List.filter_cons]
      simp only [hb, false_and, if_false, true_and, List.append_nil]
      split <;> simp
    · rw [i5 f hf, (hstep f).2, count_filter_cons, List.replicate_add]
      simp only [hf, false_and, if_false, List.nil_append]
      by_cases hc : f = b ∧ domW b fi = true
      · simp only [hc, and_self, if_true, List.replicate_one, List.append_assoc]
      · simp only [hc, if_false, List.replicate_zero, List.append_nil, List.nil_append]

theorem rankFirst_cons (fi : List α) (rest : List (List α)) (s : StdState α) :
    ∃ s2, rankFirst (fi :: rest) s = rankFirst rest s2 ∧
      s2.cnt = (rest.foldl (fun s fj => pairStep fi fj s) s).cnt ∧
      s2.dominated = (rest.foldl (fun s fj => pairStep fi fj s) s).dominated ∧
      s2.current = if dget (rest.foldl (fun s fj => pairStep fi fj s) s).cnt 0 fi = 0
        then (rest.foldl (fun s fj => pairStep fi fj s) s).current ++ [fi]
        else (rest.foldl (fun s fj => pairStep fi fj s) s).current := by
  refine ⟨_, rfl, ?_, ?_, ?_⟩ <;> (split <;> rfl)

/-- The double loop started in any state `s`: a fitness of `Q` gets its dominators in `Q` counted
and what it dominates in `Q` listed, the entries of the other fitnesses are untouched, and `current`
grows by the members of `Q` whose counter, with what `s` already holds, is 0. -/
theorem rankFirst_effect (Q : List (List α)) (s : StdState α) (hnd : Q.Nodup) (hspo : SPO domW Q) :
    (∀ f ∈ Q, dget (rankFirst Q s).cnt 0 f = dget s.cnt 0 f + cntOf Q f) ∧
    (∀ f, f ∉ Q → dget (rankFirst Q s).cnt 0 f = dget s.cnt 0 f) ∧
    (∀ f ∈ Q, dget (rankFirst Q s).dominated [] f = dget s.dominated [] f ++ Q.filter (fun g => domW f g)) ∧
    (∀ f, f ∉ Q → dget (rankFirst Q s).dominated [] f = dget s.dominated [] f) ∧
    (rankFirst Q s).current = s.current ++ Q.filter (fun f => decide (dget s.cnt 0 f + cntOf Q f = 0)) := by
  induction Q generalizing s with
  | nil => simp [rankFirst]
  | cons fi rest ih =>
    obtain ⟨hfir, hnd'⟩ := List.nodup_cons.1 hnd
    obtain ⟨r1, r2, r3, r4, r5⟩ := row_spec fi rest s hfir
      (fun b hb h => hspo.asymm (by simp) (by simp [hb]) h)
    obtain ⟨s2, e, e1, e2, e3⟩ := rankFirst_cons fi rest s
    obtain ⟨i1, i2, i3, i4, i5⟩ := ih s2 hnd'
      (hspo.mono fun x hx => List.mem_cons_of_mem _ hx)
    have hirr : domW fi fi = false := domW_irrefl fi
    have hne : ∀ f ∈ rest, f ≠ fi := fun f hf e => hfir (e ▸ hf)
    -- a member of the row occurs in it once
    have hcount : ∀ (p : List α → Bool) (f : List α), f ∈ rest →
        List.count f (rest.filter p) = if p f = true then 1 else 0 := fun p f hf => by
      rw [List.Nodup.count (hnd'.filter _)]; simp [hf]
    have hout : ∀ (p : List α → Bool) (f : List α), f ∉ rest → List.count f (rest.filter p) = 0 :=
      fun p f hf => List.count_eq_zero_of_not_mem fun h => hf (List.mem_filter.1 h).1
    rw [e]
    refine ⟨fun f hf => ?_, fun f hf => ?_, fun f hf => ?_, fun f hf => ?_, ?_⟩
    · rcases List.mem_cons.1 hf with rfl | hf
      · rw [i2 f hfir, e1, r2, cntOf_cons, hirr]; simp
      · rw [i1 f hf, e1, r3 f (hne f hf), hcount _ f hf, cntOf_cons]
        split <;> simp [Int.add_assoc]
    · obtain ⟨h1, h2⟩ := not_or.1 (mt List.mem_cons.2 hf)
      rw [i2 f h2, e1, r3 f h1, hout _ f h2]; simp
    · rcases List.mem_cons.1 hf with rfl | hf
      · rw [i4 f hfir, e2, r4, List.filter_cons, hirr]; simp
      · rw [i3 f hf, e2, r5 f (hne f hf), hcount _ f hf, List.filter_cons]
        split <;> simp
    · obtain ⟨h1, h2⟩ := not_or.1 (mt List.mem_cons.2 hf)
      rw [i4 f h2, e2, r5 f h1, hout _ f h2]; simp
    · -- the counter of `fi` is final when it is tested; those of the row have `fi` counted
      have hrow : rest.filter (fun f => decide (dget s2.cnt 0 f + cntOf rest f = 0)) =
          rest.filter (fun f => decide (dget s.cnt 0 f + cntOf (fi :: rest) f = 0)) :=
        List.filter_congr fun f hf => by
          rw [e1, r3 f (hne f hf), hcount _ f hf, cntOf_cons]
          split <;> simp [Int.add_assoc]
      rw [i5, hrow, e3, r2, r1, List.filter_cons, cntOf_cons, hirr]
      by_cases h0 : dget s.cnt 0 fi + cntOf rest fi = 0 <;> simp [h0]

theorem rankFirst_spec (fits : List (List α)) (hnd : fits.Nodup) (hspo : SPO domW fits) :
    (∀ f ∈ fits, dget (rankFirst fits ⟨[], [], []⟩).cnt 0 f = cntOf fits f) ∧
    (∀ f ∈ fits, dget (rankFirst fits ⟨[], [], []⟩).dominated [] f = fits.filter (fun g => domW f g)) ∧
    (rankFirst fits ⟨[], [], []⟩).current = nondom domW fits := by
  obtain ⟨h1, -, h3, -, h5⟩ := rankFirst_effect fits ⟨[], [], []⟩ hnd hspo
  refine ⟨fun f hf => (h1 f hf).trans (Int.zero_add _), fun f hf => (h3 f hf).trans (List.nil_append _), ?_⟩
  rw [h5, List.nil_append, nondom]
  exact List.filter_congr fun f _ => by
    rw [show dget ([] : List (List α × Int)) 0 f = 0 from rfl, Bool.eq_iff_iff]
    simp [cntOf_eq_zero_iff]

theorem foldl_append_flatMap {γ δ : Type} (g : γ → List δ) : ∀ (l : List γ) (init : List δ),
    l.foldl (fun acc f => acc ++ g f) init = init ++ l.flatMap g
  | [], init => by simp
  | a :: l, init => by simp [foldl_append_flatMap g l]

theorem decStep_eq (grp : List (List α × List (Ind α))) (st : LoopState α) (fd : List α) :
    (∀ f, dget (decStep grp st fd).cnt 0 f = if fd = f then dget st.cnt 0 fd - 1 else dget st.cnt 0 f) ∧
    (decStep grp st fd).next = st.next ++ (if dget st.cnt 0 fd - 1 = 0 then [fd] else []) ∧
    (decStep grp st fd).front = st.front ++ (if dget st.cnt 0 fd - 1 = 0 then dget grp [] fd else []) ∧
    (decStep grp st fd).sorted = st.sorted + (if dget st.cnt 0 fd - 1 = 0 then (dget grp [] fd).length else 0) := by
  by_cases hc : dget st.cnt 0 fd - 1 = 0 <;> simp [decStep, hc, dget_dset]

/-- the inner `for fit_d in …` loops of one `while` iteration, over the concatenated work list -/
theorem decFold_spec (grp : List (List α × List (Ind α))) (todo : List (List α)) (st : LoopState α)
    (hle : ∀ f ∈ todo, (List.count f todo : Int) ≤ dget st.cnt 0 f) :
    ∃ new : List (List α),
      (todo.foldl (decStep grp) st).next = st.next ++ new ∧
      (todo.foldl (decStep grp) st).front = st.front ++ new.flatMap (dget grp []) ∧
      (todo.foldl (decStep grp) st).sorted = st.sorted + (new.flatMap (dget grp [])).length ∧
      (∀ f, dget (todo.foldl (decStep grp) st).cnt 0 f = dget st.cnt 0 f - List.count f todo) ∧
      new.Nodup ∧ (∀ f, f ∈ new ↔ f ∈ todo ∧ dget st.cnt 0 f = List.count f todo) := by
  induction todo generalizing st with
  | nil => exact ⟨[], by simp⟩
  | cons d t ih =>
    obtain ⟨p0, p1, p2, p3⟩ := decStep_eq grp st d
    have hcount : ∀ f, (List.count f (d :: t) : Int) = List.count f t + (if d = f then 1 else 0) := by
      intro f; rw [List.count_cons]; push_cast; simp only [beq_iff_eq]
    have hstep : ∀ f, dget (decStep grp st d).cnt 0 f - List.count f t = dget st.cnt 0 f - List.count f (d :: t) := by
      intro f; rw [p0 f, hcount f]
      by_cases h : d = f
      · subst h; rw [if_pos rfl, if_pos rfl]; omega
      · rw [if_neg h, if_neg h]; omega
    obtain ⟨new', n1, n2, n3, n4, n5, n6⟩ := ih (decStep grp st d) (fun f hf => by
      have := hle f (by simp [hf]); have := hstep f; omega)
    have hd := hle d (by simp)
    rw [hcount d, if_pos rfl] at hd
    simp only [List.foldl_cons]
    refine ⟨(if dget st.cnt 0 d - 1 = 0 then [d] else []) ++ new', by rw [n1, p1, List.append_assoc],
      by rw [n2, p2]; split <;> simp,
      by rw [n3, p3, Nat.add_assoc]; split <;> simp,
      fun f => by rw [n4 f, hstep f], ?_, fun f => ?_⟩
    · split
      · next hc =>
        -- the counter of `d` reaches zero: `d` does not occur again
        refine List.nodup_cons.2 ⟨fun h => ?_, n5⟩
        have := (n6 d).1 h
        have := List.count_pos_iff.2 this.1
        omega
      · exact n5
    · rw [List.mem_append, n6 f, p0 f, hcount f, List.mem_cons]
      by_cases hf : d = f
      · subst hf
        simp only [if_true]
        split
        · next hc => simp; omega
        · next hc =>
          simp only [List.not_mem_nil, false_or, true_or, true_and]
          constructor
          · rintro ⟨_, h⟩; omega
          · intro h; exact ⟨List.count_pos_iff.1 (by omega), by omega⟩
      · simp only [hf, if_false, Ne.symm hf, false_or, Int.add_zero]
        split <;> simp [Ne.symm hf]

theorem sweepFront_eq (grp : List (List α × List (Ind α))) (dominated : List (List α × List (List α)))
    (current : List (List α)) (cnt : List (List α × Int)) (sorted : Nat) :
    sweepFront grp dominated current cnt sorted =
      (current.flatMap (dget dominated [])).foldl (decStep grp) ⟨cnt, [], [], sorted⟩ := by
  rw [sweepFront, List.foldl_flatMap]

theorem count_todo (fits : List (List α)) (hnd : fits.Nodup) (dominated : List (List α × List (List α)))
    (hdom : ∀ p ∈ fits, dget dominated [] p = fits.filter (fun g => domW p g)) :
    ∀ (L : List (List α)), (∀ p ∈ L, p ∈ fits) → ∀ f,
      (List.count f (L.flatMap (dget dominated [])) : Int) = if f ∈ fits then cntOf L f else 0
  | [], _, f => by simp [cntOf]
  | p :: L, hL, f => by
    have ih := count_todo fits hnd dominated hdom L (fun q hq => hL q (by simp [hq])) f
    rw [List.flatMap_cons, List.count_append, Nat.cast_add, ih, hdom p (hL p (by simp))]
    have : List.count f (fits.filter (fun g => domW p g)) = if f ∈ fits ∧ domW p f = true then 1 else 0 := by
      rw [List.Nodup.count (l := fits.filter (fun g => domW p g)) (List.Pairwise.filter _ hnd)]; simp [List.mem_filter]
    rw [this]
    by_cases hf : f ∈ fits
    · rw [if_pos hf, if_pos hf, cntOf_cons]
      simp only [hf, true_and]
      cases domW p f
      · rw [if_neg Bool.false_ne_true, if_neg Bool.false_ne_true, Nat.cast_zero]
      · rw [if_pos rfl, if_pos rfl, Nat.cast_one]
    · simp [hf]

theorem cntOf_split (R : List (List α)) (f : List α) :
    cntOf R f = cntOf (nondom domW R) f + cntOf (dominatedPart domW R) f := by
  rw [← cntOf_append]; exact (cntOf_perm (nondom_perm domW R) f).symm

theorem cntOf_pos_iff (R : List (List α)) (f : List α) : 0 < cntOf R f ↔ ∃ g ∈ R, domW g f = true := by
  simp only [cntOf, Int.natCast_pos, List.length_pos_iff, ne_eq, List.filter_eq_nil_iff, not_forall]
  constructor
  · rintro ⟨g, hg, h⟩; exact ⟨g, hg, by simpa using h⟩
  · rintro ⟨g, hg, h⟩; exact ⟨g, hg, by simp [h]⟩

theorem cntOf_nonneg (R : List (List α)) (f : List α) : 0 ≤ cntOf R f := by simp [cntOf]

/-- the next front in terms of the counters: dominated by the current front and by nothing else that remains -/
theorem mem_nondom_dominatedPart (R : List (List α)) (f : List α) :
    f ∈ nondom domW (dominatedPart domW R) ↔
      f ∈ R ∧ 0 < cntOf (nondom domW R) f ∧ cntOf (dominatedPart domW R) f = 0 := by
  rw [mem_nondom, mem_dominatedPart, cntOf_eq_zero_iff, List.any_eq_false, cntOf_pos_iff]
  constructor
  · rintro ⟨⟨hR, g, hg, hd⟩, hmax⟩
    refine ⟨hR, ⟨g, ?_, hd⟩, fun y hy => by simp [hmax y hy]⟩
    by_contra hgn
    rw [hmax g ((mem_dominatedPart_iff hg).2 hgn)] at hd; exact Bool.noConfusion hd
  · rintro ⟨hR, ⟨g, hg, hd⟩, hz⟩
    exact ⟨⟨hR, g, (mem_nondom.1 hg).1, hd⟩, fun y hy => by simpa using hz y hy⟩

/-- One `while` iteration emits exactly the next front and re-establishes the counter invariant. -/
theorem sweepFront_spec (grp : List (List α × List (Ind α))) (fits : List (List α)) (hnd : fits.Nodup)
    (dominated : List (List α × List (List α)))
    (hdom : ∀ p ∈ fits, dget dominated [] p = fits.filter (fun g => domW p g))
    (R : List (List α)) (hRsub : ∀ f ∈ R, f ∈ fits)
    (hdown : ∀ p ∈ R, ∀ f ∈ fits, domW p f = true → f ∈ R)
    (current : List (List α)) (hcur : current.Perm (nondom domW R))
    (cnt : List (List α × Int)) (hcnt : ∀ f ∈ R, dget cnt 0 f = cntOf R f) (sorted : Nat) :
    ∃ new : List (List α),
      (sweepFront grp dominated current cnt sorted).next = new ∧
      (sweepFront grp dominated current cnt sorted).front = new.flatMap (dget grp []) ∧
      (sweepFront grp dominated current cnt sorted).sorted = sorted + (new.flatMap (dget grp [])).length ∧
      (∀ f ∈ dominatedPart domW R, dget (sweepFront grp dominated current cnt sorted).cnt 0 f =
        cntOf (dominatedPart domW R) f) ∧
      new.Nodup ∧ (∀ f, f ∈ new ↔ f ∈ nondom domW (dominatedPart domW R)) := by
  have hndsub : ∀ p ∈ nondom domW R, p ∈ fits := fun p hp => hRsub p (mem_nondom.1 hp).1
  have hcount : ∀ f, (List.count f (current.flatMap (dget dominated [])) : Int) =
      if f ∈ fits then cntOf (nondom domW R) f else 0 := by
    intro f
    rw [(hcur.flatMap_right (dget dominated [])).count_eq f]
    exact count_todo fits hnd dominated hdom _ hndsub f
  -- a member of the work list is a remaining fitness dominated by a member of the current front
  have hmem : ∀ f, f ∈ current.flatMap (dget dominated []) → f ∈ fits ∧ 0 < cntOf (nondom domW R) f ∧ f ∈ R := by
    intro f hf
    have hpos : 0 < (List.count f (current.flatMap (dget dominated [])) : Int) := by
      exact_mod_cast List.count_pos_iff.2 hf
    rw [hcount f] at hpos
    by_cases hfit : f ∈ fits
    · rw [if_pos hfit] at hpos
      obtain ⟨g, hg, hd⟩ := (cntOf_pos_iff _ _).1 hpos
      exact ⟨hfit, hpos, hdown g (mem_nondom.1 hg).1 f hfit hd⟩
    · rw [if_neg hfit] at hpos; omega
  have hle : ∀ f ∈ current.flatMap (dget dominated []),
      (List.count f (current.flatMap (dget dominated [])) : Int) ≤
        dget (⟨cnt, [], [], sorted⟩ : LoopState α).cnt 0 f := by
    intro f hf
    obtain ⟨hfit, _, hR⟩ := hmem f hf
    rw [hcount f, if_pos hfit]
    show _ ≤ dget cnt 0 f
    rw [hcnt f hR, cntOf_split R f]
    have := cntOf_nonneg (dominatedPart domW R) f; omega
  obtain ⟨new, n1, n2, n3, n4, n5, n6⟩ := decFold_spec grp _ ⟨cnt, [], [], sorted⟩ hle
  rw [sweepFront_eq]
  refine ⟨new, by simpa using n1, by simpa using n2, by simpa using n3, ?_, n5, ?_⟩
  · intro f hf
    have hR : f ∈ R := dominatedPart_subset f hf
    rw [n4 f, hcount f, if_pos (hRsub f hR)]
    show dget cnt 0 f - _ = _
    rw [hcnt f hR, cntOf_split R f]; omega
  · intro f
    rw [n6 f, mem_nondom_dominatedPart]
    show f ∈ _ ∧ dget cnt 0 f = _ ↔ _
    constructor
    · rintro ⟨hf, he⟩
      obtain ⟨hfit, hpos, hR⟩ := hmem f hf
      rw [hcount f, if_pos hfit, hcnt f hR, cntOf_split R f] at he
      exact ⟨hR, hpos, by omega⟩
    · rintro ⟨hR, hpos, hz⟩
      have hc := hcount f
      rw [if_pos (hRsub f hR)] at hc
      exact ⟨List.count_pos_iff.1 (by omega), by rw [hcnt f hR, cntOf_split R f]; omega⟩

section Top
variable (pop : List (Ind α))

theorem fits_rep : ∀ f ∈ dkeys (mapFitInd pop), ∃ x ∈ pop, x.w = f :=
  fun f hf => (mem_mapFitInd_keys pop f).1 hf

theorem fits_spo (m : Nat) (hlen : ∀ x ∈ pop, x.w.length = m) : SPO domW (dkeys (mapFitInd pop)) := by
  apply spo_domW m
  intro f hf
  obtain ⟨x, hx, rfl⟩ := fits_rep pop f hf
  exact hlen x hx

theorem carriers_fits : carriers pop (dkeys (mapFitInd pop)) = pop :=
  carriers_eq_self fun x hx => (mem_mapFitInd_keys pop x.w).2 ⟨x, hx, rfl⟩

theorem carriers_nil : carriers pop [] = [] := by simp [carriers]

theorem carriers_length_split (R : List (List α)) (hrep : ∀ f ∈ R, ∃ x ∈ pop, x.w = f) :
    (carriers pop R).length =
      (carriers pop (nondom domW R)).length + (carriers pop (dominatedPart domW R)).length := by
  have := length_nondom_add domI (carriers pop R)
  rw [(carriers_nondom pop R hrep).1, (carriers_nondom pop R hrep).2] at this
  omega

theorem front_perm (new F : List (List α)) (hnew : new.Nodup) (hmem : ∀ f, f ∈ new ↔ f ∈ F) :
    (new.flatMap (dget (mapFitInd pop) [])).Perm (carriers pop F) := by
  rw [show dget (mapFitInd pop) [] = _ from funext (mapFitInd_get pop)]
  have h := flatMap_group_perm pop new hnew
  have e : pop.filter (fun x => decide (x.w ∈ new)) = carriers pop F := by
    rw [carriers]; apply List.filter_congr; intro x _; simp [hmem]
  rw [← e]; exact h

theorem whileLoop_spec (m : Nat) (hlen : ∀ x ∈ pop, x.w.length = m)
    (dominated : List (List α × List (List α)))
    (hdom : ∀ p ∈ dkeys (mapFitInd pop),
      dget dominated [] p = (dkeys (mapFitInd pop)).filter (fun g => domW p g)) (k : Nat) :
    ∀ (fuel : Nat) (R : List (List α)) (cnt : List (List α × Int)) (current : List (List α))
      (fronts : List (List (Ind α))) (sorted : Nat),
      R.Nodup → (∀ f ∈ R, f ∈ dkeys (mapFitInd pop)) →
      (∀ p ∈ R, ∀ f ∈ dkeys (mapFitInd pop), domW p f = true → f ∈ R) →
      current.Perm (nondom domW R) → (∀ f ∈ R, dget cnt 0 f = cntOf R f) →
      sorted + (carriers pop (dominatedPart domW R)).length = pop.length →
      (dominatedPart domW R).length ≤ fuel →
      ∃ extra, whileLoop (mapFitInd pop) dominated (min pop.length k) fuel cnt current fronts sorted
          = some (fronts ++ extra) ∧
        List.Forall₂ List.Perm extra
          (leading ((peel domW (dominatedPart domW R)).map (carriers pop)) (k - sorted)) := by
  have hfnd := mapFitInd_nodup pop
  have hfspo := fits_spo pop m hlen
  intro fuel
  induction fuel with
  | zero =>
    intro R cnt current fronts sorted hRnd hRsub hdown hcur hcnt hsorted hfuel
    have hnil : dominatedPart domW R = [] := List.eq_nil_of_length_eq_zero (by omega)
    rw [hnil, carriers_nil] at hsorted
    refine ⟨[], ?_, ?_⟩
    · rw [whileLoop]; simp only [List.length_nil] at hsorted
      rw [if_neg (by omega)]; simp
    · rw [hnil, peel_nil]; simp [leading]
  | succ fuel ih =>
    intro R cnt current fronts sorted hRnd hRsub hdown hcur hcnt hsorted hfuel
    have hRrep : ∀ f ∈ dominatedPart domW R, ∃ x ∈ pop, x.w = f :=
      fun f hf => fits_rep pop f (hRsub f (dominatedPart_subset f hf))
    by_cases hlt : sorted < min pop.length k
    · -- one more iteration
      have hne : dominatedPart domW R ≠ [] := by
        intro h; rw [h, carriers_nil] at hsorted; simp only [List.length_nil] at hsorted; omega
      have hspo' : SPO domW (dominatedPart domW R) :=
        hfspo.mono (fun f hf => hRsub f (dominatedPart_subset f hf))
      obtain ⟨new, n1, n2, n3, n4, n5, n6⟩ := sweepFront_spec (mapFitInd pop) _ hfnd dominated hdom R hRsub hdown
        current hcur cnt hcnt sorted
      rw [whileLoop, if_pos hlt]
      generalize sweepFront (mapFitInd pop) dominated current cnt sorted = st at n1 n2 n3 n4 ⊢
      have hnd' : (dominatedPart domW R).Nodup := List.Pairwise.filter _ hRnd
      have hperm : (new.flatMap (dget (mapFitInd pop) [])).Perm
          (carriers pop (nondom domW (dominatedPart domW R))) := front_perm pop new _ n5 n6
      have hsplit := carriers_length_split pop (dominatedPart domW R) hRrep
      have hlenf := hperm.length_eq
      obtain ⟨extra, e1, e2⟩ := ih (dominatedPart domW R) st.cnt st.next (fronts ++ [st.front]) st.sorted
        hnd' (fun f hf => hRsub f (dominatedPart_subset f hf))
        (fun p hp f hf hd => mem_dominatedPart.2
          ⟨hdown p (dominatedPart_subset p hp) f hf hd, p, dominatedPart_subset p hp, hd⟩)
        (n1 ▸ (List.perm_ext_iff_of_nodup n5 (List.Pairwise.filter _ hnd')).2 n6) n4
        (by rw [n3, hlenf, Nat.add_assoc, ← hsplit, hsorted])
        (Nat.le_of_lt_succ (lt_of_lt_of_le (length_dominatedPart_lt hne hspo') hfuel))
      refine ⟨st.front :: extra, by simp only []; rw [e1]; simp, ?_⟩
      rw [peel_eq hne hspo', List.map_cons, leading,
        if_neg (Nat.sub_ne_zero_of_lt (lt_of_lt_of_le hlt (Nat.min_le_right _ _)))]
      refine List.Forall₂.cons (n2 ▸ hperm) ?_
      rwa [n3, hlenf, ← Nat.sub_sub] at e2
    · refine ⟨[], ?_, ?_⟩
      · rw [whileLoop, if_neg hlt]; simp
      · by_cases hne : dominatedPart domW R = []
        · rw [hne, peel_nil]; simp [leading]
        · have := List.length_pos_iff.2 (carriers_ne_nil pop _ hRrep hne)
          have : k - sorted = 0 := by omega
          rw [this, leading_zero]; exact List.Forall₂.nil

theorem fits_ne_nil (hpop : pop ≠ []) : dkeys (mapFitInd pop) ≠ [] := by
  obtain ⟨x, hx⟩ := List.exists_mem_of_ne_nil pop hpop
  exact List.ne_nil_of_mem ((mem_mapFitInd_keys pop x.w).2 ⟨x, hx, rfl⟩)

/-- the state after the double loop (emo.py:80-95) -/
def stdRanked : StdState α := rankFirst (dkeys (mapFitInd pop)) ⟨[], [], []⟩

/-- `fronts[0]` (emo.py:97-99): the individuals of the fitnesses left in `current_front` -/
def stdFront0 : List (Ind α) :=
  (stdRanked pop).current.foldl (fun acc f => acc ++ dget (mapFitInd pop) [] f) []

theorem sortStd_of_ne_zero (k : Nat) (hk : k ≠ 0) (firstFrontOnly : Bool) :
    sortStd pop k firstFrontOnly =
      if firstFrontOnly then some [stdFront0 pop]
      else whileLoop (mapFitInd pop) (stdRanked pop).dominated (min pop.length k) (dkeys (mapFitInd pop)).length
        (stdRanked pop).cnt (stdRanked pop).current [stdFront0 pop] (stdFront0 pop).length := by
  rw [sortStd, if_neg hk]; rfl

theorem stdFront0_perm (m : Nat) (hlen : ∀ x ∈ pop, x.w.length = m) :
    (stdFront0 pop).Perm (carriers pop (nondom domW (dkeys (mapFitInd pop)))) := by
  have hfnd := mapFitInd_nodup pop
  obtain ⟨_, _, p3⟩ := rankFirst_spec (dkeys (mapFitInd pop)) hfnd (fits_spo pop m hlen)
  rw [stdFront0, stdRanked, foldl_append_flatMap, List.nil_append, p3]
  exact front_perm pop _ _ (List.Pairwise.filter _ hfnd) (fun _ => Iff.rfl)

theorem sortStd_full (hpop : pop ≠ []) (m : Nat) (hlen : ∀ x ∈ pop, x.w.length = m) (k : Nat) (hk : k ≠ 0) :
    ∃ fronts, sortStd pop k false = some fronts ∧
      List.Forall₂ List.Perm fronts (leading (peel domI pop) k) := by
  have hfnd := mapFitInd_nodup pop
  have hfspo := fits_spo pop m hlen
  obtain ⟨p1, p2, p3⟩ := rankFirst_spec (dkeys (mapFitInd pop)) hfnd hfspo
  have hrep := fits_rep pop
  have hpeel : peel domI pop = (peel domW (dkeys (mapFitInd pop))).map (carriers pop) := by
    have := peel_carriers m pop hlen _ hfspo hrep
    rwa [carriers_fits] at this
  have hfront0 := stdFront0_perm pop m hlen
  have hsplit := carriers_length_split pop _ hrep
  rw [carriers_fits] at hsplit
  have hl0 := hfront0.length_eq
  rw [sortStd_of_ne_zero pop k hk, if_neg Bool.false_ne_true]
  obtain ⟨extra, e1, e2⟩ := whileLoop_spec pop m hlen _ p2 k (dkeys (mapFitInd pop)).length
    (dkeys (mapFitInd pop)) (stdRanked pop).cnt (stdRanked pop).current [stdFront0 pop] (stdFront0 pop).length hfnd
    (fun _ h => h) (fun _ _ _ h _ => h) (by rw [stdRanked, p3]) p1 (by omega) (List.length_filter_le _ _)
  refine ⟨_, e1, ?_⟩
  rw [hpeel, peel_eq (fits_ne_nil pop hpop) hfspo, List.map_cons, leading, if_neg hk]
  exact List.Forall₂.cons hfront0 (hl0 ▸ e2)

end Top

end C04L
