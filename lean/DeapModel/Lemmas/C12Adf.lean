/-
Helper lemmas for C12: compiling one ADF individual does not depend on what was compiled before.
-/
import DeapModel.Core.GpCompile

namespace GpCompile
open GpTree

theorem find_none_of_keys {β : Type} {d1 d2 : List (Str × β)} (hk : d1.map (·.1) = d2.map (·.1)) (x : Str)
    (h : d2.find? (fun e => e.1 == x) = none) : d1.find? (fun e => e.1 == x) = none := by
  rw [List.find?_eq_none] at h ⊢
  intro e he
  have : e.1 ∈ d1.map (·.1) := List.mem_map.2 ⟨e, he, rfl⟩
  rw [hk] at this
  obtain ⟨e', he', hee⟩ := List.mem_map.1 this
  have := h e' he'
  simpa [hee] using this

/-- rebinding over a context that still holds the ADFs of an earlier individual gives the same
namespace as rebinding over the original context, because every ADF name is bound again -/
theorem withAdfs_override (env : Env) {d1 d2 : List (Str × (List Val → Option Val))}
    (hk : d1.map (·.1) = d2.map (·.1)) : withAdfs (withAdfs env d1) d2 = withAdfs env d2 := by
  unfold withAdfs
  congr 1 <;> funext x <;> cases h : d2.find? (fun e => e.1 == x) with
  | some e => rfl
  | none => simp [find_none_of_keys hk x h]

theorem sessGo_keys : ∀ (items : List (PSig × Env × Tree)), (sessGo items).1.map (·.1) = items.map (·.1.name)
  | [] => rfl
  | (sg, ctx, t) :: rest => by simp [sessGo, sessGo_keys rest]

theorem mkItems_names : ∀ (sigs : List PSig) (cs : List Env) (A B : List Tree), A.length = B.length →
    (mkItems sigs cs A).map (·.1.name) = (mkItems sigs cs B).map (·.1.name)
  | [], _, _, _, _ => by simp [mkItems]
  | sg :: sgs, [], _, _, _ => by simp [mkItems]
  | sg :: sgs, c :: cs, [], [], _ => by simp [mkItems]
  | sg :: sgs, c :: cs, a :: A, b :: B, h => by simp [mkItems, mkItems_names sgs cs A B (by simpa using h)]
  | _ :: _, _ :: _, [], _ :: _, h => by simp at h
  | _ :: _, _ :: _, _ :: _, [], h => by simp at h

theorem sessGo_ctx_length : ∀ (sigs : List PSig) (cs : List Env) (A : List Tree),
    sigs.length = cs.length → cs.length = A.length → (sessGo (mkItems sigs cs A)).2.1.length = cs.length
  | [], [], [], _, _ => rfl
  | sg :: sgs, c :: cs, a :: A, h1, h2 => by
    simp [mkItems, sessGo, sessGo_ctx_length sgs cs A (by simpa using h1) (by simpa using h2)]
  | [], _ :: _, _, h1, _ => by simp at h1
  | _ :: _, [], _, h1, _ => by simp at h1
  | _ :: _, _ :: _, [], _, h2 => by simp at h2
  | [], [], _ :: _, _, h2 => by simp at h2

theorem sessGo_independent : ∀ (sigs : List PSig) (cs : List Env) (A B : List Tree),
    sigs.length = cs.length → cs.length = A.length → A.length = B.length →
    (sessGo (mkItems sigs (sessGo (mkItems sigs cs A)).2.1 B)).1 = (sessGo (mkItems sigs cs B)).1 ∧
    (sessGo (mkItems sigs (sessGo (mkItems sigs cs A)).2.1 B)).2.2 = (sessGo (mkItems sigs cs B)).2.2
  | [], [], [], [], _, _, _ => by simp [mkItems, sessGo]
  | sg :: sgs, c :: cs, a :: A, b :: B, h1, h2, h3 => by
    have h1' : sgs.length = cs.length := by simpa using h1
    have h2' : cs.length = A.length := by simpa using h2
    have h3' : A.length = B.length := by simpa using h3
    obtain ⟨ih1, _⟩ := sessGo_independent sgs cs A B h1' h2' h3'
    have hkeys : (sessGo (mkItems sgs cs A)).1.map (·.1) = (sessGo (mkItems sgs cs B)).1.map (·.1) := by
      rw [sessGo_keys, sessGo_keys]
      exact mkItems_names sgs cs A B h3'
    simp only [mkItems, sessGo]
    rw [ih1, withAdfs_override c hkeys]
    exact ⟨rfl, rfl⟩
  | [], _ :: _, _, _, h1, _, _ => by simp at h1
  | _ :: _, [], _, _, h1, _, _ => by simp at h1
  | _ :: _, _ :: _, [], _, _, h2, _ => by simp at h2
  | [], [], _ :: _, _, _, h2, _ => by simp at h2
  | _ :: _, _ :: _, _ :: _, [], _, _, h3 => by simp at h3
  | [], [], [], _ :: _, _, _, h3 => by simp at h3

theorem sessGo_eq_sem : ∀ (sigs : List PSig) (cs : List Env) (A : List Tree),
    (sessGo (mkItems sigs cs A)).1 =
      semADF ((mkItems sigs cs A).map (fun x => (⟨x.1.name, x.1.arguments, x.2.1⟩, x.2.2)))
  | [], _, _ => by simp [mkItems, sessGo, semADF]
  | sg :: sgs, [], _ => by simp [mkItems, sessGo, semADF]
  | sg :: sgs, c :: cs, [] => by simp [mkItems, sessGo, semADF]
  | sg :: sgs, c :: cs, a :: A => by
    simp only [mkItems, sessGo, List.map_cons, semADF]
    rw [sessGo_eq_sem sgs cs A]

theorem adf_fold (pts : List (CPset × Tree)) :
    pts.foldr (fun pt st => adfStep st pt) ([], none) =
      (semADF pts, ((semADF pts).head?).map (·.2)) := by
  induction pts with
  | nil => simp [semADF]
  | cons pt pts ih =>
    simp only [List.foldr_cons]
    rw [ih]
    simp [adfStep, semADF]

theorem sessGo_func (items : List (PSig × Env × Tree)) :
    (sessGo items).2.2 = ((sessGo items).1.head?).map (·.2) := by
  cases items with
  | nil => rfl
  | cons x rest => simp [sessGo]

end GpCompile
