/-
Helper lemmas for C06: the dominance / crowding-distance tournament `selTournamentDCD`.
-/
import DeapModel.Lemmas.C06

namespace C06L
open Selection

theorem dcdTourn_cases (pop : Pop) (a b : Nat) (t : Tape) :
    dcdTourn pop a b t = some (a, t) ∨ dcdTourn pop a b t = some (b, t) ∨
      dcdTourn pop a b t = (popRandom t).map fun p => (if p.1 ≤ 1 / 2 then a else b, p.2) := by
  unfold dcdTourn
  by_cases h1 : fitDom pop a b = true
  · exact .inl (if_pos h1)
  by_cases h2 : fitDom pop b a = true
  · exact .inr (.inl (by rw [if_neg h1, if_pos h2]))
  by_cases h3 : cdAt pop a < cdAt pop b
  · exact .inr (.inl (by rw [if_neg h1, if_neg h2, if_pos h3]))
  by_cases h4 : cdAt pop a > cdAt pop b
  · exact .inl (by rw [if_neg h1, if_neg h2, if_neg h3, if_pos h4])
  refine .inr (.inr ?_)
  rw [if_neg h1, if_neg h2, if_neg h3, if_neg h4]
  cases popRandom t <;> rfl

theorem dcdTourn_mem {pop : Pop} {a b w : Nat} {t t' : Tape} (h : dcdTourn pop a b t = some (w, t')) :
    w = a ∨ w = b := by
  rcases dcdTourn_cases pop a b t with e | e | e <;> rw [e] at h
  · cases h; exact .inl rfl
  · cases h; exact .inr rfl
  · obtain ⟨p, _, hp⟩ := Option.map_eq_some_iff.1 h
    cases hp; exact ite_eq_or_eq _ _ _

theorem dcdLoop_succ (pop : Pop) (m a b c d : Nat) (r1 : List Nat) (e f g h : Nat) (r2 : List Nat) (t : Tape) :
    dcdLoop pop (m + 1) (a :: b :: c :: d :: r1) (e :: f :: g :: h :: r2) t =
      (dcdTourn pop a b t).bind fun p1 => (dcdTourn pop c d p1.2).bind fun p2 =>
        (dcdTourn pop e f p2.2).bind fun p3 => (dcdTourn pop g h p3.2).bind fun p4 =>
          (dcdLoop pop m r1 r2 p4.2).map fun q => (p1.1 :: p2.1 :: p3.1 :: p4.1 :: q.1, q.2) := by
  rw [dcdLoop]
  rcases dcdTourn pop a b t with _ | ⟨w1, t1⟩; · rfl
  dsimp only [Option.bind_some]
  rcases dcdTourn pop c d t1 with _ | ⟨w2, t2⟩; · rfl
  dsimp only [Option.bind_some]
  rcases dcdTourn pop e f t2 with _ | ⟨w3, t3⟩; · rfl
  dsimp only [Option.bind_some]
  rcases dcdTourn pop g h t3 with _ | ⟨w4, t4⟩; · rfl
  dsimp only [Option.bind_some]
  rcases dcdLoop pop m r1 r2 t4 with _ | q <;> rfl

/-- a round needs four more entries of each list (`IndexError` otherwise) -/
theorem dcdLoop_succ_some {pop : Pop} {m : Nat} {l1 l2 : List Nat} {t : Tape} {r : List Nat × Tape}
    (h : dcdLoop pop (m + 1) l1 l2 t = some r) :
    ∃ a b c d r1 e f g k r2, l1 = a :: b :: c :: d :: r1 ∧ l2 = e :: f :: g :: k :: r2 := by
  by_contra hn
  rw [dcdLoop.eq_3 pop l1 l2 t m fun a b c d r1 e f g k r2 h1 h2 => hn ⟨a, b, c, d, r1, e, f, g, k, r2, h1, h2⟩] at h
  cases h

/-- Counting `x` in a list weighs each element `0` or `1`, and the winner of a pair weighs no more than the pair. -/
theorem count_weight (x : Nat) : ∃ δ : Nat → Nat, (∀ y l, List.count x (y :: l) = List.count x l + δ y) ∧
    ∀ {w a b : Nat}, w = a ∨ w = b → δ w ≤ δ a + δ b :=
  ⟨fun y => if (y == x) = true then 1 else 0, fun _ _ => List.count_cons, fun h => by
    rcases h with rfl | rfl
    exacts [Nat.le_add_right _ _, Nat.le_add_left _ _]⟩

theorem dcdLoop_spec {pop : Pop} {m : Nat} {l1 l2 res : List Nat} {t t' : Tape}
    (h : dcdLoop pop m l1 l2 t = some (res, t')) :
    res.length = 4 * m ∧ ∀ x, res.count x ≤ l1.count x + l2.count x := by
  induction m generalizing l1 l2 res t with
  | zero => cases h; exact ⟨rfl, fun _ => Nat.zero_le _⟩
  | succ m ih =>
    obtain ⟨a, b, c, d, r1, e, f, g, k, r2, rfl, rfl⟩ := dcdLoop_succ_some h
    simp only [dcdLoop_succ, Option.bind_eq_some_iff, Option.map_eq_some_iff] at h
    obtain ⟨p1, h1, p2, h2, p3, h3, p4, h4, q, h5, rfl, rfl⟩ := h
    obtain ⟨ihl, ihc⟩ := ih h5
    refine ⟨by simp only [List.length_cons, ihl, Nat.mul_succ], fun x => ?_⟩
    obtain ⟨δ, hc, hδ⟩ := count_weight x
    have c1 := hδ (dcdTourn_mem h1)
    have c2 := hδ (dcdTourn_mem h2)
    have c3 := hδ (dcdTourn_mem h3)
    have c4 := hδ (dcdTourn_mem h4)
    have := ihc x
    simp only [hc]
    omega

/-- The tape starts with at least `n` valid `random()` results: a supply, not a count — a tournament that dominance or
crowding distance decides reads no coin. -/
def Coins (n : Nat) (t : Tape) : Prop :=
  ∃ (cs : List Rat) (t0 : Tape), t = cs.map Draw.random ++ t0 ∧ n ≤ cs.length ∧ ∀ r ∈ cs, 0 ≤ r ∧ r < 1

theorem Coins.of_map {n : Nat} (cs : List Rat) (t0 : Tape) (hl : n ≤ cs.length) (hv : ∀ r ∈ cs, 0 ≤ r ∧ r < 1) :
    Coins n (cs.map Draw.random ++ t0) := ⟨cs, t0, rfl, hl, hv⟩

theorem Coins.mono {n : Nat} {t : Tape} : Coins (n + 1) t → Coins n t :=
  fun ⟨cs, t0, e, hl, hv⟩ => ⟨cs, t0, e, Nat.le_of_succ_le hl, hv⟩

theorem Coins.pop {n : Nat} {t : Tape} : Coins (n + 1) t → ∃ r t', popRandom t = some (r, t') ∧ Coins n t'
  | ⟨r :: cs, t0, e, hl, hv⟩ =>
    ⟨r, _, popRandom_some.2 ⟨e, hv r List.mem_cons_self⟩, cs, t0, rfl, Nat.le_of_succ_le_succ hl,
      fun q hq => hv q (List.mem_cons_of_mem _ hq)⟩

theorem dcdTourn_total (pop : Pop) (a b : Nat) {n : Nat} {t : Tape} (hc : Coins (n + 1) t) :
    ∃ w t', dcdTourn pop a b t = some (w, t') ∧ Coins n t' := by
  rcases dcdTourn_cases pop a b t with e | e | e
  · exact ⟨a, t, e, hc.mono⟩
  · exact ⟨b, t, e, hc.mono⟩
  · obtain ⟨r, t', hr, hc'⟩ := hc.pop
    exact ⟨_, t', by rw [e, hr]; rfl, hc'⟩

theorem exists_four {l : List Nat} {m : Nat} (h : 4 * (m + 1) ≤ l.length) :
    ∃ a b c d r, l = a :: b :: c :: d :: r ∧ 4 * m ≤ r.length := by
  rcases l with _ | ⟨a, _ | ⟨b, _ | ⟨c, _ | ⟨d, r⟩⟩⟩⟩
  case cons.cons.cons.cons => exact ⟨a, b, c, d, r, rfl, by simp only [List.length_cons] at h; omega⟩
  all_goals simp only [List.length_cons, List.length_nil] at h; omega

theorem dcdLoop_total (pop : Pop) (m : Nat) (l1 l2 : List Nat) (t : Tape)
    (h1 : 4 * m ≤ l1.length) (h2 : 4 * m ≤ l2.length) (hc : Coins (4 * m) t) :
    ∃ res t', dcdLoop pop m l1 l2 t = some (res, t') := by
  induction m generalizing l1 l2 t with
  | zero => exact ⟨[], t, rfl⟩
  | succ m ih =>
    obtain ⟨a, b, c, d, r1, rfl, h1'⟩ := exists_four h1
    obtain ⟨e, f, g, h, r2, rfl, h2'⟩ := exists_four h2
    obtain ⟨w1, t1, e1, hc⟩ := dcdTourn_total pop a b (n := 4 * m + 3) hc
    obtain ⟨w2, t2, e2, hc⟩ := dcdTourn_total pop c d hc
    obtain ⟨w3, t3, e3, hc⟩ := dcdTourn_total pop e f hc
    obtain ⟨w4, t4, e4, hc⟩ := dcdTourn_total pop g h hc
    obtain ⟨res, t5, e5⟩ := ih r1 r2 t4 h1' h2' hc
    exact ⟨w1 :: w2 :: w3 :: w4 :: res, t5, by simp only [dcdLoop_succ, e1, e2, e3, e4, e5, Option.bind_some, Option.map_some]⟩

/-- `for i in range(0, k, 4)` makes `⌈k/4⌉` rounds of four: for `4 ∣ k` that is `k` selections -/
theorem four_mul_rounds {k : Nat} (h : 4 ∣ k) : 4 * ((k + 3) / 4) = k := by
  obtain ⟨m, rfl⟩ := h
  omega

theorem selTournamentDCD_some {pop : Pop} {k : Nat} {t t' : Tape} {res : List Nat}
    (h : selTournamentDCD pop k t = some (res, t')) :
    k ≤ pop.length ∧ ∃ p1 p2 t2, t = Draw.sample p1 :: Draw.sample p2 :: t2 ∧
      p1.Perm (List.range pop.length) ∧ p2.Perm (List.range pop.length) ∧
      dcdLoop pop ((k + 3) / 4) p1 p2 t2 = some (res, t') := by
  simp only [selTournamentDCD, Option.ite_none_left_eq_some] at h
  obtain ⟨hk, -, h⟩ := h
  rcases h1 : popSample pop.length t with _ | ⟨p1, t1⟩ <;> rw [h1] at h
  · cases h
  dsimp only at h
  rcases h2 : popSample pop.length t1 with _ | ⟨p2, t2⟩ <;> rw [h2] at h
  · cases h
  obtain ⟨rfl, hp1⟩ := popSample_some.1 h1
  obtain ⟨rfl, hp2⟩ := popSample_some.1 h2
  exact ⟨Nat.le_of_not_gt hk, p1, p2, t2, rfl, hp1, hp2, h⟩

end C06L
