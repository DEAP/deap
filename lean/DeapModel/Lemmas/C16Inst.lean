/-
C16 — the basics every C16 proof uses (`define`, `lookup` / `dictSet` / `dictUpdate`, the elementwise relation
`All2`, `mapSt`), allocation-only state extensions (`Ext`), and instantiation (`newInst` / `instAttrs` /
`create`): success under a well-founded class table, and what a successful run did under any table.
-/
import DeapModel.Lemmas.C16Defs
import DeapModel.Lemmas.Dict

namespace Heap

theorem define_same (objs : Oid → Option Obj) (x : Oid) (o : Obj) : define objs x o x = some o :=
  if_pos rfl

theorem define_ne (objs : Oid → Option Obj) (x : Oid) (o : Obj) {y : Oid} (h : y ≠ x) :
    define objs x o y = objs y :=
  if_neg h

theorem define_isSome (objs : Oid → Option Obj) (x : Oid) (o : Obj) {y : Oid}
    (h : (objs y).isSome = true) : (define objs x o y).isSome = true := by
  unfold define
  split
  · rfl
  · exact h

theorem lookup_cons {β : Type} (k k' : Nat) (v : β) (r : List (Nat × β)) :
    lookup k ((k', v) :: r) = if k' = k then some v else lookup k r := rfl

theorem lookup_eq {β : Type} (k : Nat) (l : List (Nat × β)) : lookup k l = l.lookup k := by
  induction l with
  | nil => rfl
  | cons p r ih => obtain ⟨k', v⟩ := p; rw [lookup_cons, Dict.lookup_cons, ih]; by_cases h : k' = k <;> simp [h, Ne.symm]

theorem dictSet_eq (k : Name) (v : Val) (l : List (Name × Val)) : dictSet k v l = Dict.upsert (fun _ => v) k l := by
  induction l with
  | nil => rfl
  | cons p r ih => simp only [dictSet, Dict.upsert, ih]; split <;> simp_all

theorem lookup_mem {β : Type} {k : Nat} {l : List (Nat × β)} {v : β}
    (h : lookup k l = some v) : (k, v) ∈ l := Dict.mem_of_lookup (lookup_eq k l ▸ h)

theorem lookup_isSome_iff {β : Type} (k : Nat) (l : List (Nat × β)) :
    (lookup k l).isSome = true ↔ k ∈ l.map (·.1) := lookup_eq k l ▸ Dict.lookup_isSome_iff_keys

theorem lookup_dictSet (k k' : Name) (v : Val) (l : List (Name × Val)) :
    lookup k (dictSet k' v l) = if k' = k then some v else lookup k l := by
  rw [lookup_eq, dictSet_eq, Dict.lookup_upsert, lookup_eq]; by_cases h : k' = k <;> simp [h, Ne.symm]

theorem dictUpdate_cons (base : List (Name × Val)) (p : Name × Val) (new : List (Name × Val)) :
    dictUpdate base (p :: new) = dictSet p.1 p.2 (dictUpdate base new) := rfl

theorem lookup_dictUpdate (k : Name) (base new : List (Name × Val)) :
    lookup k (dictUpdate base new) =
      match lookup k new with
      | some v => some v
      | none => lookup k base := by
  induction new with
  | nil => rfl
  | cons p r ih =>
    rw [dictUpdate_cons, lookup_dictSet, lookup_cons, ih]
    split <;> rfl

theorem lookup_dictUpdate_cover {base new : List (Name × Val)}
    (hcover : ∀ k, (lookup k base).isSome = true → (lookup k new).isSome = true) (k : Name) :
    lookup k (dictUpdate base new) = lookup k new := by
  rw [lookup_dictUpdate]
  cases h : lookup k new with
  | some v => rfl
  | none =>
    cases hb : lookup k base with
    | none => rfl
    | some w => have := hcover k (by rw [hb]; rfl); rw [h] at this; cases this

theorem mem_dictSet {k : Name} {v : Val} {l : List (Name × Val)} {p : Name × Val}
    (h : p ∈ dictSet k v l) : p = (k, v) ∨ p ∈ l := (Dict.mem_upsert _ k l p (dictSet_eq k v l ▸ h)).symm

theorem mem_dictUpdate {base new : List (Name × Val)} {p : Name × Val}
    (h : p ∈ dictUpdate base new) : p ∈ base ∨ p ∈ new := by
  induction new with
  | nil => exact Or.inl h
  | cons q r ih =>
    rcases mem_dictSet h with h | h
    · exact Or.inr (h ▸ List.mem_cons_self)
    · exact (ih h).imp_right (List.mem_cons_of_mem _)

theorem lookup_filter_ne {β : Type} (k name : Nat) (hk : k ≠ name) (l : List (Nat × β)) :
    lookup k (l.filter (fun p => p.1 != name)) = lookup k l := by
  induction l with
  | nil => rfl
  | cons p r ih =>
    obtain ⟨k', v⟩ := p
    by_cases h : k' = name
    · subst h
      have hne : ¬ k' = k := fun e => hk e.symm
      simp [List.filter, lookup, hne, ih]
    · simp [h, lookup_cons, ih]

namespace Copy

theorem lookup_mem_snd {β : Type} (k : Nat) (l : List (Nat × β)) (v : β)
    (h : lookup k l = some v) : v ∈ l.map (·.2) :=
  List.mem_map.2 ⟨(k, v), lookup_mem h, rfl⟩

theorem lookup_eq_none_iff {β : Type} (k : Nat) (l : List (Nat × β)) :
    lookup k l = none ↔ k ∉ l.map (·.1) := lookup_eq k l ▸ Dict.lookup_eq_none_iff_keys

theorem nodup_dictSet {k : Name} {v : Val} {l : List (Name × Val)}
    (hn : (l.map (·.1)).Nodup) : ((dictSet k v l).map (·.1)).Nodup :=
  dictSet_eq k v l ▸ Dict.nodup_keys_upsert _ k l hn

theorem nodup_dictUpdate {base new : List (Name × Val)}
    (hn : (base.map (·.1)).Nodup) : ((dictUpdate base new).map (·.1)).Nodup := by
  induction new with
  | nil => exact hn
  | cons p r ih => exact nodup_dictSet ih

theorem lookup_of_mem_nodup {β : Type} {l : List (Nat × β)} (hn : (l.map (·.1)).Nodup)
    {q : Nat × β} (hq : q ∈ l) : lookup q.1 l = some q.2 := (lookup_eq q.1 l).trans (Dict.lookup_of_mem hn hq)

end Copy

theorem lookup_baseInitAttrs {k : Kind} {n : Name} {v : Val}
    (h : lookup n (baseInitAttrs k) = some v) : k = .cfitness ∧ n = cvName ∧ v = .atom noneAtom := by
  cases k with
  | cfitness =>
    rw [baseInitAttrs, lookup_cons] at h
    split at h
    · rename_i hn
      cases h
      exact ⟨rfl, hn.symm, rfl⟩
    · cases h
  | _ => cases h

theorem baseInitAttrs_atom (k : Kind) : ∀ p ∈ baseInitAttrs k, p.2.isAtom = true := by
  intro p hp
  cases k with
  | cfitness => rw [List.mem_singleton.1 hp]; rfl
  | _ => cases hp

theorem lookup_newAttrs_of_guard {kind : Kind} {k : Name} (hguard : kind = .cfitness → k ≠ cvName)
    (attrs : List (Name × Val)) : lookup k (dictUpdate attrs (baseInitAttrs kind)) = lookup k attrs := by
  rw [lookup_dictUpdate]
  split
  · rename_i w hb
    exact absurd (lookup_baseInitAttrs hb).2.1 (hguard (lookup_baseInitAttrs hb).1)
  · rfl

/-- Element by element related lists (core has no `List.Forall₂`, and C16 is Mathlib-free). -/
inductive All2 {α β : Type} (R : α → β → Prop) : List α → List β → Prop
  | nil : All2 R [] []
  | cons {a : α} {b : β} {as : List α} {bs : List β} : R a b → All2 R as bs →
      All2 R (a :: as) (b :: bs)

theorem All2.mono {α β : Type} {R S : α → β → Prop} {as : List α} {bs : List β}
    (h : All2 R as bs) (hRS : ∀ a b, R a b → S a b) : All2 S as bs := by
  induction h with
  | nil => exact .nil
  | cons h _ ih => exact .cons (hRS _ _ h) ih

theorem All2.length_eq {α β : Type} {R : α → β → Prop} {as : List α} {bs : List β}
    (h : All2 R as bs) : as.length = bs.length := by
  induction h with
  | nil => rfl
  | cons _ _ ih => simp [ih]

theorem All2.map_eq {α β γ : Type} {R : α → β → Prop} {g : α → γ} {h : β → γ}
    (hR : ∀ a b, R a b → g a = h b) {as : List α} {bs : List β} (hab : All2 R as bs) :
    as.map g = bs.map h := by
  induction hab with
  | nil => rfl
  | cons h1 _ ih => rw [List.map_cons, List.map_cons, hR _ _ h1, ih]

theorem All2.mem_right {α β : Type} {R : α → β → Prop} {as : List α} {bs : List β}
    (h : All2 R as bs) : ∀ b ∈ bs, ∃ a ∈ as, R a b := by
  induction h with
  | nil => intro b hb; cases hb
  | cons h1 _ ih =>
    intro b hb
    rcases List.mem_cons.1 hb with rfl | hb
    · exact ⟨_, List.mem_cons_self, h1⟩
    · obtain ⟨a, ha, hr⟩ := ih b hb
      exact ⟨a, List.mem_cons_of_mem _ ha, hr⟩

theorem _root_.Option.Rel.mono {β γ : Type} {R S : β → γ → Prop} {b : Option β} {c : Option γ}
    (h : Option.Rel R b c) (hRS : ∀ v w, R v w → S v w) : Option.Rel S b c := by
  cases h with
  | none => exact .none
  | some h => exact .some (hRS _ _ h)

theorem _root_.Option.Rel.isSome_eq {β γ : Type} {R : β → γ → Prop} {b : Option β} {c : Option γ}
    (h : Option.Rel R b c) : c.isSome = b.isSome := by
  cases h <;> rfl

theorem rel_some_left {β γ : Type} {R : β → γ → Prop} {a : β} {o : Option γ} (h : Option.Rel R (some a) o) :
    ∃ b, o = some b ∧ R a b := by
  cases h with
  | some hab => exact ⟨_, rfl, hab⟩

theorem rel_some_right {β γ : Type} {R : β → γ → Prop} {o : Option β} {b : γ} (h : Option.Rel R o (some b)) :
    ∃ a, o = some a ∧ R a b := by
  cases h with
  | some hab => exact ⟨_, rfl, hab⟩

theorem All2.lookup {β γ : Type} {R : β → γ → Prop} {l : List (Nat × β)} {l' : List (Nat × γ)}
    (h : All2 (fun p q => q.1 = p.1 ∧ R p.2 q.2) l l') (k : Nat) :
    Option.Rel R (lookup k l) (lookup k l') := by
  induction h with
  | nil => exact .none
  | @cons p q _ _ hr _ ih =>
    obtain ⟨a, b⟩ := p
    obtain ⟨a', b'⟩ := q
    obtain ⟨rfl, h2⟩ : a' = a ∧ R b b' := hr
    rw [lookup_cons, lookup_cons]
    split
    · exact .some h2
    · exact ih

theorem All2.zip {α β : Type} {R : α → β → Prop} {as : List α} {bs : List β} (h : All2 R as bs) :
    ∀ names : List Nat, All2 (fun p q => q.1 = p.1 ∧ R p.2 q.2) (names.zip as) (names.zip bs) := by
  induction h with
  | nil => intro names; cases names <;> exact .nil
  | cons h1 _ ih =>
    intro names
    cases names with
    | nil => exact .nil
    | cons n ns => exact .cons ⟨rfl, h1⟩ (ih ns)

theorem All2.lookup_zip {α β : Type} {R : α → β → Prop} {as : List α} {bs : List β} (h : All2 R as bs)
    (names : List Nat) (k : Nat) :
    Option.Rel R (Heap.lookup k (names.zip as)) (Heap.lookup k (names.zip bs)) :=
  (h.zip names).lookup k

theorem mapSt_cons_some {σ α β : Type} {f : σ → α → Option (σ × β)} {s s1 s2 : σ} {a : α}
    {as : List α} {b : β} {bs : List β} (h1 : f s a = some (s1, b))
    (h2 : mapSt f s1 as = some (s2, bs)) : mapSt f s (a :: as) = some (s2, b :: bs) := by
  simp only [mapSt, h1, h2]

theorem mapSt_cons_inv {σ α β : Type} {f : σ → α → Option (σ × β)} {s s2 : σ} {a : α}
    {as : List α} {l : List β} (h : mapSt f s (a :: as) = some (s2, l)) :
    ∃ s1 b bs, f s a = some (s1, b) ∧ mapSt f s1 as = some (s2, bs) ∧ l = b :: bs := by
  simp only [mapSt] at h
  split at h
  · cases h
  · rename_i s1 b h1
    split at h
    · cases h
    · rename_i s2' bs h2
      cases h
      exact ⟨s1, b, bs, h1, h2, rfl⟩

/-- Generic `mapSt` lemma: a relational invariant `R` (reflexive under `I`, transitive) that every
successful step establishes — and every step succeeds under the state invariant `I` — holds between
the input and the output state, and every output element satisfies what its step guarantees
(`Q`, stable under later steps). -/
theorem mapSt_spec {σ α β : Type} (f : σ → α → Option (σ × β))
    (I : σ → Prop) (R : σ → σ → Prop) (Pa : α → Prop) (Q : σ → σ → α → β → Prop)
    (hrefl : ∀ s, I s → R s s)
    (htrans : ∀ s s1 s2, R s s1 → R s1 s2 → R s s2)
    (hI : ∀ s s1, I s → R s s1 → I s1)
    (hQl : ∀ s s1 s2 a b, R s s1 → R s1 s2 → Q s s1 a b → Q s s2 a b)
    (hQr : ∀ s s1 s2 a b, R s s1 → R s1 s2 → Q s1 s2 a b → Q s s2 a b)
    (hstep : ∀ s a, Pa a → ∃ s1 b, f s a = some (s1, b) ∧ (I s → R s s1 ∧ Q s s1 a b)) :
    ∀ (l : List α) (s : σ), (∀ a ∈ l, Pa a) →
      ∃ s' bs, mapSt f s l = some (s', bs) ∧ bs.length = l.length ∧
        (I s → R s s' ∧ ∀ i (hi : i < l.length) (hi' : i < bs.length), Q s s' l[i] bs[i]) := by
  intro l
  induction l with
  | nil =>
    intro s _
    refine ⟨s, [], rfl, rfl, fun hs => ⟨hrefl s hs, ?_⟩⟩
    intro i hi
    cases hi
  | cons a as ih =>
    intro s hPa
    obtain ⟨s1, b, h1, h1'⟩ := hstep s a (hPa a (List.mem_cons_self))
    obtain ⟨s2, bs, h2, hlen, h2'⟩ := ih s1 (fun a' ha' => hPa a' (List.mem_cons_of_mem _ ha'))
    refine ⟨s2, b :: bs, mapSt_cons_some h1 h2, by simp [hlen], ?_⟩
    intro hs
    obtain ⟨hR1, hQ1⟩ := h1' hs
    obtain ⟨hR2, hQ2⟩ := h2' (hI s s1 hs hR1)
    refine ⟨htrans _ _ _ hR1 hR2, ?_⟩
    intro i hi hi'
    cases i with
    | zero => exact hQl _ _ _ _ _ hR1 hR2 hQ1
    | succ j =>
      have hj : j < as.length := by simpa using hi
      have hj' : j < bs.length := by simpa using hi'
      exact hQr _ _ _ _ _ hR1 hR2 (hQ2 j hj hj')

theorem mapSt_succeeds {σ α β : Type} {f : σ → α → Option (σ × β)} {l : List α}
    (h : ∀ a ∈ l, ∀ s, ∃ r, f s a = some r) (s : σ) : ∃ r, mapSt f s l = some r := by
  induction l generalizing s with
  | nil => exact ⟨_, rfl⟩
  | cons a as ih =>
    obtain ⟨⟨s1, b⟩, h1⟩ := h a List.mem_cons_self s
    obtain ⟨⟨s2, bs⟩, h2⟩ := ih (fun a' ha' => h a' (List.mem_cons_of_mem _ ha')) s1
    exact ⟨_, mapSt_cons_some h1 h2⟩

/-- From a successful `mapSt`: an invariant `I`, a transitive relation `E` between the states and a per-element fact
`R` (stable along `E`) that every successful step establishes hold of the whole run; nothing is asked of failing steps. -/
theorem mapSt_of_eq {σ α β : Type} {f : σ → α → Option (σ × β)} {I : σ → Prop} {E : σ → σ → Prop}
    {R : σ → α → β → Prop} (hrefl : ∀ s, I s → E s s) (htrans : ∀ s s1 s2, E s s1 → E s1 s2 → E s s2)
    (hR : ∀ s s1 a b, I s → E s s1 → R s a b → R s1 a b) :
    ∀ (l : List α), (∀ a ∈ l, ∀ s s1 b, I s → f s a = some (s1, b) → I s1 ∧ E s s1 ∧ R s1 a b) →
      ∀ s s' bs, I s → mapSt f s l = some (s', bs) → I s' ∧ E s s' ∧ All2 (R s') l bs := by
  intro l
  induction l with
  | nil =>
    intro _ s s' bs hs h
    cases h
    exact ⟨hs, hrefl s hs, .nil⟩
  | cons a as ih =>
    intro hstep s s' l' hs h
    obtain ⟨s1, b, bs, h1, h2, rfl⟩ := mapSt_cons_inv h
    obtain ⟨hI1, hE1, hR1⟩ := hstep a List.mem_cons_self s s1 b hs h1
    obtain ⟨hI2, hE2, hR2⟩ := ih (fun a' ha' => hstep a' (List.mem_cons_of_mem _ ha')) s1 s' bs hI1 h2
    exact ⟨hI2, htrans _ _ _ hE1 hE2, .cons (hR s1 s' a b hI1 hE2 hR1) hR2⟩

def Bounded (st : State) : Prop := ∀ x, st.next ≤ x → st.objs x = none

theorem Bounded.lt {st : State} (hb : Bounded st) {x : Oid} {o : Obj} (h : st.objs x = some o) :
    x < st.next :=
  Nat.lt_of_not_le fun hle => by rw [hb x hle] at h; cases h

theorem Bounded.reserve {st : State} (hb : Bounded st) : Bounded ⟨st.objs, st.next + 1, st.memo⟩ :=
  fun x hx => hb x (Nat.le_of_succ_le hx)

/-- A child value of an object allocated in `[lo, hi)`: a reference into `[lo, hi)` to a defined
object, or (only if `A` holds) an atom. -/
def ChildIn (A : Prop) (objs : Oid → Option Obj) (lo hi : Nat) : Val → Prop
  | .atom _ => A
  | .ref y => lo ≤ y ∧ y < hi ∧ (objs y).isSome = true

theorem ChildIn.mono {A : Prop} {objs objs' : Oid → Option Obj} {lo hi lo' hi' : Nat} {c : Val}
    (h : ChildIn A objs lo hi c) (hlo : lo' ≤ lo) (hhi : hi ≤ hi')
    (hobjs : ∀ y, lo ≤ y → y < hi → (objs y).isSome = true → (objs' y).isSome = true) :
    ChildIn A objs' lo' hi' c := by
  cases c with
  | atom a => exact h
  | ref y =>
    obtain ⟨h1, h2, h3⟩ := h
    exact ⟨Nat.le_trans hlo h1, Nat.lt_of_lt_of_le h2 hhi, hobjs y h1 h2 h3⟩

theorem ChildIn.weaken {A B : Prop} {objs : Oid → Option Obj} {lo hi : Nat} {c : Val}
    (h : ChildIn A objs lo hi c) (hab : A → B) : ChildIn B objs lo hi c := by
  cases c with
  | atom a => exact hab h
  | ref y => exact h

theorem ChildIn.of_isAtom {objs : Oid → Option Obj} {lo hi : Nat} {c : Val} (h : c.isAtom = true) :
    ChildIn True objs lo hi c := by
  cases c with
  | atom a => trivial
  | ref y => cases h

theorem ChildIn.toDefine {A : Prop} {lo hi lo' hi' : Nat} {v : Val} {objs : Oid → Option Obj}
    (h : ChildIn A objs lo hi v) (x : Oid) (o : Obj) (hlo : lo' ≤ lo) (hhi : hi ≤ hi') :
    ChildIn A (define objs x o) lo' hi' v :=
  h.mono hlo hhi (fun _ _ _ hs => define_isSome _ _ _ hs)

/-- `st'` arises from `st` by allocation only: the memo is untouched, old slots (also reserved,
still undefined ones below `st.next`) keep their content, nothing lies beyond the new counter, and
every object in a slot `≥ st.next` refers only to defined objects allocated in `[st.next, st'.next)`
(atoms are allowed as children only if `A`). -/
structure Ext (A : Prop) (st st' : State) : Prop where
  memo : st'.memo = st.memo
  le : st.next ≤ st'.next
  old : ∀ x, x < st.next → st'.objs x = st.objs x
  bound : Bounded st'
  closed : ∀ x o, st.next ≤ x → st'.objs x = some o →
    ∀ c ∈ o.children, ChildIn A st'.objs st.next st'.next c

theorem Ext.refl {A : Prop} {st : State} (hb : Bounded st) : Ext A st st where
  memo := rfl
  le := Nat.le_refl _
  old := fun _ _ => rfl
  bound := hb
  closed := by
    intro x o hx ho
    rw [hb x hx] at ho
    cases ho

theorem Ext.weaken {A B : Prop} {st st' : State} (h : Ext A st st') (hab : A → B) :
    Ext B st st' where
  memo := h.memo
  le := h.le
  old := h.old
  bound := h.bound
  closed := fun x o hx ho c hc => (h.closed x o hx ho c hc).weaken hab

theorem ChildIn.ext {A B : Prop} {lo hi : Nat} {v : Val} {s1 s2 : State}
    (h : ChildIn A s1.objs lo hi v) (hE : Ext B s1 s2) (hhi : hi ≤ s1.next) :
    ChildIn A s2.objs lo hi v :=
  h.mono (Nat.le_refl _) (Nat.le_refl _) (fun y _ hy hs => by
    rw [hE.old y (Nat.lt_of_lt_of_le hy hhi)]; exact hs)

theorem Ext.trans {A : Prop} {st st1 st2 : State} (h1 : Ext A st st1) (h2 : Ext A st1 st2) :
    Ext A st st2 where
  memo := h2.memo.trans h1.memo
  le := Nat.le_trans h1.le h2.le
  old := fun x hx => (h2.old x (Nat.lt_of_lt_of_le hx h1.le)).trans (h1.old x hx)
  bound := h2.bound
  closed := by
    intro x o hx ho c hc
    by_cases hx1 : x < st1.next
    · rw [h2.old x hx1] at ho
      exact ((h1.closed x o hx ho c hc).ext h2 (Nat.le_refl _)).mono (Nat.le_refl _) h2.le
        (fun _ _ _ h => h)
    · exact (h2.closed x o (Nat.le_of_not_lt hx1) ho c hc).mono h1.le (Nat.le_refl _)
        (fun _ _ _ h => h)

theorem Ext.keeps {A : Prop} {s s' : State} (hE : Ext A s s') (hb : Bounded s) {x : Oid} {o : Obj}
    (ho : s.objs x = some o) : s'.objs x = some o :=
  (hE.old x (hb.lt ho)).trans ho

theorem Bounded.reserve_define {A : Prop} {st sb : State} {o : Obj}
    (h : Ext A ⟨st.objs, st.next + 1, st.memo⟩ sb) :
    Bounded ⟨define sb.objs st.next o, sb.next, sb.memo⟩ := by
  intro x hx
  have hle : st.next + 1 ≤ sb.next := h.le
  have hx' : sb.next ≤ x := hx
  have hne : x ≠ st.next := by omega
  exact (define_ne _ _ _ hne).trans (h.bound x hx)

theorem Ext.reserve_define {A : Prop} {st sb : State} {o : Obj}
    (h : Ext A ⟨st.objs, st.next + 1, st.memo⟩ sb)
    (ho : ∀ c ∈ o.children, ChildIn A (define sb.objs st.next o) st.next sb.next c) :
    Ext A st ⟨define sb.objs st.next o, sb.next, sb.memo⟩ where
  memo := h.memo
  le := Nat.le_trans (Nat.le_succ _) h.le
  old := fun x hx =>
    (define_ne _ _ _ (Nat.ne_of_lt hx)).trans (h.old x (Nat.lt_succ_of_lt hx))
  bound := Bounded.reserve_define h
  closed := by
    intro x o2 hx ho2 c hc
    have ho2' : define sb.objs st.next o x = some o2 := ho2
    by_cases hxe : x = st.next
    · subst hxe
      rw [define_same] at ho2'
      cases ho2'
      exact ho c hc
    · rw [define_ne _ _ _ hxe] at ho2'
      exact (h.closed x o2 (by show st.next + 1 ≤ x; omega) ho2' c hc).toDefine _ _ (Nat.le_succ _)
        (Nat.le_refl _)

theorem Closed.get {objs : Oid → Option Obj} {N : Nat} (hcl : Closed objs N) {x y : Oid} {o : Obj}
    (ho : objs x = some o) (hy : Val.ref y ∈ o.children) : ∃ oy, objs y = some oy :=
  Option.isSome_iff_exists.1 (hcl.refs x o ho y hy)

theorem Ext.closed_heap {A : Prop} {st st' : State} (hE : Ext A st st')
    (hcl : Closed st.objs st.next) : Closed st'.objs st'.next where
  bound := hE.bound
  refs := by
    intro x o ho y hy
    by_cases hx : x < st.next
    · rw [hE.old x hx] at ho
      obtain ⟨oy, hoy⟩ := hcl.get ho hy
      rw [hE.keeps hcl.bound hoy]
      rfl
    · exact (hE.closed x o (Nat.le_of_not_lt hx) ho _ hy).2.2

theorem reach_closed {objs : Oid → Option Obj} (S : Oid → Prop)
    (hS : ∀ x o, S x → objs x = some o → ∀ y, Val.ref y ∈ o.children → S y)
    {v : Val} {y : Oid} (h : Reach objs v y) : (∀ x, v = Val.ref x → S x) → S y := by
  induction h with
  | here x => intro hx; exact hx x rfl
  | step x o c y ho hc _ ih =>
    intro hx
    apply ih
    intro x' hx'
    subst hx'
    exact hS x o (hx x rfl) ho x' hc

/-- The step function of `init_type` with fuel `n`. -/
def instStep (ct : ClassTable) (n : Nat) (s : State) (p : Name × ClsId) :
    Option (State × (Name × Val)) :=
  match newInst ct n s p.2 [] with
  | none => none
  | some (s', y) => some (s', (p.1, Val.ref y))

theorem instStep_of_eq {ct : ClassTable} {n : Nat} {s s' : State} {p : Name × ClsId} {q : Name × Val}
    (h : instStep ct n s p = some (s', q)) :
    ∃ y, newInst ct n s p.2 [] = some (s', y) ∧ q = (p.1, Val.ref y) := by
  unfold instStep at h
  split at h
  · cases h
  · rename_i s1 y hrun
    cases h
    exact ⟨y, hrun, rfl⟩

theorem instStep_of_newInst {ct : ClassTable} {n : Nat} {s s' : State} {p : Name × ClsId} {y : Oid}
    (h : newInst ct n s p.2 [] = some (s', y)) : instStep ct n s p = some (s', (p.1, Val.ref y)) := by
  unfold instStep
  rw [h]

theorem newInst_succ (ct : ClassTable) (n : Nat) (st : State) (c : ClsId) (items : List Val) :
    newInst ct (n + 1) st c items =
      match ct[c]? with
      | none => none
      | some ci =>
        match mapSt (instStep ct n) ⟨st.objs, st.next + 1, st.memo⟩ ci.dictInst with
        | none => none
        | some (sb, attrs) =>
          some (⟨define sb.objs st.next
              ⟨c, items, dictUpdate attrs (baseInitAttrs ci.kind), ci.kind != .node⟩, sb.next,
              sb.memo⟩, st.next) := by
  rfl

theorem newInst_succ_inv {ct : ClassTable} {n : Nat} {st st' : State} {c : ClsId} {items : List Val}
    {x : Oid} (h : newInst ct (n + 1) st c items = some (st', x)) :
    ∃ ci sb attrs, ct[c]? = some ci ∧
      mapSt (instStep ct n) ⟨st.objs, st.next + 1, st.memo⟩ ci.dictInst = some (sb, attrs) ∧
      x = st.next ∧ st' = ⟨define sb.objs st.next
        ⟨c, items, dictUpdate attrs (baseInitAttrs ci.kind), ci.kind != .node⟩, sb.next, sb.memo⟩ := by
  rw [newInst_succ] at h
  split at h
  · cases h
  · rename_i ci hci
    split at h
    · cases h
    · rename_i sb attrs hrun
      cases h
      exact ⟨ci, sb, attrs, hci, hrun, rfl, rfl⟩

theorem CTOk.of_forall_lt {ct : ClassTable}
    (h : ∀ c (hc : c < ct.length), ∀ p ∈ ct[c].dictInst, p.2 < c) : CTOk ct := by
  intro c ci hci p hp
  obtain ⟨hc, rfl⟩ := List.getElem?_eq_some_iff.1 hci
  exact h c hc p hp

theorem newInst_succeeds (ct : ClassTable) (hct : CTOk ct) :
    ∀ (fuel : Nat) (st : State) (c : ClsId) (items : List Val), c < ct.length → c < fuel →
      ∃ r, newInst ct fuel st c items = some r := by
  intro fuel
  induction fuel with
  | zero => intro st c items _ h; cases h
  | succ n ih =>
    intro st c items hc hcn
    have hci : ct[c]? = some ct[c] := List.getElem?_eq_getElem hc
    obtain ⟨⟨sb, attrs⟩, hrun⟩ := mapSt_succeeds (f := instStep ct n) (l := ct[c].dictInst)
      (fun p hp s => by
        have hlt : p.2 < c := hct c _ hci p hp
        obtain ⟨⟨s', y⟩, h⟩ := ih s p.2 [] (Nat.lt_trans hlt hc) (Nat.lt_of_lt_of_le hlt (Nat.le_of_lt_succ hcn))
        exact ⟨_, instStep_of_newInst h⟩)
      ⟨st.objs, st.next + 1, st.memo⟩
    rw [newInst_succ, hci]
    simp only [hrun]
    exact ⟨_, rfl⟩

theorem instAttrs_succeeds (ct : ClassTable) (hct : CTOk ct) (st : State) {c : ClsId} {ci : ClassInfo}
    (hci : ct[c]? = some ci) : ∃ r, instAttrs ct st ci.dictInst = some r := by
  obtain ⟨hc, _⟩ := List.getElem?_eq_some_iff.1 hci
  refine mapSt_succeeds (fun p hp s => ?_) st
  have hlt : p.2 < ct.length := Nat.lt_trans (hct c ci hci p hp) hc
  obtain ⟨⟨s', y⟩, h⟩ := newInst_succeeds ct hct ct.length s p.2 [] hlt hlt
  exact ⟨_, instStep_of_newInst h⟩

/-- What the attribute loop produces for one `dict_inst` entry: under the declared name a reference to a
defined object of the declared class, allocated in `[lo, hi)`. -/
def AttrIn (objs : Oid → Option Obj) (lo hi : Nat) (p : Name × ClsId) (q : Name × Val) : Prop :=
  q.1 = p.1 ∧ ∃ y o, q.2 = Val.ref y ∧ lo ≤ y ∧ y < hi ∧ objs y = some o ∧ o.cls = p.2

abbrev AttrsIn (objs : Oid → Option Obj) (lo hi : Nat) : List (Name × ClsId) → List (Name × Val) → Prop :=
  All2 (AttrIn objs lo hi)

section
variable {objs : Oid → Option Obj} {lo hi : Nat} {l : List (Name × ClsId)} {attrs : List (Name × Val)}
  (hA : AttrsIn objs lo hi l attrs)
include hA

theorem AttrsIn.names : attrs.map (·.1) = l.map (·.1) :=
  (All2.map_eq (fun _ _ h => h.1.symm) hA).symm

theorem AttrsIn.childIn {q : Name × Val} (hq : q ∈ attrs) :
    ∃ y, q.2 = Val.ref y ∧ ChildIn True objs lo hi (.ref y) := by
  obtain ⟨p, _, _, y, o, hy, h1, h2, ho, _⟩ := hA.mem_right q hq
  exact ⟨y, hy, h1, h2, by rw [ho]; rfl⟩

theorem AttrsIn.lookup_ref {k : Name} {v : Val} (h : lookup k attrs = some v) :
    ∃ y : Nat, v = Val.ref y ∧ lo ≤ y ∧ y < hi := by
  obtain ⟨y, hy, h1, h2, _⟩ := hA.childIn (lookup_mem h)
  exact ⟨y, hy, h1, h2⟩

theorem AttrsIn.lookup_of_mem {p : Name × ClsId} (hp : p ∈ l) :
    ∃ y : Nat, lookup p.1 attrs = some (Val.ref y) ∧ lo ≤ y ∧ y < hi := by
  have hs : (lookup p.1 attrs).isSome = true :=
    (lookup_isSome_iff _ _).2 (hA.names ▸ List.mem_map.2 ⟨p, hp, rfl⟩)
  obtain ⟨v, hv⟩ := Option.isSome_iff_exists.1 hs
  obtain ⟨y, rfl, h1, h2⟩ := hA.lookup_ref hv
  exact ⟨y, hv, h1, h2⟩

end

/-- The nested instances, the reference attributes, what `base.__init__` adds (atoms) and atom
items make a new object an allocation-only step. -/
theorem Ext.newInst {s sb : State} {l : List (Name × ClsId)} {attrs : List (Name × Val)}
    (c : ClsId) (items : List Val) (k : Kind) (mu : Bool)
    (hE : Ext True ⟨s.objs, s.next + 1, s.memo⟩ sb)
    (hA : AttrsIn sb.objs (s.next + 1) sb.next l attrs)
    (hitems : ∀ v ∈ items, v.isAtom = true) :
    Ext True s ⟨define sb.objs s.next ⟨c, items, dictUpdate attrs (baseInitAttrs k), mu⟩, sb.next,
      sb.memo⟩ := by
  refine Ext.reserve_define hE ?_
  intro v hv
  rcases List.mem_append.1 hv with hv | hv
  · exact .of_isAtom (hitems v hv)
  · obtain ⟨q, hq, rfl⟩ := List.mem_map.1 hv
    rcases mem_dictUpdate hq with hq | hq
    · obtain ⟨y, hy, hc⟩ := hA.childIn hq
      exact hy ▸ hc.toDefine _ _ (Nat.le_succ _) (Nat.le_refl _)
    · exact .of_isAtom (baseInitAttrs_atom k q hq)

/-- What a successful `cls(items)` did: the result is the reserved oid `st.next`, the nested instances
live in `[st.next+1, sb.next)` and refer only to each other (or hold atoms), and the new object gets the
given items, one reference attribute per `dict_inst` entry, and over them what `base.__init__` sets. -/
def NewInst (ct : ClassTable) (st : State) (c : ClsId) (items : List Val) (st' : State) (x : Oid) : Prop :=
  ∃ ci sb attrs, ct[c]? = some ci ∧ x = st.next ∧
    st' = ⟨define sb.objs st.next
      ⟨c, items, dictUpdate attrs (baseInitAttrs ci.kind), ci.kind != .node⟩, sb.next, sb.memo⟩ ∧
    Ext True ⟨st.objs, st.next + 1, st.memo⟩ sb ∧
    AttrsIn sb.objs (st.next + 1) sb.next ci.dictInst attrs

theorem NewInst.ext {ct : ClassTable} {s s' : State} {c : ClsId} {items : List Val} {x : Oid}
    (h : NewInst ct s c items s' x) (hitems : ∀ v ∈ items, v.isAtom = true) :
    x = s.next ∧ Ext True s s' ∧ ∃ o, s'.objs s.next = some o ∧ o.cls = c := by
  obtain ⟨ci, sb, attrs, _, rfl, rfl, hE, hA⟩ := h
  exact ⟨rfl, Ext.newInst _ _ _ _ hE hA hitems, _, define_same _ _ _, rfl⟩

theorem instLoop_of_eq_aux (ct : ClassTable) (n : Nat)
    (hN : ∀ (s s' : State) (c : ClsId) (y : Oid), Bounded s →
      newInst ct n s c [] = some (s', y) → NewInst ct s c [] s' y)
    {l : List (Name × ClsId)} {s s' : State} {attrs : List (Name × Val)} (hb : Bounded s)
    (h : mapSt (instStep ct n) s l = some (s', attrs)) :
    Ext True s s' ∧ AttrsIn s'.objs s.next s'.next l attrs := by
  obtain ⟨_, hE, hA⟩ := mapSt_of_eq (I := fun t => Bounded t ∧ s.next ≤ t.next) (E := Ext True)
    (R := fun t => AttrIn t.objs s.next t.next) (fun t ht => Ext.refl ht.1) (fun _ _ _ => Ext.trans)
    (fun t t1 p q _ hE ⟨hn, y, o, hy, h1, h2, ho, hc⟩ =>
      ⟨hn, y, o, hy, h1, Nat.lt_of_lt_of_le h2 hE.le, (hE.old y h2).trans ho, hc⟩)
    l (fun p _ t t1 q ht hq => by
      obtain ⟨y, hrun, rfl⟩ := instStep_of_eq hq
      obtain ⟨rfl, hE, o, ho, hc⟩ := (hN _ _ _ _ ht.1 hrun).ext (fun _ hv => by cases hv)
      have hlt : t.next < t1.next := hE.bound.lt ho
      exact ⟨⟨hE.bound, Nat.le_trans ht.2 hE.le⟩, hE, rfl, _, o, rfl, ht.2, hlt, ho, hc⟩)
    s s' attrs ⟨hb, Nat.le_refl _⟩ h
  exact ⟨hE, hA⟩

theorem newInst_of_eq (ct : ClassTable) :
    ∀ (fuel : Nat) (st st' : State) (c : ClsId) (items : List Val) (x : Oid), Bounded st →
      newInst ct fuel st c items = some (st', x) → NewInst ct st c items st' x := by
  intro fuel
  induction fuel with
  | zero => intro st st' c items x _ h; simp [newInst] at h
  | succ n ih =>
    intro st st' c items x hb h
    obtain ⟨ci, sb, attrs, hci, hrun, rfl, rfl⟩ := newInst_succ_inv h
    obtain ⟨hE, hA⟩ := instLoop_of_eq_aux ct n (fun s s' c y => ih s s' c [] y) hb.reserve hrun
    exact ⟨ci, sb, attrs, hci, rfl, rfl, hE, hA⟩

theorem instLoop_of_eq (ct : ClassTable) (n : Nat) {l : List (Name × ClsId)} {s s' : State}
    {attrs : List (Name × Val)} (hb : Bounded s) (h : mapSt (instStep ct n) s l = some (s', attrs)) :
    Ext True s s' ∧ AttrsIn s'.objs s.next s'.next l attrs :=
  instLoop_of_eq_aux ct n (fun s s' c y => newInst_of_eq ct n s s' c [] y) hb h

theorem instAttrs_of_eq (ct : ClassTable) {l : List (Name × ClsId)} {st st' : State}
    {attrs : List (Name × Val)} (hb : Bounded st) (h : instAttrs ct st l = some (st', attrs)) :
    Ext True st st' ∧ AttrsIn st'.objs st.next st'.next l attrs :=
  instLoop_of_eq ct ct.length hb h

theorem newAttrs_ref {attrs : List (Name × Val)} {kind : Kind} {lo hi : Nat}
    (hrefs : ∀ k v, lookup k attrs = some v → ∃ y : Nat, v = Val.ref y ∧ lo ≤ y ∧ y < hi) {k : Name}
    {v : Val} (h : lookup k (dictUpdate attrs (baseInitAttrs kind)) = some v) :
    ∀ x, v = .ref x → lo ≤ x ∧ x < hi := by
  intro x hx
  rw [lookup_dictUpdate] at h
  split at h
  · rename_i w hb
    cases h
    rw [(lookup_baseInitAttrs hb).2.2] at hx
    cases hx
  · obtain ⟨y, hy, h1, h2⟩ := hrefs k v h
    cases hx.symm.trans hy
    exact ⟨h1, h2⟩

theorem fresh_pair {st sb sc : State} {o1 o2 : Obj}
    (E1 : Ext True ⟨st.objs, st.next + 1, st.memo⟩ sb)
    (E2 : Ext True ⟨define sb.objs st.next o1, sb.next + 1, sb.memo⟩ sc) :
    define sc.objs sb.next o2 st.next = some o1 ∧ define sc.objs sb.next o2 sb.next = some o2 ∧
    (∀ x, x < sb.next → define sc.objs sb.next o2 x = define sb.objs st.next o1 x) ∧
    ∀ v1 v2, (∀ x, v1 = .ref x → st.next + 1 ≤ x ∧ x < sb.next) →
      (∀ x, v2 = .ref x → sb.next + 1 ≤ x ∧ x < sc.next) →
      ∀ y, Reach (define sc.objs sb.next o2) v1 y → ¬ Reach (define sc.objs sb.next o2) v2 y := by
  have hlt : st.next + 1 ≤ sb.next := E1.le
  have F1 : ∀ x, x < sb.next → define sc.objs sb.next o2 x = define sb.objs st.next o1 x :=
    fun x hx => (define_ne _ _ _ (Nat.ne_of_lt hx)).trans (E2.old x (Nat.lt_succ_of_lt hx))
  refine ⟨(F1 _ hlt).trans (define_same _ _ _), define_same _ _ _, F1, ?_⟩
  intro v1 v2 hv1 hv2 y hr1 hr2
  have a1 : st.next + 1 ≤ y ∧ y < sb.next := by
    refine reach_closed (fun y => st.next + 1 ≤ y ∧ y < sb.next) ?_ hr1 hv1
    intro x o hx ho y hy
    rw [F1 x hx.2, define_ne _ _ _ (Nat.ne_of_gt hx.1)] at ho
    have := E1.closed x o hx.1 ho _ hy
    exact ⟨this.1, this.2.1⟩
  have a2 : sb.next + 1 ≤ y := by
    refine reach_closed (fun y => sb.next + 1 ≤ y) ?_ hr2 (fun x hx => (hv2 x hx).1)
    intro x o hx ho y hy
    rw [define_ne _ _ _ (Nat.ne_of_gt hx)] at ho
    exact (E2.closed x o hx ho _ hy).1
  exact Nat.lt_irrefl _ (Nat.lt_trans a1.2 a2)

theorem initStep_succeeds (ct : ClassTable) (hct : CTOk ct) {c : ClsId} {ci : ClassInfo}
    (hci : ct[c]? = some ci) (b : Bool) (s : State) :
    ∃ r, (if b = true then instAttrs ct s ci.dictInst else some (s, [])) = some r := by
  cases b with
  | false => exact ⟨_, rfl⟩
  | true => exact instAttrs_succeeds ct hct s hci

theorem initStep_of_eq (ct : ClassTable) (b : Bool) {l : List (Name × ClsId)} {s s' : State}
    {base : List (Name × Val)} (hb : Bounded s)
    (h : (if b = true then instAttrs ct s l else some (s, [])) = some (s', base)) :
    Ext True s s' ∧ AttrsIn s'.objs s.next s'.next (if b = true then l else []) base := by
  cases b with
  | false =>
    cases h
    exact ⟨Ext.refl hb, .nil⟩
  | true => exact instAttrs_of_eq ct hb h

theorem AttrsIn.initStep_key {objs : Oid → Option Obj} {lo hi : Nat} {b : Bool}
    {l : List (Name × ClsId)} {base : List (Name × Val)}
    (hA : AttrsIn objs lo hi (if b = true then l else []) base) {k : Name}
    (h : (lookup k base).isSome = true) : b = true ∧ ∃ p ∈ l, p.1 = k := by
  rw [lookup_isSome_iff, hA.names] at h
  cases b with
  | false => cases h
  | true =>
    obtain ⟨p, hp, hpk⟩ := List.mem_map.1 h
    exact ⟨rfl, p, hp, hpk⟩

end Heap
