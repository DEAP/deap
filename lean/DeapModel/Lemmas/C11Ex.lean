/-
Fixtures for the `example`s of Props/C11.lean (a concrete strongly typed primitive set) — not property theorems.
-/
import DeapModel.Lemmas.C11Gen

namespace C11
open GpTree

/-! types 0 = `object`, 1 ⊇ 2 -/
def exSub : Nat → Nat → Bool := fun a b => a == b || b == 0 || (a == 2 && b == 1)
def pAdd : Prim := ⟨"add", 1, [1, 1], .prim, ""⟩
def pLt : Prim := ⟨"lt", 2, [1, 1], .prim, ""⟩
def pAnd : Prim := ⟨"and", 2, [2, 2], .prim, ""⟩
def pOne : Prim := ⟨"1", 1, [], .term, "1"⟩
def pTrue : Prim := ⟨"True", 2, [], .term, "True"⟩
def pEph : Prim := ⟨"E", 1, [], .eph, "7"⟩
def exPs : Pset :=
  ⟨exSub, fun τ => if τ = 1 then [pAdd, pLt, pAnd] else if τ = 2 then [pLt, pAnd] else [],
    fun τ => if τ = 1 then [pOne, pTrue, pEph] else if τ = 2 then [pTrue] else [], 1, 3, 3⟩

theorem exSub_refl : ∀ a, exSub a a = true := by intro a; simp [exSub]
theorem exSub_trans : ∀ a b c, exSub a b = true → exSub b c = true → exSub a c = true := by
  intro a b c; simp [exSub]; omega
theorem exPs_ok : PsetOK exPs where
  refl := exSub_refl
  trans := exSub_trans
  prims_ok := by
    intro τ p hp
    simp only [exPs] at hp ⊢
    split at hp
    · subst τ; simp at hp; rcases hp with rfl | rfl | rfl <;> decide
    · split at hp
      · subst τ; simp at hp; rcases hp with rfl | rfl <;> decide
      · simp at hp
  terms_ok := by
    intro τ p hp
    simp only [exPs] at hp ⊢
    split at hp
    · subst τ; simp at hp; rcases hp with rfl | rfl | rfl <;> decide
    · split at hp
      · subst τ; simp at hp; subst hp; decide
      · simp at hp

theorem ex_ty3 : typed exSub [1] [pAdd, pOne, pOne] = true := by decide
theorem ex_ty5 : typed exSub [1] [pAdd, pTrue, pAdd, pOne, pOne] = true := by decide

theorem exPs_full : PsetFull exPs (fun τ => τ = 1 ∨ τ = 2) 2 where
  terms_ne := by intro τ h; rcases h with rfl | rfl <;> simp [exPs]
  prims_ne := by intro τ h; rcases h with rfl | rfl <;> simp [exPs]
  closed := by
    intro τ h p hp
    rcases h with rfl | rfl <;> simp [exPs] at hp
    · rcases hp with rfl | rfl | rfl <;> simp [pAdd, pLt, pAnd]
    · rcases hp with rfl | rfl <;> simp [pLt, pAnd]

end C11
