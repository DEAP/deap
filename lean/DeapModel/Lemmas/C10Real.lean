/-
C10 — per-locus facts about the real-coded operators over `ℝ`.
-/
import DeapModel.Lemmas.C10Lists
import DeapModel.RealInst

namespace RealOps
open RealLike

@[real_bridge] theorem one_real : (one : ℝ) = 1 := by simp only [one, real_ofNat, Nat.cast_one]
@[real_bridge] theorem two_real : (two : ℝ) = 2 := by simp only [two, real_ofNat, Nat.cast_ofNat]
theorem zero_real : (zero : ℝ) = 0 := by simp only [zero, real_ofNat, Nat.cast_zero]
@[real_bridge] theorem half_real : (half : ℝ) = 1 / 2 := by simp only [half, real_ofRatio, Int.cast_one, Nat.cast_ofNat]
theorem eps_real : (eps : ℝ) = 1 / 100000000000000 := by
  simp only [eps, real_ofRatio, Int.cast_one, Nat.cast_ofNat]
theorem eps_pos : (0 : ℝ) < eps := by rw [eps_real]; norm_num
attribute [real_bridge] zero_real

theorem clamp_real (c xl xu : ℝ) : clamp c xl xu = min (max c xl) xu := by
  simp only [clamp, real_pmin, real_pmax]

theorem clamp_mem (c : ℝ) {xl xu : ℝ} (h : xl ≤ xu) : xl ≤ clamp c xl xu ∧ clamp c xl xu ≤ xu := by
  rw [clamp_real]
  exact ⟨le_min (le_max_right _ _) h, min_le_right _ _⟩

theorem clamp_id {c xl xu : ℝ} (h1 : xl ≤ c) (h2 : c ≤ xu) : clamp c xl xu = c := by
  rw [clamp_real, max_eq_left h1, min_eq_left h2]

theorem gamma_range {a r : ℝ} (ha : 0 ≤ a) (h0 : 0 ≤ r) (h1 : r ≤ 1) :
    -a ≤ (1 + 2 * a) * r - a ∧ (1 + 2 * a) * r - a ≤ 1 + a := by
  have p : 0 ≤ (1 + 2 * a) * r := mul_nonneg (by linarith) h0
  have q : (1 + 2 * a) * r ≤ 1 + 2 * a := mul_le_of_le_one_right (by linarith) h1
  constructor <;> linarith

theorem gamma_abs {a r : ℝ} (ha : 0 ≤ a) (h0 : 0 ≤ r) (h1 : r ≤ 1) : |(1 + 2 * a) * r - a| ≤ 1 + a :=
  abs_le.2 ⟨(neg_le_neg (le_add_of_nonneg_left zero_le_one)).trans (gamma_range ha h0 h1).1, (gamma_range ha h0 h1).2⟩

theorem affine_range {a g x y : ℝ} (g0 : -a ≤ g) (g1 : g ≤ 1 + a) :
    min x y - a * |x - y| ≤ (1 - g) * x + g * y ∧ (1 - g) * x + g * y ≤ max x y + a * |x - y| := by
  rcases le_total x y with h | h
  · have p := mul_nonneg (by linarith : 0 ≤ g + a) (sub_nonneg.2 h)
    have q := mul_nonneg (by linarith : 0 ≤ 1 + a - g) (sub_nonneg.2 h)
    rw [min_eq_left h, max_eq_right h, abs_of_nonpos (sub_nonpos.2 h)]
    constructor <;> linarith
  · have p := mul_nonneg (by linarith : 0 ≤ g + a) (sub_nonneg.2 h)
    have q := mul_nonneg (by linarith : 0 ≤ 1 + a - g) (sub_nonneg.2 h)
    rw [min_eq_right h, max_eq_left h, abs_of_nonneg (sub_nonneg.2 h)]
    constructor <;> linarith

/-- the second child is the first with `1 - g` for `g` -/
theorem exact_range {a g x1 x2 : ℝ} (g0 : -a ≤ g) (g1 : g ≤ 1 + a) :
    (min x1 x2 - a * |x1 - x2| ≤ (1 - g) * x1 + g * x2 ∧ (1 - g) * x1 + g * x2 ≤ max x1 x2 + a * |x1 - x2|) ∧
    (min x1 x2 - a * |x1 - x2| ≤ g * x1 + (1 - g) * x2 ∧ g * x1 + (1 - g) * x2 ≤ max x1 x2 + a * |x1 - x2|) := by
  have h := affine_range (a := a) (g := 1 - g) (x := x1) (y := x2) (by linarith) (by linarith)
  rw [sub_sub_cancel] at h
  exact ⟨affine_range g0 g1, h⟩

theorem blendPair_sum (alpha x1 x2 r : ℝ) :
    (blendPair alpha x1 x2 r).1 + (blendPair alpha x1 x2 r).2 = x1 + x2 := by
  simp only [blendPair, real_bridge]
  ring

theorem blendPair_range {alpha x1 x2 r : ℝ} (ha : 0 ≤ alpha) (h0 : 0 ≤ r) (h1 : r < 1) :
    (min x1 x2 - alpha * |x1 - x2| ≤ (blendPair alpha x1 x2 r).1 ∧
      (blendPair alpha x1 x2 r).1 ≤ max x1 x2 + alpha * |x1 - x2|) ∧
    (min x1 x2 - alpha * |x1 - x2| ≤ (blendPair alpha x1 x2 r).2 ∧
      (blendPair alpha x1 x2 r).2 ≤ max x1 x2 + alpha * |x1 - x2|) := by
  obtain ⟨g0, g1⟩ := gamma_range ha h0 h1.le
  simp only [blendPair, blendGamma, real_bridge]
  exact exact_range g0 g1

theorem sbxPair_sum (eta x1 x2 rand : ℝ) :
    (sbxPair eta x1 x2 rand).1 + (sbxPair eta x1 x2 rand).2 = x1 + x2 := by
  simp only [sbxPair, real_bridge]
  generalize sbxBeta eta rand = b
  ring

theorem sbxb_guard {x1 x2 : ℝ} (h : eps < |x1 - x2|) : 0 < pmax x1 x2 - pmin x1 x2 := by
  rw [real_pmax, real_pmin, max_sub_min_eq_abs']
  exact eps_pos.trans h

theorem pmin_pmax_mem {x1 x2 xl xu : ℝ} (h1 : xl ≤ x1 ∧ x1 ≤ xu) (h2 : xl ≤ x2 ∧ x2 ≤ xu) :
    xl ≤ pmin x1 x2 ∧ pmax x1 x2 ≤ xu := by
  rw [real_pmin, real_pmax]
  exact ⟨le_min h1.1 h2.1, max_le h1.2 h2.2⟩

theorem sbxbBeta_eq (d w : ℝ) : sbxbBeta d w = 1 + 2 * d / w := by
  simp only [sbxbBeta, real_bridge]

theorem sbxbBeta_ge_one {d w : ℝ} (hd : 0 ≤ d) (hw : 0 < w) : 1 ≤ sbxbBeta d w := by
  rw [sbxbBeta_eq]
  have : 0 ≤ 2 * d / w := by positivity
  linarith

theorem sbxbBeta_mul {d w : ℝ} (hw : 0 < w) : sbxbBeta d w * w = w + 2 * d := by
  rw [sbxbBeta_eq]; field_simp

theorem sbxbAlpha_eq (eta beta : ℝ) : sbxbAlpha eta beta = 2 - beta ^ (-(eta + 1)) := by
  simp only [sbxbAlpha, real_bridge]

theorem sbxbAlpha_mem {eta beta : ℝ} (he : 0 ≤ eta) (hb : 1 ≤ beta) :
    1 ≤ sbxbAlpha eta beta ∧ sbxbAlpha eta beta < 2 := by
  rw [sbxbAlpha_eq]
  have h1 : beta ^ (-(eta + 1)) ≤ 1 := Real.rpow_le_one_of_one_le_of_nonpos hb (by linarith)
  have h2 : 0 < beta ^ (-(eta + 1)) := Real.rpow_pos_of_pos (by linarith) _
  constructor <;> linarith

theorem sbxbBetaQ_eq (eta rand alpha : ℝ) : sbxbBetaQ eta rand alpha =
    if rand ≤ 1 / alpha then (rand * alpha) ^ (1 / (eta + 1)) else (1 / (2 - rand * alpha)) ^ (1 / (eta + 1)) := by
  simp only [sbxbBetaQ, real_bridge]

theorem sbxbBetaQ_bases {rand alpha : ℝ} (ha : 1 ≤ alpha ∧ alpha < 2) (h0 : 0 ≤ rand) (h1 : rand < 1) :
    0 ≤ rand * alpha ∧ 0 < 2 - rand * alpha ∧ 0 < 1 / (2 - rand * alpha) := by
  have h3 : 0 ≤ rand * alpha := mul_nonneg h0 (by linarith)
  have h4 : 0 < 2 - rand * alpha := by linarith [mul_le_of_le_one_left (by linarith : 0 ≤ alpha) h1.le]
  exact ⟨h3, h4, one_div_pos.2 h4⟩

theorem sbxbBetaQ_nonneg {eta rand alpha : ℝ} (ha : 1 ≤ alpha ∧ alpha < 2) (h0 : 0 ≤ rand) (h1 : rand < 1) :
    0 ≤ sbxbBetaQ eta rand alpha := by
  obtain ⟨b1, b2, b3⟩ := sbxbBetaQ_bases ha h0 h1
  rw [sbxbBetaQ_eq]
  split
  · exact Real.rpow_nonneg b1 _
  · exact Real.rpow_nonneg b3.le _

theorem root_pow {eta y : ℝ} (he : 0 ≤ eta) (hy : 0 ≤ y) : (y ^ (eta + 1)) ^ (1 / (eta + 1)) = y := by
  rw [← Real.rpow_mul hy, mul_one_div_cancel (by linarith : eta + 1 ≠ 0), Real.rpow_one]

/-- the key inequality of Deb's bounded SBX: `beta_q ≤ beta`, which is why the children cannot
leave the bounds even before the clamp -/
theorem sbxbBetaQ_le {eta rand beta : ℝ} (he : 0 ≤ eta) (hb : 1 ≤ beta) (h0 : 0 ≤ rand) (h1 : rand < 1) :
    sbxbBetaQ eta rand (sbxbAlpha eta beta) ≤ beta := by
  have ha := sbxbAlpha_mem he hb
  obtain ⟨b1, b2, b3⟩ := sbxbBetaQ_bases ha h0 h1
  have hp : 0 ≤ 1 / (eta + 1) := by positivity
  have hb0 : 0 ≤ beta := zero_le_one.trans hb
  rw [sbxbBetaQ_eq]
  split
  · next h =>
    have : rand * sbxbAlpha eta beta ≤ 1 := (le_div_iff₀ (zero_lt_one.trans_le ha.1)).1 h
    exact (Real.rpow_le_one b1 this hp).trans hb
  · have hle : rand * sbxbAlpha eta beta ≤ sbxbAlpha eta beta :=
      mul_le_of_le_one_left (zero_le_one.trans ha.1) h1.le
    have hα : 2 - sbxbAlpha eta beta = beta ^ (-(eta + 1)) := by rw [sbxbAlpha_eq]; ring
    have key : 1 / (2 - rand * sbxbAlpha eta beta) ≤ beta ^ (eta + 1) :=
      calc 1 / (2 - rand * sbxbAlpha eta beta) ≤ 1 / beta ^ (-(eta + 1)) :=
            one_div_le_one_div_of_le (Real.rpow_pos_of_pos (zero_lt_one.trans_le hb) _)
              (hα.symm.trans_le (sub_le_sub_left hle 2))
        _ = beta ^ (eta + 1) := by rw [Real.rpow_neg hb0, one_div, inv_inv]
    exact (Real.rpow_le_rpow b3.le key hp).trans_eq (root_pow he hb0)

theorem sbxbRaw1_eq (eta x1 x2 xl rand : ℝ) : sbxbRaw1 eta x1 x2 xl rand =
    1 / 2 * (x1 + x2 - sbxbBetaQ eta rand (sbxbAlpha eta (sbxbBeta (x1 - xl) (x2 - x1))) * (x2 - x1)) := by
  simp only [sbxbRaw1, real_bridge]

theorem sbxbRaw2_eq (eta x1 x2 xu rand : ℝ) : sbxbRaw2 eta x1 x2 xu rand =
    1 / 2 * (x1 + x2 + sbxbBetaQ eta rand (sbxbAlpha eta (sbxbBeta (xu - x2) (x2 - x1))) * (x2 - x1)) := by
  simp only [sbxbRaw2, real_bridge]

/-- the spread of either child, `d` the distance of the nearer parent from its bound: `0 ≤ beta_q ≤ beta` and
`beta w = w + 2 d` -/
theorem sbxbSpread_mem {eta d w rand : ℝ} (he : 0 ≤ eta) (hd : 0 ≤ d) (hw : 0 < w) (h0 : 0 ≤ rand) (h1 : rand < 1) :
    0 ≤ sbxbBetaQ eta rand (sbxbAlpha eta (sbxbBeta d w)) * w ∧
      sbxbBetaQ eta rand (sbxbAlpha eta (sbxbBeta d w)) * w ≤ w + 2 * d := by
  have hb := sbxbBeta_ge_one hd hw
  refine ⟨mul_nonneg (sbxbBetaQ_nonneg (sbxbAlpha_mem he hb) h0 h1) hw.le, ?_⟩
  rw [← sbxbBeta_mul hw]
  exact mul_le_mul_of_nonneg_right (sbxbBetaQ_le he hb h0 h1) hw.le

theorem sbxbRaw_mem {eta x1 x2 xl xu rand : ℝ} (he : 0 ≤ eta) (hl : xl ≤ x1) (hw : x1 < x2) (hu : x2 ≤ xu)
    (h0 : 0 ≤ rand) (h1 : rand < 1) :
    (xl ≤ sbxbRaw1 eta x1 x2 xl rand ∧ sbxbRaw1 eta x1 x2 xl rand ≤ xu) ∧
    (xl ≤ sbxbRaw2 eta x1 x2 xu rand ∧ sbxbRaw2 eta x1 x2 xu rand ≤ xu) := by
  obtain ⟨p0, p1⟩ := sbxbSpread_mem he (sub_nonneg.2 hl) (sub_pos.2 hw) h0 h1
  obtain ⟨q0, q1⟩ := sbxbSpread_mem he (sub_nonneg.2 hu) (sub_pos.2 hw) h0 h1
  rw [sbxbRaw1_eq, sbxbRaw2_eq]
  -- the far bound of each child is the bound on its spread, the near one is `x1 < x2` inside `[xl, xu]`
  exact ⟨⟨by linarith only [p1], by linarith only [p0, hw, hu]⟩, by linarith only [q0, hl, hw], by linarith only [q1]⟩

/-- over the reals the clamp is the identity on the raw children -/
theorem sbxbChildren_eq_raw {eta x1 x2 xl xu rand : ℝ} (he : 0 ≤ eta) (hl : xl ≤ x1) (hw : x1 < x2) (hu : x2 ≤ xu)
    (h0 : 0 ≤ rand) (h1 : rand < 1) :
    sbxbChildren eta x1 x2 xl xu rand = (sbxbRaw1 eta x1 x2 xl rand, sbxbRaw2 eta x1 x2 xu rand) := by
  obtain ⟨r1, r2⟩ := sbxbRaw_mem he hl hw hu h0 h1
  simp only [sbxbChildren]
  exact Prod.ext (clamp_id r1.1 r1.2) (clamp_id r2.1 r2.2)

theorem sbxbGene_bounds {eta x1 x2 xl xu : ℝ} {rs rest : List ℝ} {y1 y2 : ℝ}
    (hord : xl ≤ xu) (h1 : xl ≤ x1 ∧ x1 ≤ xu) (h2 : xl ≤ x2 ∧ x2 ≤ xu)
    (h : sbxbGene eta x1 x2 xl xu rs = some (y1, y2, rest)) :
    (xl ≤ y1 ∧ y1 ≤ xu) ∧ (xl ≤ y2 ∧ y2 ≤ xu) := by
  rcases (sbxbGene_spec h).2 with ⟨rfl, rfl⟩ | ⟨_, rand, _, ⟨rfl, rfl⟩ | ⟨rfl, rfl⟩⟩
  · exact ⟨h1, h2⟩
  · exact ⟨clamp_mem _ hord, clamp_mem _ hord⟩
  · exact ⟨clamp_mem _ hord, clamp_mem _ hord⟩

theorem polyDelta1_eq (x xl xu : ℝ) : polyDelta1 x xl xu = (x - xl) / (xu - xl) := by simp only [polyDelta1, real_bridge]
theorem polyDelta2_eq (x xl xu : ℝ) : polyDelta2 x xl xu = (xu - x) / (xu - xl) := by simp only [polyDelta2, real_bridge]

theorem polyDelta_mem {x xl xu : ℝ} (hl : xl ≤ x) (hu : x ≤ xu) (hw : xl < xu) :
    (0 ≤ polyDelta1 x xl xu ∧ polyDelta1 x xl xu ≤ 1) ∧ (0 ≤ polyDelta2 x xl xu ∧ polyDelta2 x xl xu ≤ 1) := by
  have hw' := sub_pos.2 hw
  rw [polyDelta1_eq, polyDelta2_eq]
  exact ⟨⟨div_nonneg (sub_nonneg.2 hl) hw'.le, (div_le_one hw').2 (by linarith)⟩,
    div_nonneg (sub_nonneg.2 hu) hw'.le, (div_le_one hw').2 (by linarith)⟩

theorem polyValLow_eq (eta rand d : ℝ) :
    polyValLow eta rand d = 2 * rand + (1 - 2 * rand) * (1 - d) ^ (eta + 1) := by simp only [polyValLow, real_bridge]
theorem polyValHigh_eq (eta rand d : ℝ) :
    polyValHigh eta rand d = 2 * (1 - rand) + 2 * (rand - 1 / 2) * (1 - d) ^ (eta + 1) := by
  simp only [polyValHigh, real_bridge]

theorem pow_unit_mem {eta d : ℝ} (he : 0 ≤ eta) (hd : 0 ≤ d ∧ d ≤ 1) :
    0 ≤ (1 - d) ^ (eta + 1) ∧ (1 - d) ^ (eta + 1) ≤ 1 :=
  ⟨Real.rpow_nonneg (by linarith) _, Real.rpow_le_one (by linarith) (by linarith) (by linarith)⟩

/-- both branches of `val` have this form, with `t = 2 rand` resp. `t = 2 (1 - rand)` -/
theorem lerp_mem {t q : ℝ} (t0 : 0 ≤ t) (t1 : t ≤ 1) (q1 : q ≤ 1) :
    q ≤ t + (1 - t) * q ∧ t + (1 - t) * q ≤ 1 := by
  have a := mul_nonneg t0 (sub_nonneg.2 q1)
  have b := mul_nonneg (sub_nonneg.2 t1) (sub_nonneg.2 q1)
  constructor <;> linarith

theorem polyValLow_mem {eta rand d : ℝ} (he : 0 ≤ eta) (h0 : 0 ≤ rand) (h1 : rand < 1 / 2) (hd : 0 ≤ d ∧ d ≤ 1) :
    (1 - d) ^ (eta + 1) ≤ polyValLow eta rand d ∧ polyValLow eta rand d ≤ 1 := by
  obtain ⟨q0, q1⟩ := pow_unit_mem he hd
  rw [polyValLow_eq]
  exact lerp_mem (by linarith) (by linarith) q1

theorem polyValHigh_mem {eta rand d : ℝ} (he : 0 ≤ eta) (h0 : 1 / 2 ≤ rand) (h1 : rand < 1) (hd : 0 ≤ d ∧ d ≤ 1) :
    (1 - d) ^ (eta + 1) ≤ polyValHigh eta rand d ∧ polyValHigh eta rand d ≤ 1 := by
  obtain ⟨q0, q1⟩ := pow_unit_mem he hd
  rw [polyValHigh_eq, show 2 * (rand - 1 / 2) = 1 - 2 * (1 - rand) by ring]
  exact lerp_mem (mul_nonneg zero_le_two (sub_nonneg.2 h1.le)) (by linarith only [h0]) q1

theorem root_mem {eta y v : ℝ} (he : 0 ≤ eta) (hy : 0 ≤ y) (hv0 : y ^ (eta + 1) ≤ v) (hv1 : v ≤ 1) :
    y ≤ v ^ (1 / (eta + 1)) ∧ v ^ (1 / (eta + 1)) ≤ 1 := by
  have hp : 0 ≤ 1 / (eta + 1) := by positivity
  have q0 : 0 ≤ y ^ (eta + 1) := Real.rpow_nonneg hy _
  refine ⟨?_, Real.rpow_le_one (q0.trans hv0) hv1 hp⟩
  calc y = (y ^ (eta + 1)) ^ (1 / (eta + 1)) := (root_pow he hy).symm
    _ ≤ _ := Real.rpow_le_rpow q0 hv0 hp

/-- `p ∈ [1 - d, 1]` as bounds of `p - 1` and of `1 - p`, weakened by any `d' ≥ 0` on the other side -/
theorem unit_shift {d p d' : ℝ} (lo : 1 - d ≤ p) (hi : p ≤ 1) (h : 0 ≤ d') :
    (-d ≤ p - 1 ∧ p - 1 ≤ d') ∧ (-d' ≤ 1 - p ∧ 1 - p ≤ d) :=
  ⟨⟨neg_le_sub_iff_le_add.2 (sub_le_iff_le_add.1 lo), (sub_nonpos.2 hi).trans h⟩,
    (neg_nonpos.2 h).trans (sub_nonneg.2 hi), sub_le_comm.1 lo⟩

theorem polyDeltaQ_eq (eta x xl xu rand : ℝ) : polyDeltaQ eta x xl xu rand =
    if rand < 1 / 2 then (polyValLow eta rand (polyDelta1 x xl xu)) ^ (1 / (eta + 1)) - 1
    else 1 - (polyValHigh eta rand (polyDelta2 x xl xu)) ^ (1 / (eta + 1)) := by
  simp only [polyDeltaQ, real_bridge]

theorem polyDeltaQ_mem {eta x xl xu rand : ℝ} (he : 0 ≤ eta) (hl : xl ≤ x) (hu : x ≤ xu) (hw : xl < xu)
    (h0 : 0 ≤ rand) (h1 : rand < 1) :
    -polyDelta1 x xl xu ≤ polyDeltaQ eta x xl xu rand ∧ polyDeltaQ eta x xl xu rand ≤ polyDelta2 x xl xu := by
  obtain ⟨d1, d2⟩ := polyDelta_mem hl hu hw
  rw [polyDeltaQ_eq]
  split
  · next h =>
    obtain ⟨v0, v1⟩ := polyValLow_mem he h0 h d1
    obtain ⟨lo, hi⟩ := root_mem he (sub_nonneg.2 d1.2) v0 v1
    exact (unit_shift lo hi d2.1).1
  · next h =>
    obtain ⟨v0, v1⟩ := polyValHigh_mem he (not_lt.1 h) h1 d2
    obtain ⟨lo, hi⟩ := root_mem he (sub_nonneg.2 d2.2) v0 v1
    exact (unit_shift lo hi d1.1).2

theorem polyRaw_eq (eta x xl xu rand : ℝ) :
    polyRaw eta x xl xu rand = x + polyDeltaQ eta x xl xu rand * (xu - xl) := by simp only [polyRaw, real_bridge]

theorem polyRaw_mem {eta x xl xu rand : ℝ} (he : 0 ≤ eta) (hl : xl ≤ x) (hu : x ≤ xu) (hw : xl < xu)
    (h0 : 0 ≤ rand) (h1 : rand < 1) :
    xl ≤ polyRaw eta x xl xu rand ∧ polyRaw eta x xl xu rand ≤ xu := by
  obtain ⟨q0, q1⟩ := polyDeltaQ_mem he hl hu hw h0 h1
  have hw' : 0 < xu - xl := by linarith
  have e1 : polyDelta1 x xl xu * (xu - xl) = x - xl := by rw [polyDelta1_eq]; field_simp
  have e2 : polyDelta2 x xl xu * (xu - xl) = xu - x := by rw [polyDelta2_eq]; field_simp
  have a := mul_le_mul_of_nonneg_right q0 hw'.le
  have b := mul_le_mul_of_nonneg_right q1 hw'.le
  rw [polyRaw_eq]
  constructor <;> linarith

/-- over the reals the clamp is the identity on the raw mutant -/
theorem polyGene_eq_raw {eta x xl xu rand : ℝ} (he : 0 ≤ eta) (hl : xl ≤ x) (hu : x ≤ xu) (hw : xl < xu)
    (h0 : 0 ≤ rand) (h1 : rand < 1) : polyGene eta x xl xu rand = polyRaw eta x xl xu rand := by
  obtain ⟨r1, r2⟩ := polyRaw_mem he hl hu hw h0 h1
  simp only [polyGene, clamp_id r1 r2]

theorem lognSigma_eq (s t0n t z : ℝ) : lognSigma s t0n t z = s * Real.exp (t0n + t * z) := by
  simp only [lognSigma, real_bridge]

theorem lognSigma_pos {s : ℝ} (hs : 0 < s) (t0n t z : ℝ) : 0 < lognSigma s t0n t z := by
  rw [lognSigma_eq]; exact mul_pos hs (Real.exp_pos _)

/-- fixture of the `example`s: two draws, both `≥ 0` -/
theorem draws_quarter_zero_nonneg : ∀ r ∈ ([1 / 4, 0] : List ℝ), 0 ≤ r := by
  simp only [List.forall_mem_cons]; norm_num

end RealOps
