/-
C10 — helper lemmas of the TRANSLATOR TIE (`harness/py2lean_c10.py`, `GenEq/C10.lean.tmpl`).

The translator renders a Python `for` loop with in-place stores `ind[i] = …` as `Gen10.forM items state body`
(`Core/GenPreludeC10.lean`): the body reads and writes the state lists BY INDEX.  The hand-written model
(`Core/RealOps.lean`) walks the lists structurally.  The lemmas `*_forM` below are the bridge, proved once for each
of the five loop shapes the tie covers (`pairLoop`, `sbxbLoop`, `polyLoop`, `gaussLoop`, `esblendLoop`; `lognLoop` has
none) and for ANY body: if one iteration of the body at index `pre.length` on the state `pre ++ x :: rest` does what one
step of the model loop does, the whole indexed loop computes what the model loop computes.  The template commits two
theorems per function: `_loop1_step` establishes the one-iteration fact for the regenerated body (`gen10_step`), and
`_eq_model` feeds it into the `*_forM` bridge; both at every scalar `α` — no Mathlib is needed.
-/
import DeapModel.Core.GenPreludeC10
import DeapModel.Lemmas.C10Lists

namespace GenL10
open RealOps Gen10

variable {α β γ ι σ : Type}

/-- `f` on the value under `.ok`; an exception stays -/
def omap (f : β → γ) : Outcome β → Outcome γ
  | .ok b => .ok (f b)
  | .indexError => .indexError
  | .zeroDivision => .zeroDivision
  | .badTape => .badTape

/-- an `Option` of the model's loops as an outcome (`none` = the tape was too short) -/
def ofOpt : Option β → Outcome β
  | some b => .ok b
  | none => .badTape

@[simp] theorem omap_ok (f : β → γ) (b : β) : omap f (.ok b) = .ok (f b) := rfl
@[simp] theorem omap_indexError (f : β → γ) : omap f .indexError = .indexError := rfl
@[simp] theorem omap_zeroDivision (f : β → γ) : omap f .zeroDivision = .zeroDivision := rfl
@[simp] theorem omap_badTape (f : β → γ) : omap f .badTape = .badTape := rfl
@[simp] theorem ofOpt_some (b : β) : ofOpt (some b) = .ok b := rfl
@[simp] theorem ofOpt_none : ofOpt (none : Option β) = .badTape := rfl

theorem ofOpt_ite (c : Prop) [Decidable c] (x y : Option β) :
    ofOpt (if c then x else y) = if c then ofOpt x else ofOpt y := by split <;> rfl
theorem map_ite (f : β → γ) (c : Prop) [Decidable c] (x y : Option β) :
    Option.map f (if c then x else y) = if c then Option.map f x else Option.map f y := by split <;> rfl

@[simp] theorem bind_ok (b : β) (f : β → Outcome γ) : Gen10.bind (.ok b) f = f b := rfl
@[simp] theorem bind_indexError (f : β → Outcome γ) : Gen10.bind .indexError f = .indexError := rfl
@[simp] theorem bind_zeroDivision (f : β → Outcome γ) : Gen10.bind .zeroDivision f = .zeroDivision := rfl
@[simp] theorem bind_badTape (f : β → Outcome γ) : Gen10.bind .badTape f = .badTape := rfl
@[simp] theorem bind_ok_right (x : Outcome β) : Gen10.bind x .ok = x := by cases x <;> rfl

@[simp] theorem draw_nil : Gen10.draw ([] : List α) = .badTape := rfl
@[simp] theorem draw_cons (x : α) (t : List α) : Gen10.draw (x :: t) = .ok (x, t) := rfl
@[simp] theorem pop_nil : pop ([] : List α) = none := rfl
@[simp] theorem pop_cons (x : α) (t : List α) : pop (x :: t) = some (x, t) := rfl

@[simp] theorem forM_nil (st : σ) (body : ι → σ → Outcome σ) : Gen10.forM [] st body = .ok st := rfl
theorem forM_cons (x : ι) (t : List ι) (st : σ) (body : ι → σ → Outcome σ) :
    Gen10.forM (x :: t) st body = Gen10.bind (body x st) fun st' => Gen10.forM t st' body := by
  cases h : body x st <;> simp [Gen10.forM, h]

@[simp] theorem enumFrom_nil (k : Nat) : Gen10.enumFrom k ([] : List β) = [] := rfl
@[simp] theorem enumFrom_cons (k : Nat) (a : β) (t : List β) :
    Gen10.enumFrom k (a :: t) = (k, a) :: Gen10.enumFrom (k + 1) t := rfl

@[simp] theorem getItem_at (pre : List β) (x : β) (t : List β) :
    Gen10.getItem (pre ++ x :: t) pre.length = .ok x := by
  simp [Gen10.getItem]

@[simp] theorem setItem_at (pre : List β) (x y : β) (t : List β) :
    Gen10.setItem (pre ++ x :: t) pre.length y = .ok (pre ++ y :: t) := by
  simp [Gen10.setItem]

theorem getItem_at' (pre : List β) (x : β) (t : List β) (k : Nat) (h : k = pre.length) :
    Gen10.getItem (pre ++ x :: t) k = .ok x := by subst h; simp

theorem setItem_at' (pre : List β) (x y : β) (t : List β) (k : Nat) (h : k = pre.length) :
    Gen10.setItem (pre ++ x :: t) k y = .ok (pre ++ y :: t) := by subst h; simp

theorem getItem_beyond (l : List β) (k : Nat) (h : l.length ≤ k) : Gen10.getItem l k = .indexError := by
  simp [Gen10.getItem, List.getElem?_eq_none h]

theorem snoc_append (pre : List β) (y : β) (t : List β) : pre ++ y :: t = (pre ++ [y]) ++ t := by simp

section
variable [RealLike α]

/-- `pairLoop f` (cxBlend, cxSimulatedBinary): `for i, (x1, x2) in enumerate(zip(ind1, ind2))` -/
theorem pairLoop_forM (f : α → α → α → α × α)
    (body : Nat × α × α → List α × List α × List α → Outcome (List α × List α × List α))
    (hbody : ∀ (pre1 pre2 : List α) (x1 x2 : α) (a b rs : List α), pre1.length = pre2.length →
      body (pre1.length, x1, x2) (pre1 ++ x1 :: a, pre2 ++ x2 :: b, rs) =
        ofOpt ((pop rs).map fun p => (pre1 ++ (f x1 x2 p.1).1 :: a, pre2 ++ (f x1 x2 p.1).2 :: b, p.2))) :
    ∀ (a b pre1 pre2 rs : List α), pre1.length = pre2.length →
      Gen10.forM (Gen10.enumFrom pre1.length (List.zip a b)) (pre1 ++ a, pre2 ++ b, rs) body =
        ofOpt ((pairLoop f a b rs).map fun r => (pre1 ++ r.1, pre2 ++ r.2.1, r.2.2)) := by
  intro a
  induction a with
  | nil => intro b pre1 pre2 rs _; cases b <;> simp [pairLoop]
  | cons x1 a ih =>
    intro b pre1 pre2 rs hl
    rcases b with _ | ⟨x2, b⟩
    · simp [pairLoop]
    simp only [List.zip_cons_cons, enumFrom_cons, forM_cons, hbody _ _ _ _ _ _ _ hl]
    rcases rs with _ | ⟨r, rs⟩
    · simp [pairLoop]
    have := ih b (pre1 ++ [(f x1 x2 r).1]) (pre2 ++ [(f x1 x2 r).2]) rs (by simp [hl])
    simp only [List.length_append, List.append_assoc, List.singleton_append,
      List.length_cons, List.length_nil] at this
    simp only [pop_cons, Option.map_some, ofOpt_some, bind_ok, this, pairLoop]
    cases pairLoop f a b rs <;> simp

/-- `cxSBXBLoop` (cxSimulatedBinaryBounded): `for i, xl, xu in zip(range(size), low, up)`, `size = min(len, len)` -/
theorem sbxbLoop_forM (eta : α)
    (body : Nat × α × α → List α × List α × List α → Outcome (List α × List α × List α))
    (hbody : ∀ (pre1 pre2 : List α) (x1 x2 xl xu : α) (a b rs : List α), pre1.length = pre2.length →
      body (pre1.length, xl, xu) (pre1 ++ x1 :: a, pre2 ++ x2 :: b, rs) =
        ofOpt ((sbxbGene eta x1 x2 xl xu rs).map fun r => (pre1 ++ r.1 :: a, pre2 ++ r.2.1 :: b, r.2.2))) :
    ∀ (a b lo up pre1 pre2 rs : List α), pre1.length = pre2.length →
      Gen10.forM (List.zip (List.range' pre1.length (min a.length b.length)) (List.zip lo up)) (pre1 ++ a, pre2 ++ b, rs) body =
        ofOpt ((cxSBXBLoop eta a b lo up rs).map fun r => (pre1 ++ r.1, pre2 ++ r.2.1, r.2.2)) := by
  intro a
  induction a with
  | nil => intro b lo up pre1 pre2 rs _; simp [cxSBXBLoop]
  | cons x1 a ih =>
    intro b lo up pre1 pre2 rs hl
    rcases b with _ | ⟨x2, b⟩
    · simp [cxSBXBLoop]
    rcases lo with _ | ⟨xl, lo⟩
    · simp [cxSBXBLoop]
    rcases up with _ | ⟨xu, up⟩
    · simp [cxSBXBLoop]
    have hm : min (x1 :: a).length (x2 :: b).length = min a.length b.length + 1 := by
      simp only [List.length_cons]; omega
    simp only [hm, List.range'_succ, List.zip_cons_cons, forM_cons, hbody _ _ _ _ _ _ _ _ _ hl, cxSBXBLoop]
    rcases hg : sbxbGene eta x1 x2 xl xu rs with _ | ⟨y1, y2, rs'⟩
    · simp
    have := ih b lo up (pre1 ++ [y1]) (pre2 ++ [y2]) rs' (by simp [hl])
    simp only [List.length_append, List.append_assoc, List.singleton_append,
      List.length_cons, List.length_nil] at this
    simp only [Option.map_some, ofOpt_some, bind_ok, this]
    cases cxSBXBLoop eta a b lo up rs' <;> simp

/-- `polyLoop` (mutPolynomialBounded): `for i, xl, xu in zip(range(size), low, up)`, `size = len(individual)` -/
theorem polyLoop_forM (eta indpb : α)
    (body : Nat × α × α → List α × List α → Outcome (List α × List α))
    (hbody : ∀ (pre : List α) (x xl xu : α) (xs rs : List α),
      body (pre.length, xl, xu) (pre ++ x :: xs, rs) =
        ofOpt ((polyStep eta indpb x xl xu rs).map fun r => (pre ++ r.1 :: xs, r.2))) :
    ∀ (xs lo up pre rs : List α),
      Gen10.forM (List.zip (List.range' pre.length xs.length) (List.zip lo up)) (pre ++ xs, rs) body =
        ofOpt ((polyLoop eta indpb xs lo up rs).map fun r => (pre ++ r.1, r.2)) := by
  intro xs
  induction xs with
  | nil => intro lo up pre rs; simp [polyLoop]
  | cons x xs ih =>
    intro lo up pre rs
    rcases lo with _ | ⟨xl, lo⟩
    · simp [polyLoop]
    rcases up with _ | ⟨xu, up⟩
    · simp [polyLoop]
    simp only [List.length_cons, List.range'_succ, List.zip_cons_cons, forM_cons, hbody, polyLoop_cons]
    rcases hg : polyStep eta indpb x xl xu rs with _ | ⟨y, rs'⟩
    · simp
    have := ih lo up (pre ++ [y]) rs'
    simp only [List.length_append, List.append_assoc, List.singleton_append,
      List.length_cons, List.length_nil] at this
    simp only [Option.map_some, ofOpt_some, bind_ok, this, Option.bind_some]
    cases polyLoop eta indpb xs lo up rs' <;> simp

/-- `gaussLoop` (mutGaussian): `for i, m, s in zip(range(size), mu, sigma)` -/
theorem gaussLoop_forM (indpb : α)
    (body : Nat × α × α → List α × List α × List α → Outcome (List α × List α × List α))
    (hbody : ∀ (pre : List α) (x m s : α) (xs rs gs : List α),
      body (pre.length, m, s) (pre ++ x :: xs, rs, gs) =
        ofOpt ((gaussStep indpb x rs gs).map fun r => (pre ++ r.1 :: xs, r.2.1, r.2.2))) :
    ∀ (xs mu sigma pre rs gs : List α),
      Gen10.forM (List.zip (List.range' pre.length xs.length) (List.zip mu sigma)) (pre ++ xs, rs, gs) body =
        ofOpt ((gaussLoop indpb xs mu sigma rs gs).map fun r => (pre ++ r.1, r.2.1, r.2.2)) := by
  intro xs
  induction xs with
  | nil => intro mu sigma pre rs gs; simp [gaussLoop]
  | cons x xs ih =>
    intro mu sigma pre rs gs
    rcases mu with _ | ⟨m, mu⟩
    · simp [gaussLoop]
    rcases sigma with _ | ⟨s, sigma⟩
    · simp [gaussLoop]
    simp only [List.length_cons, List.range'_succ, List.zip_cons_cons, forM_cons, hbody, gaussLoop_cons]
    rcases hg : gaussStep indpb x rs gs with _ | ⟨y, rs', gs'⟩
    · simp
    have := ih mu sigma (pre ++ [y]) rs' gs'
    simp only [List.length_append, List.append_assoc, List.singleton_append,
      List.length_cons, List.length_nil] at this
    simp only [Option.map_some, ofOpt_some, bind_ok, this, Option.bind_some]
    cases gaussLoop indpb xs mu sigma rs' gs' <;> simp

/-- `cxESBlendLoop` (cxESBlend): `for i, (x1, s1, x2, s2) in enumerate(zip(ind1, ind1.strategy, ind2, ind2.strategy))` -/
theorem esblendLoop_forM (alpha : α)
    (body : Nat × α × α × α × α → List α × List α × List α × List α × List α →
      Outcome (List α × List α × List α × List α × List α))
    (hbody : ∀ (p1 q1 p2 q2 : List α) (x1 s1 x2 s2 : α) (a sa b sb rs : List α),
      q1.length = p1.length → p2.length = p1.length → q2.length = p1.length →
      body (p1.length, x1, s1, x2, s2) (p1 ++ x1 :: a, q1 ++ s1 :: sa, p2 ++ x2 :: b, q2 ++ s2 :: sb, rs) =
        ofOpt ((pop rs).bind fun r => (pop r.2).map fun q =>
          (p1 ++ (blendPair alpha x1 x2 r.1).1 :: a, q1 ++ (blendPair alpha s1 s2 q.1).1 :: sa,
           p2 ++ (blendPair alpha x1 x2 r.1).2 :: b, q2 ++ (blendPair alpha s1 s2 q.1).2 :: sb, q.2))) :
    ∀ (a sa b sb p1 q1 p2 q2 rs : List α),
      q1.length = p1.length → p2.length = p1.length → q2.length = p1.length →
      Gen10.forM (Gen10.enumFrom p1.length (List.zip a (List.zip sa (List.zip b sb))))
          (p1 ++ a, q1 ++ sa, p2 ++ b, q2 ++ sb, rs) body =
        ofOpt ((cxESBlendLoop alpha a sa b sb rs).map fun r =>
          (p1 ++ r.1, q1 ++ r.2.1, p2 ++ r.2.2.1, q2 ++ r.2.2.2.1, r.2.2.2.2)) := by
  intro a
  induction a with
  | nil => intro sa b sb p1 q1 p2 q2 rs _ _ _; simp [cxESBlendLoop]
  | cons x1 a ih =>
    intro sa b sb p1 q1 p2 q2 rs h1 h2 h3
    rcases sa with _ | ⟨s1, sa⟩
    · simp [cxESBlendLoop]
    rcases b with _ | ⟨x2, b⟩
    · simp [cxESBlendLoop]
    rcases sb with _ | ⟨s2, sb⟩
    · simp [cxESBlendLoop]
    simp only [List.zip_cons_cons, enumFrom_cons, forM_cons, hbody _ _ _ _ _ _ _ _ _ _ _ _ _ h1 h2 h3]
    rcases rs with _ | ⟨r, _ | ⟨q, rs⟩⟩
    · simp [cxESBlendLoop]
    · simp [cxESBlendLoop]
    have := ih sa b sb (p1 ++ [(blendPair alpha x1 x2 r).1]) (q1 ++ [(blendPair alpha s1 s2 q).1])
      (p2 ++ [(blendPair alpha x1 x2 r).2]) (q2 ++ [(blendPair alpha s1 s2 q).2]) rs
      (by simp [h1]) (by simp [h2]) (by simp [h3])
    simp only [List.length_append, List.append_assoc, List.singleton_append,
      List.length_cons, List.length_nil] at this
    simp only [pop_cons, Option.bind_some, Option.map_some, ofOpt_some, bind_ok, this, cxESBlendLoop]
    cases cxESBlendLoop alpha a sa b sb rs <;> simp

/-- the bounds after `if not isinstance(b, Sequence): b = repeat(b, size) elif len(b) < size: raise IndexError` -/
theorem expand_scalar (v : α) (n : Nat) : (Bound.scalar v).expand n = some (List.replicate n v) := rfl
theorem expand_seq (l : List α) (n : Nat) : (Bound.seq l).expand n = if l.length < n then none else some l := rfl

end
end GenL10

/-- one iteration of a regenerated loop body against one step of the model (after `cases` on the tapes): unfold the
body, evaluate the draws and the indexed reads / stores at the current locus (`hs` : the facts `k = pre.length` about
the index), then compare the arithmetic syntactically -/
syntax "gen10_step " ident (ppSpace colGt term:max)* : tactic
macro_rules
  | `(tactic| gen10_step $f $hs*) => `(tactic|
      (first
        | rfl
        | (simp only [$f:ident, GenL10.bind_ok, GenL10.bind_badTape, GenL10.bind_indexError, GenL10.draw_nil,
              GenL10.draw_cons, GenL10.pop_nil, GenL10.pop_cons, GenL10.getItem_at, GenL10.setItem_at,
              GenL10.getItem_at', GenL10.setItem_at', GenL10.ofOpt_some, GenL10.ofOpt_none, Option.map_some,
              Option.map_none, GenL10.ofOpt_ite, GenL10.map_ite, $[$hs:term],*]
           <;> first | rfl | ((repeat' split) <;> first | rfl | contradiction | simp_all))))

/-- after the loop lemma has been rewritten in: the `if len(b) < size` guards and the shape of the model's outcome -/
macro "gen10_shape" : tactic => `(tactic|
  ((repeat' split) <;> first | rfl | simp_all))
