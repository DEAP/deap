/-
Helper lemmas for C19 (penalty decorators): `zip3With`, `SV.upTo`, the scalar inequality behind "never better" /
"monotone in the distance", and what both decorators return for an infeasible individual.
-/
import DeapModel.Core.Penalty
import Mathlib.Algebra.Order.Ring.Defs

set_option linter.unusedSectionVars false

namespace Penalty

section Lists
variable {α β γ δ : Type}

theorem zip3With_eq_zipWith (g : α → β → γ → δ) (as : List α) (bs : List β) (cs : List γ) :
    zip3With g as bs cs = List.zipWith (fun a (p : β × γ) => g a p.1 p.2) as (bs.zip cs) := by
  induction as generalizing bs cs with
  | nil => rfl
  | cons a as ih =>
    cases bs with
    | nil => rfl
    | cons b bs =>
      cases cs with
      | nil => rfl
      | cons c cs => exact congrArg (g a b c :: ·) (ih bs cs)

theorem zip3With_length (g : α → β → γ → δ) (as : List α) (bs : List β) (cs : List γ) :
    (zip3With g as bs cs).length = min (min as.length bs.length) cs.length := by
  rw [zip3With_eq_zipWith, List.length_zipWith, List.length_zip, Nat.min_assoc]

theorem zip3With_getElem? (g : α → β → γ → δ) (as : List α) (bs : List β) (cs : List γ) (i : Nat) :
    (zip3With g as bs cs)[i]? =
      (as[i]?).bind fun a => (bs[i]?).bind fun b => (cs[i]?).bind fun c => some (g a b c) := by
  rw [zip3With_eq_zipWith, List.getElem?_zipWith, List.zip_eq_zipWith, List.getElem?_zipWith]
  cases as[i]? <;> cases bs[i]? <;> cases cs[i]? <;> rfl

theorem upTo_getElem? (s : SV α) (n i : Nat) (hi : i < n) : (s.upTo n)[i]? = s.get? i := by
  cases s with
  | scalar c => exact List.getElem?_replicate_of_lt hi
  | seq v => rfl

/-- Whatever the view truncated to `n` holds at position `i`, the value itself holds there. -/
theorem upTo_getElem?_some (s : SV α) (n i : Nat) (x : α) (h : (s.upTo n)[i]? = some x) :
    s.get? i = some x := by
  cases s with
  | scalar c =>
    simp only [SV.upTo, List.getElem?_replicate] at h
    split at h <;> simp_all [SV.get?]
  | seq v => exact h

theorem upTo_length_scalar (c : α) (n : Nat) : ((SV.scalar c).upTo n).length = n := List.length_replicate

theorem upTo_length (s : SV α) (n : Nat) (h : ∀ v, s = .seq v → v.length = n) : (s.upTo n).length = n := by
  cases s with
  | scalar c => exact List.length_replicate
  | seq v => exact h v rfl

theorem get?_mem_vals {s : SV α} {i : Nat} {d : α} (h : s.get? i = some d) : d ∈ s.vals := by
  cases s with
  | scalar c => exact Option.some.inj h ▸ List.mem_singleton_self c
  | seq v => exact List.mem_of_getElem? h

end Lists

section Ring
variable {α : Type} [Ring α] [LinearOrder α] [IsStrictOrderedRing α]

theorem sgn_of_nonneg {w : α} (h : 0 ≤ w) : sgn w = 1 := if_pos h
theorem sgn_of_neg {w : α} (h : w < 0) : sgn w = -1 := if_neg (not_le.2 h)

/-- `w * sgn w = |w|`, in particular non-negative. -/
theorem mul_sgn_nonneg (w : α) : 0 ≤ w * sgn w := by
  rcases le_or_gt 0 w with h | h
  · rw [sgn_of_nonneg h, mul_one]; exact h
  · rw [sgn_of_neg h, mul_neg_one]; exact (neg_pos.2 h).le

/-- A larger distance is no better, in the three readings the statements use: in weighted terms for every weight, and
in raw terms for a maximised (or zero-weight) and for a minimised objective.  "Never better than the base" is `d = 0`. -/
theorem penalty_mono (w base d d' : α) (hd : d ≤ d') :
    w * (base - sgn w * d') ≤ w * (base - sgn w * d) ∧ (0 ≤ w → base - sgn w * d' ≤ base - sgn w * d) ∧
    (w < 0 → base - sgn w * d ≤ base - sgn w * d') := by
  refine ⟨?_, fun hw => ?_, fun hw => ?_⟩
  · rw [mul_sub, mul_sub, ← mul_assoc, ← mul_assoc]
    exact sub_le_sub_left (mul_le_mul_of_nonneg_left hd (mul_sgn_nonneg w)) _
  · rw [sgn_of_nonneg hw, one_mul, one_mul]; exact sub_le_sub_left hd _
  · rw [sgn_of_neg hw, neg_one_mul, neg_one_mul, sub_neg_eq_add, sub_neg_eq_add]; exact (add_le_add_iff_left base).2 hd

theorem penalty_never_better (w base d : α) (hd : 0 ≤ d) :
    w * (base - sgn w * d) ≤ w * base ∧ (0 ≤ w → base - sgn w * d ≤ base) ∧ (w < 0 → base ≤ base - sgn w * d) := by
  simpa only [mul_zero, sub_zero] using penalty_mono w base 0 d hd

theorem penalised_getElem? (g : α → α → α → α) (base D : SV α) (ws : List α) (i : Nat) (p : α) :
    (zip3With g (base.upTo (signs ws).length) (signs ws) (D.upTo (signs ws).length))[i]? = some p ↔
      ∃ bi wi di, base.get? i = some bi ∧ ws[i]? = some wi ∧ D.get? i = some di ∧ p = g bi (sgn wi) di := by
  rw [zip3With_getElem?, signs, List.length_map, List.getElem?_map]
  cases hw : ws[i]? with
  | none => simp
  | some wi =>
    have hi := (List.getElem?_eq_some_iff.1 hw).1
    rw [upTo_getElem? _ _ _ hi, upTo_getElem? _ _ _ hi]
    cases base.get? i <;> cases D.get? i <;> simp [eq_comm]

theorem penalised_length (g : α → α → α → α) (base D : SV α) (ws : List α)
    (hb : ∀ v, base = .seq v → v.length = ws.length) (hD : ∀ v, D = .seq v → v.length = ws.length) :
    (zip3With g (base.upTo (signs ws).length) (signs ws) (D.upTo (signs ws).length)).length = ws.length := by
  have hn : (signs ws).length = ws.length := List.length_map _
  rw [zip3With_length, hn, upTo_length _ _ hb, upTo_length _ _ hD, Nat.min_self, Nat.min_self]

theorem zeros_get? {ws : List α} {i : Nat} {d : α} (h : (SV.seq (ws.map fun _ => (0 : α))).get? i = some d) : d = 0 := by
  simp only [SV.get?, List.getElem?_map, Option.map_eq_some_iff] at h
  obtain ⟨_, _, rfl⟩ := h; rfl

variable {X A : Type}

/-- Both decorators read the distance function only at the point they are called on. -/
theorem deltaDists_eq (dist : Option (X → SV α)) (ws : List α) (x : X) :
    deltaDists dist ws x = (dist.map (· x)).getD (.seq (ws.map fun _ => 0)) := by cases dist <;> rfl

theorem closestDists_eq (dist : Option (X → X → SV α)) (ws : List α) (c x : X) :
    closestDists dist ws c x = (dist.map (· c x)).getD (.seq (ws.map fun _ => 0)) := by cases dist <;> rfl

theorem deltaPenalty_infeasible (feas : X → Bool) (delta : SV α) (dist : Option (X → SV α))
    (weights : X → List α) (f : X → A → List α) (x : X) (a : A) (h : feas x = false) :
    deltaPenalty feas delta dist weights f x a =
      ⟨some (zip3With (fun d w dist => d - w * dist) (delta.upTo (signs (weights x)).length) (signs (weights x))
        ((deltaDists dist (weights x) x).upTo (signs (weights x)).length)), []⟩ := by
  rw [deltaPenalty, if_neg (Bool.eq_false_iff.1 h)]

theorem closestValidPenalty_infeasible (feas : X → Bool) (closest : X → X) (alpha : α)
    (dist : Option (X → X → SV α)) (weights : X → List α) (f : X → A → List α) (x : X) (a : A) (h : feas x = false) :
    closestValidPenalty feas closest alpha dist weights f x a =
      if (f (closest x) a).length = (weights x).length then
        ⟨some (zip3With (fun f w d => f - w * alpha * d) (f (closest x) a) (signs (weights x))
          ((closestDists dist (weights x) (closest x) x).upTo (signs (weights x)).length)), [(closest x, a)]⟩
      else ⟨none, [(closest x, a)]⟩ := by
  have hn : (signs (weights x)).length = (weights x).length := List.length_map _
  rw [closestValidPenalty, if_neg (Bool.eq_false_iff.1 h)]
  simp only [hn, eq_comm (a := (weights x).length), ite_not]

theorem closestValidPenalty_result (feas : X → Bool) (closest : X → X) (alpha : α)
    (dist : Option (X → X → SV α)) (weights : X → List α) (f : X → A → List α) (x : X) (a : A) (h : feas x = false)
    (r : List α) (hr : (closestValidPenalty feas closest alpha dist weights f x a).result = some r) :
    r = zip3With (fun f w d => f - w * alpha * d) ((SV.seq (f (closest x) a)).upTo (signs (weights x)).length)
      (signs (weights x)) ((closestDists dist (weights x) (closest x) x).upTo (signs (weights x)).length) := by
  rw [closestValidPenalty_infeasible _ _ _ _ _ _ _ _ h] at hr
  split at hr
  · exact (Option.some.inj hr).symm
  · cases hr

end Ring

end Penalty
