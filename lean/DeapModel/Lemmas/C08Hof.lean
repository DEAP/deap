/-
C08 — the structural invariant `Str` of an archive (`keys` mirror `items`, keys ascending, members freshly allocated
copies of individuals seen) and its preservation by `insert` and `remove`; it holds for every similarity operator.
`same` is equality up to object identity.  One iteration of `HallOfFame.update` on an empty and on a non-empty archive
(`step_of_empty`, `step_of_last`) and the three ways it can go (`step_cases`): the case analysis under every `step_*`
lemma of `C08HofInv`.
-/
import DeapModel.Lemmas.C08Basic

set_option linter.unusedSectionVars false

namespace C08L
open Archive

variable {G α : Type} [LinearOrder α]

/-- Equal up to object identity: same genome and same fitness. -/
def same (x y : Ind G α) : Prop := x.genome = y.genome ∧ x.fit = y.fit

theorem same_refl (x : Ind G α) : same x x := ⟨rfl, rfl⟩

theorem same_copy (o : Nat) (x : Ind G α) : same (copyInd o x) x := ⟨rfl, rfl⟩

/-- The parallel lists mirror each other: `keys[j] = items[n-1-j].fitness`. -/
def Mirror (h : HoF G α) : Prop := h.keys = (h.items.map (·.fit)).reverse

theorem Mirror.length {h : HoF G α} (hm : Mirror h) : h.keys.length = h.items.length := by
  rw [hm]; simp

/-- Every member was allocated by the archive (`base ≤ oid < next`) and no two members are the
same object. -/
def Fresh (base : Nat) (h : HoF G α) : Prop :=
  base ≤ h.next ∧ (∀ it ∈ h.items, base ≤ it.oid ∧ it.oid < h.next) ∧ (h.items.map (·.oid)).Nodup

/-- Every member equals (up to identity) an individual of `seen`. -/
def Origin (seen : List (Ind G α)) (h : HoF G α) : Prop := ∀ it ∈ h.items, ∃ x ∈ seen, same it x

/-- Structural invariant: needs no hypothesis on the similarity operator. -/
structure Str (base : Nat) (seen : List (Ind G α)) (h : HoF G α) : Prop where
  mirror : Mirror h
  asc : Asc h.keys
  fresh : Fresh base h
  origin : Origin seen h

theorem str_empty (m base : Nat) : Str base ([] : List (Ind G α)) (empty m base : HoF G α) :=
  ⟨rfl, List.Pairwise.nil, ⟨Nat.le_refl _, by simp [empty], by simp [empty]⟩, by simp [Origin, empty]⟩

theorem Str.mono {base : Nat} {seen seen' : List (Ind G α)} {h : HoF G α} (hs : Str base seen h)
    (hsub : ∀ x ∈ seen, x ∈ seen') : Str base seen' h :=
  ⟨hs.mirror, hs.asc, hs.fresh, fun it hit => let ⟨x, hx, e⟩ := hs.origin it hit; ⟨x, hsub x hx, e⟩⟩

/-- items best first, from the mirror and the ascending keys -/
theorem Str.sorted {base : Nat} {seen : List (Ind G α)} {h : HoF G α} (hs : Str base seen h) :
    h.items.Pairwise (fun a b => b.fit.wvalues ≤ a.fit.wvalues) := by
  have h1 := hs.asc
  rw [hs.mirror, Asc, List.pairwise_reverse, List.pairwise_map] at h1
  exact h1

theorem Str.last_le {base : Nat} {seen : List (Ind G α)} {h : HoF G α} (hs : Str base seen h)
    {ys : List (Ind G α)} {w : Ind G α} (hys : h.items = ys ++ [w]) :
    ∀ it ∈ h.items, w.fit.wvalues ≤ it.fit.wvalues := by
  have := hs.sorted
  rw [hys, List.pairwise_append] at this
  intro it hit
  rw [hys, List.mem_append, List.mem_singleton] at hit
  rcases hit with hit | rfl
  · exact this.2.2 it hit w (by simp)
  · exact le_refl _

theorem insert_items (h : HoF G α) (x : Ind G α) :
    (insert h x).items =
      Py.insertAt h.items (h.items.length - bisectRight h.keys x.fit) (copyInd h.next x) := rfl

theorem insert_keys (h : HoF G α) (x : Ind G α) :
    (insert h x).keys = Py.insertAt h.keys (bisectRight h.keys x.fit) x.fit := rfl

theorem insert_next (h : HoF G α) (x : Ind G α) : (insert h x).next = h.next + 1 := rfl
theorem insert_maxsize (h : HoF G α) (x : Ind G α) : (insert h x).maxsize = h.maxsize := rfl

theorem mem_insert (h : HoF G α) (x y : Ind G α) :
    y ∈ (insert h x).items ↔ y = copyInd h.next x ∨ y ∈ h.items := by
  rw [insert_items, mem_insertAt]

theorem length_insert (h : HoF G α) (x : Ind G α) : (insert h x).items.length = h.items.length + 1 := by
  rw [insert_items, Gen08L.length_insertAt]

theorem insert_str {base : Nat} {seen : List (Ind G α)} {h : HoF G α} (hs : Str base seen h)
    (x : Ind G α) (hx : x ∈ seen) : Str base seen (insert h x) := by
  have hc := bisectRight_cut h.keys x.fit hs.asc
  obtain ⟨f1, f2, f3⟩ := hs.fresh
  refine ⟨?_, hc.asc_insert hs.asc, ⟨Nat.le_succ_of_le f1, fun it hit => ?_, ?_⟩, fun it hit => ?_⟩
  · exact mirror_insertAt Ind.fit hs.mirror hc.1 (copyInd h.next x)
  · rcases (mem_insert _ _ _).1 hit with rfl | hit
    · exact ⟨f1, Nat.lt_succ_self _⟩
    · exact ⟨(f2 it hit).1, Nat.lt_succ_of_lt (f2 it hit).2⟩
  · have hne : ∀ o ∈ h.items.map (·.oid), o ≠ h.next := fun o ho => by
      obtain ⟨it, hit, rfl⟩ := List.mem_map.1 ho
      exact Nat.ne_of_lt (f2 it hit).2
    rw [insert_items, map_insertAt]
    exact pairwise_insertAt_of_forall _ f3 hne (fun o ho => (hne o ho).symm)
  · rcases (mem_insert _ _ _).1 hit with rfl | hit
    · exact ⟨x, hx, same_copy _ _⟩
    · exact hs.origin it hit

theorem pyIndex_spec (len : Nat) (index : Int) (j : Nat) (h : pyIndex len index = some j) :
    j < len ∧ len - ((index % (len : Int)).toNat + 1) = len - 1 - j := by
  unfold pyIndex at h
  split at h <;> split at h <;> simp only [Option.some.injEq, reduceCtorEq] at h <;> subst h
  · rw [Int.emod_eq_of_lt ‹_› ‹_›]
    exact ⟨by omega, Nat.sub_right_comm _ _ _ ▸ rfl⟩
  · have e : index % (len : Int) = (index + len) % len := by simp
    rw [e, Int.emod_eq_of_lt (by omega) (by omega)]
    exact ⟨by omega, Nat.sub_right_comm _ _ _ ▸ rfl⟩

/-- the result of `remove` on an in-range position -/
def erased (h : HoF G α) (j : Nat) : HoF G α :=
  { h with keys := h.keys.eraseIdx (h.items.length - 1 - j), items := h.items.eraseIdx j }

theorem remove_spec (h : HoF G α) (index : Int) (j : Nat) (hj : pyIndex h.items.length index = some j) :
    j < h.items.length ∧ remove h index = some (erased h j) := by
  obtain ⟨h1, h2⟩ := pyIndex_spec _ _ _ hj
  have : h.items.length ≠ 0 := by omega
  exact ⟨h1, by simp only [remove, erased, this, ↓reduceIte, hj, h2, removeAt_eq_eraseIdx]⟩

theorem length_erased (h : HoF G α) (j : Nat) (hj : j < h.items.length) :
    (erased h j).items.length = h.items.length - 1 := by
  simp [erased, List.length_eraseIdx, hj]

theorem erased_last_items (h : HoF G α) (ys : List (Ind G α)) (w : Ind G α) (e : h.items = ys ++ [w]) :
    (erased h (h.items.length - 1)).items = ys := by
  show h.items.eraseIdx (h.items.length - 1) = ys
  rw [List.eraseIdx_length_sub_one, e, List.dropLast_concat]

theorem erased_str {base : Nat} {seen : List (Ind G α)} {h : HoF G α} (hs : Str base seen h)
    (j : Nat) (hj : j < h.items.length) : Str base seen (erased h j) := by
  have sub : (erased h j).items.Sublist h.items := List.eraseIdx_sublist _ _
  obtain ⟨f1, f2, f3⟩ := hs.fresh
  exact ⟨mirror_eraseIdx Ind.fit hs.mirror hj, hs.asc.sublist (List.eraseIdx_sublist _ _),
    ⟨f1, fun it hit => f2 it (sub.mem hit), f3.sublist (sub.map _)⟩, fun it hit => hs.origin it (sub.mem hit)⟩

section
variable {sim : Ind G α → Ind G α → Bool} {p0 ind w : Ind G α} {h : HoF G α}

/-- `step` on an empty archive of capacity ≥ 1 … -/
theorem step_of_empty (he : h.items.length = 0) (hm : h.maxsize ≠ 0) : step sim p0 h ind = some (insert h p0) := by
  rw [step, if_pos ⟨he, hm⟩]

/-- … and on an archive whose last member is `w`: `population[0]` is not read. -/
theorem step_of_last (hw : h.items.getLast? = some w) :
    step sim p0 h ind =
      if Fitness.gt ind.fit w.fit || decide (h.items.length < h.maxsize) then
        if h.items.any (fun hofer => sim ind hofer) then some h
        else if h.items.length ≥ h.maxsize then (remove h (-1)).map fun h' => insert h' ind
        else some (insert h ind)
      else some h := by
  have hne : ¬ (h.items.length = 0 ∧ h.maxsize ≠ 0) := fun hc => by
    rw [List.length_eq_zero_iff.1 hc.1] at hw
    cases hw
  rw [step, if_neg hne, hw]
  cases remove h (-1) <;> rfl

end

/-- The three ways an iteration can go, `population[0]` being `ind` (it is read only while the archive is empty,
and then the two are the same: `update_eq_fold`); the empty archive is an instance of "there is room". -/
theorem step_cases (sim : Ind G α → Ind G α → Bool) (ind : Ind G α) (h : HoF G α) (hm : 1 ≤ h.maxsize) :
    (step sim ind h ind = some h ∧ ((∃ hofer ∈ h.items, sim ind hofer = true) ∨
        (h.maxsize ≤ h.items.length ∧ ∀ w, h.items.getLast? = some w → Fitness.gt ind.fit w.fit = false))) ∨
    (step sim ind h ind = some (insert h ind) ∧ h.items.length < h.maxsize ∧
        ∀ hofer ∈ h.items, sim ind hofer = false) ∨
    (∃ ys w, h.items = ys ++ [w] ∧ (erased h (h.items.length - 1)).items = ys ∧
      step sim ind h ind = some (insert (erased h (h.items.length - 1)) ind) ∧ h.maxsize ≤ h.items.length ∧
        Fitness.gt ind.fit w.fit = true ∧ ∀ hofer ∈ h.items, sim ind hofer = false) := by
  by_cases he : h.items.length = 0
  · refine Or.inr (Or.inl ⟨step_of_empty he (Nat.ne_of_gt hm), he ▸ hm, fun hofer hh => ?_⟩)
    rw [List.length_eq_zero_iff.1 he] at hh
    cases hh
  · have hne : h.items ≠ [] := fun e => he (by rw [e]; rfl)
    obtain ⟨w, hw⟩ := Option.isSome_iff_exists.1 (List.getLast?_isSome.2 hne)
    obtain ⟨ys, hys⟩ := List.getLast?_eq_some_iff.1 hw
    have e := step_of_last (sim := sim) (p0 := ind) (ind := ind) hw
    by_cases hadm : (Fitness.gt ind.fit w.fit || decide (h.items.length < h.maxsize)) = true
    · by_cases hsim : h.items.any (fun hofer => sim ind hofer) = true
      · exact Or.inl ⟨by rw [e, if_pos hadm, if_pos hsim], Or.inl (List.any_eq_true.1 hsim)⟩
      · have hns : ∀ hofer ∈ h.items, sim ind hofer = false := fun hofer hh =>
          Bool.eq_false_iff.2 fun hq => hsim (List.any_eq_true.2 ⟨hofer, hh, hq⟩)
        by_cases hfull : h.items.length ≥ h.maxsize
        · refine Or.inr (Or.inr ⟨ys, w, hys, erased_last_items h ys w hys, ?_, hfull,
            (Bool.or_eq_true_iff.1 hadm).resolve_right fun hd =>
              absurd (of_decide_eq_true hd) (Nat.not_lt.2 hfull), hns⟩)
          rw [e, if_pos hadm, if_neg hsim, if_pos hfull,
            (remove_spec h _ _ (Gen08L.pyIndex_neg_one (List.length_pos_iff.2 hne))).2]
          rfl
        · exact Or.inr (Or.inl ⟨by rw [e, if_pos hadm, if_neg hsim, if_neg hfull], Nat.lt_of_not_le hfull, hns⟩)
    · have e' : step sim ind h ind = some h := by rw [e, if_neg hadm]
      simp only [Bool.or_eq_true, decide_eq_true_eq, not_or, Bool.not_eq_true, not_lt] at hadm
      exact Or.inl ⟨e', Or.inr ⟨hadm.2, fun w' hw' => by cases hw.symm.trans hw'; exact hadm.1⟩⟩

end C08L
