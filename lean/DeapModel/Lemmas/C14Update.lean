/-
C14 helper lemmas: the factor updates of the model (`MO.rankOneUpdate` with its magnitude guard,
`Active.applyAB` with the branch data `positiveABW` / `negativeABW`) and the success rule `OnePlus.covUpdate`
at `α = ℝ`, expressed with Mathlib matrices.
-/
import DeapModel.Lemmas.C14Bridge
import DeapModel.Lemmas.C14Matrix
import Mathlib.LinearAlgebra.Matrix.NonsingularInverse

namespace C14Update
open CmaElitist CmaElitist.LA C14Bridge Matrix

theorem normSq_eq_sum (w : List ℝ) : normSq w = (w.map fun x => x * x).sum := RealLike.real_sum _

theorem normSq_nonneg (w : List ℝ) : 0 ≤ normSq w := by
  rw [normSq_eq_sum]
  exact List.sum_nonneg (List.forall_mem_map.2 fun x _ => mul_self_nonneg x)

theorem mul_self_le_normSq {x : ℝ} {w : List ℝ} (h : x ∈ w) : x * x ≤ normSq w := by
  rw [normSq_eq_sum]
  exact List.single_le_sum (List.forall_mem_map.2 fun x _ => mul_self_nonneg x) _ (List.mem_map_of_mem h)

theorem lt_maxAbs_fold (c : ℝ) : ∀ (w : List ℝ) (m : ℝ),
    c < w.foldl (fun m x => RealLike.pmax m (RealLike.abs x)) m ↔ c < m ∨ ∃ x ∈ w, c < |x|
  | [], m => by simp
  | x :: w, m => by
    rw [List.foldl_cons, lt_maxAbs_fold c w, RealLike.real_pmax, lt_max_iff, RealLike.real_abs, List.exists_mem_cons_iff,
      or_assoc]

theorem lt_maxAbs_iff {c : ℝ} (hc : 0 ≤ c) (w : List ℝ) : c < maxAbs w ↔ ∃ x ∈ w, c < |x| := by
  unfold maxAbs
  rw [RealLike.real_lit_zero, lt_maxAbs_fold, or_iff_right (not_lt.2 hc)]

theorem normSq_pos_of_guard (w : List ℝ)
    (hg : RealLike.ofRatio 1 100000000000000000000 < maxAbs w) : 0 < normSq w := by
  have hc : (0 : ℝ) ≤ RealLike.ofRatio 1 100000000000000000000 := by simp only [real_bridge]; norm_num
  obtain ⟨x, hx, h⟩ := (lt_maxAbs_iff hc w).1 hg
  exact (mul_self_pos.2 (abs_pos.1 (hc.trans_lt h))).trans_le (mul_self_le_normSq hx)

theorem normSqrd_eq (w : List ℝ) : Active.normSqrd w = normSq w := by
  unfold Active.normSqrd
  simp only [real_bridge]
  exact Real.mul_self_sqrt (normSq_nonneg w)

theorem rankOne_skip (n : Nat) (invCh A : List (List ℝ)) (α β : ℝ) (v : List ℝ)
    (hg : ¬ RealLike.ofRatio 1 100000000000000000000 < maxAbs (matVec invCh v)) :
    MO.rankOneUpdate n invCh A α β v = (invCh, A) := by
  unfold MO.rankOneUpdate; rw [if_neg hg]

/-- `_rankOneUpdate` when the guard fires (cma.py:479-486), on images: with `w = I·v`, `a = √α`,
`b = a/‖w‖²·(√(1 + β/α‖w‖²) - 1)`. -/
theorem rankOneUpdate_lm {n : Nat} (I A : Matrix (Fin n) (Fin n) ℝ) (α β : ℝ) (v : Fin n → ℝ)
    (hg : RealLike.ofRatio 1 100000000000000000000 < maxAbs (lv (I *ᵥ v))) :
    let w := I *ᵥ v
    let a := √α
    let b := a / (w ⬝ᵥ w) * (√(1 + β / α * (w ⬝ᵥ w)) - 1)
    MO.rankOneUpdate n (lm I) (lm A) α β (lv v) =
      (lm ((1 / a) • I - (b / (a * a + a * b * (w ⬝ᵥ w))) • vecMulVec w (w ᵥ* I)),
       lm (a • A + b • vecMulVec v w)) := by
  unfold MO.rankOneUpdate
  simp only [matVec_lm]
  -- before `real_bridge`, which rewrites the literal of the guard
  rw [if_pos hg]
  simp only [vecMat_lm, normSq_lv, outer_lv, mscale_lm, madd_lm, msub_lm, real_bridge]

theorem mulVec_inv (n : Nat) (A invA : Matrix (Fin n) (Fin n) ℝ) (h : invA * A = 1) (v : Fin n → ℝ) :
    A *ᵥ (invA *ᵥ v) = v := by
  rw [mulVec_mulVec, mul_eq_one_comm.1 h, one_mulVec]

/-- `_rankOneUpdate` when the guard fires: shapes, the Gram identity, and the inverse.  `0 ≤ 1 + β/α‖w‖²` suffices for the
Gram identity (the square root is then a root); the inverse needs `0 <` (its denominator is `α` times that root). -/
theorem rankOne_main (n : Nat) (invCh A : List (List ℝ)) (α β : ℝ) (v : List ℝ)
    (hI : IsMat n invCh) (hA : IsMat n A) (hv : v.length = n)
    (hinv : matOf n invCh * matOf n A = 1) (hα : 0 < α)
    (hg : RealLike.ofRatio 1 100000000000000000000 < maxAbs (matVec invCh v))
    (ht : 0 ≤ 1 + β / α * normSq (matVec invCh v)) :
    IsMat n (MO.rankOneUpdate n invCh A α β v).1 ∧ IsMat n (MO.rankOneUpdate n invCh A α β v).2 ∧
    matOf n (MO.rankOneUpdate n invCh A α β v).2 * (matOf n (MO.rankOneUpdate n invCh A α β v).2)ᵀ
      = α • (matOf n A * (matOf n A)ᵀ) + β • vecMulVec (vecOf n v) (vecOf n v) ∧
    (0 < 1 + β / α * normSq (matVec invCh v) →
      matOf n (MO.rankOneUpdate n invCh A α β v).1 * matOf n (MO.rankOneUpdate n invCh A α β v).2 = 1) := by
  obtain ⟨I, rfl⟩ := exists_lm hI
  obtain ⟨A, rfl⟩ := exists_lm hA
  obtain ⟨v, rfl⟩ := exists_lv hv
  have hpos := normSq_pos_of_guard _ hg
  simp only [matVec_lm, normSq_lv, matOf_lm, vecOf_lv] at hinv hg ht hpos ⊢
  obtain ⟨k1, k2⟩ := C14Matrix.coded_update A I (I *ᵥ v) α β √α √(1 + β / α * (I *ᵥ v ⬝ᵥ I *ᵥ v))
    hinv hpos.ne' hα.ne' (Real.mul_self_sqrt hα.le) (Real.mul_self_sqrt ht)
  rw [mulVec_inv n _ _ hinv] at k1 k2
  simp only [rankOneUpdate_lm I A α β v hg, matOf_lm, ← vecMulVec_mul]
  exact ⟨isMat_lm _, isMat_lm _, k1, fun h => k2 (Real.sqrt_pos.2 h).ne'⟩

/-- The factor pair of cma.py:791-794 on images.  `applyAB` returns `(A', invA')`; `MO.rankOneUpdate` returns its pair
the other way round, `(invCholesky', A')`. -/
theorem applyAB_lm {n : Nat} (A I : Matrix (Fin n) (Fin n) ℝ) (a b nrm : ℝ) (w : Fin n → ℝ) :
    Active.applyAB n (lm A) (lm I) a b nrm (lv w) =
      (lm (a • A + b • vecMulVec (A *ᵥ w) w),
       lm ((1 / a) • I - (b / (a * a + a * b * nrm)) • (vecMulVec w w * I))) := by
  simp only [Active.applyAB, matVec_lm, outer_lv, mscale_lm, madd_lm, msub_lm, matMul_lm, real_bridge]

/-- Both branches of the successful update (cma.py:750-770) in one form: `w = invA·pc'`, `a = √α` and
`b = a/‖w‖²·(√(1 + ccovp/α·‖w‖²) - 1)` with `α = 1 - ccovp` (path updated) resp. `1 - ccovp(1 + cc(2 - cc))`. -/
theorem positiveABW_spec (p : Active.Params ℝ) (psucc : ℝ) (pc : List ℝ) (invA : List (List ℝ)) (y : List ℝ) :
    let r := Active.positiveABW p psucc pc invA y
    let α := if psucc < p.pthresh ∨ Active.allClose0 pc = true then 1 - p.ccovp
             else 1 - p.ccovp * (1 + p.cc * (2 - p.cc))
    r.2.w = matVec invA r.1 ∧ r.2.nrm = normSq r.2.w ∧ (pc.length = y.length → r.1.length = pc.length) ∧
    r.2.a = √α ∧ r.2.b = √α / r.2.nrm * (√(1 + p.ccovp / α * r.2.nrm) - 1) := by
  simp only [Active.positiveABW, real_bridge, normSqrd_eq]
  split_ifs with hc
  · exact ⟨rfl, rfl, fun h => by simp [h], rfl, rfl⟩
  · exact ⟨rfl, rfl, fun _ => by simp, rfl, by rw [mul_div_right_comm, mul_div_right_comm]⟩

theorem negativeABW_spec (p : Active.Params ℝ) (z : List ℝ) :
    let c := if 1 < p.ccovn * (2 * normSq z - 1) then 1 / (2 * normSq z - 1) else p.ccovn
    (Active.negativeABW p z).w = z ∧ (Active.negativeABW p z).nrm = normSq z ∧
    (Active.negativeABW p z).a = Real.sqrt (1 + c) ∧
    (Active.negativeABW p z).b = Real.sqrt (1 + c) / normSq z * (Real.sqrt (1 - c / (1 + c) * normSq z) - 1) := by
  intro c
  unfold Active.negativeABW
  simp only [normSqrd_eq, real_bridge]
  refine ⟨trivial, trivial, ?_, ?_⟩ <;> congr

/-- Generic step used by the three branches of the active update: for `w` (a list of length `n`)
with `A·w = u`, coded scalars `a² = α`, `b = a/‖w‖²·(r-1)`, `r² = 1 + β/α‖w‖²`, `r ≠ 0`. -/
theorem applyAB_main (n : Nat) (A invA : List (List ℝ)) (w : List ℝ) (α β a r : ℝ)
    (hA : IsMat n A) (hI : IsMat n invA) (hw : w.length = n)
    (hinv : matOf n invA * matOf n A = 1) (hn : normSq w ≠ 0) (hα : α ≠ 0) (ha : a * a = α)
    (hr : r * r = 1 + β / α * normSq w) (hr0 : r ≠ 0) :
    let m := Active.applyAB n A invA a (a / normSq w * (r - 1)) (normSq w) w
    IsMat n m.1 ∧ IsMat n m.2 ∧
    matOf n m.1 * (matOf n m.1)ᵀ
      = α • (matOf n A * (matOf n A)ᵀ) + β • vecMulVec (matOf n A *ᵥ vecOf n w) (matOf n A *ᵥ vecOf n w) ∧
    matOf n m.2 * matOf n m.1 = 1 := by
  obtain ⟨A, rfl⟩ := exists_lm hA
  obtain ⟨I, rfl⟩ := exists_lm hI
  obtain ⟨w, rfl⟩ := exists_lv hw
  simp only [normSq_lv, matOf_lm, vecOf_lv, applyAB_lm] at hinv hn hr ⊢
  obtain ⟨k1, k2⟩ := C14Matrix.coded_update A I w α β a r hinv hn hα ha hr
  exact ⟨isMat_lm _, isMat_lm _, k1, k2 hr0⟩

/-- The success rule (cma.py:309-314) on images. -/
theorem covUpdate_lm {n : Nat} (prm : OnePlus.Params ℝ) (psucc : ℝ) (pc x : Fin n → ℝ)
    (C : Matrix (Fin n) (Fin n) ℝ) :
    OnePlus.covUpdate prm psucc (lv pc) (lm C) (lv x) =
      if psucc < prm.pthresh then
        let p := (1 - prm.cc) • pc + √(prm.cc * (2 - prm.cc)) • x
        (lv p, lm ((1 - prm.ccov) • C + prm.ccov • vecMulVec p p))
      else
        let p := (1 - prm.cc) • pc
        (lv p, lm ((1 - prm.ccov) • C + prm.ccov • (vecMulVec p p + (prm.cc * (2 - prm.cc)) • C))) := by
  unfold OnePlus.covUpdate
  simp only [vscale_lv, vadd_lv, outer_lv, mscale_lm, madd_lm, real_bridge]

end C14Update
