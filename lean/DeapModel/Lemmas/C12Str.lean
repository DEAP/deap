/-
Helper lemmas for C12: the string builder of `__str__` computes `render`.
-/
import DeapModel.Core.GpCompile

namespace GpCompile
open GpTree

abbrev Frame := Prim × List Str
abbrev SState := Str × List Frame

/-- one `for node in self` iteration -/
def sstep (state : SState) (node : Prim) : SState := unwind node [] state.2 state.1

/-- what completing a subtree with text `r` does to the machine: hand `r` to the frame below
(or finish when there is none) -/
def push (r : Str) : List Frame → SState
  | [] => (r, [])
  | (q, qa) :: st => unwind q (qa ++ [r]) st r

theorem unwind_full {p : Prim} {args : List Str} (h : args.length = p.arity) (st : List Frame) (s : Str) :
    unwind p args st s = push (fmt p args) st := by
  cases st with
  | nil => simp [unwind, h, push]
  | cons f st => simp [unwind, h, push]

theorem unwind_open {p : Prim} {args : List Str} (h : args.length ≠ p.arity) (st : List Frame) (s : Str) :
    unwind p args st s = (s, (p, args) :: st) := by
  cases st with
  | nil => simp [unwind, h]
  | cons f st => simp [unwind, h]

theorem renderF_length (ts : List Tree) : (renderF ts).length = ts.length := by
  induction ts with
  | nil => simp [renderF]
  | cons t ts ih => simp [renderF, ih]

theorem renderF_append (a b : List Tree) : renderF (a ++ b) = renderF a ++ renderF b := by
  induction a with
  | nil => simp [renderF]
  | cons t ts ih => simp [renderF, ih]

mutual
theorem run_flatten : ∀ (t : Tree) (s : Str) (st : List Frame) (rest : List Prim), wf t = true →
    (flatten t ++ rest).foldl sstep (s, st) = rest.foldl sstep (push (render t) st)
  | .node p as, s, st, rest, h => by
    simp [wf] at h
    simp only [flatten, List.cons_append, List.foldl_cons, sstep, render]
    cases as with
    | nil =>
      have h0 : ([] : List Str).length = p.arity := by simpa using h.1
      rw [unwind_full h0]; simp [flattenF, renderF]
    | cons c cs =>
      have h0 : ([] : List Str).length ≠ p.arity := by
        have := h.1; simp at this ⊢; omega
      rw [unwind_open h0]
      have := run_flattenF (c :: cs) p [] s st rest h.2 (by simp) (by simpa using h.1)
      rw [this]; simp
      rw [unwind_full (by simp [renderF_length]; exact h.1)]
theorem run_flattenF : ∀ (cs : List Tree) (p : Prim) (done : List Str) (s : Str) (st : List Frame) (rest : List Prim),
    wfF cs = true → cs ≠ [] → done.length + cs.length = p.arity →
    (flattenF cs ++ rest).foldl sstep (s, (p, done) :: st) =
      rest.foldl sstep (unwind p (done ++ renderF cs) st [])
  | [], _, _, _, _, _, _, hne, _ => by simp at hne
  | c :: cs, p, done, s, st, rest, h, _, hl => by
    simp [wfF] at h
    simp only [flattenF, List.append_assoc]
    rw [run_flatten c s ((p, done) :: st) (flattenF cs ++ rest) h.1]
    simp only [push]
    cases cs with
    | nil =>
      simp [flattenF, renderF]
      have hf : (done ++ [render c]).length = p.arity := by simp; simpa using hl
      rw [unwind_full hf, unwind_full hf]
    | cons c2 cs2 =>
      have hf : (done ++ [render c]).length ≠ p.arity := by simp at hl ⊢; omega
      rw [unwind_open hf]
      have := run_flattenF (c2 :: cs2) p (done ++ [render c]) (render c) st rest h.2 (by simp)
        (by simp at hl ⊢; omega)
      rw [this]; simp [renderF]
end

end GpCompile
