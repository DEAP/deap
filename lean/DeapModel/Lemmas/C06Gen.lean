/-
C06 — translator tie: helper lemmas about the tape monad of Core/GenPreludeC06.lean (`GenS.M`) and the bridges from the
control structures the translator emits (`mapM`, `forLoop`, `whileLoop`) to the recursive functions of the hand-written
model (`repeatM`, `spin`, `susWalk`).
-/
import DeapModel.Core.GenPreludeC06
import DeapModel.Lemmas.C06Wheel

namespace C06G
open Selection C06L

variable {α β γ σ : Type}

@[simp] theorem pure_bind (a : α) (f : α → GenS.M β) : GenS.bind (GenS.pure a) f = f a := rfl

@[simp] theorem bind_pure (m : GenS.M α) : GenS.bind m GenS.pure = m := by
  funext t; unfold GenS.bind GenS.pure; cases m t <;> rfl

@[simp] theorem bind_pure' (m : GenS.M α) : (GenS.bind m fun x => GenS.pure x) = m := bind_pure m

theorem bind_assoc (m : GenS.M α) (f : α → GenS.M β) (g : β → GenS.M γ) :
    GenS.bind (GenS.bind m f) g = GenS.bind m fun x => GenS.bind (f x) g := by
  funext t; unfold GenS.bind; cases m t <;> rfl

@[simp] theorem raise_bind (f : α → GenS.M β) : GenS.bind GenS.raise f = GenS.raise := rfl
@[simp] theorem lift_some (a : α) : GenS.lift (some a) = GenS.pure a := rfl
@[simp] theorem lift_none : (GenS.lift none : GenS.M α) = GenS.raise := rfl

theorem bind_congr {m : GenS.M α} {f g : α → GenS.M β} (h : ∀ a, f a = g a) : GenS.bind m f = GenS.bind m g := by
  have : f = g := funext h
  rw [this]

theorem bind_apply (m : GenS.M α) (f : α → GenS.M β) (t : Tape) :
    GenS.bind m f t = match m t with | none => none | some (a, t') => f a t' := rfl

/-- `[step() for _ in range(k)]` -/
theorem mapM_const (step : GenS.M β) (l : List α) : GenS.mapM (fun _ => step) l = repeatM step l.length := by
  induction l with
  | nil => rfl
  | cons x xs ih =>
    funext t
    simp only [GenS.mapM, List.length_cons, Selection.repeatM, ih, bind_apply]
    rcases step t with _ | ⟨a, t1⟩
    · rfl
    · dsimp only
      cases repeatM step xs.length t1 <;> rfl

/-- a comprehension whose element may raise but draws nothing -/
theorem mapM_lift (f : α → Option β) (l : List α) : GenS.mapM (fun x => GenS.lift (f x)) l = GenS.lift (l.mapM f) := by
  induction l with
  | nil => rfl
  | cons x xs ih =>
    simp only [GenS.mapM, ih, List.mapM_cons]
    cases f x with
    | none => rfl
    | some y => cases List.mapM f xs <;> rfl

/-- `random.choice(individuals)` on the list of all positions is the model's `popChoice` -/
theorem choice_range (n : Nat) : GenS.choice (List.range n) = popChoice n := by
  funext t
  unfold GenS.choice
  simp only [List.length_range]
  cases h : popChoice n t with
  | none => rfl
  | some p =>
    obtain ⟨i, t'⟩ := p
    have hi : i < n := (popChoice_some.1 h).2
    simp [List.getElem?_range hi]

/-- `for x in l: …; acc.append(y)` -/
theorem forLoop_collect (step : α → GenS.M β) (body : α → List β → GenS.M (Bool × List β))
    (h : ∀ x acc, body x acc = GenS.bind (step x) fun y => GenS.pure (false, acc ++ [y])) (l : List α) (acc : List β) :
    GenS.forLoop body l acc = GenS.bind (GenS.mapM step l) fun ys => GenS.pure (acc ++ ys) := by
  induction l generalizing acc with
  | nil => simp [GenS.forLoop, GenS.mapM]
  | cons x xs ih =>
    simp only [GenS.forLoop, GenS.mapM, h, bind_assoc, pure_bind, Bool.false_eq_true, ih]
    refine bind_congr fun y => bind_congr fun ys => ?_
    simp

/-- `for x in l: …; if found: acc.append(y)` (at most one append per iteration) -/
theorem forLoop_collect_opt (step : α → GenS.M (Option β)) (body : α → List β → GenS.M (Bool × List β))
    (h : ∀ x acc, body x acc = GenS.bind (step x) fun y => GenS.pure (false, acc ++ y.toList)) (l : List α) (acc : List β) :
    GenS.forLoop body l acc = GenS.bind (GenS.mapM step l) fun ys => GenS.pure (acc ++ ys.filterMap id) := by
  induction l generalizing acc with
  | nil => simp [GenS.forLoop, GenS.mapM]
  | cons x xs ih =>
    simp only [GenS.forLoop, GenS.mapM, h, bind_assoc, pure_bind, Bool.false_eq_true, ih]
    refine bind_congr fun y => bind_congr fun ys => ?_
    cases y <;> simp

theorem valuesAt_lt {w : List Rat} {pop : Pop} {i : Nat} (h : i < pop.length) :
    GenS.valuesAt w pop i = values w pop[i] := by
  simp [GenS.valuesAt, List.getElem?_eq_getElem h]

/-- `[getattr(ind, fit_attr).values[0] for ind in individuals]` = the model's `firstVals` -/
theorem mapM_firstVals (w : List Rat) (pop : Pop) :
    (List.range pop.length).mapM (fun i => (GenS.valuesAt w pop i)[0]?) = firstVals w pop := by
  unfold firstVals
  induction pop with
  | nil => rfl
  | cons x xs ih =>
    rw [List.length_cons, List.range_succ_eq_map, List.mapM_cons, List.mapM_cons, List.mapM_map]
    have : (fun i => (GenS.valuesAt w (x :: xs) (Nat.succ i))[0]?) = fun i => (GenS.valuesAt w xs i)[0]? := rfl
    simp only [Function.comp_def, this, ih, List.head?_eq_getElem?]
    rfl

theorem first_value {w : List Rat} {pop : Pop} {fs : List Rat} (h : firstVals w pop = some fs) {i : Nat}
    (hi : i < pop.length) : (GenS.valuesAt w pop i)[0]? = some (fs.getD i 0) := by
  unfold firstVals at h
  induction pop generalizing fs i with
  | nil => simp at hi
  | cons x xs ih =>
    obtain ⟨y, ys, h1, h2, rfl⟩ := (mapM_cons_some _ x xs fs).1 h
    cases i with
    | zero => exact List.head?_eq_getElem?.symm.trans h1
    | succ j => exact ih h2 (Nat.lt_of_succ_lt_succ hi)

theorem lift_index_first {w : List Rat} {pop : Pop} {fs : List Rat} (h : firstVals w pop = some fs) {l : List Nat}
    (hl : ∀ x ∈ l, x < pop.length) (i : Nat) (f : Nat → Rat → GenS.M β) :
    (GenS.bind (GenS.lift (l[i]?)) fun x => GenS.bind (GenS.lift ((GenS.valuesAt w pop x)[0]?)) (f x))
      = GenS.bind (GenS.lift (l[i]?)) fun x => f x (fs.getD x 0) := by
  cases hx : l[i]? with
  | none => rfl
  | some x =>
    have : x ∈ l := List.mem_of_getElem? hx
    simp [first_value h (hl x this)]

/-- the running sum when the inner loop of `selRoulette` stops -/
def spinSum (fs : List Rat) (u : Rat) : List Nat → Rat → Rat
  | [], s => s
  | i :: rest, s => if s + fs.getD i 0 > u then s + fs.getD i 0 else spinSum fs u rest (s + fs.getD i 0)

/-- the inner `for ind in s_inds` loop of `selRoulette` is the model's `spin` -/
theorem forLoop_spin {w : List Rat} {pop : Pop} {fs : List Rat} (h : firstVals w pop = some fs) (u : Rat)
    (l : List Nat) (hl : ∀ x ∈ l, x < pop.length) (ch : List Nat) (s : Rat) :
    GenS.forLoop (fun (ind : Nat) (st : List Nat × Rat) =>
        GenS.bind (GenS.lift ((GenS.valuesAt w pop ind)[0]?)) fun x =>
          if st.2 + x > u then GenS.pure (true, (st.1 ++ [ind], st.2 + x)) else GenS.pure (false, (st.1, st.2 + x))) l (ch, s)
      = GenS.pure (ch ++ (spin fs u l s).toList, spinSum fs u l s) := by
  induction l generalizing s with
  | nil => simp [GenS.forLoop, spin, spinSum]
  | cons i rest ih =>
    have hi : i < pop.length := hl i (by simp)
    simp only [GenS.forLoop, first_value h hi, lift_some, pure_bind, spin, spinSum]
    split
    · rfl
    · simp only [pure_bind, Bool.false_eq_true]
      exact ih (fun x hx => hl x (by simp [hx])) _

theorem rouletteStep_eq (fs : List Rat) (o : List Nat) (S : Rat) :
    rouletteStep fs o S = GenS.bind popRandom fun r => GenS.pure (spin fs (r * S) o 0) := by
  funext t
  simp only [rouletteStep, bind_apply]
  cases popRandom t <;> rfl

/-- the `while sum_ < p` walk of `selStochasticUniversalSampling` followed by `s_inds[i]` is the model's `susWalk` -/
theorem while_susWalk (fs : List Rat) (p : Rat) (o : List Nat) (rest : List Nat) :
    ∀ (cur : Nat) (pre : List Nat) (s : Rat) (fuel : Nat), o = pre ++ cur :: rest → rest.length + 1 ≤ fuel →
    (GenS.bind (GenS.whileLoop (fun (st : Nat × Rat) => decide (st.2 < p))
        (fun (st : Nat × Rat) => GenS.bind (GenS.lift (o[st.1 + 1]?)) fun x => GenS.pure (false, (st.1 + 1, st.2 + fs.getD x 0)))
        fuel (pre.length, s)) fun st => GenS.lift (o[st.1]?))
      = GenS.lift (susWalk fs p cur s rest) := by
  induction rest with
  | nil =>
    intro cur pre s fuel ho hf
    obtain ⟨f, rfl⟩ : ∃ f, fuel = f + 1 := ⟨fuel - 1, by omega⟩
    have hcur : o[pre.length]? = some cur := by rw [ho, List.getElem?_append_right (le_refl _), Nat.sub_self]; rfl
    have hend : o[pre.length + 1]? = none := by rw [ho]; exact List.getElem?_eq_none (by simp)
    by_cases hc : s < p <;>
      simp only [GenS.whileLoop, susWalk, hc, hcur, hend, decide_true, decide_false, ↓reduceIte, lift_none,
        raise_bind, pure_bind, Bool.false_eq_true]
  | cons j rest' ih =>
    intro cur pre s fuel ho hf
    obtain ⟨f, rfl⟩ : ∃ f, fuel = f + 1 := ⟨fuel - 1, by omega⟩
    have hcur : o[pre.length]? = some cur := by rw [ho, List.getElem?_append_right (le_refl _), Nat.sub_self]; rfl
    by_cases hc : s < p
    · have hj : o[pre.length + 1]? = some j := by
        rw [ho, List.getElem?_append_right (Nat.le_add_right _ 1), Nat.add_sub_cancel_left]; rfl
      have := ih j (pre ++ [cur]) (s + fs.getD j 0) f (by rw [ho, List.append_assoc]; rfl)
        (Nat.le_of_succ_le_succ hf)
      rw [List.length_append] at this
      simp only [GenS.whileLoop, susWalk, hc, decide_true, ↓reduceIte, hj, lift_some, pure_bind, Bool.false_eq_true]
      exact this
    · simp only [GenS.whileLoop, susWalk, hc, hcur, decide_false, ↓reduceIte, pure_bind, Bool.false_eq_true]

/-- one pointer of `selStochasticUniversalSampling` (`i = 0; sum_ = …; while sum_ < p: …; chosen.append(s_inds[i])`)
is the model's `susPoint` -/
theorem sus_body {w : List Rat} {pop : Pop} {fs : List Rat} (h : firstVals w pop = some fs) {o : List Nat}
    (hl : ∀ x ∈ o, x < pop.length) (p : Rat) (acc : List Nat) :
    (GenS.bind (GenS.lift (o[(0 : Nat)]?)) fun x10 => GenS.bind (GenS.lift ((GenS.valuesAt w pop x10)[(0 : Nat)]?)) fun x11 =>
      GenS.bind (GenS.whileLoop (fun (st : Nat × Rat) => decide (st.2 < p))
        (fun (st : Nat × Rat) => GenS.bind (GenS.lift (o[st.1 + (1 : Nat)]?)) fun x12 =>
          GenS.bind (GenS.lift ((GenS.valuesAt w pop x12)[(0 : Nat)]?)) fun x13 => GenS.pure (false, (st.1 + (1 : Nat), st.2 + x13)))
        (o.length + 1) ((0 : Nat), x11)) fun s14 =>
        GenS.bind (GenS.lift (o[s14.1]?)) fun x15 => GenS.pure (false, acc ++ [x15]))
      = GenS.bind (GenS.lift (susPoint fs o p)) fun y => GenS.pure (false, acc ++ [y]) := by
  have hb : (fun (st : Nat × Rat) => GenS.bind (GenS.lift (o[st.1 + (1 : Nat)]?)) fun x12 =>
        GenS.bind (GenS.lift ((GenS.valuesAt w pop x12)[(0 : Nat)]?)) fun x13 =>
          (GenS.pure (false, (st.1 + (1 : Nat), st.2 + x13)) : GenS.M (Bool × (Nat × Rat))))
      = fun st => GenS.bind (GenS.lift (o[st.1 + 1]?)) fun x => GenS.pure (false, (st.1 + 1, st.2 + fs.getD x 0)) :=
    funext fun st => lift_index_first h hl _ _
  rw [hb, lift_index_first h hl 0]
  cases o with
  | nil => rfl
  | cons i rest =>
    simp only [List.getElem?_cons_zero, lift_some, pure_bind, susPoint]
    rw [← bind_assoc]
    have := while_susWalk fs p (i :: rest) rest i [] (fs.getD i 0) ((i :: rest).length + 1) rfl (by simp)
    simp only [List.length_nil] at this
    rw [this]

/-- `max(selRandom(individuals, tournsize), key=attrgetter(fit_attr))`, followed by `g` -/
theorem tournStep_bind (pop : Pop) (ts : Nat) (g : Nat → GenS.M β) :
    (GenS.bind (Selection.repeatM (popChoice pop.length) ts) fun f => GenS.bind (GenS.lift (pyMax (fitGt pop) f)) g)
      = GenS.bind (tournStep pop ts) g := by
  funext t
  simp only [tournStep, Selection.selRandom, bind_apply]
  rcases Selection.repeatM (popChoice pop.length) ts t with _ | ⟨a, t1⟩
  · rfl
  · simp only [GenS.lift]
    cases pyMax (fitGt pop) a <;> rfl

theorem tournStep_eq (pop : Pop) (ts : Nat) :
    (GenS.bind (Selection.repeatM (popChoice pop.length) ts) fun f => GenS.lift (pyMax (fitGt pop) f)) = tournStep pop ts := by
  have := tournStep_bind pop ts (GenS.pure)
  simpa using this

end C06G
