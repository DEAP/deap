/-
Helper lemmas and specification vocabulary for C06: the lexicase family.
-/
import DeapModel.Lemmas.C06
import Mathlib.Tactic.Linarith

namespace C06L
open Selection

/-- Individual `x` is at least as good as `y` on case `c` (larger value for a positive weight,
smaller otherwise — the direction `selLexicase` uses). -/
def geqOn (w : List Rat) (vals : List (List Rat)) (c x y : Nat) : Prop :=
  if w.getD c 0 > 0 then valAt vals y c ≤ valAt vals x c else valAt vals x c ≤ valAt vals y c

/-- Individual `x` is better than `y` on case `c` by more than `tol`. -/
def betterBy (w : List Rat) (vals : List (List Rat)) (c x y : Nat) (tol : Rat) : Prop :=
  if w.getD c 0 > 0 then valAt vals y c + tol < valAt vals x c else valAt vals x c + tol < valAt vals y c

/-- The cases the `while` loop actually processes, each with the candidate list it was applied to. -/
def lexTrace (rule : Rule) (w : List Rat) (vals : List (List Rat)) : List Nat → List Nat → List (Nat × List Nat)
  | [], _ => []
  | c :: cs, cands =>
    if cands.length > 1 then (c, cands) :: lexTrace rule w vals cs (filterCase rule w vals c cands) else []

/-- The tolerance `rule` applies at case `c` to the candidate list `cands`. -/
def tolAt (rule : Rule) (vals : List (List Rat)) (c : Nat) (cands : List Nat) : Rat :=
  tolOf rule (cands.map (fun i => valAt vals i c))

theorem eq_of_geqOn_of_not_betterBy {w : List Rat} {vals : List (List Rat)} {c x y : Nat}
    (hg : geqOn w vals c x y) (hb : ¬ betterBy w vals c x y 0) : valAt vals x c = valAt vals y c := by
  unfold geqOn at hg
  unfold betterBy at hb
  rw [add_zero, add_zero] at hb
  split at hg
  · next hw => rw [if_pos hw] at hb; exact le_antisymm (not_lt.1 hb) hg
  · next hw => rw [if_neg hw] at hb; exact le_antisymm hg (not_lt.1 hb)

theorem not_betterBy_self (w : List Rat) (vals : List (List Rat)) (c x : Nat) {e : Rat} (he : 0 ≤ e) :
    ¬ betterBy w vals c x x e := by
  unfold betterBy
  split <;> exact not_lt.2 (le_add_of_nonneg_right he)

theorem listMax_spec {l : List Rat} : (l ≠ [] → listMax l ∈ l) ∧ ∀ e ∈ l, e ≤ listMax l := by
  cases l with
  | nil => exact ⟨fun h => absurd rfl h, fun e he => absurd he List.not_mem_nil⟩
  | cons x xs => exact ⟨fun _ => (foldl_argmax id _ (fun _ _ => Iff.rfl) xs x).1, (foldl_argmax id _ (fun _ _ => Iff.rfl) xs x).2⟩

theorem listMin_spec {l : List Rat} : (l ≠ [] → listMin l ∈ l) ∧ ∀ e ∈ l, listMin l ≤ e := by
  cases l with
  | nil => exact ⟨fun h => absurd rfl h, fun e he => absurd he List.not_mem_nil⟩
  | cons x xs =>
    exact ⟨fun _ => (foldl_argmax OrderDual.toDual _ (fun _ _ => Iff.rfl) xs x).1,
      (foldl_argmax OrderDual.toDual _ (fun _ _ => Iff.rfl) xs x).2⟩

theorem mem_filterCase {rule : Rule} {w : List Rat} {vals : List (List Rat)} {c : Nat} {cands : List Nat} {i : Nat} :
    i ∈ filterCase rule w vals c cands ↔ i ∈ cands ∧
      (if w.getD c 0 > 0
        then listMax (cands.map (fun j => valAt vals j c)) ≤ valAt vals i c + tolAt rule vals c cands
        else valAt vals i c ≤ listMin (cands.map (fun j => valAt vals j c)) + tolAt rule vals c cands) := by
  have hmem (hi : i ∈ cands) : valAt vals i c ∈ cands.map (fun j => valAt vals j c) := List.mem_map.2 ⟨i, hi, rfl⟩
  unfold filterCase tolAt
  by_cases hw : w.getD c 0 > 0 <;> cases rule <;>
    simp only [hw, tolOf, add_zero, decide_false, ↓reduceIte, List.mem_filter,
      decide_eq_true_eq, sub_le_iff_le_add, Bool.false_eq_true]
  -- the plain rule keeps `== best`, which is `≤`/`≥ best` for an element of the list
  · exact and_congr_right fun hi => ⟨fun h => h ▸ le_rfl, fun h => le_antisymm (listMax_spec.2 _ (hmem hi)) h⟩
  · exact and_congr_right fun hi => ⟨fun h => h ▸ le_rfl, fun h => le_antisymm h (listMin_spec.2 _ (hmem hi))⟩

theorem filterCase_keep {rule : Rule} {w : List Rat} {vals : List (List Rat)} {c : Nat} {cands : List Nat}
    {x y : Nat} (hy : y ∈ filterCase rule w vals c cands) (hx : x ∈ cands) (hg : geqOn w vals c x y) :
    x ∈ filterCase rule w vals c cands := by
  refine mem_filterCase.2 ⟨hx, ?_⟩
  have hy := (mem_filterCase.1 hy).2
  unfold geqOn at hg
  by_cases hw : w.getD c 0 > 0 <;> simp only [hw, ↓reduceIte] at * <;> linarith

theorem filterCase_bound {rule : Rule} {w : List Rat} {vals : List (List Rat)} {c : Nat} {cands : List Nat}
    {x y : Nat} (hy : y ∈ filterCase rule w vals c cands) (hx : x ∈ cands) :
    ¬ betterBy w vals c x y (tolAt rule vals c cands) := by
  have hy := (mem_filterCase.1 hy).2
  have hmem : valAt vals x c ∈ cands.map (fun j => valAt vals j c) := List.mem_map.2 ⟨x, hx, rfl⟩
  have hmax := listMax_spec.2 _ hmem
  have hmin := listMin_spec.2 _ hmem
  unfold betterBy
  by_cases hw : w.getD c 0 > 0 <;> simp only [hw, ↓reduceIte] at * <;> linarith

theorem lexLoop_sub (rule : Rule) (w : List Rat) (vals : List (List Rat)) (cs cands : List Nat) :
    ∀ i ∈ lexLoop rule w vals cs cands, i ∈ cands := by
  induction cs generalizing cands with
  | nil => simp [lexLoop]
  | cons c cs ih =>
    intro i hi
    simp only [lexLoop] at hi
    split at hi
    · exact (mem_filterCase.1 (ih _ i hi)).1
    · exact hi

theorem lexLoop_keep {rule : Rule} {w : List Rat} {vals : List (List Rat)} {cs cands : List Nat} {x y : Nat}
    (hy : y ∈ lexLoop rule w vals cs cands) (hx : x ∈ cands) (hg : ∀ c ∈ cs, geqOn w vals c x y) :
    x ∈ lexLoop rule w vals cs cands := by
  induction cs generalizing cands with
  | nil => simpa [lexLoop] using hx
  | cons c cs ih =>
    simp only [lexLoop] at hy ⊢
    split
    · next hl =>
      simp only [hl] at hy
      have hyf := lexLoop_sub _ _ _ _ _ y hy
      exact ih hy (filterCase_keep hyf hx (hg c (by simp))) (fun c' hc' => hg c' (by simp [hc']))
    · exact hx

theorem two_le_length {l : List Nat} {x y : Nat} (hx : x ∈ l) (hy : y ∈ l) (hne : x ≠ y) : l.length > 1 := by
  match l, hx, hy with
  | [a], hx, hy => simp at hx hy; exact absurd (hx.trans hy.symm) hne
  | _ :: _ :: _, _, _ => simp

/-- Along the whole loop a rival `x` that is nowhere worse than the eventual survivor `y` stays a
candidate next to `y`, and at no processed case beats `y` by more than the tolerance used there;
if `x ≠ y` the loop cannot stop early, so every case is processed. -/
theorem lexTrace_spec {rule : Rule} {w : List Rat} {vals : List (List Rat)} {cs cands : List Nat} {x y : Nat}
    (hy : y ∈ lexLoop rule w vals cs cands) (hx : x ∈ cands) (hg : ∀ c ∈ cs, geqOn w vals c x y) :
    (∀ p ∈ lexTrace rule w vals cs cands, x ∈ p.2 ∧ y ∈ p.2 ∧
        ¬ betterBy w vals p.1 x y (tolAt rule vals p.1 p.2)) ∧
    (x ≠ y → (lexTrace rule w vals cs cands).map Prod.fst = cs) := by
  induction cs generalizing cands with
  | nil => simp [lexTrace]
  | cons c cs ih =>
    have hyc : y ∈ cands := lexLoop_sub _ _ _ _ _ y hy
    simp only [lexLoop] at hy
    simp only [lexTrace]
    by_cases hl : cands.length > 1
    · simp only [hl] at hy ⊢
      have hyf := lexLoop_sub _ _ _ _ _ y hy
      have hxf := filterCase_keep hyf hx (hg c (by simp))
      obtain ⟨ih1, ih2⟩ := ih hy hxf (fun c' hc' => hg c' (by simp [hc']))
      exact ⟨List.forall_mem_cons.2 ⟨⟨hx, hyc, filterCase_bound hyf hx⟩, ih1⟩, fun hne => by simp [ih2 hne]⟩
    · simp only [hl]
      exact ⟨nofun, fun hne => absurd (two_le_length hx hyc hne) hl⟩

theorem median_nonneg {l : List Rat} (h : ∀ x ∈ l, 0 ≤ x) : 0 ≤ median l := by
  have hget (i : Nat) : 0 ≤ (l.mergeSort (fun a b => decide (a ≤ b))).getD i 0 := by
    rw [List.getD_eq_getElem?_getD]
    rcases hi : (l.mergeSort (fun a b => decide (a ≤ b)))[i]? with _ | v
    · exact le_rfl
    · exact h v ((List.mergeSort_perm _ _).mem_iff.1 (List.mem_of_getElem? hi))
  unfold median
  dsimp only
  split_ifs
  exacts [le_rfl, hget _, div_nonneg (add_nonneg (hget _) (hget _)) zero_le_two]

theorem absRat_nonneg (x : Rat) : 0 ≤ absRat x := by
  unfold absRat; split <;> linarith

/-- `rule` uses a non-negative tolerance (`ε ≥ 0` for the ε variant; 0 and the MAD always are). -/
def RuleOK : Rule → Prop
  | .eps e => 0 ≤ e
  | _ => True

theorem tolOf_nonneg {rule : Rule} (h : RuleOK rule) (errs : List Rat) : 0 ≤ tolOf rule errs := by
  cases rule with
  | exact => exact le_refl _
  | eps e => exact h
  | auto => exact median_nonneg fun x hx => by obtain ⟨y, _, rfl⟩ := List.mem_map.1 hx; exact absRat_nonneg _

theorem filterCase_ne_nil {rule : Rule} (hr : RuleOK rule) (w : List Rat) (vals : List (List Rat)) (c : Nat)
    {cands : List Nat} (hne : cands ≠ []) : filterCase rule w vals c cands ≠ [] := by
  have hne' : cands.map (fun j => valAt vals j c) ≠ [] := by simpa using hne
  have htol : 0 ≤ tolAt rule vals c cands := tolOf_nonneg hr _
  -- an individual attaining the best value of the case passes the filter
  by_cases hw : w.getD c 0 > 0
  · obtain ⟨i, hi, hv⟩ := List.mem_map.1 (listMax_spec.1 hne')
    exact List.ne_nil_of_mem (mem_filterCase.2 ⟨hi, by rw [if_pos hw, hv]; exact le_add_of_nonneg_right htol⟩)
  · obtain ⟨i, hi, hv⟩ := List.mem_map.1 (listMin_spec.1 hne')
    exact List.ne_nil_of_mem (mem_filterCase.2 ⟨hi, by rw [if_neg hw, hv]; exact le_add_of_nonneg_right htol⟩)

theorem lexLoop_ne_nil {rule : Rule} (hr : RuleOK rule) (w : List Rat) (vals : List (List Rat))
    (cs : List Nat) {cands : List Nat} (hne : cands ≠ []) : lexLoop rule w vals cs cands ≠ [] := by
  induction cs generalizing cands with
  | nil => simpa [lexLoop] using hne
  | cons c cs ih =>
    simp only [lexLoop]
    split
    · exact ih (filterCase_ne_nil hr w vals c hne)
    · exact hne

/-- `len(individuals[0].fitness.values)` -/
def nCases (w : List Rat) (pop : Pop) : Nat := ((pop.map (values w)).headD []).length

/-- one selection reads a shuffle `d.1` of the cases and a choice `d.2` among the candidates the loop leaves -/
theorem lexStep_parses (rule : Rule) (w : List Rat) (pop : Pop) :
    Parses (lexStep rule w pop) (fun d : List Nat × Nat => [Draw.shuffle d.1, Draw.choice d.2])
      (fun win d => pop ≠ [] ∧ (∀ x ∈ pop, (values w x).length = nCases w pop) ∧
        d.1.Perm (List.range (nCases w pop)) ∧
        d.2 < (lexLoop rule w (pop.map (values w)) d.1 (List.range pop.length)).length ∧
        win = (lexLoop rule w (pop.map (values w)) d.1 (List.range pop.length)).getD d.2 0) := by
  intro t win t'
  unfold lexStep nCases
  cases pop with
  | nil => simp
  | cons x0 xs =>
    simp only [List.map_cons, List.headD_cons, List.all_cons, decide_true, Bool.true_and, List.all_map,
      List.all_eq_true, Function.comp_apply, decide_eq_true_eq, ne_eq, reduceCtorEq, not_false_eq_true,
      List.mem_cons, forall_eq_or_imp, true_and]
    split
    · next hall =>
      constructor
      · intro h
        split at h
        · cases h
        · next cases t1 hs =>
          obtain ⟨rfl, hperm⟩ := popShuffle_some.1 hs
          split at h
          · cases h
          · next j t2 hc =>
            obtain ⟨rfl, hj⟩ := popChoice_some.1 hc
            cases h
            exact ⟨(cases, j), rfl, hall, hperm, hj, rfl⟩
      · rintro ⟨⟨cases, j⟩, rfl, _, hperm, hj, rfl⟩
        simp only [List.cons_append, List.nil_append] at hperm hj ⊢
        rw [popShuffle_some.2 ⟨rfl, hperm⟩]
        simp only [popChoice_some.2 ⟨rfl, hj⟩]
    · next hall => exact iff_of_false (fun h => nomatch h) fun ⟨_, _, h, _⟩ => hall h

theorem lexStep_spec {rule : Rule} {w : List Rat} {pop : Pop} {t t' : Tape} {win : Nat}
    (h : lexStep rule w pop t = some (win, t')) :
    ∃ cases j, t = Draw.shuffle cases :: Draw.choice j :: t' ∧ cases.Perm (List.range (nCases w pop)) ∧
      win ∈ lexLoop rule w (pop.map (values w)) cases (List.range pop.length) := by
  obtain ⟨⟨cases, j⟩, ht, _, _, hperm, hj, rfl⟩ := (lexStep_parses rule w pop _ _ _).1 h
  refine ⟨cases, j, ht, hperm, ?_⟩
  rw [List.getD_eq_getElem?_getD, List.getElem?_eq_getElem hj]
  exact List.getElem_mem hj

end C06L
