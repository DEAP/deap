/-
C08 at heap level — vocabulary and generic facts: the log of the archive's allocations, the invariant of a
heap-level archive, the abstraction relation to the pure archive of `Core/Archive.lean`, and how what the
archive reads of an object (pure value, `fitness`, its `wvalues`) behaves under heap extension and under writes.
-/
import DeapModel.Core.ArchiveHeap
import DeapModel.Lemmas.C16Copy
import DeapModel.Lemmas.C08Run

set_option linter.unusedSectionVars false

namespace C08H
open Heap Heap.Copy ArchiveHeap
open Archive (Ind HoF)
open Fitness (Fit)

variable {α : Type} [LinearOrder α]

/-- `omega` does not look through the abbreviation `Heap.Oid := Nat`. -/
macro "oomega" : tactic => `(tactic| ((try simp only [Heap.Oid] at *); omega))

/-- `y` lies in one of the oid ranges the archive's `deepcopy` calls allocated. -/
def InLog (log : List (Nat × Nat)) (y : Nat) : Prop := ∃ r ∈ log, r.1 ≤ y ∧ y < r.2

/-- `y` is an immutable object of the heap (a GP node object shared by `PrimitiveTree.__deepcopy__`). -/
def Imm (objs : Oid → Option Obj) (y : Oid) : Prop := ∃ o, objs y = some o ∧ o.mutable = false

/-- The object the *instance* attribute `fitness` of `x` refers to. -/
def instFit (P : Params α) (objs : Oid → Option Obj) (x : Oid) : Option Oid :=
  match objs x with
  | some o =>
    match lookup P.fitName o.attrs with
    | some (.ref f) => some f
    | _ => none
  | none => none

/-- The heap of `hs'` extends the heap of `hs`: old objects are untouched, the log only grows, by ranges
beyond the old heap. -/
structure HExt (hs hs' : HState) : Prop where
  next : hs.next ≤ hs'.next
  objs : ∀ y, y < hs.next → hs'.objs y = hs.objs y
  logNew : ∀ y, InLog hs'.log y → InLog hs.log y ∨ hs.next ≤ y
  logOld : ∀ y, InLog hs.log y → InLog hs'.log y
  maxsize : hs'.maxsize = hs.maxsize
  /-- a member never comes back: a member of the later archive is an old member or a new object -/
  items : ∀ x ∈ hs'.items, x ∈ hs.items ∨ hs.next ≤ x

theorem HExt.refl (hs : HState) : HExt hs hs :=
  ⟨Nat.le_refl _, fun _ _ => rfl, fun _ h => Or.inl h, fun _ h => h, rfl, fun _ h => Or.inl h⟩

theorem HExt.trans {a b c : HState} (h1 : HExt a b) (h2 : HExt b c) : HExt a c where
  next := Nat.le_trans h1.next h2.next
  objs := fun y hy => by rw [h2.objs y (Nat.lt_of_lt_of_le hy h1.next), h1.objs y hy]
  logNew := fun y hy => (h2.logNew y hy).elim (h1.logNew y) fun h => Or.inr (Nat.le_trans h1.next h)
  logOld := fun y hy => h2.logOld y (h1.logOld y hy)
  maxsize := by rw [h2.maxsize, h1.maxsize]
  items := fun x hx => (h2.items x hx).elim (h1.items x) fun h => Or.inr (Nat.le_trans h1.next h)

/-- The invariant of a heap-level archive (`base` = where the interpreter's heap ended when the archive was
created). -/
structure Inv (P : Params α) (base : Nat) (hs : HState) : Prop where
  closed : Closed hs.objs hs.next
  base_le : base ≤ hs.next
  logwf : ∀ r ∈ hs.log, base ≤ r.1 ∧ r.1 < r.2 ∧ r.2 ≤ hs.next
  logord : hs.log.Pairwise (fun r s => r.2 ≤ s.1)
  /-- objects outside the archive's ranges do not refer into them -/
  outside : ∀ y o, hs.objs y = some o → ¬ InLog hs.log y → ∀ z, Val.ref z ∈ o.children → ¬ InLog hs.log z
  /-- every member is the first object of one of the archive's ranges, and everything reachable from it is
  inside that range or immutable -/
  members : ∀ x ∈ hs.items, ∃ hi, (x, hi) ∈ hs.log ∧
    ∀ y, Reach hs.objs (.ref x) y → (x ≤ y ∧ y < hi) ∨ Imm hs.objs y
  nodup : hs.items.Pairwise (· ≠ ·)
  /-- `keys[j] is items[n-1-j].fitness` -/
  keyof : hs.keys.map some = (hs.items.map (instFit P hs.objs)).reverse

/-- What is left of an individual when its identity is forgotten: two individuals are equal up to identity
(`C08L.same`) iff they have the same `erase` (`erase_eq_iff`). -/
def erase (it : Ind PV α) : PV × Fit α := (it.genome, it.fit)

/-- The heap-level archive `hs` denotes the pure archive `h` (up to the identities of the members). -/
structure Rel (P : Params α) (hs : HState) (h : HoF PV α) : Prop where
  msz : h.maxsize = hs.maxsize
  keys : h.keys = hs.keys.map (fitAt P hs.objs)
  items : hs.items.map (fun x => (viewInd P hs.objs x).map erase) = h.items.map (fun it => some (erase it))

/-- `similar` does not look at object identity. -/
def SimErase (sim : Ind PV α → Ind PV α → Bool) : Prop :=
  ∀ x x' y y', erase x = erase x' → erase y = erase y' → sim x y = sim x' y'

theorem erase_eq_iff {x y : Ind PV α} : erase x = erase y ↔ C08L.same x y :=
  ⟨fun e => ⟨congrArg Prod.fst e, congrArg Prod.snd e⟩, fun s => Prod.ext s.1 s.2⟩

/-- `SimErase` is the identity-blindness clause of the pure theorems' hypotheses (`C08L.SimSym.same`). -/
theorem simErase_of_same {sim : Ind PV α → Ind PV α → Bool}
    (h : ∀ x x' y y', C08L.same x x' → C08L.same y y' → sim x y = sim x' y') : SimErase sim :=
  fun x x' y y' e1 e2 => h x x' y y' (erase_eq_iff.1 e1) (erase_eq_iff.1 e2)

theorem forall₂_of_map_eq {β γ δ : Type} {f : β → δ} {g : γ → δ} {S : β → γ → Prop}
    (H : ∀ a b, f a = g b → S a b) : ∀ {l : List β} {l' : List γ}, l.map f = l'.map g → List.Forall₂ S l l'
  | [], [], _ => .nil
  | [], _ :: _, e => by simp at e
  | _ :: _, [], e => by simp at e
  | _ :: _, _ :: _, e => by
    simp only [List.map_cons, List.cons.injEq] at e
    exact .cons (H _ _ e.1) (forall₂_of_map_eq H e.2)

/-- Case analysis on two results in lockstep, keeping what the two results were. -/
@[elab_as_elim]
theorem rel_cases {β γ : Type} {R : β → γ → Prop} {motive : Option β → Option γ → Prop} {o : Option β}
    {o' : Option γ} (h : Option.Rel R o o') (none : motive none none)
    (some : ∀ a b, o = some a → o' = some b → R a b → motive (some a) (some b)) : motive o o' := by
  cases h with
  | none => exact none
  | some hab => exact some _ _ rfl rfl hab

/-- The object `x` denotes the pure individual `it`, up to identity. -/
def Denotes (P : Params α) (objs : Oid → Option Obj) (x : Oid) (it : Ind PV α) : Prop :=
  ∃ vx, viewInd P objs x = some vx ∧ erase vx = erase it

section Transfer
variable {P : Params α} {hs : HState} {h : HoF PV α}

theorem Rel.len (hR : Rel P hs h) : hs.items.length = h.items.length := by
  simpa using congrArg List.length hR.items

theorem Rel.views (hR : Rel P hs h) :
    List.Forall₂ (Denotes P hs.objs) hs.items h.items :=
  forall₂_of_map_eq (fun _ _ e => Option.map_eq_some_iff.1 e) hR.items

theorem Rel.mem_of_pure (hR : Rel P hs h) {it : Ind PV α} (hit : it ∈ h.items) :
    ∃ x ∈ hs.items, Denotes P hs.objs x it := by
  have h1 : some (erase it) ∈ h.items.map (fun it => some (erase it)) := List.mem_map.2 ⟨it, hit, rfl⟩
  rw [← hR.items] at h1
  obtain ⟨x, hx, e⟩ := List.mem_map.1 h1
  exact ⟨x, hx, Option.map_eq_some_iff.1 e⟩

theorem Rel.mem_of_heap (hR : Rel P hs h) {x : Oid} (hx : x ∈ hs.items) :
    ∃ it ∈ h.items, Denotes P hs.objs x it := by
  have h1 : (viewInd P hs.objs x).map erase ∈ hs.items.map (fun x => (viewInd P hs.objs x).map erase) :=
    List.mem_map.2 ⟨x, hx, rfl⟩
  rw [hR.items] at h1
  obtain ⟨it, hit, e⟩ := List.mem_map.1 h1
  exact ⟨it, hit, Option.map_eq_some_iff.1 e.symm⟩

theorem Rel.last (hR : Rel P hs h) {w : Oid} (hw : hs.items.getLast? = some w) :
    ∃ it, h.items.getLast? = some it ∧ Denotes P hs.objs w it := by
  have hlast := congrArg List.getLast? hR.items
  rw [List.getLast?_map, List.getLast?_map, hw] at hlast
  obtain ⟨it, hit, e⟩ := Option.map_eq_some_iff.1 hlast.symm
  exact ⟨it, hit, Option.map_eq_some_iff.1 e.symm⟩

theorem Rel.pairwise (hR : Rel P hs h) (R : PV × Fit α → PV × Fit α → Prop)
    (hp : h.items.Pairwise (fun a b => R (erase a) (erase b))) :
    hs.items.Pairwise (fun a b => ∀ va vb, viewInd P hs.objs a = some va → viewInd P hs.objs b = some vb →
      R (erase va) (erase vb)) := by
  have h1 : (h.items.map (fun it => some (erase it))).Pairwise
      (fun u v => ∀ eu ev, u = some eu → v = some ev → R eu ev) := by
    rw [List.pairwise_map]
    exact hp.imp (fun {a b} hab eu ev hu hv => by cases hu; cases hv; exact hab)
  rw [← hR.items, List.pairwise_map] at h1
  exact h1.imp (fun {a b} hab va vb ha hb => hab _ _ (by rw [ha]; rfl) (by rw [hb]; rfl))

end Transfer

theorem InLog_append (l : List (Nat × Nat)) (r : Nat × Nat) (y : Nat) :
    InLog (l ++ [r]) y ↔ InLog l y ∨ (r.1 ≤ y ∧ y < r.2) := by
  simp only [InLog, List.mem_append, List.mem_singleton, or_and_right, exists_or, exists_eq_left]

theorem Inv.inlog_lt {P : Params α} {base : Nat} {hs : HState} (hI : Inv P base hs) {y : Nat}
    (h : InLog hs.log y) : base ≤ y ∧ y < hs.next := by
  obtain ⟨r, hr, h1, h2⟩ := h
  obtain ⟨a, b, c⟩ := hI.logwf r hr
  omega

theorem instFit_spec {P : Params α} {objs : Oid → Option Obj} {x f : Oid} (h : instFit P objs x = some f) :
    ∃ o, objs x = some o ∧ lookup P.fitName o.attrs = some (.ref f) ∧ Val.ref f ∈ o.children := by
  unfold instFit at h
  split at h
  · rename_i o ho
    split at h
    · rename_i f' hl
      cases h
      exact ⟨o, ho, hl, List.mem_append_right _ (lookup_mem_snd _ _ _ hl)⟩
    · cases h
  · cases h

theorem fitRef_of_instFit {P : Params α} {objs : Oid → Option Obj} {x f : Oid}
    (h : instFit P objs x = some f) : fitRef P objs x = some f := by
  obtain ⟨o, ho, hl, _⟩ := instFit_spec h
  simp only [fitRef, getattr, ho, hl]

theorem viewInd_of_instFit {P : Params α} {objs : Oid → Option Obj} {x f : Oid}
    (h : instFit P objs x = some f) :
    viewInd P objs x = some ⟨x, abs objs P.depth (.ref x), fitAt P objs f⟩ := by
  simp only [viewInd, fitRef_of_instFit h]

/-- The number a `wvalues` member denotes, read off its pure value; like `ArchiveHeap.valNum` (`pvNum_abs`), anything
but an atom denotes `val 0`. -/
def pvNum (val : Int → α) : PV → α
  | .atom a => val a
  | _ => val 0

theorem pvNum_abs (val : Int → α) (objs : Oid → Option Obj) (m : Nat) (c : Val) :
    pvNum val (abs objs m c) = valNum val c := by
  cases c with
  | atom a => rw [abs_atom]; rfl
  | ref z =>
    cases m with
    | zero => rfl
    | succ m =>
      simp only [Heap.abs]
      cases objs z <;> rfl

/-- A faithful copy has an instance `fitness` of its own, with the same `wvalues`: from depth 2 on the fitness is part
of the pure value. -/
theorem copy_fit {P : Params α} {objs objs' : Oid → Option Obj} {x c f : Oid} {fo : Obj}
    (habs : ∀ m, abs objs' m (.ref c) = abs objs m (.ref x))
    (h : instFit P objs x = some f) (hf : objs f = some fo) :
    ∃ f', instFit P objs' c = some f' ∧ fitAt P objs' f' = fitAt P objs f := by
  obtain ⟨o, ho, hl, _⟩ := instFit_spec h
  obtain ⟨c', oc, e, hoc, _, _, _, hattrs⟩ := abs_ref_inv ho (habs 2)
  cases e
  have ha := hattrs P.fitName
  rw [hl] at ha
  cases hl' : lookup P.fitName oc.attrs with
  | none =>
    rw [hl', optPV, optPV, abs_ref 0 hf] at ha
    cases ha
  | some w =>
    rw [hl'] at ha
    obtain ⟨f', fo', rfl, hfo', _, _, hitems, _⟩ := abs_ref_inv hf ha
    refine ⟨f', by simp only [instFit, hoc, hl'], ?_⟩
    have := congrArg (List.map (pvNum P.val)) hitems
    simp only [List.map_map, Function.comp_def, pvNum_abs] at this
    simp only [fitAt, hfo', hf, this]

/-- What the archive reads from `x`, whose `fitness` is `f`, is the same in `objs'`: the pure value, the
`fitness`, the `wvalues` of that. -/
structure SameView (P : Params α) (objs objs' : Oid → Option Obj) (x f : Oid) : Prop where
  abs : ∀ m, Heap.abs objs' m (.ref x) = Heap.abs objs m (.ref x)
  fit : instFit P objs' x = some f
  key : fitAt P objs' f = fitAt P objs f
  view : viewInd P objs' x = viewInd P objs x

theorem view_congr {P : Params α} {objs objs' : Oid → Option Obj} {x f : Oid} (h : instFit P objs x = some f)
    (hx : objs' x = objs x) (hf : objs' f = objs f) (h1 : ∀ m, abs objs' m (.ref x) = abs objs m (.ref x)) :
    SameView P objs objs' x f := by
  have h2 : instFit P objs' x = some f := by simp only [instFit, hx]; exact h
  have h3 : fitAt P objs' f = fitAt P objs f := by simp only [fitAt, hf]
  exact ⟨h1, h2, h3, by rw [viewInd_of_instFit h2, viewInd_of_instFit h, h1, h3]⟩

theorem view_ext {P : Params α} {hs hs' : HState} (hcl : Closed hs.objs hs.next) (hE : HExt hs hs')
    {x f : Oid} (h : instFit P hs.objs x = some f) : SameView P hs.objs hs'.objs x f := by
  obtain ⟨o, ho, hl, hc⟩ := instFit_spec h
  obtain ⟨fo, hfo⟩ := hcl.get ho hc
  exact view_congr h (hE.objs x (lt_of_defined hcl ho)) (hE.objs f (lt_of_defined hcl hfo)) fun m =>
    abs_ext hs.objs hs'.objs hcl.refs (keeps_of_agree hcl hE.objs) m (.ref x) (fun z hz => by cases hz; rw [ho]; rfl)

theorem view_write {P : Params α} {objs : Oid → Option Obj} {x f y : Oid} (w : Obj)
    (h : instFit P objs x = some f) (hnr : ¬ Reach objs (.ref x) y) : SameView P objs (write objs y w) x f := by
  obtain ⟨o, ho, hl, hc⟩ := instFit_spec h
  exact view_congr h (define_ne _ _ _ fun e => hnr (e ▸ Reach.here x))
    (define_ne _ _ _ fun e => hnr (e ▸ Reach.step x o _ f ho hc (Reach.here f)))
    fun m => abs_write objs y w m _ hnr

end C08H
