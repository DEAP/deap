import DeapModel.Lemmas.C15Grid
import Mathlib.MeasureTheory.Measure.Lebesgue.Basic
/-!
C15 — the grid specification `hvCells` is the Lebesgue measure of the union of the boxes `[p, ref)`,
in every dimension.  Route: `hvCells` satisfies the inclusion–exclusion recursion (`hvCells_ie`),
and so does the measure (`μ(A ∪ B) + μ(A ∩ B) = μ A + μ B`, `[p,ref) ∩ [q,ref) = [max p q, ref)`).
-/
open MeasureTheory

namespace Hypervolume

/-- coordinate `j` of a point as a real number (missing coordinates read as 0, as in the model) -/
noncomputable def coordR (p : Pt) (j : ℕ) : ℝ := ((p.getD j 0 : ℚ) : ℝ)

/-- the box `∏ⱼ [pⱼ, refⱼ)` in `ℝ^d`, `d = ref.length` -/
def box (ref : List ℚ) (p : Pt) : Set (Fin ref.length → ℝ) :=
  Set.pi Set.univ (fun j => Set.Ico (coordR p j) (coordR ref j))

def unionBoxes (ref : List ℚ) (S : List Pt) : Set (Fin ref.length → ℝ) := ⋃ p ∈ S, box ref p

theorem prod_boxVol : ∀ (ref : List ℚ) (p : Pt),
    (∏ j : Fin ref.length, ENNReal.ofReal (coordR ref j - coordR p j)) = ENNReal.ofReal ((boxVol ref p : ℚ) : ℝ)
  | [], p => by simp [boxVol]
  | r :: ref, p => by
    have ih := prod_boxVol ref p.tail
    show (∏ j : Fin (ref.length + 1), ENNReal.ofReal (coordR (r :: ref) j - coordR p j)) = _
    rw [Fin.prod_univ_succ]
    have h1 : ∀ j : Fin ref.length, coordR (r :: ref) (j.succ : ℕ) - coordR p (j.succ : ℕ)
        = coordR ref j - coordR p.tail j := by
      intro j
      simp only [coordR, Fin.val_succ, getD_succ_eq, List.tail_cons]
    simp only [h1, ih]
    simp only [coordR, Fin.val_zero, getD_zero_eq, List.headD_cons, boxVol]
    by_cases h : p.headD 0 < r
    · rw [if_pos h]
      push_cast
      rw [ENNReal.ofReal_mul]
      have : ((p.headD 0 : ℚ) : ℝ) < (r : ℝ) := by exact_mod_cast h
      linarith
    · rw [if_neg h, zero_mul]
      have : (r : ℝ) ≤ ((p.headD 0 : ℚ) : ℝ) := by exact_mod_cast not_lt.mp h
      rw [ENNReal.ofReal_of_nonpos (by linarith)]
      simp

theorem volume_box (ref : List ℚ) (p : Pt) : volume (box ref p) = ENNReal.ofReal ((boxVol ref p : ℚ) : ℝ) := by
  unfold box
  rw [Real.volume_pi_Ico, prod_boxVol]

theorem measurableSet_box (ref : List ℚ) (p : Pt) : MeasurableSet (box ref p) :=
  MeasurableSet.univ_pi (fun _ => measurableSet_Ico)

theorem getD_pmax : ∀ (ref : List ℚ) (p q : Pt) (j : ℕ), j < ref.length →
    (pmax ref p q).getD j 0 = max (p.getD j 0) (q.getD j 0)
  | [], _, _, _, h => by simp at h
  | r :: ref, p, q, 0, _ => by
    simp only [pmax, List.getD_cons_zero, getD_zero_eq]
    exact (max_def _ _).symm
  | r :: ref, p, q, j + 1, h => by
    simp only [pmax, List.getD_cons_succ, getD_succ_eq]
    exact getD_pmax ref p.tail q.tail j (by simpa using h)

theorem box_inter (ref : List ℚ) (p q : Pt) : box ref p ∩ box ref q = box ref (pmax ref p q) := by
  ext x
  simp only [box, Set.mem_inter_iff, Set.mem_pi, Set.mem_univ, forall_true_left, Set.mem_Ico]
  constructor
  · rintro ⟨h1, h2⟩ j
    refine ⟨?_, (h1 j).2⟩
    unfold coordR
    rw [getD_pmax ref p q j j.isLt]
    push_cast
    exact max_le (h1 j).1 (h2 j).1
  · intro h
    have key : ∀ j : Fin ref.length, coordR p j ≤ x j ∧ coordR q j ≤ x j := by
      intro j
      have := (h j).1
      unfold coordR at this ⊢
      rw [getD_pmax ref p q j j.isLt] at this
      push_cast at this
      exact max_le_iff.mp this
    exact ⟨fun j => ⟨(key j).1, (h j).2⟩, fun j => ⟨(key j).2, (h j).2⟩⟩

theorem unionBoxes_nil (ref : List ℚ) : unionBoxes ref [] = ∅ := by
  simp [unionBoxes]

theorem unionBoxes_cons (ref : List ℚ) (q : Pt) (S : List Pt) :
    unionBoxes ref (q :: S) = unionBoxes ref S ∪ box ref q := by
  ext x
  simp only [unionBoxes, List.mem_cons, Set.mem_iUnion, Set.mem_union, exists_prop]
  constructor
  · rintro ⟨p, rfl | hp, hx⟩
    · exact Or.inr hx
    · exact Or.inl ⟨p, hp, hx⟩
  · rintro (⟨p, hp, hx⟩ | hx)
    · exact ⟨p, Or.inr hp, hx⟩
    · exact ⟨q, Or.inl rfl, hx⟩

theorem unionBoxes_inter (ref : List ℚ) (q : Pt) (S : List Pt) :
    unionBoxes ref S ∩ box ref q = unionBoxes ref (S.map (fun p => pmax ref p q)) := by
  ext x
  simp only [unionBoxes, Set.mem_inter_iff, Set.mem_iUnion, exists_prop, List.mem_map]
  constructor
  · rintro ⟨⟨p, hp, hx⟩, hq⟩
    refine ⟨_, ⟨p, hp, rfl⟩, ?_⟩
    rw [← box_inter]; exact ⟨hx, hq⟩
  · rintro ⟨_, ⟨p, hp, rfl⟩, hx⟩
    rw [← box_inter] at hx
    exact ⟨⟨p, hp, hx.1⟩, hx.2⟩

/-- The Lebesgue measure of the union of the boxes satisfies the inclusion–exclusion recursion
(`μ(A ∪ B) + μ(A ∩ B) = μ A + μ B`), hence is `hvCells`. -/
theorem volume_unionBoxes (ref : List ℚ) (S : List Pt) :
    volume (unionBoxes ref S) = ENNReal.ofReal ((hvCells ref S : ℚ) : ℝ) := by
  induction S using hvIE_induction ref with
  | nil => simp [unionBoxes_nil, hvCells_nil_pts]
  | cons q S e1 e2 =>
    have e := measure_union_add_inter (μ := volume) (unionBoxes ref S) (measurableSet_box ref q)
    rw [unionBoxes_inter, ← unionBoxes_cons, e1, e2, volume_box] at e
    have hnn : ∀ T : List Pt, (0 : ℝ) ≤ ((hvCells ref T : ℚ) : ℝ) := fun T => by exact_mod_cast hvCells_nonneg ref T
    have hb : (0 : ℝ) ≤ ((boxVol ref q : ℚ) : ℝ) := by rw [← hvCells_single]; exact hnn [q]
    have hie : ((hvCells ref S : ℚ) : ℝ) + ((boxVol ref q : ℚ) : ℝ)
        = ((hvCells ref (q :: S) : ℚ) : ℝ) + ((hvCells ref (S.map (fun p => pmax ref p q)) : ℚ) : ℝ) := by
      rw [hvCells_ie ref q S]; push_cast; ring
    rw [← ENNReal.ofReal_add (hnn S) hb, hie, ENNReal.ofReal_add (hnn _) (hnn _)] at e
    exact (ENNReal.add_left_inj ENNReal.ofReal_ne_top).mp e

end Hypervolume
