/-
C04 lemmas: from what `sortNDHelperA` does to `front` (`helperA_total`) to the statement about
`sortLogNondominated`: ranks that meet `Upd` from all zeros are the dominance depths (certificate),
the fronts built from them are the peeling, front by front.
-/
import DeapModel.Lemmas.C04LogHelpers
import DeapModel.Lemmas.C04Std
import Mathlib.Data.List.Nodup

set_option linter.unusedSectionVars false

namespace C04L
open NDSort

variable {α : Type} [Field α] [LinearOrder α] [IsStrictOrderedRing α] [Inhabited α]

theorem dget_init_zero (fs : List (List α)) (f : List α) :
    dget (fs.map (fun f => (f, 0)) : FrontDict α) 0 f = 0 := by
  induction fs with
  | nil => rfl
  | cons a fs ih => simp only [List.map_cons, dget]; split <;> simp [ih]

/-- ranks meeting the specification on all `m` objectives, started from 0, are the depths -/
theorem ranks_eq_depth (m : Nat) (hm : 1 ≤ m) (fs : List (List α)) (hlen : ∀ f ∈ fs, f.length = m)
    (front0 front' : FrontDict α) (h0 : ∀ f, dget front0 0 f = 0)
    (hA : Upd (domOn (m - 1 + 1)) fs fs front0 front') :
    ∀ f ∈ fs, dget front' 0 f = depth domW fs f := by
  have hS := spo_domW m fs hlen
  have hm' : m - 1 + 1 = m := Nat.sub_add_cancel hm
  refine cert_unique (fun f => dget front' 0 f) (depth domW fs) ?_ ?_ (depth_lt_of_dom fs hS) (depth_pred fs hS)
  · intro x hx y hy hd
    have hd' : domOn (m - 1 + 1) y x := by
      rw [hm']; exact (domW_iff_domOn m y x (hlen y hy) (hlen x hx)).1 hd
    exact (hA.raised x hx).lt ⟨hy, hd'⟩
  · intro x hx hpos
    obtain ⟨g, ⟨hg, hd⟩, he⟩ := (hA.raised x hx).attained (by simp only [h0]; exact hpos)
    rw [hm'] at hd
    exact ⟨g, hg, (domW_iff_domOn m g x (hlen g hg) (hlen x hx)).2 hd, he⟩

theorem logFronts_length (fs : List (List α)) (front : FrontDict α) (uf : List (List α × List (Ind α))) :
    (logFronts fs front uf).length = (dvalues front).foldl max 0 + 1 := by
  rw [logFronts_eq_map, List.length_map, rankFronts, List.length_map, List.length_range]

theorem frontIdx_map_range' {β : Type} [DecidableEq β] (F : Nat → List β) (x : β) (r : Nat)
    (hF : ∀ j, x ∈ F j ↔ j = r) : ∀ (n s : Nat), s ≤ r → r < s + n →
    frontIdx ((List.range' s n).map F) x = r - s
  | 0, s, h1, h2 => by omega
  | n + 1, s, h1, h2 => by
    rw [List.range'_succ, List.map_cons, frontIdx]
    by_cases e : s = r
    · subst e; rw [if_pos ((hF s).2 rfl)]; omega
    · rw [if_neg (fun h => e ((hF s).1 h)), frontIdx_map_range' F x r hF n (s + 1) (by omega) (by omega)]
      omega

theorem foldl_max_attained : ∀ (l : List Nat) (a : Nat), l.foldl max a = a ∨ l.foldl max a ∈ l
  | [], a => Or.inl rfl
  | x :: l, a => by
    simp only [List.foldl_cons]
    rcases foldl_max_attained l (max a x) with h | h
    · rw [h]
      rcases Nat.le_total a x with hle | hle
      · right; rw [Nat.max_eq_right hle]; simp
      · left; exact Nat.max_eq_left hle
    · right; exact List.mem_cons_of_mem _ h

theorem mem_dvalues (d : FrontDict α) (hnd : (dkeys d).Nodup) (v : Nat) (hv : v ∈ dvalues d) :
    ∃ k ∈ dkeys d, dget d 0 k = v := by
  induction d with
  | nil => simp [dvalues] at hv
  | cons p r ih =>
    obtain ⟨k, w⟩ := p
    simp only [dkeys, List.map_cons, List.nodup_cons] at hnd
    simp only [dvalues, List.map_cons, List.mem_cons] at hv
    rcases hv with rfl | hv
    · exact ⟨k, by simp [dkeys], by simp [dget]⟩
    · obtain ⟨k', hk', he⟩ := ih hnd.2 hv
      refine ⟨k', by simp only [dkeys, List.map_cons, List.mem_cons]; exact Or.inr hk', ?_⟩
      have : k ≠ k' := fun e => hnd.1 (e ▸ hk')
      simp [dget, this, he]

theorem peel_getElem?_depth {β : Type} [DecidableEq β] {dom : β → β → Bool} (S : List β) (hS : SPO dom S)
    (x : β) (hx : x ∈ S) : ∃ F, (peel dom S)[depth dom S x]? = some F ∧ x ∈ F := by
  have := (peel_flatten_perm S hS).mem_iff.2 hx
  obtain ⟨F, hF, hxF⟩ := List.mem_flatten.1 this
  obtain ⟨i, hi⟩ := List.mem_iff_getElem?.1 hF
  have := (mem_peel_iff S hS i F hi x).1 hxF
  rw [this.2]; exact ⟨F, hi, hxF⟩

theorem peel_fronts_nodup {β : Type} {dom : β → β → Bool} (S : List β) (hS : SPO dom S) (hnd : S.Nodup) :
    ∀ F ∈ peel dom S, F.Nodup := by
  have := (peel_flatten_perm S hS).nodup_iff.2 hnd
  rw [List.nodup_flatten] at this
  exact this.1

theorem forall₂_perm_trans {γ : Type} : ∀ {l₁ l₂ l₃ : List (List γ)}, List.Forall₂ List.Perm l₁ l₂ →
    List.Forall₂ List.Perm l₂ l₃ → List.Forall₂ List.Perm l₁ l₃
  | _, _, _, .nil, .nil => .nil
  | _, _, _, .cons h t, .cons h' t' => .cons (h.trans h') (forall₂_perm_trans t t')

theorem forall₂_perm_symm {γ : Type} : ∀ {l₁ l₂ : List (List γ)}, List.Forall₂ List.Perm l₁ l₂ →
    List.Forall₂ List.Perm l₂ l₁
  | _, _, .nil => .nil
  | _, _, .cons h t => .cons h.symm (forall₂_perm_symm t)

theorem forall₂_perm_leading {γ : Type} : ∀ {l₁ l₂ : List (List γ)}, List.Forall₂ List.Perm l₁ l₂ →
    ∀ k, List.Forall₂ List.Perm (leading l₁ k) (leading l₂ k)
  | _, _, .nil, k => by simp [leading]
  | _, _, .cons h t, k => by
    simp only [leading]
    split
    · exact .nil
    · rw [h.length_eq]; exact .cons h (forall₂_perm_leading t _)

/-- Grouping distinct elements by a rank that is their depth gives the peeling, front by front, when
the ranks below `n` are all taken. -/
theorem rankFronts_eq_peel (dom : List α → List α → Bool) (rank : List α → Nat) (fs : List (List α)) (n : Nat)
    (hnd : fs.Nodup) (hS : SPO dom fs) (hlt : ∀ f ∈ fs, rank f < n) (hbig : ∀ i < n, ∃ f ∈ fs, i ≤ rank f)
    (hrank : ∀ f ∈ fs, rank f = depth dom fs f) :
    List.Forall₂ List.Perm (rankFronts rank fs n) (peel dom fs) := by
  have hflat := rankFronts_flatten_perm rank fs n hlt
  apply fronts_unique _ _ (hflat.nodup_iff.2 hnd) (hflat.trans (peel_flatten_perm fs hS).symm)
  · -- front `i` is not empty: some rank is at least `i`, so the peeling has a front `i`
    intro F hF
    obtain ⟨i, hi, rfl⟩ := mem_rankFronts.1 hF
    obtain ⟨f, hf, hif⟩ := hbig i hi
    obtain ⟨F, hF, _⟩ := peel_getElem?_depth fs hS f hf
    rw [← hrank f hf] at hF
    have hilt : i < (peel dom fs).length := by
      have := (List.getElem?_eq_some_iff.1 hF).1; omega
    have hne' := peel_fronts_ne_nil fs hS _ (List.getElem_mem hilt)
    obtain ⟨x, hx⟩ := List.exists_mem_of_ne_nil _ hne'
    have hxd := (mem_peel_iff fs hS i _ (List.getElem?_eq_getElem hilt) x).1 hx
    refine List.ne_nil_of_mem (a := x) (List.mem_filter.2 ⟨hxd.1, ?_⟩)
    simp [hrank x hxd.1, hxd.2]
  · exact peel_fronts_ne_nil fs hS
  · intro x hx
    have hx := hflat.mem_iff.1 hx
    have := frontIdx_map_range' (fun i => fs.filter (fun f => rank f == i)) x (rank x)
      (by intro j; simp only [List.mem_filter, hx, true_and, beq_iff_eq]; exact eq_comm) n 0 (by omega)
      (by have := hlt x hx; omega)
    rw [rankFronts, List.range_eq_range', this, Nat.sub_zero, hrank x hx]; rfl

/-- **From ranks to fronts.**  If the ranks computed by the helpers are the dominance depths of the
distinct fitnesses, the fronts built by `sortLogNondominated` are, front by front, the peeling of
the population. -/
theorem logFronts_eq_peel (m : Nat) (pop : List (Ind α)) (hne : pop ≠ []) (hlen : ∀ x ∈ pop, x.w.length = m)
    (fs : List (List α)) (hperm : fs.Perm (dkeys (mapFitInd pop)))
    (front : FrontDict α) (hkeys : (dkeys front).Perm (dkeys (mapFitInd pop)))
    (hrank : ∀ f ∈ fs, dget front 0 f = depth domW fs f) :
    List.Forall₂ List.Perm (logFronts fs front (mapFitInd pop)) (peel domI pop) := by
  have hfnd : fs.Nodup := hperm.nodup_iff.2 (mapFitInd_nodup pop)
  have hknd : (dkeys front).Nodup := hkeys.nodup_iff.2 (mapFitInd_nodup pop)
  have hrep : ∀ f ∈ fs, ∃ x ∈ pop, x.w = f := fun f hf => fits_rep pop f (hperm.mem_iff.1 hf)
  have hflen : ∀ f ∈ fs, f.length = m := by
    intro f hf; obtain ⟨x, hx, rfl⟩ := hrep f hf; exact hlen x hx
  have hS := spo_domW m fs hflen
  have hfsne : fs ≠ [] := by
    intro e
    have := fits_ne_nil pop hne
    rw [e] at hperm; exact this (List.Perm.eq_nil hperm.symm)
  set M := (dvalues front).foldl max 0 with hM
  have hbig : ∀ i, i ≤ M → ∃ f ∈ fs, i ≤ dget front 0 f := by
    intro i hi
    rcases foldl_max_attained (dvalues front) 0 with h | h
    · obtain ⟨f, hf⟩ := List.exists_mem_of_ne_nil fs hfsne
      exact ⟨f, hf, by rw [← hM] at h; omega⟩
    · obtain ⟨k, hk, hv⟩ := mem_dvalues front hknd _ h
      exact ⟨k, hperm.mem_iff.2 (hkeys.mem_iff.1 hk), by rw [hv]; exact hi⟩
  have hA := rankFronts_eq_peel domW (fun f => dget front 0 f) fs (M + 1) hfnd hS
    (fun f _ => Nat.lt_succ_of_le (dget_le_foldl_max front f)) (fun i hi => hbig i (by omega)) hrank
  rw [logFronts_eq_map]
  have hpeel : peel domI pop = (peel domW fs).map (carriers pop) := by
    have := peel_carriers m pop hlen fs hS hrep
    have hc : carriers pop fs = pop :=
      carriers_eq_self fun x hx => hperm.mem_iff.2 ((mem_mapFitInd_keys pop x.w).2 ⟨x, hx, rfl⟩)
    rwa [hc] at this
  rw [hpeel]
  refine forall₂_perm_trans (l₂ := (peel domW fs).map (fun F => F.flatMap (dget (mapFitInd pop) []))) ?_ ?_
  · rw [List.forall₂_map_left_iff, List.forall₂_map_right_iff]
    exact hA.imp (fun _ _ h => h.flatMap_right _)
  · rw [List.forall₂_map_left_iff, List.forall₂_map_right_iff, List.forall₂_same]
    intro P hP
    exact front_perm pop P P (peel_fronts_nodup fs hS hfnd P hP) (fun _ => Iff.rfl)

/-- The ranks computed by model B are the dominance depths, hence its fronts are the peeling. -/
theorem logRanks_eq_peel (pop : List (Ind α)) (m : Nat) (hm : 2 ≤ m) (hne : pop ≠ [])
    (hlen : ∀ x ∈ pop, x.w.length = m) :
    ∃ fs front uf, logRanks pop = some (fs, front, uf) ∧
      List.Forall₂ List.Perm (logFronts fs front uf) (peel domI pop) := by
  cases pop with
  | nil => exact absurd rfl hne
  | cons ind0 rest =>
    have h0 : ind0.w.length = m := hlen ind0 (by simp)
    have hperm := List.mergeSort_perm (dkeys (mapFitInd (ind0 :: rest))) (fun a b => !Py.tupleLt a b)
    have hflen : ∀ f ∈ (dkeys (mapFitInd (ind0 :: rest))).mergeSort (fun a b => !Py.tupleLt a b),
        f.length = m := by
      intro f hf
      obtain ⟨x, hx, rfl⟩ := fits_rep (ind0 :: rest) f (hperm.mem_iff.1 hf)
      exact hlen x hx
    have hkeys0 := dkeys_init (dkeys (mapFitInd (ind0 :: rest)))
    -- one call: the helper finishes, adds no key, and its ranks meet the specification
    obtain ⟨front, hA, u⟩ := helperA_total m _ (m - 1) ((dkeys (mapFitInd (ind0 :: rest))).map (fun f => (f, 0)))
      hflen (by omega) (by omega) (sorted_desc _ (mapFitInd_nodup _)) (fun a _ b _ i hi him => by omega)
    refine ⟨(dkeys (mapFitInd (ind0 :: rest))).mergeSort (fun a b => !Py.tupleLt a b), front,
      mapFitInd (ind0 :: rest), by rw [logRanks_cons, h0, hA, Option.map_some], ?_⟩
    exact logFronts_eq_peel m (ind0 :: rest) hne hlen _ hperm front
      (by rw [u.keys fun f hf => hkeys0.symm ▸ hperm.mem_iff.1 hf, hkeys0])
      (ranks_eq_depth m (by omega) _ hflen _ front (dget_init_zero _) u)

theorem sortLog_eq_peel (pop : List (Ind α)) (m : Nat) (hm : 2 ≤ m) (hne : pop ≠ [])
    (hlen : ∀ x ∈ pop, x.w.length = m) (k : Nat) :
    ∃ fronts, sortLog pop k = some fronts ∧ List.Forall₂ List.Perm fronts (leading (peel domI pop) k) := by
  by_cases hk : k = 0
  · subst hk; exact ⟨[], by simp [sortLog], by rw [leading_zero]; exact List.Forall₂.nil⟩
  · obtain ⟨fs, front, uf, hr, hf⟩ := logRanks_eq_peel pop m hm hne hlen
    refine ⟨leading (logFronts fs front uf) k, ?_, forall₂_perm_leading hf k⟩
    simp only [sortLog, hk, hr, Option.map_some]
    exact congrArg some (logTruncate_eq_leading _ k hk)

end C04L
