/-
C20 — lemmas about the binary benchmarks (`Core/BenchBinary.lean`): `trap` / `inv_trap` and the selector `sel` of the
Chuang functions, slices and the layout of a Chuang string, stepped block sums, binary numerals, the royal-road blocks
and loop, the decoding range of `bin2float`.
-/
import DeapModel.Core.BenchBinary
import Mathlib.Algebra.Order.BigOperators.Group.List
import Mathlib.Data.List.GetD
import Mathlib.Tactic.Ring
import Mathlib.Algebra.Order.Field.Rat

namespace C20L
open BenchBin

theorem ones_le (b : List Bool) : ones b ≤ b.length := List.count_le_length

theorem ones_replicate_true (k : Nat) : ones (List.replicate k true) = k := List.count_replicate_self
theorem ones_replicate_false (k : Nat) : ones (List.replicate k false) = 0 := by
  simp [ones, List.count_replicate]

theorem trap_le (b : List Bool) : trap b ≤ b.length := by
  simp only [trap]; split <;> omega

theorem invTrap_le (b : List Bool) : invTrap b ≤ b.length := by
  have := ones_le b
  simp only [invTrap]; split <;> omega

theorem trap_rep_true (k : Nat) : trap (List.replicate k true) = k := by simp [trap, ones_replicate_true]

theorem invTrap_rep_false (k : Nat) : invTrap (List.replicate k false) = k := by simp [invTrap, ones_replicate_false]

theorem invTrap_rep_true (k : Nat) (hk : 1 ≤ k) : invTrap (List.replicate k true) = (k : Int) - 1 := by
  simp only [invTrap, ones_replicate_true]; split <;> omega

/-- the choice the Chuang functions make from a selector bit -/
def sel (s : Bool) (blk : List Bool) : Int := if s = false then invTrap blk else trap blk

theorem sel_rep (s : Bool) : sel s (List.replicate 4 s) = 4 := by cases s <;> decide

theorem sel_le (s : Bool) (blk : List Bool) : sel s blk ≤ blk.length := by
  cases s <;> [exact invTrap_le blk; exact trap_le blk]

theorem sel_slice_le (s : Bool) (l : List Bool) (i w : Nat) : sel s (slice l i w) ≤ w :=
  (sel_le _ _).trans (Int.ofNat_le.2 (List.length_take_le _ _))

theorem invTrap_slice_le (l : List Bool) (i w : Nat) : invTrap (slice l i w) ≤ w :=
  sel_slice_le false l i w

/-- `chuang_f1` in terms of `sel`: the last bit selects the function scored on every block -/
theorem chuangF1_eq_sel (x : List Bool) :
    chuangF1 x = x.getLast?.map fun last => isum ((rangeStep 0 (x.length - 1) 4).map fun i => sel last (slice x i 4)) := by
  rw [chuangF1]; cases x.getLast? <;> rfl

theorem _root_.GenL.slice_length (b : List Bool) (i order : ℕ) (hi : i < b.length / order) :
    (BenchBin.slice b (i * order) order).length = order := by
  have : (i + 1) * order ≤ b.length := (Nat.mul_le_mul_right _ hi).trans (Nat.div_mul_le_self _ _)
  rw [slice, List.length_take, List.length_drop, Nat.min_eq_left]
  rw [Nat.succ_mul] at this; omega

theorem slice_replicate (n i w : Nat) (b : Bool) :
    slice (List.replicate n b) i w = List.replicate (min w (n - i)) b := by
  simp [slice, List.drop_replicate, List.take_replicate]

theorem slice_replicate_of_le {n i w : Nat} (b : Bool) (h : i + w ≤ n) :
    slice (List.replicate n b) i w = List.replicate w b := by
  rw [slice_replicate, Nat.min_eq_left (by omega)]

theorem getLast?_replicate_succ (n : Nat) (b : Bool) : (List.replicate (n + 1) b).getLast? = some b := by
  rw [List.getLast?_eq_some_getLast (by simp)]; simp

theorem slice_mid (p q : List Bool) (b : Bool) {m i w : Nat} (h1 : p.length ≤ i) (h2 : i + w ≤ p.length + m) :
    slice (p ++ List.replicate m b ++ q) i w = List.replicate w b := by
  obtain ⟨d, rfl⟩ := Nat.exists_eq_add_of_le h1
  rw [slice, List.append_assoc, List.drop_length_add_append, List.drop_append_of_le_length (by simp; omega),
    List.take_append_of_le_length (by simp; omega), List.drop_replicate, List.take_replicate, Nat.min_eq_left (by omega)]

theorem slice_flatten_replicate (blk t : List Bool) {L k j o w : Nat} (hL : blk.length = L) (hj : j < k)
    (ho : o + w ≤ L) : slice ((List.replicate k blk).flatten ++ t) (j * L + o) w = slice blk o w := by
  subst hL
  induction j generalizing k with
  | zero =>
    obtain ⟨k, rfl⟩ := Nat.exists_eq_succ_of_ne_zero (Nat.ne_of_gt hj)
    rw [Nat.zero_mul, Nat.zero_add, List.replicate_succ, List.flatten_cons, List.append_assoc, slice, slice,
      List.drop_append_of_le_length (by omega), List.take_append_of_le_length (by rw [List.length_drop]; omega)]
  | succ j ih =>
    obtain ⟨k, rfl⟩ := Nat.exists_eq_succ_of_ne_zero (Nat.ne_of_gt (Nat.zero_lt_of_lt hj))
    rw [Nat.succ_mul, Nat.add_right_comm, Nat.add_comm _ blk.length, List.replicate_succ, List.flatten_cons,
      List.append_assoc, slice, List.drop_length_add_append]
    exact ih (Nat.lt_of_succ_lt_succ hj)

theorem f2_blocks (s2 s1 : Bool) (t : List Bool) {k j : Nat} (hj : j < k) :
    slice ((List.replicate k (List.replicate 4 s2 ++ List.replicate 4 s1)).flatten ++ t) (j * 8) 4
      = List.replicate 4 s2 ∧
    slice ((List.replicate k (List.replicate 4 s2 ++ List.replicate 4 s1)).flatten ++ t) (j * 8 + 4) 4
      = List.replicate 4 s1 :=
  ⟨slice_flatten_replicate (L := 8) (o := 0) _ t rfl hj (by decide),
   slice_flatten_replicate (L := 8) (o := 4) _ t rfl hj (by decide)⟩

theorem isum_eq (l : List Int) : isum l = l.sum := List.sum_eq_foldl.symm

theorem rangeStep_length (a b s : Nat) : (rangeStep a b s).length = (b - a + s - 1) / s := by
  rw [rangeStep, List.length_map, List.length_range]

theorem rangeStep_length_mul {a b s n : Nat} (hn : b - a = n * s) (hs : 0 < s) : (rangeStep a b s).length = n := by
  rw [rangeStep_length, hn, Nat.add_sub_assoc hs, Nat.mul_comm, Nat.mul_add_div hs,
    Nat.div_eq_of_lt (Nat.sub_lt hs Nat.one_pos), Nat.add_zero]

theorem isum_rangeStep_le {a b s n : Nat} (f : Nat → Int) (c : Int) (hn : b - a = n * s) (h : ∀ i, f i ≤ c)
    (hs : 0 < s := by decide) : isum ((rangeStep a b s).map f) ≤ c * n := by
  rw [isum_eq, ← rangeStep_length_mul hn hs, ← List.length_map f, mul_comm, ← nsmul_eq_mul]
  exact List.sum_le_card_nsmul _ c (List.forall_mem_map.2 fun i _ => h i)

theorem isum_rangeStep_eq {a b s n : Nat} (f : Nat → Int) (c : Int) (hn : b - a = n * s)
    (h : ∀ j < n, f (a + j * s) = c) (hs : 0 < s := by decide) : isum ((rangeStep a b s).map f) = c * n := by
  have hl := rangeStep_length_mul hn hs
  have hc : ∀ v ∈ (rangeStep a b s).map f, v = c := List.forall_mem_map.2 fun i hi => by
    obtain ⟨j, hj, rfl⟩ := List.mem_map.1 hi
    exact h j (by rw [← hl, rangeStep_length]; exact List.mem_range.1 hj)
  rw [isum_eq, List.sum_eq_card_nsmul _ c hc, List.length_map, hl, nsmul_eq_mul, mul_comm]

/-! The layout of a Chuang string of `n = 4k+1` bits: `k` blocks of four from position 0 (`range(0, n-1, 4)`), `k-1` from
position 2 (`range(2, n-3, 4)`), every block inside the string. -/

theorem span_from_zero {n k : Nat} (h : n = 4 * k + 1) : n - 1 - 0 = k * 4 := by
  rw [h, Nat.add_sub_cancel, Nat.sub_zero, Nat.mul_comm]

theorem span_from_two {n k : Nat} (h : n = 4 * k + 1) : n - 3 - 2 = (k - 1) * 4 := by
  omega

theorem block_from_zero {j k : Nat} (hj : j < k) : 0 + j * 4 + 4 ≤ 4 * k + 1 := by
  omega

theorem block_from_two {j k : Nat} (hj : j < k - 1) : 2 + j * 4 + 4 ≤ 4 * k + 1 := by
  omega

theorem chuangF2_append (F : List Bool) (s2 s1 : Bool) :
    chuangF2 (F ++ [s2, s1]) = some (isum ((rangeStep 0 F.length 8).map fun i =>
      sel s2 (slice (F ++ [s2, s1]) i 4) + sel s1 (slice (F ++ [s2, s1]) (i + 4) 4))) := by
  have hl : (F ++ [s2, s1]).length = F.length + 2 := List.length_append
  have e2 : (F ++ [s2, s1]).getD ((F ++ [s2, s1]).length - 2) false = s2 := by
    rw [hl, Nat.add_sub_cancel, List.getD_append_right _ _ _ _ (Nat.le_refl _), Nat.sub_self]; rfl
  have e1 : (F ++ [s2, s1]).getD ((F ++ [s2, s1]).length - 1) false = s1 := by
    rw [hl]
    show (F ++ [s2, s1]).getD (F.length + 1) false = s1
    rw [List.getD_append_right _ _ _ _ (Nat.le_add_right _ 1), Nat.add_sub_cancel_left]; rfl
  rw [chuangF2, if_neg (by omega), e2, e1, hl]
  rfl

def binStep (acc : Nat) (bit : Bool) : Nat := 2 * acc + bit.toNat

theorem binVal_eq (b : List Bool) : binVal b = b.foldl binStep 0 := rfl

/-- the accumulator only shifts: most significant bit first -/
theorem fold_binStep (b : List Bool) (acc : Nat) : b.foldl binStep acc = acc * 2 ^ b.length + b.foldl binStep 0 := by
  induction b generalizing acc with
  | nil => simp
  | cons bit t ih =>
    rw [List.foldl_cons, List.foldl_cons, ih (binStep acc bit), ih (binStep 0 bit), List.length_cons, binStep, binStep]
    ring

theorem binVal_cons (bit : Bool) (t : List Bool) : binVal (bit :: t) = bit.toNat * 2 ^ t.length + binVal t := by
  rw [binVal_eq, List.foldl_cons, fold_binStep, binStep, Nat.mul_zero, Nat.zero_add, ← binVal_eq]

theorem leading_bit {P v : Nat} (hv : v < P) (b : Bool) :
    b.toNat * P + v < P * 2 ∧ (b.toNat * P + v = P * 2 - 1 ↔ b = true ∧ v = P - 1) := by
  cases b
  · rw [Bool.toNat_false, Nat.zero_mul, Nat.zero_add]
    exact ⟨by omega, fun h => absurd h (by omega), fun h => nomatch h.1⟩
  · rw [Bool.toNat_true, Nat.one_mul]
    exact ⟨by omega, fun h => ⟨rfl, by omega⟩, fun ⟨_, h⟩ => by omega⟩

theorem binVal_lt : ∀ b : List Bool, binVal b < 2 ^ b.length
  | [] => Nat.one_pos
  | bit :: t => by
    rw [binVal_cons, List.length_cons, pow_succ]
    exact (leading_bit (binVal_lt t) bit).1

theorem binVal_max_iff : ∀ b : List Bool, binVal b = 2 ^ b.length - 1 ↔ b.all id = true
  | [] => by simp [binVal]
  | bit :: t => by
    rw [binVal_cons, List.length_cons, pow_succ, List.all_cons, Bool.and_eq_true, ← binVal_max_iff t]
    exact (leading_bit (binVal_lt t) bit).2
theorem binVal_replicate_false (n : Nat) : binVal (List.replicate n false) = 0 := by
  rw [binVal_eq]
  induction n with
  | zero => rfl
  | succ k ih => simp only [List.replicate_succ, List.foldl_cons]; simpa [binStep] using ih

theorem binVal_replicate_true (n : Nat) : binVal (List.replicate n true) = 2 ^ n - 1 := by
  have := (binVal_max_iff (List.replicate n true)).2 (by rw [List.all_replicate]; split <;> rfl)
  rwa [List.length_replicate] at this

theorem two_pow_sub_one_pos (n : Nat) (h : 1 ≤ n) : 1 ≤ 2 ^ n - 1 := by
  have : 2 ^ 1 ≤ 2 ^ n := Nat.pow_le_pow_right (by decide) h
  omega

/-- `value // max_value` for a block of `order ≥ 1` bits -/
theorem block_quot (b : List Bool) (order : Nat) (ho : 1 ≤ order) (hl : b.length = order) :
    binVal b / (2 ^ order - 1) = if b.all id = true then 1 else 0 := by
  have hlt := binVal_lt b
  have hmax := binVal_max_iff b
  rw [hl] at hlt hmax
  have h2 := two_pow_sub_one_pos order ho
  split
  · next h => rw [hmax.2 h]; exact Nat.div_self h2
  · next h =>
    have : binVal b ≠ 2 ^ order - 1 := fun e => h (hmax.1 e)
    exact Nat.div_eq_of_lt (by omega)

theorem sum_blocks (L : List Nat) (blk : Nat → List Bool) (order : Nat) (ho : 1 ≤ order)
    (h : ∀ i ∈ L, (blk i).length = order) :
    (L.map fun i => order * (binVal (blk i) / (2 ^ order - 1))).sum
      = order * L.countP (fun i => (blk i).all id) := by
  induction L with
  | nil => simp
  | cons a t ih =>
    simp only [List.map_cons, List.sum_cons, List.countP_cons]
    rw [ih (fun i hi => h i (by simp [hi])), block_quot _ order ho (h a (by simp))]
    split <;> simp [*]; ring

theorem royalRoad2Loop_of_not_lt (x : List Bool) {order n : Nat} (h : ¬ n < order * order) (fuel total : Nat) :
    royalRoad2Loop x order fuel n total = some total := by
  cases fuel with
  | zero => rfl
  | succ f => exact if_neg h

theorem royalRoad2Loop_ge (x : List Bool) (order : Nat) (fuel no total v : Nat)
    (h : royalRoad2Loop x order fuel no total = some v) : total ≤ v := by
  induction fuel generalizing no total with
  | zero => simp only [royalRoad2Loop, Option.some.injEq] at h; omega
  | succ f ih =>
    simp only [royalRoad2Loop] at h
    split at h
    · split at h
      · simp at h
      · have := ih _ _ h; omega
    · simp only [Option.some.injEq] at h; omega

theorem binVal_div_mem (b : List Bool) (n : Nat) (hl : b.length = n) :
    (0 : ℚ) ≤ (binVal b : ℚ) / ((2 ^ n - 1 : Nat) : ℚ) ∧ (binVal b : ℚ) / ((2 ^ n - 1 : Nat) : ℚ) ≤ 1 :=
  ⟨div_nonneg (Nat.cast_nonneg _) (Nat.cast_nonneg _),
   div_le_one_of_le₀ (Nat.cast_le.2 (Nat.le_sub_one_of_lt (hl ▸ binVal_lt b))) (Nat.cast_nonneg _)⟩

theorem affine_mem {mn mx q : ℚ} (hle : mn ≤ mx) (hq : 0 ≤ q ∧ q ≤ 1) :
    mn ≤ mn + q * (mx - mn) ∧ mn + q * (mx - mn) ≤ mx :=
  ⟨le_add_of_nonneg_right (mul_nonneg hq.1 (sub_nonneg.2 hle)),
   le_sub_iff_add_le'.1 (mul_le_of_le_one_left (sub_nonneg.2 hle) hq.2)⟩

end C20L
