/-
Helper lemmas for C11 / C12: the geometric semantic operators (`Core/GpSemantic.lean`).
-/
import DeapModel.Core.GpSemantic

namespace GpTree

theorem mutSemantic_ok {mapping : String → Option Prim} {reprF : Float → String} {ind out : List Prim}
    {gen : Tape → R (List Prim × Tape)} {ms : Option Float} {tp tp' : Tape}
    (h : mutSemantic mapping reprF ind gen ms tp = .ok (out, tp')) :
    ∃ pc tr1 tp1 tr2 tp2 v, semPieces mapping = some pc ∧ gen tp = .ok (tr1, tp1) ∧ gen tp1 = .ok (tr2, tp2) ∧
      ((ms = some v ∧ tp' = tp2) ∨ (ms = none ∧ popUniform 0.0 2.0 tp2 = .ok (v, tp'))) ∧
      out = semMutList pc (constNode (reprF v)) ind tr1 tr2 := by
  unfold mutSemantic at h
  split at h
  · cases h
  rename_i pc hpc
  split at h
  · cases h
  rename_i tr1 tp1 h1
  split at h
  · cases h
  rename_i tr2 tp2 h2
  split at h
  · cases h
  rename_i v tp3 h3
  cases h
  refine ⟨pc, tr1, tp1, tr2, tp2, v, hpc, h1, h2, ?_, rfl⟩
  cases ms with
  | some w => cases h3; exact Or.inl ⟨rfl, rfl⟩
  | none => exact Or.inr ⟨rfl, h3⟩

theorem cxSemantic_ok {mapping : String → Option Prim} {reprF : Float → String} {ind1 ind2 o1 o2 : List Prim}
    {gen : Tape → R (List Prim × Tape)} {tp tp' : Tape}
    (h : cxSemantic mapping reprF ind1 ind2 gen tp = .ok (o1, o2, tp')) :
    ∃ pc tr, semPieces mapping = some pc ∧ gen tp = .ok (tr, tp') ∧
      o1 = semCxList pc (constNode (reprF 1.0)) ind1 ind2 tr ∧
      o2 = semCxList pc (constNode (reprF 1.0)) ind2 o1 tr := by
  unfold cxSemantic at h
  split at h
  · cases h
  rename_i pc hpc
  split at h
  · cases h
  rename_i tr tp1 h1
  cases h
  exact ⟨pc, tr, hpc, h1, rfl, rfl⟩

theorem semMutList_flatten (pc : SemPieces) (msN : Prim) (ti t1 t2 : Tree) :
    semMutList pc msN (flatten ti) (flatten t1) (flatten t2) = flatten (semMutTree pc msN ti t1 t2) := by
  simp [semMutList, semMutTree, flatten, flattenF]

theorem semCxList_flatten (pc : SemPieces) (oneN : Prim) (ta tb tr : Tree) :
    semCxList pc oneN (flatten ta) (flatten tb) (flatten tr) = flatten (semCxTree pc oneN ta tb tr) := by
  simp [semCxList, semCxTree, flatten, flattenF]

theorem semMutList_length (pc : SemPieces) (msN : Prim) (ind tr1 tr2 : List Prim) :
    (semMutList pc msN ind tr1 tr2).length = ind.length + tr1.length + tr2.length + 6 := by
  simp [semMutList]; omega

theorem semCxList_length (pc : SemPieces) (oneN : Prim) (a b tr : List Prim) :
    (semCxList pc oneN a b tr).length = a.length + b.length + 2 * tr.length + 7 := by
  simp [semCxList]; omega

theorem semMutList_parent (pc : SemPieces) (msN : Prim) (ind tr1 tr2 : List Prim) :
    ((semMutList pc msN ind tr1 tr2).drop 1).take ind.length = ind := by
  simp [semMutList]

theorem semCxList_parent (pc : SemPieces) (oneN : Prim) (a b tr : List Prim) :
    ((semCxList pc oneN a b tr).drop 2).take a.length = a := by
  simp [semCxList]

theorem semCxList_suffix (pc : SemPieces) (oneN : Prim) (a b tr : List Prim) :
    (semCxList pc oneN a b tr).drop (a.length + 2 * tr.length + 7) = b := by
  simp only [semCxList]
  rw [List.drop_append_of_le_length (by simp; omega)]
  simp
  omega

/-- The four pieces form a GSGP signature over the type `ρ`: `add`, `mul`, `sub` take two `ρ`s, `lf` one, all return
(a subclass of) `ρ`, and a constant declared as `object` — what `Terminal(ms, False, object)` is — is accepted in a
`ρ` slot.  In a loosely typed set (`PrimitiveSet`: everything is `object`) this holds with `ρ = objT`. -/
structure SemOK (sub : Nat → Nat → Bool) (pc : SemPieces) (ρ : Nat) : Prop where
  add_args : pc.add.args = [ρ, ρ]
  mul_args : pc.mul.args = [ρ, ρ]
  sub_args : pc.sub.args = [ρ, ρ]
  lf_args : pc.lf.args = [ρ]
  add_ret : sub pc.add.ret ρ = true
  mul_ret : sub pc.mul.ret ρ = true
  sub_ret : sub pc.sub.ret ρ = true
  lf_ret : sub pc.lf.ret ρ = true
  const_ok : sub objT ρ = true

theorem semMutTree_wt {sub : Nat → Nat → Bool} {pc : SemPieces} {ρ : Nat} (ok : SemOK sub pc ρ) (text : String)
    {ti t1 t2 : Tree} (hi : wt sub ρ ti = true) (h1 : wt sub ρ t1 = true) (h2 : wt sub ρ t2 = true) :
    wt sub ρ (semMutTree pc (constNode text) ti t1 t2) = true := by
  simp [semMutTree, wt, wtF, ok.add_args, ok.mul_args, ok.sub_args, ok.lf_args, ok.add_ret, ok.mul_ret, ok.sub_ret,
    ok.lf_ret, constNode, ok.const_ok, hi, h1, h2]

theorem semCxTree_wt {sub : Nat → Nat → Bool} {pc : SemPieces} {ρ : Nat} (ok : SemOK sub pc ρ) (text : String)
    {ta tb tr : Tree} (ha : wt sub ρ ta = true) (hb : wt sub ρ tb = true) (hr : wt sub ρ tr = true) :
    wt sub ρ (semCxTree pc (constNode text) ta tb tr) = true := by
  simp [semCxTree, wt, wtF, ok.add_args, ok.mul_args, ok.sub_args, ok.lf_args, ok.add_ret, ok.mul_ret, ok.sub_ret,
    ok.lf_ret, constNode, ok.const_ok, ha, hb, hr]

/-- the signature without its types, which is all that completeness of the prefix form needs -/
structure SemArity (pc : SemPieces) : Prop where
  add2 : pc.add.args.length = 2
  mul2 : pc.mul.args.length = 2
  sub2 : pc.sub.args.length = 2
  lf1 : pc.lf.args.length = 1

theorem semMutTree_wf {pc : SemPieces} (ok : SemArity pc) (text : String)
    {ti t1 t2 : Tree} (hi : wf ti = true) (h1 : wf t1 = true) (h2 : wf t2 = true) :
    wf (semMutTree pc (constNode text) ti t1 t2) = true := by
  simp [semMutTree, wf, wfF, ok.add2, ok.mul2, ok.sub2, ok.lf1, constNode, Prim.arity, hi, h1, h2]

theorem semCxTree_wf {pc : SemPieces} (ok : SemArity pc) (text : String)
    {ta tb tr : Tree} (ha : wf ta = true) (hb : wf tb = true) (hr : wf tr = true) :
    wf (semCxTree pc (constNode text) ta tb tr) = true := by
  simp [semCxTree, wf, wfF, ok.add2, ok.mul2, ok.sub2, ok.lf1, constNode, Prim.arity, ha, hb, hr]

/-- the environment binds the four names to `fadd`, `fmul`, `fsub` (binary) and `flf` (unary) -/
structure SemEnv {α : Type} (env : EnvG α) (pc : SemPieces) (fadd fmul fsub : α → α → α) (flf : α → α) : Prop where
  kadd : pc.add.kind = .prim
  kmul : pc.mul.kind = .prim
  ksub : pc.sub.kind = .prim
  klf : pc.lf.kind = .prim
  hadd : env.funs pc.add.name.toList = some (fun vs => match vs with | [a, b] => some (fadd a b) | _ => none)
  hmul : env.funs pc.mul.name.toList = some (fun vs => match vs with | [a, b] => some (fmul a b) | _ => none)
  hsub : env.funs pc.sub.name.toList = some (fun vs => match vs with | [a, b] => some (fsub a b) | _ => none)
  hlf : env.funs pc.lf.name.toList = some (fun vs => match vs with | [a] => some (flf a) | _ => none)

/-- the text of a constant node denotes the value `c`: it is no variable name and the literal reader gives `c` -/
def ConstDenotes {α : Type} (env : EnvG α) (text : String) (c : α) : Prop :=
  env.vars text.toList = none ∧ env.lit text.toList = some c

theorem evalG_const {α : Type} {env : EnvG α} {text : String} {c : α} (h : ConstDenotes env text c) :
    evalG env (.node (constNode text) []) = some c := by
  simp [evalG, constNode, h.1, h.2]

theorem evalG_semMutTree {α : Type} {env : EnvG α} {pc : SemPieces} {fadd fmul fsub : α → α → α} {flf : α → α}
    (he : SemEnv env pc fadd fmul fsub flf) {text : String} {ms : α} (hc : ConstDenotes env text ms)
    {ti t1 t2 : Tree} {a b c : α} (hi : evalG env ti = some a) (h1 : evalG env t1 = some b)
    (h2 : evalG env t2 = some c) :
    evalG env (semMutTree pc (constNode text) ti t1 t2) = some (fadd a (fmul ms (fsub (flf b) (flf c)))) := by
  simp only [semMutTree, evalG, evalGF, he.kadd, he.kmul, he.ksub, he.klf, he.hadd, he.hmul, he.hsub, he.hlf,
    hi, h1, h2, if_true]
  simp [constNode, hc.1, hc.2]

theorem evalG_semCxTree {α : Type} {env : EnvG α} {pc : SemPieces} {fadd fmul fsub : α → α → α} {flf : α → α}
    (he : SemEnv env pc fadd fmul fsub flf) {text : String} {one : α} (hc : ConstDenotes env text one)
    {ta tb tr : Tree} {a b r : α} (ha : evalG env ta = some a) (hb : evalG env tb = some b)
    (hr : evalG env tr = some r) :
    evalG env (semCxTree pc (constNode text) ta tb tr) =
      some (fadd (fmul a (flf r)) (fmul (fsub one (flf r)) b)) := by
  simp only [semCxTree, evalG, evalGF, he.kadd, he.kmul, he.ksub, he.klf, he.hadd, he.hmul, he.hsub, he.hlf,
    ha, hb, hr, if_true]
  simp [constNode, hc.1, hc.2]

/-- a loosely typed GSGP set: everything is `object` -/
def gsAdd : Prim := ⟨"add", 0, [0, 0], .prim, ""⟩
def gsMul : Prim := ⟨"mul", 0, [0, 0], .prim, ""⟩
def gsSub : Prim := ⟨"sub", 0, [0, 0], .prim, ""⟩
def gsLf : Prim := ⟨"lf", 0, [0], .prim, ""⟩
def gsX : Prim := ⟨"ARG0", 0, [], .term, "ARG0"⟩
def gsMapping : String → Option Prim := fun k =>
  if k = "add" then some gsAdd else if k = "mul" then some gsMul else if k = "sub" then some gsSub
  else if k = "lf" then some gsLf else if k = "ARG0" then some gsX else none
def gsGen : Tape → R (List Prim × Tape) := fun tp => .ok ([gsX], tp)

theorem gs_pieces {pc : SemPieces} (h : semPieces gsMapping = some pc) : pc = ⟨gsLf, gsMul, gsAdd, gsSub⟩ := by
  simp [semPieces, gsMapping] at h; exact h.symm

end GpTree
