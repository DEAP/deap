/-
C14 helper lemmas: the realignment of the five per-parent lists in
`StrategyMultiObjective.update` (cma.py:503-550).
-/
import DeapModel.Core.CmaElitist
import DeapModel.Lemmas.ListFacts

-- `retag`, `setTags`, `pick` … are declared under `[RealLike α]` in the model and do not take the instance
set_option linter.unusedSectionVars false

namespace C14Align
open CmaElitist CmaElitist.MO

variable {α : Type} [RealLike α]

/-- The record new parent `c` carries after `realign` (cma.py:545-550): an offspring gets `offspringTmp`, a surviving
parent keeps parent `c.pidx`'s factors and path with the adjusted `psucc` / `sigma` (`adj`). -/
def entry (s : State α) (adj : List α × List α) (c : MInd α) : Tmp α :=
  if c.off then offspringTmp s c
  else ⟨adj.2.getD c.pidx 0, s.invCh.getD c.pidx [], s.A.getD c.pidx [], s.pc.getD c.pidx [], adj.1.getD c.pidx 0⟩

theorem entry_offspring (s : State α) (adj : List α × List α) {c : MInd α} (h : c.off = true) :
    entry s adj c = offspringTmp s c := if_pos h

theorem entry_survivor (s : State α) (adj : List α × List α) {c : MInd α} (h : c.off = false) :
    entry s adj c
      = ⟨adj.2.getD c.pidx 0, s.invCh.getD c.pidx [], s.A.getD c.pidx [], s.pc.getD c.pidx [], adj.1.getD c.pidx 0⟩ :=
  if_neg (h ▸ Bool.false_ne_true)

theorem pick_entry {β : Type} (s : State α) (adj : List α × List α) (chosen : List (MInd α)) (f : Tmp α → β) :
    pick chosen (chosen.map fun ind => if ind.off then some (offspringTmp s ind) else none) f
        (fun j => f ⟨adj.2.getD j 0, s.invCh.getD j [], s.A.getD j [], s.pc.getD j [], adj.1.getD j 0⟩)
      = chosen.map fun c => f (entry s adj c) := by
  unfold pick entry
  induction chosen with
  | nil => rfl
  | cons c cs ih =>
    rw [List.map_cons, List.zip_cons_cons, List.map_cons, ih, List.map_cons]
    cases c.off <;> rfl

/-- The five per-parent lists after `realign` are one map over the chosen individuals. -/
theorem realign_eq (s : State α) (chosen nc : List (MInd α)) :
    realign s chosen nc =
      { s with
        parents := chosen
        sigmas := chosen.map fun c => (entry s (adjustAll s.prm chosen nc s.psucc s.sigmas) c).sigma
        invCh := chosen.map fun c => (entry s (adjustAll s.prm chosen nc s.psucc s.sigmas) c).invCh
        A := chosen.map fun c => (entry s (adjustAll s.prm chosen nc s.psucc s.sigmas) c).A
        pc := chosen.map fun c => (entry s (adjustAll s.prm chosen nc s.psucc s.sigmas) c).pc
        psucc := chosen.map fun c => (entry s (adjustAll s.prm chosen nc s.psucc s.sigmas) c).psucc } := by
  unfold realign
  simp only [← pick_entry]

theorem realign_lengths (s : State α) (chosen notChosen : List (MInd α)) :
    (realign s chosen notChosen).sigmas.length = chosen.length ∧
    (realign s chosen notChosen).A.length = chosen.length ∧
    (realign s chosen notChosen).invCh.length = chosen.length ∧
    (realign s chosen notChosen).pc.length = chosen.length ∧
    (realign s chosen notChosen).psucc.length = chosen.length := by
  simp only [realign_eq, List.length_map, and_self]

/-- The scalar success / failure rule of one in-place adjustment (cma.py:530-531, 540-541): what `adjustParent`
writes at the offspring's parent index. -/
def adjScalar (p : Params α) (succ : Bool) (ps sg : α) : α × α :=
  let psj := if succ then (1 - p.cp) * ps + p.cp else (1 - p.cp) * ps
  (psj, sg * RealLike.exp ((psj - p.ptarg) / (p.d * (1 - p.ptarg))))

/-- The fold of `adjScalar` over the offspring of parent `j` in a list of (individual, chosen?)
pairs. -/
def adjFold (p : Params α) (j : Nat) (l : List (MInd α × Bool)) (init : α × α) : α × α :=
  l.foldl (fun acc it => if it.1.off = true ∧ it.1.pidx = j then adjScalar p it.2 acc.1 acc.2 else acc) init

/-- `adjustAll`'s two folds (chosen = success, then not chosen = failure) as one fold over a tagged list. -/
def adjLists (p : Params α) (l : List (MInd α × Bool)) (init : List α × List α) : List α × List α :=
  l.foldl (fun acc it => if it.1.off = true then adjustParent p it.2 acc it.1.pidx else acc) init

theorem adjustAll_eq (p : Params α) (chosen notChosen : List (MInd α)) (psucc sigmas : List α) :
    adjustAll p chosen notChosen psucc sigmas =
      adjLists p (chosen.map (fun c => (c, true)) ++ notChosen.map (fun c => (c, false))) (psucc, sigmas) := by
  simp [adjustAll, adjLists, List.foldl_append, List.foldl_map]

theorem adjustParent_length (p : Params α) (succ : Bool) (ps sg : List α) (k : Nat) :
    (adjustParent p succ (ps, sg) k).1.length = ps.length ∧ (adjustParent p succ (ps, sg) k).2.length = sg.length :=
  ⟨List.length_set, List.length_set⟩

/-- Seen from index `j`, only the offspring of parent `j` matter: the entries at `j` after the fold over the lists are
the scalar fold `adjFold` of the entries at `j` before. -/
theorem adjLists_spec (p : Params α) (j : Nat) :
    ∀ (l : List (MInd α × Bool)) (ps sg : List α), j < ps.length → j < sg.length →
      ((adjLists p l (ps, sg)).1.length = ps.length ∧ (adjLists p l (ps, sg)).2.length = sg.length) ∧
      ((adjLists p l (ps, sg)).1.getD j 0, (adjLists p l (ps, sg)).2.getD j 0) =
        adjFold p j l (ps.getD j 0, sg.getD j 0)
  | [], ps, sg, _, _ => by simp [adjLists, adjFold]
  | it :: l, ps, sg, h1, h2 => by
    simp only [adjLists, adjFold, List.foldl_cons]
    by_cases ho : it.1.off = true
    · simp only [ho, if_true, true_and]
      obtain ⟨l1, l2⟩ := adjustParent_length p it.2 ps sg it.1.pidx
      have ih := adjLists_spec p j l (adjustParent p it.2 (ps, sg) it.1.pidx).1
        (adjustParent p it.2 (ps, sg) it.1.pidx).2 (l1.symm ▸ h1) (l2.symm ▸ h2)
      simp only [adjLists, adjFold] at ih
      refine ⟨⟨ih.1.1.trans l1, ih.1.2.trans l2⟩, ?_⟩
      rw [ih.2]
      congr 1
      by_cases hk : it.1.pidx = j
      · subst hk
        simp only [adjustParent, adjScalar, if_true]
        rw [List.getD_set_self _ _ _ _ h1, List.getD_set_self _ _ _ _ h2]
      · simp only [adjustParent, hk, if_false]
        rw [List.getD_set_ne _ _ _ (Ne.symm hk), List.getD_set_ne _ _ _ (Ne.symm hk)]
    · simp only [ho]
      exact adjLists_spec p j l ps sg h1 h2

theorem setTags_length (s : State α) (tags : List (Bool × Nat)) :
    (setTags s tags).parents.length = s.parents.length := by
  simp [setTags]

theorem retag_parents_length (s : State α) : (retag s).parents.length = s.parents.length := by
  simp [retag]

theorem retag_mem (s : State α) (p : MInd α) (hp : p ∈ (retag s).parents) :
    p.pidx < s.parents.length ∧ ∃ q ∈ s.parents, p.x = q.x := by
  unfold retag at hp
  simp only [List.mem_map] at hp
  obtain ⟨⟨q, k⟩, hq, rfl⟩ := hp
  obtain ⟨_, hk, hqe⟩ := List.mem_zipIdx hq
  simp only [Nat.zero_add] at hk
  exact ⟨hk, q, hqe ▸ List.getElem_mem _, rfl⟩

theorem retag_getElem (s : State α) (k : Nat) (hk : k < s.parents.length) :
    (retag s).parents[k]'(by rw [retag_parents_length]; exact hk) = { s.parents[k] with off := false, pidx := k } := by
  simp [retag]

/-- `generate` overwrites every tag: whatever tags the parents carried, the re-tagged state is the
same. -/
theorem retag_setTags (s : State α) (tags : List (Bool × Nat)) : retag (setTags s tags) = retag s := by
  have hp : (retag (setTags s tags)).parents = (retag s).parents := by
    apply List.ext_getElem
    · simp [retag, setTags]
    · intro i h1 h2
      simp only [retag, setTags, List.getElem_map, List.getElem_zipIdx, Nat.zero_add]
      cases tags[i]? <;> rfl
  show ({ (setTags s tags) with parents := (retag (setTags s tags)).parents } : State α) = _
  rw [hp]; rfl

theorem retag_getD_x (s : State α) (j : Nat) :
    ((retag s).parents.getD j ⟨0, [], [], false, 0⟩).x = (s.parents.getD j ⟨0, [], [], false, 0⟩).x := by
  by_cases hj : j < s.parents.length
  · have h2 : j < (retag s).parents.length := by rw [retag_parents_length]; exact hj
    rw [List.getD_eq_getElem?_getD, List.getD_eq_getElem?_getD, List.getElem?_eq_getElem h2,
      List.getElem?_eq_getElem hj, retag_getElem s j hj]
    rfl
  · have h2 : ¬ j < (retag s).parents.length := by rw [retag_parents_length]; exact hj
    simp [List.getD_eq_getElem?_getD, List.getElem?_eq_none (Nat.le_of_not_gt hj),
      List.getElem?_eq_none (Nat.le_of_not_gt h2)]

theorem offspringTmp_retag (s : State α) (ind : MInd α) : offspringTmp (retag s) ind = offspringTmp s ind := by
  simp only [offspringTmp, retag_getD_x]
  rfl

/-- cma.py:524/528: whichever branch runs, the offspring's factor pair is `_rankOneUpdate` of parent `j`'s pair with the
offspring's own path. -/
theorem offspringTmp_pair (s : State α) (ind : MInd α) :
    ((offspringTmp s ind).invCh, (offspringTmp s ind).A)
      = rankOneUpdate s.dim (s.invCh.getD ind.pidx []) (s.A.getD ind.pidx [])
          (if (1 - s.prm.cp) * s.psucc.getD ind.pidx 0 + s.prm.cp < s.prm.pthresh then 1 - s.prm.ccov
           else 1 - s.prm.ccov + s.prm.cc * (2 - s.prm.cc)) s.prm.ccov (offspringTmp s ind).pc := by
  by_cases h : (1 - s.prm.cp) * s.psucc.getD ind.pidx 0 + s.prm.cp < s.prm.pthresh
  · simp only [offspringTmp, if_pos h]
  · simp only [offspringTmp, if_neg h]
end C14Align
