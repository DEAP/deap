/-
C10 — the ES mutations (`mutGaussian`, `mutESLogNormal`) and unbounded SBX under the rounded semantics of
`Core/RoundedOps.lean`: the decision `random.random() < indpb`, the exponential, the boundary of "positive strategies
stay positive", finite children.
-/
import DeapModel.Lemmas.C10Rounded

namespace RoundedOps
open XF RealOps

variable {A : Arith}

theorem xf_exp (a : XFA A) : (RealLike.exp a : XFA A) = ⟨A.expPy a.val⟩ := rfl

theorem not_lt_zero_of_unit {rs : List (XFA A)} (hr : DrawsUnit A rs) :
    ∀ g ∈ rs, ¬ g < (⟨fin 0⟩ : XFA A) := by
  intro g hg hlt
  obtain ⟨t, rfl, t0, _⟩ := hr g hg
  exact absurd ((lt_fin_fin t 0).1 hlt) (not_lt.2 t0)

theorem lognMag_iff {M : Mag} {s a : Rat} {k : Nat} : lognMag M s a k = true ↔
    0 < s ∧ a ≤ M.expmax ∧ k ≤ M.kmax ∧ -(k : Rat) * ln2lo ≤ a ∧ M.tiny ≤ s / 2 ^ k := by
  simp only [lognMag, Bool.and_eq_true, decide_eq_true_eq, and_assoc]

theorem lognSigma_val (s : Rat) (t0n t z : XFA A) {a : Rat} (harg : (t0n + t * z).val = fin a) :
    (lognSigma (⟨fin s⟩ : XFA A) t0n t z).val = A.mul (fin s) (A.expPy (fin a)) :=
  harg ▸ rfl

theorem lognSigma_rounded (hA : A.Lawful) (hE : A.LawfulExp) {s a : Rat} {k : Nat}
    (hm : lognMag A.toMag s a k = true) (t0n t z : XFA A) (harg : (t0n + t * z).val = fin a) :
    (lognSigma (⟨fin s⟩ : XFA A) t0n t z).val = pinf ∨
      ∃ q, (lognSigma (⟨fin s⟩ : XFA A) t0n t z).val = fin q ∧ A.tiny ≤ q := by
  obtain ⟨hs, ha, hk, hka, htiny⟩ := lognMag_iff.1 hm
  obtain ⟨e, he⟩ := hE.exp_fin a ha
  have hge := hE.exp_ge_pow2 k a e hk hka he
  rw [lognSigma_val s t0n t z harg]
  simp only [Arith.expPy, he, mul_fin]
  have : A.tiny ≤ s * e := by
    calc A.tiny ≤ s / 2 ^ k := htiny
      _ = s * (1 / 2 ^ k) := by ring
      _ ≤ s * e := mul_le_mul_of_nonneg_left hge hs.le
  exact rnd_ge hA hE.rep_tiny this

theorem toy_lawfulExp : toy.LawfulExp where
  rep_tiny := by decide +kernel
  tiny_pos := by decide +kernel
  exp_fin x hx := by
    change x ≤ 41 at hx
    change ∃ e, toyExp (fin x) = fin e
    simp only [toyExp]
    rw [if_neg (not_lt.2 hx)]
    split
    · exact ⟨_, rfl⟩
    · split <;> exact ⟨_, rfl⟩
  exp_ge_pow2 k x e hk hkx he := by
    change k ≤ 60 at hk
    change toyExp (fin x) = fin e at he
    simp only [toyExp] at he
    have hkpos : (0 : Rat) < 2 ^ k := by positivity
    split at he
    · simp at he
    · split at he
      · cases he
        exact (div_le_one hkpos).2 (one_le_pow₀ (by norm_num))
      · next hneg =>
        have hl : (0 : Rat) < ln2lo := by norm_num [ln2lo]
        have hle : (⌈-x / ln2lo⌉).toNat ≤ k := by
          rw [Int.toNat_le, Int.ceil_le, div_le_iff₀ hl]
          push_cast
          linarith
        rw [if_pos (le_trans hle hk)] at he
        cases he
        exact one_div_le_one_div_of_le (by positivity) (pow_le_pow_right₀ (by norm_num) hle)

theorem mul_FinIn_abs (hA : A.Lawful) {x : XF} {c q P : Rat} (hx : FinIn x (-c) c) (hP : A.rep P = true)
    (hP' : A.rep (-P) = true) (h : c * |q| ≤ P) : FinIn (A.mul x (fin q)) (-P) P := by
  obtain ⟨p, rfl, p1, p2⟩ := hx
  rw [mul_fin]
  have hp : |p| ≤ c := abs_le.2 ⟨p1, p2⟩
  have : |p * q| ≤ P := by
    rw [abs_mul]
    exact le_trans (mul_le_mul_of_nonneg_right hp (abs_nonneg _)) h
  obtain ⟨a, b⟩ := abs_le.1 this
  exact rnd_in hA hP' hP a b

/-- the magnitudes of one locus of `cxSimulatedBinary`: `eta ≥ 0` with `eta + 1` finite, and two representable caps:
`C ≥ max(2, 1 + 1/(2 - 2 top))` bounds `1 ± beta`, `P ≥ C * max(|x1|, |x2|)` bounds the four products, `2 P ≤ omega`
(binary64: `C = 2^53`, `P = 2^(53+k)` for genes up to `2^k`, `k ≤ 969`: every gene up to `4.9e291` in magnitude) -/
structure SbxCaps (A : Arith) (eta x1 x2 C P : Rat) : Prop where
  eta0 : 0 ≤ eta
  eta1 : eta + 1 ≤ A.omega
  rep_htop : A.rep (1 - A.top) = true
  rep_B : A.rep (1 / (2 - 2 * A.top)) = true
  repC : A.rep C = true
  repC' : A.rep (-C) = true
  C2 : 2 ≤ C
  CB : 1 + 1 / (2 - 2 * A.top) ≤ C
  repP : A.rep P = true
  repP' : A.rep (-P) = true
  P1 : C * |x1| ≤ P
  P2 : C * |x2| ≤ P
  Pom : 2 * P ≤ A.omega

theorem sbxBeta_ok (hA : A.Lawful) {e r x1 x2 C P : Rat} (hc : SbxCaps A e x1 x2 C P) (hr0 : 0 ≤ r) (hr1 : r ≤ A.top) :
    FinIn (sbxBeta (⟨fin e⟩ : XFA A) ⟨fin r⟩).val 0 (C - 1) := by
  have hee := eta_one hA hc.eta0 hc.eta1
  have hme := mut_pow hA hee
  xsimp [sbxBeta, xf_half hA]
  split
  · next hle =>
    have hle' : r ≤ 1 / 2 := by simpa using hle
    have hb : FinIn (A.mul (fin 2) (fin r)) 0 1 :=
      mul_FinIn hA (fin_FinIn 2) (⟨r, rfl, hr0, hle'⟩ : FinIn (fin r) 0 (1 / 2)) (by norm_num) (le_refl _) hA.rep_one
        (by norm_num)
    exact (pow_unit hA hb hme (le_refl _)).mono (le_refl _) (by linarith only [hc.C2])
  · next hle =>
    have hgt : 1 / 2 < r := by simpa using hle
    have hg := gap_pos hA
    have hB1 : 1 ≤ 1 / (2 - 2 * A.top) := (le_div_iff₀ hg).2 (by linarith only [hgt, hr1])
    have h1 : FinIn (A.sub (fin 1) (fin r)) (1 - A.top) (1 / 2) :=
      sub_FinIn hA (fin_FinIn 1) (⟨r, rfl, hgt.le, hr1⟩ : FinIn (fin r) (1 / 2) A.top) hc.rep_htop hA.rep_half le_rfl
        (by norm_num)
    obtain ⟨d, hd, d1, d2⟩ := h1
    have h2 : FinIn (A.mul (fin 2) (fin d)) (2 - 2 * A.top) 1 := by
      rw [mul_fin]; exact rnd_in hA hA.rep_gap hA.rep_one (by linarith only [d1]) (by linarith only [d2])
    have h3 : FinIn (A.div (fin 1) (A.mul (fin 2) (fin d))) 0 (1 / (2 - 2 * A.top)) :=
      div_FinIn hA (fin_FinIn 1) h2 (by norm_num) hg hc.rep_B (le_refl _)
    rw [hd]
    exact (pow_cap hA h3 hme hc.rep_B hB1).mono (le_refl _) (le_sub_iff_add_le'.2 hc.CB)

theorem sbxPair_rounded (hA : A.Lawful) {e r x1 x2 C P : Rat} (hc : SbxCaps A e x1 x2 C P) (hr0 : 0 ≤ r)
    (hr1 : r ≤ A.top) :
    FinIn (sbxPair (⟨fin e⟩ : XFA A) ⟨fin x1⟩ ⟨fin x2⟩ ⟨fin r⟩).1.val (-A.omega) A.omega ∧
    FinIn (sbxPair (⟨fin e⟩ : XFA A) ⟨fin x1⟩ ⟨fin x2⟩ ⟨fin r⟩).2.val (-A.omega) A.omega := by
  have hb := sbxBeta_ok hA hc hr0 hr1
  have hC2 := hc.C2
  have hplus : FinIn (A.add (fin 1) (sbxBeta (⟨fin e⟩ : XFA A) ⟨fin r⟩).val) (-C) C :=
    (add_FinIn hA (fin_FinIn 1) hb hA.rep_one hc.repC (by norm_num) (by linarith)).mono (by linarith) (le_refl _)
  have hminus : FinIn (A.sub (fin 1) (sbxBeta (⟨fin e⟩ : XFA A) ⟨fin r⟩).val) (-C) C :=
    (sub_FinIn hA (fin_FinIn 1) hb hc.repC' hA.rep_one (by linarith) (by norm_num)).mono (le_refl _) (by linarith)
  have p11 := mul_FinIn_abs hA hplus hc.repP hc.repP' hc.P1
  have p12 := mul_FinIn_abs hA hminus hc.repP hc.repP' hc.P2
  have p21 := mul_FinIn_abs hA hminus hc.repP hc.repP' hc.P1
  have p22 := mul_FinIn_abs hA hplus hc.repP hc.repP' hc.P2
  have hPom := hc.Pom
  have s1 := add_FinIn hA p11 p12 hA.rep_neg_omega hA.rep_omega (by linarith) (by linarith)
  have s2 := add_FinIn hA p21 p22 hA.rep_neg_omega hA.rep_omega (by linarith) (by linarith)
  have halfmul : ∀ {s : XF}, FinIn s (-A.omega) A.omega → FinIn (A.mul (fin (1 / 2)) s) (-A.omega) A.omega := by
    intro s hs
    obtain ⟨q, rfl, q1, q2⟩ := hs
    rw [mul_fin]
    exact rnd_in hA hA.rep_neg_omega hA.rep_omega (by linarith) (by linarith)
  xsimp [sbxPair, xf_half hA]
  exact ⟨halfmul s1, halfmul s2⟩

end RoundedOps
