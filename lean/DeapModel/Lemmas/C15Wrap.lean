import DeapModel.Lemmas.C15Grid
/-!
C15 — lemmas for the low-dimensional formulas and the wrappers (`argmaxFirst`, `looValues`, `wobj`).
-/
namespace Hypervolume

theorem dom_iff : ∀ (ref : List ℚ) (p q : Pt), Dom ref p q ↔ ∀ j < ref.length, p.getD j 0 ≤ q.getD j 0
  | [], _, _ => by simp [Dom]
  | r :: ref, p, q => by
    rw [Dom, dom_iff ref, List.length_cons, Nat.forall_lt_succ_left]
    simp only [getD_zero_eq, getD_succ_eq]

theorem onBoundary_iff : ∀ (ref : List ℚ) (q : Pt), OnBoundary ref q ↔ ∃ j < ref.length, ref.getD j 0 ≤ q.getD j 0
  | [], _ => by simp [OnBoundary]
  | r :: ref, q => by
    rw [OnBoundary, onBoundary_iff ref, List.length_cons, Nat.exists_lt_succ_left]
    simp only [getD_zero_eq, getD_succ_eq, List.getD_cons_zero, List.getD_cons_succ]

theorem hvCells_of_dominating (ref : List ℚ) (q : Pt) : ∀ (S : List Pt), (∀ s ∈ S, Dom ref q s) →
    hvCells ref (q :: S) = boxVol ref q
  | [], _ => hvCells_single ref q
  | s :: S, h => by
    rw [hvCells_of_perm ref (List.Perm.swap s q S), hvCells_dominated' ref (q :: S) q s (by simp) (h s (by simp))]
    exact hvCells_of_dominating ref q S (fun t ht => h t (by simp [ht]))

theorem foldr_min_le_init (r : ℚ) : ∀ xs : List ℚ, xs.foldr min r ≤ r
  | [] => le_refl _
  | _ :: xs => le_trans (min_le_right _ _) (foldr_min_le_init r xs)

theorem foldr_min_le_mem (r : ℚ) : ∀ (xs : List ℚ) (y : ℚ), y ∈ xs → xs.foldr min r ≤ y
  | x :: xs, y, h => by
    rcases List.mem_cons.mp h with rfl | h
    · exact min_le_left _ _
    · exact le_trans (min_le_right _ _) (foldr_min_le_mem r xs y h)

theorem le_foldr_min (r m : ℚ) : ∀ xs : List ℚ, (∀ x ∈ xs, m ≤ x) → m ≤ r → m ≤ xs.foldr min r
  | [], _, hr => hr
  | x :: xs, h, hr => le_min (h x List.mem_cons_self) (le_foldr_min r m xs (fun y hy => h y (List.mem_cons_of_mem _ hy)) hr)

theorem foldr_min_mem_or (r : ℚ) : ∀ xs : List ℚ, xs.foldr min r = r ∨ xs.foldr min r ∈ xs
  | [] => Or.inl rfl
  | x :: xs => by
    rw [List.foldr_cons]
    rcases le_total x (xs.foldr min r) with h | h
    · rw [min_eq_left h]; right; simp
    · rw [min_eq_right h]
      rcases foldr_min_mem_or r xs with h' | h'
      · left; exact h'
      · right; exact List.mem_cons_of_mem _ h'

/-- In one dimension the hypervolume is `ref − min` (capped at 0 when no point is below the reference). -/
theorem hvCells_1d (r : ℚ) : ∀ (S : List Pt), hvCells [r] S = r - (S.map (fun p => p.headD 0)).foldr min r
  | [] => by rw [hvCells_nil_pts]; simp
  | q :: S => by
    have ih := hvCells_1d r S
    rw [List.map_cons, List.foldr_cons]
    set m := (S.map (fun p => p.headD 0)).foldr min r with hm
    rcases lt_or_ge (q.headD 0) m with h | h
    · -- q dominates every other point
      rw [min_eq_left (le_of_lt h)]
      rw [hvCells_of_dominating [r] q S]
      · have hr : q.headD 0 < r := lt_of_lt_of_le h (foldr_min_le_init r _)
        rw [boxVol, boxVol, if_pos hr, mul_one]
      · intro s hs
        refine ⟨?_, trivial⟩
        exact le_trans (le_of_lt h) (foldr_min_le_mem r _ _ (List.mem_map_of_mem hs))
    · rw [min_eq_right h, ← ih]
      rcases foldr_min_mem_or r (S.map (fun p => p.headD 0)) with h' | h'
      · -- nothing below the reference, and q is on the boundary
        apply hvCells_boundary'
        left; rw [← h', ← hm]; exact h
      · obtain ⟨s, hs, hsm⟩ := List.mem_map.mp h'
        apply hvCells_dominated' [r] S s q hs
        refine ⟨?_, trivial⟩
        rw [hsm, ← hm]; exact h

theorem argmaxFirst_cons₂ (x y : ℚ) (t : List ℚ) :
    argmaxFirst (x :: y :: t)
      = if x < (y :: t).getD (argmaxFirst (y :: t)) 0 then argmaxFirst (y :: t) + 1 else 0 := rfl

theorem argmaxFirst_spec : ∀ (l : List ℚ), l ≠ [] →
    argmaxFirst l < l.length ∧ (∀ k < l.length, l.getD k 0 ≤ l.getD (argmaxFirst l) 0) ∧
      (∀ k < argmaxFirst l, l.getD k 0 < l.getD (argmaxFirst l) 0)
  | [], h => absurd rfl h
  | [x], _ => ⟨Nat.zero_lt_one, fun k hk => by obtain rfl : k = 0 := Nat.lt_one_iff.mp hk; exact le_refl _,
      fun k hk => absurd hk (Nat.not_lt_zero k)⟩
  | x :: y :: t, _ => by
    obtain ⟨h1, h2, h3⟩ := argmaxFirst_spec (y :: t) (List.cons_ne_nil _ _)
    rw [argmaxFirst_cons₂]
    by_cases hx : x < (y :: t).getD (argmaxFirst (y :: t)) 0
    · -- a strictly larger entry follows: the index moves on
      rw [if_pos hx]
      refine ⟨Nat.succ_lt_succ h1, fun k hk => ?_, fun k hk => ?_⟩
      · cases k with
        | zero => exact le_of_lt hx
        | succ k => exact h2 k (Nat.lt_of_succ_lt_succ hk)
      · cases k with
        | zero => exact hx
        | succ k => exact h3 k (Nat.lt_of_succ_lt_succ hk)
    · rw [if_neg hx]
      refine ⟨Nat.succ_pos _, fun k hk => ?_, fun k hk => absurd hk (Nat.not_lt_zero k)⟩
      cases k with
      | zero => exact le_refl _
      | succ k => exact le_trans (h2 k (Nat.lt_of_succ_lt_succ hk)) (not_lt.mp hx)

theorem looValues_length (ref : List ℚ) (pts : List Pt) : (looValues ref pts).length = pts.length := by
  simp [looValues]

theorem looValues_getD (ref : List ℚ) (pts : List Pt) (k : ℕ) (hk : k < pts.length) :
    (looValues ref pts).getD k 0 = hvSlice ref (pts.eraseIdx k) := by
  unfold looValues
  rw [List.getD_eq_getElem?_getD, List.getElem?_map, List.getElem?_range hk]
  rfl

theorem wobj_coord : ∀ (w v : List ℚ) (j : ℕ),
    ((wvalues w v).map (fun x => x * (-1))).getD j 0 = -(v.getD j 0 * w.getD j 0)
  | w, [], j => by show (0 : ℚ) = -(0 * w.getD j 0); rw [zero_mul, neg_zero]
  | [], a :: v, j => by show (0 : ℚ) = -((a :: v).getD j 0 * 0); rw [mul_zero, neg_zero]
  | b :: w, a :: v, 0 => mul_neg_one (a * b)
  | b :: w, a :: v, j + 1 => wobj_coord w v j

theorem maxRat_eq_max (a b : ℚ) : maxRat a b = max a b := (max_def a b).symm

theorem colMax_spec (d : ℕ) : ∀ (ps : List Pt) (p : Pt), p.length = d → (∀ q ∈ ps, q.length = d) →
    (ps.foldl (fun acc q => List.zipWith maxRat acc q) p).length = d ∧
    ∀ j < d, (∀ q ∈ p :: ps, q.getD j 0 ≤ (ps.foldl (fun acc q => List.zipWith maxRat acc q) p).getD j 0) ∧
      (∃ q ∈ p :: ps, (ps.foldl (fun acc q => List.zipWith maxRat acc q) p).getD j 0 = q.getD j 0)
  | [], p, hp, _ => by
    refine ⟨hp, fun j _ => ⟨?_, ⟨p, by simp, rfl⟩⟩⟩
    intro q hq
    simp only [List.mem_singleton] at hq
    subst hq; exact le_refl _
  | s :: ps, p, hp, hps => by
    have hs : s.length = d := hps s (by simp)
    have hz : (List.zipWith maxRat p s).length = d := by simp [hp, hs]
    obtain ⟨hl, hj⟩ := colMax_spec d ps (List.zipWith maxRat p s) hz (fun q hq => hps q (by simp [hq]))
    refine ⟨hl, fun j hjd => ?_⟩
    obtain ⟨hle, q, hq, heq⟩ := hj j hjd
    have hzj := (List.getD_zipWith maxRat p s j 0 0 0 (hp ▸ hjd) (hs ▸ hjd)).trans (maxRat_eq_max _ _)
    refine ⟨?_, ?_⟩
    · intro t ht
      simp only [List.mem_cons] at ht
      have hz' := hle (List.zipWith maxRat p s) (by simp)
      rw [hzj] at hz'
      rcases ht with rfl | rfl | ht
      · exact le_trans (le_max_left _ _) hz'
      · exact le_trans (le_max_right _ _) hz'
      · exact hle t (by simp [ht])
    · simp only [List.mem_cons] at hq
      rcases hq with rfl | hq
      · rw [List.foldl_cons, heq, hzj]
        rcases max_choice (p.getD j 0) (s.getD j 0) with h | h
        · exact ⟨p, by simp, h⟩
        · exact ⟨s, by simp, h⟩
      · exact ⟨q, by simp [hq], heq⟩

/-- The default reference point is, in every coordinate, the largest coordinate of the points plus one. -/
theorem defaultRef_spec (d : ℕ) (pts : List Pt) (hne : pts ≠ []) (hlen : ∀ q ∈ pts, q.length = d) :
    (defaultRef pts).length = d ∧
    ∀ j < d, (∀ q ∈ pts, q.getD j 0 + 1 ≤ (defaultRef pts).getD j 0) ∧
      (∃ q ∈ pts, (defaultRef pts).getD j 0 = q.getD j 0 + 1) := by
  cases pts with
  | nil => exact absurd rfl hne
  | cons p ps =>
    obtain ⟨hl, hj⟩ := colMax_spec d ps p (hlen p (by simp)) (fun q hq => hlen q (by simp [hq]))
    unfold defaultRef
    refine ⟨by simpa using hl, fun j hjd => ?_⟩
    obtain ⟨hle, q, hq, heq⟩ := hj j hjd
    have hget : ((ps.foldl (fun acc q => List.zipWith maxRat acc q) p).map (· + 1)).getD j 0
        = (ps.foldl (fun acc q => List.zipWith maxRat acc q) p).getD j 0 + 1 := by
      rw [List.getD_eq_getElem?_getD, List.getD_eq_getElem?_getD, List.getElem?_map,
        List.getElem?_eq_getElem (by rw [hl]; exact hjd)]
      rfl
    rw [hget]
    refine ⟨fun t ht => ?_, ⟨q, hq, by rw [heq]⟩⟩
    have := hle t ht
    linarith

end Hypervolume
