/-
Helper lemmas for C11: the generators — what they return, and that they return (termination, no IndexError, tape bound).
-/
import DeapModel.Lemmas.C11Basic
import DeapModel.Lemmas.C11Tape

namespace GpTree

/-- The pool invariant established by `PrimitiveSetTyped._add` (see `C11.add_pools_ok`) plus the
reading of the statement: `issubclass` is a preorder, primitives have arity ≥ 1, terminals 0. -/
structure PsetOK (ps : Pset) : Prop where
  refl : ∀ a, ps.sub a a = true
  trans : ∀ a b c, ps.sub a b = true → ps.sub b c = true → ps.sub a c = true
  prims_ok : ∀ τ p, p ∈ ps.prims τ → ps.sub p.ret τ = true ∧ p.args ≠ []
  terms_ok : ∀ τ p, p ∈ ps.terms τ → ps.sub p.ret τ = true ∧ p.args = []

/-- a forest matching a generator stack: tree `k` is well typed for the type of stack entry `k`
and satisfies the depth property `P` at the entry's depth -/
def forestOK (sub : Nat → Nat → Bool) (P : Nat → Tree → Prop) : List (Nat × Nat) → List Tree → Prop
  | [], [] => True
  | (d, τ) :: st, t :: ts => wt sub τ t = true ∧ P d t ∧ forestOK sub P st ts
  | _, _ => False

theorem forestOK_split {sub P} : ∀ (a : List (Nat × Nat)) {b : List (Nat × Nat)} {ts : List Tree},
    forestOK sub P (a ++ b) ts → ∃ ta tb, ts = ta ++ tb ∧ forestOK sub P a ta ∧ forestOK sub P b tb
  | [], b, ts, h => ⟨[], ts, rfl, by simp [forestOK], by simpa using h⟩
  | (d, τ) :: a, b, [], h => by simp [forestOK] at h
  | (d, τ) :: a, b, t :: ts, h => by
    obtain ⟨ta, tb, e, h1, h2⟩ := forestOK_split a h.2.2
    exact ⟨t :: ta, tb, by simp [e], ⟨h.1, h.2.1, h1⟩, h2⟩

theorem forestOK_args {sub P} (d : Nat) : ∀ (args : List Nat) (ts : List Tree),
    forestOK sub P (args.map (fun a => (d, a))) ts → wtF sub args ts = true ∧ ∀ c ∈ ts, P d c
  | [], [], _ => by simp [wtF]
  | a :: args, t :: ts, h => by
    obtain ⟨h1, h2⟩ := forestOK_args d args ts h.2.2
    refine ⟨by simp [wtF, h.1, h1], ?_⟩
    intro c hc
    rcases List.mem_cons.1 hc with rfl | hc
    · exact h.2.1
    · exact h2 c hc
  | [], _ :: _, h => by simp [forestOK] at h
  | _ :: _, [], h => by simp [forestOK] at h

theorem forestOK_wtF {sub P} : ∀ (st : List (Nat × Nat)) (ts : List Tree),
    forestOK sub P st ts → wtF sub (st.map (·.2)) ts = true
  | [], [], _ => by simp [wtF]
  | (d, τ) :: st, t :: ts, h => by
    simp [wtF, h.1, forestOK_wtF st ts h.2.2]
  | [], _ :: _, h => by simp [forestOK] at h
  | _ :: _, [], h => by simp [forestOK] at h

/-- number of nodes of the full `A`-ary tree of height `k`: `1 + A + … + A^k` -/
def nodes (A : Nat) : Nat → Nat
  | 0 => 1
  | k + 1 => 1 + A * nodes A k

theorem nodes_pos (A k : Nat) : 1 ≤ nodes A k := by cases k <;> simp [nodes]

theorem nodes_mono (A : Nat) {j k : Nat} (h : j ≤ k) : nodes A j ≤ nodes A k := by
  induction k generalizing j with
  | zero => have : j = 0 := by omega
            subst this; exact Nat.le_refl _
  | succ k ih =>
    cases j with
    | zero => simp [nodes]
    | succ j =>
      simp only [nodes]
      have := ih (j := j) (by omega)
      have := Nat.mul_le_mul_left A this
      omega

/-- an upper bound on the number of nodes still to be generated from a stack of `(depth, type)` -/
def cost (A h : Nat) : List (Nat × Nat) → Nat
  | [] => 0
  | e :: st => nodes A (h - e.1) + cost A h st

theorem cost_append (A h : Nat) (a b : List (Nat × Nat)) : cost A h (a ++ b) = cost A h a + cost A h b := by
  induction a with
  | nil => simp [cost]
  | cons e a ih => simp [cost, ih]; omega

theorem cost_map (A h d : Nat) (args : List Nat) :
    cost A h (args.map (fun a => (d, a))) = args.length * nodes A (h - d) := by
  induction args with
  | nil => simp [cost]
  | cons a as ih => simp [cost, ih, Nat.succ_mul]; omega

/-- the measure of `generate`'s termination: replacing a stack entry above the height by its primitive's arguments,
one level deeper, costs at least one node less -/
theorem cost_push (A h d τ : Nat) (args : List Nat) (st : List (Nat × Nat)) (hd : d < h) (hA : args.length ≤ A) :
    cost A h (args.map (fun a => (d + 1, a)) ++ st) + 1 ≤ cost A h ((d, τ) :: st) := by
  rw [cost_append, cost_map, cost, show h - d = (h - (d + 1)) + 1 by omega, nodes]
  have := Nat.mul_le_mul_right (nodes A (h - (d + 1))) hA
  omega

/-- The primitive-set hypothesis of the statement's reading (DESIGN §6) for the set `Rq` of types
that can be requested: each has a terminal and a primitive, the arguments of its primitives can be
requested again, and `A` bounds the arities. -/
structure PsetFull (ps : Pset) (Rq : Nat → Prop) (A : Nat) : Prop where
  terms_ne : ∀ τ, Rq τ → ps.terms τ ≠ []
  prims_ne : ∀ τ, Rq τ → ps.prims τ ≠ []
  closed : ∀ τ, Rq τ → ∀ p ∈ ps.prims τ, p.args.length ≤ A ∧ ∀ a ∈ p.args, Rq a

theorem condition_ok {mode : GenMode} {ps : Pset} {mn h d : Nat} {tp tp1 : Tape} {c : Bool}
    (hc : condition mode ps mn h d tp = .ok (c, tp1)) :
    tp1.length ≤ tp.length ∧ tp.length ≤ tp1.length + 1 ∧ (c = false → d ≠ h) := by
  unfold condition at hc
  cases mode with
  | full =>
    obtain ⟨rfl, rfl⟩ := hc
    exact ⟨Nat.le_refl _, by omega, by intro h'; simpa using h'⟩
  | grow =>
    simp only at hc
    split at hc
    · obtain ⟨rfl, rfl⟩ := hc; exact ⟨Nat.le_refl _, by omega, by simp⟩
    · rename_i hne
      split at hc
      · split at hc
        · simp at hc
        · rename_i x tp' hr
          obtain ⟨_, rfl⟩ := hc
          have := popRnd_ok hr
          exact ⟨by omega, by omega, fun _ => by simpa using hne⟩
      · obtain ⟨rfl, rfl⟩ := hc; exact ⟨Nat.le_refl _, by omega, fun _ => by simpa using hne⟩

theorem condition_err {mode : GenMode} {ps : Pset} {mn h d : Nat} {tp : Tape} {e : Fault}
    (hc : condition mode ps mn h d tp = .error e) : TapeFault tp e := by
  unfold condition at hc
  cases mode with
  | full => simp at hc
  | grow =>
    simp only at hc
    split at hc
    · simp at hc
    · split at hc
      · split at hc
        · rename_i e' hr; simp at hc; subst hc; exact popRnd_err hr
        · simp at hc
      · simp at hc

theorem condition_draws (mode : GenMode) (ps : Pset) (mn h d : Nat) (tp : Tape) :
    Draws True tp (fun c => c = false → d ≠ h) (condition mode ps mn h d tp) := by
  cases hc : condition mode ps mn h d tp with
  | error e => exact .fault fun _ => condition_err hc
  | ok v => exact .ok ⟨(condition_ok hc).2.2, (condition_ok hc).2.1⟩

/-- The `generate` loop as a whole, both halves in one induction.  It keeps, for any depth property `P` that holds for a terminal placed where the
condition fired and is inherited by a primitive node placed where it did not, a forest matching the stack; and with
enough fuel (always the case in `generate`) and a stack of requestable types at depths ≤ h it never raises and never runs
out of fuel: three draws per node still to be generated suffice. -/
theorem genLoop_run {mode : GenMode} {ps : Pset} {mn h : Nat} (P : Nat → Tree → Prop)
    (hleaf : ∀ d tp tp' (term : Prim), condition mode ps mn h d tp = .ok (true, tp') → P d (.node term []))
    (hnode : ∀ d tp tp' (p : Prim) (c : Tree) (cs : List Tree), condition mode ps mn h d tp = .ok (false, tp') →
      (∀ x ∈ c :: cs, P (d + 1) x) → P d (.node p (c :: cs))) {Rq : Nat → Prop} {A : Nat} :
    ∀ (fuel : Nat) (st : List (Nat × Nat)) (tp : Tape),
      Ran (PsetFull ps Rq A ∧ tp.length < fuel ∧ ∀ e ∈ st, e.1 ≤ h ∧ Rq e.2) (3 * cost A h st) tp
        (fun o => PsetOK ps → ∃ ts, flattenF ts = o.1 ∧ forestOK ps.sub P st ts) (genLoop mode ps mn h fuel st tp)
  | fuel, [], tp => by rw [genLoop]; exact .ok fun _ => ⟨[], rfl, trivial⟩
  | 0, _ :: _, tp => .raised fun hH => Nat.not_lt_zero _ hH.2.1
  | fuel + 1, (d, τ) :: st, tp => by
    have hn := nodes_pos A (h - d)
    have hcost : cost A h ((d, τ) :: st) = nodes A (h - d) + cost A h st := rfl
    rw [genLoop, hcost]
    refine Ran.mono (n := 3 * (nodes A (h - d) + cost A h st) - 1 + 1) ?_ (by omega)
    refine .seq (condition_draws mode ps mn h d tp) (fun _ => trivial) fun c tp1 hc hcf => ?_
    simp only [hc]
    have hl1 := (condition_ok hc).1
    cases c with
    | true =>
      -- a terminal: at most three draws (`random()`, `choice`, the ephemeral's generator), then the rest of the stack
      refine Ran.mono (n := 3 * cost A h st + 1 + 1) ?_ (by omega)
      refine .seq (popChoice_draws (ps.terms τ) tp1) (fun hH => hH.1.terms_ne τ (hH.2.2 (d, τ) (by simp)).2)
        fun term tp2 hch hmem => ?_
      simp only [hch]
      refine .seq (instantiate_draws term tp2) (fun _ => trivial) fun term' tp3 hin ⟨e1, e2, _, _⟩ => ?_
      simp only [hin]
      -- the `choice` has taken a draw, so the fuel suffices for the rest
      have hl2 := (popChoice_ok hch).2
      have hl3 := (instantiate_ok hin).2.1
      refine .last (genLoop_run P hleaf hnode (Rq := Rq) (A := A) fuel st tp3)
        (fun hH => ⟨hH.1, by omega, fun e he => hH.2.2 e (by simp [he])⟩)
        fun rest tp4 hrec ih => ?_
      simp only [hrec]
      refine .ok fun ok => ?_
      obtain ⟨ts, hf, hok⟩ := ih ok
      obtain ⟨hsub, hargs⟩ := ok.terms_ok τ term hmem
      exact ⟨.node term' [] :: ts, by simp [flattenF, flatten, hf],
        by simp [wt, e1, e2, hsub, hargs, wtF], hleaf d tp tp1 term' hc, hok⟩
    | false =>
      -- a primitive: two draws, and its arguments one level deeper cost at most `A` subtrees of height `h - d - 1`
      refine Ran.mono (n := 3 * (nodes A (h - d) + cost A h st) - 3 + 1) ?_ (by omega)
      refine .seq (popChoice_draws (ps.prims τ) tp1) (fun hH => hH.1.prims_ne τ (hH.2.2 (d, τ) (by simp)).2)
        fun prim tp2 hch hmem => ?_
      simp only [hch]
      have hl2 := (popChoice_ok hch).2
      -- under the hypothesis: the entry is above the height, its primitive's arity is bounded and its arguments requestable
      have key : (PsetFull ps Rq A ∧ tp.length < fuel + 1 ∧ ∀ e ∈ (d, τ) :: st, e.1 ≤ h ∧ Rq e.2) →
          d < h ∧ prim.args.length ≤ A ∧ ∀ a ∈ prim.args, Rq a := fun hH => by
        obtain ⟨hd, hτ⟩ := hH.2.2 (d, τ) (by simp)
        have hdh := hcf rfl
        exact ⟨by omega, hH.1.closed τ hτ prim hmem⟩
      refine .last (genLoop_run P hleaf hnode (Rq := Rq) (A := A) fuel (prim.args.map (fun a => (d + 1, a)) ++ st) tp2)
        (fun hH => ⟨hH.1, by omega, fun e he => ?_⟩) (fun rest tp3 hrec ih => ?_)
        fun hH => by have := cost_push A h d τ prim.args st (key hH).1 (key hH).2.1; omega
      · rcases List.mem_append.1 he with he | he
        · obtain ⟨a, ha, rfl⟩ := List.mem_map.1 he
          exact ⟨(key hH).1, (key hH).2.2 a ha⟩
        · exact hH.2.2 e (by simp [he])
      · simp only [hrec]
        refine .ok fun ok => ?_
        obtain ⟨ts, hf, hok⟩ := ih ok
        dsimp only at hf
        obtain ⟨hsub, hargs⟩ := ok.prims_ok τ prim hmem
        obtain ⟨ta, tb, e, h1, h2⟩ := forestOK_split _ hok
        obtain ⟨hw, hP⟩ := forestOK_args (d + 1) prim.args ta h1
        subst e
        refine ⟨.node prim ta :: tb, by simp [flattenF, flatten, ← hf, flattenF_append], by simp [wt, hsub, hw], ?_, h2⟩
        cases ta with
        | nil => exact absurd (List.eq_nil_of_length_eq_zero (wtF_length hw).symm) hargs
        | cons c cs => exact hnode d tp tp1 prim c cs hc hP

/-- `generate` as a whole: with `min ≤ max` and a requestable type it never raises, `3·(1 + A + … + A^max) + 1` draws suffice
(one `randint`, then the loop); and what it returns is the prefix form of a tree that is well typed for the type and has every
depth property `P` that the loop keeps, for the height `h ∈ [min, max]` that was drawn. -/
theorem generate_run {mode : GenMode} {ps : Pset} {mn mx τ : Nat} (tp : Tape) {Rq : Nat → Prop} {A : Nat} :
    Ran (PsetFull ps Rq A ∧ mn ≤ mx ∧ Rq τ) (3 * nodes A mx + 1) tp
      (fun o => PsetOK ps → ∃ h, mn ≤ h ∧ h ≤ mx ∧ ∀ P : Nat → Tree → Prop,
        (∀ d tp tp' (term : Prim), condition mode ps mn h d tp = .ok (true, tp') → P d (.node term [])) →
        (∀ d tp tp' (p : Prim) (c : Tree) (cs : List Tree), condition mode ps mn h d tp = .ok (false, tp') →
          (∀ x ∈ c :: cs, P (d + 1) x) → P d (.node p (c :: cs))) →
        ∃ t, flatten t = o.1 ∧ wt ps.sub τ t = true ∧ P 0 t)
      (generate mode ps mn mx τ tp) := by
  unfold generate
  split
  · exact .raised fun hH => by omega
  cases tp with
  | nil => exact .fault fun _ => Or.inl ⟨rfl, rfl⟩
  | cons d tp' =>
    cases d with
    | randint a b x =>
      simp only
      split
      · have run := fun P hleaf hnode =>
          genLoop_run (mode := mode) (ps := ps) (mn := mn) (h := x.toNat) P hleaf hnode (Rq := Rq) (A := A) (tp'.length + 1) [(0, τ)] tp'
        refine .step (Nat.le_refl _) ⟨fun hH => ?_, fun o ho ok => ⟨x.toNat, by omega, by omega, fun P hleaf hnode => ?_⟩⟩
        · have hb := (run (fun _ _ => True) (fun _ _ _ _ _ => trivial) (fun _ _ _ _ _ _ _ _ => trivial)).1
            ⟨hH.1, by omega, by intro e he; simp at he; subst he; exact ⟨by simp, hH.2.2⟩⟩
          have hle : nodes A x.toNat ≤ nodes A mx := nodes_mono A (by omega)
          simp only [cost, Nat.sub_zero, Nat.add_zero] at hb
          exact hb.mono (by omega)
        · obtain ⟨ts, hf, hok⟩ := (run P hleaf hnode).2 _ ho ok
          match ts, hok with
          | [t], hok => exact ⟨t, by simpa [flattenF] using hf, hok.1, hok.2.1⟩
      · exact .fault fun _ => Or.inr rfl
    | _ => exact .fault fun _ => Or.inr rfl

/-- what `generate` returns, whatever the primitive set can or cannot supply (`generate_run` with nothing asked of it) -/
theorem generate_ok {mode : GenMode} {ps : Pset} (ok : PsetOK ps) {mn mx τ : Nat} {tp tp' : Tape} {out : List Prim}
    (hg : generate mode ps mn mx τ tp = .ok (out, tp')) :
    ∃ h, mn ≤ h ∧ h ≤ mx ∧ ∀ P : Nat → Tree → Prop,
      (∀ d tp tp' (term : Prim), condition mode ps mn h d tp = .ok (true, tp') → P d (.node term [])) →
      (∀ d tp tp' (p : Prim) (c : Tree) (cs : List Tree), condition mode ps mn h d tp = .ok (false, tp') →
        (∀ x ∈ c :: cs, P (d + 1) x) → P d (.node p (c :: cs))) →
      ∃ t, flatten t = out ∧ wt ps.sub τ t = true ∧ P 0 t :=
  (generate_run tp (Rq := fun _ => True) (A := 0)).2 _ hg ok

theorem generate_typed {mode : GenMode} {ps : Pset} (ok : PsetOK ps) {mn mx τ : Nat} {tp tp' : Tape} {out : List Prim}
    (hg : generate mode ps mn mx τ tp = .ok (out, tp')) : typed ps.sub [τ] out = true := by
  obtain ⟨_, _, _, H⟩ := generate_ok ok hg
  obtain ⟨t, hf, hw, _⟩ := H (fun _ _ => True) (fun _ _ _ _ _ => trivial) (fun _ _ _ _ _ _ _ _ => trivial)
  exact typed_iff_tree.2 ⟨t, hw, hf⟩

theorem runGen_typed {m : Option GenMode} {ps : Pset} (ok : PsetOK ps) {mn mx τ : Nat} {tp tp' : Tape} {out : List Prim}
    (hg : runGen m ps mn mx τ tp = .ok (out, tp')) : typed ps.sub [τ] out = true := by
  unfold runGen at hg
  split at hg
  · exact generate_typed ok hg
  · exact generate_typed ok hg
  · unfold genHalfAndHalf at hg
    split at hg
    · cases hg
    · exact generate_typed ok hg

end GpTree
