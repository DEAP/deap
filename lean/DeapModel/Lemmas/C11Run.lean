/-
Helper lemmas for C11: each slice-assigning operator as a whole, one walk through it giving both halves of what the property says of it —
it never raises (under the hypotheses on the primitive set that half needs), and what it returns is typed like its argument.
-/
import DeapModel.Lemmas.C11Ops

namespace GpTree

section
variable {sub : Nat → Nat → Bool}
  (refl : ∀ a, sub a a = true) (trans : ∀ a b c, sub a b = true → sub b c = true → sub a c = true)
include refl trans

theorem cxOnePoint_run {r1 r2 : Nat} {ind1 ind2 : List Prim} (tp : Tape)
    (h1 : typed sub [r1] ind1 = true) (h2 : typed sub [r2] ind2 = true) :
    Ran True 3 tp (CxOK sub r1 r2 ind1 ind2) (cxOnePoint ind1 ind2 tp) := by
  unfold cxOnePoint
  split
  · exact .ok ⟨h1, h2, rfl⟩
  · simp only
    split
    · rename_i hpos
      refine .seq (popPick_draws _ tp) (fun _ => List.ne_nil_of_length_pos hpos) fun τ tp1 hp hτ => ?_
      simp only [hp]
      have hne := cands_ne_nil hτ
      simp only [Bool.true_and] at hne
      exact (swapAt_run trans refl tp1 h1 h2 (idxFrom1_ret τ (by simp)) (idxFrom1_ret τ (by simp))).imp fun _ => hne
    · exact .ok ⟨h1, h2, rfl⟩

theorem cxOnePointLeafBiased_run {r1 r2 : Nat} {ind1 ind2 : List Prim} (termpb : Float) (tp : Tape)
    (h1 : typed sub [r1] ind1 = true) (h2 : typed sub [r2] ind2 = true) :
    Ran True 5 tp (CxOK sub r1 r2 ind1 ind2) (cxOnePointLeafBiased ind1 ind2 termpb tp) := by
  unfold cxOnePointLeafBiased
  split
  · exact .ok ⟨h1, h2, rfl⟩
  · refine .seq (popRnd_draws tp) id fun x1 tp1 hr1 _ => ?_
    simp only [hr1]
    refine .seq (popRnd_draws tp1) id fun x2 tp2 hr2 _ => ?_
    simp only [hr2]
    split
    · rename_i hpos
      refine .seq (popPick_draws _ tp2) (fun _ => List.ne_nil_of_length_pos hpos) fun τ tp3 hp hτ => ?_
      simp only [hp]
      have hne := cands_ne_nil hτ
      exact (swapAt_run trans refl tp3 h1 h2 (idxFrom1_ret τ (by simp)) (idxFrom1_ret τ (by simp))).imp fun _ => hne
    · exact .ok ⟨h1, h2, rfl⟩

theorem mutUniform_run {r B : Nat} {ind : List Prim} (tp : Tape) {expr : Nat → Tape → R (List Prim × Tape)}
    (hexpr : ∀ τ tp o tp', expr τ tp = .ok (o, tp') → typed sub [τ] o = true) (h1 : typed sub [r] ind = true) :
    Ran (∀ p ∈ ind, ∀ tp, Benign B tp (expr p.ret tp)) (B + 1) tp (fun o => typed sub [r] o.1 = true)
      (mutUniform ind expr tp) := by
  unfold mutUniform
  refine .seq (popRange_draws 0 ind.length tp) (fun _ => typed_length_pos h1) fun index tp1 hrg ⟨_, hlt⟩ => ?_
  have hn : ind[index]? = some ind[index] := List.getElem?_eq_getElem hlt
  obtain ⟨e', hs', _, _, _, _, hset⟩ := splice trans refl h1 hn
  simp only [hrg, hs', hn]
  refine .last (x := expr ind[index].ret tp1) ⟨id, fun o h => hexpr _ _ o.1 o.2 h⟩
    (fun htot => htot _ (List.getElem_mem hlt) tp1) fun new tp2 hex hnew => ?_
  obtain ⟨hr, hty⟩ := hset new hnew
  simp only [hex, hr]
  exact .ok hty

omit refl in
theorem mutShrink_run {r : Nat} {ind : List Prim} (tp : Tape) (h1 : typed sub [r] ind = true) :
    Ran True 2 tp (fun o => typed sub [r] o.1 = true ∧ o.1.length ≤ ind.length) (mutShrink ind tp) := by
  obtain ⟨t, hw, rfl⟩ := typed_iff_tree.1 h1
  unfold mutShrink
  split
  · exact .ok ⟨h1, Nat.le_refl _⟩
  · rw [heightL_flatten (wf_of_wt hw)]
    simp only
    split
    · exact .ok ⟨h1, Nat.le_refl _⟩
    · split
      · rename_i hne
        refine .seq (popChoice_draws _ tp) (fun _ => List.ne_nil_of_length_pos (Nat.pos_of_ne_zero hne))
          fun index tp1 hch hmem => ?_
        obtain ⟨_, prim, hp, hf⟩ := mem_idxFrom1 hmem
        simp only [Bool.and_eq_true, decide_eq_true_eq, List.contains_iff_mem] at hf
        simp only [hch, hp]
        refine .seq (popChoice_draws (idxGo (fun a => a == prim.ret) prim.args 0) tp1)
          (fun _ => idxGo_ne_nil ⟨prim.ret, hf.2, by simp⟩) fun argIdx tp2 hc2 hpos => ?_
        obtain ⟨rb, re, b, e, out', hn, hs, hset, hty, hlen⟩ := shrink_step trans h1 hp hpos
        simp only [hc2, hn, hs, hset]
        exact .ok ⟨hty, hlen⟩
      · exact .ok ⟨h1, Nat.le_refl _⟩

end

theorem mutNodeReplacement_run {ps : Pset} (ok : PsetOK ps) (ind : List Prim) (tp : Tape) :
    Ran (∀ p ∈ ind, (p.arity = 0 → ps.terms p.ret ≠ []) ∧ (p.arity ≠ 0 → ∃ q ∈ ps.prims p.ret, q.args = p.args)) 3 tp
      (fun o => (∀ r, typed ps.sub [r] ind = true → typed ps.sub [r] o.1 = true) ∧ o.1.length = ind.length)
      (mutNodeReplacement ind ps tp) := by
  unfold mutNodeReplacement
  split
  · exact .ok ⟨fun _ h1 => h1, rfl⟩
  · refine .seq (popRange_draws 1 ind.length tp) (fun _ => by omega) fun index tp1 hrg ⟨_, hlt⟩ => ?_
    have hn : ind[index]? = some ind[index] := List.getElem?_eq_getElem hlt
    simp only [hrg, hn]
    split
    · rename_i har
      refine .seq (popChoice_draws (ps.terms ind[index].ret) tp1) (fun hfrom => (hfrom _ (List.getElem_mem hlt)).1 har)
        fun term tp2 hch hmem => ?_
      obtain ⟨hs, hargs⟩ := ok.terms_ok _ term hmem
      simp only [hch]
      refine .seq (instantiate_draws term tp2) (fun _ => trivial) fun term' tp3 hin ⟨e1, e2, _, _⟩ => ?_
      have ha : term'.args = ind[index].args := by rw [e2, hargs, List.eq_nil_of_length_eq_zero har]
      simp only [hin, setItem_ok hn ha]
      exact .ok ⟨fun _ h1 => typed_set ind _ index _ term' h1 hn ha (fun σ hσ => e1 ▸ ok.trans _ _ _ hs hσ),
        List.length_set⟩
    · rename_i har
      refine .seq (popChoice_draws ((ps.prims ind[index].ret).filter (fun p => p.args == ind[index].args)) tp1)
        (fun hfrom => ?_) fun p tp2 hch hmem => ?_
      · obtain ⟨q, hq, hqa⟩ := (hfrom _ (List.getElem_mem hlt)).2 har
        exact List.ne_nil_of_mem (List.mem_filter.2 ⟨hq, by simp [hqa]⟩)
      · have hm := List.mem_filter.1 hmem
        have ha : p.args = ind[index].args := by simpa using hm.2
        simp only [hch, setItem_ok hn ha]
        exact .ok ⟨fun _ h1 => typed_set ind _ index _ p h1 hn ha (fun σ hσ => ok.trans _ _ _ (ok.prims_ok _ p hm.1).1 hσ),
          List.length_set⟩

theorem mutEphemeral_run {sub : Nat → Nat → Bool} {ss : List Nat} (ind : List Prim) (one : Bool) (tp : Tape) :
    Ran True (ind.length + 2) tp
      (fun o => (typed sub ss ind = true → typed sub ss o.1 = true) ∧ o.1.length = ind.length) (mutEphemeral ind one tp) := by
  have hidx : ∀ i ∈ idxGo (fun p : Prim => decide (p.kind = Kind.eph)) ind 0, i < ind.length := fun i hi => by
    have := idxGo_lt hi; omega
  have hcount := idxGo_length_le (fun p : Prim => decide (p.kind = Kind.eph)) ind 0
  unfold mutEphemeral
  simp only
  split
  · rename_i hpos
    split
    · refine .seq (popChoice_draws (idxGo (fun p => decide (p.kind = Kind.eph)) ind 0) tp)
        (fun _ => List.ne_nil_of_length_pos hpos) fun i tp1 hch hmem => ?_
      simp only [hch]
      exact ((reinstAll_run [i] ind tp1).imp fun _ j hj => by
        simp only [List.mem_singleton] at hj; exact hj ▸ hidx i hmem).mono (by simp only [List.length_singleton]; omega)
    · exact ((reinstAll_run _ ind tp).imp fun _ => hidx).mono (by omega)
  · exact .ok ⟨id, rfl⟩

theorem mutInsert_run {ps : Pset} (ok : PsetOK ps) {r A : Nat} {ind : List Prim} (tp : Tape)
    (h1 : typed ps.sub [r] ind = true) :
    Ran (∀ τ p, p ∈ ps.prims τ → p.args.length ≤ A ∧ ∀ a ∈ p.args, ps.terms a ≠ []) (2 * A + 4) tp
      (fun o => typed ps.sub [r] o.1 = true ∧ ind.length ≤ o.1.length) (mutInsert ind ps tp) := by
  unfold mutInsert
  refine .seq (popRange_draws 0 ind.length tp) (fun _ => typed_length_pos h1) fun index tp1 hrg ⟨_, hlt⟩ => ?_
  have hn : ind[index]? = some ind[index] := List.getElem?_eq_getElem hlt
  obtain ⟨e', hs', hlt', hle, hsl, hsll, hset⟩ := splice ok.trans ok.refl h1 hn
  simp only [hrg, hs', hn]
  split
  · exact .ok ⟨h1, Nat.le_refl _⟩
  · rename_i hne
    refine .seq (popChoice_draws ((ps.prims ind[index].ret).filter (fun p : Prim => p.args.contains ind[index].ret)) tp1)
      (fun _ => List.ne_nil_of_length_pos (Nat.pos_of_ne_zero hne)) fun newNode tp2 hch hm => ?_
    simp only [List.mem_filter, List.contains_iff_mem] at hm
    simp only [hch]
    refine .seq (popChoice_draws (idxGo (fun a => a == ind[index].ret) newNode.args 0) tp2)
      (fun _ => idxGo_ne_nil ⟨ind[index].ret, hm.2, by simp⟩) fun position tp3 hps hpm => ?_
    simp only [hps]
    have hi := insert_step ok hsl hm.1 hpm tp3
    refine .last hi (fun hterms => (hterms _ newNode hm.1).2) (fun newSub tp4 hins ⟨hv, hl⟩ => ?_)
      fun hterms => by have := (hterms _ newNode hm.1).1; omega
    dsimp only at hl
    obtain ⟨hr, hty⟩ := hset _ hv
    simp only [hins, hr]
    have := length_splice ind (newNode :: newSub) (Nat.le_of_lt hlt') hle
    rw [List.length_cons] at this
    refine .ok ⟨hty, ?_⟩
    dsimp only
    omega

end GpTree
