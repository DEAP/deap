/-
C07 — the quick-select of `selSPEA2` (`_randomizedSelect`, emo.py:827-862).

The Hoare partition of `a[begin..end]` answers on every pivot draw: a split point in `[begin, end)`,
a permutation that touches nothing outside `[begin, end]`, and `a'[begin..q] ≤ pivot ≤ a'[q+1..end]`
(`randomizedPartition_spec`).  Hence the selection answers on every tape that is long enough, and
whatever it answers is the order statistic: entry `⌊i⌋` of the sorted sub-array (sorting a
concatenation whose left part is below its right part is concatenating the sorted parts).
-/
import DeapModel.Core.Spea2
import Mathlib.Data.Nat.Cast.Order.Ring
import Mathlib.Data.List.Sort

set_option linter.unusedSectionVars false

namespace C07L
open Spea2

section Select
variable {α : Type} [LinearOrder α]

theorem swap_perm {a : List α} {i j : Nat} {vi vj : α} (hi : a[i]? = some vi)
    (hj : a[j]? = some vj) : ((a.set i vj).set j vi).Perm a := by
  obtain ⟨hi', rfl⟩ := List.getElem?_eq_some_iff.mp hi
  obtain ⟨hj', rfl⟩ := List.getElem?_eq_some_iff.mp hj
  exact List.set_set_perm hi' hj'

theorem getElem?_swap (a : List α) (i j p : Nat) (vi vj : α) (hi : i < a.length) (hj : j < a.length) :
    ((a.set i vj).set j vi)[p]? = if p = j then some vi else if p = i then some vj else a[p]? := by
  rw [List.getElem?_set]
  by_cases hpj : p = j
  · subst hpj; simp [hj]
  · rw [if_neg (fun h => hpj h.symm), if_neg hpj, List.getElem?_set]
    by_cases hpi : p = i
    · subst hpi; simp [hi]
    · rw [if_neg (fun h => hpi h.symm), if_neg hpi]

/-- `scanDown` stops at or above any index `s < j` whose entry is not above the pivot -/
theorem scanDown_spec (a : List α) (x : α) (s : Nat) (vs : α) (hs : a[s]? = some vs)
    (hvs : ¬ x < vs) :
    ∀ j, s < j → j ≤ a.length →
      ∃ j' v, scanDown a x j = some j' ∧ s ≤ j' ∧ j' < j ∧ a[j']? = some v ∧ ¬ x < v ∧
        ∀ p, j' < p → p < j → ∃ w, a[p]? = some w ∧ x < w := by
  intro j
  induction j with
  | zero => intro h; omega
  | succ j ih =>
    intro hsj hj
    obtain ⟨w, hget⟩ : ∃ w, a[j]? = some w := ⟨_, List.getElem?_eq_getElem (show j < a.length by omega)⟩
    rw [scanDown, hget]
    by_cases hlt : x < w
    · have hne : s ≠ j := by
        rintro rfl
        exact hvs (Option.some.inj (hget.symm.trans hs) ▸ hlt)
      obtain ⟨j', v, h1, h2, h3, h4, h5, h6⟩ := ih (by omega) (by omega)
      simp only [hlt, if_true]
      refine ⟨j', v, h1, h2, by omega, h4, h5, fun p hp1 hp2 => ?_⟩
      by_cases hpj : p = j
      · subst hpj; exact ⟨w, hget, hlt⟩
      · exact h6 p hp1 (by omega)
    · simp only [hlt, if_false]
      exact ⟨j, w, rfl, by omega, by omega, hget, hlt, fun p h1 h2 => by omega⟩

/-- `scanUp` stops at or below any index `s ≥ i` whose entry is not below the pivot -/
theorem scanUp_spec (a : List α) (x : α) (s : Nat) (vs : α) (hs : a[s]? = some vs)
    (hvs : ¬ vs < x) :
    ∀ fuel i, i ≤ s → s < i + fuel →
      ∃ i' v, scanUp a x fuel i = some i' ∧ i ≤ i' ∧ i' ≤ s ∧ a[i']? = some v ∧ ¬ v < x ∧
        ∀ p, i ≤ p → p < i' → ∃ w, a[p]? = some w ∧ w < x := by
  have hsl : s < a.length := (List.getElem?_eq_some_iff.mp hs).1
  intro fuel
  induction fuel with
  | zero => intro i _ h; omega
  | succ fuel ih =>
    intro i his hf
    obtain ⟨w, hget⟩ : ∃ w, a[i]? = some w := ⟨_, List.getElem?_eq_getElem (show i < a.length by omega)⟩
    rw [scanUp, hget]
    by_cases hlt : w < x
    · have hne : s ≠ i := by
        rintro rfl
        exact hvs (Option.some.inj (hget.symm.trans hs) ▸ hlt)
      obtain ⟨i', v, h1, h2, h3, h4, h5, h6⟩ := ih (i + 1) (by omega) (by omega)
      simp only [hlt, if_true]
      refine ⟨i', v, h1, by omega, h3, h4, h5, fun p hp1 hp2 => ?_⟩
      by_cases hpi : p = i
      · subst hpi; exact ⟨w, hget, hlt⟩
      · exact h6 p (by omega) hp2
    · simp only [hlt, if_false]
      exact ⟨i, w, rfl, by omega, his, hget, hlt, fun p h1 h2 => by omega⟩

example : Spea2.scanDown ([3, 5, 1, 4, 1, 3] : List Int) 3 5 = some 4 := by decide +kernel
example : Spea2.scanUp ([3, 5, 1, 4, 1, 3] : List Int) 3 7 2 = some 3 := by decide +kernel

theorem partitionLoop_perm (x : α) (fuel : Nat) (a : List α) (i1 j : Nat) (a' : List α) (q : Nat)
    (h : partitionLoop x fuel a i1 j = some (a', q)) : a'.Perm a := by
  fun_induction partitionLoop x fuel a i1 j with
  | case1 | case2 | case3 | case5 => cases h
  | case4 => rename_i hvj hvi ih; exact (ih h).trans (swap_perm hvi hvj)
  | case6 => cases h; exact List.Perm.refl _

/-- The loop on `a[b..e]` with pivot `x`.  Invariant: a lower sentinel (`a[sd] ≤ x`, `b ≤ sd < j`), an
upper sentinel (`a[su] ≥ x`, `i1 ≤ su`, and `su < e` or `j ≤ e`: this is what keeps the result below
`e`), everything in `[b, i1)` is `≤ x`, everything in `[j, e]` is `≥ x`.  Then the loop answers, the
split point is in `[b, e)`, nothing outside `[b, e]` is touched, and `a'[b..q] ≤ x ≤ a'[q+1..e]`. -/
theorem partitionLoop_spec (x : α) (b e : Nat) :
    ∀ (fuel : Nat) (a : List α) (i1 j sd su : Nat) (vd vu : α),
      j < fuel → j ≤ a.length → j ≤ e + 1 → sd < j → b ≤ sd → b ≤ i1 →
      a[sd]? = some vd → ¬ x < vd → i1 ≤ su → a[su]? = some vu → ¬ vu < x → (su < e ∨ j ≤ e) →
      (∀ p, b ≤ p → p < i1 → ∀ v, a[p]? = some v → ¬ x < v) →
      (∀ p, j ≤ p → p ≤ e → ∀ v, a[p]? = some v → ¬ v < x) →
      ∃ a' q, partitionLoop x fuel a i1 j = some (a', q) ∧ a'.length = a.length ∧ b ≤ q ∧ q < e ∧
        a'.take b = a.take b ∧ a'.drop (e + 1) = a.drop (e + 1) ∧
        (∀ p, b ≤ p → p ≤ q → ∀ v, a'[p]? = some v → ¬ x < v) ∧
        (∀ p, q < p → p ≤ e → ∀ v, a'[p]? = some v → ¬ v < x) := by
  intro fuel
  induction fuel with
  | zero => intro a i1 j sd su vd vu h; exact absurd h (Nat.not_lt_zero _)
  | succ fuel ih =>
    intro a i1 j sd su vd vu hf hja hje hsd hbsd hbi hd hvd hisu hu hvu hor hlo hhi
    have hsul : su < a.length := (List.getElem?_eq_some_iff.mp hu).1
    obtain ⟨j', vj, hD, hD1, hD2, hD3, hD4, skipD⟩ := scanDown_spec a x sd vd hd hvd j hsd hja
    obtain ⟨i', vi, hU, hU1, hU2, hU3, hU4, skipU⟩ :=
      scanUp_spec a x su vu hu hvu (a.length + 1) i1 hisu
        ((hsul.trans_le (Nat.le_succ _)).trans_le (Nat.le_add_left _ _))
    -- what the two scans leave behind, before any swap
    have lo' : ∀ p, b ≤ p → p < i' → ∀ v, a[p]? = some v → ¬ x < v := fun p hp1 hp2 v hv => by
      by_cases hp3 : p < i1
      · exact hlo p hp1 hp3 v hv
      · obtain ⟨w, hw, hlt⟩ := skipU p (Nat.le_of_not_lt hp3) hp2
        exact Option.some.inj (hv.symm.trans hw) ▸ lt_asymm hlt
    have hi' : ∀ p, j' < p → p ≤ e → ∀ v, a[p]? = some v → ¬ v < x := fun p hp1 hp2 v hv => by
      by_cases hp3 : p < j
      · obtain ⟨w, hw, hlt⟩ := skipD p hp1 hp3
        exact Option.some.inj (hv.symm.trans hw) ▸ lt_asymm hlt
      · exact hhi p (Nat.le_of_not_lt hp3) hp2 v hv
    rw [partitionLoop, hD, hU]
    by_cases hlt : i' < j'
    · simp only [hlt, if_true, hU3, hD3]
      have hbi' : b ≤ i' := hbi.trans hU1
      have hj'e : j' ≤ e := Nat.le_of_lt_succ (Nat.lt_of_lt_of_le hD2 hje)
      have hj'l : j' < a.length := Nat.lt_of_lt_of_le hD2 hja
      have hi'l : i' < a.length := hlt.trans hj'l
      have rd := fun p => getElem?_swap a i' j' p vi vj hi'l hj'l
      obtain ⟨a', q, h1, h2, h3, h4, h5, h6, h7⟩ :=
        ih ((a.set i' vj).set j' vi) (i' + 1) j' i' j' vj vi
          (Nat.lt_of_lt_of_le hD2 (Nat.le_of_lt_succ hf))
          (by simp only [List.length_set]; exact hj'l.le) (hD2.le.trans hje) hlt hbi'
          (Nat.le_succ_of_le hbi')
          (by rw [rd, if_neg (Nat.ne_of_lt hlt), if_pos rfl]) hD4 hlt (by rw [rd, if_pos rfl]) hU4
          (Or.inr hj'e)
          (fun p hp1 hp2 v hv => by
            rw [rd, if_neg (Nat.ne_of_lt (Nat.lt_of_lt_of_le hp2 hlt))] at hv
            by_cases hpi : p = i'
            · rw [if_pos hpi] at hv; exact Option.some.inj hv ▸ hD4
            · rw [if_neg hpi] at hv; exact lo' p hp1 (Nat.lt_of_le_of_ne (Nat.le_of_lt_succ hp2) hpi) v hv)
          (fun p hp1 hp2 v hv => by
            rw [rd] at hv
            by_cases hpj : p = j'
            · rw [if_pos hpj] at hv; exact Option.some.inj hv ▸ hU4
            · rw [if_neg hpj, if_neg (Nat.ne_of_gt (Nat.lt_of_lt_of_le hlt hp1))] at hv
              exact hi' p (Nat.lt_of_le_of_ne hp1 (Ne.symm hpj)) hp2 v hv)
      refine ⟨a', q, h1, by rw [h2]; simp only [List.length_set], h3, h4, ?_, ?_, h7⟩
      · rw [h5, List.take_set_of_le (hbi'.trans hlt.le), List.take_set_of_le hbi']
      · rw [h6, List.drop_set_of_lt (Nat.lt_succ_of_le hj'e),
          List.drop_set_of_lt (hlt.trans (Nat.lt_succ_of_le hj'e))]
    · simp only [hlt, if_false]
      refine ⟨a, j', rfl, rfl, hbsd.trans hD1,
        hor.elim (lt_of_le_of_lt ((not_lt.1 hlt).trans hU2)) (lt_of_lt_of_le hD2), rfl, rfl, ?_, hi'⟩
      intro p hp1 hp2 v hv
      by_cases hp3 : p < i'
      · exact lo' p hp1 hp3 v hv
      · rw [Nat.le_antisymm hp2 ((Nat.le_of_not_lt hlt).trans (Nat.le_of_not_lt hp3)), hD3] at hv
        exact Option.some.inj hv ▸ hD4

example : Spea2.partition ([3, 5, 1, 4, 1, 3] : List Int) 0 5 = some ([3, 1, 1, 4, 5, 3], 2) := by
  decide +kernel

theorem randomizedPartition_perm {a : List α} {b e d : Nat} {a' : List α} {q : Nat}
    (h : randomizedPartition a b e d = some (a', q)) : a'.Perm a := by
  rw [randomizedPartition] at h
  split at h
  · rename_i vb vr hvb hvr
    rw [partition] at h
    split at h
    · exact absurd h (by simp)
    · exact (partitionLoop_perm _ _ _ _ _ _ _ h).trans (swap_perm hvb hvr)
  · exact absurd h (by simp)

/-- the draw `random.randint(begin, end)`, read from a tape entry `d`, lies in `[begin, end]` -/
theorem draw_le (b e d : Nat) (hbe : b ≤ e) : b + d % (e - b + 1) ≤ e :=
  calc b + d % (e - b + 1) ≤ b + (e - b) :=
        Nat.add_le_add_left (Nat.le_of_lt_succ (Nat.mod_lt d (Nat.succ_pos _))) b
    _ = e := Nat.add_sub_cancel' hbe

theorem randomizedPartition_spec (a : List α) (b e d : Nat) (hbe : b < e) (he : e < a.length) :
    ∃ a' q, randomizedPartition a b e d = some (a', q) ∧ a'.length = a.length ∧ b ≤ q ∧ q < e ∧
      a'.Perm a ∧ a'.take b = a.take b ∧ a'.drop (e + 1) = a.drop (e + 1) ∧
      ∃ x, (∀ p, b ≤ p → p ≤ q → ∀ v, a'[p]? = some v → v ≤ x) ∧
           (∀ p, q < p → p ≤ e → ∀ v, a'[p]? = some v → x ≤ v) := by
  have hbr : b ≤ b + d % (e - b + 1) := Nat.le_add_right _ _
  have hre := draw_le b e d hbe.le
  generalize hr : b + d % (e - b + 1) = r at hbr hre
  have hb : b < a.length := hbe.trans he
  obtain ⟨vb, hgb⟩ : ∃ v, a[b]? = some v := ⟨_, List.getElem?_eq_getElem hb⟩
  obtain ⟨vr, hgr⟩ : ∃ v, a[r]? = some v := ⟨_, List.getElem?_eq_getElem (Nat.lt_of_le_of_lt hre he)⟩
  -- the array after the pivot has been swapped to the front
  generalize hsw : (a.set b vr).set r vb = a1
  have hl1 : a1.length = a.length := by rw [← hsw]; simp only [List.length_set]
  obtain ⟨x, hx⟩ : ∃ x, a1[b]? = some x := ⟨_, List.getElem?_eq_getElem (hl1 ▸ hb)⟩
  have he1 : e < a1.length := hl1 ▸ he
  obtain ⟨a', q, h1, h2, h3, h4, h5, h6, h7, h8⟩ :=
    partitionLoop_spec x b e (a1.length + 1) a1 b (e + 1) b b x x (Nat.succ_lt_succ he1) he1
      (Nat.le_refl _) (Nat.lt_succ_of_lt hbe) (Nat.le_refl _) (Nat.le_refl _) hx (lt_irrefl _)
      (Nat.le_refl _) hx (lt_irrefl _) (Or.inl hbe) (fun p h1 h2 => absurd h2 (Nat.not_lt.2 h1))
      (fun p h1 h2 => absurd (Nat.le_trans h1 h2) (Nat.not_succ_le_self e))
  have hrp : randomizedPartition a b e d = some (a', q) := by
    rw [randomizedPartition]
    simp only [hr, hgb, hgr, hsw, partition, hx]
    exact h1
  refine ⟨a', q, hrp, h2.trans hl1, h3, h4, randomizedPartition_perm hrp, ?_, ?_,
    x, fun p hp1 hp2 v hv => not_lt.1 (h7 p hp1 hp2 v hv),
    fun p hp1 hp2 v hv => not_lt.1 (h8 p hp1 hp2 v hv)⟩
  · rw [h5, ← hsw, List.take_set_of_le hbr, List.take_set_of_le (Nat.le_refl _)]
  · rw [h6, ← hsw, List.drop_set_of_lt (Nat.lt_succ_of_le hre), List.drop_set_of_lt (Nat.lt_succ_of_lt hbe)]

theorem randomizedPartition_ord (a : List α) (b e d : Nat) (a' : List α) (q : Nat)
    (h : randomizedPartition a b e d = some (a', q)) (hbe : b < e) (he : e < a.length) :
    a'.length = a.length ∧ b ≤ q ∧ q < e ∧ a'.Perm a ∧
    a'.take b = a.take b ∧ a'.drop (e + 1) = a.drop (e + 1) ∧
    ∃ x, (∀ p, b ≤ p → p ≤ q → ∀ v, a'[p]? = some v → v ≤ x) ∧
         (∀ p, q < p → p ≤ e → ∀ v, a'[p]? = some v → x ≤ v) := by
  obtain ⟨a2, q2, h2, rest⟩ := randomizedPartition_spec a b e d hbe he
  rw [h] at h2
  cases h2
  exact rest

example : Spea2.randomizedPartition ([3, 5, 1, 4, 1, 3] : List Int) 0 5 3 =
    some ([3, 1, 1, 3, 5, 4], 3) := by
  decide +kernel

section Sel
variable [Sub α]

/-- the budgets of the selection on `[b, e]` — fuel `f + 1`, `t + 1` tape entries — cover the recursive
call on the left part `[b, q]` with one unit less, and what that call leaves of the tape is enough -/
theorem budget_left {b q e f t : Nat} (hq : q < e) (hf : e < b + (f + 1)) (ht : e ≤ b + (t + 1)) :
    q < b + f ∧ q ≤ b + t ∧ ∀ r, t + b ≤ r + q → t + 1 + b ≤ r + e :=
  ⟨Nat.lt_of_lt_of_le hq (Nat.le_of_lt_succ hf), Nat.le_of_lt_succ (Nat.lt_of_lt_of_le hq ht),
    fun r h => by
      rw [Nat.add_right_comm]
      exact Nat.le_trans (Nat.succ_le_succ h) (Nat.add_le_add_left hq r)⟩

/-- likewise for the right part `[q + 1, e]` -/
theorem budget_right {b q e f t : Nat} (hb : b ≤ q) (hf : e < b + (f + 1)) (ht : e ≤ b + (t + 1)) :
    e < q + 1 + f ∧ e ≤ q + 1 + t ∧ ∀ r, t + (q + 1) ≤ r + e → t + 1 + b ≤ r + e := by
  have hbq : ∀ n, b + (n + 1) ≤ q + 1 + n := fun n => by
    rw [Nat.add_right_comm q 1 n]; exact Nat.succ_le_succ (Nat.add_le_add_right hb n)
  refine ⟨Nat.lt_of_lt_of_le hf (hbq f), Nat.le_trans ht (hbq t), fun r h => ?_⟩
  rw [Nat.add_assoc, Nat.add_comm 1 b]
  exact Nat.le_trans (Nat.add_le_add_left (Nat.succ_le_succ hb) t) h

theorem randomizedSelectT_total (ofNat : Nat → α) (fuel : Nat) (a : List α) (b e : Nat) (i : α)
    (tape : List Nat) (hbe : b ≤ e) (he : e < a.length) (hf : e < b + fuel) (ht : e ≤ b + tape.length) :
    ∃ v rest, randomizedSelectT ofNat fuel a b e i tape = some (v, rest) ∧
      tape.length + b ≤ rest.length + e := by
  fun_induction randomizedSelectT ofNat fuel a b e i tape with
  | case1 => exact absurd hf (Nat.not_lt.2 hbe)
  | case2 => rw [List.getElem?_eq_getElem he]; exact ⟨_, _, rfl, Nat.le_refl _⟩
  | case3 _ _ _ _ _ hne => exact absurd (Nat.le_antisymm hbe ht) hne
  | case4 _ a b e _ hne r _ hrp =>
    obtain ⟨a', q, h1, -⟩ := randomizedPartition_spec a b e r (Nat.lt_of_le_of_ne hbe hne) he
    rw [h1] at hrp; cases hrp
  | case5 _ a b e _ hne r _ a' q hrp _ _ ih =>
    obtain ⟨h2, h3, h4, -⟩ := randomizedPartition_ord a b e r a' q hrp (Nat.lt_of_le_of_ne hbe hne) he
    obtain ⟨b1, b2, b3⟩ := budget_left h4 hf ht
    obtain ⟨v, rest, hv, hl⟩ := ih h3 (h4.trans (h2 ▸ he)) b1 b2
    exact ⟨v, rest, hv, b3 _ hl⟩
  | case6 _ a b e _ hne r _ a' q hrp _ _ ih =>
    obtain ⟨h2, h3, h4, -⟩ := randomizedPartition_ord a b e r a' q hrp (Nat.lt_of_le_of_ne hbe hne) he
    obtain ⟨b1, b2, b3⟩ := budget_right h3 hf ht
    obtain ⟨v, rest, hv, hl⟩ := ih h4 (h2 ▸ he) b1 b2
    exact ⟨v, rest, hv, b3 _ hl⟩

end Sel

example : Spea2.randomizedSelect (fun n => (n : Int)) 6 [5, 1, 4, 1] 0 3 2 [0, 1, 0] = some 4 := by
  decide +kernel

example : Spea2.randomizedSelect (fun n => (n : Int)) 8 [7, 2, 9, 2, 5, 1] 0 5 3 [4, 2, 1, 0, 3] =
    some 5 := by
  decide +kernel

/-- the entries `a[b..e]` (both ends included) -/
def seg (a : List α) (b e : Nat) : List α := (a.drop b).take (e + 1 - b)

/-- `sorted(l)` -/
def sortL (l : List α) : List α := l.mergeSort (fun x y => decide (x ≤ y))

theorem sortL_perm (l : List α) : (sortL l).Perm l := List.mergeSort_perm _ _

theorem sortL_pairwise (l : List α) : (sortL l).Pairwise (· ≤ ·) := List.pairwise_mergeSort' (· ≤ ·) l

theorem eq_of_perm_sorted {l₁ l₂ : List α} (hp : l₁.Perm l₂) (h1 : l₁.Pairwise (· ≤ ·))
    (h2 : l₂.Pairwise (· ≤ ·)) : l₁ = l₂ :=
  List.Perm.eq_of_pairwise (fun _ _ _ _ hab hba => le_antisymm hab hba) h1 h2 hp

theorem sortL_eq_of_perm {l l' : List α} (h : l.Perm l') : sortL l = sortL l' :=
  eq_of_perm_sorted (((sortL_perm l).trans h).trans (sortL_perm l').symm) (sortL_pairwise l)
    (sortL_pairwise l')

theorem sortL_append (l₁ l₂ : List α) (h : ∀ u ∈ l₁, ∀ v ∈ l₂, u ≤ v) :
    sortL (l₁ ++ l₂) = sortL l₁ ++ sortL l₂ := by
  apply eq_of_perm_sorted
  · exact (sortL_perm _).trans ((sortL_perm l₁).symm.append (sortL_perm l₂).symm)
  · exact sortL_pairwise _
  · rw [List.pairwise_append]
    exact ⟨sortL_pairwise _, sortL_pairwise _, fun u hu v hv =>
      h u ((sortL_perm l₁).subset hu) v ((sortL_perm l₂).subset hv)⟩

theorem length_seg (a : List α) (b e : Nat) (he : e < a.length) : (seg a b e).length = e + 1 - b := by
  simp only [seg, List.length_take, List.length_drop]; omega

theorem seg_all (a : List α) (e : Nat) (he : e + 1 = a.length) : seg a 0 e = a := by
  rw [seg, List.drop_zero, Nat.sub_zero, he, List.take_length]

theorem seg_split (a : List α) (b q e : Nat) (hbq : b ≤ q) (hqe : q ≤ e) :
    seg a b e = seg a b q ++ seg a (q + 1) e := by
  unfold seg
  rw [show e + 1 - b = (q + 1 - b) + (e + 1 - (q + 1)) by omega, List.take_add, List.drop_drop,
    show b + (q + 1 - b) = q + 1 by omega]

theorem mem_seg {a : List α} {b e : Nat} {v : α} (h : v ∈ seg a b e) :
    ∃ p, b ≤ p ∧ p ≤ e ∧ a[p]? = some v := by
  obtain ⟨t, ht⟩ := List.mem_iff_getElem?.1 h
  unfold seg at ht
  rw [List.getElem?_take] at ht
  split at ht
  · rw [List.getElem?_drop] at ht
    exact ⟨b + t, by omega, by omega, ht⟩
  · exact absurd ht (by simp)

theorem split3 (a : List α) (b e : Nat) (hbe : b ≤ e + 1) :
    a = a.take b ++ (seg a b e ++ a.drop (e + 1)) := by
  have h1 : seg a b e ++ a.drop (e + 1) = a.drop b := by
    unfold seg
    rw [show a.drop (e + 1) = (a.drop b).drop (e + 1 - b) by rw [List.drop_drop]; congr 1; omega,
      List.take_append_drop]
  rw [h1, List.take_append_drop]

theorem seg_perm_of_frame {a a' : List α} {b e : Nat} (hbe : b ≤ e + 1) (hp : a'.Perm a)
    (h1 : a'.take b = a.take b) (h2 : a'.drop (e + 1) = a.drop (e + 1)) :
    (seg a' b e).Perm (seg a b e) := by
  rw [split3 a b e hbe, split3 a' b e hbe, h1, h2] at hp
  exact (List.perm_append_right_iff _).1 ((List.perm_append_left_iff _).1 hp)

theorem seg_single {a : List α} {b : Nat} {v : α} (h : a[b]? = some v) : seg a b b = [v] := by
  obtain ⟨hb, rfl⟩ := List.getElem?_eq_some_iff.mp h
  rw [seg, show b + 1 - b = 1 by omega, List.take_one, List.head?_drop, List.getElem?_eq_getElem hb]
  rfl

/-- the idea of the quick-select: after a partition of `a[b..e]` at `q`, sorting `a[b..e]` is sorting
`a'[b..q]` and `a'[q+1..e]` separately, because the left part is below the pivot and the right part
above it. -/
theorem sortL_partition {a a' : List α} {b e d q : Nat}
    (hrp : randomizedPartition a b e d = some (a', q)) (hbe : b < e) (he : e < a.length) :
    a'.length = a.length ∧ b ≤ q ∧ q < e ∧
    sortL (seg a b e) = sortL (seg a' b q) ++ sortL (seg a' (q + 1) e) ∧
    (sortL (seg a' b q)).length = q - b + 1 := by
  obtain ⟨hlen, hbq, hqe, hperm, hf1, hf2, x, hlo, hhi⟩ := randomizedPartition_ord a b e d a' q hrp hbe he
  refine ⟨hlen, hbq, hqe, ?_, ?_⟩
  · rw [← sortL_eq_of_perm (seg_perm_of_frame (Nat.le_succ_of_le hbe.le) hperm hf1 hf2),
      seg_split a' b q e hbq hqe.le]
    apply sortL_append
    intro u hu w hw
    obtain ⟨p, hp1, hp2, hpu⟩ := mem_seg hu
    obtain ⟨p', hp1', hp2', hpw⟩ := mem_seg hw
    exact le_trans (hlo p hp1 hp2 u hpu) (hhi p' hp1' hp2' w hpw)
  · rw [(sortL_perm _).length_eq, length_seg a' b q (hqe.trans (hlen ▸ he)), Nat.succ_sub hbq]

end Select

section Correct
variable {β : Type} [Ring β] [LinearOrder β] [IsStrictOrderedRing β]

theorem randomizedSelect_floor :
    ∀ (fuel : Nat) (a : List β) (b e : Nat) (i : β) (r : Nat) (tape : List Nat),
      (r : β) ≤ i → i < (r : β) + 1 →
      randomizedSelect (fun n => (n : β)) fuel a b e i tape =
        randomizedSelect (fun n => (n : β)) fuel a b e (r : β) tape := by
  intro fuel
  induction fuel with
  | zero => intro a b e i r tape _ _; rfl
  | succ fuel ih =>
    intro a b e i r tape hi1 hi2
    unfold randomizedSelect
    split
    · rfl
    · cases tape with
      | nil => rfl
      | cons d tape' =>
        simp only
        cases randomizedPartition a b e d with
        | none => rfl
        | some p =>
          obtain ⟨a', q⟩ := p
          simp only
          generalize q - b + 1 = k
          by_cases hik : i < (k : β)
          · rw [if_pos hik, if_pos (lt_of_le_of_lt hi1 hik)]
            exact ih a' b q i r tape' hi1 hi2
          · -- `k ≤ i < r + 1`, hence `k ≤ r`; both indices drop by `k`
            have hkr : k ≤ r := by
              have h2 : (k : β) < ((r + 1 : Nat) : β) := by
                rw [Nat.cast_add r 1, Nat.cast_one]; exact lt_of_le_of_lt (not_lt.1 hik) hi2
              have := Nat.cast_lt.1 h2
              omega
            rw [if_neg hik, if_neg (by rw [Nat.cast_lt]; omega), ← Nat.cast_sub hkr]
            refine ih a' (q + 1) e _ (r - k) tape' ?_ ?_ <;> rw [Nat.cast_sub hkr]
            · exact sub_le_sub_right hi1 _
            · have := sub_lt_sub_right hi2 (k : β)
              rwa [add_sub_right_comm] at this

/-- at an integer index `i = r ≤ end - begin`: whenever the selection answers — on any pivot tape —
the answer is entry `r` of the sorted sub-array. -/
theorem randomizedSelect_nat_sorted (fuel : Nat) (a : List β) (b e : Nat) (i : β) (r : Nat)
    (tape : List Nat) (v : β) (hi : i = (r : β)) (hbe : b ≤ e) (he : e < a.length) (hr : b + r ≤ e)
    (h : randomizedSelect (fun n => (n : β)) fuel a b e i tape = some v) :
    (sortL (seg a b e))[r]? = some v := by
  fun_induction randomizedSelect (fun n => (n : β)) fuel a b e i tape generalizing r with
  | case1 | case3 | case4 => cases h
  | case2 =>
    rw [seg_single h, show r = 0 by omega]
    simp [sortL]
  | case5 _ a b e i hne d tape' a' q hrp k hik ih =>
    subst hi
    obtain ⟨hlen, hbq, hqe, hsplit, hl1⟩ := sortL_partition hrp (Nat.lt_of_le_of_ne hbe hne) he
    have hrk : r < q - b + 1 := Nat.cast_lt.1 hik
    rw [hsplit, List.getElem?_append_left (hl1 ▸ hrk)]
    exact ih r rfl hbq (hqe.trans (hlen ▸ he)) (by omega) h
  | case6 _ a b e i hne d tape' a' q hrp k hik ih =>
    subst hi
    obtain ⟨hlen, hbq, hqe, hsplit, hl1⟩ := sortL_partition hrp (Nat.lt_of_le_of_ne hbe hne) he
    have hrk : q - b + 1 ≤ r := Nat.le_of_not_lt fun hc => hik (Nat.cast_lt.2 hc)
    rw [hsplit, List.getElem?_append_right (hl1 ▸ hrk), hl1]
    exact ih _ (Nat.cast_sub hrk).symm hqe (hlen ▸ he) (by omega) h

theorem randomizedSelect_sorted (fuel : Nat) (a : List β) (b e : Nat) (i : β) (r : Nat)
    (tape : List Nat) (v : β) (hbe : b ≤ e) (he : e < a.length) (hr : r ≤ e - b)
    (hi1 : (r : β) ≤ i) (hi2 : i < (r : β) + 1)
    (h : randomizedSelect (fun n => (n : β)) fuel a b e i tape = some v) :
    (sortL (seg a b e))[r]? = some v :=
  randomizedSelect_nat_sorted fuel a b e r r tape v rfl hbe he (by omega)
    (randomizedSelect_floor fuel a b e i r tape hi1 hi2 ▸ h)

end Correct

section Threaded
variable {α : Type} [LT α] [DecidableLT α] [Sub α]

theorem randomizedSelectT_fst (ofNat : Nat → α) :
    ∀ (fuel : Nat) (a : List α) (b e : Nat) (i : α) (tape : List Nat),
      (randomizedSelectT ofNat fuel a b e i tape).map Prod.fst = randomizedSelect ofNat fuel a b e i tape := by
  intro fuel
  induction fuel with
  | zero => intro a b e i tape; rfl
  | succ fuel ih =>
    intro a b e i tape
    unfold randomizedSelectT randomizedSelect
    split
    · cases a[b]? <;> rfl
    · cases tape with
      | nil => rfl
      | cons r tape' =>
        simp only
        cases randomizedPartition a b e r with
        | none => rfl
        | some p =>
          simp only
          split <;> exact ih _ _ _ _ _

theorem randomizedSelectT_suffix (ofNat : Nat → α) (fuel : Nat) (a : List α) (b e : Nat) (i : α)
    (tape : List Nat) (v : α) (rest : List Nat)
    (h : randomizedSelectT ofNat fuel a b e i tape = some (v, rest)) : rest.IsSuffix tape := by
  fun_induction randomizedSelectT ofNat fuel a b e i tape with
  | case1 | case3 | case4 => cases h
  | case2 =>
    obtain ⟨x, -, hx⟩ := Option.map_eq_some_iff.1 h
    cases hx; exact List.suffix_refl _
  | case5 | case6 => rename_i ih; exact (ih h).trans (List.suffix_cons _ _)

end Threaded

end C07L
