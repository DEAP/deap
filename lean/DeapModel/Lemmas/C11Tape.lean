/-
Helper lemmas for C11: what the tape primitives return (results, consumed draws, faults), the triple `Ran` in which the
operator proofs are written, its sequencing rules and one triple (`Draws`) per primitive.
-/
import DeapModel.Core.GpTree

namespace GpTree

/-- the only faults of a well-behaved call: an ill-typed tape, or a tape shorter than `n` -/
def Benign {α : Type} (n : Nat) (tp : Tape) : R α → Prop
  | .ok _ => True
  | .error .mismatch => True
  | .error .tapeEnd => tp.length < n
  | .error _ => False

theorem total_of_benign {α : Type} {n : Nat} {tp : Tape} {r : R α} (h : Benign n tp r)
    (hlen : n ≤ tp.length) (hty : r ≠ .error .mismatch) : ∃ x, r = .ok x := by
  cases r with
  | ok x => exact ⟨x, rfl⟩
  | error e => cases e <;> simp [Benign] at h hty ⊢ <;> omega

theorem Benign.of_error {α β : Type} {m n k : Nat} {tp tp' : Tape} {r : R α} {e : Fault} (h : Benign m tp' r)
    (hr : r = .error e) (hk : tp.length ≤ tp'.length + k) (hn : m + k ≤ n) : Benign (α := β) n tp (.error e) := by
  subst hr
  cases e <;> simp [Benign] at h ⊢ <;> omega

theorem Benign.shift {α : Type} {m n k : Nat} {tp tp' : Tape} {r : R α} (h : Benign m tp' r)
    (hk : tp.length ≤ tp'.length + k) (hn : m + k ≤ n) : Benign n tp r := by
  cases r with
  | ok x => trivial
  | error e => exact h.of_error rfl hk hn

theorem Benign.mono {α : Type} {n m : Nat} {tp : Tape} {r : R α} (h : Benign n tp r) (hnm : n ≤ m) :
    Benign m tp r := h.shift (k := 0) (Nat.le_refl _) hnm

/-- a tape fault of a primitive: end of tape (then the tape is empty) or a mismatching draw -/
def TapeFault (tp : Tape) (e : Fault) : Prop := (e = .tapeEnd ∧ tp = []) ∨ e = .mismatch

theorem popChoice_ok {α : Type} {seq : List α} {tp tp' : Tape} {x : α}
    (h : popChoice seq tp = .ok (x, tp')) : x ∈ seq ∧ tp.length = tp'.length + 1 := by
  unfold popChoice at h
  split at h
  · simp at h
  · split at h
    · simp at h
    · split at h
      · split at h
        · rename_i hx
          obtain ⟨rfl, rfl⟩ := h
          exact ⟨List.mem_of_getElem? hx, by simp⟩
        · simp at h
      · simp at h
    · simp at h

theorem popChoice_err {α : Type} {seq : List α} {tp : Tape} {e : Fault} (hne : seq ≠ [])
    (h : popChoice seq tp = .error e) : TapeFault tp e := by
  unfold popChoice at h
  split at h
  · rename_i he; simp at he; exact absurd he hne
  · split at h
    · simp at h; exact Or.inl ⟨h.symm, rfl⟩
    · split at h
      · split at h
        · simp at h
        · simp at h; exact Or.inr h.symm
      · simp at h; exact Or.inr h.symm
    · simp at h; exact Or.inr h.symm

theorem popRange_ok {a b x : Nat} {tp tp' : Tape} (h : popRange a b tp = .ok (x, tp')) :
    a ≤ x ∧ x < b ∧ tp.length = tp'.length + 1 := by
  unfold popRange at h
  split at h
  · simp at h
  · split at h
    · simp at h
    · split at h
      · rename_i hc; obtain ⟨rfl, rfl⟩ := h; exact ⟨hc.2.2.1, hc.2.2.2, by simp⟩
      · simp at h
    · simp at h

theorem popRange_spec {a b x : Nat} {tp tp' : Tape} (h : popRange a b tp = .ok (x, tp')) : a ≤ x ∧ x < b :=
  ⟨(popRange_ok h).1, (popRange_ok h).2.1⟩

theorem popRange_err {a b : Nat} {tp : Tape} {e : Fault} (hab : a < b)
    (h : popRange a b tp = .error e) : TapeFault tp e := by
  unfold popRange at h
  split at h
  · rename_i hn; exact absurd hab hn
  · split at h
    · simp at h; exact Or.inl ⟨h.symm, rfl⟩
    · split at h
      · simp at h
      · simp at h; exact Or.inr h.symm
    · simp at h; exact Or.inr h.symm

theorem popRnd_ok {x : Float} {tp tp' : Tape} (h : popRnd tp = .ok (x, tp')) : tp.length = tp'.length + 1 := by
  cases tp with
  | nil => cases h
  | cons d tp => cases d <;> cases h; rfl

theorem popRnd_err {tp : Tape} {e : Fault} (h : popRnd tp = .error e) : TapeFault tp e := by
  cases tp with
  | nil => cases h; exact Or.inl ⟨rfl, rfl⟩
  | cons d tp => cases d <;> cases h <;> exact Or.inr rfl

theorem instantiate_ok {p p' : Prim} {tp tp' : Tape} (h : instantiate p tp = .ok (p', tp')) :
    (p'.ret = p.ret ∧ p'.args = p.args ∧ p'.kind = p.kind ∧ p'.name = p.name) ∧
    tp'.length ≤ tp.length ∧ tp.length ≤ tp'.length + 1 := by
  unfold instantiate at h
  split at h
  · cases tp with
    | nil => cases h
    | cons d tp => cases d <;> cases h; simp
  · cases h; simp

theorem instantiate_err {p : Prim} {tp : Tape} {e : Fault} (h : instantiate p tp = .error e) : TapeFault tp e := by
  unfold instantiate at h
  split at h
  · cases tp with
    | nil => cases h; exact Or.inl ⟨rfl, rfl⟩
    | cons d tp => cases d <;> cases h <;> exact Or.inr rfl
  · cases h

theorem TapeFault.benign {α : Type} {tp : Tape} {e : Fault} (h : TapeFault tp e) {n : Nat} (hn : 0 < n) :
    Benign (α := α) n tp (.error e) := by
  rcases h with ⟨rfl, rfl⟩ | rfl
  · simpa [Benign] using hn
  · simp [Benign]

theorem Benign.after {α β : Type} {tp tp' : Tape} {r : R α} {m k n : Nat} (h : Benign m tp' r)
    (hk : tp.length ≤ tp'.length + k) (hn : m + k ≤ n) (r' : R β)
    (hr : (∀ x, r = .ok x → ∃ y, r' = .ok y) ∧ (∀ e, r = .error e → r' = .error e)) : Benign n tp r' := by
  cases r with
  | ok x => obtain ⟨y, hy⟩ := hr.1 x rfl; rw [hy]; trivial
  | error e => rw [hr.2 e rfl]; exact h.of_error rfl hk hn

/-- a run: it never raises (on tapes of length ≥ `n`, provided `H`), and a result satisfies `Q`.  The bound is counted
down, `Ran.step` after each draw, so that a primitive's fault is met at a bound `n + 1` (`Ran.fault`).
The two halves have parameters of their own (`H`, `n` and what they mention belong to the first, `Q` to the second), so whoever
takes one half of a `…_run` lemma fills the other's with anything: `(A := 0)`, `(Rq := fun _ => True)`, `(sub := subTrue)`. -/
def Ran {α : Type} (H : Prop) (n : Nat) (tp : Tape) (Q : α → Prop) (r : R α) : Prop :=
  (H → Benign n tp r) ∧ ∀ x, r = .ok x → Q x

section Ran
variable {α β : Type} {H : Prop} {n m : Nat} {tp tp' : Tape} {Q : α → Prop} {r : R α} {e : Fault}

theorem Ran.ok {x : α} (h : Q x) : Ran H n tp Q (.ok x) := ⟨fun _ => trivial, fun _ hx => Except.ok.inj hx ▸ h⟩

theorem Ran.fault (h : H → TapeFault tp e) : Ran H (n + 1) tp Q (.error e) :=
  ⟨fun hH => (h hH).benign (Nat.succ_pos n), fun _ hx => nomatch hx⟩

theorem Ran.step (hl : tp.length ≤ tp'.length + 1) (h : Ran H n tp' Q r) : Ran H (n + 1) tp Q r :=
  ⟨fun hH => (h.1 hH).shift hl (Nat.le_refl _), h.2⟩

theorem Ran.mono (h : Ran H n tp Q r) (hnm : n ≤ m) : Ran H m tp Q r := ⟨fun hH => (h.1 hH).mono hnm, h.2⟩

theorem Ran.post {Q' : α → Prop} (h : Ran H n tp Q r) (hq : ∀ x, Q x → Q' x) : Ran H n tp Q' r :=
  ⟨h.1, fun x hx => hq x (h.2 x hx)⟩

theorem Ran.raised (h : ¬ H) : Ran H n tp Q (.error e) := ⟨fun hH => absurd hH h, fun _ hx => nomatch hx⟩

theorem Ran.imp {H' : Prop} (h : Ran H n tp Q r) (hH : H' → H) : Ran H' n tp Q r := ⟨fun h' => h.1 (hH h'), h.2⟩

theorem Ran.of_error {r' : R β} (h : H → Benign n tp r') (hr : r' = .error e) :
    Ran H n tp Q (.error e) :=
  ⟨fun hH => (h hH).of_error hr (k := 0) (Nat.le_refl _) (Nat.le_refl _), fun _ hx => nomatch hx⟩

end Ran

/-- a call that draws at most once: the tape it hands on is at most one draw shorter -/
def Draws {α : Type} (H : Prop) (tp : Tape) (Q : α → Prop) (x : R (α × Tape)) : Prop :=
  Ran H 1 tp (fun o => Q o.1 ∧ tp.length ≤ o.2.length + 1) x

section Seq
variable {α β : Type} {H Hx : Prop} {n : Nat} {tp : Tape} {Q : β → Prop} {x : R (α × Tape)} {r : R β}

/-- Sequencing.  `r` is what the model makes of the call `x`: `match x with | .error e => .error e | .ok (a, tp') => …`.
The rule does not mention that `match` (every model function has its own, and they do not unify): `he` says that a fault
of `x` is the fault of `r`, and in `hf` the equation `x = .ok (a, tp')` rewrites `r` to its continuation. -/
theorem Ran.seq {Q1 : α → Prop} (hx : Draws Hx tp Q1 x) (hH : H → Hx)
    (hf : ∀ a tp', x = .ok (a, tp') → Q1 a → Ran H n tp' Q r)
    (he : ∀ e, x = .error e → r = .error e := by intro e h; simp only [h]) : Ran H (n + 1) tp Q r := by
  cases hxe : x with
  | error e => rw [he e hxe]; exact .of_error (fun h => (hx.1 (hH h)).mono (Nat.le_add_left 1 n)) hxe
  | ok v =>
    obtain ⟨hq, hl⟩ := hx.2 _ hxe
    exact .step hl (hf v.1 v.2 hxe hq)

/-- the last call that draws (a loop, a generator): what follows it neither draws nor raises; `hm` when the call's own bound
is smaller than the whole's -/
theorem Ran.last {m m' : Nat} {Q1 : α × Tape → Prop} (hx : Ran Hx m' tp Q1 x) (hH : H → Hx)
    (hf : ∀ a tp', x = .ok (a, tp') → Q1 (a, tp') → Ran H 0 tp Q r) (hm : H → m' ≤ m := by exact fun _ => Nat.le_refl _)
    (he : ∀ e, x = .error e → r = .error e := by intro e h; simp only [h]) : Ran H m tp Q r := by
  cases hxe : x with
  | error e => rw [he e hxe]; exact .of_error (fun h => (hx.1 (hH h)).mono (hm h)) hxe
  | ok v => exact (hf v.1 v.2 hxe (hx.2 _ hxe)).mono (Nat.zero_le m)

end Seq

theorem popChoice_draws {α : Type} (seq : List α) (tp : Tape) : Draws (seq ≠ []) tp (· ∈ seq) (popChoice seq tp) := by
  cases h : popChoice seq tp with
  | error e => exact .fault fun hn => popChoice_err hn h
  | ok v => exact .ok ⟨(popChoice_ok h).1, Nat.le_of_eq (popChoice_ok h).2⟩

theorem popPick_draws (common : List Nat) (tp : Tape) : Draws (common ≠ []) tp (· ∈ common) (popPick common tp) :=
  popChoice_draws common tp

theorem popRange_draws (a b : Nat) (tp : Tape) : Draws (a < b) tp (fun x => a ≤ x ∧ x < b) (popRange a b tp) := by
  cases h : popRange a b tp with
  | error e => exact .fault fun hab => popRange_err hab h
  | ok v => exact .ok ⟨popRange_spec h, Nat.le_of_eq (popRange_ok h).2.2⟩

theorem popRnd_draws (tp : Tape) : Draws True tp (fun _ => True) (popRnd tp) := by
  cases h : popRnd tp with
  | error e => exact .fault fun _ => popRnd_err h
  | ok v => exact .ok ⟨trivial, Nat.le_of_eq (popRnd_ok h)⟩

theorem instantiate_draws (p : Prim) (tp : Tape) :
    Draws True tp (fun p' => p'.ret = p.ret ∧ p'.args = p.args ∧ p'.kind = p.kind ∧ p'.name = p.name) (instantiate p tp) := by
  cases h : instantiate p tp with
  | error e => exact .fault fun _ => instantiate_err h
  | ok v => exact .ok ⟨(instantiate_ok h).1, (instantiate_ok h).2.2⟩

end GpTree
