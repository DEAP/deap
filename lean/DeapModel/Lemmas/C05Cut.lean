/-
C05 lemmas: the cut (emo.py:44-50) applied to any list of fronts that satisfies C04's
specification.
-/
import DeapModel.Core.Crowding
import DeapModel.Lemmas.C04Std
import Mathlib.Data.List.Perm.Subperm

namespace C05L
open NDSort Crowding C04L

variable {α : Type} [LinearOrder α]

/-- C04's specification of a sorting back-end's answer for `(pop, k)`: front by front (up to the
order inside a front) the leading fronts of the Pareto ranking needed to reach `k`. -/
def FrontsSpec (pop : List (Ind α)) (k : Nat) (fronts : List (List (Ind α))) : Prop :=
  List.Forall₂ List.Perm fronts (leading (peel domI pop) k)

theorem distLt_irrefl (a : Dist α) : Dist.lt a a = false := by
  cases a <;> simp [Dist.lt]

theorem distLt_trans_not {a b c : Dist α} (h1 : Dist.lt a b = false) (h2 : Dist.lt b c = false) :
    Dist.lt a c = false := by
  cases a <;> cases b <;> cases c <;> simp_all [Dist.lt]
  exact le_trans h2 h1

theorem distLt_total (a b : Dist α) : (!Dist.lt a b || !Dist.lt b a) = true := by
  cases a <;> cases b <;> simp [Dist.lt]
  exact le_total _ _

theorem sortByDistDesc_perm (l : List (Ind α × Dist α)) : (sortByDistDesc l).Perm l :=
  List.mergeSort_perm _ _

theorem sortByDistDesc_pairwise (l : List (Ind α × Dist α)) :
    (sortByDistDesc l).Pairwise (fun a b => Dist.lt a.2 b.2 = false) := by
  have := List.pairwise_mergeSort (le := fun (a b : Ind α × Dist α) => !Dist.lt a.2 b.2)
    (by intro a b c h1 h2
        simp only [Bool.not_eq_true'] at h1 h2 ⊢
        exact distLt_trans_not h1 h2)
    (by intro a b; exact distLt_total a.2 b.2) l
  simpa [sortByDistDesc] using this

theorem cutWith_snoc (init : List (List (Ind α))) (last : List (Ind α)) (d : List (Dist α)) (k : Nat)
    (h : init.flatten.length < k) :
    cutWith (init ++ [last]) d k =
      init.flatten ++ ((sortByDistDesc (last.zip d)).map (·.1)).take (k - init.flatten.length) := by
  unfold cutWith
  simp only [List.dropLast_concat, List.getLast?_concat]
  rw [if_pos h]

theorem cutWith_nil (d : List (Dist α)) (k : Nat) : cutWith ([] : List (List (Ind α))) d k = [] := by
  simp [cutWith]

theorem sorted_last_perm (last : List (Ind α)) (d : List (Dist α)) (hd : d.length = last.length) :
    ((sortByDistDesc (last.zip d)).map (·.1)).Perm last := by
  have h1 := (sortByDistDesc_perm (last.zip d)).map (·.1)
  have h2 : (last.zip d).map (·.1) = last := List.map_fst_zip (by omega)
  rw [h2] at h1; exact h1

section Cut
variable (m : Nat) (pop : List (Ind α)) (hlen : ∀ x ∈ pop, x.w.length = m) (k : Nat)
  (fronts : List (List (Ind α))) (hspec : FrontsSpec pop k fronts)
  (d : List (Dist α)) (hd : d.length = ((fronts.getLast?).getD []).length)
include hlen hspec hd

theorem cut_structure :
    (fronts = [] ∧ cutWith fronts d k = [] ∧ min k pop.length = 0) ∨
    ∃ init last, fronts = init ++ [last] ∧ d.length = last.length ∧ init.flatten.length < k ∧
      cutWith fronts d k = init.flatten ++
        ((sortByDistDesc (last.zip d)).take (k - init.flatten.length)).map (·.1) := by
  rcases List.eq_nil_or_concat' fronts with rfl | ⟨init, last, rfl⟩
  · exact Or.inl ⟨rfl, cutWith_nil d k, by simpa using leading_peel_enough (spo_domI m pop hlen) hspec⟩
  · have hmin := leading_peel_minimal hspec (by simp)
    rw [List.dropLast_concat] at hmin
    rw [List.getLast?_concat, Option.getD_some] at hd
    exact Or.inr ⟨init, last, rfl, hd, hmin, by rw [cutWith_snoc _ _ _ _ hmin, List.map_take]⟩

theorem cut_length : (cutWith fronts d k).length = min k pop.length := by
  rcases cut_structure m pop hlen k fronts hspec d hd with ⟨_, h2, h3⟩ | ⟨init, last, h1, h2, h3, h4⟩
  · rw [h2, h3]; rfl
  · have he := leading_peel_enough (spo_domI m pop hlen) hspec
    have hs := (leading_peel_subperm (spo_domI m pop hlen) hspec).length_le
    have hsl : (sortByDistDesc (last.zip d)).length = last.length := by
      rw [(sortByDistDesc_perm _).length_eq, List.length_zip]; omega
    rw [h1] at he hs
    simp only [List.flatten_append, List.flatten_cons, List.flatten_nil, List.append_nil,
      List.length_append] at he hs
    rw [h4]
    simp only [List.length_append, List.length_map, List.length_take]
    omega

theorem cut_subperm : (cutWith fronts d k).Subperm pop := by
  rcases cut_structure m pop hlen k fronts hspec d hd with ⟨_, h2, _⟩ | ⟨init, last, h1, h2, h3, h4⟩
  · rw [h2]; exact List.nil_subperm
  · have hs := leading_peel_subperm (spo_domI m pop hlen) hspec
    rw [h1] at hs
    simp only [List.flatten_append, List.flatten_cons, List.flatten_nil, List.append_nil] at hs
    rw [h4]
    refine List.Subperm.trans ?_ hs
    refine List.Subperm.append (List.Subperm.refl _) ?_
    have hsub : List.Sublist (((sortByDistDesc (last.zip d)).take (k - init.flatten.length)).map (·.1))
        ((sortByDistDesc (last.zip d)).map (·.1)) := (List.take_sublist _ _).map _
    exact hsub.subperm.trans (sorted_last_perm last d h2).subperm

theorem cut_nodup (hnd : pop.Nodup) : (cutWith fronts d k).Nodup := by
  obtain ⟨l, hp, hs⟩ := cut_subperm m pop hlen k fronts hspec d hd
  exact hp.nodup_iff.1 (hs.nodup hnd)

theorem cut_front_priority (x y : Ind α) (hx : x ∈ cutWith fronts d k) (hy : y ∈ pop)
    (hyn : y ∉ cutWith fronts d k) : depth domI pop x ≤ depth domI pop y := by
  rcases cut_structure m pop hlen k fronts hspec d hd with ⟨_, h2, _⟩ | ⟨init, last, h1, h2, h3, h4⟩
  · rw [h2] at hx; simp at hx
  · have hS := spo_domI m pop hlen
    have hlast : fronts[init.length]? = some last := by rw [h1]; simp
    have hinit : ∀ (i : Nat) (hi : i < init.length), fronts[i]? = some init[i] := fun i hi => by
      rw [h1, List.getElem?_append_left hi]; exact List.getElem?_eq_getElem hi
    have hxd : depth domI pop x ≤ init.length := by
      rw [h4] at hx
      rcases List.mem_append.1 hx with hx | hx
      · obtain ⟨f, hf, hxf⟩ := List.mem_flatten.1 hx
        obtain ⟨i, hi, rfl⟩ := List.getElem_of_mem hf
        have := (leading_peel_mem_iff hS hspec (hinit i hi) x).1 hxf
        omega
      · obtain ⟨p, hp, rfl⟩ := List.mem_map.1 hx
        have hp' := (sortByDistDesc_perm (last.zip d)).mem_iff.1 ((List.take_sublist _ _).subset hp)
        have hxl : p.1 ∈ last := (List.of_mem_zip hp').1
        have := (leading_peel_mem_iff hS hspec hlast p.1).1 hxl
        omega
    -- an omitted individual is in none of the whole fronts
    by_contra hc
    have hyd : depth domI pop y < init.length := by omega
    apply hyn; rw [h4]
    exact List.mem_append_left _ (List.mem_flatten.2
      ⟨_, List.getElem_mem hyd, (leading_peel_mem_iff hS hspec (hinit _ hyd) y).2 ⟨hy, rfl⟩⟩)

theorem cut_crowding :
    fronts = [] ∨ ∃ (init : List (List (Ind α))) (last : List (Ind α)) (kept dropped : List (Ind α × Dist α)),
      fronts = init ++ [last] ∧
      cutWith fronts d k = init.flatten ++ kept.map (·.1) ∧
      (kept ++ dropped).Perm (last.zip d) ∧
      (∀ p ∈ kept, ∀ q ∈ dropped, Dist.lt p.2 q.2 = false) ∧
      (∀ f ∈ init, ∀ x ∈ f, x ∈ cutWith fronts d k) := by
  rcases cut_structure m pop hlen k fronts hspec d hd with ⟨h, _, _⟩ | ⟨init, last, h1, h2, h3, h4⟩
  · exact Or.inl h
  · right
    refine ⟨init, last, (sortByDistDesc (last.zip d)).take (k - init.flatten.length),
      (sortByDistDesc (last.zip d)).drop (k - init.flatten.length), h1, h4, ?_, ?_, ?_⟩
    · rw [List.take_append_drop]; exact sortByDistDesc_perm _
    · have hp := sortByDistDesc_pairwise (last.zip d)
      rw [← List.take_append_drop (k - init.flatten.length) (sortByDistDesc (last.zip d)),
        List.pairwise_append] at hp
      exact hp.2.2
    · intro f hf x hx
      rw [h4]; exact List.mem_append_left _ (List.mem_flatten.2 ⟨f, hf, hx⟩)

end Cut

end C05L
