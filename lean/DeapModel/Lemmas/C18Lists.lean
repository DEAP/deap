/-
C18 helper lemmas on plain lists: the dicts of the logbook model as instances of `Dict.upsert`, removing a set of positions,
erasing positions one by one in descending order (what `Logbook.__delitem__` does for a slice),
insertion sort.
-/
import DeapModel.Core.Logbook
import DeapModel.Lemmas.Dict
import Mathlib.Data.List.Nodup
import Mathlib.Data.List.InsertIdx

namespace C18L
open Logbook Dict

variable {α β γ : Type}

theorem dictSet_eq_upsert (d : Row) (k : Name) (v : Int) : dictSet d k v = upsert (fun _ => v) k d := by
  induction d with
  | nil => rfl
  | cons p ps ih => obtain ⟨k', v'⟩ := p; simp only [dictSet, upsert, ih]; split <;> simp_all

theorem modifyChapter_eq_upsert (g : LB → LB) (key : Name) (chs : List (Name × LB)) :
    modifyChapter g key chs = upsert (fun o => g (o.getD LB.empty)) key chs := by
  induction chs with
  | nil => rfl
  | cons q qs ih => obtain ⟨k, ch⟩ := q; simp only [modifyChapter, upsert, ih]; rfl

theorem setFn_eq_upsert {κ φ ρ : Type} (name : Name) (v : φ × (φ → List κ → ρ))
    (fs : List (Name × (φ × (φ → List κ → ρ)))) : Stats.setFn name v fs = upsert (fun _ => v) name fs := by
  induction fs with
  | nil => rfl
  | cons p ps ih => obtain ⟨k, w⟩ := p; simp only [Stats.setFn, upsert, ih]

theorem dictGet_dictSet (d : Row) (k k' : Name) (v : Int) :
    dictGet (dictSet d k v) k' = if k' = k then some v else dictGet d k' := by
  rw [dictSet_eq_upsert]; exact lookup_upsert _ k k' d

theorem dictGet_dictUpdate_of_not_mem (d e : Row) (k : Name) (h : k ∉ e.map (·.1)) :
    dictGet (dictUpdate d e) k = dictGet d k := by
  induction e generalizing d with
  | nil => rfl
  | cons p ps ih =>
    simp only [List.map_cons, List.mem_cons, not_or] at h
    exact (ih (dictSet d p.1 p.2) h.2).trans (by rw [dictGet_dictSet, if_neg h.1])

/-- `l` without the items whose position is in `S` ("exactly the addressed records removed"). -/
def removeIdx (S : List Nat) (l : List α) : List α :=
  (l.zipIdx.filter fun p => decide (p.2 ∉ S)).map (·.1)

/-- the same with an explicit position offset, convenient for induction -/
def keepFrom (k : Nat) (S : List Nat) : List α → List α
  | [] => []
  | x :: xs => if k ∈ S then keepFrom (k + 1) S xs else x :: keepFrom (k + 1) S xs

theorem removeIdx_eq_keepFrom (S : List Nat) (l : List α) : removeIdx S l = keepFrom 0 S l := by
  suffices ∀ k, ((l.zipIdx k).filter fun p => decide (p.2 ∉ S)).map (·.1) = keepFrom k S l from this 0
  induction l with
  | nil => intro k; rfl
  | cons x xs ih =>
    intro k
    simp only [keepFrom, List.zipIdx_cons, List.filter_cons, ← ih (k + 1)]
    by_cases h : k ∈ S <;> simp [h]

theorem removeIdx_congr {S T : List Nat} (h : ∀ j, j ∈ S ↔ j ∈ T) (l : List α) : removeIdx S l = removeIdx T l := by
  simp only [removeIdx, h]

theorem keepFrom_all_below (k : Nat) (S : List Nat) (h : ∀ j ∈ S, j < k) (l : List α) :
    keepFrom k S l = l := by
  induction l generalizing k with
  | nil => rfl
  | cons x xs ih =>
    rw [keepFrom, if_neg (fun hm => Nat.lt_irrefl _ (h k hm)), ih (k + 1) (fun j hj => Nat.lt_succ_of_lt (h j hj))]

theorem removeIdx_map (f : α → β) (S : List Nat) (l : List α) :
    removeIdx S (l.map f) = (removeIdx S l).map f := by
  simp [removeIdx, List.zipIdx_map, List.filter_map, Function.comp_def]

theorem removeIdx_nil (l : List α) : removeIdx [] l = l := by
  simp [removeIdx]

theorem keepFrom_eraseIdx (k i : Nat) (S : List Nat) (h : ∀ j ∈ S, j < k + i) (l : List α) :
    keepFrom k S (l.eraseIdx i) = keepFrom k ((k + i) :: S) l := by
  induction l generalizing k i with
  | nil => rfl
  | cons x xs ih =>
    cases i with
    | zero =>
      rw [List.eraseIdx_zero, List.tail_cons, keepFrom, if_pos (by simp), keepFrom_all_below k S h,
        keepFrom_all_below (k + 1)]
      intro j hj
      rcases List.mem_cons.1 hj with rfl | hj
      · exact Nat.lt_succ_self _
      · exact Nat.lt_succ_of_lt (h j hj)
    | succ i =>
      have hne : k ≠ k + (i + 1) := by omega
      simp only [List.eraseIdx_cons_succ, keepFrom, List.mem_cons, hne, false_or]
      rw [ih (k + 1) i (fun j hj => by have := h j hj; omega), show k + 1 + i = k + (i + 1) by omega]

/-- erase the positions one after the other, in the order given -/
def eraseAll : List Nat → List α → List α
  | [], l => l
  | i :: is, l => eraseAll is (l.eraseIdx i)

theorem eraseAll_desc (ds : List Nat) (hd : ds.Pairwise (· > ·)) (l : List α) :
    eraseAll ds l = removeIdx ds l := by
  induction ds generalizing l with
  | nil => exact (removeIdx_nil l).symm
  | cons i is ih =>
    rw [List.pairwise_cons] at hd
    rw [eraseAll, ih hd.2, removeIdx_eq_keepFrom, removeIdx_eq_keepFrom,
      keepFrom_eraseIdx 0 i is (by simpa using hd.1), Nat.zero_add]

theorem eraseAll_map (f : α → β) (ds : List Nat) (l : List α) :
    eraseAll ds (l.map f) = (eraseAll ds l).map f := by
  induction ds generalizing l with
  | nil => rfl
  | cons i is ih => rw [eraseAll, List.eraseIdx_map, ih, eraseAll]

theorem desc_tail_lt {i n : Nat} {is : List Nat} (hd : ∀ j ∈ is, i > j) (hi : i < n) (l : List α)
    (hl : l.length = n) : ∀ j ∈ is, j < (l.eraseIdx i).length := by
  intro j hj
  have := hd j hj
  rw [List.length_eraseIdx_of_lt (hl ▸ hi)]; omega

theorem length_eraseAll_desc (ds : List Nat) (hd : ds.Pairwise (· > ·)) (l : List α)
    (hr : ∀ i ∈ ds, i < l.length) : (eraseAll ds l).length = l.length - ds.length := by
  induction ds generalizing l with
  | nil => rfl
  | cons i is ih =>
    rw [List.pairwise_cons] at hd
    have hi : i < l.length := hr i (by simp)
    rw [eraseAll, ih hd.2 _ (desc_tail_lt hd.1 hi l rfl), List.length_eraseIdx_of_lt hi, List.length_cons]
    omega

section Insertion
variable {r : Nat → Nat → Prop} [DecidableRel r] (tot : ∀ a b, ¬ r a b → r b a)
  (tr : ∀ a b c, r a b → r b c → r a c) (ins : Nat → List Nat → List Nat) (h0 : ∀ a, ins a [] = [a])
  (h1 : ∀ a b l, ins a (b :: l) = if r a b then a :: b :: l else b :: ins a l)
include tot tr h0 h1

/-- insertion into a list sorted by a total order `r` (the function given by its two equations): the same
items, still sorted.  Serves `insertDesc` (descending) and `Stats.insertSorted` (ascending). -/
theorem ins_spec (a : Nat) (l : List Nat) :
    (ins a l).Perm (a :: l) ∧ (l.Pairwise r → (ins a l).Pairwise r) := by
  induction l with
  | nil => rw [h0]; exact ⟨.refl _, fun h => List.pairwise_singleton r a⟩
  | cons b l ih =>
    rw [h1]
    split
    · next hab =>
      refine ⟨.refl _, fun h => List.pairwise_cons.2 ⟨fun c hc => ?_, h⟩⟩
      rcases List.mem_cons.1 hc with rfl | hc
      · exact hab
      · exact tr a b c hab ((List.pairwise_cons.1 h).1 c hc)
    · next hab =>
      refine ⟨(ih.1.cons b).trans (.swap a b l), fun h => ?_⟩
      have hb := List.pairwise_cons.1 h
      refine List.pairwise_cons.2 ⟨fun c hc => ?_, ih.2 hb.2⟩
      rcases List.mem_cons.1 (ih.1.subset hc) with rfl | hc
      · exact tot _ _ hab
      · exact hb.1 c hc

theorem sort_spec (srt : List Nat → List Nat) (s0 : srt [] = []) (s1 : ∀ a l, srt (a :: l) = ins a (srt l))
    (l : List Nat) : (srt l).Perm l ∧ (srt l).Pairwise r := by
  induction l with
  | nil => rw [s0]; exact ⟨.refl _, .nil⟩
  | cons a l ih =>
    obtain ⟨p, s⟩ := ins_spec tot tr ins h0 h1 a (srt l)
    rw [s1]; exact ⟨p.trans (ih.1.cons a), s ih.2⟩

end Insertion

theorem sortDesc_spec (l : List Nat) : (sortDesc l).Perm l ∧ (sortDesc l).Pairwise (· ≥ ·) :=
  sort_spec (r := (· ≥ ·)) (fun a b h => by omega) (fun a b c h1 h2 => by omega) insertDesc (fun _ => rfl)
    (fun _ _ _ => rfl) sortDesc rfl (fun _ _ => rfl) l

theorem mem_sortDesc (y : Nat) (l : List Nat) : y ∈ sortDesc l ↔ y ∈ l := (sortDesc_spec l).1.mem_iff

theorem length_sortDesc (l : List Nat) : (sortDesc l).length = l.length := (sortDesc_spec l).1.length_eq

theorem sortDesc_strict (l : List Nat) (hn : l.Nodup) : (sortDesc l).Pairwise (· > ·) :=
  ((sortDesc_spec l).2.and ((sortDesc_spec l).1.nodup_iff.2 hn)).imp fun h => by omega

theorem eraseAll_sortDesc (idx : List Nat) (hn : idx.Nodup) (l : List α) :
    eraseAll (sortDesc idx) l = removeIdx idx l := by
  rw [eraseAll_desc _ (sortDesc_strict idx hn)]
  exact removeIdx_congr (fun j => mem_sortDesc j idx) l

example : removeIdx [2, 0] [10, 11, 12, 13] = [11, 13] := by decide
example : eraseAll (sortDesc [0, 2]) [10, 11, 12, 13] = [11, 13] := by decide

end C18L
