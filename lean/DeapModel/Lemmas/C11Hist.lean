/-
Helper lemmas for C11: which Python indices denote a node, and the bookkeeping of histories (`fetch` / `writeBack` on a
population of tree objects).
-/
import DeapModel.Core.GpTree

namespace GpTree

theorem pyIndex_range (n : Nat) (i : Int) (hlo : -(n : Int) ≤ i) (hhi : i < n) :
    ∃ j : Nat, (j : Int) = pyIndex n i ∧ j < n := by
  unfold pyIndex
  split
  · exact ⟨(i + n).toNat, by omega, by omega⟩
  · exact ⟨i.toNat, by omega, by omega⟩

theorem searchSubtreePy_nat (l : List Prim) (i : Int) (b : Nat) (h : pyIndex l.length i = (b : Int)) :
    searchSubtreePy l i = (searchSubtree l b).map (fun be => ((be.1 : Int), (be.2 : Int))) := by
  simp [searchSubtreePy, h]

theorem lift1_all {Q : List Prim → Prop} {r : R (List Prim × Tape)} {outs : List (List Prim)} {tp' : Tape}
    (h : lift1 r = .ok (outs, tp')) (hq : ∀ o, r = .ok (o, tp') → Q o) : outs.length = 1 ∧ ∀ o ∈ outs, Q o := by
  cases r with
  | error e => cases h
  | ok v =>
    obtain ⟨o, tp1⟩ := v
    obtain ⟨rfl, rfl⟩ := Prod.mk.inj (Except.ok.inj h)
    exact ⟨rfl, fun o' ho => List.mem_singleton.1 ho ▸ hq o rfl⟩

theorem lift2_all {Q : List Prim → Prop} {r : R (List Prim × List Prim × Tape)} {outs : List (List Prim)} {tp' : Tape}
    (h : lift2 r = .ok (outs, tp')) (hq : ∀ o1 o2, r = .ok (o1, o2, tp') → Q o1 ∧ Q o2) :
    outs.length = 2 ∧ ∀ o ∈ outs, Q o := by
  cases r with
  | error e => cases h
  | ok v =>
    obtain ⟨o1, o2, tp1⟩ := v
    obtain ⟨rfl, rfl⟩ := Prod.mk.inj (Except.ok.inj h)
    refine ⟨rfl, fun o' ho => ?_⟩
    simp only [List.mem_cons, List.not_mem_nil, or_false] at ho
    rcases ho with ho | ho
    · exact ho ▸ (hq o1 o2 rfl).1
    · exact ho ▸ (hq o1 o2 rfl).2

theorem fetch_spec {pop : List (List Prim)} : ∀ {is : List Nat} {args : List (List Prim)},
    fetch pop is = some args → args.length = is.length ∧ ∀ a ∈ args, a ∈ pop
  | [], args, h => by simp [fetch] at h; subst h; simp
  | i :: is, args, h => by
    simp only [fetch] at h
    split at h
    · rename_i x r hx hr
      simp at h; subst h
      obtain ⟨h1, h2⟩ := fetch_spec hr
      refine ⟨by simp [h1], ?_⟩
      intro a ha
      rcases List.mem_cons.1 ha with rfl | ha
      · exact List.mem_of_getElem? hx
      · exact h2 a ha
    · simp at h

theorem writeBack_length : ∀ (pop : List (List Prim)) (is : List Nat) (os : List (List Prim)),
    (writeBack pop is os).length = pop.length
  | pop, [], _ => by simp [writeBack]
  | pop, _ :: _, [] => by simp [writeBack]
  | pop, i :: is, o :: os => by simp [writeBack, writeBack_length (pop.set i o) is os]

theorem writeBack_mem : ∀ (pop : List (List Prim)) (is : List Nat) (os : List (List Prim)) (t : List Prim),
    t ∈ writeBack pop is os → t ∈ pop ∨ t ∈ os
  | pop, [], _, t, h => by simp [writeBack] at h; exact Or.inl h
  | pop, _ :: _, [], t, h => Or.inl h
  | pop, i :: is, o :: os, t, h => by
    rcases writeBack_mem (pop.set i o) is os t h with h | h
    · rcases List.mem_or_eq_of_mem_set h with h | h
      · exact Or.inl h
      · exact Or.inr (by simp [h])
    · exact Or.inr (by simp [h])

theorem stepState_inv (Q : List Prim → Prop) {ps : Pset} {s : Step} {pop pop' : List (List Prim)} {tp tp' : Tape}
    (hpop : ∀ t ∈ pop, Q t)
    (hrun : ∀ args outs tp1, (∀ a ∈ args, a ∈ pop) →
      (match s.lim with
        | none => applyOp ps s.op args tp
        | some L => staticLimit L.key L.maxv L.npos (applyOp ps s.op) args tp) = .ok (outs, tp1) → ∀ o ∈ outs, Q o)
    (h : stepState ps s pop tp = .ok (pop', tp')) :
    pop'.length = pop.length ∧ ∀ t ∈ pop', Q t := by
  unfold stepState at h
  split at h
  · simp at h
  · split at h
    · simp at h
    · rename_i args hf
      split at h
      · simp at h
      · rename_i outs tp1 hr
        simp at h
        obtain ⟨rfl, _⟩ := h
        refine ⟨writeBack_length _ _ _, ?_⟩
        intro t ht
        rcases writeBack_mem _ _ _ _ ht with ht | ht
        · exact hpop t ht
        · exact hrun args outs tp1 (fetch_spec hf).2 hr t ht

theorem runHistory_inv (Q : List Prim → Prop) {ps : Pset} :
    ∀ (steps : List Step) (pop pop' : List (List Prim)) (tp tp' : Tape),
      (∀ t ∈ pop, Q t) →
      (∀ s ∈ steps, ∀ (pop : List (List Prim)) (tp : Tape) (pop' : List (List Prim)) (tp' : Tape),
        (∀ t ∈ pop, Q t) → stepState ps s pop tp = .ok (pop', tp') → pop'.length = pop.length ∧ ∀ t ∈ pop', Q t) →
      runHistory ps steps pop tp = .ok (pop', tp') → pop'.length = pop.length ∧ ∀ t ∈ pop', Q t
  | [], pop, pop', tp, tp', hpop, _, h => by
    obtain ⟨rfl, _⟩ := h; exact ⟨rfl, hpop⟩
  | s :: ss, pop, pop', tp, tp', hpop, hstep, h => by
    simp only [runHistory] at h
    split at h
    · simp at h
    · rename_i pop1 tp1 hs
      obtain ⟨hl, hq⟩ := hstep s (by simp) pop tp pop1 tp1 hpop hs
      obtain ⟨hl', hq'⟩ := runHistory_inv Q ss pop1 pop' tp1 tp' hq
        (fun s' hs' => hstep s' (by simp [hs'])) h
      exact ⟨by omega, hq'⟩

end GpTree
