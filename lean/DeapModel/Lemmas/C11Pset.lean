/-
Helper lemmas for C11: the pools of `PrimitiveSetTyped`.  What `_add` keeps (`DictInv`: a pool only holds nodes whose
return type is a subclass of its key), and the declaration state machine of `Core/GpPset.lean` (`PoolExact`: the pools
hold EXACTLY the declared nodes whose return type is a subclass of the key).  The bookkeeping beside the pools: every
declaration proper hands one node to `_add` (`stepDecl_node`), which appends it to the ghost list of its kind
(`declPrims` / `declTerms`), bumps that counter and keeps `mapping` well-formed (`MapOK`, `PlainStep`); summed over a
history of declarations proper (`Plain`) in `runDecls_plain`, from the initial state in `init_decl`.
-/
import DeapModel.Core.GpPset
import DeapModel.Lemmas.Dict

namespace GpTree

variable {sub : Nat → Nat → Bool}

def DictInv (sub : Nat → Nat → Bool) (Q : Prim → Prop) (d : List (Nat × List Prim)) : Prop :=
  ∀ e ∈ d, ∀ x ∈ e.2, sub x.ret e.1 = true ∧ Q x

theorem mem_appendNew {items : List Prim} {x : Prim} :
    ∀ {acc : List Prim}, x ∈ appendNew acc items ↔ x ∈ acc ∨ x ∈ items := by
  unfold appendNew
  induction items with
  | nil => simp
  | cons y ys ih =>
    intro acc
    rw [List.foldl_cons, ih]
    split <;> rcases Classical.em (x = y) with rfl | hx <;> simp [*]

theorem mem_collect {τ : Nat} {x : Prim} :
    ∀ (d : List (Nat × List Prim)) (acc : List Prim),
      x ∈ d.foldl (fun acc e => if sub e.1 τ then appendNew acc e.2 else acc) acc ↔
      x ∈ acc ∨ ∃ e ∈ d, sub e.1 τ = true ∧ x ∈ e.2
  | [], acc => by simp
  | e :: d, acc => by
    rw [List.foldl_cons, mem_collect d]
    split <;> simp only [mem_appendNew, List.mem_cons, exists_eq_or_imp, or_assoc, true_and, false_and, false_or,
      Bool.false_eq_true, *]

theorem appendCompat_inv {Q : Prim → Prop} {d : List (Nat × List Prim)} {p : Prim}
    (h : DictInv sub Q d) (hp : Q p) : DictInv sub Q (appendCompat sub d p) := by
  intro e he x hx
  unfold appendCompat at he
  obtain ⟨e0, he0, rfl⟩ := List.mem_map.1 he
  by_cases hs : sub p.ret e0.1 = true
  · simp only [hs, if_true] at hx ⊢
    simp at hx
    rcases hx with hx | rfl
    · exact h e0 he0 x hx
    · exact ⟨hs, hp⟩
  · simp only [hs] at hx ⊢
    exact h e0 he0 x hx

theorem dictGet_mem {d : List (Nat × List Prim)} {τ : Nat} {x : Prim} (h : x ∈ dictGet d τ) :
    ∃ e ∈ d, e.1 = τ ∧ x ∈ e.2 := by
  unfold dictGet at h
  split at h
  · rename_i e he
    have := List.find?_some he
    exact ⟨e, List.mem_of_find?_eq_some he, by simpa using this, h⟩
  · simp at h

section
variable (trans : ∀ a b c, sub a b = true → sub b c = true → sub a c = true)
include trans

theorem addType_inv
    {Q : Prim → Prop} {d : List (Nat × List Prim)} (τ : Nat) (h : DictInv sub Q d) : DictInv sub Q (addType sub d τ) := by
  unfold addType
  split
  · exact h
  · intro e he x hx
    rcases List.mem_append.1 he with he | he
    · exact h e he x hx
    · simp at he; subst he
      obtain ⟨e', he', h1, h2⟩ := ((mem_collect d []).1 hx).resolve_left List.not_mem_nil
      obtain ⟨h3, h4⟩ := h e' he' x h2
      exact ⟨trans _ _ _ h3 h1, h4⟩

theorem foldl_addType_inv
    {Q : Prim → Prop} : ∀ (ts : List Nat) {d : List (Nat × List Prim)}, DictInv sub Q d →
    DictInv sub Q (ts.foldl (addType sub) d)
  | [], _, h => h
  | t :: ts, _, h => foldl_addType_inv ts (addType_inv trans t h)

theorem addPrim_invQ
    {Q1 Q2 : Prim → Prop} {ds : Dicts} (p : Prim) (hp1 : p.kind = .prim → Q1 p) (hp2 : p.kind ≠ .prim → Q2 p)
    (h1 : DictInv sub Q1 ds.prims) (h2 : DictInv sub Q2 ds.terms) :
    DictInv sub Q1 (addPrim sub ds p).prims ∧ DictInv sub Q2 (addPrim sub ds p).terms := by
  unfold addPrim
  split
  · rename_i hk
    exact ⟨appendCompat_inv (foldl_addType_inv trans _ (addType_inv trans _ h1)) (hp1 hk),
      foldl_addType_inv trans _ (addType_inv trans _ h2)⟩
  · rename_i hk
    exact ⟨addType_inv trans _ h1, appendCompat_inv (addType_inv trans _ h2) (hp2 hk)⟩

theorem foldl_addPrim_invQ
    {Q1 Q2 : Prim → Prop} :
    ∀ (nodes : List Prim) (ds : Dicts), (∀ p ∈ nodes, (p.kind = .prim → Q1 p) ∧ (p.kind ≠ .prim → Q2 p)) →
    DictInv sub Q1 ds.prims → DictInv sub Q2 ds.terms →
    DictInv sub Q1 (nodes.foldl (addPrim sub) ds).prims ∧ DictInv sub Q2 (nodes.foldl (addPrim sub) ds).terms
  | [], _, _, h1, h2 => ⟨h1, h2⟩
  | p :: nodes, ds, hn, h1, h2 => by
    obtain ⟨h3, h4⟩ := addPrim_invQ trans p (hn p (by simp)).1 (hn p (by simp)).2 h1 h2
    exact foldl_addPrim_invQ nodes _ (fun q hq => hn q (by simp [hq])) h3 h4

theorem foldl_addPrim_get {Q1 Q2 : Prim → Prop} (nodes : List Prim)
    (hn : ∀ p ∈ nodes, (p.kind = .prim → Q1 p) ∧ (p.kind ≠ .prim → Q2 p)) (τ : Nat) (x : Prim) :
    (x ∈ dictGet (nodes.foldl (addPrim sub) ⟨[], []⟩).prims τ → sub x.ret τ = true ∧ Q1 x) ∧
    (x ∈ dictGet (nodes.foldl (addPrim sub) ⟨[], []⟩).terms τ → sub x.ret τ = true ∧ Q2 x) := by
  obtain ⟨h1, h2⟩ := foldl_addPrim_invQ trans nodes ⟨[], []⟩ hn (fun _ he => nomatch he) (fun _ he => nomatch he)
  constructor <;> intro hx <;> obtain ⟨e, he, rfl, hxe⟩ := dictGet_mem hx
  · exact h1 e he x hxe
  · exact h2 e he x hxe

end

def PoolExact (sub : Nat → Nat → Bool) (d : List (Nat × List Prim)) (S : List Prim) : Prop :=
  (∀ e ∈ d, ∀ x, x ∈ e.2 ↔ (x ∈ S ∧ sub x.ret e.1 = true)) ∧ (∀ x ∈ S, dictHas d x.ret = true)

theorem dictHas_iff {d : List (Nat × List Prim)} {τ : Nat} : dictHas d τ = true ↔ ∃ e ∈ d, e.1 = τ := by
  simp [dictHas]

theorem dictHas_addType {d : List (Nat × List Prim)} {τ σ : Nat}
    (h : dictHas d σ = true) : dictHas (addType sub d τ) σ = true := by
  unfold addType
  split
  · exact h
  · obtain ⟨e, he, rfl⟩ := dictHas_iff.1 h
    exact dictHas_iff.2 ⟨e, List.mem_append_left _ he, rfl⟩

theorem dictHas_addType_self (d : List (Nat × List Prim)) (τ : Nat) :
    dictHas (addType sub d τ) τ = true := by
  unfold addType
  split
  · assumption
  · exact dictHas_iff.2 ⟨_, List.mem_append_right _ (List.mem_singleton.2 rfl), rfl⟩

theorem dictHas_foldl_addType {σ : Nat} :
    ∀ (ts : List Nat) {d : List (Nat × List Prim)}, dictHas d σ = true → dictHas (ts.foldl (addType sub) d) σ = true
  | [], _, h => h
  | _ :: ts, _, h => dictHas_foldl_addType ts (dictHas_addType h)

theorem dictHas_appendCompat {d : List (Nat × List Prim)} {p : Prim} {σ : Nat} :
    dictHas (appendCompat sub d p) σ = dictHas d σ := by
  unfold appendCompat dictHas
  rw [List.any_map]
  congr 1
  funext e
  simp only [Function.comp]
  split <;> rfl

theorem appendCompat_exact {d : List (Nat × List Prim)} {S : List Prim} {p : Prim}
    (h : PoolExact sub d S) (hk : dictHas d p.ret = true) : PoolExact sub (appendCompat sub d p) (S ++ [p]) := by
  constructor
  · intro e he x
    obtain ⟨e0, he0, rfl⟩ := List.mem_map.1 he
    have h0 := h.1 e0 he0 x
    split <;> rcases Classical.em (x = p) with rfl | hx <;> simp [*]
  · intro x hx
    rw [dictHas_appendCompat]
    rcases List.mem_append.1 hx with hx | hx
    · exact h.2 x hx
    · simp only [List.mem_singleton] at hx; subst hx; exact hk

theorem dictGet_exact {d : List (Nat × List Prim)} {S : List Prim} {τ : Nat} (x : Prim)
    (h : PoolExact sub d S) (hk : dictHas d τ = true) :
    x ∈ dictGet d τ ↔ (x ∈ S ∧ sub x.ret τ = true) := by
  unfold dictGet
  split
  · rename_i e he
    have hm := List.mem_of_find?_eq_some he
    have hkey : e.1 = τ := by simpa using List.find?_some he
    rw [h.1 e hm x, hkey]
  · rename_i hn
    rw [List.find?_eq_none] at hn
    obtain ⟨e, he, rfl⟩ := dictHas_iff.1 hk
    exact absurd (by simp) (hn e he)

theorem replace_exact {d : List (Nat × List Prim)} {S : List Prim} (t t' : Prim)
    (hr : t'.ret = t.ret) (h : PoolExact sub d S) : PoolExact sub (replaceInDict t t' d) (replaceNode t t' S) := by
  have hret : ∀ y : Prim, (if y = t then t' else y).ret = y.ret := by
    intro y; split
    · rename_i e; rw [hr, e]
    · rfl
  constructor
  · intro e he x
    obtain ⟨e0, he0, rfl⟩ := List.mem_map.1 he
    simp only [replaceNode, List.mem_map]
    constructor
    · rintro ⟨y, hy, rfl⟩
      obtain ⟨a, b⟩ := (h.1 e0 he0 y).1 hy
      exact ⟨⟨y, a, rfl⟩, by rw [hret]; exact b⟩
    · rintro ⟨⟨y, hy, rfl⟩, b⟩
      exact ⟨y, (h.1 e0 he0 y).2 ⟨hy, by rw [hret] at b; exact b⟩, rfl⟩
  · intro x hx
    simp only [replaceNode, List.mem_map] at hx
    obtain ⟨y, hy, rfl⟩ := hx
    rw [hret]
    obtain ⟨e, he, hk⟩ := dictHas_iff.1 (h.2 y hy)
    exact dictHas_iff.2 ⟨(e.1, replaceNode t t' e.2), List.mem_map.2 ⟨e, he, rfl⟩, hk⟩

def PState.Exact (sub : Nat → Nat → Bool) (st : PState) : Prop :=
  PoolExact sub st.dicts.prims st.declPrims ∧ PoolExact sub st.dicts.terms st.declTerms

theorem empty_exact (sub : Nat → Nat → Bool) : PState.Exact sub PState.empty := by
  constructor <;> constructor <;> intro _ h <;> simp [PState.empty] at h

theorem renameLoop2_exact :
    ∀ (rn : List (String × Prim)) (st : PState), st.Exact sub → (renameLoop2 rn st).Exact sub
  | [], _, h => h
  | (new, t) :: rest, st, h => by
    apply renameLoop2_exact rest
    exact ⟨replace_exact t { t with text := new } rfl h.1, replace_exact t { t with text := new } rfl h.2⟩

section
variable (refl : ∀ a, sub a a = true) (trans : ∀ a b c, sub a b = true → sub b c = true → sub a c = true)
include refl trans

theorem addType_exact
    {d : List (Nat × List Prim)} {S : List Prim} (τ : Nat) (h : PoolExact sub d S) :
    PoolExact sub (addType sub d τ) S := by
  refine ⟨?_, fun x hx => dictHas_addType (h.2 x hx)⟩
  unfold addType
  split
  · exact h.1
  · intro e he x
    rcases List.mem_append.1 he with he | he
    · exact h.1 e he x
    · simp only [List.mem_singleton] at he
      subst he
      rw [mem_collect d []]
      constructor
      · rintro (h0 | ⟨e', he', h1, h2⟩)
        · simp at h0
        · obtain ⟨h3, h4⟩ := (h.1 e' he' x).1 h2
          exact ⟨h3, trans _ _ _ h4 h1⟩
      · rintro ⟨hxS, hxs⟩
        obtain ⟨e', he', hk⟩ := dictHas_iff.1 (h.2 x hxS)
        exact Or.inr ⟨e', he', by rw [hk]; exact hxs, (h.1 e' he' x).2 ⟨hxS, by rw [hk]; exact refl _⟩⟩

theorem foldl_addType_exact {S : List Prim} :
    ∀ (ts : List Nat) {d : List (Nat × List Prim)}, PoolExact sub d S → PoolExact sub (ts.foldl (addType sub) d) S
  | [], _, h => h
  | t :: ts, _, h => foldl_addType_exact ts (addType_exact refl trans t h)

theorem add_exact {st : PState} (p : Prim)
    (h : st.Exact sub) : (st.add sub p).Exact sub := by
  unfold PState.Exact PState.add addPrim
  split
  · exact ⟨appendCompat_exact (foldl_addType_exact refl trans _ (addType_exact refl trans _ h.1))
        (dictHas_foldl_addType _ (dictHas_addType_self _ _)),
      foldl_addType_exact refl trans _ (addType_exact refl trans _ h.2)⟩
  · exact ⟨addType_exact refl trans _ h.1,
      appendCompat_exact (addType_exact refl trans _ h.2) (dictHas_addType_self _ _)⟩

theorem initArgs_exact (pre : String) :
    ∀ (τs : List Nat) (i : Nat) (st : PState), st.Exact sub → (initArgs sub pre τs i st).Exact sub
  | [], _, _, h => h
  | τ :: τs, i, st, h => by
    apply initArgs_exact pre τs
    exact add_exact refl trans _ h

theorem init_exact (inTypes : List Nat) (pre : String) :
    (PState.init sub inTypes pre).Exact sub :=
  initArgs_exact refl trans pre inTypes 0 _ (empty_exact sub)

end

def MapOK (m : List (String × Prim)) : Prop := ∀ e ∈ m, e.2.kind = .eph → e.2.name = e.1 ∧ e.2.args = []

theorem dictLook_eq_lookup {β : Type} (d : List (String × β)) (k : String) : dictLook d k = d.lookup k := by
  induction d with
  | nil => rfl
  | cons e d ih =>
    obtain ⟨k', v⟩ := e
    simp only [dictLook, List.find?_cons, Dict.lookup_cons] at ih ⊢
    by_cases hk : k' = k
    · simp [hk]
    · have hb : (k' == k) = false := by simpa using hk
      simp only [hb, ih, if_neg (Ne.symm hk)]

theorem dictLook_mem {β : Type} {d : List (String × β)} {k : String} {v : β} (h : dictLook d k = some v) :
    (k, v) ∈ d := Dict.mem_of_lookup (dictLook_eq_lookup d k ▸ h)

theorem dictSet_mapOK {m : List (String × Prim)} {p : Prim} (h : MapOK m) (hp : p.kind = .eph → p.args = []) :
    MapOK (dictSet m p.name p) := by
  intro e he hk
  unfold dictSet at he
  split at he
  · obtain ⟨e0, he0, rfl⟩ := List.mem_map.1 he
    by_cases hc : (e0.1 == p.name) = true
    · rw [if_pos hc] at hk ⊢; exact ⟨rfl, hp hk⟩
    · rw [if_neg hc] at hk ⊢; exact h e0 he0 hk
  · rcases List.mem_append.1 he with he | he
    · exact h e he hk
    · simp only [List.mem_singleton] at he; subst he; exact ⟨rfl, hp hk⟩

/-- what one `_add` does to the ghost lists; nothing else does anything to them (but a renaming) -/
theorem add_decl (sub : Nat → Nat → Bool) (st : PState) (p : Prim) :
    (st.add sub p).declPrims = st.declPrims ++ [p].filter (fun x => decide (x.kind = .prim)) ∧
    (st.add sub p).declTerms = st.declTerms ++ [p].filter (fun x => !decide (x.kind = .prim)) ∧
    (st.add sub p).termsCount = st.termsCount ∧ (st.add sub p).primsCount = st.primsCount ∧
    (st.add sub p).arguments = st.arguments := by
  by_cases hk : p.kind = .prim <;> simp [PState.add, hk, List.filter]

/-- the step from `st` to `st'` handed exactly the node `p` to `_add`: the ghost list and the counter of its kind grow by
`p`, the other list, counter and the argument names stay, and `mapping` stays `MapOK` -/
def PlainStep (st st' : PState) (p : Prim) : Prop :=
    MapOK st'.mapping ∧
    st'.declPrims = st.declPrims ++ [p].filter (fun x => decide (x.kind = .prim)) ∧
    st'.declTerms = st.declTerms ++ [p].filter (fun x => !decide (x.kind = .prim)) ∧
    st'.primsCount = st.primsCount + ([p].filter (fun x => decide (x.kind = .prim))).length ∧
    st'.termsCount = st.termsCount + ([p].filter (fun x => !decide (x.kind = .prim))).length ∧
    st'.arguments = st.arguments

/-- what every declaration proper does: `_add`, a new `context`, the counter of the node's kind bumped -/
theorem plainStep_add (sub : Nat → Nat → Bool) {st : PState} (p : Prim) (hm : MapOK st.mapping)
    (hp : p.kind = .eph → p.args = []) (ctx : List (String × Nat)) :
    PlainStep st { st.add sub p with
      context := ctx
      primsCount := st.primsCount + ([p].filter (fun x => decide (x.kind = .prim))).length
      termsCount := st.termsCount + ([p].filter (fun x => !decide (x.kind = .prim))).length } p :=
  ⟨dictSet_mapOK hm hp, (add_decl sub st p).1, (add_decl sub st p).2.1, rfl, rfl, (add_decl sub st p).2.2.2.2⟩

@[reducible] def DeclStep (sub : Nat → Nat → Bool) (st st' : PState) (p : Prim) : Prop :=
  ((∀ a, sub a a = true) → (∀ a b c, sub a b = true → sub b c = true → sub a c = true) → st.Exact sub → st'.Exact sub) ∧
  (MapOK st.mapping → PlainStep st st' p)

theorem declStep_add {st : PState} (p : Prim) (hp : p.kind = .eph → p.args = []) (ctx : List (String × Nat)) :
    DeclStep sub st { st.add sub p with
      context := ctx
      primsCount := st.primsCount + ([p].filter (fun x => decide (x.kind = .prim))).length
      termsCount := st.termsCount + ([p].filter (fun x => !decide (x.kind = .prim))).length } p :=
  ⟨fun refl trans h => add_exact refl trans p h, fun hm => plainStep_add sub p hm hp ctx⟩

/-- under `MapOK` the class `addEphemeralConstant` registers is the node of the declaration, also when it is the one
already in `mapping` under that name -/
theorem ephClass_eq {m : List (String × Prim)} {name : String} {func ret : Nat} {c : Prim} (hm : MapOK m)
    (hc : ephClass m name func ret = some c) : c = ⟨name, ret, [], .eph, funcTag func⟩ := by
  unfold ephClass at hc
  split at hc
  · exact (Option.some.inj hc).symm
  · rename_i q hq
    split at hc
    · rename_i hcond
      cases Option.some.inj hc
      obtain ⟨hname, hargs⟩ := hm _ (dictLook_mem hq) hcond.1
      cases c
      simp_all
    · cases hc

theorem addPrimitive_step {st st' : PState} {name : String} {obj : Nat} {args : List Nat} {ret : Nat}
    (hs : addPrimitive sub st name obj args ret = some st') : DeclStep sub st st' ⟨name, ret, args, .prim, ""⟩ := by
  unfold addPrimitive at hs
  split at hs
  · cases hs
  · injection hs with hs; subst hs
    exact declStep_add _ (by intro h; cases h) _

theorem addTerminal_step {st st' : PState} {name : Option String} {obj : Nat} {v : TVal} {s r : String} {ret : Nat}
    (hs : addTerminal sub st name obj v s r ret = some st') :
    DeclStep sub st st' (match name with | some n => ⟨n, ret, [], .term, n⟩ | none => ⟨s, ret, [], .term, r⟩) := by
  unfold addTerminal at hs
  cases name with
  | some n =>
    simp only at hs
    split at hs
    · cases hs
    · injection hs with hs; subst hs
      exact declStep_add _ (by intro h; cases h) _
  | none =>
    injection hs with hs; subst hs
    exact declStep_add _ (by intro h; cases h) _

theorem addEphemeral_step {st st' : PState} {name : String} {func ret : Nat}
    (hs : addEphemeral sub st name func ret = some st') : DeclStep sub st st' ⟨name, ret, [], .eph, funcTag func⟩ := by
  unfold addEphemeral at hs
  split at hs
  · cases hs
  · rename_i c hc
    injection hs with hs; subst hs
    refine ⟨fun refl trans => add_exact refl trans _, fun hm => ?_⟩
    cases ephClass_eq hm hc
    exact plainStep_add sub _ hm (fun _ => rfl) _

/-- every declaration proper is one of the three `add…` methods on its node (`Decl.node`) -/
theorem stepDecl_node {st st' : PState} {d : Decl} {p : Prim}
    (hn : d.node = some p) (hs : stepDecl sub st d = some st') : DeclStep sub st st' p := by
  cases d with
  | prim name obj args ret => cases Option.some.inj hn; exact addPrimitive_step (name := name) hs
  | term name obj v s r ret =>
    simp only [stepDecl] at hs
    cases name <;> (cases Option.some.inj hn; exact addTerminal_step hs)
  | eph name func ret => cases Option.some.inj hn; exact addEphemeral_step (name := name) hs
  | adf name ins ret =>
    cases Option.some.inj hn
    cases Option.some.inj hs
    exact declStep_add _ (by intro h; cases h) _
  | uprim name obj arity =>
    cases Option.some.inj hn
    simp only [stepDecl] at hs
    split at hs
    · cases hs
    · exact addPrimitive_step hs
  | uterm name obj v s r =>
    simp only [stepDecl] at hs
    cases name <;> (cases Option.some.inj hn; exact addTerminal_step hs)
  | ueph name func => cases Option.some.inj hn; exact addEphemeral_step (name := name) hs
  | rename kargs => cases hn
  | touchP τ => cases hn
  | touchT τ => cases hn

/-- no read access to the pools in between the declarations -/
def NoTouch (ds : List Decl) : Prop := ∀ d ∈ ds, ∀ τ, d ≠ .touchP τ ∧ d ≠ .touchT τ

section
variable (refl : ∀ a, sub a a = true) (trans : ∀ a b c, sub a b = true → sub b c = true → sub a c = true)
include refl trans

theorem stepDecl_exact {st st' : PState} (d : Decl)
    (hd : ∀ τ, d ≠ .touchP τ ∧ d ≠ .touchT τ) (h : st.Exact sub) (hs : stepDecl sub st d = some st') :
    st'.Exact sub := by
  cases hn : d.node with
  | some p => exact (stepDecl_node hn hs).1 refl trans h
  | none =>
    cases d with
    | rename kargs =>
      simp only [stepDecl, renameArguments] at hs
      split at hs
      · cases hs
      · injection hs with hs; subst hs
        exact renameLoop2_exact _ _ h
    | touchP τ => exact absurd rfl (hd τ).1
    | touchT τ => exact absurd rfl (hd τ).2
    | term name _ _ _ _ _ => cases name <;> cases hn
    | uterm name _ _ _ _ => cases name <;> cases hn
    | _ => cases hn

theorem runDecls_exact :
    ∀ (ds : List Decl) (st st' : PState), NoTouch ds → st.Exact sub → runDecls sub st ds = some st' → st'.Exact sub
  | [], st, st', _, h, hs => by simp [runDecls] at hs; subst hs; exact h
  | d :: ds, st, st', hn, h, hs => by
    simp only [runDecls] at hs
    split at hs
    · cases hs
    · rename_i st1 h1
      exact runDecls_exact ds st1 st' (fun d' hd' => hn d' (List.mem_cons_of_mem _ hd'))
        (stepDecl_exact refl trans d (hn d (by simp)) h h1) hs

end

/-- only declarations proper: no renaming, no read access -/
def Plain (ds : List Decl) : Prop := ∀ d ∈ ds, d.node.isSome = true

theorem plain_noTouch {ds : List Decl} (h : Plain ds) : NoTouch ds := by
  intro d hd τ
  have := h d hd
  constructor <;> (intro e; subst e; simp [Decl.node] at this)

theorem runDecls_plain :
    ∀ (ds : List Decl) (st st' : PState), Plain ds → MapOK st.mapping → runDecls sub st ds = some st' →
    MapOK st'.mapping ∧
    st'.declPrims = st.declPrims ++ (ds.filterMap Decl.node).filter (fun x => decide (x.kind = .prim)) ∧
    st'.declTerms = st.declTerms ++ (ds.filterMap Decl.node).filter (fun x => !decide (x.kind = .prim)) ∧
    st'.primsCount = st.primsCount + ((ds.filterMap Decl.node).filter (fun x => decide (x.kind = .prim))).length ∧
    st'.termsCount = st.termsCount + ((ds.filterMap Decl.node).filter (fun x => !decide (x.kind = .prim))).length ∧
    st'.arguments = st.arguments
  | [], st, st', _, hm, hs => by simp [runDecls] at hs; subst hs; simp [hm]
  | d :: ds, st, st', hp, hm, hs => by
    simp only [runDecls] at hs
    split at hs
    · cases hs
    · rename_i st1 h1
      obtain ⟨p, hn⟩ := Option.isSome_iff_exists.1 (hp d (by simp))
      obtain ⟨m1, a1, b1, c1, d1, e1⟩ := (stepDecl_node hn h1).2 hm
      obtain ⟨m2, a2, b2, c2, d2, e2⟩ := runDecls_plain ds st1 st' (fun d' hd' => hp d' (List.mem_cons_of_mem _ hd')) m1 hs
      -- `p :: N` is `[p] ++ N`, and `filter` and `length` distribute over `++`
      rw [List.filterMap_cons_some hn, ← List.singleton_append, List.filter_append, List.filter_append,
        List.length_append, List.length_append, ← List.append_assoc, ← List.append_assoc, ← Nat.add_assoc, ← Nat.add_assoc]
      exact ⟨m2, by rw [a2, a1], by rw [b2, b1], by rw [c2, c1], by rw [d2, d1], by rw [e2, e1]⟩

theorem initArgs_decl (sub : Nat → Nat → Bool) (pre : String) :
    ∀ (τs : List Nat) (i : Nat) (st : PState), MapOK st.mapping →
      MapOK (initArgs sub pre τs i st).mapping ∧
      (initArgs sub pre τs i st).declPrims = st.declPrims ∧
      (initArgs sub pre τs i st).declTerms.length = st.declTerms.length + τs.length ∧
      (initArgs sub pre τs i st).primsCount = st.primsCount ∧
      (initArgs sub pre τs i st).termsCount = st.termsCount + τs.length ∧
      (∀ x ∈ (initArgs sub pre τs i st).declTerms, x ∈ st.declTerms ∨ x.kind = .term)
  | [], _, st, hm => ⟨hm, rfl, rfl, rfl, rfl, fun _ hx => Or.inl hx⟩
  | τ :: τs, i, st, hm => by
    simp only [initArgs]
    obtain ⟨m, a, b, c, d, e⟩ := initArgs_decl sub pre τs (i + 1)
      ({ (({ st with arguments := st.arguments ++ [pre ++ toString i] } : PState).add sub
          (argNode (pre ++ toString i) τ)) with termsCount := _ })
      (dictSet_mapOK hm (by intro h; cases h))
    refine ⟨m, ?_, ?_, ?_, ?_, ?_⟩
    · rw [a]; simp [PState.add, argNode]
    · rw [b]; simp [PState.add, argNode]; omega
    · rw [c]; simp [PState.add]
    · rw [d]; simp [PState.add]; omega
    · intro x hx
      rcases e x hx with h | h
      · simp [PState.add, argNode] at h
        rcases h with h | rfl
        · exact Or.inl h
        · exact Or.inr rfl
      · exact Or.inr h

theorem init_decl (sub : Nat → Nat → Bool) (inTypes : List Nat) (pre : String) :
    MapOK (PState.init sub inTypes pre).mapping ∧ (PState.init sub inTypes pre).declPrims = [] ∧
    (PState.init sub inTypes pre).declTerms.length = inTypes.length ∧ (PState.init sub inTypes pre).primsCount = 0 ∧
    (PState.init sub inTypes pre).termsCount = inTypes.length ∧ ∀ x ∈ (PState.init sub inTypes pre).declTerms, x.kind = .term := by
  obtain ⟨m, a, b, c, d, e⟩ := initArgs_decl sub pre inTypes 0 PState.empty (fun _ he => nomatch he)
  exact ⟨m, a, b.trans (Nat.zero_add _), c, d.trans (Nat.zero_add _), fun x hx => (e x hx).resolve_left (fun h => nomatch h)⟩

/-- `PrimitiveSet.addPrimitive` with arity 0 fails (`assert arity > 0`), so a history containing it has no result -/
theorem uprim_zero_fails (sub : Nat → Nat → Bool) :
    ∀ (st : PState) (ds : List Decl) (n : String) (o : Nat), Decl.uprim n o 0 ∈ ds → runDecls sub st ds ≠ some st'
  | _, [], _, _, h => by simp at h
  | st, d :: ds, n, o, h => by
    simp only [runDecls]
    rcases List.mem_cons.1 h with rfl | h
    · simp [stepDecl]
    · split
      · simp
      · exact uprim_zero_fails sub _ ds n o h

end GpTree
