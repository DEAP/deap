import DeapModel.Lemmas.C15HvCStair
/-!
C15 — the re-entered 3-D base case of `_hv.c`: one iteration of the main loop l.899-989 on an UNMARKED node with
everything a later re-entry reads (what happened to `domr`, `area`, `vol`, `ignore`, and which branch was taken) —
the statement; proved in `C15HvC3d` (`sweepBody_re`).
-/
namespace HvC
set_option linter.unusedVariables false
open Hypervolume

/-- **one iteration of the main loop on an unmarked node `pp`**: either the
tree successor weakly dominates `pp` (l.927-935: mark `2`, `domr := pp.z`, tree unchanged), or `pp` is linked and the
run of dominated predecessors is unlinked, each with `domr := pp.z` (l.937-987) -/
def SweepBodyRe_Statement : Prop :=
  ∀ (C : Cargo) (R : List ℚ) (tfuel pp : ℕ) (hyperv hypera : ℚ) (S : St),
    S.tree ≠ [] → S.tree.Nodup → 0 ∉ S.tree → pp ∉ S.tree → pp ≠ 0 →
    Stair (S.tree.map (item C)) → (item C pp).1 < rf R 0 → ¬ (2 : ℤ) ≤ ign S pp →
    hypera = hArea (rf R 0) (rf R 1) (S.tree.map (item C)) → S.tree.length < tfuel → 0 ≤ hgt C R S pp →
    ∃ r, sweepBody C R tfuel pp hyperv hypera S = some r ∧
      r.1 = hyperv + r.2.1 * hgt C R S pp ∧
      r.2.1 = hArea (rf R 0) (rf R 1) (r.2.2.tree.map (item C)) ∧
      PtrFrame S r.2.2 ∧
      r.2.2.tree ≠ [] ∧ r.2.2.tree.Nodup ∧ (∀ t ∈ r.2.2.tree, t = pp ∨ t ∈ S.tree) ∧
      Stair (r.2.2.tree.map (item C)) ∧
      (∀ q, (q = pp ∨ q ∈ S.tree) → ∃ t ∈ r.2.2.tree, (item C t).1 ≤ (item C q).1 ∧ (item C t).2 ≤ (item C q).2) ∧
      r.2.2.vol = HvSweep.tset S.vol pp 2 hyperv ∧ r.2.2.area = HvSweep.tset S.area pp 2 r.2.1 ∧
      (((∃ b ∈ S.tree, (item C b).1 ≤ (item C pp).1 ∧ (item C b).2 ≤ (item C pp).2) ∧ r.2.2.tree = S.tree ∧
          r.2.2.ignore = S.ignore.set pp 2 ∧ r.2.2.domr = S.domr.set pp (cg C pp 2)) ∨
       (r.2.2.ignore = S.ignore ∧ pp ∈ r.2.2.tree ∧ r.2.2.domr.length = S.domr.length ∧
          (∀ t ∈ S.tree, ¬ ((item C t).1 ≤ (item C pp).1 ∧ (item C t).2 ≤ (item C pp).2)) ∧
          (pp < S.domr.length → dr r.2.2 pp = rf R 2) ∧
          (∀ y, y ≠ pp → (y ∉ S.tree ∨ y ∈ r.2.2.tree) → dr r.2.2 y = dr S y) ∧
          (∀ a ∈ S.tree, a ∉ r.2.2.tree → (a < S.domr.length → dr r.2.2 a = cg C pp 2) ∧
             (item C pp).1 ≤ (item C a).1 ∧ (item C pp).2 ≤ (item C a).2 ∧ item C pp ≠ item C a)))

end HvC
