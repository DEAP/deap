/-
What is asked of every piece of code on the object heap (`toolbox.clone`, an operator
call, a loop of `varAnd`, an iteration of `varOr`) is one relation, `Eff`, closed under sequencing and under running two
pieces on disjoint arguments; `OpContract` says that an operator call is an `Eff`.  `LoopOut` adds what `varAnd` claims
position by position, `Vary` what the loops of C03 use.  At the end the decoder of the recorded `varOr` draws, one
iteration at a time (`draw1`, `decodeOr_succ`, `decodeOr_spec`), for `C02.decodeOr_length` and for `C02Gen`.
-/
import DeapModel.Core.Variation

namespace Variation

@[simp] theorem Heap.set_same (h : Heap) (o : Nat) (x : Obj) : h.set o x o = x := by
  simp [Heap.set]

@[simp] theorem Heap.set_other (h : Heap) (o p : Nat) (x : Obj) (hne : p ≠ o) : h.set o x p = h p := by
  simp [Heap.set, hne]

@[simp] theorem delFit_same_fit (h : Heap) (o : Nat) : (delFit h o o).fit = none := by
  simp [delFit]

theorem delFit_other (h : Heap) (o p : Nat) (hne : p ≠ o) : delFit h o p = h p := by
  simp [delFit, hne]

theorem delFit_genome (h : Heap) (o p : Nat) : (delFit h o p).genome = (h p).genome := by
  by_cases hp : p = o
  · subst hp; simp [delFit]
  · simp [delFit, hp]

theorem delFit_fit_none (h : Heap) (o p : Nat) (hn : (h p).fit = none) : (delFit h o p).fit = none := by
  by_cases hp : p = o
  · subst hp; simp
  · rw [delFit_other _ _ _ hp]; exact hn

@[simp] theorem clone_oid (s : St) (p : Nat) : (clone s p).2 = s.next := rfl
@[simp] theorem clone_next (s : St) (p : Nat) : (clone s p).1.next = s.next + 1 := rfl
@[simp] theorem clone_heap_new (s : St) (p : Nat) : (clone s p).1.heap s.next = s.heap p := by
  simp [clone]
theorem clone_heap_old (s : St) (p o : Nat) (ho : o ≠ s.next) : (clone s p).1.heap o = s.heap o := by
  simp [clone, ho]

variable {σ : Type} {ops : Ops σ}

/-- Code that was handed the objects `args` in heap `h` (oid counter `n`) ended with `h'`, `n'` and handed back `outs`. -/
structure Eff (h : Heap) (n : Nat) (args : List Nat) (h' : Heap) (n' : Nat) (outs : List Nat) : Prop where
  next_le : n ≤ n'
  frame : ∀ o, o < n → o ∉ args → h' o = h o
  mem : ∀ o ∈ outs, o ∈ args ∨ (n ≤ o ∧ o < n')
  nodup : outs.Nodup

namespace Eff
variable {h h1 h2 : Heap} {n n1 n2 : Nat} {A B O O1 O2 : List Nat}

theorem refl (h : Heap) (n : Nat) (hA : A.Nodup) : Eff h n A h n A :=
  ⟨Nat.le_refl _, fun _ _ _ => rfl, fun _ ho => Or.inl ho, hA⟩

theorem lt_next (e : Eff h n A h1 n1 O) (hA : ∀ x ∈ A, x < n) : ∀ o ∈ O, o < n1 := by
  intro o ho
  rcases e.mem o ho with c | c
  · have := hA o c; have := e.next_le; omega
  · exact c.2

theorem unchanged (e : Eff h n [] h1 n1 O) : ∀ o, o < n → h1 o = h o := fun o ho => e.frame o ho (by simp)

theorem fresh (e : Eff h n [] h1 n1 O) : ∀ o ∈ O, n ≤ o ∧ o < n1 := fun o ho => (e.mem o ho).resolve_left (by simp)

theorem sub (e : Eff h n A h1 n1 O) {O' : List Nat} (hs : O'.Sublist O) : Eff h n A h1 n1 O' :=
  ⟨e.next_le, e.frame, fun o ho => e.mem o (hs.subset ho), e.nodup.sublist hs⟩

theorem delFit (e : Eff h n A h1 n1 O) {o : Nat} (ho : o ∈ O) : Eff h n A (delFit h1 o) n1 O := by
  refine ⟨e.next_le, fun p hp hn => ?_, e.mem, e.nodup⟩
  have hpo : p ≠ o := fun c => (e.mem o ho).elim (fun d => hn (c ▸ d)) (fun d => by omega)
  rw [delFit_other _ _ _ hpo, e.frame p hp hn]

theorem trans (e1 : Eff h n A h1 n1 O1) (e2 : Eff h1 n1 B h2 n2 O2) (hB : ∀ b ∈ B, b ∈ A ∨ (n ≤ b ∧ b < n1)) :
    Eff h n A h2 n2 O2 where
  next_le := Nat.le_trans e1.next_le e2.next_le
  frame := fun o ho hn => by
    have := e1.next_le
    rw [e2.frame o (by omega) (fun hb => (hB o hb).elim hn (fun c => by omega)), e1.frame o ho hn]
  mem := fun o ho => by
    have := e1.next_le; have := e2.next_le
    rcases e2.mem o ho with hb | hb
    · exact (hB o hb).imp_right (fun c => ⟨c.1, by omega⟩)
    · exact Or.inr ⟨by omega, hb.2⟩
  nodup := e2.nodup

theorem append (e1 : Eff h n A h1 n1 O1) (e2 : Eff h1 n1 B h2 n2 O2) (hA : ∀ x ∈ A, x < n)
    (hB : ∀ x ∈ B, x < n ∧ x ∉ A) : Eff h n (A ++ B) h2 n2 (O1 ++ O2) where
  next_le := Nat.le_trans e1.next_le e2.next_le
  frame := fun o ho hn => by
    have := e1.next_le
    rw [List.mem_append, not_or] at hn
    rw [e2.frame o (by omega) hn.2, e1.frame o ho hn.1]
  mem := fun o ho => by
    have := e1.next_le; have := e2.next_le
    rcases List.mem_append.1 ho with c | c
    · exact (e1.mem o c).imp (List.mem_append_left _) (fun d => ⟨d.1, by omega⟩)
    · exact (e2.mem o c).imp (List.mem_append_right _) (fun d => ⟨by omega, d.2⟩)
  nodup := by
    refine List.nodup_append.2 ⟨e1.nodup, e2.nodup, ?_⟩
    intro x hx y hy hxy
    subst hxy
    have := e1.lt_next hA x hx
    rcases e2.mem x hy with d | d
    · rcases e1.mem x hx with c | c
      · exact (hB x d).2 c
      · have := (hB x d).1; omega
    · omega

end Eff

theorem clone_eff (s : St) (p : Nat) : Eff s.heap s.next [] (clone s p).1.heap (clone s p).1.next [(clone s p).2] :=
  ⟨by simp, fun o ho _ => clone_heap_old s p o (by omega), fun o ho => by simp at ho; simp [ho], by simp⟩

theorem OpContract.mate_eff (hc : OpContract ops) {t : σ} {h : Heap} {n a b : Nat} {r : MateRes σ}
    (hr : ops.mate t h n a b = r) (hab : a ≠ b) : Eff h n [a, b] r.heap r.next [r.fst, r.snd] := by
  subst hr
  refine ⟨hc.mate_next .., fun o ho hn => hc.mate_frame t h n a b o ?_ ?_ ho, fun o ho => ?_, ?_⟩
  · exact fun c => hn (by simp [c])
  · exact fun c => hn (by simp [c])
  · simp only [List.mem_cons, List.not_mem_nil, or_false] at ho ⊢
    rcases ho with rfl | rfl
    · simpa [or_assoc] using hc.mate_fst t h n a b
    · simpa [or_assoc] using hc.mate_snd t h n a b
  · simpa using hc.mate_distinct t h n a b hab

theorem OpContract.mutate_eff (hc : OpContract ops) {t : σ} {h : Heap} {n a : Nat} {r : MutRes σ}
    (hr : ops.mutate t h n a = r) : Eff h n [a] r.heap r.next [r.ret] := by
  subst hr
  refine ⟨hc.mutate_next .., fun o ho hn => hc.mutate_frame t h n a o (fun c => hn (by simp [c])) ho, fun o ho => ?_,
    by simp⟩
  simp only [List.mem_cons, List.not_mem_nil, or_false] at ho ⊢
  subst ho
  exact hc.mutate_ret t h n a

/-- `Eff` for a loop that puts one object back where each object of `l` stood (`touched k`: position `k` went through an
operator): a touched position ends without fitness, an untouched one holds the very object it held, unwritten. -/
structure LoopOut (h : Heap) (n : Nat) (l : List Nat) (h' : Heap) (n' : Nat) (off : List Nat) (touched : Nat → Bool) : Prop
    extends Eff h n l h' n' off where
  len : off.length = l.length
  pos : ∀ k a o, l[k]? = some a → off[k]? = some o →
    if touched k then (h' o).fit = none else o = a ∧ h' a = h a

namespace LoopOut
variable {h h1 h2 : Heap} {n n1 n2 : Nat} {l l1 l2 o1 o2 : List Nat} {f f1 f2 : Nat → Bool}

theorem refl (h : Heap) (n : Nat) (hl : l.Nodup) (hf : ∀ k, k < l.length → f k = false) : LoopOut h n l h n l f where
  toEff := Eff.refl h n hl
  len := rfl
  pos := fun k a o ha ho => by
    rw [ha, Option.some.injEq] at ho
    simp [hf k (List.getElem?_eq_some_iff.1 ha).1, ho]

theorem append (A : LoopOut h n l1 h1 n1 o1 f1) (B : LoopOut h1 n1 l2 h2 n2 o2 f2) (hnd : (l1 ++ l2).Nodup)
    (hl : ∀ x ∈ l1 ++ l2, x < n) (hf1 : ∀ k, k < l1.length → f k = f1 k) (hf2 : ∀ k, f (l1.length + k) = f2 k) :
    LoopOut h n (l1 ++ l2) h2 n2 (o1 ++ o2) f :=
  have hl1 : ∀ x ∈ l1, x < n := fun x hx => hl x (List.mem_append_left _ hx)
  have hl2 : ∀ x ∈ l2, x < n ∧ x ∉ l1 := fun x hx =>
    ⟨hl x (List.mem_append_right _ hx), fun c => (List.nodup_append.1 hnd).2.2 x c x hx rfl⟩
  { toEff := A.toEff.append B.toEff hl1 hl2
    len := by simp [A.len, B.len]
    pos := fun k a o ha ho => by
      have hle := A.next_le
      have keep : ∀ x, x < n1 → x ∉ l2 → h2 x = h1 x := B.frame
      by_cases hk : k < l1.length
      · rw [List.getElem?_append_left hk] at ha
        rw [List.getElem?_append_left (A.len ▸ hk)] at ho
        have ha1 : a < n1 ∧ a ∉ l2 :=
          ⟨by have := hl1 a (List.mem_of_getElem? ha); omega, fun c => (hl2 a c).2 (List.mem_of_getElem? ha)⟩
        have ho1 : o < n1 ∧ o ∉ l2 :=
          ⟨A.lt_next hl1 o (List.mem_of_getElem? ho), fun c => (A.mem o (List.mem_of_getElem? ho)).elim (hl2 o c).2
            (fun d => by have := (hl2 o c).1; omega)⟩
        have := A.pos k a o ha ho
        rw [hf1 k hk]
        cases hc : f1 k <;> simp only [hc, ↓reduceIte, Bool.false_eq_true] at this ⊢
        · exact ⟨this.1, by rw [keep a ha1.1 ha1.2, this.2]⟩
        · rwa [keep o ho1.1 ho1.2]
      · obtain ⟨j, rfl⟩ := Nat.exists_eq_add_of_le (Nat.le_of_not_lt hk)
        rw [List.getElem?_append_right (by omega), Nat.add_sub_cancel_left] at ha
        rw [List.getElem?_append_right (by rw [A.len]; omega), A.len, Nat.add_sub_cancel_left] at ho
        have := B.pos j a o ha ho
        have ha2 := hl2 a (List.mem_of_getElem? ha)
        rw [hf2 j]
        cases hc : f2 j <;> simp only [hc, ↓reduceIte, Bool.false_eq_true] at this ⊢
        · exact ⟨this.1, by rw [this.2, A.frame a ha2.1 ha2.2]⟩
        · exact this }

theorem trans (A : LoopOut h n l h1 n1 o1 f1) (B : LoopOut h1 n1 o1 h2 n2 o2 f2) :
    LoopOut h n l h2 n2 o2 (fun k => f1 k || f2 k) where
  toEff := A.toEff.trans B.toEff A.mem
  len := B.len.trans A.len
  pos := fun k a o ha ho => by
    have hk : k < o1.length := by rw [A.len]; exact (List.getElem?_eq_some_iff.1 ha).1
    have hB := B.pos k o1[k] o (List.getElem?_eq_getElem hk) ho
    have hA := A.pos k a o1[k] ha (List.getElem?_eq_getElem hk)
    cases h2k : f2 k <;> simp only [h2k, ↓reduceIte, Bool.false_eq_true, Bool.or_false, Bool.or_true] at hB ⊢
    · rw [hB.1]
      cases h1k : f1 k <;> simp only [h1k, ↓reduceIte, Bool.false_eq_true] at hA ⊢
      · exact ⟨hA.1, by rw [← hA.1, hB.2, hA.1, hA.2]⟩
      · rw [hB.2]; exact hA
    · exact hB

end LoopOut

/-- heap after `toolbox.mate(a, b)` and the two `del … .fitness.values` (lines 72-75) -/
def mateHeap (r : MateRes σ) : Heap := delFit (delFit r.heap r.fst) r.snd

theorem OpContract.mateCall (hc : OpContract ops) {t : σ} {h : Heap} {n a b : Nat} {r : MateRes σ}
    (hr : ops.mate t h n a b = r) (hab : a ≠ b) : LoopOut h n [a, b] (mateHeap r) r.next [r.fst, r.snd] (fun _ => true) where
  toEff := ((hc.mate_eff hr hab).delFit (by simp)).delFit (by simp)
  len := rfl
  pos := fun k _ o _ ho => by
    have : o = r.fst ∨ o = r.snd := by simpa using List.mem_of_getElem? ho
    rcases this with rfl | rfl
    · exact delFit_fit_none _ _ _ (by simp)
    · simp [mateHeap]

theorem OpContract.mutCall (hc : OpContract ops) {t : σ} {h : Heap} {n a : Nat} {r : MutRes σ}
    (hr : ops.mutate t h n a = r) : LoopOut h n [a] (delFit r.heap r.ret) r.next [r.ret] (fun _ => true) where
  toEff := (hc.mutate_eff hr).delFit (by simp)
  len := rfl
  pos := fun k _ o _ ho => by
    have : o = r.ret := by simpa using List.mem_of_getElem? ho
    simp [this]

theorem cloneAll_off (s : St) (pop : List Nat) : (cloneAll s pop).2 = List.range' s.next pop.length := by
  induction pop generalizing s with
  | nil => simp [cloneAll]
  | cons p ps ih => simp [cloneAll, ih, List.range'_succ]

theorem cloneAll_next (s : St) (pop : List Nat) : (cloneAll s pop).1.next = s.next + pop.length := by
  induction pop generalizing s with
  | nil => simp [cloneAll]
  | cons p ps ih => simp [cloneAll, ih]; omega

theorem cloneAll_eff (s : St) (pop : List Nat) :
    Eff s.heap s.next [] (cloneAll s pop).1.heap (cloneAll s pop).1.next (cloneAll s pop).2 := by
  induction pop generalizing s with
  | nil => exact Eff.refl _ _ List.nodup_nil
  | cons p ps ih => exact (clone_eff s p).append (ih (clone s p).1) (by simp) (by simp)

theorem cloneAll_copy (s : St) (pop : List Nat) (hpop : ∀ p ∈ pop, p < s.next) (k p : Nat)
    (hp : pop[k]? = some p) : (cloneAll s pop).1.heap (s.next + k) = s.heap p := by
  induction pop generalizing s k with
  | nil => simp at hp
  | cons q ps ih =>
    simp only [cloneAll]
    cases k with
    | zero =>
      cases hp
      rw [(cloneAll_eff _ ps).unchanged _ (by simp)]; simp
    | succ k =>
      have := ih (clone s q).1 (fun x hx => Nat.lt_succ_of_lt (hpop x (List.mem_cons_of_mem _ hx))) k hp
      rw [clone_next] at this
      have hlt := hpop p (List.mem_cons_of_mem _ (List.mem_of_getElem? hp))
      rw [show s.next + (k + 1) = s.next + 1 + k by omega, this, clone_heap_old s q p (by omega)]

/-- one visited pair of the crossover loop (lines 72-75) with decision `d`; `off` = the two list cells afterwards -/
def mateTurn (ops : Ops σ) (t : σ) (s : St) (a b : Nat) (d : Bool) : Res σ :=
  if d then
    let r := ops.mate t s.heap s.next a b
    ⟨r.tape, ⟨mateHeap r, r.next, s.log ++ [Ev.mate a b]⟩, [r.fst, r.snd]⟩
  else ⟨t, s, [a, b]⟩

@[simp] theorem mateLoop_nil (t : σ) (s : St) (ds : List Bool) : mateLoop ops t s [] ds = some ⟨t, s, []⟩ := by
  cases ds <;> rfl

@[simp] theorem mateLoop_single (t : σ) (s : St) (a : Nat) (ds : List Bool) :
    mateLoop ops t s [a] ds = some ⟨t, s, [a]⟩ := by
  cases ds <;> rfl

theorem mateLoop_cons (t : σ) (s : St) (a b : Nat) (rest : List Nat) (d : Bool) (ds : List Bool) :
    mateLoop ops t s (a :: b :: rest) (d :: ds) =
      (mateLoop ops (mateTurn ops t s a b d).tape (mateTurn ops t s a b d).st rest ds).map
        fun x => { x with off := (mateTurn ops t s a b d).off ++ x.off } := by
  cases d <;> simp only [mateLoop, mateTurn, mateHeap, if_true, Bool.false_eq_true, if_false] <;> split <;> simp [*]

theorem mateTurn_out (hc : OpContract ops) (t : σ) (s : St) {a b : Nat} (hab : a ≠ b) (d : Bool) :
    LoopOut s.heap s.next [a, b] (mateTurn ops t s a b d).st.heap (mateTurn ops t s a b d).st.next
      (mateTurn ops t s a b d).off (fun _ => d) := by
  cases d
  · exact LoopOut.refl _ _ (by simpa using hab) fun _ _ => rfl
  · exact hc.mateCall rfl hab

theorem wasMated_short (ds : List Bool) (n k : Nat) (hn : n < 2) : wasMated ds n k = false := by
  simp only [wasMated, Nat.div_eq_of_lt hn, Nat.not_lt_zero, decide_false, Bool.false_and]

theorem wasMated_succ2 (d : Bool) (ds : List Bool) (n k : Nat) :
    wasMated (d :: ds) (n + 2) (k + 2) = wasMated ds n k := by
  simp only [wasMated, Nat.add_div_right _ Nat.two_pos, List.getElem?_cons_succ, Nat.add_lt_add_iff_right]

theorem wasMated_head (d : Bool) (ds : List Bool) (n k : Nat) (hk : k < 2) :
    wasMated (d :: ds) (n + 2) k = d := by
  simp only [wasMated, Nat.div_eq_of_lt hk, Nat.add_div_right _ Nat.two_pos, Nat.zero_lt_succ, decide_true, Bool.true_and,
    List.getElem?_cons_zero]
  cases d <;> rfl

theorem mateLoop_spec (hc : OpContract ops) :
    ∀ (l : List Nat) (ds : List Bool) (t : σ) (s : St) (r : Res σ), l.Nodup → (∀ x ∈ l, x < s.next) →
      mateLoop ops t s l ds = some r →
      LoopOut s.heap s.next l r.st.heap r.st.next r.off (wasMated ds l.length)
  | [], ds, t, s, r, hnd, _, h => by
    cases (mateLoop_nil t s ds).symm.trans h
    exact LoopOut.refl _ _ hnd fun k _ => wasMated_short ds _ k (by simp)
  | [a], ds, t, s, r, hnd, _, h => by
    cases (mateLoop_single t s a ds).symm.trans h
    exact LoopOut.refl _ _ hnd fun k _ => wasMated_short ds _ k (by simp)
  | a :: b :: rest, [], t, s, r, _, _, h => by cases h
  | a :: b :: rest, d :: ds, t, s, r, hnd, hl, h => by
    have hnd2 := List.nodup_append.1 (show ([a, b] ++ rest).Nodup from hnd)
    rw [mateLoop_cons] at h
    obtain ⟨x, hx, rfl⟩ := Option.map_eq_some_iff.1 h
    have turn := mateTurn_out hc t s (by simpa using hnd2.1 : a ≠ b) d
    exact turn.append (mateLoop_spec hc rest ds _ _ x hnd2.2.1
        (fun y hy => Nat.lt_of_lt_of_le (hl y (List.mem_append_right [a, b] hy)) turn.next_le) hx)
      hnd hl (fun k hk => wasMated_head _ _ _ k hk)
      (fun k => Nat.add_comm .. ▸ wasMated_succ2 d ds rest.length k)

theorem mateTurn_length (t : σ) (s : St) (a b : Nat) (d : Bool) : (mateTurn ops t s a b d).off.length = 2 := by
  cases d <;> rfl

theorem mateLoop_length : ∀ (l : List Nat) (ds : List Bool) (t : σ) (s : St) (r : Res σ),
    mateLoop ops t s l ds = some r → r.off.length = l.length
  | [], ds, t, s, r, h => by cases (mateLoop_nil t s ds).symm.trans h; rfl
  | [a], ds, t, s, r, h => by cases (mateLoop_single t s a ds).symm.trans h; rfl
  | a :: b :: rest, [], t, s, r, h => by cases h
  | a :: b :: rest, d :: ds, t, s, r, h => by
    rw [mateLoop_cons] at h
    obtain ⟨x, hx, rfl⟩ := Option.map_eq_some_iff.1 h
    simp [mateLoop_length rest ds _ _ x hx, mateTurn_length]; omega

theorem mateLoop_isSome (ops : Ops σ) :
    ∀ (l : List Nat) (ds : List Bool) (t : σ) (s : St), l.length / 2 ≤ ds.length →
      (mateLoop ops t s l ds).isSome = true
  | [], ds, t, s, _ => by simp
  | [a], ds, t, s, _ => by simp
  | a :: b :: rest, [], t, s, h => by simp at h; omega
  | a :: b :: rest, d :: ds, t, s, h => by
    simp [mateLoop_cons, mateLoop_isSome ops rest ds _ _ (by simp at h; omega)]

/-- one index of the mutation loop (lines 78-80) with decision `d`; `off` = the list cell afterwards -/
def mutTurn (ops : Ops σ) (t : σ) (s : St) (a : Nat) (d : Bool) : Res σ :=
  if d then
    let r := ops.mutate t s.heap s.next a
    ⟨r.tape, ⟨delFit r.heap r.ret, r.next, s.log ++ [Ev.mutate a]⟩, [r.ret]⟩
  else ⟨t, s, [a]⟩

theorem mutLoop_cons (t : σ) (s : St) (a : Nat) (rest : List Nat) (d : Bool) (ds : List Bool) :
    mutLoop ops t s (a :: rest) (d :: ds) =
      (mutLoop ops (mutTurn ops t s a d).tape (mutTurn ops t s a d).st rest ds).map
        fun x => { x with off := (mutTurn ops t s a d).off ++ x.off } := by
  cases d <;> simp only [mutLoop, mutTurn, if_true, Bool.false_eq_true, if_false] <;> split <;> simp [*]

theorem mutTurn_out (hc : OpContract ops) (t : σ) (s : St) (a : Nat) (d : Bool) :
    LoopOut s.heap s.next [a] (mutTurn ops t s a d).st.heap (mutTurn ops t s a d).st.next
      (mutTurn ops t s a d).off (fun _ => d) := by
  cases d
  · exact LoopOut.refl _ _ (by simp) fun _ _ => rfl
  · exact hc.mutCall rfl

theorem mutLoop_spec (hc : OpContract ops) :
    ∀ (l : List Nat) (ds : List Bool) (t : σ) (s : St) (r : Res σ), l.Nodup → (∀ x ∈ l, x < s.next) →
      mutLoop ops t s l ds = some r →
      LoopOut s.heap s.next l r.st.heap r.st.next r.off (fun k => ds[k]? == some true)
  | [], ds, t, s, r, hnd, _, h => by
    cases h
    exact LoopOut.refl _ _ hnd (by simp)
  | a :: rest, [], t, s, r, _, _, h => by cases h
  | a :: rest, d :: ds, t, s, r, hnd, hl, h => by
    rw [mutLoop_cons] at h
    obtain ⟨x, hx, rfl⟩ := Option.map_eq_some_iff.1 h
    have turn := mutTurn_out hc t s a d
    exact turn.append (mutLoop_spec hc rest ds _ _ x (List.nodup_cons.1 hnd).2
        (fun y hy => Nat.lt_of_lt_of_le (hl y (List.mem_cons_of_mem a hy)) turn.next_le) hx)
      hnd hl
      (fun k hk => by simp [show k = 0 by simpa using hk]) (fun k => by simp [Nat.add_comm])

theorem mutLoop_isSome (ops : Ops σ) :
    ∀ (l : List Nat) (ds : List Bool) (t : σ) (s : St), l.length ≤ ds.length →
      (mutLoop ops t s l ds).isSome = true
  | [], ds, t, s, _ => rfl
  | a :: rest, [], t, s, h => by simp at h
  | a :: rest, d :: ds, t, s, h => by
    simp [mutLoop_cons, mutLoop_isSome ops rest ds _ _ (by simpa using h)]

theorem mutLoop_length_le : ∀ (l : List Nat) (ds : List Bool) (t : σ) (s : St) (r : Res σ),
    mutLoop ops t s l ds = some r → l.length ≤ ds.length
  | [], ds, t, s, r, _ => Nat.zero_le _
  | a :: rest, [], t, s, r, h => by cases h
  | a :: rest, d :: ds, t, s, r, h => by
    rw [mutLoop_cons] at h
    obtain ⟨x, hx, _⟩ := Option.map_eq_some_iff.1 h
    simpa using mutLoop_length_le rest ds _ _ x hx

theorem mutTurn_length (t : σ) (s : St) (a : Nat) (d : Bool) : (mutTurn ops t s a d).off.length = 1 := by
  cases d <;> rfl

theorem mutLoop_length : ∀ (l : List Nat) (ds : List Bool) (t : σ) (s : St) (r : Res σ),
    mutLoop ops t s l ds = some r → r.off.length = l.length
  | [], ds, t, s, r, h => by cases h; rfl
  | a :: rest, [], t, s, r, h => by cases h
  | a :: rest, d :: ds, t, s, r, h => by
    rw [mutLoop_cons] at h
    obtain ⟨x, hx, rfl⟩ := Option.map_eq_some_iff.1 h
    simp [mutLoop_length rest ds _ _ x hx, mutTurn_length]; omega

/-- `varAnd` is the crossover loop, then the mutation loop, over the clones -/
theorem varAnd_eq_some {t : σ} {s : St} {pop : List Nat} {mateD mutD : List Bool} {r : Res σ} :
    varAnd ops t s pop mateD mutD = some r ↔
      ∃ m, mateLoop ops t (cloneAll s pop).1 (cloneAll s pop).2 mateD = some m ∧ mutLoop ops m.tape m.st m.off mutD = some r := by
  simp only [varAnd]
  split
  · simp [*]
  · next m hm => simp [hm]

theorem varAnd_length {t : σ} {s : St} {pop : List Nat} {mateD mutD : List Bool} {r : Res σ}
    (h : varAnd ops t s pop mateD mutD = some r) : r.off.length = pop.length := by
  obtain ⟨m, hm, hr⟩ := varAnd_eq_some.1 h
  rw [mutLoop_length _ _ _ _ r hr, mateLoop_length _ _ _ _ m hm, cloneAll_off, List.length_range']

theorem varAnd_spec (hc : OpContract ops) {t : σ} {s : St} {pop : List Nat}
    {mateD mutD : List Bool} {r : Res σ} (h : varAnd ops t s pop mateD mutD = some r) :
    Eff s.heap s.next [] r.st.heap r.st.next r.off ∧ r.off.length = pop.length ∧
    ∀ k o, r.off[k]? = some o →
      if wasMated mateD pop.length k || mutD[k]? == some true then (r.st.heap o).fit = none
      else (∀ p ∈ pop, p < s.next) → ∀ p, pop[k]? = some p → r.st.heap o = s.heap p := by
  obtain ⟨m, hm, h⟩ := varAnd_eq_some.1 h
  have ec := cloneAll_eff s pop
  have hlen : (cloneAll s pop).2.length = pop.length := by simp [cloneAll_off]
  have L1 := mateLoop_spec hc _ _ _ _ m ec.nodup (ec.lt_next (by simp)) hm
  have L2 := mutLoop_spec hc _ _ _ _ r L1.nodup (L1.lt_next (ec.lt_next (by simp))) h
  have L := L1.trans L2
  refine ⟨ec.trans L.toEff (fun b hb => Or.inr (ec.fresh b hb)), L.len.trans hlen, fun k o ho => ?_⟩
  have hk : k < pop.length := by rw [← L.len.trans hlen]; exact (List.getElem?_eq_some_iff.1 ho).1
  have hck : (cloneAll s pop).2[k]? = some (s.next + k) := by simp [cloneAll_off, hk]
  have := L.pos k _ o hck ho
  rw [hlen] at this
  split
  · rwa [if_pos ‹_›] at this
  · rw [if_neg ‹_›] at this
    intro hpop p hp
    rw [this.1, this.2, cloneAll_copy s pop hpop k p hp]

/-- What the property says about one offspring `o` produced under choice `c`
(`h0` = heap before the call, `h'` = heap after it). -/
def OffSpec (pop : List Nat) (h0 h' : Heap) : Choice → Nat → Prop
  | .rep i, o => ∃ p, pop[i]? = some p ∧ h' o = h0 p
  | _, o => (h' o).fit = none

theorem OffSpec.congr {pop : List Nat} {h0 h1 h' h'' : Heap} {c : Choice} {o : Nat} (hs : OffSpec pop h0 h' c o)
    (ho : h'' o = h' o) (h01 : ∀ p ∈ pop, h1 p = h0 p) : OffSpec pop h1 h'' c o := by
  cases c
  case rep i =>
    obtain ⟨p, hp, e⟩ := hs
    exact ⟨p, hp, by rw [ho, e, h01 p (List.mem_of_getElem? hp)]⟩
  all_goals (show (h'' o).fit = none); rw [ho]; exact hs

theorem varOrStep_spec (hc : OpContract ops) (pop : List Nat) (t : σ) (s : St)
    (c : Choice) (t' : σ) (s' : St) (o : Nat) (h : varOrStep ops pop t s c = some (t', s', o)) :
    Eff s.heap s.next [] s'.heap s'.next [o] ∧ OffSpec pop s.heap s'.heap c o := by
  cases c <;> simp only [varOrStep] at h <;> split at h <;>
    simp only [Option.some.injEq, Prod.mk.injEq, reduceCtorEq] at h <;> obtain ⟨_, rfl, rfl⟩ := h
  · next p q _ _ _ =>
    have e := ((clone_eff s p).trans (clone_eff (clone s p).1 q) (by simp)).trans
      ((hc.mate_eff (t := t) rfl (a := s.next) (b := s.next + 1) (by omega)).delFit (List.mem_cons_self ..))
      (by simp; omega)
    exact ⟨e.sub (List.sublist_append_left [_] [_]), by simp [OffSpec]⟩
  · next p _ _ =>
    exact ⟨(clone_eff s p).trans ((hc.mutate_eff (t := t) rfl).delFit (List.mem_cons_self ..)) (by simp),
      by simp [OffSpec]⟩
  · next p hp _ => exact ⟨clone_eff s p, p, hp, by simp⟩

theorem varOrLoop_cons (pop : List Nat) (t : σ) (s : St) (c : Choice) (cs : List Choice) :
    varOrLoop ops pop t s (c :: cs) =
      (varOrStep ops pop t s c).bind fun y =>
        (varOrLoop ops pop y.1 y.2.1 cs).map fun x => { x with off := y.2.2 :: x.off } := by
  simp only [varOrLoop]
  split
  · simp [*]
  · next hy => simp only [hy, Option.bind_some]; split <;> simp [*]

theorem varOrLoop_spec (hc : OpContract ops) (pop : List Nat) :
    ∀ (cs : List Choice) (t : σ) (s : St) (r : Res σ), varOrLoop ops pop t s cs = some r →
      (∀ p ∈ pop, p < s.next) →
      Eff s.heap s.next [] r.st.heap r.st.next r.off ∧ r.off.length = cs.length ∧
      (∀ (k : Nat) c o, cs[k]? = some c → r.off[k]? = some o → OffSpec pop s.heap r.st.heap c o)
  | [], t, s, r, h, _ => by
    cases h
    exact ⟨Eff.refl _ _ List.nodup_nil, rfl, by simp⟩
  | c :: cs, t, s, r, h, hpop => by
    rw [varOrLoop_cons] at h
    obtain ⟨⟨t1, s1, o⟩, hstep, h⟩ := Option.bind_eq_some_iff.1 h
    obtain ⟨x, hx, rfl⟩ := Option.map_eq_some_iff.1 h
    obtain ⟨e1, sp1⟩ := varOrStep_spec hc pop t s c t1 s1 o hstep
    obtain ⟨e2, hlen, hidx⟩ := varOrLoop_spec hc pop cs t1 s1 x hx
      (fun p hp => Nat.lt_of_lt_of_le (hpop p hp) e1.next_le)
    refine ⟨e1.append e2 (by simp) (by simp), by simp [hlen], fun k c' o' hck hok => ?_⟩
    cases k with
    | zero =>
      simp only [List.getElem?_cons_zero, Option.some.injEq] at hck hok
      subst hck hok
      exact sp1.congr (e2.unchanged _ (e1.fresh _ (List.mem_cons_self ..)).2) (fun _ _ => rfl)
    | succ k =>
      simp only [List.getElem?_cons_succ] at hck hok
      exact (hidx k c' o' hck hok).congr rfl (fun p hp => (e1.unchanged p (hpop p hp)).symm)

/-- the positions a choice names lie inside a population of `n` members -/
def Choice.inRange (n : Nat) : Choice → Prop
  | .cx i j => i < n ∧ j < n
  | .mutn i => i < n
  | .rep i => i < n

theorem varOrLoop_isSome (ops : Ops σ) (pop : List Nat) :
    ∀ (cs : List Choice) (t : σ) (s : St), (∀ c ∈ cs, c.inRange pop.length) →
      (varOrLoop ops pop t s cs).isSome = true
  | [], t, s, _ => rfl
  | c :: cs, t, s, h => by
    have hstep : ∃ y, varOrStep ops pop t s c = some y := by
      have hc0 := h c (by simp)
      cases c with
      | cx i j => simp [varOrStep, List.getElem?_eq_getElem hc0.1, List.getElem?_eq_getElem hc0.2]
      | mutn i => simp [varOrStep, List.getElem?_eq_getElem (show i < pop.length from hc0)]
      | rep i => simp [varOrStep, List.getElem?_eq_getElem (show i < pop.length from hc0)]
    obtain ⟨y, hy⟩ := hstep
    simp [varOrLoop_cons, hy, varOrLoop_isSome ops pop cs _ _ fun c' hc' => h c' (by simp [hc'])]

theorem varOrLoop_length (pop : List Nat) : ∀ (cs : List Choice) (t : σ) (s : St) (r : Res σ),
    varOrLoop ops pop t s cs = some r → r.off.length = cs.length
  | [], t, s, r, h => by cases h; rfl
  | c :: cs, t, s, r, h => by
    rw [varOrLoop_cons] at h
    obtain ⟨y, _, h⟩ := Option.bind_eq_some_iff.1 h
    obtain ⟨x, hx, rfl⟩ := Option.map_eq_some_iff.1 h
    simp [varOrLoop_length pop cs _ _ x hx]

/-- `varOr` is its loop over exactly `lambda_` choices -/
theorem varOr_eq_some {t : σ} {s : St} {pop : List Nat} {lam : Nat} {choices : List Choice} {r : Res σ} :
    varOr ops t s pop lam choices = some r ↔ choices.length = lam ∧ varOrLoop ops pop t s choices = some r := by
  simp only [varOr]
  split <;> simp [*]

theorem varOr_length {t : σ} {s : St} {pop : List Nat} {lam : Nat} {choices : List Choice} {r : Res σ}
    (h : varOr ops t s pop lam choices = some r) : r.off.length = lam :=
  (varOrLoop_length pop _ _ _ r (varOr_eq_some.1 h).2).trans (varOr_eq_some.1 h).1

theorem varOr_spec (hc : OpContract ops) {t : σ} {s : St} {pop : List Nat} {lam : Nat} {choices : List Choice}
    {r : Res σ} (hpop : ∀ p ∈ pop, p < s.next) (h : varOr ops t s pop lam choices = some r) :
    choices.length = lam ∧ Eff s.heap s.next [] r.st.heap r.st.next r.off ∧ r.off.length = choices.length ∧
    (∀ (k : Nat) c o, choices[k]? = some c → r.off[k]? = some o → OffSpec pop s.heap r.st.heap c o) :=
  ⟨(varOr_eq_some.1 h).1, varOrLoop_spec hc pop _ _ _ _ (varOr_eq_some.1 h).2 hpop⟩

/-- `outs` were bred from the population `pop` of the heap `h`: they are new, nothing that existed is written, and each is
without fitness or an exact copy of a member of `pop`. -/
def Vary (h : Heap) (n : Nat) (pop : List Nat) (h' : Heap) (n' : Nat) (outs : List Nat) : Prop :=
  Eff h n [] h' n' outs ∧ ∀ o ∈ outs, (h' o).fit = none ∨ ∃ p ∈ pop, h' o = h p

theorem Vary.subset {h h' : Heap} {n n' : Nat} {pop O O' : List Nat} (v : Vary h n pop h' n' O) (hnd : O'.Nodup)
    (hs : ∀ o ∈ O', o ∈ O) : Vary h n pop h' n' O' :=
  ⟨⟨v.1.next_le, v.1.frame, fun o ho => v.1.mem o (hs o ho), hnd⟩, fun o ho => v.2 o (hs o ho)⟩

theorem Vary.append {h h1 h2 : Heap} {n n1 n2 : Nat} {pop O1 O2 : List Nat} (v1 : Vary h n pop h1 n1 O1)
    (v2 : Vary h1 n1 pop h2 n2 O2) (hpop : ∀ p ∈ pop, p < n) : Vary h n pop h2 n2 (O1 ++ O2) := by
  refine ⟨v1.1.append v2.1 (by simp) (by simp), fun o ho => ?_⟩
  rcases List.mem_append.1 ho with c | c
  · rw [v2.1.unchanged o (v1.1.fresh o c).2]; exact v1.2 o c
  · exact (v2.2 o c).imp_right fun ⟨p, hp, e⟩ => ⟨p, hp, by rw [e, v1.1.unchanged p (hpop p hp)]⟩

theorem varOr_vary (hc : OpContract ops) {t : σ} {s : St} {pop : List Nat} {lam : Nat} {choices : List Choice}
    {r : Res σ} (hpop : ∀ p ∈ pop, p < s.next) (h : varOr ops t s pop lam choices = some r) :
    Vary s.heap s.next pop r.st.heap r.st.next r.off := by
  obtain ⟨_, e, hlen, hidx⟩ := varOr_spec hc hpop h
  refine ⟨e, fun o ho => ?_⟩
  obtain ⟨k, hk, rfl⟩ := List.mem_iff_getElem.1 ho
  have sp := hidx k _ _ (List.getElem?_eq_getElem (hlen ▸ hk)) (List.getElem?_eq_getElem hk)
  cases hc' : choices[k]'(hlen ▸ hk) <;> rw [hc'] at sp
  case rep i => exact Or.inr (sp.imp fun p hp => ⟨List.mem_of_getElem? hp.1, hp.2⟩)
  all_goals exact Or.inl sp

theorem varAnd_vary (hc : OpContract ops) {t : σ} {s : St} {pop chosen : List Nat} {mateD mutD : List Bool}
    {r : Res σ} (hsub : ∀ p ∈ chosen, p ∈ pop) (hpop : ∀ p ∈ pop, p < s.next)
    (h : varAnd ops t s chosen mateD mutD = some r) : Vary s.heap s.next pop r.st.heap r.st.next r.off := by
  obtain ⟨e, hlen, hidx⟩ := varAnd_spec hc h
  refine ⟨e, fun o ho => ?_⟩
  obtain ⟨k, hk, rfl⟩ := List.mem_iff_getElem.1 ho
  have := hidx k _ (List.getElem?_eq_getElem hk)
  split at this
  · exact Or.inl this
  · exact Or.inr ⟨_, hsub _ (List.getElem_mem (hlen ▸ hk)),
      this (fun p hp => hpop p (hsub p hp)) _ (List.getElem?_eq_getElem (hlen ▸ hk))⟩

/-- the draws of one `varOr` iteration (`random()`, then `sample` or `choice`) decoded: the choice and the rest of the tape -/
def draw1 (cxpb mutpb : Float) : List Draw → Option (Choice × List Draw)
  | Draw.rnd r :: rest =>
    match branch r cxpb mutpb, rest with
    | 0, Draw.sample i j :: rest' => if i = j then none else some (Choice.cx i j, rest')
    | 1, Draw.choice i :: rest' => some (Choice.mutn i, rest')
    | 2, Draw.choice i :: rest' => some (Choice.rep i, rest')
    | _, _ => none
  | _ => none

theorem decodeOr_succ (cxpb mutpb : Float) (n : Nat) (draws : List Draw) :
    decodeOr cxpb mutpb (n + 1) draws =
      (draw1 cxpb mutpb draws).bind fun y => (decodeOr cxpb mutpb n y.2).map (y.1 :: ·) := by
  rw [decodeOr.eq_def]
  rcases draws with _ | ⟨_ | _ | _, rest⟩ <;> try rfl
  dsimp only [draw1]
  generalize branch _ cxpb mutpb = b
  rcases b with _ | _ | _ | b <;> rcases rest with _ | ⟨_ | _ | _, _⟩ <;> first | rfl | (simp only []; split <;> rfl)

theorem draw1_cx {cxpb mutpb : Float} {draws rest : List Draw} {i j : Nat}
    (h : draw1 cxpb mutpb draws = some (Choice.cx i j, rest)) : i ≠ j := by
  unfold draw1 at h
  repeat' split at h
  all_goals cases h
  assumption

theorem decodeOr_spec (cxpb mutpb : Float) : ∀ (lam : Nat) (draws : List Draw) (cs : List Choice),
    decodeOr cxpb mutpb lam draws = some cs → cs.length = lam ∧ ∀ i j, Choice.cx i j ∈ cs → i ≠ j
  | 0, [], cs, h => by cases h; simp
  | 0, _ :: _, cs, h => by cases h
  | n + 1, draws, cs, h => by
    rw [decodeOr_succ] at h
    obtain ⟨y, hy, h⟩ := Option.bind_eq_some_iff.1 h
    obtain ⟨cs', hcs', rfl⟩ := Option.map_eq_some_iff.1 h
    obtain ⟨hl, hd⟩ := decodeOr_spec cxpb mutpb n _ cs' hcs'
    refine ⟨by simp [hl], fun i j hm => ?_⟩
    rcases List.mem_cons.1 hm with e | e
    · exact draw1_cx (rest := y.2) (by rw [hy, e])
    · exact hd i j e

end Variation
