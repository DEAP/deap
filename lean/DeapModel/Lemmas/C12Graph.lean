/-
Helper lemmas for C12: `gp.graph` (`Core/GpGraph.lean`) — the stack loop computes the parent → child relation.
-/
import DeapModel.Lemmas.C11Span
import DeapModel.Core.GpGraph

namespace GpTree

theorem popDone_succ (j r : Nat) (st : List (Nat × Nat)) : popDone ((j, r + 1) :: st) = (j, r + 1) :: st := by
  simp [popDone]

theorem popDone_zero (j : Nat) (st : List (Nat × Nat)) : popDone ((j, 0) :: st) = popDone st := by
  simp [popDone]

mutual
/-- one subtree: the loop emits the edge from the frame on top of the stack (if any), then the edges inside the
subtree, and goes on behind it with that frame decremented (and popped when it is complete) -/
theorem graphLoop_tree : ∀ (t : Tree) (rest : List Prim) (i : Nat) (st : List (Nat × Nat)), wf t = true →
    graphLoop (flatten t ++ rest) i st =
      edgeTo st i ++ (edgesT i t ++ graphLoop rest (i + t.size) (popDone (decTop st)))
  | .node p as, rest, i, st, hw => by
    simp only [wf, Bool.and_eq_true, beq_iff_eq] at hw
    simp only [flatten, List.cons_append, graphLoop, edgesT, Tree.size]
    rw [← hw.1, graphLoop_forest as rest (i + 1) i (decTop st) hw.2]
    simp [Nat.add_assoc, Nat.add_comm 1]
theorem graphLoop_forest : ∀ (as : List Tree) (rest : List Prim) (o par : Nat) (st : List (Nat × Nat)),
    wfF as = true →
    graphLoop (flattenF as ++ rest) o (popDone ((par, as.length) :: st)) =
      edgesF par o as ++ graphLoop rest (o + sizeF as) (popDone st)
  | [], rest, o, par, st, _ => by
    simp [flattenF, edgesF, sizeF, popDone_zero]
  | a :: as, rest, o, par, st, hw => by
    simp only [wfF, Bool.and_eq_true] at hw
    simp only [flattenF, List.append_assoc, List.length_cons, popDone_succ, edgesF, sizeF]
    rw [graphLoop_tree a (flattenF as ++ rest) o _ hw.1]
    simp only [edgeTo, decTop, Nat.add_sub_cancel, List.cons_append, List.nil_append]
    rw [graphLoop_forest as rest (o + a.size) par st hw.2]
    simp [Nat.add_assoc]
end

theorem graphEdges_flatten (t : Tree) (hw : wf t = true) : graphEdges (flatten t) = edgesT 0 t := by
  have := graphLoop_tree t [] 0 [] hw
  simpa [graphEdges, edgeTo, graphLoop] using this

mutual
theorem edgesT_snd : ∀ (o : Nat) (t : Tree), (edgesT o t).map Prod.snd = List.range' (o + 1) (t.size - 1)
  | o, .node p as => by
    simp only [edgesT, Tree.size]
    rw [edgesF_snd o (o + 1) as]
    congr 1; omega
theorem edgesF_snd : ∀ (par o : Nat) (ts : List Tree), (edgesF par o ts).map Prod.snd = List.range' o (sizeF ts)
  | _, _, [] => by simp [edgesF, sizeF]
  | par, o, t :: ts => by
    simp only [edgesF, sizeF, List.map_cons, List.map_append]
    rw [edgesT_snd o t, edgesF_snd par (o + t.size) ts]
    have hp := size_pos t
    obtain ⟨k, hk⟩ : ∃ k, t.size = k + 1 := ⟨t.size - 1, by omega⟩
    rw [hk, ← List.range'_append_1 (s := o) (m := k + 1) (n := sizeF ts), List.range'_succ, Nat.add_sub_cancel,
      List.cons_append]
end

theorem subAt_lt (t : Tree) (i : Nat) (s : Tree) (h : subAt t i = some s) : i < t.size := by
  obtain ⟨pre, post, e, hl⟩ := subAt_decomp t i s h
  have := congrArg List.length e
  simp [flatten_length] at this
  have := size_pos s
  omega

/-- `j` is the index of a child of the node with index `i` in the tree `t` (indices in prefix order, root = 0):
the subtree rooted at `i` is `s`, its children start at `i + 1`, each one behind the previous child's subtree -/
def IsChild (t : Tree) (i j : Nat) : Prop :=
  ∃ s, subAt t i = some s ∧ j ∈ childRoots (i + 1) s.children

mutual
theorem mem_edgesT : ∀ (o : Nat) (t : Tree) (i j : Nat),
    (i, j) ∈ edgesT o t ↔ o ≤ i ∧ ∃ s, subAt t (i - o) = some s ∧ j ∈ childRoots (i + 1) s.children
  | o, .node p as, i, j => by
    simp only [edgesT]
    rw [mem_edgesF o (o + 1) as i j]
    constructor
    · rintro (⟨rfl, hj⟩ | ⟨hle, s, hs, hj⟩)
      · exact ⟨Nat.le_refl _, .node p as, by simp [subAt], by simpa [Tree.children] using hj⟩
      · refine ⟨by omega, s, ?_, hj⟩
        simp only [subAt]
        rw [if_neg (by omega)]
        have : i - o - 1 = i - (o + 1) := by omega
        rw [this]; exact hs
    · rintro ⟨hle, s, hs, hj⟩
      simp only [subAt] at hs
      split at hs
      · have : i = o := by omega
        subst this
        simp at hs; subst hs
        exact Or.inl ⟨rfl, by simpa [Tree.children] using hj⟩
      · refine Or.inr ⟨by omega, s, ?_, hj⟩
        have : i - (o + 1) = i - o - 1 := by omega
        rw [this]; exact hs
theorem mem_edgesF : ∀ (par o : Nat) (ts : List Tree) (i j : Nat),
    (i, j) ∈ edgesF par o ts ↔
      (i = par ∧ j ∈ childRoots o ts) ∨
      (o ≤ i ∧ ∃ s, subAtF ts (i - o) = some s ∧ j ∈ childRoots (i + 1) s.children)
  | par, o, [], i, j => by simp [edgesF, childRoots, subAtF]
  | par, o, t :: ts, i, j => by
    simp only [edgesF, List.mem_cons, List.mem_append, Prod.mk.injEq, childRoots]
    rw [mem_edgesT o t i j, mem_edgesF par (o + t.size) ts i j]
    constructor
    · rintro (⟨rfl, rfl⟩ | ⟨hle, s, hs, hj⟩ | ⟨rfl, hj⟩ | ⟨hle, s, hs, hj⟩)
      · exact Or.inl ⟨rfl, Or.inl rfl⟩
      · refine Or.inr ⟨hle, s, ?_, hj⟩
        simp only [subAtF]
        rw [if_pos (subAt_lt t _ s hs)]; exact hs
      · exact Or.inl ⟨rfl, Or.inr hj⟩
      · refine Or.inr ⟨by omega, s, ?_, hj⟩
        simp only [subAtF]
        rw [if_neg (by omega)]
        have : i - o - t.size = i - (o + t.size) := by omega
        rw [this]; exact hs
    · rintro (⟨rfl, rfl | hj⟩ | ⟨hle, s, hs, hj⟩)
      · exact Or.inl ⟨rfl, rfl⟩
      · exact Or.inr (Or.inr (Or.inl ⟨rfl, hj⟩))
      · simp only [subAtF] at hs
        split at hs
        · exact Or.inr (Or.inl ⟨hle, s, hs, hj⟩)
        · refine Or.inr (Or.inr (Or.inr ⟨by omega, s, ?_, hj⟩))
          have : i - (o + t.size) = i - o - t.size := by omega
          rw [this]; exact hs
end

end GpTree
