/-
C09 — list facts under the crossover / mutation models of `Core/CrossMut.lean`: swaps, slice exchange and slice
assignment preserve lengths and the multiset of genes; a loop that touches one position per iteration is read off
position by position (`genesAt`, `swapLoop`); the cut-point guards (`…Ok`) give the inequalities the slices need.
Then the predicate `Locus` (each locus of the children holds the two parental genes of that locus), the closed form of
`mutUniformInt` (`boundAt`, `writeDraw`, `mutUniformInt_some`) and, in the namespace `GenCL` of the translator tie, the
loop of `mutFlipBit` as a fold of its body `flipStep`.
-/
import DeapModel.Core.CrossMut
import Mathlib.Data.List.Perm.Subperm
import Mathlib.Data.List.Nodup
import Mathlib.Data.List.Range

namespace C09L
open CrossMut

variable {α : Type}

/-- `List.count_set` without truncated subtraction -/
theorem count_set_add [DecidableEq α] (l : List α) (i : Nat) (a z : α) (h : i < l.length) :
    (l.set i a).count z + (if l[i] = z then 1 else 0) = l.count z + (if a = z then 1 else 0) := by
  have hp : 0 < l.count l[i] := List.count_pos_iff.2 (List.getElem_mem h)
  rw [List.count_set h]
  simp only [beq_iff_eq]
  by_cases e : l[i] = z
  · rw [e] at hp; simp only [e, if_true]; omega
  · simp only [e, if_false]; omega

theorem set_set_append_perm [DecidableEq α] (a b : List α) (i j : Nat) (hi : i < a.length) (hj : j < b.length) :
    (a.set i b[j] ++ b.set j a[i]).Perm (a ++ b) := by
  rw [List.perm_iff_count]
  intro z
  have h1 := count_set_add a i b[j] z hi
  have h2 := count_set_add b j a[i] z hj
  simp only [List.count_append]
  omega

theorem pySwap?_eq_some_iff (l out : List α) (i j : Nat) :
    pySwap? l i j = some out ↔ ∃ (hi : i < l.length) (hj : j < l.length), out = (l.set i l[j]).set j l[i] := by
  unfold pySwap?
  by_cases hj : j < l.length <;> by_cases hi : i < l.length <;> simp [hi, hj, eq_comm]

theorem pySwap?_perm (l out : List α) (i j : Nat) (h : pySwap? l i j = some out) : out.Perm l := by
  obtain ⟨hi, hj, rfl⟩ := (pySwap?_eq_some_iff l out i j).1 h
  exact List.set_set_perm hi hj

theorem pySwap?_length (l out : List α) (i j : Nat) (h : pySwap? l i j = some out) : out.length = l.length := by
  obtain ⟨_, _, rfl⟩ := (pySwap?_eq_some_iff l out i j).1 h
  rw [List.length_set, List.length_set]

theorem shuffleStep_some (size : Nat) (l out : List α) (id : Nat × Option Nat)
    (h : shuffleStep size (some l) id = some out) : out = l ∨ ∃ i j, pySwap? l i j = some out := by
  obtain ⟨k, _ | s⟩ := id
  · exact Or.inl (Option.some.inj h).symm
  · simp only [shuffleStep] at h
    split at h
    · exact Or.inr ⟨_, _, h⟩
    · cases h

theorem shuffleStep_length (size : Nat) (l out : List α) (id : Nat × Option Nat)
    (h : shuffleStep size (some l) id = some out) : out.length = l.length := by
  rcases shuffleStep_some size l out id h with rfl | ⟨i, j, hs⟩
  · rfl
  · exact pySwap?_length l out i j hs

theorem foldl_shuffleStep_none (size : Nat) (l : List (Nat × Option Nat)) :
    l.foldl (shuffleStep (α := α) size) none = none := by
  induction l with
  | nil => rfl
  | cons x t ih => simpa [List.foldl, shuffleStep] using ih

theorem swapAt2_of_lt (i : Nat) (p : List α × List α) (h1 : i < p.1.length) (h2 : i < p.2.length) :
    swapAt2 i p = (p.1.set i p.2[i], p.2.set i p.1[i]) := by
  simp only [swapAt2, List.getElem?_eq_getElem h1, List.getElem?_eq_getElem h2]

theorem swapAt2_of_not_lt (i : Nat) (p : List α × List α) (h : ¬ (i < p.1.length ∧ i < p.2.length)) :
    swapAt2 i p = p := by
  unfold swapAt2
  split
  · next y x hy hx =>
    exact absurd ⟨(List.getElem?_eq_some_iff.1 hx).1, (List.getElem?_eq_some_iff.1 hy).1⟩ h
  · rfl

theorem swapAt2_perm [DecidableEq α] (i : Nat) (p : List α × List α) :
    ((swapAt2 i p).1 ++ (swapAt2 i p).2).Perm (p.1 ++ p.2) := by
  by_cases h : i < p.1.length ∧ i < p.2.length
  · rw [swapAt2_of_lt i p h.1 h.2]; exact set_set_append_perm p.1 p.2 i i h.1 h.2
  · rw [swapAt2_of_not_lt i p h]

theorem swapAt2_length (i : Nat) (p : List α × List α) :
    (swapAt2 i p).1.length = p.1.length ∧ (swapAt2 i p).2.length = p.2.length := by
  unfold swapAt2; split <;> simp

theorem decisions_length {ρ : Type} [LT ρ] [DecidableLT ρ] (indpb : ρ) (rs : List ρ) :
    (decisions indpb rs).length = rs.length := List.length_map _

theorem decisions_getD {ρ : Type} [LT ρ] [DecidableLT ρ] (indpb : ρ) (rs : List ρ) (j : Nat) (hj : j < rs.length) :
    (decisions indpb rs)[j]?.getD false = decide (rs[j] < indpb) := by
  rw [decisions, List.getElem?_map, List.getElem?_eq_getElem hj]; rfl

theorem foldl_get_untouched {β ι δ : Type} (get : β → Nat → δ) (idx : ι → Nat) (step : β → ι → β)
    (hstep : ∀ b x j, j ≠ idx x → get (step b x) j = get b j)
    (ids : List ι) (b : β) (j : Nat) (hj : ∀ x ∈ ids, j ≠ idx x) : get (ids.foldl step b) j = get b j := by
  induction ids generalizing b with
  | nil => rfl
  | cons x xs ih =>
    rw [List.foldl_cons, ih _ (fun y hy => hj y (List.mem_cons_of_mem _ hy)), hstep b x j (hj x List.mem_cons_self)]

/-- a loop `for i, d in zip(range(s, s+n), ds)` whose iteration `(i, d)` changes what the state shows at
position `i` by `φ i d` and nothing else: position `s + k` is changed once, by `φ (s + k) ds[k]` -/
theorem foldl_zip_range'_get {β γ δ : Type} (get : β → Nat → δ) (step : β → Nat × γ → β) (φ : Nat → γ → δ → δ)
    (hstep : ∀ b i d j, get (step b (i, d)) j = if j = i then φ i d (get b j) else get b j)
    (ds : List γ) (s n : Nat) (b : β) (k : Nat) (d : γ) (hk : k < n) (hd : ds[k]? = some d) :
    get (((List.range' s n).zip ds).foldl step b) (s + k) = φ (s + k) d (get b (s + k)) := by
  induction ds generalizing s n b k with
  | nil => cases hd
  | cons d0 ds ih =>
    cases n with
    | zero => omega
    | succ n =>
      rw [List.range'_succ, List.zip_cons_cons, List.foldl_cons]
      cases k with
      | zero =>
        cases hd
        show get _ s = φ s d (get b s)
        rw [foldl_get_untouched get Prod.fst step (fun b x j hj => by rw [hstep, if_neg hj]), hstep, if_pos rfl]
        intro x hx
        have := (List.mem_range'_1.1 (List.of_mem_zip hx).1).1
        omega
      | succ k =>
        rw [show s + (k + 1) = s + 1 + k by omega, ih (s + 1) n _ k (by omega) hd, hstep, if_neg (by omega)]

theorem foldl_zip_range'_untouched {β γ δ : Type} (get : β → Nat → δ) (step : β → Nat × γ → β) (φ : Nat → γ → δ → δ)
    (hstep : ∀ b i d j, get (step b (i, d)) j = if j = i then φ i d (get b j) else get b j)
    (ds : List γ) (s n : Nat) (b : β) (j : Nat) (hj : j < s ∨ s + n ≤ j) :
    get (((List.range' s n).zip ds).foldl step b) j = get b j := by
  refine foldl_get_untouched get Prod.fst step (fun b x j hj => by rw [hstep, if_neg hj]) _ b j ?_
  intro x hx
  have := List.mem_range'_1.1 (List.of_mem_zip hx).1
  omega

/-- `i in range(s, e)` -/
theorem mem_range'_sub {s e i : Nat} (h : i ∈ List.range' s (e - s)) : s ≤ i ∧ i < e := by
  have := List.mem_range'_1.1 h
  omega

theorem split3 (a : List α) (x y : Nat) (h : x ≤ y) : a = a.take x ++ (a.take y).drop x ++ a.drop y := by
  have h1 : a.take x = (a.take y).take x := by rw [List.take_take]; congr 1; omega
  rw [h1, List.take_append_drop, List.take_append_drop]

theorem tails_exchange_perm [DecidableEq α] (a b : List α) (c1 c2 : Nat) :
    (a.take c1 ++ b.drop c2 ++ (b.take c2 ++ a.drop c1)).Perm (a ++ b) := by
  rw [List.perm_iff_count]
  intro z
  have ea := congrArg (List.count z) (List.take_append_drop c1 a)
  have eb := congrArg (List.count z) (List.take_append_drop c2 b)
  simp only [List.count_append] at ea eb ⊢
  omega

theorem mutInversion_eq (l : List α) (i1 i2 : Nat) :
    mutInversion l i1 i2 = l.take (min i1 i2) ++ ((l.take (max i1 i2)).drop (min i1 i2)).reverse ++ l.drop (max i1 i2) := by
  unfold mutInversion
  split
  · next h0 => rw [List.eq_nil_of_length_eq_zero h0, List.take_nil, List.take_nil, List.drop_nil, List.drop_nil]; rfl
  · simp only [sliceAssign, pySlice, Nat.max_eq_right (Nat.le_trans (Nat.min_le_left _ _) (Nat.le_max_left _ _))]

theorem getElem?_take_append_drop (a b : List α) (c j : Nat) (hc : c ≤ a.length) :
    (a.take c ++ b.drop c)[j]? = if j < c then a[j]? else b[j]? := by
  have l : (a.take c).length = c := by rw [List.length_take, Nat.min_eq_left hc]
  split
  · next h => rw [List.getElem?_append_left (l.symm ▸ h), List.getElem?_take_of_lt h]
  · next h =>
    rw [List.getElem?_append_right (l.symm ▸ Nat.le_of_not_lt h), List.getElem?_drop, l,
      Nat.add_sub_cancel' (Nat.le_of_not_lt h)]

theorem length_take_append_drop (a b : List α) (c : Nat) (ha : c ≤ a.length) (hb : c ≤ b.length) :
    (a.take c ++ b.drop c).length = b.length := by
  rw [List.length_append, List.length_take, List.length_drop, Nat.min_eq_left ha, Nat.add_sub_cancel' hb]

theorem sliceAssign_getElem? (a b : List α) (x y : Nat) (h : x ≤ y) (ha : y ≤ a.length) (hb : y ≤ b.length) (j : Nat) :
    (sliceAssign a x y (pySlice b x y))[j]? = if x ≤ j ∧ j < y then b[j]? else a[j]? := by
  -- two one-point exchanges: at `y` (tail of `a` behind `b`), then at `x` (head of `a` in front)
  have e : sliceAssign a x y (pySlice b x y) = a.take x ++ (b.take y ++ a.drop y).drop x := by
    rw [sliceAssign, pySlice, Nat.max_eq_right h, List.append_assoc,
      List.drop_append_of_le_length (by rw [List.length_take, Nat.min_eq_left hb]; exact h)]
  rw [e, getElem?_take_append_drop _ _ _ _ (Nat.le_trans h ha), getElem?_take_append_drop _ _ _ _ hb]
  by_cases h1 : j < x
  · rw [if_pos h1, if_neg (fun c => Nat.not_le_of_lt h1 c.1)]
  · by_cases h2 : j < y
    · rw [if_neg h1, if_pos h2, if_pos ⟨Nat.le_of_not_lt h1, h2⟩]
    · rw [if_neg h1, if_neg h2, if_neg (fun c => h2 c.2)]

theorem sliceAssign_length (a b : List α) (x y : Nat) (h : x ≤ y) (ha : y ≤ a.length) (hb : y ≤ b.length) :
    (sliceAssign a x y (pySlice b x y)).length = a.length := by
  rw [sliceAssign, pySlice, Nat.max_eq_right h, List.length_append, List.length_append, List.length_take, List.length_drop,
    List.length_take, List.length_drop, Nat.min_eq_left (Nat.le_trans h ha), Nat.min_eq_left hb, Nat.add_sub_cancel' h,
    Nat.add_sub_cancel' ha]

theorem slice_exchange_perm [DecidableEq α] (a b : List α) (x y : Nat) (h : x ≤ y) :
    (sliceAssign a x y (pySlice b x y) ++ sliceAssign b x y (pySlice a x y)).Perm (a ++ b) := by
  have hm : max x y = y := by omega
  unfold sliceAssign pySlice
  rw [hm, List.perm_iff_count]
  intro z
  have ea := congrArg (List.count z) (split3 a x y h)
  have eb := congrArg (List.count z) (split3 b x y h)
  simp only [List.count_append] at ea eb ⊢
  omega

theorem cxOnePointOk.le {ind1 ind2 : List α} {cx : Nat} (h : cxOnePointOk ind1 ind2 cx) :
    cx ≤ ind1.length ∧ cx ≤ ind2.length :=
  ⟨Nat.le_trans h.2 (Nat.le_trans (Nat.sub_le _ _) (Nat.min_le_left _ _)),
    Nat.le_trans h.2 (Nat.le_trans (Nat.sub_le _ _) (Nat.min_le_right _ _))⟩

theorem normCx_lt (c1 c2 : Nat) : (normCx c1 c2).1 < (normCx c1 c2).2 := by
  unfold normCx; split <;> dsimp only <;> omega

theorem normCx_le (c1 c2 size : Nat) (h1 : c1 ≤ size) (h2 : c2 < size) : (normCx c1 c2).2 ≤ size := by
  unfold normCx; split <;> dsimp only <;> omega

theorem cxTwoPointOk.cut {ind1 ind2 : List α} {c1 c2 : Nat} (h : cxTwoPointOk ind1 ind2 c1 c2) :
    (normCx c1 c2).1 ≤ (normCx c1 c2).2 ∧ (normCx c1 c2).2 ≤ ind1.length ∧ (normCx c1 c2).2 ≤ ind2.length := by
  obtain ⟨_, h2, h3, h4⟩ := h
  have hy := normCx_le c1 c2 _ h2 (by omega)
  exact ⟨Nat.le_of_lt (normCx_lt c1 c2), Nat.le_trans hy (Nat.min_le_left _ _), Nat.le_trans hy (Nat.min_le_right _ _)⟩

theorem cxUniform_inv (P : List α × List α → Prop) (ind1 ind2 : List α) (ds : List Bool) (h0 : P (ind1, ind2))
    (hstep : ∀ p i, P p → P (swapAt2 i p)) : P (cxUniform ind1 ind2 ds) := by
  refine List.foldlRecOn (motive := P) _ _ h0 fun p hp id _ => ?_
  cases id.2
  · exact hp
  · exact hstep p id.1 hp

def genesAt (p : List α × List α) (j : Nat) : Option α × Option α := (p.1[j]?, p.2[j]?)

/-- `a[i], b[i] = b[i], a[i]` seen at locus `i`: the two genes change sides, if both exist -/
def swapOpt : Option α × Option α → Option α × Option α
  | (some x, some y) => (some y, some x)
  | q => q

theorem genesAt_swapAt2 (i : Nat) (p : List α × List α) (j : Nat) :
    genesAt (swapAt2 i p) j = if j = i then swapOpt (genesAt p j) else genesAt p j := by
  unfold swapAt2 genesAt
  by_cases e : j = i
  · subst e
    cases h2 : p.2[j]? <;> cases h1 : p.1[j]? <;> simp [swapOpt, h1, h2, List.getElem?_set_self']
  · cases p.2[i]? <;> cases p.1[i]? <;> simp [e, Ne.symm e]

/-- the loop of `cxUniform` (and, with all decisions `true`, the final exchange of `cxOrdered`) -/
abbrev swapLoop (ids : List (Nat × Bool)) (p : List α × List α) : List α × List α :=
  ids.foldl (fun p id => if id.2 then swapAt2 id.1 p else p) p

theorem genesAt_swapStep (p : List α × List α) (i : Nat) (d : Bool) (j : Nat) :
    genesAt (if (i, d).2 = true then swapAt2 (i, d).1 p else p) j
      = if j = i then (if d = true then swapOpt (genesAt p j) else genesAt p j) else genesAt p j := by
  cases d
  · simp
  · exact genesAt_swapAt2 i p j

theorem swapLoop_exact (ds : List Bool) (s n : Nat) (p : List α × List α) (hn : s + n ≤ min p.1.length p.2.length)
    (k : Nat) (d : Bool) (hk : k < n) (hd : ds[k]? = some d) :
    (swapLoop ((List.range' s n).zip ds) p).1[s + k]? = (if d = true then p.2[s + k]? else p.1[s + k]?) ∧
    (swapLoop ((List.range' s n).zip ds) p).2[s + k]? = (if d = true then p.1[s + k]? else p.2[s + k]?) := by
  have h := foldl_zip_range'_get genesAt (fun p (id : Nat × Bool) => if id.2 then swapAt2 id.1 p else p)
    (fun _ d q => if d = true then swapOpt q else q) genesAt_swapStep ds s n p k d hk hd
  have hs : swapOpt (genesAt p (s + k)) = (p.2[s + k]?, p.1[s + k]?) := by
    simp only [genesAt, List.getElem?_eq_getElem (show s + k < p.1.length by omega),
      List.getElem?_eq_getElem (show s + k < p.2.length by omega), swapOpt]
  rw [hs] at h
  cases d <;> exact ⟨congrArg Prod.fst h, congrArg Prod.snd h⟩

theorem swapLoop_untouched (ds : List Bool) (s n : Nat) (p : List α × List α) (j : Nat) (hj : j < s ∨ s + n ≤ j) :
    (swapLoop ((List.range' s n).zip ds) p).1[j]? = p.1[j]? ∧ (swapLoop ((List.range' s n).zip ds) p).2[j]? = p.2[j]? := by
  have h := foldl_zip_range'_untouched genesAt (fun p (id : Nat × Bool) => if id.2 then swapAt2 id.1 p else p)
    (fun _ d q => if d = true then swapOpt q else q) genesAt_swapStep ds s n p j hj
  exact ⟨congrArg Prod.fst h, congrArg Prod.snd h⟩

theorem swapLoop_all (idx : List Nat) (p : List α × List α) :
    swapLoop (idx.zip (List.replicate idx.length true)) p = idx.foldl (fun p i => swapAt2 i p) p := by
  induction idx generalizing p with
  | nil => rfl
  | cons i is ih => simp [List.replicate_succ, ih]

theorem swapRange_exact (s n : Nat) (p : List α × List α) (hn : s + n ≤ min p.1.length p.2.length) (j : Nat) :
    ((List.range' s n).foldl (fun p i => swapAt2 i p) p).1[j]? = (if s ≤ j ∧ j < s + n then p.2[j]? else p.1[j]?) ∧
    ((List.range' s n).foldl (fun p i => swapAt2 i p) p).2[j]? = (if s ≤ j ∧ j < s + n then p.1[j]? else p.2[j]?) := by
  have e := swapLoop_all (List.range' s n) p
  rw [List.length_range'] at e
  rw [← e]
  by_cases c : s ≤ j ∧ j < s + n
  · have h := swapLoop_exact (List.replicate n true) s n p hn (j - s) true (by omega)
      (by rw [List.getElem?_replicate, if_pos (by omega)])
    rw [show s + (j - s) = j by omega] at h
    rw [if_pos c, if_pos c]; exact h
  · rw [if_neg c, if_neg c]
    exact swapLoop_untouched _ s n p j (by omega)

theorem swapRange_eq_sliceAssign (s n : Nat) (p : List α × List α) (h1 : s + n ≤ p.1.length) (h2 : s + n ≤ p.2.length) :
    (List.range' s n).foldl (fun p i => swapAt2 i p) p
      = (sliceAssign p.1 s (s + n) (pySlice p.2 s (s + n)), sliceAssign p.2 s (s + n) (pySlice p.1 s (s + n))) := by
  have h := swapRange_exact s n p (Nat.le_min.2 ⟨h1, h2⟩)
  refine Prod.ext (List.ext_getElem? fun j => ?_) (List.ext_getElem? fun j => ?_)
  · rw [(h j).1, sliceAssign_getElem? _ _ _ _ (Nat.le_add_right s n) h1 h2]
  · rw [(h j).2, sliceAssign_getElem? _ _ _ _ (Nat.le_add_right s n) h2 h1]

theorem zip_sliceAssign {β : Type} (g g' : List α) (s s' : List β) (x y : Nat)
    (h1 : g.length = s.length) (h2 : g'.length = s'.length) :
    List.zip (sliceAssign g x y (pySlice g' x y)) (sliceAssign s x y (pySlice s' x y))
      = sliceAssign (List.zip g s) x y (pySlice (List.zip g' s') x y) := by
  unfold sliceAssign pySlice
  rw [List.zip_append (by simp [h1, h2]), List.zip_append (by simp [h1])]
  simp only [List.zip_eq_zipWith, List.take_zipWith, List.drop_zipWith]

section
variable {σ : Type}
theorem es_okZip (ind1 ind2 : ESInd α σ) (pt1 pt2 : Nat) (h : cxESTwoPointOk ind1 ind2 pt1 pt2)
    (hs1 : ind1.genes.length = ind1.strategy.length) (hs2 : ind2.genes.length = ind2.strategy.length) :
    cxTwoPointOk (List.zip ind1.genes ind1.strategy) (List.zip ind2.genes ind2.strategy) pt1 pt2 := by
  unfold cxESTwoPointOk cxTwoPointOk at *
  simp only [List.length_zip, ← hs1, ← hs2, Nat.min_self]
  exact h

end

/-- "each locus of the children holds exactly the two parental genes of that locus" (a locus that
exists in only one parent holds that one gene in exactly one child). -/
def Locus (c p : List α × List α) : Prop :=
  ∀ j : Nat, (c.1[j]? = p.1[j]? ∧ c.2[j]? = p.2[j]?) ∨ (c.1[j]? = p.2[j]? ∧ c.2[j]? = p.1[j]?)

theorem Locus.swapAt2 {c p : List α × List α} (h : Locus c p) (i : Nat) : Locus (swapAt2 i c) p := by
  by_cases hi : i < c.1.length ∧ i < c.2.length
  · rw [swapAt2_of_lt i c hi.1 hi.2]
    intro j
    simp only [List.getElem?_set]
    by_cases e : i = j
    · subst e
      rw [if_pos rfl, if_pos rfl, if_pos hi.1, if_pos hi.2, ← List.getElem?_eq_getElem hi.1, ← List.getElem?_eq_getElem hi.2]
      exact (h i).symm.imp And.symm And.symm
    · rw [if_neg e, if_neg e]; exact h j
  · rw [swapAt2_of_not_lt i c hi]; exact h

/-- the bound zipped to gene `i`: the scalar itself or entry `i` of the sequence -/
def boundAt : Bound → Nat → Option Int
  | .scalar x, _ => some x
  | .seq l, i => l[i]?

theorem toSeq_seq {size : Nat} {q l : List Int} (h : (Bound.seq q).toSeq size = some l) : size ≤ q.length ∧ l = q := by
  simp only [Bound.toSeq] at h
  split at h
  · cases h
  · exact ⟨by omega, (Option.some.inj h).symm⟩

theorem toSeq_get (b : Bound) (size : Nat) (l : List Int) (h : b.toSeq size = some l) (i : Nat) (hi : i < size) :
    i < l.length ∧ l[i]? = boundAt b i := by
  cases b with
  | scalar x =>
    simp only [Bound.toSeq, Option.some.injEq] at h
    subst h
    simp [boundAt, hi]
  | seq q =>
    obtain ⟨hq, rfl⟩ := toSeq_seq h
    exact ⟨Nat.lt_of_lt_of_le hi hq, rfl⟩

/-- `individual[i] = v` for a selected gene, nothing for an unselected one -/
def writeDraw (l : List Int) (td : (Nat × Int × Int) × Option Int) : List Int :=
  match td.2 with
  | some v => l.set td.1.1 v
  | none => l

theorem mutUniformIntLoop_eq_some_iff (trip : List (Nat × Int × Int)) (ds : List (Option Int)) (ind out : List Int) :
    mutUniformIntLoop trip ds ind = some out ↔
      trip.length ≤ ds.length ∧ (∀ td ∈ trip.zip ds, ∀ v, td.2 = some v → td.1.2.1 ≤ v ∧ v ≤ td.1.2.2) ∧
      out = (trip.zip ds).foldl writeDraw ind := by
  induction trip generalizing ds ind with
  | nil => simp only [mutUniformIntLoop, Option.some.injEq, List.length_nil, Nat.zero_le, List.zip_nil_left,
      List.not_mem_nil, false_implies, implies_true, List.foldl_nil, true_and, eq_comm]
  | cons t rest ih =>
    cases ds with
    | nil => simp only [mutUniformIntLoop, reduceCtorEq, List.length_cons, List.length_nil, Nat.le_zero_eq,
        Nat.succ_ne_zero, false_and]
    | cons d ds =>
      simp only [List.length_cons, Nat.add_le_add_iff_right, List.zip_cons_cons, List.forall_mem_cons, List.foldl_cons]
      cases d with
      | none =>
        simp only [mutUniformIntLoop, ih, writeDraw, reduceCtorEq, false_implies, implies_true, true_and]
      | some v =>
        by_cases hb : t.2.1 ≤ v ∧ v ≤ t.2.2
        · simp only [mutUniformIntLoop, randint, if_true, ih, writeDraw, Option.some.injEq, forall_eq', hb, and_self,
            true_and]
        · simp only [mutUniformIntLoop, randint, if_false, reduceCtorEq, Option.some.injEq, forall_eq', hb, false_and,
            and_false]

theorem length_foldl_writeDraw (tds : List ((Nat × Int × Int) × Option Int)) (ind : List Int) :
    (tds.foldl writeDraw ind).length = ind.length := by
  refine List.foldlRecOn (motive := fun l => l.length = ind.length) tds writeDraw rfl ?_
  intro l hl td _
  unfold writeDraw
  split
  · rw [List.length_set, hl]
  · exact hl

theorem foldl_zip_assoc {β ι γ δ : Type} (f : β → (ι × γ) × δ → β) (is : List ι) (bs : List γ) (ds : List δ) (b : β) :
    ((is.zip bs).zip ds).foldl f b = (is.zip (bs.zip ds)).foldl (fun b x => f b ((x.1, x.2.1), x.2.2)) b := by
  induction is generalizing bs ds b with
  | nil => rfl
  | cons i is ih =>
    cases bs with
    | nil => rfl
    | cons c bs =>
      cases ds with
      | nil => rfl
      | cons d ds => exact ih bs ds _

theorem writeLoop_getElem? (bs : List (Int × Int)) (ds : List (Option Int)) (ind : List Int) (n j : Nat) (hj : j < n)
    (b : Int × Int) (d : Option Int) (hb : bs[j]? = some b) (hd : ds[j]? = some d) :
    ((((List.range' 0 n).zip bs).zip ds).foldl writeDraw ind)[j]? =
      match (generalizing := false) d with
      | some v => ind[j]?.map fun _ => v
      | none => ind[j]? := by
  have h := foldl_zip_range'_get (fun (l : List Int) j => l[j]?)
    (fun l (x : Nat × (Int × Int) × Option Int) => writeDraw l ((x.1, x.2.1), x.2.2))
    (fun _ (bd : (Int × Int) × Option Int) x => match bd.2 with | some v => x.map fun _ => v | none => x)
    (by
      intro l i bd j
      obtain ⟨b, _ | v⟩ := bd
      · split <;> rfl
      · simp only [writeDraw, List.getElem?_set]
        by_cases e : j = i
        · subst e; by_cases hl : j < l.length <;> simp [hl]
        · simp [e, Ne.symm e])
    (bs.zip ds) 0 n ind j (b, d) hj (by rw [List.getElem?_zip_eq_some]; exact ⟨hb, hd⟩)
  rw [Nat.zero_add] at h
  rw [foldl_zip_assoc, h]

theorem mutUniformInt_eq_some_iff (ind : List Int) (low up : Bound) (ds : List (Option Int)) (out : List Int) :
    mutUniformInt ind low up ds = some out ↔
      ∃ lo hi, low.toSeq ind.length = some lo ∧ up.toSeq ind.length = some hi ∧ ds.length = ind.length ∧
        mutUniformIntLoop ((List.range ind.length).zip (lo.zip hi)) ds ind = some out := by
  simp only [mutUniformInt]
  cases low.toSeq ind.length <;> cases up.toSeq ind.length <;> simp

theorem mutUniformInt_some (ind : List Int) (low up : Bound) (ds : List (Option Int)) (out : List Int)
    (h : mutUniformInt ind low up ds = some out) :
    out.length = ind.length ∧ ds.length = ind.length ∧
    ∀ j, j < ind.length → ∃ xl xu, boundAt low j = some xl ∧ boundAt up j = some xu ∧
      match ds[j]? with
      | some (some v) => (xl ≤ v ∧ v ≤ xu) ∧ out[j]? = some v
      | _ => out[j]? = ind[j]? := by
  obtain ⟨lo, hi, hlo, hhi, hlen, hloop⟩ := (mutUniformInt_eq_some_iff ind low up ds out).1 h
  obtain ⟨_, hin, rfl⟩ := (mutUniformIntLoop_eq_some_iff _ ds ind out).1 hloop
  refine ⟨length_foldl_writeDraw _ ind, hlen, ?_⟩
  intro j hj
  obtain ⟨g1, e1⟩ := toSeq_get low _ lo hlo j hj
  obtain ⟨g2, e2⟩ := toSeq_get up _ hi hhi j hj
  have hjd : j < ds.length := by omega
  have hb : (lo.zip hi)[j]? = some (lo[j], hi[j]) := by
    rw [List.getElem?_zip_eq_some]; exact ⟨List.getElem?_eq_getElem g1, List.getElem?_eq_getElem g2⟩
  refine ⟨lo[j], hi[j], by rw [← e1, List.getElem?_eq_getElem g1], by rw [← e2, List.getElem?_eq_getElem g2], ?_⟩
  rw [List.range_eq_range', writeLoop_getElem? (lo.zip hi) ds ind _ j hj _ ds[j] hb (List.getElem?_eq_getElem hjd),
    List.getElem?_eq_getElem hjd, List.getElem?_eq_getElem hj]
  cases hd : ds[j] with
  | none => rfl
  | some v =>
    refine ⟨hin ((j, lo[j], hi[j]), some v) ?_ v rfl, rfl⟩
    rw [List.mem_iff_getElem?]
    refine ⟨j, ?_⟩
    rw [List.getElem?_zip_eq_some, List.getElem?_zip_eq_some]
    exact ⟨⟨by rw [List.getElem?_range hj], hb⟩, by rw [List.getElem?_eq_getElem hjd, hd]⟩

end C09L

/-! The loop of `CrossMut.mutFlipBit` as a fold of its body.  In the namespace of the translator tie (`C09Gen`), whose
template names these. -/
namespace GenCL
open CrossMut
variable {γ : Type}

def flipStep [PyNot γ] (ind : List γ) (id : Nat × Bool) : List γ :=
  if id.2 then
    match ind[id.1]? with
    | some x => ind.set id.1 (PyNot.pyNot x)
    | none => ind
  else ind

theorem mutFlipBit_eq_foldl [PyNot γ] (ind : List γ) (ds : List Bool) :
    CrossMut.mutFlipBit ind ds = ((List.range ind.length).zip ds).foldl flipStep ind := rfl

theorem flipStep_length [PyNot γ] (a : List γ) (id : Nat × Bool) : (flipStep a id).length = a.length := by
  unfold flipStep; split
  · split <;> simp
  · rfl

theorem flipStep_getElem? [PyNot γ] (l : List γ) (i : Nat) (d : Bool) (j : Nat) :
    (flipStep l (i, d))[j]? = if j = i then (if d = true then l[j]?.map PyNot.pyNot else l[j]?) else l[j]? := by
  cases d
  · simp [flipStep]
  · simp only [flipStep, if_true]
    by_cases e : j = i
    · subst e; cases h : l[j]? <;> simp [h, List.getElem?_set_self']
    · rw [if_neg e]; split <;> simp [Ne.symm e]

end GenCL
