import DeapModel.Lemmas.C15HvC3dRun
import DeapModel.Lemmas.C15HvCRe0
/-!
C15 — the re-entered 3-D base case of `_hv.c`: what one iteration of the main loop l.899-989 has to deliver
(`StepOut`, independent of the branch taken) for the loop invariant `SLInv` to survive (`slinv_step`).
-/
namespace HvC
open HvSweep (Hj RL pos ARv VOLv ids)

variable {C : Cargo} {R : List ℚ} {d n : ℕ} {O : ℕ → List ℕ}

theorem SLInv.treeInv {A : List ℕ} {S : St} {pre rest : List ℕ} {hyperv hypera : ℚ}
    (I : SLInv C R d n O A S pre rest hyperv hypera) : TreeInv C (rf R 0) (rf R 1) S pre hypera :=
  ⟨I.tne, I.tnd, I.tsub, I.stair, I.cover, I.area⟩

/-- the strip sum kept in `hypera` is the 2-D hypervolume (coordinates 0, 1) of the processed nodes -/
theorem area_Hj (c : CCtx C R d n O) (S : St) (pre : List ℕ) (hypera : ℚ)
    (hpre : ∀ a ∈ pre, a ∈ ids n ∧ cg C a 0 < rf R 0 ∧ cg C a 1 < rf R 1)
    (hTI : TreeInv C (rf R 0) (rf R 1) S pre hypera) : hypera = Hj R (spt C R) 1 pre := by
  have hd : 2 < d := c.hd
  rw [HvSweep.Hj, HvSweep.take2_ref R (by rw [c.g.hdims]; omega)]
  refine hTI.area_eq (fun a ha => (hpre a ha).2) _ fun a ha => ?_
  rw [HvSweep.take2_pt (spt C R a) (by rw [c.g.len a (hpre a ha).1]; omega),
    c.spt_good (hpre a ha).1 (by omega : 0 < d) (hpre a ha).2.1.le, c.spt_good (hpre a ha).1 (by omega : 1 < d) (hpre a ha).2.2.le]
  rfl

/-- **what one iteration on the node `p` delivers**, whatever branch was taken -/
structure StepOut (C : Cargo) (R : List ℚ) (d n : ℕ) (O : ℕ → List ℕ) (A : List ℕ) (S : St) (pre : List ℕ) (p : ℕ)
    (hyperv hypera : ℚ) (S' : St) (v' hypera' : ℚ) : Prop where
  ptr : PtrFrame S S'
  tsh : TSh d n S'
  arp : ar S' p 2 = hypera'
  vlp : vl S' p 2 = hyperv
  cfr : ∀ a i, (a ≠ p ∨ i ≠ 2) → ar S' a i = ar S a i ∧ vl S' a i = vl S a i
  val : v' = hyperv + hypera' * hgt C R S p
  ignfr : ∀ y, y ≠ p → ign S' y = ign S y
  tne : S'.tree ≠ []
  tnd : S'.tree.Nodup
  tsub : ∀ t ∈ S'.tree, t = p ∨ t ∈ S.tree
  stair : Stair (S'.tree.map (item C))
  area : hypera' = hArea (rf R 0) (rf R 1) (S'.tree.map (item C))
  cover : ∀ q, (q = p ∨ q ∈ S.tree) → ∃ t ∈ S'.tree, (item C t).1 ≤ (item C q).1 ∧ (item C t).2 ≤ (item C q).2
  -- `domr` of a node other than `p` that was outside the tree, or stays in it, is untouched
  d1 : ∀ y, y ≠ p → (y ∉ S.tree ∨ y ∈ S'.tree) → dr S' y = dr S y
  -- `p` was linked: `domr = ref[2]`, no mark, and no processed node beats it
  d2 : p ∈ S'.tree → dr S' p = rf R 2 ∧ ¬ (2 : ℤ) ≤ ign S' p ∧ ∀ q ∈ pre, ¬ Beats C O q p
  -- `p` was not linked (marked before, or dominated by its tree successor): `domr = p.z` and a processed node beats it
  d3 : p ∉ S'.tree → dr S' p = cg C p 2 ∧ ∃ q ∈ pre, Beats C O q p
  -- a node unlinked in this iteration: `domr = p.z`, and `p` beats it
  d4 : ∀ a ∈ S.tree, a ∉ S'.tree →
    dr S' a = cg C p 2 ∧ cg C p 0 ≤ cg C a 0 ∧ cg C p 1 ≤ cg C a 1 ∧ item C p ≠ item C a
  -- `p` beats no other node that is in the tree afterwards
  d5 : ∀ a ∈ S'.tree, a ≠ p → ¬ Beats C O p a
  -- the mark of `p` is untouched or becomes 2 with a witness (l.928)
  i1 : ign S' p = ign S p ∨ (ign S' p = 2 ∧ ∃ b ∈ A, DomC C O 2 b p)

/-- the static facts about the list of dimension 2 split at the swept node -/
structure SplitFacts (C : Cargo) (O : ℕ → List ℕ) (A pre : List ℕ) (p : ℕ) (rest : List ℕ) : Prop where
  nd : (pre ++ p :: rest).Nodup
  memA : ∀ x, x ∈ pre ++ p :: rest → x ∈ A
  ofA : ∀ x ∈ A, x ∈ pre ++ p :: rest
  ppre : p ∉ pre
  prest : p ∉ rest
  pos1 : ∀ b ∈ pre, pos O 2 b < pos O 2 p
  pos2 : ∀ b ∈ rest, pos O 2 p < pos O 2 b
  zpre : ∀ a ∈ pre, cg C a 2 ≤ cg C p 2
  zrest : ∀ q ∈ rest, cg C p 2 ≤ cg C q 2

theorem splitFacts (c : CCtx C R d n O) {A pre rest : List ℕ} {p : ℕ}
    (hA : ∀ a ∈ A, a ∈ ids n) (hsplit : RL O 2 A = pre ++ p :: rest) : SplitFacts C O A pre p rest := by
  have h2d : 2 < d := by have := c.hd; omega
  have hRLnd : (pre ++ p :: rest).Nodup := by rw [← hsplit]; exact HvSweep.RL_nodup c.g h2d A
  have hmemA : ∀ x, x ∈ pre ++ p :: rest → x ∈ A := fun x hx =>
    ((HvSweep.mem_RL O 2 A x).mp (by rw [hsplit]; exact hx)).2
  have hofA : ∀ x ∈ A, x ∈ pre ++ p :: rest := fun x hx => by
    rw [← hsplit]; exact (HvSweep.mem_RL O 2 A x).mpr ⟨(c.g.mem h2d x).mpr (hA x hx), hx⟩
  obtain ⟨hpos1, hpos2⟩ := HvSweep.pos_lt_of_split O 2 (c.g.nodup h2d) (RL O 2 A) pre rest p (HvSweep.RL_sublist O 2 A) hsplit
  have hsort : (pre ++ p :: rest).Pairwise (fun a b => cg C a 2 ≤ cg C b 2) := by
    have := c.RL_sorted h2d A
    rw [hsplit] at this
    exact this
  exact
    { nd := hRLnd
      memA := hmemA
      ofA := hofA
      ppre := not_mem_of_nodup_mid hRLnd
      prest := (List.nodup_cons.mp (List.nodup_append.mp hRLnd).2.1).1
      pos1 := hpos1
      pos2 := hpos2
      zpre := fun a ha => (List.pairwise_append.mp hsort).2.2 a ha p (by simp)
      zrest := fun q hq => (List.pairwise_cons.mp (List.pairwise_append.mp hsort).2.1).1 q hq }

theorem slinv_step {A : List ℕ} {S S' : St} {pre rest : List ℕ} {p : ℕ}
    {hyperv hypera v' hypera' : ℚ} (c : CCtx C R d n O)
    (I : SLInv C R d n O A S pre (p :: rest) hyperv hypera)
    (h : StepOut C R d n O A S pre p hyperv hypera S' v' hypera') :
    SLInv C R d n O A S' (pre ++ [p]) rest v' hypera' := by
  have h2d : 2 < d := by have := c.hd; omega
  have F := splitFacts c I.asub I.split
  have hpA : p ∈ A := F.memA p (by simp)
  have hpreA : ∀ x ∈ pre, x ∈ A := fun x hx => F.memA x (by simp [hx])
  have hpI := I.asub p hpA
  have hgood : ∀ a ∈ A, a ∈ ids n ∧ cg C a 0 < rf R 0 ∧ cg C a 1 < rf R 1 := fun a ha =>
    ⟨I.asub a ha, I.agood a ha 0 (by omega), I.agood a ha 1 (by omega)⟩
  have hr2 : ∀ a ∈ A, cg C a 2 < rf R 2 := fun a ha => I.agood a ha 2 h2d
  obtain ⟨hhgt, hnx, hp0⟩ := hgt_eq C R n S pre rest p (by have := I.dl; rw [I.split] at this; exact this)
  have hTI' : TreeInv C (rf R 0) (rf R 1) S' (pre ++ [p]) hypera' :=
    TreeInv.step I.treeInv h.tne h.tnd h.tsub h.stair h.cover h.area
  have hpre'A : ∀ x ∈ pre ++ [p], x ∈ A := by
    intro x hx
    rcases List.mem_append.mp hx with hx | hx
    · exact hpreA x hx
    · simp at hx; rw [hx]; exact hpA
  have hA0 : hypera = Hj R (spt C R) 1 pre :=
    area_Hj c S pre hypera (fun a ha => hgood a (hpreA a ha)) I.treeInv
  have hA1 : hypera' = Hj R (spt C R) 1 (pre ++ [p]) :=
    area_Hj c S' (pre ++ [p]) hypera' (fun a ha => hgood a (hpre'A a ha)) hTI'
  have hslab := HvSweep.Hj_add_top c.g 1 (by omega) pre p
    (by
      intro s hs
      rcases List.mem_cons.mp hs with rfl | hs
      · exact hpI
      · exact I.asub s (hpreA s hs))
    (fun s hs => c.spt_mono (I.asub s (hpreA s hs)) hpI h2d (F.zpre s hs))
  rw [c.spt_good hpI h2d (hr2 p hpA).le] at hslab
  have hV1 : hyperv + hypera' * (rf R 2 - cg C p 2) = Hj R (spt C R) 2 (pre ++ [p]) :=
    val_step hslab hA0 hA1 I.val
  have hARp : ARv R (spt C R) O 1 A p = hypera' := (HvSweep.ARv_of_split c.g h2d I.asub I.split).trans hA1.symm
  have hVLp : VOLv (stc C R) R (spt C R) O 1 A p = hyperv := by
    have := hV1
    rw [show (2 : ℕ) = 1 + 1 from rfl] at this
    rw [HvSweep.VOLv_of_split c.g h2d I.asub I.split, ← hA1, c.cg_tr hpI h2d (hr2 p hpA).le, ← this]
    ring
  have hne_p : ∀ a ∈ pre, a ≠ p := fun a ha e => F.ppre (e ▸ ha)
  exact
    { I with
      split := by rw [I.split]; simp
      prene := by simp
      shape := shapeC_of_fields I.shape h.ptr.next h.ptr.prev
      tsh := h.tsh
      dl := dlc_ptrEqC (ptrEqC_of_fields h.ptr.next h.ptr.prev) I.dl
      tne := h.tne
      tnd := h.tnd
      tsub := hTI'.sub
      tign := by
        intro t ht
        by_cases htp : t = p
        · rw [htp] at ht ⊢; exact (h.d2 ht).2.1
        · rw [h.ignfr t htp]
          rcases h.tsub t ht with e | ht'
          · exact absurd e htp
          · exact I.tign t ht'
      stair := h.stair
      cover := hTI'.cover
      area := h.area
      val := by
        rw [← hV1, h.val, hhgt]; ring
      cache := by
        intro a ha
        rcases List.mem_append.mp ha with ha | ha
        · have hne := hne_p a ha
          rw [(h.cfr a 2 (Or.inl hne)).1, (h.cfr a 2 (Or.inl hne)).2]
          exact I.cache a ha
        · simp at ha; subst ha
          rw [h.arp, h.vlp, hARp, hVLp]; exact ⟨rfl, rfl⟩
      drT := by
        intro t ht
        by_cases htp : t = p
        · rw [htp] at ht ⊢; exact (h.d2 ht).1
        · rw [h.d1 t htp (Or.inr ht)]
          rcases h.tsub t ht with e | ht'
          · exact absurd e htp
          · exact I.drT t ht'
      drge := by
        intro a ha
        rcases List.mem_append.mp ha with ha | ha
        · have hne := hne_p a ha
          by_cases h1 : a ∈ S.tree
          · by_cases h2 : a ∈ S'.tree
            · rw [h.d1 a hne (Or.inr h2)]; exact I.drge a ha
            · rw [(h.d4 a h1 h2).1]; exact F.zpre a ha
          · rw [h.d1 a hne (Or.inl h1)]; exact I.drge a ha
        · simp at ha; subst ha
          by_cases h2 : a ∈ S'.tree
          · rw [(h.d2 h2).1]; exact le_of_lt (hr2 a hpA)
          · rw [(h.d3 h2).1]
      drout := by
        intro a ha haT
        rcases List.mem_append.mp ha with ha | ha
        · have hne := hne_p a ha
          by_cases h1 : a ∈ S.tree
          · obtain ⟨e1, e2, e3, e4⟩ := h.d4 a h1 haT
            refine ⟨fun q hq => by rw [e1]; exact F.zrest q hq, p, by simp, ⟨fun e => hne e.symm, e2, e3, fun e => absurd e e4⟩, by rw [e1]⟩
          · rw [h.d1 a hne (Or.inl h1)]
            obtain ⟨o1, q, hq, o2, o3⟩ := I.drout a ha h1
            exact ⟨fun q' hq' => o1 q' (by simp [hq']), q, List.mem_append_left _ hq, o2, o3⟩
        · simp at ha; subst ha
          obtain ⟨e1, q, hq, e2⟩ := h.d3 haT
          refine ⟨fun q' hq' => by rw [e1]; exact F.zrest q' hq', q, List.mem_append_left _ hq, e2, by rw [e1]; exact F.zpre q hq⟩
      drL := by
        intro a ha0 q hq0 hb
        rcases List.mem_append.mp ha0 with ha | ha
        · have hne := hne_p a ha
          rcases List.mem_append.mp hq0 with hq | hq
          · by_cases h1 : a ∈ S.tree
            · by_cases h2 : a ∈ S'.tree
              · rw [h.d1 a hne (Or.inr h2)]; exact I.drL a ha q hq hb
              · -- impossible: `a` was in the tree, so nobody processed beats it
                have := I.drL a ha q hq hb
                rw [I.drT a h1] at this
                exact absurd (max_lt (hr2 a (hpreA a ha)) (hr2 q (hpreA q hq))) (not_lt.mpr this)
            · rw [h.d1 a hne (Or.inl h1)]; exact I.drL a ha q hq hb
          · simp at hq; subst hq
            by_cases h2 : a ∈ S'.tree
            · exact absurd hb (h.d5 a h2 hne)
            · by_cases h1 : a ∈ S.tree
              · rw [(h.d4 a h1 h2).1]; exact le_max_right _ _
              · rw [h.d1 a hne (Or.inl h1)]
                exact le_trans ((I.drout a ha h1).1 q (by simp)) (le_max_right _ _)
        · simp at ha; subst ha
          by_cases h2 : a ∈ S'.tree
          · rcases List.mem_append.mp hq0 with hq | hq
            · exact absurd hb ((h.d2 h2).2.2 q hq)
            · simp at hq; exact absurd hq hb.1
          · rw [(h.d3 h2).1]; exact le_max_left _ _
      ig := by
        intro q hq hm
        by_cases hqp : q = p
        · rw [hqp] at hm ⊢
          rcases h.i1 with e | ⟨e, b, hb, hd⟩
          · rw [e] at hm ⊢
            exact I.ig p hpA hm
          · rw [e]; exact ⟨b, hb, hd⟩
        · rw [h.ignfr q hqp] at hm ⊢
          exact I.ig q hq hm
      igd := by
        intro q hm
        by_cases hqp : q = p
        · rw [hqp] at hm ⊢
          by_cases h2 : p ∈ S'.tree
          · exact absurd hm (h.d2 h2).2.1
          · exact (h.d3 h2).1
        · rw [h.ignfr q hqp] at hm
          have h1 : q ∉ S.tree := fun hT => I.tign q hT hm
          rw [h.d1 q hqp (Or.inl h1)]
          exact I.igd q hm }

end HvC
