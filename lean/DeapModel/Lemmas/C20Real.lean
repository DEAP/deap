/-
C20 — lemmas over ℝ for the continuous benchmarks (`Core/Bench.lean`, `Core/BenchMO.lean`) and the decorators' list
algebra: the scalar helpers (`dec`, `nat`, `sq`, `npow`) in the simp set `real_bridge`, list helpers of the models,
`mapM` into `Option` read as `Forall₂`, sums whose terms satisfy one bound, the squared distance `d2` the models'
loops compute, the telescoping identities and the closed form of the DTLZ shape `Bench.front`.
-/
import DeapModel.RealInst
import DeapModel.Core.BenchMO
import DeapModel.Core.BenchTools
import DeapModel.Lemmas.ListCore
import DeapModel.Lemmas.ListFacts

namespace C20L
open RealLike Bench BenchTools

@[simp] theorem real_dec (n : Int) (d : Nat) : (dec n d : ℝ) = (n : ℝ) / (d : ℝ) := rfl
@[simp] theorem real_nat (n : Nat) : (nat n : ℝ) = (n : ℝ) := rfl
attribute [real_bridge] Nat.cast_add Nat.cast_mul real_dec real_nat

@[simp, real_bridge] theorem real_sq (x : ℝ) : Bench.sq x = x ^ 2 := (pow_two x).symm

@[simp, real_bridge] theorem real_npow (x : ℝ) : ∀ n : Nat, npow x n = x ^ n
  | 0 => Nat.cast_one.trans (pow_zero x).symm
  | 1 => (pow_one x).symm
  | n + 2 => by rw [npow, real_npow x (n + 1), real_mul, ← pow_succ]

/-- the decimals of the published formulas, as the ratios the models write -/
@[real_bridge] theorem decimals : (0.5 : ℝ) = 5 / 10 ∧ (1.5 : ℝ) = 15 / 10 ∧ (0.2 : ℝ) = 2 / 10 ∧ (0.8 : ℝ) = 8 / 10 ∧
    (0.1 : ℝ) = 1 / 10 ∧ (0.25 : ℝ) = 25 / 100 := by norm_num

theorem adjacent_replicate {β : Type} (n : Nat) (a : β) :
    adjacent (List.replicate n a) = List.replicate (n - 1) (a, a) := by
  cases n with
  | zero => rfl
  | succ k => rw [adjacent, List.replicate_succ, List.tail_cons, ← List.replicate_succ, List.zip_replicate,
      Nat.min_eq_right (Nat.le_succ k), Nat.add_sub_cancel]

theorem enumFrom_map_snd {β : Type} (k : Nat) (l : List β) : (enumFrom k l).map (·.2) = l := by
  induction l generalizing k with
  | nil => rfl
  | cons a t ih => rw [enumFrom, List.map_cons, ih]

theorem enumFrom_length {β : Type} (k : Nat) (l : List β) : (enumFrom k l).length = l.length := by
  rw [← List.length_map (·.2), enumFrom_map_snd]

theorem enumFrom_replicate_snd {β : Type} (k n : Nat) (a : β) : ∀ p ∈ enumFrom k (List.replicate n a), p.2 = a :=
  fun _ hp => List.eq_of_mem_replicate (enumFrom_map_snd k _ ▸ List.mem_map_of_mem hp)

theorem mapM_some {β γ : Type} (g : β → γ) (l : List β) : l.mapM (fun a => some (g a)) = some (l.map g) :=
  List.mapM_eq_some _ g l fun _ _ => rfl

theorem mapM_forall2 {β γ : Type} (f : β → Option γ) (l : List β) (r : List γ) (h : l.mapM f = some r) :
    List.Forall₂ (fun a c => f a = some c) l r := by
  obtain ⟨hall, rfl⟩ := List.eq_filterMap_of_mapM h
  clear h
  induction l with
  | nil => exact .nil
  | cons a t ih =>
    obtain ⟨c, hc⟩ := Option.isSome_iff_exists.1 (hall a List.mem_cons_self)
    rw [List.filterMap_cons_some hc]
    exact .cons hc (ih fun x hx => hall x (List.mem_cons_of_mem _ hx))

theorem forall2_mem_right {β γ : Type} {R : β → γ → Prop} {l : List β} {r : List γ} (h : List.Forall₂ R l r)
    (c : γ) (hc : c ∈ r) : ∃ a ∈ l, R a c := by
  induction h with
  | nil => simp at hc
  | cons hab _ ih =>
    simp only [List.mem_cons] at hc
    rcases hc with rfl | hc
    · exact ⟨_, by simp, hab⟩
    · obtain ⟨a, ha, hr⟩ := ih hc; exact ⟨a, by simp [ha], hr⟩

theorem forall2_mem_left {β γ : Type} {R : β → γ → Prop} {l : List β} {r : List γ} (h : List.Forall₂ R l r)
    (a : β) (ha : a ∈ l) : ∃ c ∈ r, R a c :=
  forall2_mem_right h.flip a ha

/-- a `foldl` that keeps one of its two arguments, the one that dominates both for the preorder `le`, returns an
element of the list that dominates all of them (Python's `max` / `min` loops) -/
theorem foldl_select {β : Type} (sel : β → β → β) (le : β → β → Prop) (hrefl : ∀ a, le a a)
    (htrans : ∀ a b c, le a b → le b c → le a c)
    (hsel : ∀ m v, (sel m v = m ∨ sel m v = v) ∧ le m (sel m v) ∧ le v (sel m v)) (t : List β) (a : β) :
    t.foldl sel a ∈ a :: t ∧ ∀ w ∈ a :: t, le w (t.foldl sel a) := by
  induction t generalizing a with
  | nil => exact ⟨List.mem_singleton_self a, fun w hw => List.mem_singleton.1 hw ▸ hrefl a⟩
  | cons b t ih =>
    obtain ⟨hm, hle⟩ := ih (sel a b)
    obtain ⟨ho, ha, hb⟩ := hsel a b
    have h0 := hle _ List.mem_cons_self
    refine ⟨?_, fun w hw => ?_⟩
    · rcases List.mem_cons.1 hm with h | h
      · rw [List.foldl_cons, h]; rcases ho with e | e <;> rw [e] <;> simp
      · exact List.mem_cons_of_mem _ (List.mem_cons_of_mem _ h)
    · rcases List.mem_cons.1 hw with rfl | hw
      · exact htrans _ _ _ ha h0
      · rcases List.mem_cons.1 hw with rfl | hw
        · exact htrans _ _ _ hb h0
        · exact hle w (List.mem_cons_of_mem _ hw)

/-- Python's accumulation `v += f p` over a list is the sum of the terms -/
theorem _root_.GenL.foldl_add_map {β : Type} (f : β → ℝ) (l : List β) (a : ℝ) :
    List.foldl (fun acc p => acc + f p) a l = a + (l.map f).sum :=
  List.foldl_map.symm.trans (RealLike.foldl_add _ a)

theorem sum_map_eq_zero {β : Type} (l : List β) (f : β → ℝ) (h : ∀ p ∈ l, f p = 0) : (l.map f).sum = 0 :=
  List.sum_eq_zero (List.forall_mem_map.2 h)

theorem sum_map_nonneg {β : Type} (l : List β) (f : β → ℝ) (h : ∀ p ∈ l, 0 ≤ f p) : 0 ≤ (l.map f).sum :=
  List.sum_nonneg (List.forall_mem_map.2 h)

theorem sum_map_ge {β : Type} (l : List β) (f : β → ℝ) (c : ℝ) (h : ∀ p ∈ l, c ≤ f p) :
    l.length * c ≤ (l.map f).sum := by
  simpa only [List.length_map, nsmul_eq_mul] using List.card_nsmul_le_sum (l.map f) c (List.forall_mem_map.2 h)

theorem sum_map_const {β : Type} (l : List β) (f : β → ℝ) (c : ℝ) (h : ∀ p ∈ l, f p = c) :
    (l.map f).sum = l.length * c := by
  simpa only [List.length_map, nsmul_eq_mul] using List.sum_eq_card_nsmul (l.map f) c (List.forall_mem_map.2 h)

/-- squared Euclidean distance over the common prefix -/
def d2 (a b : List ℝ) : ℝ := ((a.zip b).map fun p => (p.1 - p.2) ^ 2).sum

/-- the models' loop `d += (x - y)**2` over `zip(a, b)` (`MovingPeaks.dist2`, `BenchInd.sqDist`) computes `d2` -/
theorem foldl_sq_eq_d2 (a b : List ℝ) :
    (a.zip b).foldl (fun d p => d + (p.1 - p.2) * (p.1 - p.2)) 0 = d2 a b := by
  rw [GenL.foldl_add_map, zero_add, d2]; simp only [pow_two]

theorem d2_nonneg (a b : List ℝ) : 0 ≤ d2 a b := sum_map_nonneg _ _ (fun _ _ => sq_nonneg _)

theorem mem_zip_self (x : List ℝ) (p : ℝ × ℝ) (hp : p ∈ x.zip x) : p.1 = p.2 := by
  induction x with
  | nil => simp at hp
  | cons a t ih =>
    simp only [List.zip_cons_cons, List.mem_cons] at hp
    rcases hp with rfl | hp
    · rfl
    · exact ih hp

theorem d2_self (a : List ℝ) : d2 a a = 0 :=
  sum_map_eq_zero _ _ fun p hp => by rw [mem_zip_self a p hp, sub_self, zero_pow two_ne_zero]

theorem d2_eq_zero : ∀ (a b : List ℝ), a.length = b.length → d2 a b = 0 → a = b
  | [], [], _, _ => rfl
  | [], _ :: _, h, _ => nomatch h
  | _ :: _, [], h, _ => nomatch h
  | x :: t, y :: u, h, h0 => by
    obtain ⟨e1, e2⟩ := (add_eq_zero_iff_of_nonneg (sq_nonneg (x - y)) (d2_nonneg t u)).1 h0
    rw [sub_eq_zero.1 (pow_eq_zero_iff two_ne_zero |>.1 e1), d2_eq_zero t u (Nat.succ.inj h) e2]

theorem sqrt_d2_eq_zero {a b : List ℝ} (h : a.length = b.length) : Real.sqrt (d2 a b) = 0 ↔ a = b :=
  ⟨fun e => d2_eq_zero a b h ((Real.sqrt_eq_zero (d2_nonneg a b)).1 e), fun e => by rw [e, d2_self, Real.sqrt_zero]⟩

theorem frontStep_fst (pre post : ℝ) (st : ℝ × List ℝ) (p : ℝ × ℝ) :
    (frontStep pre post st p).1 = st.1 * p.1 := rfl

theorem frontStep_snd (pre post : ℝ) (st : ℝ × List ℝ) (p : ℝ × ℝ) :
    (frontStep pre post st p).2 = (pre * st.1 * p.2 * post) :: st.2 := rfl

/-- linear telescoping: every step keeps `pre·acc·post + Σ out` when `c + s = 1` -/
theorem front_fold_sum (pre post : ℝ) (ps : List (ℝ × ℝ)) (h : ∀ p ∈ ps, p.1 + p.2 = 1) (st : ℝ × List ℝ) :
    pre * (ps.foldl (frontStep pre post) st).1 * post + (ps.foldl (frontStep pre post) st).2.sum
      = pre * st.1 * post + st.2.sum := by
  induction ps generalizing st with
  | nil => rfl
  | cons p t ih =>
    rw [List.foldl_cons, ih (fun q hq => h q (List.mem_cons_of_mem _ hq)), frontStep_fst, frontStep_snd, List.sum_cons]
    linear_combination pre * st.1 * post * h p List.mem_cons_self

/-- quadratic telescoping when `c² + s² = 1` -/
theorem front_fold_norm (pre post : ℝ) (ps : List (ℝ × ℝ)) (h : ∀ p ∈ ps, p.1 ^ 2 + p.2 ^ 2 = 1)
    (st : ℝ × List ℝ) :
    (pre * (ps.foldl (frontStep pre post) st).1 * post) ^ 2
        + ((ps.foldl (frontStep pre post) st).2.map (· ^ 2)).sum
      = (pre * st.1 * post) ^ 2 + (st.2.map (· ^ 2)).sum := by
  induction ps generalizing st with
  | nil => rfl
  | cons p t ih =>
    rw [List.foldl_cons, ih (fun q hq => h q (List.mem_cons_of_mem _ hq)), frontStep_fst, frontStep_snd, List.map_cons,
      List.sum_cons]
    linear_combination (pre * st.1 * post) ^ 2 * h p List.mem_cons_self

theorem front_fold_length (pre post : ℝ) (ps : List (ℝ × ℝ)) (st : ℝ × List ℝ) :
    (ps.foldl (frontStep pre post) st).2.length = st.2.length + ps.length := by
  induction ps generalizing st with
  | nil => rfl
  | cons p t ih => rw [List.foldl_cons, ih, frontStep_snd, List.length_cons, List.length_cons, Nat.add_right_comm, Nat.add_assoc]

theorem front_sum (pre post : ℝ) (ps : List (ℝ × ℝ)) (h : ∀ p ∈ ps, p.1 + p.2 = 1) :
    (front pre post ps).sum = pre * post := by
  simp only [front, List.sum_cons, real_bridge]
  rw [front_fold_sum pre post ps h, List.sum_nil, add_zero, mul_one]

theorem front_norm (pre post : ℝ) (ps : List (ℝ × ℝ)) (h : ∀ p ∈ ps, p.1 ^ 2 + p.2 ^ 2 = 1) :
    ((front pre post ps).map (· ^ 2)).sum = (pre * post) ^ 2 := by
  simp only [front, List.map_cons, List.sum_cons, real_bridge]
  rw [front_fold_norm pre post ps h, List.map_nil, List.sum_nil, add_zero, mul_one]

theorem front_length (pre post : ℝ) (ps : List (ℝ × ℝ)) : (front pre post ps).length = ps.length + 1 := by
  rw [front, List.length_cons, front_fold_length, List.length_nil, Nat.zero_add]

/-- the fold of `Bench.front` over pairs `(c v, s v)` in closed form: the running product of the `c`s, and one output
per position, as the source writes each objective -/
theorem front_fold_map (pre post : ℝ) (c s : ℝ → ℝ) (xc : List ℝ) (acc : ℝ) (out : List ℝ) :
    (xc.map fun v => (c v, s v)).foldl (frontStep pre post) (acc, out)
      = (acc * (xc.map c).prod,
          ((List.range xc.length).reverse.map fun m =>
            pre * (acc * ((xc.take m).map c).prod) * s (xc.getD m 0) * post) ++ out) := by
  induction xc generalizing acc out with
  | nil => simp
  | cons a t ih =>
    simp only [List.map_cons, List.foldl_cons, frontStep, List.length_cons]
    rw [ih]
    rw [List.range_succ_eq_map]
    simp only [List.reverse_cons, List.map_append, List.map_cons, List.map_nil, List.append_assoc, List.cons_append,
      List.nil_append, List.prod_cons, List.take_zero, List.prod_nil, List.map_reverse, List.map_map]
    refine Prod.ext (by simp only [real_mul]; ring) ?_
    simp only
    congr 1
    · congr 1
      apply List.map_congr_left
      intro m _
      simp only [Function.comp, List.take_succ_cons, List.map_cons, List.prod_cons, List.getD_cons_succ, real_mul]
      ring
    · simp only [real_mul, mul_one, List.getD_eq_getElem?_getD, List.length_cons, lt_add_iff_pos_left,
        Order.lt_add_one_iff, zero_le, getElem?_pos, List.getElem_cons_zero, Option.getD_some]

theorem _root_.GenL.front_map_eq (pre post : ℝ) (c s : ℝ → ℝ) (xc : List ℝ) :
    front pre post (xc.map fun v => (c v, s v))
      = (pre * (xc.map c).prod * post) ::
          ((List.range xc.length).reverse.map fun m => pre * ((xc.take m).map c).prod * s (xc.getD m 0) * post) := by
  simp only [front]
  have h := front_fold_map pre post c s xc 1 []
  rw [real_lit_one, h]
  simp only [one_mul, real_mul, List.map_take, List.getD_eq_getElem?_getD, List.map_reverse, List.append_nil]

theorem _root_.GenL.front_cons_map (pre post : ℝ) (p0 : ℝ × ℝ) (c s : ℝ → ℝ) (r : List ℝ) :
    front pre post (p0 :: r.map fun v => (c v, s v))
      = (pre * (p0.1 * (r.map c).prod) * post) ::
          (((List.range r.length).reverse.map fun m => pre * (p0.1 * ((r.take m).map c).prod) * s (r.getD m 0) * post)
            ++ [pre * p0.2 * post]) := by
  simp only [front, List.foldl_cons, frontStep]
  rw [front_fold_map]
  simp only [real_lit_one, one_mul, real_mul, List.map_take, List.getD_eq_getElem?_getD,
    List.map_reverse, mul_one]

theorem exists_front_norm {r : Option (List ℝ)} {pre post G : ℝ} {ps : List (ℝ × ℝ)} {M : Nat}
    (hr : r = some (front pre post ps)) (hlen : ps.length + 1 = M) (hps : ∀ p ∈ ps, p.1 ^ 2 + p.2 ^ 2 = 1)
    (hpre : pre * post = 1 + G) :
    ∃ f, r = some f ∧ f.length = M ∧ (f.map (· ^ 2)).sum = (1 + G) ^ 2 :=
  ⟨_, hr, by rw [front_length, hlen], by rw [front_norm _ _ _ hps, hpre]⟩

theorem dtlzOk_iff (n M : Nat) : dtlzOk n M = true ↔ (1 ≤ M ∧ M - 1 ≤ n) := decide_eq_true_iff

theorem dtlz_take_length {x : List ℝ} {M : Nat} (hM : 1 ≤ M) (hn : M - 1 ≤ x.length) :
    (x.take (M - 1)).length + 1 = M := by
  rw [List.length_take, Nat.min_eq_left hn, Nat.sub_add_cancel hM]

theorem sphere_pairs (l : List ℝ) (θ : ℝ → ℝ) :
    ∀ p ∈ l.map (fun v => ((RealLike.cos (θ v) : ℝ), (RealLike.sin (θ v) : ℝ))), p.1 ^ 2 + p.2 ^ 2 = 1 :=
  List.forall_mem_map.2 fun _ _ => Real.cos_sq_add_sin_sq _

theorem angles_pairs (g : ℝ) : ∀ xc : List ℝ, ∀ p ∈ dtlz56Angles g xc, p.1 ^ 2 + p.2 ^ 2 = 1
  | [] => fun _ hp => nomatch hp
  | _ :: r => List.forall_mem_cons.2 ⟨Real.cos_sq_add_sin_sq _, sphere_pairs r _⟩

theorem angles_length (g : ℝ) : ∀ xc : List ℝ, (dtlz56Angles g xc).length = xc.length
  | [] => rfl
  | _ :: r => congrArg (· + 1) (List.length_map (as := r) _)

/-- `10·N + Σ Fᵢ ≥ 0` when every term is at least `−10`: the sums of `rastrigin`, its variants and ZDT4's `g` -/
theorem ten_length_add_sum_nonneg {β : Type} (l : List β) (F : β → ℝ) (h : ∀ p ∈ l, -10 ≤ F p) :
    0 ≤ 10 * (l.length : ℝ) + (l.map F).sum := by
  linarith [sum_map_ge l F (-10) h]

/-- … and `= 0` when every term is `−10`: the same sums at their optimum -/
theorem ten_length_add_sum_eq_zero {β : Type} (l : List β) (F : β → ℝ) (h : ∀ p ∈ l, F p = -10) :
    10 * (l.length : ℝ) + (l.map F).sum = 0 := by
  rw [sum_map_const l F (-10) h]; ring

theorem length_sub_one_nonneg (x0 : ℝ) (t : List ℝ) : (0 : ℝ) ≤ ((x0 :: t).length : ℝ) - 1 := by
  rw [List.length_cons, Nat.cast_succ, add_sub_cancel_right]; exact Nat.cast_nonneg _

theorem neg_ten_le_sq_sub (a b : ℝ) : -10 ≤ a ^ 2 - 10 * Real.cos b := by
  linarith [sq_nonneg a, Real.cos_le_one b]

theorem sq_sub_ten_cos_of_zero {a b : ℝ} (ha : a = 0) (hb : b = 0) : a ^ 2 - 10 * Real.cos b = -10 := by
  rw [ha, hb, Real.cos_zero]; norm_num

theorem abs_prod_map_cos_le_one {β : Type} (l : List β) (f : β → ℝ) : |(l.map fun p => Real.cos (f p)).prod| ≤ 1 := by
  induction l with
  | nil => simp
  | cons a t ih =>
    rw [List.map_cons, List.prod_cons, abs_mul]
    exact mul_le_one₀ (Real.abs_cos_le_one _) (abs_nonneg _) ih

theorem zipWith_cancel {f g : ℝ → ℝ → ℝ} : ∀ (x t : List ℝ), t.length = x.length → (∀ b ∈ t, ∀ a, g (f a b) b = a) →
    List.zipWith g (List.zipWith f x t) t = x
  | [], _, _, _ => rfl
  | _ :: _, [], h, _ => nomatch h
  | a :: x, b :: t, h, hc => by
    rw [List.zipWith_cons_cons, List.zipWith_cons_cons, hc b List.mem_cons_self,
      zipWith_cancel x t (Nat.succ.inj h) fun b' hb' => hc b' (List.mem_cons_of_mem _ hb')]

theorem scaleFactor_eq (factor : List ℝ) (h : ∀ c ∈ factor, c ≠ 0) :
    scaleFactor factor = some (factor.map fun c => 1 / c) :=
  List.mapM_eq_some _ _ _ fun c hc => by
    simp only [real_bridge]
    exact if_pos (lt_or_gt_of_ne (h c hc))

end C20L
