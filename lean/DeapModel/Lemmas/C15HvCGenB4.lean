import DeapModel.Lemmas.C15HvCGenA3
/-!
C15 — the general case of `hv_recursive` in `_hv.c`, second phase: the invariant `LInvC` of the reinsertion loop
l.780-808, the recursive call with the promotion of the mark (l.796-798), and one iteration of the loop.
-/
namespace HvC
open HvSweep (RL preSet pos ARv VOLv ids)

/-- what is known after the reset loop of level `j + 1` -/
structure AfterResetC (C : Cargo) (R : List ℚ) (d n : ℕ) (O : ℕ → List ℕ) (j : ℕ) (A : List ℕ) (S₁ : St) : Prop where
  inv : InvC C R d n O S₁ (j + 1) A
  zero_or_big : ∀ y ∈ A, ign S₁ y = 0 ∨ ((j + 1 : ℕ) : ℤ) ≤ ign S₁ y

/-- the invariant of the reinsertion loop of level `j + 1`: the nodes `d0 ++ [q]` of the list of the level are present
in the lists `2 .. j`, `todo` are still to be reinserted, `S₁` is the state before the deletions -/
structure LInvC (C : Cargo) (R : List ℚ) (d n : ℕ) (O : ℕ → List ℕ) (j : ℕ) (A : List ℕ) (S₁ T : St)
    (d0 : List ℕ) (q : ℕ) (todo : List ℕ) (hvol : ℚ) : Prop where
  split : RL O (j + 1) A = d0 ++ q :: todo
  ptr : PtrEqC (delSeq C (j + 1) S₁ todo.reverse) T
  inv : InvC C R d n O T j (d0 ++ [q])
  absent : ∀ y ∈ todo, ign T y = ign S₁ y
  cache : ∀ a ∈ d0 ++ [q], ar T a (j + 1) = ARv R (spt C R) O j A a ∧ vl T a (j + 1) = VOLv (stc C R) R (spt C R) O j A a
  hvol : hvol = VOLv (stc C R) R (spt C R) O j A q
  f_ign : ∀ y, y ∉ A → ign T y = ign S₁ y
  f_dr : ∀ y, y ∉ A → dr T y = dr S₁ y
  f_hi : ∀ a i, j + 1 < i → ar T a i = ar S₁ a i ∧ vl T a i = vl S₁ a i
  f_bhi : ∀ i, j + 1 ≤ i → T.bound.getD i none = S₁.bound.getD i none

section ctx
variable {C : Cargo} {R : List ℚ} {d n : ℕ} {O : ℕ → List ℕ}

theorem invC_setAr_hi {S : St} {k : ℕ} {A : List ℕ} (inv : InvC C R d n O S k A) (p i : ℕ) (v : ℚ) (hi : k < i) :
    InvC C R d n O (setAr S p i v) k A :=
  { inv with
    tsh := gB_tsh_setAr inv.tsh _ _ _
    cv := cvc_frame (S := S) (fun a i' h => ar_setAr_ne S p i a i' v (Or.inr (by omega))) (fun _ _ _ => rfl)
      (fun _ _ => rfl) inv.cv }

theorem invC_setVl_hi {S : St} {k : ℕ} {A : List ℕ} (inv : InvC C R d n O S k A) (p i : ℕ) (v : ℚ) (hi : k < i) :
    InvC C R d n O (setVl S p i v) k A :=
  { inv with
    tsh := gB_tsh_setVl inv.tsh _ _ _
    cv := cvc_frame (S := S) (fun _ _ _ => rfl) (fun a i' h => vl_setVl_ne S p i a i' v (Or.inr (by omega)))
      (fun _ _ => rfl) inv.cv }

/-- **what one iteration of the reinsertion loop l.780-808 may do**: from a state `T` in which the nodes of `pre` have
their caches of the level, a step to `T5` that puts `p` back (`ptr`, `inv`), leaves the marks and `domr` outside
`pre ++ [p]`, the caches above level `j` other than `area[p][j+1]` and the bounds from the level on alone and gives
`area[p][j+1]` the ideal value, followed by the assignment of `vol[p][j+1]` (l.777 / l.806), establishes the loop
invariant for `pre`, `p`, `todo` -/
theorem linvC_close (c : CCtx C R d n O) {j : ℕ} (hj : j + 1 < d) {A : List ℕ} (hA : ∀ a ∈ A, a ∈ ids n) {S₁ T T5 : St}
    {pre : List ℕ} {p : ℕ} {todo : List ℕ} {hv : ℚ} (split : RL O (j + 1) A = pre ++ p :: todo)
    (absent : ∀ y ∈ todo, ign T y = ign S₁ y)
    (cache : ∀ a ∈ pre,
      ar T a (j + 1) = ARv R (spt C R) O j A a ∧ vl T a (j + 1) = VOLv (stc C R) R (spt C R) O j A a)
    (f_ign : ∀ y, y ∉ A → ign T y = ign S₁ y) (f_dr : ∀ y, y ∉ A → dr T y = dr S₁ y)
    (f_hi : ∀ a i, j + 1 < i → ar T a i = ar S₁ a i ∧ vl T a i = vl S₁ a i)
    (f_bhi : ∀ i, j + 1 ≤ i → T.bound.getD i none = S₁.bound.getD i none)
    (ptr : PtrEqC (delSeq C (j + 1) S₁ todo.reverse) T5) (inv : InvC C R d n O T5 j (pre ++ [p]))
    (hign : ∀ y, y ∉ pre ++ [p] → ign T5 y = ign T y) (hdr : ∀ y, y ∉ pre ++ [p] → dr T5 y = dr T y)
    (har : ∀ a i, j < i → (a ≠ p ∨ i ≠ j + 1) → ar T5 a i = ar T a i) (hvl : ∀ a i, j < i → vl T5 a i = vl T a i)
    (hbd : ∀ i, j + 1 ≤ i → T5.bound.getD i none = T.bound.getD i none)
    (harp : ar T5 p (j + 1) = ARv R (spt C R) O j A p) (hvol : hv = VOLv (stc C R) R (spt C R) O j A p) :
    LInvC C R d n O j A S₁ (setVl T5 p (j + 1) hv) pre p todo hv := by
  obtain ⟨hnd, _, hB, _⟩ := HvSweep.RL_split c.g hj hA (pre := pre ++ [p]) (rest := todo) (by rw [split]; simp)
  have hpre_p : ∀ a ∈ pre, a ≠ p := fun a ha e => (List.nodup_append.mp hnd).2.2 a ha p (by simp) e
  have hpn : p ≤ n := ((HvSweep.mem_ids n p).mp (hA p ((hB p).mp (by simp)).1)).2
  have hout : ∀ y, y ∉ A → y ∉ pre ++ [p] := fun y hy h => hy ((hB y).mp h).1
  exact
    { split := split
      ptr := ptr
      inv := invC_setVl_hi inv p (j + 1) hv (by omega)
      absent := fun y hy => (hign y (fun h => ((hB y).mp h).2 hy)).trans (absent y hy)
      cache := fun a ha => by
        rcases List.mem_append.mp ha with h | h
        · rw [vl_setVl_ne T5 p (j + 1) a (j + 1) hv (Or.inl (hpre_p a h)), hvl a (j + 1) (by omega)]
          exact ⟨(har a (j + 1) (by omega) (Or.inl (hpre_p a h))).trans (cache a h).1, (cache a h).2⟩
        · rw [List.mem_singleton.mp h]
          exact ⟨harp, (vl_setVl_self inv.tsh.vol hpn hj hv).trans hvol⟩
      hvol := hvol
      f_ign := fun y hy => (hign y (hout y hy)).trans (f_ign y hy)
      f_dr := fun y hy => (hdr y (hout y hy)).trans (f_dr y hy)
      f_hi := fun a i hi => ⟨(har a i (by omega) (Or.inr (by omega))).trans (f_hi a i hi).1,
        ((vl_setVl_ne T5 p (j + 1) a i hv (Or.inr (by omega))).trans (hvl a i (by omega))).trans (f_hi a i hi).2⟩
      f_bhi := fun i hi => (hbd i hi).trans (f_bhi i hi) }

theorem promo_cases (T : St) (p dim : ℕ) (a : ℚ) :
    (ign T p = (dim : ℤ) - 1 ∧ promo T p dim a = setIgn (setAr T p dim a) p dim) ∨
    (ign T p ≠ (dim : ℤ) - 1 ∧ promo T p dim a = setAr T p dim a) := by
  unfold promo
  by_cases h : ign (setAr T p dim a) p = (dim : ℤ) - 1
  · rw [if_pos h]; exact Or.inl ⟨h, rfl⟩
  · rw [if_neg h]; exact Or.inr ⟨h, rfl⟩

/-- **the recursive call and the promotion** (l.763-769 / l.796-798) for the node `p` just (re)inserted after `q`: its
area cache gets the ideal value computed by the level below -/
theorem area_rec_ok (c : CCtx C R d n O) (j : ℕ) (hj2 : 2 ≤ j) (hj : j + 1 < d) (F : ℕ)
    (hrec : LevelOKC C R d n O F j) (A : List ℕ) (hA : ∀ a ∈ A, a ∈ ids n)
    (d0 : List ℕ) (q p : ℕ) (todo : List ℕ) (hsplit : RL O (j + 1) A = d0 ++ q :: p :: todo)
    (T : St) (inv : InvC C R d n O T j (d0 ++ [q] ++ [p])) :
    ∃ a T1, hvRecursive C R F j ((d0 ++ [q]).length + 1) T = some (a, T1) ∧
      PtrEqC T (promo T1 p (j + 1) a) ∧ InvC C R d n O (promo T1 p (j + 1) a) j (d0 ++ [q] ++ [p]) ∧
      ar (promo T1 p (j + 1) a) p (j + 1) = ARv R (spt C R) O j A p ∧
      (∀ y, y ∉ d0 ++ [q] ++ [p] → ign (promo T1 p (j + 1) a) y = ign T y) ∧
      (∀ y, y ∉ d0 ++ [q] ++ [p] → dr (promo T1 p (j + 1) a) y = dr T y) ∧
      (∀ a' i, j < i → (a' ≠ p ∨ i ≠ j + 1) → ar (promo T1 p (j + 1) a) a' i = ar T a' i) ∧
      (∀ a' i, j < i → vl (promo T1 p (j + 1) a) a' i = vl T a' i) ∧
      (∀ i, j < i → (promo T1 p (j + 1) a).bound.getD i none = T.bound.getD i none) := by
  have hpL : p ∈ RL O (j + 1) A := by rw [hsplit]; simp
  have hpA : p ∈ A := ((HvSweep.mem_RL O (j + 1) A p).mp hpL).2
  have hpn : p ≤ n := ((HvSweep.mem_ids n p).mp (hA p hpA)).2
  have hsplit' : RL O (j + 1) A = (d0 ++ [q]) ++ p :: todo := by rw [hsplit]; simp
  obtain ⟨hp1, _⟩ := HvSweep.pos_lt_of_split O (j + 1) (c.g.nodup hj) (RL O (j + 1) A) (d0 ++ [q]) todo p
    (HvSweep.RL_sublist O (j + 1) A) hsplit'
  obtain ⟨v, T1, hrun, post⟩ := hrec T (d0 ++ [q] ++ [p]) inv (by simp)
  have hlen : (d0 ++ [q] ++ [p]).length = (d0 ++ [q]).length + 1 := by simp
  rw [hlen] at hrun
  refine ⟨v, T1, hrun, ?_⟩
  have hv : v = ARv R (spt C R) O j A p := post.val.trans (HvSweep.ARv_of_split c.g hj hA hsplit').symm
  have hT2inv : InvC C R d n O (setAr T1 p (j + 1) v) j (d0 ++ [q] ++ [p]) := invC_setAr_hi post.inv p (j + 1) v (Nat.lt_succ_self j)
  have har2 : ar (setAr T1 p (j + 1) v) p (j + 1) = ARv R (spt C R) O j A p := by
    rw [ar_setAr_self post.inv.tsh.area hpn hj, hv]
  have hfr_ar : ∀ a' i, j < i → (a' ≠ p ∨ i ≠ j + 1) → ar (setAr T1 p (j + 1) v) a' i = ar T a' i :=
    fun a' i hi hne => (ar_setAr_ne T1 p (j + 1) a' i v hne).trans (post.cache_hi a' i hi).1
  have hfr_vl : ∀ a' i, j < i → vl (setAr T1 p (j + 1) v) a' i = vl T a' i := fun a' i hi => (post.cache_hi a' i hi).2
  rcases promo_cases T1 p (j + 1) v with ⟨hprom, he⟩ | ⟨hprom, he⟩
  · -- promotion: dominated in the coordinates below, and last in this one
    rw [he]
    obtain ⟨h2le, htn⟩ := mark_pred hj2 hprom
    obtain ⟨b, hbB, hdom⟩ := post.inv.ig p (List.mem_append_right _ (List.mem_singleton_self p)) h2le
    rw [htn] at hdom
    have hbpos : pos O (j + 1) b < pos O (j + 1) p := by
      rcases List.mem_append.mp hbB with h | h
      · exact hp1 b h
      · simp at h; exact absurd h hdom.1
    have hdom' : DomC C O (j + 1) b p := domC_succ hdom hbpos
    have hlenI : p < (setAr T1 p (j + 1) v).ignore.length := by rw [hT2inv.tsh.ign]; exact Nat.lt_succ_of_le hpn
    refine ⟨post.ptr, ?_, har2, ?_, ?_, hfr_ar, hfr_vl, fun i hi => post.bound_hi i hi⟩
    · exact
        { hT2inv with
          tsh := gB_tsh_setIgn hT2inv.tsh _ _
          ig := by
            intro y hy hm
            by_cases hyp : y = p
            · subst hyp
              rw [ign_setIgn_self _ y _ hlenI, Int.toNat_natCast]
              exact ⟨b, hbB, hdom'⟩
            · rw [ign_setIgn_ne _ p y _ hyp] at hm ⊢
              exact hT2inv.ig y hy hm
          igd := by
            intro y hm
            by_cases hyp : y = p
            · subst hyp
              exact post.inv.igd y h2le
            · rw [ign_setIgn_ne _ p y _ hyp] at hm
              exact hT2inv.igd y hm }
    · intro y hy
      have hyp : y ≠ p := fun e => hy (by simp [e])
      rw [ign_setIgn_ne _ p y _ hyp]
      exact post.ign_out y hy
    · intro y hy
      exact post.dr_out y hy
  · rw [he]
    exact ⟨post.ptr, hT2inv, har2, fun y hy => post.ign_out y hy, fun y hy => post.dr_out y hy, hfr_ar, hfr_vl,
      fun i hi => post.bound_hi i hi⟩

theorem linvC_step (c : CCtx C R d n O) (j : ℕ) (hj2 : 2 ≤ j) (hj : j + 1 < d) (F : ℕ)
    (hrec : LevelOKC C R d n O F j) (A : List ℕ) (S₁ : St) (Rr : AfterResetC C R d n O j A S₁)
    (T : St) (d0 : List ℕ) (q p : ℕ) (todo : List ℕ) (hvol : ℚ)
    (I : LInvC C R d n O j A S₁ T d0 q (p :: todo) hvol) :
    ∃ T5, bodyR (hvRecursive C R F j) C (j + 1) p q ((d0 ++ [q]).length + 1) T = some T5 ∧
      LInvC C R d n O j A S₁ (setVl T5 p (j + 1) (hvol + ar T q (j + 1) * (cg C p (j + 1) - cg C q (j + 1))))
        (d0 ++ [q]) p todo (hvol + ar T q (j + 1) * (cg C p (j + 1) - cg C q (j + 1))) ∧
      nx T5 (j + 1) p = (todo ++ [0]).headD 0 := by
  have hA := Rr.inv.sub
  have hjd : j + 1 ≤ d := hj.le
  have h2j : 2 ≤ j + 1 := Nat.le_succ_of_le hj2
  have h1j : 1 ≤ j := le_trans one_le_two hj2
  have hsplit : RL O (j + 1) A = d0 ++ q :: p :: todo := I.split
  have hsplit' : RL O (j + 1) A = (d0 ++ [q]) ++ p :: todo := by rw [hsplit]; simp
  obtain ⟨_, _, hpre, hptA⟩ := HvSweep.RL_split c.g hj hA hsplit'
  have hpA : p ∈ A := hptA p (by simp)
  have hpI := hA p hpA
  have hpn : p ≤ n := ((HvSweep.mem_ids n p).mp hpI).2
  have hpre_p : p ∉ d0 ++ [q] := fun h => ((hpre p).mp h).2 (by simp)
  have hcurA : ∀ a ∈ d0 ++ [q], a ∈ A := fun a ha => ((hpre a).mp ha).1
  have hqA : q ∈ A := hcurA q (by simp)
  have hcurI : ∀ a ∈ d0 ++ [q], a ∈ ids n := fun a ha => hA a (hcurA a ha)
  have hBiff : ∀ a, a ∈ d0 ++ [q] ++ [p] ↔ a = p ∨ a ∈ d0 ++ [q] := fun a => by
    rw [List.mem_append, List.mem_singleton, or_comm]
  have hAB : ∀ a, a ≠ p → (a ∈ d0 ++ [q] ↔ a ∈ d0 ++ [q] ++ [p]) := fun a hap => by
    rw [hBiff a, or_iff_right hap]
  -- the state before p was deleted
  obtain ⟨invU, _, _, _, _, _, _, _, _, fptr⟩ :=
    afterDeletionsC C R d n O j A S₁ c hj2 hj Rr.inv Rr.zero_or_big (d0 ++ [q]) p todo.reverse
      (by rw [List.reverse_reverse]; exact hsplit')
  have hpe : PtrEqC (delStep C (j + 1) (delSeq C (j + 1) S₁ todo.reverse) p) T := by
    have := I.ptr
    rwa [List.reverse_cons, delSeq_snoc] at this
  generalize hU : delSeq C (j + 1) S₁ todo.reverse = U at invU fptr hpe
  have hpB : p ∈ d0 ++ [q] ++ [p] := by simp
  have hnf : ∀ i, 2 ≤ i → i < j + 1 → HvSweep.NodeFacts n (toSw U) i p := by
    intro i hi1 hi2
    refine HvSweep.dl_nodeFacts (invU.lists i hi1 (Nat.le_of_lt_succ hi2)) ?_
    exact (HvSweep.mem_RL O i _ p).mpr ⟨(c.g.mem (lt_trans hi2 hj) p).mpr hpI, hpB⟩
  have hsegL : HvSweep.Seg (toSw S₁) (j + 1) 0 ((d0 ++ [q]) ++ p :: todo) 0 := by
    have := (Rr.inv.lists (j + 1) h2j (le_refl _)).1
    rw [hsplit'] at this; exact this
  have hnxU : nx U (j + 1) p = (todo ++ [0]).headD 0 := by
    rw [(fptr (j + 1) p (Or.inr (le_refl _))).1, (seg_pv_nx S₁ (j + 1) (d0 ++ [q]) p todo hsegL).2]
    cases todo <;> rfl
  have hmarkS : ign T p = ign S₁ p := I.absent p (by simp)
  generalize hhv1 : hvol + ar T q (j + 1) * (cg C p (j + 1) - cg C q (j + 1)) = hvol1
  have hvol1_eq : hvol1 = VOLv (stc C R) R (spt C R) O j A p := by
    rw [← hhv1, I.hvol, (I.cache q (by simp)).1]
    have hst := HvSweep.caches_step c.g j hj A hA d0 todo q p hsplit
    rw [hst, c.cg_tr' hpI hj (Rr.inv.good p hpA _ hj), c.cg_tr' (hA q hqA) hj (Rr.inv.good q hqA _ hj)]
    ring
  unfold bodyR
  by_cases hmark : ((j + 1 : ℕ) : ℤ) ≤ ign T p
  · -- marked: `reinsert_dom`, the area is copied
    rw [if_pos hmark]
    obtain ⟨hm2, hmt, w, hwA, hdom⟩ := Rr.inv.ig.witness h2j hpA (hmarkS ▸ hmark)
    have hwpos : pos O (j + 1) w < pos O (j + 1) p := hdom.2.2.2 (j + 1) h2j hmt
    have hwcur : w ∈ d0 ++ [q] := by
      have : w ∈ preSet O (j + 1) A p := (HvSweep.mem_preSet O (j + 1) A p w).mpr ⟨hwA, le_of_lt hwpos⟩
      have := (HvSweep.mem_preSet_of_split c.g hj A hA (d0 ++ [q]) todo p hsplit' w).mp this
      rcases List.mem_append.mp this with h | h
      · exact h
      · simp at h; exact absurd h hdom.1
    obtain ⟨hback, hT3s, hT3t, e_ign, e_bnd, e_dr, e_tree, e_calls, e_old, e_new⟩ :=
      reinsertDom_spec C p (j + 1) U T invU.shape I.inv.shape hjd I.inv.tsh hpn hnf hpe
    generalize reinsertDom C T p (j + 1) = T3 at hback hT3s hT3t e_ign e_bnd e_dr e_tree e_calls e_old e_new ⊢
    have hqp : q ≠ p := fun e => hpre_p (by simp [e])
    have hign3 : ∀ y, ign T3 y = ign T y := gB_ign_of_ignore e_ign
    have hdr3 : ∀ y, dr T3 y = dr T y := gB_dr_of_domr e_dr
    have inv3 : InvC C R d n O T3 j (d0 ++ [q] ++ [p]) :=
      { invU with
        shape := hT3s
        tsh := hT3t
        lists := fun i h1 h2 => dlc_ptrEqC hback (invU.lists i h1 h2)
        cv := by
          refine cvc_insert_dom c (S := T) (K := j + 1) (m := (ign S₁ p).toNat) hjd (Nat.le_succ_of_le hmt) (d0 ++ [q])
            (d0 ++ [q] ++ [p]) p w hBiff hpre_p hcurI hpI (Rr.inv.good p hpA) hwcur hdom (fun i _ => by rw [e_bnd])
            (fun a i hap _ => e_old a i (Or.inl hap)) (fun i hi1 hi2 => ?_) I.inv.cv
          obtain ⟨pr, l₁, l₂, hL, hpv⟩ := pred_of_precedes c (lt_trans hi2 hj) invU.sub
            (invU.lists i hi1 (Nat.le_of_lt_succ hi2)) hpB (List.mem_append_left _ hwcur) hdom.1
            (hdom.2.2.2 i hi1 (le_of_lt (lt_of_lt_of_le hi2 hmt)))
          exact ⟨pr, l₁, l₂, hL, hpv ▸ e_new i hi1 hi2⟩
        ig := fun y hy hm => by
          rw [hign3 y] at hm ⊢
          rcases (hBiff y).mp hy with rfl | hyc
          · rw [hmarkS]
            exact ⟨w, List.mem_append_left _ hwcur, hdom⟩
          · obtain ⟨b, hb, hd⟩ := I.inv.ig y hyc hm
            exact ⟨b, List.mem_append_left _ hb, hd⟩
        igd := fun y hm => by
          rw [hign3 y] at hm
          rw [hdr3 y]
          exact I.inv.igd y hm
        dm := dmc_insert_dom c (S := T) (m := (ign S₁ p).toNat) (le_trans h2j hmt) (d0 ++ [q]) (d0 ++ [q] ++ [p]) p w hBiff hcurI hpI hwcur
          hdom hdr3 (by rw [e_bnd]) (I.inv.igd p (hmarkS ▸ hm2)) I.inv.dm
        tree := by rw [e_tree]; exact I.inv.tree }
    refine ⟨_, rfl, linvC_close c hj hA hsplit' (fun y hy => I.absent y (by simp [hy])) I.cache I.f_ign I.f_dr I.f_hi I.f_bhi
      (hU ▸ hback) (invC_setAr_hi inv3 p (j + 1) _ (Nat.lt_succ_self j)) (fun y _ => hign3 y) (fun y _ => hdr3 y)
      (fun a i hi hne => (ar_setAr_ne T3 p (j + 1) a i _ hne).trans (e_old a i (Or.inr (Or.inr hi))).1)
      (fun a i hi => (e_old a i (Or.inr (Or.inr hi))).2) (fun i _ => congrArg (·.getD i none) e_bnd) ?_ hvol1_eq, ?_⟩
    · rw [ar_setAr_self hT3t.area hpn hj, (e_old q (j + 1) (Or.inl hqp)).1, (I.cache q (by simp)).1]
      exact (ARv_of_domC c j h1j hj A hA d0 todo q p hsplit w _ hwA hmt hdom).symm
    · show nx T3 (j + 1) p = _
      rw [(hback (j + 1) p).1]; exact hnxU
  · -- unmarked: `reinsert`, the level below computes the area
    rw [if_neg hmark]
    have hp0m : ign T p = 0 := by
      rcases Rr.zero_or_big p hpA with h0 | hbig
      · rw [hmarkS]; exact h0
      · rw [← hmarkS] at hbig; exact absurd hbig hmark
    obtain ⟨hback, hT3s, ⟨e_ign, e_ar, e_vl, e_dr, e_tree, e_calls⟩, e_blen, e_bge, e_blt⟩ :=
      reinsert_spec C p (j + 1) U T invU.shape I.inv.shape hjd hnf hpe
    generalize reinsert C T p (j + 1) = T3 at hback hT3s e_ign e_ar e_vl e_dr e_tree e_calls e_blen e_bge e_blt ⊢
    have hign3 : ∀ y, ign T3 y = ign T y := fun y => gB_ign_of_ignore e_ign y
    have hdr3 : ∀ y, dr T3 y = dr T y := fun y => gB_dr_of_domr e_dr y
    have inv3 : InvC C R d n O T3 j (d0 ++ [q] ++ [p]) :=
      { invU with
        shape := hT3s
        tsh := gB_tsh_of_fields I.inv.tsh e_ar e_vl (by rw [e_ign]; exact I.inv.tsh.ign) e_dr
          (by rw [e_blen]; exact I.inv.tsh.bound)
        lists := fun i h1 h2 => dlc_ptrEqC hback (invU.lists i h1 h2)
        cv := cvc_reinsert c (S := T) (le_refl _) hjd (fun a i => gB_ar_of_area e_ar a i)
          (fun a i => gB_vl_of_vol e_vl a i) e_blt hpI hcurI invU.sub hAB I.inv.cv
        ig := by
          intro y hy hm
          rw [hign3 y] at hm ⊢
          rcases (hBiff y).mp hy with rfl | hyc
          · rw [hp0m] at hm; exact absurd hm (by decide)
          · obtain ⟨b, hb, hd⟩ := I.inv.ig y hyc hm
            exact ⟨b, List.mem_append_left _ hb, hd⟩
        igd := by
          intro y hm
          rw [hign3 y] at hm
          rw [hdr3 y]
          exact I.inv.igd y hm
        dm := dmc_reinsert (S := T) hdr3 (e_blt 2 (le_refl _) (Nat.lt_succ_of_le hj2)) hAB I.inv.dm
        tree := by rw [e_tree]; exact I.inv.tree }
    obtain ⟨a, T1, hrun, hpe5, inv5, har5, fign5, fdr5, far5, fvl5, fb5⟩ :=
      area_rec_ok c j hj2 hj F hrec A hA d0 q p todo hsplit T3 inv3
    rw [hrun]
    refine ⟨_, rfl, linvC_close c hj hA hsplit' (fun y hy => I.absent y (by simp [hy])) I.cache I.f_ign I.f_dr I.f_hi I.f_bhi
      (hU ▸ hback.trans hpe5) inv5 (fun y hy => (fign5 y hy).trans (hign3 y)) (fun y hy => (fdr5 y hy).trans (hdr3 y))
      (fun a' i hi hne => (far5 a' i hi hne).trans (gB_ar_of_area e_ar a' i))
      (fun a' i hi => (fvl5 a' i hi).trans (gB_vl_of_vol e_vl a' i))
      (fun i hi => (fb5 i hi).trans (e_bge i (Or.inr hi))) har5 hvol1_eq, ?_⟩
    rw [(hpe5 (j + 1) p).1, (hback (j + 1) p).1]; exact hnxU

end ctx

end HvC
