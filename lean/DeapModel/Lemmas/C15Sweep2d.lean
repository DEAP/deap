import DeapModel.Lemmas.C15SweepRun
import DeapModel.Lemmas.C15Stair
/-!
C15 — the cargo and the node orders that `preProcess` builds; the transcribed algorithm computes the specification
in one dimension (`sweep_dim1`: `preProcess` + the base case `dimIndex == 0` of `hvRecursive`); the staircase loop of
`dimIndex == 1` in coordinates.
-/
namespace HvSweep
open Hypervolume

theorem cg_translate (front : List (List ℚ)) (ref : List ℚ) (k j : ℕ) (hk : k < front.length)
    (hp : j < (front.getD k []).length) (hr : j < ref.length) :
    cg ([] :: translate front ref) (k + 1) j = (front.getD k []).getD j 0 - ref.getD j 0 := by
  unfold cg tget translate
  rw [List.getD_cons_succ]
  split
  · have : (front.map (fun p => List.zipWith (· - ·) p ref)).getD k [] = List.zipWith (· - ·) (front.getD k []) ref := by
      simp only [List.getD_eq_getElem?_getD, List.getElem?_map, List.getElem?_eq_getElem hk, Option.map_some,
        Option.getD_some]
    rw [this, List.getD_zipWith (· - ·) _ _ _ 0 0 0 hp hr]
  · rename_i h
    have h0 : ∀ x ∈ ref, x = 0 := by
      intro x hx
      have hany : ref.any (fun r => decide (r ≠ 0)) = false := by simpa using h
      have := List.any_eq_false.mp hany x hx
      simpa using this
    have : ref.getD j 0 = 0 := by
      rw [List.getD_eq_getElem?_getD, List.getElem?_eq_getElem hr]
      exact h0 _ (List.getElem_mem hr)
    rw [this, sub_zero]

theorem cg_node (front : List (List ℚ)) (ref : List ℚ) (hlen : ∀ p ∈ front, p.length = ref.length) {a : ℕ}
    (ha : a ∈ ids front.length) :
    front.getD (a - 1) [] ∈ front ∧
      ∀ j < ref.length, cg ([] :: translate front ref) a j = (front.getD (a - 1) []).getD j 0 - ref.getD j 0 := by
  have har := (mem_ids _ a).mp ha
  have h1 : a - 1 < front.length := by omega
  have hmem : front.getD (a - 1) [] ∈ front := by
    rw [List.getD_eq_getElem?_getD, List.getElem?_eq_getElem h1]; exact List.getElem_mem h1
  refine ⟨hmem, fun j hj => ?_⟩
  have := cg_translate front ref (a - 1) j h1 (by rw [hlen _ hmem]; exact hj) hj
  rwa [show a - 1 + 1 = a by omega] at this

theorem sortByDimension_sorted (C : Cargo) (nodes : List ℕ) (i : ℕ) :
    (sortByDimension C nodes i).Pairwise (fun a b => cg C a i ≤ cg C b i) := by
  have := List.pairwise_mergeSort (le := fun a b => decide (cg C a i ≤ cg C b i))
    (fun a b c h1 h2 => by simp only [decide_eq_true_eq] at *; exact le_trans h1 h2)
    (fun a b => by
      rcases le_total (cg C a i) (cg C b i) with h | h <;> simp [h]) nodes
  exact this.imp (fun h => by simpa using h)

theorem cum_sorted (C : Cargo) : ∀ (is nodes : List ℕ) (i : ℕ) (L : List ℕ), (i, L) ∈ cum C is nodes →
    L.Pairwise (fun a b => cg C a i ≤ cg C b i)
  | [], _, _, _, h => by simp [cum] at h
  | j :: is, nodes, i, L, h => by
    simp only [cum, List.mem_cons, Prod.mk.injEq] at h
    rcases h with ⟨rfl, rfl⟩ | h
    · exact sortByDimension_sorted C nodes i
    · exact cum_sorted C is _ i L h

theorem ids_map {α : Type} (l : List α) (d : α) : (ids l.length).map (fun a => l.getD (a - 1) d) = l := by
  unfold ids
  rw [List.map_map]
  have : ((fun a => l.getD (a - 1) d) ∘ fun x => x + 1) = fun k => l.getD k d := by
    funext k; simp
  rw [this, List.map_getD_range]

/-- one dimension: `preProcess`, then `hvRecursive(0, n, bounds)` reads the first node of the sorted list, which
dominates all the others -/
theorem sweep_dim1 (r : ℚ) (front : List (List ℚ)) (hlen : ∀ p ∈ front, p.length = 1)
    (hle : ∀ p ∈ front, p.getD 0 0 ≤ r) : compute front [r] = some (hvCells [r] front) := by
  unfold compute computeSt
  simp only [List.length_cons, List.length_nil, Nat.zero_add, Nat.sub_self]
  set C : Cargo := [] :: translate front [r]
  by_cases hn : front.length = 0
  · rw [hn, hvRecursive_len_zero, List.length_eq_zero_iff.mp hn]
    simp [hvCells_nil_pts]
  · rw [hvRecursive_zero C _ hn]
    simp only [Option.map_some, Option.some.injEq]
    obtain ⟨_, hD⟩ := preProcess_spec C 1 front.length
    have hdl := hD 0 (sortByDimension C (ids front.length) 0) (by simp [cum, List.range_succ])
    have hperm := sortByDimension_perm C (ids front.length) 0
    have hsorted := sortByDimension_sorted C (ids front.length) 0
    let pt : ℕ → List ℚ := fun a => front.getD (a - 1) []
    have hcg : ∀ a ∈ sortByDimension C (ids front.length) 0, cg C a 0 = (pt a).getD 0 0 - r ∧ pt a ∈ front :=
      fun a ha => let h := cg_node front [r] hlen (hperm.mem_iff.mp ha); ⟨h.2 0 Nat.zero_lt_one, h.1⟩
    have hfront : hvCells [r] front = hvCells [r] ((sortByDimension C (ids front.length) 0).map pt) := by
      conv_lhs => rw [← ids_map front []]
      exact hvCells_of_perm _ (hperm.map pt).symm
    cases hLc : sortByDimension C (ids front.length) 0 with
    | nil =>
      have := hperm.length_eq
      rw [hLc] at this
      simp [ids] at this
      exact absurd this.symm hn
    | cons a l =>
      rw [hLc] at hdl hsorted hcg hfront
      have ha := hcg a List.mem_cons_self
      rw [nx_tick, show nx (preProcess C 1 front.length) 0 0 = a from hdl.1.1.1, ha.1, hfront, List.map_cons,
        hvCells_of_dominating [r] (pt a) (l.map pt) ?_]
      · have := hle _ ha.2
        rw [getD_zero_eq] at this ⊢
        rw [boxVol_cons_of_le this, boxVol, mul_one]
        ring
      · intro s hs
        obtain ⟨b, hb, rfl⟩ := List.mem_map.mp hs
        have := (List.pairwise_cons.mp hsorted).1 b hb
        rw [ha.1, (hcg b (List.mem_cons_of_mem _ hb)).1, getD_zero_eq, getD_zero_eq] at this
        exact ⟨by linarith, trivial⟩

theorem stairNodes_XY (C : Cargo) (r₁ r₂ : ℚ) (XY : ℕ → ℚ × ℚ) : ∀ (l : List ℕ) (q : ℕ) (h hvol : ℚ),
    (∀ k ∈ q :: l, cg C k 0 = (XY k).1 - r₁ ∧ cg C k 1 = (XY k).2 - r₂) →
    (stairNodes C l q h hvol).1 + (stairNodes C l q h hvol).2.1 * cg C (stairNodes C l q h hvol).2.2 1
      = stairXY r₁ r₂ (l.map XY) (XY q).2 h hvol
  | [], q, h, hvol, hc => by
    simp only [stairNodes, List.map_nil, stairXY]
    rw [(hc q (by simp)).2]
  | p :: l, q, h, hvol, hc => by
    have hq := hc q (by simp)
    have hp := hc p (by simp)
    have ih := fun h' hvol' => stairNodes_XY C r₁ r₂ XY l p h' hvol' (fun k hk => hc k (by
      rcases List.mem_cons.mp hk with rfl | hk
      · simp
      · simp [hk]))
    simp only [stairNodes, List.map_cons, stairXY]
    rw [hp.1, hq.2, hp.2]
    by_cases hlt : (XY p).1 - r₁ < h
    · rw [if_pos hlt, if_pos hlt]
      have := ih ((XY p).1 - r₁) (hvol + h * ((XY q).2 - r₂ - ((XY p).2 - r₂)))
      rw [hp.1] at *
      exact this
    · rw [if_neg hlt, if_neg hlt]
      exact ih h _

theorem list_len2 (p : List ℚ) (h : p.length = 2) : p = Hypervolume.toPt (p.getD 0 0, p.getD 1 0) := by
  match p, h with
  | [a, b], _ => rfl

end HvSweep
