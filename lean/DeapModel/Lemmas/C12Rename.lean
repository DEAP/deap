/-
Helper lemmas for C12: renaming histories.  A tree object seen under the current argument names evaluates (through
`compile`) to the name-free direct interpretation `evalRef`.
-/
import DeapModel.Core.GpCompile
import DeapModel.Lemmas.C11Basic

namespace GpCompile
open GpTree

theorem zip_find_none (x : Str) : ∀ (names : List Str) (vals : List Val), x ∉ names →
    (names.zip vals).find? (fun nv => nv.1 == x) = none
  | [], _, _ => by simp
  | _ :: _, [], _ => by simp
  | n :: ns, v :: vs, h => by
    have hn : n ≠ x := fun e => h (by simp [e])
    have hx : x ∉ ns := fun e => h (by simp [e])
    simp only [List.zip_cons_cons, List.find?_cons]
    have : (n == x) = false := by simpa using hn
    rw [this]
    exact zip_find_none x ns vs hx

theorem zip_find_ix : ∀ (names : List Str) (vals : List Val) (i : Nat) (nm : Str), names.Nodup →
    vals.length = names.length → names[i]? = some nm →
    ∃ v, vals[i]? = some v ∧ (names.zip vals).find? (fun nv => nv.1 == nm) = some (nm, v)
  | [], _, i, nm, _, _, h => by simp at h
  | n :: ns, [], _, _, _, hl, _ => by simp at hl
  | n :: ns, v :: vs, 0, nm, _, _, h => by
    simp only [List.getElem?_cons_zero, Option.some.injEq] at h
    subst h
    exact ⟨v, by simp, by simp⟩
  | n :: ns, v :: vs, i + 1, nm, hnd, hl, h => by
    have hnd' := List.nodup_cons.mp hnd
    have hmem : nm ∈ ns := List.mem_of_getElem? h
    have hne : n ≠ nm := fun e => hnd'.1 (e ▸ hmem)
    obtain ⟨w, hw1, hw2⟩ := zip_find_ix ns vs i nm hnd'.2 (by simpa using hl) h
    refine ⟨w, by simpa using hw1, ?_⟩
    simp only [List.zip_cons_cons, List.find?_cons]
    have : (n == nm) = false := by simpa using hne
    rw [this]
    exact hw2

theorem nodupStr_nodup : ∀ {l : List Str}, PyLang.nodupStr l = true → l.Nodup
  | [], _ => List.nodup_nil
  | x :: xs, h => by
    simp only [PyLang.nodupStr, Bool.and_eq_true, Bool.not_eq_true', List.contains_eq_mem,
      decide_eq_false_iff_not] at h
    exact List.nodup_cons.mpr ⟨h.1, nodupStr_nodup h.2⟩

theorem viewNode_args (argIx : Prim → Option Nat) (cur : List Str) (p : Prim) :
    (viewNode argIx cur p).args = p.args := by
  unfold viewNode
  cases argIx p with
  | none => rfl
  | some i =>
    simp only
    cases cur[i]? <;> rfl

mutual
theorem flatten_mapTree (f : Prim → Prim) : ∀ t : Tree, flatten (mapTree f t) = (flatten t).map f
  | .node p as => by rw [mapTree, flatten, flatten, flattenF_mapF f as]; rfl
theorem flattenF_mapF (f : Prim → Prim) : ∀ ts : List Tree, flattenF (mapF f ts) = (flattenF ts).map f
  | [] => by rw [mapF, flattenF]; rfl
  | t :: ts => by rw [mapF, flattenF, flattenF, flatten_mapTree f t, flattenF_mapF f ts, List.map_append]
end

theorem mapF_length (f : Prim → Prim) : ∀ ts : List Tree, (mapF f ts).length = ts.length
  | [] => by rw [mapF]
  | t :: ts => by rw [mapF, List.length_cons, List.length_cons, mapF_length f ts]

mutual
theorem wf_mapTree (f : Prim → Prim) (hf : ∀ p, (f p).args = p.args) : ∀ t : Tree, wf (mapTree f t) = wf t
  | .node p as => by
    rw [mapTree, wf, wf, wfF_mapF f hf as, mapF_length]
    simp only [Prim.arity, hf]
theorem wfF_mapF (f : Prim → Prim) (hf : ∀ p, (f p).args = p.args) : ∀ ts : List Tree, wfF (mapF f ts) = wfF ts
  | [] => by rw [mapF]
  | t :: ts => by rw [mapF, wfF, wfF, wf_mapTree f hf t, wfF_mapF f hf ts]
end

theorem wf_viewTree (argIx : Prim → Option Nat) (cur : List Str) (t : Tree) : wf (viewTree argIx cur t) = wf t :=
  wf_mapTree _ (viewNode_args argIx cur) t

theorem flatten_viewTree (argIx : Prim → Option Nat) (cur : List Str) (t : Tree) :
    flatten (viewTree argIx cur t) = (flatten t).map (viewNode argIx cur) := flatten_mapTree _ t

theorem renameArgs_length (a : List Str) (k : List (Str × Str)) : (renameArgs a k).length = a.length := by
  simp [renameArgs]

theorem renameHistory_length : ∀ (ks : List (List (Str × Str))) (a : List Str), (renameHistory a ks).length = a.length
  | [], a => rfl
  | k :: ks, a => by
    show (renameHistory (renameArgs a k) ks).length = a.length
    rw [renameHistory_length ks, renameArgs_length]

mutual
theorem evalTree_view (env : Env) (argIx : Prim → Option Nat) (names : List Str) (vals : List Val)
    (hnd : names.Nodup) (hlen : vals.length = names.length) :
    ∀ t : Tree, (∀ p ∈ flatten t, ∀ i, argIx p = some i → i < names.length) →
      (∀ p ∈ flatten t, argIx p = none → tok p ∉ names) →
      evalTree { env with vars := bindArgs names vals env.vars, funs := shadowFuns names vals env.funs }
        (mapTree (viewNode argIx names) t) = evalRef env argIx vals t
  | .node p as, hix, hfr => by
    rw [mapTree, evalTree, evalRef]
    obtain ⟨hixp, hixs⟩ := forall_flatten_node.1 hix
    obtain ⟨hfrp, hfrs⟩ := forall_flatten_node.1 hfr
    cases ha : argIx p with
    | some i =>
      have hi := hixp i ha
      obtain ⟨nm, hnm⟩ : ∃ nm, names[i]? = some nm := ⟨names[i], by simp [hi]⟩
      obtain ⟨v, hv1, hv2⟩ := zip_find_ix names vals i nm hnd hlen hnm
      simp only [viewNode, ha, hnm, String.toList_ofList, bindArgs, hv2, hv1]
      simp
    | none =>
      have hv : viewNode argIx names p = p := by simp [viewNode, ha]
      have hfresh := hfrp ha
      rw [hv]
      by_cases hk : p.kind = .prim
      · simp only [hk, if_true]
        have hn : p.name.toList ∉ names := by simpa [tok, hk] using hfresh
        rw [evalF_view env argIx names vals hnd hlen as hixs hfrs]
        simp only [shadowFuns, zip_find_none _ names vals hn]
      · simp only [hk, if_false]
        have hn : p.text.toList ∉ names := by simpa [tok, hk] using hfresh
        simp only [bindArgs, zip_find_none _ names vals hn]
theorem evalF_view (env : Env) (argIx : Prim → Option Nat) (names : List Str) (vals : List Val)
    (hnd : names.Nodup) (hlen : vals.length = names.length) :
    ∀ ts : List Tree, (∀ p ∈ flattenF ts, ∀ i, argIx p = some i → i < names.length) →
      (∀ p ∈ flattenF ts, argIx p = none → tok p ∉ names) →
      evalF { env with vars := bindArgs names vals env.vars, funs := shadowFuns names vals env.funs }
        (mapF (viewNode argIx names) ts) = evalRefF env argIx vals ts
  | [], _, _ => by rw [mapF, evalF, evalRefF]
  | t :: ts, hix, hfr => by
    obtain ⟨hix1, hix2⟩ := forall_flattenF_cons.1 hix
    obtain ⟨hfr1, hfr2⟩ := forall_flattenF_cons.1 hfr
    rw [mapF, evalF, evalRefF, evalTree_view env argIx names vals hnd hlen t hix1 hfr1,
      evalF_view env argIx names vals hnd hlen ts hix2 hfr2]
end

end GpCompile
