/-
C18 helper lemmas: the positional form of "the stream delivers every record exactly once" — a
delivery counter per surviving record position, no premise on the rows' contents.
-/
import DeapModel.Lemmas.C18Hist

namespace C18L
open Logbook

/-- How often each surviving record (by position) has been delivered by the stream, after one
more operation on the logbook `lb`: a new record starts at 0; `stream` delivers exactly the
positions from `buffindex` on (`stream_spec`), which count one more; a deletion removes the
counters of the positions it removes from the logbook. -/
def countStep (cs : List Nat) (lb : LB) : Op → List Nat
  | .record _ => cs ++ [0]
  | .stream => cs.take lb.buffindex ++ (cs.drop lb.buffindex).map (· + 1)
  | .pop i => match pos? cs.length i with | some p => cs.eraseIdx p | none => cs
  | .delIndex i => match pos? cs.length i with | some p => cs.eraseIdx p | none => cs
  | .delSlice idx => eraseAll (sortDesc idx) cs
  | _ => cs

def countsFrom : LB → List Nat → List Op → List Nat
  | _, cs, [] => cs
  | lb, cs, o :: os => countsFrom (step lb o).1 (countStep cs lb o) os

/-- the delivery counters after a history on a fresh logbook -/
def counts (ops : List Op) : List Nat := countsFrom LB.empty [] ops

/-- the counters are: 1 for the first `buffindex` positions, 0 for the others -/
def CountsOk (lb : LB) (cs : List Nat) : Prop :=
  cs = List.replicate lb.buffindex 1 ++ List.replicate (lb.rows.length - lb.buffindex) 0 ∧
  lb.buffindex ≤ lb.rows.length

theorem CountsOk.congr {lb lb' : LB} {cs : List Nat} (h : CountsOk lb cs) (hr : lb'.rows.length = lb.rows.length)
    (hb : lb'.buffindex = lb.buffindex) : CountsOk lb' cs := by
  unfold CountsOk at *; rw [hr, hb]; exact h

/-- without truncated subtraction: `m` rows are not yet delivered -/
theorem countsOk_iff {lb : LB} {cs : List Nat} :
    CountsOk lb cs ↔ ∃ m, lb.rows.length = lb.buffindex + m ∧
      cs = List.replicate lb.buffindex 1 ++ List.replicate m 0 := by
  constructor
  · rintro ⟨h1, h2⟩; exact ⟨_, (Nat.add_sub_cancel' h2).symm, h1⟩
  · rintro ⟨m, hn, rfl⟩; exact ⟨by rw [hn, Nat.add_sub_cancel_left], hn ▸ Nat.le_add_right _ _⟩

theorem CountsOk.length {lb : LB} {cs : List Nat} (h : CountsOk lb cs) : cs.length = lb.rows.length := by
  obtain ⟨m, hn, rfl⟩ := countsOk_iff.1 h
  rw [List.length_append, List.length_replicate, List.length_replicate, hn]

theorem CountsOk.erase {lb : LB} {cs : List Nat} (h : CountsOk lb cs) (p : Nat) (hp : p < lb.rows.length) :
    CountsOk (eraseDeep p lb) (cs.eraseIdx p) := by
  obtain ⟨m, hn, rfl⟩ := countsOk_iff.1 h
  rw [countsOk_iff, eraseDeep_rows, eraseDeep_buffindex, List.length_eraseIdx_of_lt hp, hn]
  by_cases hpb : p < lb.buffindex
  · rw [if_pos hpb, List.eraseIdx_append_of_lt_length (by simpa using hpb), List.eraseIdx_replicate, if_pos hpb]
    exact ⟨m, by omega, rfl⟩
  · rw [if_neg hpb, List.eraseIdx_append_of_length_le (by simpa using Nat.le_of_not_lt hpb),
      List.eraseIdx_replicate, List.length_replicate, if_pos (by omega)]
    exact ⟨m - 1, by omega, rfl⟩

theorem CountsOk.eraseEach (ds : List Nat) (hds : ds.Pairwise (· > ·)) {lb : LB} {cs : List Nat}
    (h : CountsOk lb cs) (hr : ∀ i ∈ ds, i < lb.rows.length) :
    CountsOk (eraseAllDeep ds lb) (eraseAll ds cs) := by
  induction ds generalizing lb cs with
  | nil => exact h
  | cons i is ih =>
    rw [List.pairwise_cons] at hds
    have hi := hr i (List.mem_cons_self ..)
    exact ih hds.2 (h.erase i hi) (eraseDeep_rows i lb ▸ desc_tail_lt hds.1 hi lb.rows rfl)

theorem step_counts {sh : Shape} {lb : LB} {es : List Entry} {cs : List Nat} (hrep : RepDeep sh lb es)
    (h : CountsOk lb cs) (o : Op) (ho : OpOkDeep sh es o) :
    CountsOk (step lb o).1 (countStep cs lb o) := by
  have hlen := hrep.length
  have hd := hrep.deep
  cases o
  case record e =>
    obtain ⟨m, hn, rfl⟩ := countsOk_iff.1 h
    rw [show (step lb (.record e)).1 = recordAux [] e lb from rfl, countsOk_iff, recordAux_rows,
      (recordAux_fields [] e lb).1, List.length_append, hn]
    exact ⟨m + 1, rfl, by rw [countStep, List.append_assoc, ← List.replicate_succ']⟩
  case stream =>
    obtain ⟨m, hn, rfl⟩ := countsOk_iff.1 h
    obtain ⟨e1, _, e3, _⟩ := stream_state lb
    rw [show (step lb .stream).1 = (stream lb).2 from rfl, countsOk_iff, e3, e1, countStep,
      List.take_left' (List.length_replicate ..), List.drop_left' (List.length_replicate ..), List.map_replicate,
      ← List.replicate_add, ← hn]
    exact ⟨0, rfl, (List.append_nil _).symm⟩
  case pop i | delIndex i =>
    simp only [step, countStep, delIndex_eq_pop, h.length]
    cases hp : pos? lb.rows.length i with
    | none => rw [pop_out_deep i lb hd hp]; exact h
    | some p => rw [pop_deep i p lb hd hp]; exact h.erase p (pos?_lt hp)
  case delSlice idx =>
    rw [step_delSlice hd ho.1 (hlen ▸ ho.2)]
    exact h.eraseEach _ (sortDesc_strict idx ho.1) fun i hi => hlen ▸ ho.2 i ((mem_sortDesc i idx).1 hi)
  case streamAt c rest =>
    exact h.congr (congrArg _ (modifyAt_stream_rows _ lb)) (modifyAt_cons_state _ c rest lb).2.1
  all_goals cases lb; exact h

theorem history_counts {sh : Shape} (ops : List Op) {lb : LB} {es : List Entry} {cs : List Nat}
    (hrep : RepDeep sh lb es) (hv : ValidDeep sh es ops) (h : CountsOk lb cs) :
    CountsOk (runFrom lb ops) (countsFrom lb cs ops) := by
  induction ops generalizing lb es cs with
  | nil => exact h
  | cons o os ih => exact ih (step_repDeep hrep o hv.1) hv.2 (step_counts hrep h o hv.1)

end C18L
