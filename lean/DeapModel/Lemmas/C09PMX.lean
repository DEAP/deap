/-
Helper lemmas for C09: partially matched crossovers (PMX, UPMX).
Invariant: the position table `p` and the individual `l` are mutually inverse bijections of
`{0..n-1}`; one loop body exchanges two positions of `l` and the two matching entries of `p`.
-/
import DeapModel.Lemmas.C09Basic

namespace C09L
open CrossMut

/-- `l[j]` as the model reads it -/
def gene (l : List Nat) (j : Nat) : Nat := l[j]?.getD 0

theorem gene_set (l : List Nat) (i a j : Nat) : gene (l.set i a) j = if i = j ∧ i < l.length then a else gene l j := by
  unfold gene
  rw [List.getElem?_set]
  by_cases h : i = j
  · subst h; by_cases h2 : i < l.length <;> simp [h2]
  · simp [h]

theorem gene_eq_getElem (l : List Nat) (j : Nat) (h : j < l.length) : gene l j = l[j] := by
  unfold gene; rw [List.getElem?_eq_getElem h]; rfl

theorem gene_set' (l : List Nat) (i a j : Nat) (h : i < l.length) :
    gene (l.set i a) j = if j = i then a else gene l j := by
  rw [gene_set]; simp only [h, and_true, eq_comm]

/-- `x[a], x[b] = x[b], x[a]` -/
def swapIdx (x : List Nat) (a b : Nat) : List Nat := (x.set a (gene x b)).set b (gene x a)

theorem gene_swapIdx (x : List Nat) (a b j : Nat) (ha : a < x.length) (hb : b < x.length) :
    gene (swapIdx x a b) j = if j = b then gene x a else if j = a then gene x b else gene x j := by
  rw [swapIdx, gene_set' _ _ _ _ (by rw [List.length_set]; exact hb), gene_set' _ _ _ _ ha]

theorem swapIdx_comm (x : List Nat) (a b : Nat) : swapIdx x a b = swapIdx x b a := by
  by_cases c : a = b
  · rw [c]
  · exact List.set_comm _ _ c

/-- PMX / UPMX: the table `p` is a left inverse of the individual `l` on `[0, n)`: `p[l[j]] = j` -/
def LInv (n : Nat) (l p : List Nat) : Prop := l.length = n ∧ ∀ j < n, gene l j < n ∧ gene p (gene l j) = j

theorem LInv.perm {n : Nat} {l p : List Nat} (h : LInv n l p) : l.Perm (List.range n) := by
  obtain ⟨hl, hg⟩ := h
  have hnd : l.Nodup := by
    rw [List.nodup_iff_injective_getElem]
    intro i j e
    have e' : gene l i = gene l j := by rw [gene_eq_getElem l i i.2, gene_eq_getElem l j j.2]; exact e
    exact Fin.ext (by rw [← (hg i (hl ▸ i.2)).2, e', (hg j (hl ▸ j.2)).2])
  refine (hnd.subperm fun x hx => ?_).perm_of_length_le (by rw [List.length_range, hl])
  obtain ⟨j, hj, rfl⟩ := List.getElem_of_mem hx
  rw [List.mem_range, ← gene_eq_getElem l j hj]
  exact (hg j (hl ▸ hj)).1

/-- the loop invariant of PMX / UPMX for one (individual, position table) pair: each inverts the other on `[0, n)` -/
def Inv (n : Nat) (l p : List Nat) : Prop := LInv n l p ∧ LInv n p l

theorem linv_swap (n : Nat) (l p : List Nat) (i o : Nat) (inv : Inv n l p) (hi : i < n) (ho : o < n) :
    LInv n (swapIdx l i (gene p o)) (swapIdx p (gene l i) o) := by
  obtain ⟨⟨h1, h3⟩, h2, h4⟩ := inv
  obtain ⟨hown, hpown⟩ := h3 i hi
  obtain ⟨hq, hlq⟩ := h4 o ho
  refine ⟨by rw [swapIdx, List.length_set, List.length_set, h1], fun j hj => ?_⟩
  have hp := fun j => gene_swapIdx p (gene l i) o j (h2 ▸ hown) (h2 ▸ ho)
  rw [gene_swapIdx l _ _ j (h1 ▸ hi) (h1 ▸ hq), hlq]
  by_cases c1 : j = gene p o
  · rw [if_pos c1, hp]
    refine ⟨hown, ?_⟩
    by_cases c2 : gene l i = o
    · rw [if_pos c2, hpown, c1, ← c2, hpown]
    · rw [if_neg c2, if_pos rfl, c1]
  · rw [if_neg c1]
    by_cases c2 : j = i
    · rw [if_pos c2, hp, if_pos rfl, hpown, c2]
      exact ⟨ho, rfl⟩
    · obtain ⟨hv, hpv⟩ := h3 j hj
      rw [if_neg c2, hp, if_neg (fun e => c1 (by rw [← hpv, e])), if_neg (fun e => c2 (by rw [← hpv, e, hpown]))]
      exact ⟨hv, hpv⟩

theorem inv_swap (n : Nat) (l p : List Nat) (i o : Nat) (inv : Inv n l p) (hi : i < n) (ho : o < n) :
    Inv n (swapIdx l i (gene p o)) (swapIdx p (gene l i) o) := by
  refine ⟨linv_swap n l p i o inv hi ho, ?_⟩
  -- the same fact for the pair read the other way round
  have h := linv_swap n p l (gene l i) (gene p o) ⟨inv.2, inv.1⟩ (inv.1.2 i hi).1 (inv.2.2 o ho).1
  rwa [(inv.1.2 i hi).2, (inv.2.2 o ho).2] at h

/-- one tuple assignment of the loop body on an individual, `ind[i], ind[p[o]] = o, ind[i]`, with the exchange
`p[ind[i]], p[o] = p[o], p[ind[i]]` of its table (`o` = the other individual's gene at `i`) -/
theorem inv_exch (n : Nat) (l p : List Nat) (i o : Nat) (inv : Inv n l p) (hi : i < n) (ho : o < n) :
    Inv n ((l.set i o).set (gene p o) (gene l i)) (swapIdx p (gene l i) o) := by
  have h := inv_swap n l p i o inv hi ho
  rwa [swapIdx, (inv.2.2 o ho).2] at h

def PMInv (n : Nat) (s : PMState) : Prop := Inv n s.ind1 s.p1 ∧ Inv n s.ind2 s.p2

theorem pmStep_inv (n : Nat) (s : PMState) (i : Nat) (hi : i < n) (h : PMInv n s) : PMInv n (pmStep s i) := by
  have h1 := inv_exch n s.ind1 s.p1 i (gene s.ind2 i) h.1 hi (h.2.1.2 i hi).1
  have h2 := inv_exch n s.ind2 s.p2 i (gene s.ind1 i) h.2 hi (h.1.1.2 i hi).1
  -- the code writes the second table in the other order
  rw [swapIdx_comm] at h2
  exact ⟨h1, h2⟩

theorem foldl_pair {β₁ β₂ γ : Type} (f1 : β₁ → γ → β₁) (f2 : β₂ → γ → β₂) (l : List γ) (x : β₁) (y : β₂) :
    l.foldl (fun (p : β₁ × β₂) c => (f1 p.1 c, f2 p.2 c)) (x, y) = (l.foldl f1 x, l.foldl f2 y) := by
  induction l generalizing x y with
  | nil => rfl
  | cons c cs ih => simp only [List.foldl_cons]; exact ih _ _

/-- `p = [0]*n; for i in range(k): p[a[i]] = i` -/
def posTable (n : Nat) (a : List Nat) (k : Nat) : List Nat :=
  (List.range k).foldl (fun p i => p.set (gene a i) i) (List.replicate n 0)

theorem pmInit_eq (n : Nat) (a b : List Nat) : pmInit n a b = (posTable n a n, posTable n b n) := by
  exact foldl_pair (fun (p : List Nat) (i : Nat) => p.set (gene a i) i) (fun (p : List Nat) (i : Nat) => p.set (gene b i) i) _ _ _

theorem posTable_succ (n : Nat) (a : List Nat) (k : Nat) :
    posTable n a (k + 1) = (posTable n a k).set (gene a k) k := by
  unfold posTable
  rw [List.range_succ, List.foldl_append]
  rfl

theorem posTable_length (n : Nat) (a : List Nat) (k : Nat) : (posTable n a k).length = n := by
  induction k with
  | zero => simp [posTable]
  | succ k ih => rw [posTable_succ, List.length_set, ih]

theorem perm_range_facts (n : Nat) (a : List Nat) (h : a.Perm (List.range n)) :
    a.length = n ∧ (∀ j < n, gene a j < n) ∧ (∀ j < n, ∀ k < n, gene a j = gene a k → j = k) ∧
    (∀ v < n, ∃ j < n, gene a j = v) := by
  have hlen : a.length = n := by simpa using h.length_eq
  have hnd : a.Nodup := h.nodup_iff.2 List.nodup_range
  refine ⟨hlen, ?_, ?_, ?_⟩
  · intro j hj
    rw [gene_eq_getElem a j (by omega)]
    have : a[j] ∈ List.range n := h.subset (List.getElem_mem _)
    simpa using this
  · intro j hj k hk e
    rw [gene_eq_getElem a j (by omega), gene_eq_getElem a k (by omega)] at e
    exact (List.Nodup.getElem_inj_iff hnd).1 e
  · intro v hv
    have : v ∈ a := h.symm.subset (by simpa using hv)
    obtain ⟨j, hj, e⟩ := List.getElem_of_mem this
    exact ⟨j, by omega, by rw [gene_eq_getElem a j hj]; exact e⟩

theorem posTable_spec (n : Nat) (a : List Nat) (h : a.Perm (List.range n)) (k : Nat) (hk : k ≤ n) :
    ∀ j < k, gene (posTable n a k) (gene a j) = j := by
  obtain ⟨hlen, hlt, hinj, _⟩ := perm_range_facts n a h
  induction k with
  | zero => intro j hj; omega
  | succ k ih =>
    intro j hj
    rw [posTable_succ, gene_set' _ _ _ _ (by rw [posTable_length]; exact hlt k (by omega))]
    by_cases c : j = k
    · subst c; simp
    · have : gene a j ≠ gene a k := fun e => c (hinj j (by omega) k (by omega) e)
      rw [if_neg this]
      exact ih (by omega) j (by omega)

theorem inv_init (n : Nat) (a : List Nat) (h : a.Perm (List.range n)) : Inv n a (posTable n a n) := by
  obtain ⟨hlen, hlt, hinj, hsur⟩ := perm_range_facts n a h
  have hs := posTable_spec n a h n (Nat.le_refl n)
  refine ⟨⟨hlen, fun j hj => ⟨hlt j hj, hs j hj⟩⟩, posTable_length n a n, ?_⟩
  intro v hv
  obtain ⟨j, hj, e⟩ := hsur v hv
  rw [← e, hs j hj]
  exact ⟨hj, rfl⟩

theorem pmInv_init (n : Nat) (a b : List Nat) (ha : a.Perm (List.range n)) (hb : b.Perm (List.range n)) :
    PMInv n ⟨a, b, (pmInit n a b).1, (pmInit n a b).2⟩ := by
  rw [pmInit_eq]
  exact ⟨inv_init n a ha, inv_init n b hb⟩

theorem pmLoop_perm {ι : Type} (n : Nat) (a b : List Nat) (ha : a.Perm (List.range n)) (hb : b.Perm (List.range n))
    (idx : ι → Nat) (sel : ι → Bool) (ids : List ι) (hids : ∀ x ∈ ids, idx x < n) :
    let s := ids.foldl (fun s x => if sel x then pmStep s (idx x) else s) ⟨a, b, (pmInit n a b).1, (pmInit n a b).2⟩
    s.ind1.Perm (List.range n) ∧ s.ind2.Perm (List.range n) := by
  refine (List.foldlRecOn (motive := PMInv n) ids _ (pmInv_init n a b ha hb) ?_).imp (·.1.perm) (·.1.perm)
  intro s hs x hx
  cases sel x
  · exact hs
  · exact pmStep_inv n s (idx x) (hids x hx) hs

end C09L
