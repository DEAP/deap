/-
C14 helper lemmas in pure Mathlib: the rank-one update of a factor and the Sherman–Morrison update of
its inverse, with the scalars exactly as `deap/cma.py` computes them; Cholesky in dimension 2; the
ranges of the default learning rates and of the smoothed success rate as functions of real variables.
-/
import Mathlib.Analysis.Real.Sqrt
import Mathlib.Tactic.Module
import Mathlib.LinearAlgebra.Matrix.Notation
import Mathlib.LinearAlgebra.Matrix.DotProduct

namespace C14Matrix
open Matrix

variable {n : Type} [Fintype n] [DecidableEq n]

theorem factor_eq (A : Matrix n n ℝ) (w : n → ℝ) (a b : ℝ) :
    a • A + b • vecMulVec (A *ᵥ w) w = A * (a • (1 : Matrix n n ℝ) + b • vecMulVec w w) := by
  rw [mul_add, mul_smul_comm, mul_one, mul_smul_comm, mul_vecMulVec]

theorem comb_mul (w : n → ℝ) (x y x' y' : ℝ) :
    (x • (1 : Matrix n n ℝ) + y • vecMulVec w w) * (x' • (1 : Matrix n n ℝ) + y' • vecMulVec w w)
      = (x * x') • (1 : Matrix n n ℝ) + (x * y' + y * x' + y * y' * (w ⬝ᵥ w)) • vecMulVec w w := by
  simp only [add_mul, mul_add, smul_mul_assoc, mul_smul_comm, one_mul, mul_one, vecMulVec_mul_vecMulVec, vecMulVec_smul,
    smul_smul]
  module

theorem core_sq (w : n → ℝ) (a b : ℝ) :
    (a • (1 : Matrix n n ℝ) + b • vecMulVec w w) * (a • (1 : Matrix n n ℝ) + b • vecMulVec w w)ᵀ
      = (a * a) • (1 : Matrix n n ℝ) + (2 * a * b + b * b * (w ⬝ᵥ w)) • vecMulVec w w := by
  rw [transpose_add, transpose_smul, transpose_smul, transpose_one, transpose_vecMulVec, comb_mul]
  congr 2; ring

theorem factor_gram (A : Matrix n n ℝ) (w : n → ℝ) (a b : ℝ) :
    (a • A + b • vecMulVec (A *ᵥ w) w) * (a • A + b • vecMulVec (A *ᵥ w) w)ᵀ
      = (a * a) • (A * Aᵀ) + (2 * a * b + b * b * (w ⬝ᵥ w)) • vecMulVec (A *ᵥ w) (A *ᵥ w) := by
  rw [factor_eq, transpose_mul, ← Matrix.mul_assoc, Matrix.mul_assoc A, core_sq]
  rw [mul_add, add_mul, mul_smul_comm, mul_one, smul_mul_assoc, mul_smul_comm, smul_mul_assoc,
    mul_vecMulVec, vecMulVec_mul]
  congr 2
  ext i; simp [vecMul_transpose]

/-- Sherman–Morrison for the coded inverse: if `invA * A = 1`, `a ≠ 0` and `a² + a b ‖w‖² ≠ 0`
then `(1/a)•invA - (b/(a² + a b‖w‖²))•(w wᵀ invA)` is a left inverse of `a•A + b•(A w) wᵀ`. -/
theorem inverse_left (A invA : Matrix n n ℝ) (w : n → ℝ) (a b : ℝ) (hinv : invA * A = 1)
    (ha : a ≠ 0) (hden : a * a + a * b * (w ⬝ᵥ w) ≠ 0) :
    ((1 / a) • invA - (b / (a * a + a * b * (w ⬝ᵥ w))) • (vecMulVec w w * invA))
      * (a • A + b • vecMulVec (A *ᵥ w) w) = 1 := by
  rw [factor_eq]
  have h1 : ((1 / a) • invA - (b / (a * a + a * b * (w ⬝ᵥ w))) • (vecMulVec w w * invA))
      = ((1 / a) • (1 : Matrix n n ℝ) - (b / (a * a + a * b * (w ⬝ᵥ w))) • vecMulVec w w) * invA := by
    rw [sub_mul, smul_mul_assoc, one_mul, smul_mul_assoc]
  rw [h1, Matrix.mul_assoc, ← Matrix.mul_assoc invA, hinv, one_mul, sub_eq_add_neg, ← neg_smul, comb_mul]
  have e1 : 1 / a * a = 1 := by field_simp
  have e2 : 1 / a * b + -(b / (a * a + a * b * (w ⬝ᵥ w))) * a
      + -(b / (a * a + a * b * (w ⬝ᵥ w))) * b * (w ⬝ᵥ w) = 0 := by
    have hd2 : a * a + a * b * (w ⬝ᵥ w) = a * (b * (w ⬝ᵥ w) + a) := by ring
    have hd : b * (w ⬝ᵥ w) + a ≠ 0 := by
      intro h; apply hden
      rw [hd2, h, mul_zero]
    rw [hd2]; field_simp; ring
  rw [e1, e2, one_smul, zero_smul, add_zero]

/-- The coded scalar `b = a/‖w‖²·(r - 1)` with `a² = α`, `r² = 1 + β/α·‖w‖²` turns the factor
update into `α·AAᵀ + β·(Aw)(Aw)ᵀ`, and the Sherman–Morrison denominator is `α·r`. -/
theorem coded_b (α β nrm a r : ℝ) (hn : nrm ≠ 0) (hα : α ≠ 0) (ha : a * a = α)
    (hr : r * r = 1 + β / α * nrm) :
    2 * a * (a / nrm * (r - 1)) + (a / nrm * (r - 1)) * (a / nrm * (r - 1)) * nrm = β ∧
    a * a + a * (a / nrm * (r - 1)) * nrm = α * r := by
  constructor
  · have h1 : 2 * a * (a / nrm * (r - 1)) + (a / nrm * (r - 1)) * (a / nrm * (r - 1)) * nrm
        = (a * a) * (r * r - 1) / nrm := by field_simp; ring
    rw [h1, ha, hr]; field_simp; ring
  · have h2 : a * a + a * (a / nrm * (r - 1)) * nrm = (a * a) * r := by field_simp; ring
    rw [h2, ha]

/-- `coded_b` for `b` written `a·(r - 1)/‖w‖²`, the arrangement of `cma.py:768-770` (`C14Update.positiveABW_spec` brings
that arrangement to the other one instead of using this). -/
theorem coded_b' (α β nrm a r : ℝ) (hn : nrm ≠ 0) (hα : α ≠ 0) (ha : a * a = α)
    (hr : r * r = 1 + β * nrm / α) :
    2 * a * (a * (r - 1) / nrm) + (a * (r - 1) / nrm) * (a * (r - 1) / nrm) * nrm = β ∧
    a * a + a * (a * (r - 1) / nrm) * nrm = α * r := by
  have e : a * (r - 1) / nrm = a / nrm * (r - 1) := by ring
  have hr' : r * r = 1 + β / α * nrm := by rw [hr]; ring
  rw [e]; exact coded_b α β nrm a r hn hα ha hr'

/-- The hub of all factor updates: with the coded scalars `a² = α`, `b = a/‖w‖²·(r - 1)`, `r² = 1 + β/α‖w‖²`, the
updated factor `A' = A(aI + b wwᵀ)` has Gram matrix `α·AAᵀ + β·(Aw)(Aw)ᵀ`, and for `r ≠ 0` the coded Sherman–Morrison
matrix is a left inverse of `A'`. -/
theorem coded_update (A invA : Matrix n n ℝ) (w : n → ℝ) (α β a r : ℝ) (hinv : invA * A = 1)
    (hn : w ⬝ᵥ w ≠ 0) (hα : α ≠ 0) (ha : a * a = α) (hr : r * r = 1 + β / α * (w ⬝ᵥ w)) :
    (a • A + (a / (w ⬝ᵥ w) * (r - 1)) • vecMulVec (A *ᵥ w) w)
        * (a • A + (a / (w ⬝ᵥ w) * (r - 1)) • vecMulVec (A *ᵥ w) w)ᵀ
      = α • (A * Aᵀ) + β • vecMulVec (A *ᵥ w) (A *ᵥ w) ∧
    (r ≠ 0 →
      ((1 / a) • invA - ((a / (w ⬝ᵥ w) * (r - 1))
          / (a * a + a * (a / (w ⬝ᵥ w) * (r - 1)) * (w ⬝ᵥ w))) • (vecMulVec w w * invA))
        * (a • A + (a / (w ⬝ᵥ w) * (r - 1)) • vecMulVec (A *ᵥ w) w) = 1) := by
  obtain ⟨h1, h2⟩ := coded_b α β (w ⬝ᵥ w) a r hn hα ha hr
  constructor
  · rw [factor_gram, ha, h1]
  · intro hr0
    have ha0 : a ≠ 0 := by intro h; rw [h, mul_zero] at ha; exact hα ha.symm
    exact inverse_left A invA w a _ hinv ha0 (by rw [h2]; exact mul_ne_zero hα hr0)

/-- `c(2‖z‖² - 1) ≤ 1` is what keeps `1 - c/(1+c)·‖z‖²` at least `1/2`. -/
theorem cap_half {c n2 : ℝ} (hc : 0 < c) (h : c * (2 * n2 - 1) ≤ 1) : 1 / 2 ≤ 1 - c / (1 + c) * n2 := by
  have h1 : 0 < 1 + c := add_pos one_pos hc
  have : c / (1 + c) * n2 ≤ 1 / 2 := by
    rw [div_mul_eq_mul_div, div_le_iff₀ h1]; linarith
  linarith

/-- The cap on `ccovn` (cma.py:780-783) keeps `1 - ccovn/(1+ccovn)·‖z‖²` at least `1/2`: the capped value is
`c0` when `c0(2‖z‖² - 1) ≤ 1` and otherwise the `c` with `c(2‖z‖² - 1) = 1`. -/
theorem neg_cap (c0 n2 : ℝ) (hc : 0 < c0) :
    0 < (if 1 < c0 * (2 * n2 - 1) then 1 / (2 * n2 - 1) else c0) ∧
    1 / 2 ≤ 1 - (if 1 < c0 * (2 * n2 - 1) then 1 / (2 * n2 - 1) else c0)
              / (1 + (if 1 < c0 * (2 * n2 - 1) then 1 / (2 * n2 - 1) else c0)) * n2 := by
  by_cases h : 1 < c0 * (2 * n2 - 1)
  · rw [if_pos h]
    have hpos : 0 < 2 * n2 - 1 := pos_of_mul_pos_right (zero_lt_one.trans h) hc.le
    exact ⟨one_div_pos.2 hpos, cap_half (one_div_pos.2 hpos) (one_div_mul_cancel hpos.ne').le⟩
  · rw [if_neg h]
    exact ⟨hc, cap_half hc (not_lt.1 h)⟩

/-- Positive definiteness is written as the quadratic form `∀ u ≠ 0, 0 < u ⬝ᵥ (M *ᵥ u)` throughout C14 (`CholOK`, `OPInv`),
not as `Matrix.PosDef`: that bundles symmetry, which the invariants keep as a clause of its own, and its module is not
among the imports. -/
theorem one_posDef (u : n → ℝ) (hu : u ≠ 0) : 0 < u ⬝ᵥ ((1 : Matrix n n ℝ) *ᵥ u) := by
  rw [one_mulVec]
  exact lt_of_le_of_ne (Finset.sum_nonneg fun i _ => mul_self_nonneg (u i))
    fun h => hu (dotProduct_self_eq_zero.1 h.symm)

omit [DecidableEq n] in
theorem quad_rank_one (C : Matrix n n ℝ) (p u : n → ℝ) (a b : ℝ) :
    u ⬝ᵥ ((a • C + b • vecMulVec p p) *ᵥ u) = a * (u ⬝ᵥ (C *ᵥ u)) + b * ((p ⬝ᵥ u) * (p ⬝ᵥ u)) := by
  rw [add_mulVec, smul_mulVec, smul_mulVec, vecMulVec_mulVec, op_smul_eq_smul, dotProduct_add, dotProduct_smul,
    dotProduct_smul, dotProduct_smul, smul_eq_mul, smul_eq_mul, smul_eq_mul, dotProduct_comm u p]

theorem quad_two (M : Matrix (Fin 2) (Fin 2) ℝ) (u : Fin 2 → ℝ) :
    u ⬝ᵥ (M *ᵥ u) = M 0 0 * (u 0 * u 0) + (M 0 1 + M 1 0) * (u 0 * u 1) + M 1 1 * (u 1 * u 1) := by
  simp only [dotProduct, mulVec, Fin.sum_univ_two]; ring

/-- Sylvester's criterion in dimension 2: a symmetric positive definite form has positive pivots
(test vectors `(1, 0)` and `(-b/a, 1)`). -/
theorem pivots_two (M : Matrix (Fin 2) (Fin 2) ℝ) (hs : M 0 1 = M 1 0)
    (hpd : ∀ u : Fin 2 → ℝ, u ≠ 0 → 0 < u ⬝ᵥ (M *ᵥ u)) :
    0 < M 0 0 ∧ 0 < M 1 1 - M 1 0 * M 1 0 / M 0 0 := by
  have h1 := hpd ![1, 0] (fun h => one_ne_zero (congrFun h 0))
  have h2 := hpd ![-(M 1 0) / M 0 0, 1] (fun h => one_ne_zero (congrFun h 1))
  rw [quad_two] at h1 h2
  simp only [cons_val_zero, cons_val_one, hs] at h1 h2
  have ha : 0 < M 0 0 := by linarith
  have e : M 0 0 * (-(M 1 0) / M 0 0 * (-(M 1 0) / M 0 0)) + (M 1 0 + M 1 0) * (-(M 1 0) / M 0 0 * 1)
      + M 1 1 * (1 * 1) = M 1 1 - M 1 0 * M 1 0 / M 0 0 := by field_simp; ring
  exact ⟨ha, e ▸ h2⟩

theorem chol_two_mul (a b d : ℝ) (ha : 0 < a) (hd : 0 ≤ d - b * b / a) :
    !![√a, 0; b / √a, √(d - b * b / a)] * (!![√a, 0; b / √a, √(d - b * b / a)])ᵀ = !![a, b; b, d] := by
  have hs : √a * √a = a := Real.mul_self_sqrt ha.le
  have h0 : √a ≠ 0 := (Real.sqrt_pos.2 ha).ne'
  have hb : b / √a * (b / √a) = b * b / a := by rw [div_mul_div_comm, hs]
  rw [show (!![√a, 0; b / √a, √(d - b * b / a)])ᵀ = !![√a, b / √a; 0, √(d - b * b / a)] from eta_fin_two _,
    mul_fin_two, hs, hb, Real.mul_self_sqrt hd, mul_div_cancel₀ b h0, div_mul_cancel₀ b h0]
  simp only [mul_zero, zero_mul, add_zero, add_sub_cancel]

/-! ### the default learning rates (cma.py:262-279, 373-384, 630-666) as functions of real variables -/

/-- `ptarg = 1/(5 + √λ/2)` -/
theorem ptarg_unit {s : ℝ} (hs : 0 ≤ s) : 0 < 1 / (5 + s / 2) ∧ 1 / (5 + s / 2) ≤ 1 :=
  ⟨by positivity, (div_le_one (by positivity)).2 (by linarith)⟩

/-- `cp = x/(2 + x)` with `x = ptarg·λ` -/
theorem cp_unit {x : ℝ} (hx : 0 ≤ x) : 0 ≤ x / (2 + x) ∧ x / (2 + x) ≤ 1 :=
  ⟨by positivity, (div_le_one (by positivity)).2 (by linarith)⟩

/-- `ccov = 2/(N² + 6)` -/
theorem ccov_range {m : ℝ} (hm : 0 ≤ m) : 0 < 2 / (m + 6) ∧ 2 / (m + 6) ≤ 1 / 3 :=
  ⟨by positivity, by rw [div_le_div_iff₀ (by positivity) (by norm_num)]; linarith⟩

/-- `cc = 2/(N + 2)` -/
theorem cc_range {n : ℝ} (hn : 0 ≤ n) : 0 < 2 / (n + 2) ∧ 2 / (n + 2) ≤ 1 :=
  ⟨by positivity, (div_le_one (by positivity)).2 (by linarith)⟩

/-- `k(2 - k) ≤ 1`, so `c(1 + k(2 - k)) ≤ 2c` -/
theorem stall_lt_one {c k : ℝ} (hc0 : 0 < c) (hc : c ≤ 1 / 3) : c * (1 + k * (2 - k)) < 1 := by
  nlinarith [mul_self_nonneg (k - 1)]

/-- the smoothed success rate `(1 - cp)·psucc + cp·q` (cma.py:303-304, 517, 740) stays in `[0,1]` -/
theorem unit_convex (cp ps q : ℝ) (h0 : 0 ≤ cp) (h1 : cp ≤ 1) (p0 : 0 ≤ ps) (p1 : ps ≤ 1)
    (q0 : 0 ≤ q) (q1 : q ≤ 1) : 0 ≤ (1 - cp) * ps + cp * q ∧ (1 - cp) * ps + cp * q ≤ 1 := by
  constructor
  · have := mul_nonneg (sub_nonneg.2 h1) p0; have := mul_nonneg h0 q0; linarith
  · have : (1 - cp) * ps ≤ (1 - cp) * 1 := mul_le_mul_of_nonneg_left p1 (sub_nonneg.2 h1)
    have : cp * q ≤ cp * 1 := mul_le_mul_of_nonneg_left q1 h0
    linarith

theorem ratio_unit (k m : Nat) (hk : k ≤ m) (hm : 0 < m) :
    (0 : ℝ) ≤ (k : ℝ) / (m : ℝ) ∧ (k : ℝ) / (m : ℝ) ≤ 1 := by
  have hm' : (0 : ℝ) < m := by exact_mod_cast hm
  exact ⟨div_nonneg (Nat.cast_nonneg k) hm'.le, (div_le_one hm').2 (by exact_mod_cast hk)⟩

end C14Matrix
