/-
C02 — the library operators meet `OpContract` (core Lean only): every lifting of an in-place genome operator does, and so
does `gp.staticLimit` (which is not in place: it may hand back new copies of the parent copies it kept) around any operator
that does.
-/
import DeapModel.Core.VariationOps
import DeapModel.Lemmas.C02

namespace Variation

/-- the crossover half of `OpContract`, on its own: `staticLimit` and `History.decorator` wrap ONE operator of a registered pair -/
structure MateContract {σ : Type} (m : σ → Heap → Nat → Nat → Nat → MateRes σ) : Prop where
  next : ∀ t h n a b, n ≤ (m t h n a b).next
  fst : ∀ t h n a b, (m t h n a b).fst = a ∨ (m t h n a b).fst = b ∨
    (n ≤ (m t h n a b).fst ∧ (m t h n a b).fst < (m t h n a b).next)
  snd : ∀ t h n a b, (m t h n a b).snd = a ∨ (m t h n a b).snd = b ∨
    (n ≤ (m t h n a b).snd ∧ (m t h n a b).snd < (m t h n a b).next)
  distinct : ∀ t h n a b, a ≠ b → (m t h n a b).fst ≠ (m t h n a b).snd
  frame : ∀ t h n a b o, o ≠ a → o ≠ b → o < n → (m t h n a b).heap o = h o

structure MutContract {σ : Type} (u : σ → Heap → Nat → Nat → MutRes σ) : Prop where
  next : ∀ t h n a, n ≤ (u t h n a).next
  ret : ∀ t h n a, (u t h n a).ret = a ∨ (n ≤ (u t h n a).ret ∧ (u t h n a).ret < (u t h n a).next)
  frame : ∀ t h n a o, o ≠ a → o < n → (u t h n a).heap o = h o

theorem OpContract.of_halves {σ : Type} {ops : Ops σ} (hm : MateContract ops.mate) (hu : MutContract ops.mutate) :
    OpContract ops where
  mate_next := hm.next
  mate_fst := hm.fst
  mate_snd := hm.snd
  mate_distinct := hm.distinct
  mate_frame := hm.frame
  mutate_next := hu.next
  mutate_ret := hu.ret
  mutate_frame := hu.frame

theorem OpContract.mateHalf {σ : Type} {ops : Ops σ} (hc : OpContract ops) : MateContract ops.mate :=
  ⟨hc.mate_next, hc.mate_fst, hc.mate_snd, hc.mate_distinct, hc.mate_frame⟩

theorem OpContract.mutHalf {σ : Type} {ops : Ops σ} (hc : OpContract ops) : MutContract ops.mutate :=
  ⟨hc.mutate_next, hc.mutate_ret, hc.mutate_frame⟩

theorem liftMate_contract {τ : Type} (f : GOp2 τ) : MateContract (liftMate f) where
  next := fun _ _ _ _ _ => Nat.le_refl _
  fst := fun _ _ _ _ _ => Or.inl rfl
  snd := fun _ _ _ _ _ => Or.inr (Or.inl rfl)
  distinct := fun _ _ _ _ _ hab => hab
  frame := fun _ h _ a b o ha hb _ => by simp [liftMate, ha, hb]

theorem liftMutate_contract {τ : Type} (g : GOp1 τ) : MutContract (liftMutate g) where
  next := fun _ _ _ _ => Nat.le_refl _
  ret := fun _ _ _ _ => Or.inl rfl
  frame := fun _ h _ a o ha _ => by simp [liftMutate, ha]

/-- Every lifting of an in-place genome operator pair meets the operator contract. -/
theorem lifted_inplace_meets_contract {τ : Type} (f : GOp2 τ) (g : GOp1 τ) : OpContract (liftOps f g) :=
  OpContract.of_halves (liftMate_contract f) (liftMutate_contract g)

/-- … and it is in place: nothing is allocated and the very arguments come back. -/
theorem liftMate_inplace {τ : Type} (f : GOp2 τ) (t : τ) (h : Heap) (n a b : Nat) :
    (liftMate f t h n a b).next = n ∧ (liftMate f t h n a b).fst = a ∧ (liftMate f t h n a b).snd = b :=
  ⟨rfl, rfl, rfl⟩

theorem liftMutate_inplace {τ : Type} (g : GOp1 τ) (t : τ) (h : Heap) (n a : Nat) :
    (liftMutate g t h n a).next = n ∧ (liftMutate g t h n a).ret = a := ⟨rfl, rfl⟩

/-- The lifting leaves every fitness alone (also the fitness of the objects it writes). -/
theorem liftMate_fit {τ : Type} (f : GOp2 τ) (t : τ) (h : Heap) (n a b o : Nat) :
    ((liftMate f t h n a b).heap o).fit = (h o).fit := by
  simp only [liftMate, Heap.set]
  split
  · next hb => subst hb; rfl
  · split
    · next ha => subst ha; rfl
    · rfl

theorem liftMutate_fit {τ : Type} (g : GOp1 τ) (t : τ) (h : Heap) (n a o : Nat) :
    ((liftMutate g t h n a).heap o).fit = (h o).fit := by
  simp only [liftMutate, Heap.set]
  split
  · next ha => subst ha; rfl
  · rfl

/-- It writes exactly what the genome operator computed from the contents before the call. -/
theorem liftMate_genomes {τ : Type} (f : GOp2 τ) (t : τ) (h : Heap) (n a b : Nat) (hab : a ≠ b) :
    ((liftMate f t h n a b).heap a).genome = (f t (h a).genome (h b).genome).2.1 ∧
    ((liftMate f t h n a b).heap b).genome = (f t (h a).genome (h b).genome).2.2 ∧
    (liftMate f t h n a b).tape = (f t (h a).genome (h b).genome).1 := by
  simp [liftMate, hab]

theorem liftMutate_genome {τ : Type} (g : GOp1 τ) (t : τ) (h : Heap) (n a : Nat) :
    ((liftMutate g t h n a).heap a).genome = (g t (h a).genome).2 ∧
    (liftMutate g t h n a).tape = (g t (h a).genome).1 := by
  simp [liftMutate]

/-- what a contract allows an operator called with counter `n` on `a`, `b` to hand back when it ends with counter `nx` -/
def Ret (n a b nx x : Nat) : Prop := x = a ∨ x = b ∨ (n ≤ x ∧ x < nx)

/-- `y` is `x` itself or an object allocated while the counter went from `n` to `nx`: what a one-argument step may hand back -/
def Kept (n nx x y : Nat) : Prop := y = x ∨ (n ≤ y ∧ y < nx)

theorem MateContract.of_forall {σ : Type} {m : σ → Heap → Nat → Nat → Nat → MateRes σ}
    (k : ∀ t h n a b, n ≤ (m t h n a b).next ∧
      Ret n a b (m t h n a b).next (m t h n a b).fst ∧ Ret n a b (m t h n a b).next (m t h n a b).snd ∧
      (a ≠ b → (m t h n a b).fst ≠ (m t h n a b).snd) ∧
      ∀ o, o ≠ a → o ≠ b → o < n → (m t h n a b).heap o = h o) : MateContract m :=
  ⟨fun t h n a b => (k t h n a b).1, fun t h n a b => (k t h n a b).2.1, fun t h n a b => (k t h n a b).2.2.1,
    fun t h n a b => (k t h n a b).2.2.2.1, fun t h n a b => (k t h n a b).2.2.2.2⟩

theorem MutContract.of_forall {σ : Type} {u : σ → Heap → Nat → Nat → MutRes σ}
    (k : ∀ t h n a, n ≤ (u t h n a).next ∧ Kept n (u t h n a).next a (u t h n a).ret ∧
      ∀ o, o ≠ a → o < n → (u t h n a).heap o = h o) : MutContract u :=
  ⟨fun t h n a => (k t h n a).1, fun t h n a => (k t h n a).2.1, fun t h n a => (k t h n a).2.2⟩

/-- `limitFix` is a one-argument step: the counter only grows, it hands back `x` or the one object it allocates, and it writes
nothing that existed. -/
theorem limitFix_spec {σ : Type} (L : Limit σ) (keep : List Nat) (t : σ) (h : Heap) (nx x : Nat) :
    nx ≤ (limitFix L keep t h nx x).next ∧ Kept nx (limitFix L keep t h nx x).next x (limitFix L keep t h nx x).ret ∧
    ∀ o, o < nx → (limitFix L keep t h nx x).heap o = h o := by
  unfold limitFix
  split
  · exact ⟨Nat.le_succ _, Or.inr ⟨Nat.le_refl _, Nat.lt_succ_self _⟩, fun o ho => Heap.set_other _ _ _ _ (Nat.ne_of_lt ho)⟩
  · exact ⟨Nat.le_refl _, Or.inl rfl, fun _ _ => rfl⟩

theorem Ret.mono {n a b nx x n' nx' : Nat} (h : Ret n a b nx x) (hn : n' ≤ n) (hx : nx ≤ nx') : Ret n' a b nx' x :=
  h.imp_right (Or.imp_right fun c => ⟨Nat.le_trans hn c.1, Nat.lt_of_lt_of_le c.2 hx⟩)

theorem Ret.lt {n a b nx x : Nat} (h : Ret n a b nx x) (ha : a < nx) (hb : b < nx) : x < nx :=
  h.elim (· ▸ ha) (Or.elim · (· ▸ hb) (·.2))

theorem Kept.mono {n nx x y n' nx' : Nat} (h : Kept n nx x y) (hn : n' ≤ n) (hx : nx ≤ nx') : Kept n' nx' x y :=
  h.imp_right fun c => ⟨Nat.le_trans hn c.1, Nat.lt_of_lt_of_le c.2 hx⟩

/-- a one-argument step after a call keeps what the call's contract says of the returned object -/
theorem Ret.step {n a b nx x nx' y : Nat} (h : Ret n a b nx x) (s : Kept nx nx' x y) (hn : n ≤ nx) (hx : nx ≤ nx') :
    Ret n a b nx' y :=
  s.elim (· ▸ h.mono (Nat.le_refl _) hx) fun c => .inr (.inr ⟨Nat.le_trans hn c.1, c.2⟩)

theorem Kept.step {n a nx x nx' y : Nat} (h : Kept n nx a x) (s : Kept nx nx' x y) (hn : n ≤ nx) (hx : nx ≤ nx') :
    Kept n nx' a y :=
  s.elim (· ▸ h.mono (Nat.le_refl _) hx) fun c => .inr ⟨Nat.le_trans hn c.1, c.2⟩

/-- two different objects stay different through two one-argument steps in a row: each step hands back its argument or an
object newer than everything before it -/
theorem Kept.ne {x y nx nx1 nx2 x' y' : Nat} (hxy : x ≠ y) (hx : x < nx) (hy : y < nx) (hle : nx ≤ nx1)
    (s1 : Kept nx nx1 x x') (s2 : Kept nx1 nx2 y y') : x' ≠ y' := by
  unfold Kept at s1 s2
  omega

theorem limitMate_contract {σ : Type} (L : Limit σ) {m : σ → Heap → Nat → Nat → Nat → MateRes σ}
    (hm : MateContract m) : MateContract (limitMate L m) := by
  refine .of_forall fun t h n a b => ?_
  simp only [limitMate]
  have hb0 : n ≤ max n (max (a + 1) (b + 1)) ∧ a < max n (max (a + 1) (b + 1)) ∧ b < max n (max (a + 1) (b + 1)) :=
    ⟨Nat.le_max_left .., Nat.le_trans (Nat.le_max_left (a + 1) (b + 1)) (Nat.le_max_right ..),
      Nat.le_trans (Nat.le_max_right (a + 1) (b + 1)) (Nat.le_max_right ..)⟩
  generalize max n (max (a + 1) (b + 1)) = base at hb0 ⊢
  obtain ⟨hnb, hab, hbb⟩ := hb0
  have hkeep : ∀ o, o < base → ((h.set base (h a)).set (base + 1) (h b)) o = h o := fun o ho => by
    rw [Heap.set_other _ _ _ _ (Nat.ne_of_lt (Nat.lt_succ_of_lt ho)), Heap.set_other _ _ _ _ (Nat.ne_of_lt ho)]
  generalize (h.set base (h a)).set (base + 1) (h b) = hk at hkeep ⊢
  have hn := hm.next t hk (base + 2) a b
  have hf : Ret _ a b _ _ := hm.fst t hk (base + 2) a b
  have hs : Ret _ a b _ _ := hm.snd t hk (base + 2) a b
  have hd := hm.distinct t hk (base + 2) a b
  have hfr := hm.frame t hk (base + 2) a b
  generalize m t hk (base + 2) a b = r at hn hf hs hd hfr ⊢
  -- the counter only grows: n ≤ base < base + 2 ≤ r.next ≤ f1.next ≤ f2.next
  have hbr : base < r.next := Nat.lt_of_lt_of_le (Nat.lt_add_of_pos_right (Nat.succ_pos 1)) hn
  have hnr : n ≤ r.next := Nat.le_trans hnb (Nat.le_of_lt hbr)
  have hlt1 := hf.lt (Nat.lt_trans hab hbr) (Nat.lt_trans hbb hbr)
  have hlt2 := hs.lt (Nat.lt_trans hab hbr) (Nat.lt_trans hbb hbr)
  obtain ⟨l1, s1, k1⟩ := limitFix_spec L [base, base + 1] r.tape r.heap r.next r.fst
  generalize limitFix L [base, base + 1] r.tape r.heap r.next r.fst = f1 at l1 s1 k1 ⊢
  obtain ⟨l2, s2, k2⟩ := limitFix_spec L [base, base + 1] f1.tape f1.heap f1.next r.snd
  have hn2 : n ≤ base + 2 := Nat.le_add_right_of_le hnb
  refine ⟨Nat.le_trans hnr (Nat.le_trans l1 l2), ((hf.mono hn2 (Nat.le_refl _)).step s1 hnr l1).mono (Nat.le_refl _) l2,
    (hs.mono hn2 l1).step s2 (Nat.le_trans hnr l1) l2, fun hne => Kept.ne (hd hne) hlt1 hlt2 l1 s1 s2,
    fun o ha hb hon => ?_⟩
  have hob : o < base := Nat.lt_of_lt_of_le hon hnb
  have hor : o < r.next := Nat.lt_trans hob hbr
  rw [k2 o (Nat.lt_of_lt_of_le hor l1), k1 o hor, hfr o ha hb (Nat.lt_add_right 2 hob), hkeep o hob]

theorem limitMutate_contract {σ : Type} (L : Limit σ) {u : σ → Heap → Nat → Nat → MutRes σ}
    (hu : MutContract u) : MutContract (limitMutate L u) := by
  refine .of_forall fun t h n a => ?_
  simp only [limitMutate]
  have hnb : n ≤ max n (a + 1) := Nat.le_max_left ..
  generalize max n (a + 1) = base at hnb ⊢
  have hkeep : ∀ o, o < base → (h.set base (h a)) o = h o := fun o ho => Heap.set_other _ _ _ _ (Nat.ne_of_lt ho)
  generalize h.set base (h a) = hk at hkeep ⊢
  have hn := hu.next t hk (base + 1) a
  have hre : Kept _ _ a _ := hu.ret t hk (base + 1) a
  have hfr := hu.frame t hk (base + 1) a
  generalize u t hk (base + 1) a = r at hn hre hfr ⊢
  obtain ⟨l1, s1, k1⟩ := limitFix_spec L [base] r.tape r.heap r.next r.ret
  have hn1 : n ≤ base + 1 := Nat.le_succ_of_le hnb
  refine ⟨Nat.le_trans hn1 (Nat.le_trans hn l1), (hre.step s1 hn l1).mono hn1 (Nat.le_refl _), fun o ha hon => ?_⟩
  have hob : o < base := Nat.lt_of_lt_of_le hon hnb
  rw [k1 o (Nat.lt_of_lt_of_le (Nat.lt_succ_of_lt hob) hn), hfr o ha (Nat.lt_succ_of_lt hob), hkeep o hob]

/-- With allocated arguments the kept copies get the next free oids (`base = n`). -/
theorem limit_base_eq (n a b : Nat) (ha : a < n) (hb : b < n) : max n (max (a + 1) (b + 1)) = n := by omega

theorem Lib.mate_contract (v : Views) (p : Lib) : MateContract (p.ops v).mate := by
  unfold Lib.ops
  cases p.mateLimit with
  | none => exact liftMate_contract _
  | some km => exact limitMate_contract _ (liftMate_contract _)

theorem Lib.mutate_contract (v : Views) (p : Lib) : MutContract (p.ops v).mutate := by
  unfold Lib.ops
  cases p.mutLimit with
  | none => exact liftMutate_contract _
  | some km => exact limitMutate_contract _ (liftMutate_contract _)

/-- an operator pair that allocates nothing and returns its arguments -/
structure InPlaceOps {σ : Type} (ops : Ops σ) : Prop where
  mate : ∀ t h n a b, (ops.mate t h n a b).next = n ∧ (ops.mate t h n a b).fst = a ∧ (ops.mate t h n a b).snd = b
  mutate : ∀ t h n a, (ops.mutate t h n a).next = n ∧ (ops.mutate t h n a).ret = a

theorem liftOps_inplace {τ : Type} (f : GOp2 τ) (g : GOp1 τ) : InPlaceOps (liftOps f g) :=
  ⟨liftMate_inplace f, liftMutate_inplace g⟩

theorem Lib.inplace (v : Views) (p : Lib) (hm : p.mateLimit = none) (hu : p.mutLimit = none) :
    InPlaceOps (p.ops v) := by
  unfold Lib.ops
  rw [hm, hu]
  exact liftOps_inplace _ _

theorem mateLoop_inplace {σ : Type} {ops : Ops σ} (hi : InPlaceOps ops) :
    ∀ (l : List Nat) (ds : List Bool) (t : σ) (s : St) (r : Res σ),
      mateLoop ops t s l ds = some r → r.off = l ∧ r.st.next = s.next
  | [], ds, t, s, r, h => by cases (mateLoop_nil t s ds).symm.trans h; exact ⟨rfl, rfl⟩
  | [a], ds, t, s, r, h => by cases (mateLoop_single t s a ds).symm.trans h; exact ⟨rfl, rfl⟩
  | a :: b :: rest, [], t, s, r, h => by cases h
  | a :: b :: rest, d :: ds, t, s, r, h => by
    rw [mateLoop_cons] at h
    obtain ⟨x, hx, rfl⟩ := Option.map_eq_some_iff.1 h
    obtain ⟨h1, h2⟩ := mateLoop_inplace hi rest ds _ _ x hx
    obtain ⟨e1, e2, e3⟩ := hi.mate t s.heap s.next a b
    cases d
    · exact ⟨congrArg (a :: b :: ·) h1, h2⟩
    · exact ⟨by simp [mateTurn, e2, e3, h1], h2.trans e1⟩

theorem mutLoop_inplace {σ : Type} {ops : Ops σ} (hi : InPlaceOps ops) :
    ∀ (l : List Nat) (ds : List Bool) (t : σ) (s : St) (r : Res σ),
      mutLoop ops t s l ds = some r → r.off = l ∧ r.st.next = s.next
  | [], ds, t, s, r, h => by
    cases h; exact ⟨rfl, rfl⟩
  | a :: rest, [], t, s, r, h => by cases h
  | a :: rest, d :: ds, t, s, r, h => by
    rw [mutLoop_cons] at h
    obtain ⟨x, hx, rfl⟩ := Option.map_eq_some_iff.1 h
    obtain ⟨h1, h2⟩ := mutLoop_inplace hi rest ds _ _ x hx
    obtain ⟨e1, e2⟩ := hi.mutate t s.heap s.next a
    cases d
    · exact ⟨congrArg (a :: ·) h1, h2⟩
    · exact ⟨by simp [mutTurn, e2, h1], h2.trans e1⟩

theorem varAnd_inplace {σ : Type} {ops : Ops σ} (hi : InPlaceOps ops) {t : σ} {s : St} {pop : List Nat}
    {mateD mutD : List Bool} {r : Res σ} (h : varAnd ops t s pop mateD mutD = some r) :
    r.off = List.range' s.next pop.length ∧ r.st.next = s.next + pop.length := by
  obtain ⟨m, hm, h⟩ := varAnd_eq_some.1 h
  obtain ⟨h1, h2⟩ := mateLoop_inplace hi _ _ _ _ m hm
  obtain ⟨h3, h4⟩ := mutLoop_inplace hi _ _ _ _ r h
  rw [h3, h1, h4, h2, cloneAll_off, cloneAll_next]
  exact ⟨rfl, rfl⟩

/-- number of `toolbox.clone` calls of one `varOr` iteration -/
def Choice.clones : Choice → Nat
  | .cx _ _ => 2
  | _ => 1

/-- the first clone of every iteration, when the iterations start at oid `n` -/
def firstClones : Nat → List Choice → List Nat
  | _, [] => []
  | n, c :: cs => n :: firstClones (n + c.clones) cs

def totalClones : List Choice → Nat
  | [] => 0
  | c :: cs => c.clones + totalClones cs

theorem varOrStep_inplace {σ : Type} {ops : Ops σ} (hi : InPlaceOps ops) (pop : List Nat) (t : σ) (s : St)
    (c : Choice) (t1 : σ) (s1 : St) (o : Nat) (h : varOrStep ops pop t s c = some (t1, s1, o)) :
    o = s.next ∧ s1.next = s.next + c.clones := by
  cases c <;> simp only [varOrStep] at h <;> split at h <;>
    simp only [Option.some.injEq, Prod.mk.injEq, reduceCtorEq] at h <;> obtain ⟨_, rfl, rfl⟩ := h
  · exact ⟨(hi.mate ..).2.1, (hi.mate ..).1⟩
  · exact ⟨(hi.mutate ..).2, (hi.mutate ..).1⟩
  · exact ⟨rfl, rfl⟩

theorem varOrLoop_inplace {σ : Type} {ops : Ops σ} (hi : InPlaceOps ops) (pop : List Nat) :
    ∀ (cs : List Choice) (t : σ) (s : St) (r : Res σ), varOrLoop ops pop t s cs = some r →
      r.off = firstClones s.next cs ∧ r.st.next = s.next + totalClones cs
  | [], t, s, r, h => by
    cases h; exact ⟨rfl, rfl⟩
  | c :: cs, t, s, r, h => by
    rw [varOrLoop_cons] at h
    obtain ⟨⟨t1, s1, o⟩, hstep, h⟩ := Option.bind_eq_some_iff.1 h
    obtain ⟨x, hx, rfl⟩ := Option.map_eq_some_iff.1 h
    obtain ⟨ho, hn⟩ := varOrStep_inplace hi pop t s c t1 s1 o hstep
    obtain ⟨h1, h2⟩ := varOrLoop_inplace hi pop cs t1 s1 x hx
    exact ⟨by simp [h1, ho, hn, firstClones], by simp only [h2, hn, totalClones]; omega⟩

theorem varOr_inplace {σ : Type} {ops : Ops σ} (hi : InPlaceOps ops) {t : σ} {s : St} {pop : List Nat} {lam : Nat}
    {choices : List Choice} {r : Res σ} (h : varOr ops t s pop lam choices = some r) :
    r.off = firstClones s.next choices ∧ r.st.next = s.next + totalClones choices :=
  varOrLoop_inplace hi pop choices t s r (varOr_eq_some.1 h).2

end Variation
