/-
Helper lemmas for C06 (selection operators): the tape combinator and its trace theorem, the tape readers, the
fitness order on population indices, Python's `sorted` / `max`.
-/
import DeapModel.Core.Selection
import DeapModel.Lemmas.ListFacts
import DeapModel.Lemmas.ListCore
import DeapModel.Props.C01

namespace C06L
open Selection

section Repeat
variable {α : Type} (step : Tape → Option (α × Tape))

theorem repeatM_succ_some {k : Nat} {t t' : Tape} {l : List α} :
    repeatM step (k + 1) t = some (l, t') ↔
      ∃ x t1 l', step t = some (x, t1) ∧ repeatM step k t1 = some (l', t') ∧ l = x :: l' := by
  rw [Selection.repeatM]
  rcases step t with _ | ⟨x, t1⟩
  · simp
  · simp only [Option.some.injEq, Prod.mk.injEq, and_assoc, exists_and_left, exists_eq_left']
    rcases Selection.repeatM step k t1 with _ | ⟨l', t2⟩ <;> simp [eq_comm, and_comm]

theorem repeatM_length {k : Nat} {t t' : Tape} {l : List α}
    (h : repeatM step k t = some (l, t')) : l.length = k := by
  induction k generalizing t l with
  | zero => simp [Selection.repeatM] at h; simp [h.1]
  | succ k ih =>
    obtain ⟨x, t1, l', _, h2, rfl⟩ := (repeatM_succ_some step).1 h
    simp [ih h2]

theorem repeatM_forall (P : α → Prop) (hstep : ∀ t x t', step t = some (x, t') → P x)
    {k : Nat} {t t' : Tape} {l : List α} (h : repeatM step k t = some (l, t')) : ∀ x ∈ l, P x := by
  induction k generalizing t l with
  | zero => simp [Selection.repeatM] at h; simp [h.1]
  | succ k ih =>
    obtain ⟨x, t1, l', h1, h2, rfl⟩ := (repeatM_succ_some step).1 h
    intro y hy
    rcases List.mem_cons.1 hy with rfl | hy
    · exact hstep _ _ _ h1
    · exact ih h2 y hy

/-- Every element of the result was produced by one `step` call somewhere on the tape, and the
calls are chained: the full trace of intermediate tapes. -/
theorem repeatM_chain {k : Nat} {t t' : Tape} {l : List α}
    (h : repeatM step k t = some (l, t')) :
    ∃ ts : List Tape, ts.length = k + 1 ∧ ts.head? = some t ∧ ts.getLast? = some t' ∧
      ∀ i (hi : i < l.length), ∃ a b, ts[i]? = some a ∧ ts[i+1]? = some b ∧ step a = some (l[i], b) := by
  induction k generalizing t l with
  | zero => cases h; exact ⟨[t'], rfl, rfl, rfl, fun i hi => absurd hi (Nat.not_lt_zero i)⟩
  | succ k ih =>
    obtain ⟨x, t1, l', h1, h2, rfl⟩ := (repeatM_succ_some step).1 h
    obtain ⟨_ | ⟨a, as⟩, hl, hh, hlast, hall⟩ := ih h2
    · cases hl
    · cases hh
      refine ⟨t :: t1 :: as, congrArg (· + 1) hl, rfl, List.getLast?_cons_cons.trans hlast, fun i hi => ?_⟩
      cases i with
      | zero => exact ⟨t, t1, rfl, rfl, h1⟩
      | succ i => exact hall i (Nat.lt_of_succ_lt_succ hi)

end Repeat

theorem forall₂_exists {α D : Type} {R : α → D → Prop} (ds : List D) (h : ∀ d ∈ ds, ∃ x, R x d) :
    ∃ l, List.Forall₂ R l ds := by
  induction ds with
  | nil => exact ⟨[], List.Forall₂.nil⟩
  | cons d ds ih =>
    obtain ⟨x, hx⟩ := h d (by simp)
    obtain ⟨l, hl⟩ := ih (fun d' hd' => h d' (by simp [hd']))
    exact ⟨x :: l, List.Forall₂.cons hx hl⟩

theorem forall₂_filterMap {α D : Type} {f : D → Option α} {R : D → α → Prop} (ds : List D)
    (h : ∀ d ∈ ds, ∃ x, f d = some x ∧ R d x) : List.Forall₂ R ds ((ds.map f).filterMap id) := by
  induction ds with
  | nil => exact .nil
  | cons d ds ih =>
    obtain ⟨x, hx, hR⟩ := h d List.mem_cons_self
    rw [List.map_cons, hx, List.filterMap_cons_some (f := id) rfl]
    exact .cons hR (ih fun d' hd' => h d' (List.mem_cons_of_mem _ hd'))

theorem forall₂_map_iff {α D : Type} {P : D → Prop} {f : D → α} {l : List α} {ds : List D} :
    List.Forall₂ (fun x d => P d ∧ x = f d) l ds ↔ l = ds.map f ∧ ∀ d ∈ ds, P d := by
  induction ds generalizing l with
  | nil => exact ⟨fun h => by cases h; exact ⟨rfl, nofun⟩, fun h => h.1 ▸ .nil⟩
  | cons d ds ih =>
    constructor
    · rintro (_ | ⟨⟨hP, rfl⟩, h⟩)
      obtain ⟨rfl, hds⟩ := ih.1 h
      exact ⟨rfl, List.forall_mem_cons.2 ⟨hP, hds⟩⟩
    · rintro ⟨rfl, h⟩
      exact .cons ⟨h d List.mem_cons_self, rfl⟩ (ih.2 ⟨rfl, fun d' hd' => h d' (List.mem_cons_of_mem _ hd')⟩)

/-- `step` reads exactly the tape segment `enc d` of some datum `d` and answers an `x` with `R x d`.  Every tape reader
of the model is characterised in this form: from left to right it says which draws were read and what was answered, from
right to left (`Parses.total`) that every tape that starts with such a segment is accepted. -/
def Parses {α D : Type} (step : Tape → Option (α × Tape)) (enc : D → Tape) (R : α → D → Prop) : Prop :=
  ∀ t x t', step t = some (x, t') ↔ ∃ d, t = enc d ++ t' ∧ R x d

section Parses
variable {α D : Type} {step : Tape → Option (α × Tape)} {enc : D → Tape} {R : α → D → Prop}

theorem Parses.total (h : Parses step enc R) {x : α} {d : D} (hR : R x d) (t' : Tape) : step (enc d ++ t') = some (x, t') :=
  (h _ _ _).2 ⟨d, rfl, hR⟩

theorem Parses.congr {R' : α → D → Prop} (h : Parses step enc R) (hR : ∀ x d, R x d ↔ R' x d) : Parses step enc R' :=
  fun t x t' => (h t x t').trans (exists_congr fun d => and_congr_right fun _ => hR x d)

/-- The trace theorem: `k` repetitions of a reader read the segments of `k` data one after the other. -/
theorem Parses.repeatM (h : Parses step enc R) (k : Nat) :
    Parses (Selection.repeatM step k) (fun ds : List D => ds.flatMap enc)
      (fun l ds => ds.length = k ∧ List.Forall₂ R l ds) := by
  induction k with
  | zero =>
    intro t l t'
    simp only [Selection.repeatM, Option.some.injEq, Prod.mk.injEq]
    constructor
    · rintro ⟨rfl, rfl⟩; exact ⟨[], rfl, rfl, .nil⟩
    · rintro ⟨ds, h1, h2, h3⟩
      obtain rfl := List.eq_nil_of_length_eq_zero h2
      cases h3
      exact ⟨rfl, h1⟩
  | succ k ih =>
    intro t l t'
    rw [repeatM_succ_some]
    constructor
    · rintro ⟨x, t1, l', h1, h2, rfl⟩
      obtain ⟨d, rfl, hR⟩ := (h _ _ _).1 h1
      obtain ⟨ds, rfl, hlen, hall⟩ := (ih _ _ _).1 h2
      exact ⟨d :: ds, by simp, by simp [hlen], List.Forall₂.cons hR hall⟩
    · rintro ⟨ds, h1, h2, h3⟩
      cases h3 with
      | nil => simp at h2
      | @cons x d l' ds' hR hall =>
        refine ⟨x, ds'.flatMap enc ++ t', l', (h _ _ _).2 ⟨d, by simpa using h1, hR⟩, ?_, rfl⟩
        exact (ih _ _ _).2 ⟨ds', rfl, by simpa using h2, hall⟩

theorem Parses.repeatM_total (h : Parses step enc R) (ds : List D) (hd : ∀ d ∈ ds, ∃ x, R x d) (t' : Tape) :
    ∃ l, Selection.repeatM step ds.length (ds.flatMap enc ++ t') = some (l, t') :=
  let ⟨l, hl⟩ := forall₂_exists ds hd
  ⟨l, (h.repeatM _).total ⟨rfl, hl⟩ t'⟩

/-- The trace theorem for a reader of ONE draw `g d` that answers `f d`. -/
theorem Parses.repeatM_map {g : D → Draw} {P : D → Prop} {f : D → α}
    (h : Parses step (fun d => [g d]) (fun x d => P d ∧ x = f d)) (k : Nat) :
    Parses (Selection.repeatM step k) (fun ds : List D => ds.map g)
      (fun l ds => ds.length = k ∧ l = ds.map f ∧ ∀ d ∈ ds, P d) := by
  intro t l t'
  rw [h.repeatM k t l t']
  simp only [← List.map_eq_flatMap]
  exact exists_congr fun ds => and_congr_right fun _ => and_congr_right fun _ => forall₂_map_iff

end Parses

/-- pure logic: the shape `simp [popChoice]` (and its three siblings) leaves of a reader that checks `P` of the head draw -/
theorem head_draw_iff {α : Type} (P : α → Prop) {x y : α} {t t' : Tape} :
    (P x ∧ x = y ∧ t = t') ↔ ((x = y ∧ t = t') ∧ P y) :=
  ⟨fun ⟨h, e, e'⟩ => ⟨⟨e, e'⟩, e ▸ h⟩, fun ⟨⟨e, e'⟩, h⟩ => ⟨e ▸ h, e, e'⟩⟩

theorem popChoice_some {n : Nat} {t t' : Tape} {i : Nat} :
    popChoice n t = some (i, t') ↔ t = Draw.choice i :: t' ∧ i < n := by
  rcases t with _ | ⟨_ | _ | _ | _, t⟩ <;> simp [popChoice]
  exact head_draw_iff (· < n)

theorem popRandom_some {t t' : Tape} {r : Rat} :
    popRandom t = some (r, t') ↔ t = Draw.random r :: t' ∧ 0 ≤ r ∧ r < 1 := by
  rcases t with _ | ⟨_ | _ | _ | _, t⟩ <;> simp [popRandom]
  exact head_draw_iff fun r => 0 ≤ r ∧ r < 1

theorem popShuffle_some {n : Nat} {t t' : Tape} {p : List Nat} :
    popShuffle n t = some (p, t') ↔ t = Draw.shuffle p :: t' ∧ p.Perm (List.range n) := by
  rcases t with _ | ⟨_ | _ | _ | _, t⟩ <;> simp [popShuffle, List.isPerm_iff]
  exact head_draw_iff fun p : List Nat => p.Perm (List.range n)

theorem popSample_some {n : Nat} {t t' : Tape} {p : List Nat} :
    popSample n t = some (p, t') ↔ t = Draw.sample p :: t' ∧ p.Perm (List.range n) := by
  rcases t with _ | ⟨_ | _ | _ | _, t⟩ <;> simp [popSample, List.isPerm_iff]
  exact head_draw_iff fun p : List Nat => p.Perm (List.range n)

theorem selRandom_spec {n k : Nat} {t t' : Tape} {l : List Nat} :
    selRandom n k t = some (l, t') ↔ t = l.map Draw.choice ++ t' ∧ l.length = k ∧ ∀ i ∈ l, i < n := by
  have hc : Parses (popChoice n) (fun i => [Draw.choice i]) (fun x i => i < n ∧ x = id i) := fun t x t' =>
    popChoice_some.trans ⟨fun h => ⟨x, h.1, h.2, rfl⟩, fun ⟨d, h1, h2, h3⟩ => h3 ▸ ⟨h1, h2⟩⟩
  rw [selRandom, hc.repeatM_map k t l t']
  exact ⟨fun ⟨ds, h1, h2, h3, h4⟩ => by rw [h3, List.map_id]; exact ⟨h1, h2, h4⟩,
    fun ⟨h1, h2, h3⟩ => ⟨l, h1, h2, (List.map_id l).symm, h3⟩⟩

theorem selRandom_parses (n k : Nat) :
    Parses (selRandom n k) (fun g : List Nat => g.map Draw.choice) (fun l g => l = g ∧ g.length = k ∧ ∀ i ∈ g, i < n) :=
  fun _ l _ => selRandom_spec.trans
    ⟨fun ⟨h1, h2, h3⟩ => ⟨l, h1, rfl, h2, h3⟩, fun ⟨_, h1, e, h2, h3⟩ => e ▸ ⟨h1, h2, h3⟩⟩

theorem fitLt_iff (pop : Pop) (i j : Nat) : fitLt pop i j = true ↔ wvAt pop i < wvAt pop j := by
  simpa [fitLt] using C01.lt_iff_lex (α := Rat) ⟨wvAt pop i⟩ ⟨wvAt pop j⟩

theorem fitLt_false_iff (pop : Pop) (i j : Nat) : fitLt pop i j = false ↔ wvAt pop j ≤ wvAt pop i := by
  rw [← not_lt, ← fitLt_iff]; simp

theorem fitGt_iff (pop : Pop) (i j : Nat) : fitGt pop i j = true ↔ wvAt pop j < wvAt pop i := by
  unfold fitGt
  rw [C01.gt_iff_swap (α := Rat)]
  exact C01.lt_iff_lex (α := Rat) ⟨wvAt pop j⟩ ⟨wvAt pop i⟩

theorem sortedDesc_perm (lt : Nat → Nat → Bool) (l : List Nat) : (sortedDesc lt l).Perm l :=
  List.mergeSort_perm _ _

theorem sortedAsc_perm (lt : Nat → Nat → Bool) (l : List Nat) : (sortedAsc lt l).Perm l :=
  List.mergeSort_perm _ _

theorem sortedDesc_pairwise (pop : Pop) (l : List Nat) :
    (sortedDesc (fitLt pop) l).Pairwise (fun i j => fitLt pop i j = false) :=
  (List.pairwise_mergeSort_key (OrderDual.toDual ∘ wvAt pop) (fun a b => fitLt pop b a) (fun a b => fitLt_iff pop b a) l).imp
    (fitLt_false_iff pop _ _).2

theorem sortedAsc_pairwise (pop : Pop) (l : List Nat) :
    (sortedAsc (fitLt pop) l).Pairwise (fun i j => fitLt pop j i = false) :=
  (List.pairwise_mergeSort_key (wvAt pop) (fitLt pop) (fitLt_iff pop) l).imp (fitLt_false_iff pop _ _).2

/-- `sorted(…, reverse=True)` on fitnesses in a form the kernel evaluates -/
theorem sortedDesc_fitLt_eq_isort (pop : Pop) (l : List Nat) :
    sortedDesc (fitLt pop) l = LoopsC.isort (fun a b => !fitLt pop a b) l := by
  refine LoopsC.mergeSort_eq_isort (fun a b c h1 h2 => ?_) (fun a b => ?_) l
  · simp only [Bool.not_eq_true', fitLt_false_iff] at *
    exact le_trans h2 h1
  · simp only [Bool.or_eq_true, Bool.not_eq_true', fitLt_false_iff]
    exact le_total _ _

/-- the two-individual wheel with equal fitnesses of the universal-sampling examples: a tie keeps the input order -/
theorem sortedDesc_tie : sortedDesc (fitLt [⟨[2], 0, 0⟩, ⟨[2], 0, 0⟩]) (List.range 2) = [0, 1] := by
  rw [sortedDesc_fitLt_eq_isort]
  decide +kernel

theorem mem_sortedDesc_range (pop : Pop) (n i : Nat) :
    i ∈ sortedDesc (fitLt pop) (List.range n) ↔ i < n := by
  rw [(sortedDesc_perm _ _).mem_iff]; simp

theorem sortedDesc_range_ne_nil {pop : Pop} (hne : pop ≠ []) : sortedDesc (fitLt pop) (List.range pop.length) ≠ [] :=
  fun h0 => hne (List.eq_nil_of_length_eq_zero (by simpa [h0] using (sortedDesc_perm (fitLt pop) (List.range pop.length)).length_eq.symm))

theorem nodup_sortedDesc_range (pop : Pop) (n : Nat) : (sortedDesc (fitLt pop) (List.range n)).Nodup :=
  (sortedDesc_perm _ _).nodup_iff.2 List.nodup_range

theorem take_sorted {R : Nat → Nat → Prop} {s : List Nat} {n : Nat} (hp : s.Perm (List.range n))
    (hs : s.Pairwise R) (k : Nat) :
    (s.take k).Nodup ∧ (s.take k).Pairwise R ∧ ∀ i, i < n → i ∉ s.take k → ∀ j ∈ s.take k, R j i := by
  refine ⟨(hp.nodup_iff.2 List.nodup_range).sublist (List.take_sublist _ _), hs.sublist (List.take_sublist _ _), ?_⟩
  intro i hi hni j hj
  have hmem : i ∈ s.take k ++ s.drop k := by rw [List.take_append_drop]; exact hp.mem_iff.2 (List.mem_range.2 hi)
  rw [← List.take_append_drop k s, List.pairwise_append] at hs
  exact hs.2.2 j hj i ((List.mem_append.1 hmem).resolve_left hni)

/-- Python's `max(seq, key=…)` / `min` loop (`item better than best` replaces), `better` being `key best < key item`. -/
theorem foldl_argmax {β γ : Type} [LinearOrder γ] (key : β → γ) (r : β → β → Prop) [DecidableRel r]
    (hr : ∀ y m, r y m ↔ key m < key y) (xs : List β) (x : β) :
    xs.foldl (fun m y => if r y m then y else m) x ∈ x :: xs ∧
    ∀ e ∈ x :: xs, key e ≤ key (xs.foldl (fun m y => if r y m then y else m) x) := by
  have h := List.foldl_pick (fun m y => r y m) (fun a => by rw [hr]; exact lt_irrefl _)
    (fun a b c => by simp only [hr]; exact lt_trans) (fun a b c => by simp only [hr, not_lt]; exact fun h1 h2 => h2.trans h1) xs x
  exact ⟨h.1, fun e he => not_lt.1 (mt (hr _ _).2 (h.2 e he))⟩

theorem pyMax_spec (pop : Pop) {l : List Nat} {w : Nat} (h : pyMax (fitGt pop) l = some w) :
    w ∈ l ∧ ∀ a ∈ l, fitLt pop w a = false := by
  cases l with
  | nil => cases h
  | cons x xs =>
    obtain rfl := Option.some.inj h
    have := foldl_argmax (wvAt pop) (fun y m => fitGt pop y m = true) (fun y m => fitGt_iff pop y m) xs x
    exact ⟨this.1, fun a ha => (fitLt_false_iff _ _ _).2 (this.2 a ha)⟩

theorem pyMax_isSome (pop : Pop) {l : List Nat} (h : 0 < l.length) : ∃ w, pyMax (fitGt pop) l = some w := by
  cases l with
  | nil => cases h
  | cons x xs => exact ⟨_, rfl⟩

end C06L
