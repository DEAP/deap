import DeapModel.Lemmas.C15Grid
/-!
C15 — the recursive step of the sweep in terms of the specification: adding a point that is highest in the leading
coordinate adds one slab (`hvCells_add_top_slab`); coordinate symmetry (moving the leading coordinate to the end,
`rot`, does not change `hvCells`); hence the same step along the LAST coordinate, which is the one the sweep of
pyhv / `_hv.c` works on.
-/
namespace Hypervolume

/-- all points share the leading coordinate `z`: a prism -/
theorem hvCells_const_head (r z : ℚ) (ref : List ℚ) (S : List Pt) (hall : ∀ p ∈ S, p.headD 0 = z) :
    hvCells (r :: ref) S = (r - min z r) * hvCells ref (S.map List.tail) := by
  cases hS : S with
  | nil => simp [hvCells_nil_pts]
  | cons p0 S' =>
    rw [← hS, hvCells_cons]
    have hne : S.map (fun p => p.headD 0) ≠ [] := by rw [hS]; simp
    rw [axisOf_const r z _ hne (by intro a ha; obtain ⟨p, hp, rfl⟩ := List.mem_map.mp ha; exact hall p hp)]
    split
    · rename_i h
      have hsub : sub S z = S.map List.tail := by
        unfold sub
        congr 1
        apply List.filter_eq_self.mpr
        intro p hp
        have := hall p hp
        exact decide_eq_true (le_of_eq this)
      simp only [stepSum, intervals, List.map_cons, List.map_nil, sumRat_cons, sumRat_nil, add_zero]
      rw [hsub, min_eq_left (le_of_lt h)]
    · rename_i h
      simp only [stepSum, intervals, List.map_nil, sumRat_nil]
      rw [min_eq_right (not_lt.mp h)]; ring

/-- **The recursive step**: adding a point whose leading coordinate is the largest adds the slab
`(r − z) × (area with the point − area without)` of the projections. -/
theorem hvCells_add_top_slab (r : ℚ) (ref : List ℚ) (P : List Pt) (p : Pt)
    (hz : ∀ s ∈ P, s.headD 0 ≤ p.headD 0) (hr : p.headD 0 ≤ r) :
    hvCells (r :: ref) (p :: P) = hvCells (r :: ref) P
      + (r - p.headD 0) * (hvCells ref ((p :: P).map List.tail) - hvCells ref (P.map List.tail)) := by
  rw [hvCells_ie, List.map_cons, hvCells_ie ref p.tail (P.map List.tail)]
  have hmap : ∀ s ∈ P.map (fun s => pmax (r :: ref) s p), s.headD 0 = p.headD 0 := by
    intro s hs
    obtain ⟨t, ht, rfl⟩ := List.mem_map.mp hs
    simp only [pmax, List.headD_cons]
    rw [if_pos (hz t ht)]
  rw [hvCells_const_head r (p.headD 0) ref _ hmap, List.map_map, List.map_map]
  have htails : (List.tail ∘ fun s => pmax (r :: ref) s p) = ((fun s => pmax ref s p.tail) ∘ List.tail) := by
    funext s; simp [pmax]
  rw [htails, min_eq_left hr]
  rw [boxVol_cons_of_le hr ref]
  ring

/-- move the leading coordinate to the end -/
def rot (p : Pt) : Pt := p.tail ++ [p.headD 0]

/-- move the last coordinate to the front -/
def unrot (p : Pt) : Pt := p.getLastD 0 :: p.dropLast

theorem boxVol_cons (a : ℚ) (ref : List ℚ) (b : ℚ) (p : Pt) :
    boxVol (a :: ref) (b :: p) = (if b < a then a - b else 0) * boxVol ref p := rfl

theorem pmax_cons (a : ℚ) (ref : List ℚ) (b : ℚ) (p : Pt) (c : ℚ) (q : Pt) :
    pmax (a :: ref) (b :: p) (c :: q) = (if b ≤ c then c else b) :: pmax ref p q := rfl

theorem boxVol_snoc (r x : ℚ) : ∀ (ref : List ℚ) (p : Pt), p.length = ref.length →
    boxVol (ref ++ [r]) (p ++ [x]) = boxVol ref p * (if x < r then r - x else 0)
  | [], [], _ => by simp [boxVol]
  | [], _ :: _, h => by simp at h
  | _ :: _, [], h => by simp at h
  | a :: ref, b :: p, h => by
    have ih := boxVol_snoc r x ref p (by simpa using h)
    rw [List.cons_append, List.cons_append, boxVol_cons, boxVol_cons, ih]
    ring

theorem length_pmax : ∀ (ref : List ℚ) (p q : Pt), (pmax ref p q).length = ref.length
  | [], _, _ => rfl
  | _ :: ref, p, q => by simp [pmax, length_pmax ref p.tail q.tail]

theorem pmax_snoc (r x y : ℚ) : ∀ (ref : List ℚ) (p q : Pt), p.length = ref.length → q.length = ref.length →
    pmax (ref ++ [r]) (p ++ [x]) (q ++ [y]) = pmax ref p q ++ [if x ≤ y then y else x]
  | [], [], [], _, _ => by simp [pmax]
  | [], _ :: _, _, h, _ => by simp at h
  | [], [], _ :: _, _, h => by simp at h
  | _ :: _, [], _, h, _ => by simp at h
  | _ :: _, _ :: _, [], _, h => by simp at h
  | a :: ref, b :: p, c :: q, hp, hq => by
    have ih := pmax_snoc r x y ref p q (by simpa using hp) (by simpa using hq)
    rw [List.cons_append, List.cons_append, List.cons_append, pmax_cons, pmax_cons, ih, List.cons_append]

theorem boxVol_rot (r : ℚ) (ref : List ℚ) (p : Pt) (h : p.length = ref.length + 1) :
    boxVol (ref ++ [r]) (rot p) = boxVol (r :: ref) p := by
  match p, h with
  | x :: p', h =>
    show boxVol (ref ++ [r]) (p' ++ [x]) = boxVol (r :: ref) (x :: p')
    rw [boxVol_snoc r x ref p' (by simpa using h), boxVol_cons]
    ring

theorem pmax_rot (r : ℚ) (ref : List ℚ) (p q : Pt) (hp : p.length = ref.length + 1) (hq : q.length = ref.length + 1) :
    pmax (ref ++ [r]) (rot p) (rot q) = rot (pmax (r :: ref) p q) := by
  match p, q, hp, hq with
  | x :: p', y :: q', hp, hq =>
    show pmax (ref ++ [r]) (p' ++ [x]) (q' ++ [y]) = rot (pmax (r :: ref) (x :: p') (y :: q'))
    rw [pmax_cons]
    exact pmax_snoc r x y ref p' q' (by simpa using hp) (by simpa using hq)

theorem hvIE_rot (r : ℚ) (ref : List ℚ) (S : List Pt) :
    (∀ p ∈ S, p.length = ref.length + 1) → hvIE (ref ++ [r]) (S.map rot) = hvIE (r :: ref) S := by
  induction S using hvIE_induction (r :: ref) with
  | nil => intro _; rw [List.map_nil, hvIE_nil, hvIE_nil]
  | cons q S ih1 ih2 =>
    intro hl
    have hq := hl q (by simp)
    have hS : ∀ p ∈ S, p.length = ref.length + 1 := fun p hp => hl p (by simp [hp])
    have hmap : (S.map rot).map (fun p => pmax (ref ++ [r]) p (rot q)) = (S.map (fun p => pmax (r :: ref) p q)).map rot := by
      rw [List.map_map, List.map_map]
      exact List.map_congr_left (fun p hp => pmax_rot r ref p q (hS p hp) hq)
    rw [List.map_cons, hvIE_cons, hvIE_cons, ih1 hS, boxVol_rot r ref q hq, hmap, ih2]
    intro p hp
    obtain ⟨s, _, rfl⟩ := List.mem_map.mp hp
    rw [length_pmax]; simp

/-- **Coordinate symmetry** (rotation): the hypervolume does not depend on which coordinate comes first. -/
theorem hvCells_rot (r : ℚ) (ref : List ℚ) (S : List Pt) (hl : ∀ p ∈ S, p.length = ref.length + 1) :
    hvCells (ref ++ [r]) (S.map rot) = hvCells (r :: ref) S := by
  rw [hvCells_eq_hvIE, hvCells_eq_hvIE]
  exact hvIE_rot r ref S hl

theorem rot_unrot (p : Pt) (h : p ≠ []) : rot (unrot p) = p := by
  simp only [rot, unrot, List.tail_cons, List.headD_cons]
  rw [List.getLastD_eq_getLast?, List.getLast?_eq_some_getLast h]
  exact List.dropLast_append_getLast h

theorem length_unrot (p : Pt) (h : p ≠ []) : (unrot p).length = p.length := by
  simp only [unrot, List.length_cons, List.length_dropLast]
  have : 0 < p.length := List.length_pos_of_ne_nil h
  omega

theorem hvCells_unrot (r : ℚ) (ref : List ℚ) (S : List Pt) (hl : ∀ p ∈ S, p.length = ref.length + 1) :
    hvCells (ref ++ [r]) S = hvCells (r :: ref) (S.map unrot) := by
  have hne : ∀ p ∈ S, p ≠ [] := fun p hp h => by have := hl p hp; rw [h] at this; simp at this
  have h1 : (S.map unrot).map rot = S := by
    rw [List.map_map]
    conv_rhs => rw [← List.map_id S]
    apply List.map_congr_left
    intro p hp
    exact rot_unrot p (hne p hp)
  conv_lhs => rw [← h1]
  apply hvCells_rot
  intro p hp
  obtain ⟨s, hs, rfl⟩ := List.mem_map.mp hp
  rw [length_unrot s (hne s hs)]; exact hl s hs

/-- **The recursive step along the LAST coordinate** (the one the sweep works on): adding a point whose last
coordinate `z` is the largest adds the slab `(r − z) × ((d−1)-dimensional hypervolume of the projections with
the point − without it)`. -/
theorem hvCells_add_top_slab_last (r : ℚ) (ref : List ℚ) (P : List Pt) (p : Pt)
    (hl : ∀ s ∈ p :: P, s.length = ref.length + 1)
    (hz : ∀ s ∈ P, s.getLastD 0 ≤ p.getLastD 0) (hr : p.getLastD 0 ≤ r) :
    hvCells (ref ++ [r]) (p :: P) = hvCells (ref ++ [r]) P
      + (r - p.getLastD 0) * (hvCells ref ((p :: P).map List.dropLast) - hvCells ref (P.map List.dropLast)) := by
  rw [hvCells_unrot r ref (p :: P) hl, hvCells_unrot r ref P (fun s hs => hl s (by simp [hs])), List.map_cons]
  have := hvCells_add_top_slab r ref (P.map unrot) (unrot p)
    (by intro s hs; obtain ⟨t, ht, rfl⟩ := List.mem_map.mp hs; exact hz t ht) hr
  rw [this]
  simp only [List.map_cons, List.map_map]
  rfl

end Hypervolume
