/-
C20 — lemmas about the decorators (`Core/BenchTools.lean`): `numpy.dot` as `Matrix.mulVec`, the noise loop, and
(for any scalar) the histories of re-parameterised decorators: after `set p` the parameter in force is `p`
(`runHist_last_set`), and for the stack the state after a history (`stackStateAfter`, `stackHist_last`).  `stackHist`
is not an instance of `runHist`: `stackInstall` needs the current state.
-/
import DeapModel.Lemmas.C20Real
import Mathlib.Data.Matrix.Mul

namespace C20L
open BenchTools

/-- a matrix as the list of its rows -/
def rows {n : Nat} (M : Matrix (Fin n) (Fin n) ℝ) : List (List ℝ) := List.ofFn fun i => List.ofFn (M i)

theorem matVec_rows {n : Nat} (M : Matrix (Fin n) (Fin n) ℝ) (v : Fin n → ℝ) :
    matVec (rows M) (List.ofFn v) = some (List.ofFn (M.mulVec v)) := by
  unfold matVec rows
  rw [List.mapM_eq_some _ (fun row => ((row.zip (List.ofFn v)).map fun p => p.1 * p.2).sum)]
  · congr 1
    rw [List.map_ofFn]
    congr 1; funext i
    rw [Function.comp_apply, List.map_zip_eq_zipWith, List.zipWith_ofFn, List.sum_ofFn]
    rfl
  · intro row hrow
    simp only [List.mem_ofFn] at hrow
    obtain ⟨i, rfl⟩ := hrow
    simp

/-- the draws added by `noise`, objective by objective (the statement of the docstring) -/
theorem noiseGo_spec (l : List (ℝ × Bool)) (tape out rest : List ℝ) (h : noiseGo l tape = some (out, rest)) :
    ∃ used, tape = used ++ rest ∧ used.length = l.countP (·.2) ∧ out.length = l.length ∧
      ∀ i r b, l[i]? = some (r, b) →
        (b = false → out[i]? = some r) ∧
        (b = true → ∃ d, used[(l.take i).countP (·.2)]? = some d ∧ out[i]? = some (r + d)) := by
  induction l generalizing tape out rest with
  | nil =>
    simp only [noiseGo, Option.some.injEq, Prod.mk.injEq] at h
    exact ⟨[], by simp [h.2], by simp, by simp [← h.1], by simp⟩
  | cons p t ih =>
    obtain ⟨r0, b0⟩ := p
    cases b0 with
    | false =>
      simp only [noiseGo, Option.map_eq_some_iff] at h
      obtain ⟨⟨o1, r1⟩, h1, h2⟩ := h
      simp only [Prod.mk.injEq] at h2
      obtain ⟨used, e1, e2, e3, e4⟩ := ih _ _ _ h1
      refine ⟨used, by rw [e1, h2.2], by simpa using e2, by simp [← h2.1, e3], ?_⟩
      intro i r b hi
      cases i with
      | zero =>
        obtain ⟨rfl, rfl⟩ := hi
        simp [← h2.1]
      | succ j =>
        have := e4 j r b hi
        simpa only [← h2.1, List.getElem?_cons_succ, List.take_succ_cons, Bool.false_eq_true, not_false_eq_true,
          List.countP_cons_of_neg] using this
    | true =>
      cases tape with
      | nil => simp [noiseGo] at h
      | cons d tp =>
        simp only [noiseGo, Option.map_eq_some_iff] at h
        obtain ⟨⟨o1, r1⟩, h1, h2⟩ := h
        simp only [Prod.mk.injEq] at h2
        obtain ⟨used, e1, e2, e3, e4⟩ := ih _ _ _ h1
        refine ⟨d :: used, by rw [e1, h2.2]; rfl, by simp [e2], by simp [← h2.1, e3], ?_⟩
        intro i r b hi
        cases i with
        | zero =>
          obtain ⟨rfl, rfl⟩ := hi
          simp [← h2.1]
        | succ j =>
          have := e4 j r b hi
          simpa only [← h2.1, RealLike.real_add, List.getElem?_cons_succ, List.take_succ_cons,
            List.countP_cons_of_pos] using this

theorem getLast?_cons_of_some {β : Type} {a y : β} : ∀ {l : List β}, l.getLast? = some y → (a :: l).getLast? = some y
  | [], h => nomatch h
  | _ :: _, h => (List.getLast?_cons_cons).trans h

theorem runHist_calls {P S X Y : Type} (install : P → Option S) (apply : S → X → Option Y) (s : S)
    (xs : List X) (x : X) (outs : List Y)
    (h : runHist install apply s (xs.map HOp.call ++ [HOp.call x]) = some outs) :
    ∃ y, apply s x = some y ∧ outs.getLast? = some y := by
  induction xs generalizing outs with
  | nil =>
    simp only [List.map_nil, List.nil_append, runHist] at h
    split at h; · cases h
    next y hy => cases h; exact ⟨y, hy, rfl⟩
  | cons x0 t ih =>
    simp only [List.map_cons, List.cons_append, runHist] at h
    split at h; · cases h
    split at h; · cases h
    next ys hys =>
    cases h
    obtain ⟨y, e1, e2⟩ := ih ys hys
    exact ⟨y, e1, getLast?_cons_of_some e2⟩

/-- after `set p` (whatever happened before) and any number of evaluations, an evaluation of `x` hands
the wrapped function `apply (install p) x`: the parameter installed LAST is the one in force -/
theorem runHist_last_set {P S X Y : Type} (install : P → Option S) (apply : S → X → Option Y) (s0 : S)
    (pre : List (HOp P X)) (p : P) (xs : List X) (x : X) (outs : List Y)
    (h : runHist install apply s0 (pre ++ HOp.set p :: (xs.map HOp.call ++ [HOp.call x])) = some outs) :
    ∃ s y, install p = some s ∧ apply s x = some y ∧ outs.getLast? = some y := by
  induction pre generalizing s0 outs with
  | nil =>
    simp only [List.nil_append, runHist] at h
    split at h; · cases h
    next s hs =>
    obtain ⟨y, e1, e2⟩ := runHist_calls install apply s xs x outs h
    exact ⟨s, y, hs, e1, e2⟩
  | cons op rest ih =>
    cases op <;> simp only [List.cons_append, runHist] at h <;> (split at h; · cases h)
    · next s1 _ => exact ih s1 outs h
    · split at h; · cases h
      next ys hys =>
      cases h
      obtain ⟨s, y, e1, e2, e3⟩ := ih s0 ys hys
      exact ⟨s, y, e1, e2, getLast?_cons_of_some e3⟩

/-- the parameters of the stack after a history -/
def stackStateAfter {α : Type} [RealLike α] (inv : List (List α) → List (List α)) :
    StackState α → List (HOp (StackParam α) (List α)) → Option (StackState α)
  | st, [] => some st
  | st, .set p :: ops =>
    match stackInstall inv st p with
    | none => none
    | some st' => stackStateAfter inv st' ops
  | st, .call _ :: ops => stackStateAfter inv st ops

theorem stackHist_last {α : Type} [RealLike α] (inv : List (List α) → List (List α)) (st : StackState α)
    (pre : List (HOp (StackParam α) (List α))) (x : List α) (outs : List (List α))
    (h : stackHist inv st (pre ++ [HOp.call x]) = some outs) :
    ∃ st' y, stackStateAfter inv st pre = some st' ∧ stackApply st' x = some y ∧ outs.getLast? = some y := by
  induction pre generalizing st outs with
  | nil =>
    simp only [List.nil_append, stackHist] at h
    split at h; · cases h
    next y hy => cases h; exact ⟨st, y, rfl, hy, rfl⟩
  | cons op rest ih =>
    cases op <;> simp only [List.cons_append, stackHist] at h <;> (split at h; · cases h)
    · next st1 hs1 =>
      obtain ⟨st', y, e1, e2, e3⟩ := ih st1 outs h
      exact ⟨st', y, by simp only [stackStateAfter, hs1, e1], e2, e3⟩
    · split at h; · cases h
      next ys hys =>
      cases h
      obtain ⟨st', y, e1, e2, e3⟩ := ih st ys hys
      exact ⟨st', y, by simp only [stackStateAfter, e1], e2, getLast?_cons_of_some e3⟩

end C20L
