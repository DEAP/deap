import DeapModel.Lemmas.C15HvCGenB3
/-!
C15 — the general case of `hv_recursive` in `_hv.c`, first phase: the reset loop (l.719-722) and the deletion loop
(l.724-744) as runs along the list of the level.
-/
namespace HvC

/-- l.721: `if (pp->ignore < dim) pp->ignore = 0;` -/
def gA_rsStep (k : ℕ) (S : St) (q : ℕ) : St := if ign S q < (k : ℤ) then setIgn S q 0 else S

theorem gA_rsStep_fields (k : ℕ) (S : St) (q : ℕ) :
    (gA_rsStep k S q).next = S.next ∧ (gA_rsStep k S q).prev = S.prev ∧ (gA_rsStep k S q).area = S.area ∧
    (gA_rsStep k S q).vol = S.vol ∧ (gA_rsStep k S q).bound = S.bound ∧ (gA_rsStep k S q).domr = S.domr ∧
    (gA_rsStep k S q).tree = S.tree ∧ (gA_rsStep k S q).calls = S.calls ∧
    (gA_rsStep k S q).ignore.length = S.ignore.length := by
  unfold gA_rsStep
  split
  · refine ⟨rfl, rfl, rfl, rfl, rfl, rfl, rfl, rfl, ?_⟩
    show (S.ignore.set q 0).length = _
    rw [List.length_set]
  · exact ⟨rfl, rfl, rfl, rfl, rfl, rfl, rfl, rfl, rfl⟩

theorem gA_rsStep_ign_ne (k : ℕ) (S : St) (q y : ℕ) (h : y ≠ q) : ign (gA_rsStep k S q) y = ign S y := by
  unfold gA_rsStep
  split
  · exact ign_setIgn_ne S q y 0 h
  · rfl

theorem gA_rsStep_ign_self (k : ℕ) (S : St) (q : ℕ) (h : q < S.ignore.length) :
    (ign S q < (k : ℤ) → ign (gA_rsStep k S q) q = 0) ∧ ((k : ℤ) ≤ ign S q → ign (gA_rsStep k S q) q = ign S q) := by
  unfold gA_rsStep
  constructor
  · intro hlt; rw [if_pos hlt]; exact ign_setIgn_self S q 0 h
  · intro hge; rw [if_neg (by omega)]

theorem gA_resetLoop_succ (k f q : ℕ) (S : St) (hq : q ≠ 0) :
    resetLoop k (f + 1) q S = resetLoop k f (pv (gA_rsStep k S q) k q) (gA_rsStep k S q) := by
  show (if q = 0 then some S else _) = _
  rw [if_neg hq]
  rfl

theorem gA_resetLoop_zero (k f : ℕ) (S : St) : resetLoop k f 0 S = some S := by
  cases f <;> simp [resetLoop]

theorem resetLoopC : ResetLoopC_Statement := by
  intro d n k l
  induction l using List.reverseRecOn with
  | nil =>
    intro q S fuel hs hf hS hlen hnd hr
    obtain ⟨f, rfl, hf'⟩ := HvSweep.exists_fuel_succ hf
    have hq := hr q (by simp)
    obtain ⟨f1, f2, f3, f4, f5, f6, f7, f8, f9⟩ := gA_rsStep_fields k S q
    have hpv : pv (gA_rsStep k S q) k q = 0 := by
      have : pv S k q = 0 := hs.2
      unfold pv at this ⊢
      rw [f2]; exact this
    rw [gA_resetLoop_succ k f q S hq.1, hpv, gA_resetLoop_zero]
    refine ⟨_, rfl, f1, f2, f3, f4, f5, f6, f7, f8, by rw [f9]; exact hlen, ?_, ?_⟩
    · intro y hy
      exact gA_rsStep_ign_ne k S q y (fun e => hy (by simp [e]))
    · intro y hy
      have hyq : y = q := by simpa using hy
      subst hyq
      exact gA_rsStep_ign_self k S y (by rw [hlen]; omega)
  | append_singleton l b ih =>
    intro q S fuel hs hf hS hlen hnd hr
    obtain ⟨f, rfl, hf'⟩ := HvSweep.exists_fuel_succ hf
    have hs' := (HvSweep.seg_append (toSw S) k l 0 b [] q).mp hs
    have hq := hr q (by simp)
    have hnd' := List.nodup_cons.mp hnd
    have hmem : ∀ y, y ∈ l ++ [b] ↔ y ∈ b :: l := fun y => (List.perm_append_singleton b l).mem_iff
    obtain ⟨f1, f2, f3, f4, f5, f6, f7, f8, f9⟩ := gA_rsStep_fields k S q
    set S1 := gA_rsStep k S q with hS1
    have htoSw : toSw S1 = toSw S := by unfold toSw; rw [f1, f2]
    have hpv : pv S1 k q = b := by
      have : pv S k q = b := hs'.2.2
      unfold pv at this ⊢
      rw [f2]; exact this
    rw [gA_resetLoop_succ k f q S hq.1, ← hS1, hpv]
    have hsh1 : ShapeC d n S1 := shapeC_of_fields hS f1 f2
    obtain ⟨S', h1, g1, g2, g3, g4, g5, g6, g7, g8, g9, g10, g11⟩ := ih b S1 f (by rw [htoSw]; exact hs'.1)
      (by rwa [List.length_append, List.length_singleton] at hf') hsh1 (by rw [f9]; exact hlen) ((List.perm_append_singleton b l).nodup_iff.mp hnd'.2)
      (fun a ha => hr a (List.mem_cons_of_mem _ ((hmem a).mpr ha)))
    refine ⟨S', h1, g1.trans f1, g2.trans f2, g3.trans f3, g4.trans f4, g5.trans f5, g6.trans f6, g7.trans f7,
      g8.trans f8, g9, ?_, ?_⟩
    · intro y hy
      rw [List.mem_cons, hmem, not_or] at hy
      rw [g10 y hy.2, hS1, gA_rsStep_ign_ne k S q y hy.1]
    · intro y hy
      rw [List.mem_cons, hmem] at hy
      rcases hy with rfl | hybl
      · rw [g10 y (fun h => hnd'.1 ((hmem y).mpr h)), hS1]
        exact gA_rsStep_ign_self k S y (by rw [hlen]; omega)
      · have hyq : y ≠ q := fun e => hnd'.1 (e ▸ (hmem y).mpr hybl)
        have := g11 y hybl
        rw [hS1, gA_rsStep_ign_ne k S q y hyq] at this
        exact this

theorem gA_delSeq_cons (C : Cargo) (dim : ℕ) (S : St) (x : ℕ) (rs : List ℕ) :
    delSeq C dim S (x :: rs) = delSeq C dim (delStep C dim S x) rs := rfl

theorem gA_delSeq_frame (C : Cargo) (dim : ℕ) : ∀ (rs : List ℕ) (S : St),
    gA_Data S (delSeq C dim S rs) ∧ (delSeq C dim S rs).bound.length = S.bound.length ∧
    (∀ j, (j < 2 ∨ dim ≤ j) → (delSeq C dim S rs).bound.getD j none = S.bound.getD j none) ∧
    ∀ j, (j < 2 ∨ dim ≤ j) → ∀ a, nx (delSeq C dim S rs) j a = nx S j a ∧ pv (delSeq C dim S rs) j a = pv S j a
  | [], S => ⟨gA_Data.refl S, rfl, fun _ _ => rfl, fun _ _ _ => ⟨rfl, rfl⟩⟩
  | x :: rs, S => by
    obtain ⟨h1, h2, h3, h4⟩ := gA_delSeq_frame C dim rs (delStep C dim S x)
    obtain ⟨e1, e2, e3, e4⟩ := gA_delStep_frame C dim S x
    rw [gA_delSeq_cons]
    exact ⟨e1.trans h1, h2.trans e2, fun j hj => (h3 j hj).trans (e3 j hj),
      fun j hj a => ⟨(h4 j hj a).1.trans (e4 j hj a).1, (h4 j hj a).2.trans (e4 j hj a).2⟩⟩

theorem deleteLoopC : DeleteLoopC_Statement := fun C k len pre q suf p S hl hs =>
  HvSweep.delLoop_stop toSw k (cg C · k) (·.bound.getD k none)
    (fun S q => gtBound S k (cg C q k) || geBound S k (cg C (pv S k q) k)) (delStep C k)
    (deleteLoop C k) (fun _ _ _ => rfl) (fun _ _ _ _ => rfl)
    (fun S q a => (gA_delStep_frame C k S q).2.2.2 k (Or.inr le_rfl) a)
    (fun S q => (gA_delStep_frame C k S q).2.2.1 k (Or.inr le_rfl)) (fun _ _ h => HvSweep.stop_of_cond_false _ _ _ h)
    len pre q suf p S hl hs

end HvC
