/-
C13 helper lemmas: the `eigh` contract is satisfiable for every dimension (Mathlib spectral theorem).
-/
import DeapModel.Lemmas.C13Eig
import Mathlib.Analysis.Matrix.Spectrum

open Cma Matrix

namespace C13L

/-- the leading `n × n` block of a list-of-rows matrix as a Mathlib matrix -/
noncomputable def toMat (n : Nat) (C : List (List ℝ)) : Matrix (Fin n) (Fin n) ℝ := fun a b => mget C a.val b.val

/-- an `eigh` built from Mathlib's spectral theorem (noncomputable; only shows the contract is satisfiable) -/
noncomputable def eighSpectral (n : Nat) (C : List (List ℝ)) : List ℝ × List (List ℝ) :=
  if h : (toMat n C).IsHermitian then
    (tab n (fun i => if hi : i < n then h.eigenvalues ⟨i, hi⟩ else 0),
     tab2 n n (fun a k => if ha : a < n then (if hk : k < n then
        (h.eigenvectorUnitary : Matrix (Fin n) (Fin n) ℝ) ⟨a, ha⟩ ⟨k, hk⟩ else 0) else 0))
  else ([], [])

theorem eighSpectral_contract (n : Nat) (C : List (List ℝ))
    (hsym : ∀ a b : Fin n, mget C a.val b.val = mget C b.val a.val) :
    EighContract n C (eighSpectral n C).1 (eighSpectral n C).2 := by
  have h : (toMat n C).IsHermitian := by
    ext a b
    simp only [conjTranspose_apply, toMat, star_trivial]
    exact hsym b a
  have hw : ∀ k : Fin n, vget (eighSpectral n C).1 k.val = h.eigenvalues k := by
    intro k; simp only [eighSpectral, dif_pos h, vget_tab_fin, k.isLt, dif_pos]
  have hV : ∀ a k : Fin n, mget (eighSpectral n C).2 a.val k.val
      = (h.eigenvectorUnitary : Matrix (Fin n) (Fin n) ℝ) a k := by
    intro a k; simp only [eighSpectral, dif_pos h, mget_tab2_fin, a.isLt, k.isLt, dif_pos]
  set U : Matrix (Fin n) (Fin n) ℝ := (h.eigenvectorUnitary : Matrix (Fin n) (Fin n) ℝ)
  have hUU : star U * U = 1 := (Matrix.mem_unitaryGroup_iff').mp h.eigenvectorUnitary.2
  refine ⟨?_, ?_⟩
  · intro k l
    simp only [hV]
    have := congrFun (congrFun hUU k) l
    simp only [Matrix.mul_apply, Matrix.star_apply, star_trivial, Matrix.one_apply] at this
    exact this
  · intro a b
    simp only [hV, hw]
    have hs := h.spectral_theorem
    rw [Unitary.conjStarAlgAut_apply] at hs
    have := congrFun (congrFun hs a) b
    rw [Matrix.mul_apply] at this
    simp only [Matrix.mul_diagonal, Matrix.star_apply, star_trivial, Function.comp_apply,
      RCLike.ofReal_real_eq_id, id_eq] at this
    exact this

end C13L
