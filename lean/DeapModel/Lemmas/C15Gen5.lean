import DeapModel.Lemmas.C15Gen4
/-!
C15 — the reinsertion loop of the general case (level `j + 1 ≥ 2`) with its full invariant.
-/
namespace HvSweep

/-- the invariant of the reinsertion loop of level `j + 1`: the nodes `d0 ++ [q]` of the list of the level are
present in the lists below, `todo` are still to be reinserted, `S₁` is the state before the removals -/
structure LInv (C : Cargo) (dims n : ℕ) (O : ℕ → List ℕ) (pt : ℕ → List ℚ) (ref : List ℚ) (j : ℕ) (A : List ℕ)
    (S₁ T : St) (d0 : List ℕ) (q : ℕ) (todo : List ℕ) (hvol : ℚ) : Prop where
  split : RL O (j + 1) A = d0 ++ q :: todo
  ptr : PtrEq (removeSeq C (j + 1) S₁ todo.reverse) T
  shape : Shape dims n T
  tshape : TShape dims n T
  cv : CV C ref pt O T (j + 1) (d0 ++ [q])
  ig : IG C O T (d0 ++ [q])
  absent : ∀ y ∈ todo, ign T y = 0 ∨ (j + 1 ≤ ign T y ∧ ∃ b ∈ A, Dom C O (ign T y) b y)
  cache : ∀ a ∈ d0 ++ [q], ar T a (j + 1) = ARv ref pt O j A a ∧ vl T a (j + 1) = VOLv C ref pt O j A a
  hvol : hvol = VOLv C ref pt O j A q
  f_ign : ∀ y, y ∉ A → y ≠ 0 → ign T y = ign S₁ y
  f_hi : ∀ a i, j + 1 < i → ar T a i = ar S₁ a i ∧ vl T a i = vl S₁ a i
  f_bhi : ∀ i, j + 1 < i → T.bounds.getD i none = S₁.bounds.getD i none

section ctx
variable {C : Cargo} {dims n : ℕ} {O : ℕ → List ℕ} {pt : ℕ → List ℚ} {ref : List ℚ}

theorem wflt_of_lists (g : GCtx C dims n O pt ref) {S : St} {k : ℕ} {A : List ℕ} (hk : k ≤ dims) (hnd : A.Nodup)
    (hA : ∀ a ∈ A, a ∈ ids n) (h : ∀ i < k, DL n S i (RL O i A)) : WFlt n S k A :=
  fun i hi => ⟨RL O i A, h i hi, RL_perm g (by omega) A hnd hA⟩

/-- **what one iteration of the reinsertion loop may do**: from a state `T` in which the nodes of `pre` have their
caches of the level and the nodes of `todo` their marks, a step to `T'` that puts `p` back (`ptr`, `inv`), leaves the
marks outside `pre ++ [p]`, the caches above level `j` other than `area[p][j+1]`, `volume[p][j+1]` and the bounds above
the level alone, and gives these two the ideal values, establishes the loop invariant for `pre`, `p`, `todo` -/
theorem linv_close (g : GCtx C dims n O pt ref) {j : ℕ} (hj : j + 1 < dims) {A : List ℕ} (hA : ∀ a ∈ A, a ∈ ids n)
    {S₁ T T' : St} {pre : List ℕ} {p : ℕ} {todo : List ℕ} {hv : ℚ} (split : RL O (j + 1) A = pre ++ p :: todo)
    (absent : ∀ y ∈ todo, ign T y = 0 ∨ (j + 1 ≤ ign T y ∧ ∃ b ∈ A, Dom C O (ign T y) b y))
    (cache : ∀ a ∈ pre, ar T a (j + 1) = ARv ref pt O j A a ∧ vl T a (j + 1) = VOLv C ref pt O j A a)
    (f_ign : ∀ y, y ∉ A → y ≠ 0 → ign T y = ign S₁ y)
    (f_hi : ∀ a i, j + 1 < i → ar T a i = ar S₁ a i ∧ vl T a i = vl S₁ a i)
    (f_bhi : ∀ i, j + 1 < i → T.bounds.getD i none = S₁.bounds.getD i none)
    (ptr : PtrEq (removeSeq C (j + 1) S₁ todo.reverse) T') (inv : Inv C dims n O pt ref T' j (pre ++ [p]))
    (hign : ∀ y, y ∉ pre ++ [p] → y ≠ 0 → ign T' y = ign T y)
    (har : ∀ a i, j < i → (a ≠ p ∨ i ≠ j + 1) → ar T' a i = ar T a i)
    (hvl : ∀ a i, j < i → (a ≠ p ∨ i ≠ j + 1) → vl T' a i = vl T a i)
    (hbd : ∀ i, j + 1 < i → T'.bounds.getD i none = T.bounds.getD i none)
    (harp : ar T' p (j + 1) = ARv ref pt O j A p) (hvlp : vl T' p (j + 1) = hv) (hvol : hv = VOLv C ref pt O j A p) :
    LInv C dims n O pt ref j A S₁ T' pre p todo hv := by
  obtain ⟨hnd, _, hB, htodoA⟩ := RL_split g hj hA (pre := pre ++ [p]) (rest := todo) (by rw [split]; simp)
  have hpre_p : ∀ a ∈ pre, a ≠ p := fun a ha e => (List.nodup_append.mp hnd).2.2 a ha p (by simp) e
  exact
    { split := split
      ptr := ptr
      shape := inv.shape
      tshape := inv.tshape
      cv := inv.cv
      ig := inv.ig
      absent := fun y hy => by
        rw [hign y (fun h => ((hB y).mp h).2 hy) (Nat.ne_of_gt ((mem_ids n y).mp (hA y (htodoA y hy))).1)]
        exact absent y hy
      cache := fun a ha => by
        rcases List.mem_append.mp ha with h | h
        · rw [har a (j + 1) (Nat.lt_succ_self j) (Or.inl (hpre_p a h)),
            hvl a (j + 1) (Nat.lt_succ_self j) (Or.inl (hpre_p a h))]
          exact cache a h
        · rw [List.mem_singleton.mp h]
          exact ⟨harp, hvlp.trans hvol⟩
      hvol := hvol
      f_ign := fun y hyA hy0 => (hign y (fun h => hyA ((hB y).mp h).1) hy0).trans (f_ign y hyA hy0)
      f_hi := fun a i hi => by
        rw [har a i (Nat.lt_of_succ_lt hi) (Or.inr (Nat.ne_of_gt hi)), hvl a i (Nat.lt_of_succ_lt hi) (Or.inr (Nat.ne_of_gt hi))]
        exact f_hi a i hi
      f_bhi := fun i hi => (hbd i hi).trans (f_bhi i hi) }

theorem linv_step (g : GCtx C dims n O pt ref) (j : ℕ) (hj1 : 1 ≤ j) (hj : j + 1 < dims) (F : ℕ)
    (hrec : LevelOK C dims n O pt ref F j) (A : List ℕ) (hAnd : A.Nodup) (hA : ∀ a ∈ A, a ∈ ids n)
    (S₁ : St) (hS₁ : Shape dims n S₁) (hlists : ∀ i ≤ j + 1, DL n S₁ i (RL O i A))
    (T : St) (d0 : List ℕ) (q p : ℕ) (todo : List ℕ) (hvol : ℚ)
    (I : LInv C dims n O pt ref j A S₁ T d0 q (p :: todo) hvol) :
    ∃ T5, areaStep (hvRecursive C F j) (j + 1) ((d0 ++ [q]).length + 1) p
        (setVl (reinsert C (setBound T (j + 1) (cg C p (j + 1))) p (j + 1)) p (j + 1)
          (hvol + ar T q (j + 1) * (cg C p (j + 1) - cg C q (j + 1)))) = some T5 ∧
      LInv C dims n O pt ref j A S₁ T5 (d0 ++ [q]) p todo
        (hvol + ar T q (j + 1) * (cg C p (j + 1) - cg C q (j + 1))) ∧
      nx (reinsert C (setBound T (j + 1) (cg C p (j + 1))) p (j + 1)) (j + 1) p = (todo ++ [0]).headD 0 := by
  have hjd : j + 1 ≤ dims := hj.le
  have hsplit : RL O (j + 1) A = (d0 ++ [q]) ++ p :: todo := by rw [I.split]; simp
  obtain ⟨_, hnd_pt, _, hptA⟩ := RL_split g hj hA hsplit
  obtain ⟨hBnd, htodo_nd, hB, _⟩ := RL_split g hj hA (pre := d0 ++ [q] ++ [p]) (rest := todo) (by rw [hsplit]; simp)
  have hpA : p ∈ A := hptA p List.mem_cons_self
  have hpn : p ≤ n := ((mem_ids n p).mp (hA p hpA)).2
  have hBsub : ∀ a ∈ d0 ++ [q] ++ [p], a ∈ ids n := fun a ha => hA a ((hB a).mp ha).1
  have hBr : ∀ a, a ∈ d0 ++ [q] ++ [p] ↔ a ∈ A ∧ a ∉ todo.reverse := fun a => by rw [hB a, List.mem_reverse]
  have hrs_nd : todo.reverse.Nodup := List.nodup_reverse.mpr htodo_nd
  have hrsA : ∀ y ∈ todo.reverse, y ∈ A := fun y hy => hptA y (List.mem_cons_of_mem _ (List.mem_reverse.mp hy))
  -- the pointers: reinserting `p` undoes its removal; the list of the level itself was never touched
  have hw := wflt_of_lists g hjd hAnd hA (fun i hi => hlists i hi.le)
  obtain ⟨hback, hT2s⟩ := reinsert_back C hjd hS₁ hw p todo hnd_pt hptA (T := setBound T (j + 1) (cg C p (j + 1)))
    I.shape (I.ptr.trans (fun _ _ => ⟨rfl, rfl⟩))
  have hbf := reinsert_bframe C p (j + 1) (setBound T (j + 1) (cg C p (j + 1)))
  generalize hT2 : reinsert C (setBound T (j + 1) (cg C p (j + 1))) p (j + 1) = T2 at hback hT2s hbf ⊢
  generalize hhv1 : hvol + ar T q (j + 1) * (cg C p (j + 1) - cg C q (j + 1)) = hvol1
  have hpe3 : PtrEq (removeSeq C (j + 1) S₁ todo.reverse) (setVl T2 p (j + 1) hvol1) :=
    hback.trans (fun _ _ => ⟨rfl, rfl⟩)
  have hlvl : DimEq (j + 1) S₁ T2 :=
    (removeSeq_ge C (j + 1) todo.reverse S₁ (j + 1) (le_refl _)).trans (hback.dim (j + 1))
  have hnode := seg_node S₁ (j + 1) (d0 ++ [q]) 0 p todo 0 (hsplit ▸ (hlists (j + 1) (le_refl _)).1)
  have hnext : nx T2 (j + 1) p = (todo ++ [0]).headD 0 := by
    rw [(hlvl p).1, hnode.2.1]; cases todo <;> rfl
  have hpvp : pv (setVl T2 p (j + 1) hvol1) (j + 1) p = q := by
    show pv T2 (j + 1) p = q
    rw [(hlvl p).2, hnode.1]; simp
  have hT2t : TShape dims n T2 := tshape_of_fields (S := T) I.tshape hbf.area hbf.volume hbf.ignore
  have hign3 : ∀ y, ign (setVl T2 p (j + 1) hvol1) y = ign T y := fun y => ign_of_ignore hbf.ignore y
  have hmark : ign (setVl T2 p (j + 1) hvol1) p = 0 ∨
      (j + 1 ≤ ign (setVl T2 p (j + 1) hvol1) p ∧ ∃ b ∈ A, Dom C O (ign (setVl T2 p (j + 1) hvol1) p) b p) := by
    rw [hign3 p]; exact I.absent p List.mem_cons_self
  -- the invariant of the level below for the nodes now present
  have inv2 : Inv C dims n O pt ref T2 j (d0 ++ [q] ++ [p]) :=
    { shape := hT2s
      tshape := hT2t
      nodup := hBnd
      sub := hBsub
      lists := fun i hi => by
        have hd := removeSeq_dl C hjd (Nat.lt_succ_of_le hi) todo.reverse S₁ A (RL O i A) hS₁ hw
          (hlists i (Nat.le_succ_of_le hi)) hrs_nd hrsA
        rw [RL_diff g (lt_of_le_of_lt hi (lt_trans (Nat.lt_succ_self j) hj)) A (d0 ++ [q] ++ [p]) todo.reverse hBr] at hd
        exact dl_ptrEq hback hd
      cv := by
        have c1 : CV C ref pt O (setBound T (j + 1) (cg C p (j + 1))) (j + 1) (d0 ++ [q]) :=
          cv_frame (S := T) (fun _ _ _ => rfl) (fun _ _ _ => rfl)
            (fun i hi => List.getD_set_ne T.bounds _ _ (Nat.ne_of_lt hi)) I.cv
        exact cv_change g (le_refl _) hjd hbf (hA p hpA) hBsub (fun a hap => by simp [hap]) c1
      ig := by
        apply ig_mono (A := d0 ++ [q]) (fun a ha => List.mem_append_left _ ha)
          (ig_frame (S := T) (fun a _ => hign3 a) I.ig)
        intro y hy hynot hm
        obtain rfl : y = p := by
          rcases List.mem_append.mp hy with h | h
          · exact absurd h hynot
          · simpa using h
        rcases hmark with h0 | ⟨hge, b, hbA, hdom⟩
        · rw [h0] at hm; exact absurd hm (by decide)
        · -- the witness precedes `y` in the order of the level, so it is present
          exact ⟨b, mem_pre_of_pos_lt g hj hA (pre := d0 ++ [q] ++ [y]) (rest := todo) (by rw [hsplit]; simp)
            (by simp) hbA (hdom.2.2 (j + 1) (Nat.le_add_left 1 j) hge), hdom⟩ }
  have inv3 := inv_setVl inv2 p (j + 1) (Nat.lt_succ_self j) hvol1
  have hq3 : ar (setVl T2 p (j + 1) hvol1) q (j + 1) = ARv ref pt O j A q :=
    (ar_of_area hbf.area q (j + 1)).trans (I.cache q (by simp)).1
  obtain ⟨T5, hstep, hpe5, inv5, har5, fign5, far5, fvl5, fb5⟩ :=
    area_step_ok g j hj1 hj F hrec A hA d0 q p todo I.split _ inv3 hpvp hq3 hmark
  rw [show (d0 ++ [q] ++ [p]).length = (d0 ++ [q]).length + 1 by simp] at hstep
  refine ⟨T5, hstep, ?_, hnext⟩
  have hvol1_eq : hvol1 = VOLv C ref pt O j A p := by
    rw [← hhv1, I.hvol, (I.cache q (by simp)).1]
    exact (caches_step g j hj A hA d0 todo q p I.split).symm
  exact linv_close g hj hA hsplit (fun y hy => I.absent y (List.mem_cons_of_mem _ hy)) I.cache I.f_ign I.f_hi I.f_bhi
    (hpe3.trans hpe5) inv5 (fun y hy hy0 => (fign5 y hy hy0).trans (hign3 y))
    (fun a i hi hne => (far5 a i hi hne).trans (ar_of_area hbf.area a i))
    (fun a i hi hne => (fvl5 a i hi).trans ((vl_setVl_ne T2 p (j + 1) a i _ hne).trans (vl_of_volume hbf.volume a i)))
    (fun i hi => (fb5 i (Nat.lt_of_succ_lt hi)).trans
      ((hbf.bounds_ge i hi.le).trans (List.getD_set_ne T.bounds _ _ (Nat.ne_of_gt hi))))
    har5 ((fvl5 p (j + 1) (Nat.lt_succ_self j)).trans (vl_setVl_self' hT2t hpn hj _)) hvol1_eq

/-- **the reinsertion loop** re-establishes the invariant for the whole list -/
theorem loop3_ok (g : GCtx C dims n O pt ref) (j : ℕ) (hj1 : 1 ≤ j) (hj : j + 1 < dims) (F : ℕ)
    (hrec : LevelOK C dims n O pt ref F j) (A : List ℕ) (hAnd : A.Nodup) (hA : ∀ a ∈ A, a ∈ ids n)
    (S₁ : St) (hS₁ : Shape dims n S₁) (hlists : ∀ i ≤ j + 1, DL n S₁ i (RL O i A)) :
    ∀ (todo d0 : List ℕ) (q : ℕ) (hvol : ℚ) (T : St) (fl : ℕ),
      LInv C dims n O pt ref j A S₁ T d0 q todo hvol → todo.length ≤ fl →
      ∃ q' hv' T' d0', reinsLoop (hvRecursive C F j) C (j + 1) fl ((todo ++ [0]).headD 0) q hvol (d0 ++ [q]).length T
          = some (q', hv', T') ∧ LInv C dims n O pt ref j A S₁ T' d0' q' [] hv' := by
  intro todo
  induction todo with
  | nil =>
    intro d0 q hvol T fl I _
    refine ⟨q, hvol, T, d0, ?_, I⟩
    cases fl <;> simp [reinsLoop]
  | cons p todo ih =>
    intro d0 q hvol T fl I hfl
    obtain ⟨f, rfl, hf'⟩ := exists_fuel_succ hfl
    have hpL : p ∈ RL O (j + 1) A := by rw [I.split]; simp
    have hp0 : p ≠ 0 := by
      have := ((mem_ids n p).mp (hA p ((mem_RL O (j + 1) A p).mp hpL).2)).1; omega
    obtain ⟨T5, hstep, I5, hnext⟩ := linv_step g j hj1 hj F hrec A hAnd hA S₁ hS₁ hlists T d0 q p todo hvol I
    have hhead : ((p :: todo) ++ [0]).headD 0 = p := rfl
    rw [hhead]
    unfold reinsLoop
    rw [if_neg hp0]
    dsimp only
    rw [hstep]
    rw [hnext]
    have hlen : (d0 ++ [q]).length + 1 = ((d0 ++ [q]) ++ [p]).length := by simp
    rw [hlen]
    exact ih (d0 ++ [q]) p _ T5 f I5 hf'

end ctx

end HvSweep
