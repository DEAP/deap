/-
Laws of `Core/Py.lean`, core Lean only (the translator-tie module `C01Gen` imports this): `Py.slice`.  The laws of the tuple
comparison need `List`'s linear order and are in `Props/C01.lean` (`C01.tupleLt_iff_lt`, `C01.tupleLe_eq_not_lt`); `bisectRight`
against the binary search is `C04L.bisectRight_spec`.
-/
import DeapModel.Core.Py

namespace Py

section Slice
variable {γ δ : Type}

theorem mem_slice (idx : List Nat) (l : List γ) (p : γ) :
    p ∈ slice idx l ↔ ∃ i ∈ idx, l[i]? = some p := List.mem_filterMap

/-- `seq[:]`: with every index of the sequence the slice is the sequence -/
theorem slice_range (l : List γ) : slice (List.range l.length) l = l := by
  induction l with
  | nil => rfl
  | cons a t ih =>
    simp only [slice] at ih ⊢
    rw [List.length_cons, List.range_succ_eq_map, List.filterMap_cons]
    simp only [List.getElem?_cons_zero, List.filterMap_map]
    congr 1

theorem slice_map (f : γ → δ) (idx : List Nat) (l : List γ) :
    slice idx (l.map f) = (slice idx l).map f := by
  simp only [slice, List.map_filterMap, List.getElem?_map]

theorem zip_slice (idx : List Nat) (a : List γ) (b : List δ) (h : a.length = b.length) :
    (slice idx a).zip (slice idx b) = slice idx (a.zip b) := by
  induction idx with
  | nil => rfl
  | cons i is ih =>
    simp only [slice, List.filterMap_cons] at ih ⊢
    by_cases hi : i < a.length
    · simp only [hi, h ▸ hi, getElem?_pos, List.zip_cons_cons, ih, List.length_zip, Nat.lt_min, and_self, List.getElem_zip]
    · simp only [hi, h ▸ hi, getElem?_neg, ih, List.length_zip, Nat.lt_min, and_self, not_false_eq_true]

end Slice

end Py
