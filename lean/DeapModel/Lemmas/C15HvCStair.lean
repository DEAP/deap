import DeapModel.Lemmas.C15HvCBase
/-!
C15 — the 2-D staircase kept in the AVL tree by the 3-D base case of `_hv.c` (`dim == 2`): the list operations of the
abstract ordered sequence `St.tree`; its area as a sum of horizontal strips and the update formula of l.955-982 (remove
the points dominated by the new one, add one rectangle); what the answer of `avl_search_closest` is used for
(`Admissible`, `link_spec`: only the position it denotes) and the position of a new point in the staircase (`Pos`);
`hgt` / `zOf` / `PtrFrame`, in which the statements about the main loop (`C15HvCRe0`, `C15HvCReA1`) are written.
-/
namespace HvC
open Hypervolume

theorem listPrev_absent (a : ℕ) : ∀ (l : List ℕ), a ∉ l.tail → listPrev l a = 0
  | [], _ => rfl
  | [_], _ => rfl
  | x :: y :: l, h => by
    have hy : y ≠ a := fun e => h (by simp [e])
    simp only [listPrev, if_neg hy]
    exact listPrev_absent a (y :: l) (fun hm => h (by simp at hm ⊢; exact Or.inr hm))

theorem listPrev_mid (a : ℕ) (X : List ℕ) (hX : a ∉ X) : ∀ (A : List ℕ), a ∉ A →
    listPrev (A ++ a :: X) a = (A.getLast?).getD 0
  | [], _ => by
    simp only [List.nil_append, List.getLast?_nil, Option.getD_none]
    exact listPrev_absent a (a :: X) (by simpa using hX)
  | [b], _ => by simp [listPrev]
  | b :: c :: A, h => by
    have hca : c ≠ a := fun e => h (by simp [e])
    have ih := listPrev_mid a X hX (c :: A) (fun hm => h (List.mem_cons_of_mem _ hm))
    simp only [List.cons_append, listPrev, if_neg hca]
    simp only [List.cons_append] at ih
    rw [ih, List.getLast?_cons_cons]

theorem listNext_mid (a : ℕ) (X : List ℕ) : ∀ (A : List ℕ), a ∉ A →
    listNext (A ++ a :: X) a = (X.head?).getD 0
  | [], _ => by
    cases X with
    | nil => rfl
    | cons y Y => simp [listNext]
  | b :: A, h => by
    have hba : b ≠ a := fun e => h (by simp [e])
    have ih := listNext_mid a X A (fun hm => h (List.mem_cons_of_mem _ hm))
    cases hA : A ++ a :: X with
    | nil => simp at hA
    | cons z rest =>
      rw [hA] at ih
      simp only [List.cons_append, hA, listNext, if_neg hba]
      exact ih

theorem erase_mid (a : ℕ) (A X : List ℕ) (h : a ∉ A) : (A ++ a :: X).erase a = A ++ X := by
  rw [List.erase_append_right _ h, List.erase_cons_head]

theorem mem_insert_mid {t p : ℕ} {A B : List ℕ} : t ∈ A ++ p :: B ↔ t = p ∨ t ∈ A ++ B := by
  simp only [List.mem_append, List.mem_cons]
  exact or_left_comm

theorem length_foldr_set {α : Type} (v : α) (D : List ℕ) (l : List α) :
    (D.foldr (fun t dm => dm.set t v) l).length = l.length := by
  induction D with
  | nil => rfl
  | cons t D ih => rw [List.foldr_cons, List.length_set, ih]

theorem getD_foldr_set_of_not_mem {α : Type} (v d : α) {y : ℕ} {D : List ℕ} (l : List α) (h : y ∉ D) :
    (D.foldr (fun t dm => dm.set t v) l).getD y d = l.getD y d := by
  induction D with
  | nil => rfl
  | cons t D ih =>
    rw [List.foldr_cons, List.getD_set_ne _ _ _ (fun e => h (by simp [e])), ih (fun hm => h (by simp [hm]))]

theorem getD_foldr_set_of_mem {α : Type} (v d : α) {y : ℕ} {D : List ℕ} (l : List α) (h : y ∈ D) (hl : y < l.length) :
    (D.foldr (fun t dm => dm.set t v) l).getD y d = v := by
  induction D with
  | nil => exact absurd h List.not_mem_nil
  | cons t D ih =>
    rw [List.foldr_cons]
    by_cases hy : y = t
    · rw [hy]; exact List.getD_set_self _ _ _ _ (by rw [length_foldr_set, ← hy]; exact hl)
    · rw [List.getD_set_ne _ _ _ hy]; exact ih ((List.mem_cons.mp h).resolve_left hy)


theorem insertBefore_mid (b p : ℕ) (B : List ℕ) : ∀ (A : List ℕ), b ∉ A →
    insertBefore b p (A ++ b :: B) = A ++ p :: b :: B
  | [], _ => by simp [insertBefore]
  | x :: A, h => by
    have hx : x ≠ b := fun e => h (by simp [e])
    simp only [List.cons_append, insertBefore, if_neg hx]
    rw [insertBefore_mid b p B A (fun hm => h (List.mem_cons_of_mem _ hm))]

theorem insertAfter_mid (a p : ℕ) (X : List ℕ) : ∀ (A : List ℕ), a ∉ A →
    insertAfter a p (A ++ a :: X) = A ++ a :: p :: X
  | [], _ => by simp [insertAfter]
  | x :: A, h => by
    have hx : x ≠ a := fun e => h (by simp [e])
    simp only [List.cons_append, insertAfter, if_neg hx]
    rw [insertAfter_mid a p X A (fun hm => h (List.mem_cons_of_mem _ hm))]

theorem suffix_split {α : Type} (P : α → Prop) [DecidablePred P] (l : List α) :
    ∃ A D, l = A ++ D ∧ (∀ e ∈ D, P e) ∧ (∀ A' a, A = A' ++ [a] → ¬ P a) := by
  induction l using List.reverseRecOn with
  | nil => exact ⟨[], [], rfl, by simp, by simp⟩
  | append_singleton l e ih =>
    obtain ⟨A, D, hl, hD, hA⟩ := ih
    by_cases he : P e
    · refine ⟨A, D ++ [e], by rw [hl, List.append_assoc], ?_, hA⟩
      intro x hx
      rcases List.mem_append.mp hx with h | h
      · exact hD x h
      · simp at h; rw [h]; exact he
    · refine ⟨l ++ [e], [], by simp, by simp, ?_⟩
      intro A' a h
      have := List.append_inj' h rfl
      simp at this
      rw [← this.2]; exact he

/-- `Σ (y_prev − y_t)(r − x_t)` over the members, `y_prev` starting at `yp` -/
def hArea (r : ℚ) : ℚ → List (ℚ × ℚ) → ℚ
  | _, [] => 0
  | yp, t :: l => (yp - t.2) * (r - t.1) + hArea r t.2 l

def headX (r : ℚ) (l : List (ℚ × ℚ)) : ℚ := (l.head?.map Prod.fst).getD r
def lastY (yp : ℚ) (l : List (ℚ × ℚ)) : ℚ := (l.getLast?.map Prod.snd).getD yp

@[simp] theorem headX_nil (r : ℚ) : headX r [] = r := rfl
@[simp] theorem headX_cons (r : ℚ) (t : ℚ × ℚ) (l : List (ℚ × ℚ)) : headX r (t :: l) = t.1 := rfl
@[simp] theorem lastY_nil (yp : ℚ) : lastY yp [] = yp := rfl
theorem lastY_cons (yp : ℚ) (t : ℚ × ℚ) (l : List (ℚ × ℚ)) : lastY yp (t :: l) = lastY t.2 l := by
  cases l with
  | nil => rfl
  | cons u l =>
    unfold lastY
    rw [List.getLast?_cons_cons]
    cases h : (u :: l).getLast? with
    | none => simp at h
    | some v => rfl
theorem lastY_append_singleton (yp : ℚ) (l : List (ℚ × ℚ)) (t : ℚ × ℚ) : lastY yp (l ++ [t]) = t.2 := by
  simp [lastY]

theorem hArea_shift (r : ℚ) (y y' : ℚ) : ∀ (l : List (ℚ × ℚ)), hArea r y l = hArea r y' l - (y' - y) * (r - headX r l)
  | [] => by simp [hArea]
  | t :: l => by simp only [hArea, headX_cons]; ring

theorem hArea_append (r : ℚ) : ∀ (A : List (ℚ × ℚ)) (yp : ℚ) (X : List (ℚ × ℚ)),
    hArea r yp (A ++ X) = hArea r yp A + hArea r (lastY yp A) X
  | [], yp, X => by simp [hArea]
  | t :: A, yp, X => by
    simp only [List.cons_append, hArea, lastY_cons]
    rw [hArea_append r A t.2 X]; ring

theorem hArea_snoc (r : ℚ) (yp : ℚ) (l : List (ℚ × ℚ)) (t : ℚ × ℚ) :
    hArea r yp (l ++ [t]) = hArea r yp l + (lastY yp l - t.2) * (r - t.1) := by
  rw [hArea_append]; simp [hArea]

theorem hArea_change_r (r r' : ℚ) : ∀ (l : List (ℚ × ℚ)) (yp : ℚ),
    hArea r' yp l = hArea r yp l - (yp - lastY yp l) * (r - r')
  | [], yp => by simp [hArea]
  | t :: l, yp => by
    simp only [hArea, lastY_cons]
    rw [hArea_change_r r r' l t.2]; ring

/-- a staircase: abscissae strictly ascending, ordinates strictly descending -/
def Stair (T : List (ℚ × ℚ)) : Prop := T.Pairwise (fun a b => a.1 < b.1 ∧ b.2 < a.2)

theorem stair_insert (C : Cargo) {As B : List ℕ} {p : ℕ} (hst : Stair ((As ++ B).map (item C)))
    (hA : ∀ a ∈ As, (item C a).1 < (item C p).1 ∧ (item C p).2 < (item C a).2)
    (hB : ∀ b ∈ B, (item C p).1 < (item C b).1 ∧ (item C b).2 < (item C p).2) : Stair ((As ++ p :: B).map (item C)) := by
  have hpw := List.pairwise_append.mp (List.pairwise_map.mp hst)
  unfold Stair
  rw [List.pairwise_map]
  refine List.pairwise_append.mpr ⟨hpw.1, List.pairwise_cons.mpr ⟨hB, hpw.2.1⟩, fun a ha b hb => ?_⟩
  rcases List.mem_cons.mp hb with rfl | hb
  · exact hA a ha
  · exact hpw.2.2 a ha b hb

theorem cmpNeg_false_iff (p e : ℚ × ℚ) :
    cmpTreeAscNeg p e = false ↔ (p.2 ≤ e.2 ∧ (p.2 = e.2 → p.1 < e.1)) := by
  unfold cmpTreeAscNeg
  rcases lt_trichotomy e.2 p.2 with h | h | h
  · simp [h, not_le.mpr h]
  · simp [h]
  · simp [h, not_lt.mpr h.le, h.le, h.ne]

theorem cmpNeg_true_iff (p e : ℚ × ℚ) :
    cmpTreeAscNeg p e = true ↔ (e.2 < p.2 ∨ (e.2 = p.2 ∧ e.1 ≤ p.1)) := by
  unfold cmpTreeAscNeg
  rcases lt_trichotomy e.2 p.2 with h | h | h
  · simp [h]
  · simp [h]
  · simp [h, not_lt.mpr h.le, h.ne']

/-- what a descent through a search tree over the ordered sequence may answer: whenever the sequence splits into
members that compare `+1` followed by members that compare `-1`, a neighbour of the split position with its side -/
def Admissible (C : Cargo) (search : St → ℚ × ℚ → ℕ × ℤ) : Prop :=
  ∀ (S : St) (it : ℚ × ℚ) (As B : List ℕ), S.tree = As ++ B → S.tree ≠ [] →
    (∀ e ∈ As, cmpTreeAscNeg it (item C e) = false) → (∀ e ∈ B, cmpTreeAscNeg it (item C e) = true) →
    (∃ b B', B = b :: B' ∧ search S it = (b, -1)) ∨ (∃ A' a, As = A' ++ [a] ∧ search S it = (a, 1))

/-- on a staircase the members that compare `+1` with `it` come first -/
theorem stair_split (C : Cargo) (it : ℚ × ℚ) : ∀ (T : List ℕ), Stair (T.map (item C)) →
    ∃ As B, T = As ++ B ∧ (∀ e ∈ As, cmpTreeAscNeg it (item C e) = false) ∧
      (∀ e ∈ B, cmpTreeAscNeg it (item C e) = true)
  | [], _ => ⟨[], [], rfl, by simp, by simp⟩
  | e :: T, hst => by
    have hpw := List.pairwise_cons.mp (List.pairwise_map.mp hst)
    by_cases hc : cmpTreeAscNeg it (item C e) = true
    · refine ⟨[], e :: T, rfl, by simp, fun x hx => ?_⟩
      rcases List.mem_cons.mp hx with rfl | hx
      · exact hc
      · have hlt := (hpw.1 x hx).2
        rw [cmpNeg_true_iff] at hc ⊢
        exact Or.inl (hc.elim (lt_trans hlt) (fun h => h.1 ▸ hlt))
    · obtain ⟨As, B, hT, hA, hB⟩ := stair_split C it T (List.pairwise_map.mpr hpw.2)
      refine ⟨e :: As, B, by rw [hT]; rfl, fun x hx => ?_, hB⟩
      rcases List.mem_cons.mp hx with rfl | hx
      · simpa using hc
      · exact hA x hx

theorem admissible_searchClosest (C : Cargo) : Admissible C (searchClosest C) := by
  intro S it As B hT hne hAs hB
  unfold searchClosest
  rw [hT] at hne ⊢
  clear hT
  induction As with
  | nil =>
    obtain ⟨b, B', rfl⟩ := List.exists_cons_of_ne_nil (by simpa using hne)
    have hb := hB b (by simp)
    refine Or.inl ⟨b, B', rfl, ?_⟩
    cases B' <;> simp [searchList, hb]
  | cons a As ih =>
    have ha := hAs a (by simp)
    cases hrest : As ++ B with
    | nil =>
      refine Or.inr ⟨[], a, by rw [(List.append_eq_nil_iff.mp hrest).1]; rfl, ?_⟩
      rw [List.cons_append, hrest]; simp [searchList, ha]
    | cons x l =>
      have hs : searchList C it (a :: As ++ B) = searchList C it (As ++ B) := by
        rw [List.cons_append, hrest]; simp [searchList, ha]
      rcases ih (by rw [hrest]; simp) (fun e he => hAs e (by simp [he])) with ⟨b, B', hB', hr⟩ | ⟨A', a', hA', hr⟩
      · exact Or.inl ⟨b, B', hB', hs.trans hr⟩
      · exact Or.inr ⟨a :: A', a', by rw [hA']; rfl, hs.trans hr⟩

/-- **l.920-926, l.937-942 (and l.872-874)**: whichever neighbour of the position `As | B` the search answered,
`nxt_ip` is the item of the head of `B`, the new node is linked between `As` and `B`, and `tnode` ends up as the
last member of `As` -/
theorem link_spec (C : Cargo) (ref : ℚ × ℚ) (S : St) (pp tnode : ℕ) (cmp : ℤ) (As B : List ℕ)
    (hT : S.tree = As ++ B) (hnd : S.tree.Nodup) (hpp : pp ∉ S.tree)
    (hans : (∃ b B', B = b :: B' ∧ (tnode, cmp) = (b, -1)) ∨ (∃ A' a, As = A' ++ [a] ∧ (tnode, cmp) = (a, 1))) :
    (0 ∉ S.tree → (if cmp ≤ 0 then item C tnode else if tnx S tnode ≠ 0 then item C (tnx S tnode) else ref)
        = (B.head?.map (item C)).getD ref) ∧
      (if cmp ≤ 0 then avlInsertBefore S tnode pp else avlInsertAfter S tnode pp) = { S with tree := As ++ pp :: B } ∧
      (if cmp ≤ 0 then tpv { S with tree := As ++ pp :: B } pp else tnode) = As.getLast?.getD 0 := by
  rw [hT] at hnd hpp
  have hppA : pp ∉ As := fun h => hpp (List.mem_append_left _ h)
  have hppB : pp ∉ B := fun h => hpp (List.mem_append_right _ h)
  rcases hans with ⟨b, B', rfl, h⟩ | ⟨A', a, rfl, h⟩ <;> cases h
  · have hm : ((-1 : ℤ) ≤ 0) := by decide
    refine ⟨fun _ => by rw [if_pos hm]; rfl, ?_, ?_⟩
    · rw [if_pos hm, avlInsertBefore, hT, insertBefore_mid tnode pp B' As (not_mem_of_nodup_mid hnd)]
    · rw [if_pos hm]
      exact listPrev_mid pp _ hppB As hppA
  · have hm : ¬ ((1 : ℤ) ≤ 0) := by decide
    have hT' : S.tree = A' ++ tnode :: B := by rw [hT]; simp
    have hnd' : (A' ++ tnode :: B).Nodup := by simpa using hnd
    refine ⟨fun h0 => ?_, ?_, by rw [if_neg hm]; simp⟩
    · rw [if_neg hm, tnx, hT', listNext_mid tnode B A' (not_mem_of_nodup_mid hnd')]
      cases B with
      | nil => simp
      | cons b B' =>
        have hb0 : b ≠ 0 := fun e => h0 (by rw [hT', e]; simp)
        simp [hb0]
    · rw [if_neg hm, avlInsertAfter, hT', insertAfter_mid tnode pp B A' (not_mem_of_nodup_mid hnd')]
      simp

/-- **the position of a point `p` in a staircase `T`**: `A` lies strictly to the left of and above `p`, the run `D` is
weakly dominated by `p`, and `B` compares `-1` (its head is the tree successor of `p`) -/
structure Pos (C : Cargo) (p : ℚ × ℚ) (T A D B : List ℕ) : Prop where
  split : T = A ++ D ++ B
  left : ∀ a ∈ A, (item C a).1 < p.1 ∧ p.2 < (item C a).2
  dom : ∀ e ∈ D, p.1 ≤ (item C e).1 ∧ p.2 ≤ (item C e).2 ∧ p ≠ item C e
  right : ∀ b ∈ B, cmpTreeAscNeg p (item C b) = true

theorem stair_pos (C : Cargo) (p : ℚ × ℚ) (T : List ℕ) (hst : Stair (T.map (item C))) : ∃ A D B, Pos C p T A D B := by
  obtain ⟨As, B, hT, hAs, hB⟩ := stair_split C p T hst
  obtain ⟨A, D, hAD, hD, hA⟩ := suffix_split (fun e => p.1 ≤ (item C e).1) As
  have hf : ∀ e ∈ As, p.2 ≤ (item C e).2 ∧ (p.2 = (item C e).2 → p.1 < (item C e).1) :=
    fun e he => (cmpNeg_false_iff _ _).mp (hAs e he)
  refine ⟨A, D, B, by rw [hT, hAD], fun a ha => ?_, fun e he => ?_, hB⟩
  · have hax : (item C a).1 < p.1 := by
      rcases eq_nil_or_snoc A with rfl | ⟨A', l, rfl⟩
      · exact absurd ha List.not_mem_nil
      · have hl : (item C l).1 < p.1 := not_le.mp (hA A' l rfl)
        rcases List.mem_append.mp ha with h | h
        · rw [hT, hAD, List.append_assoc, List.append_assoc] at hst
          exact lt_trans ((List.pairwise_append.mp (List.pairwise_map.mp hst)).2.2 a h l (by simp)).1 hl
        · rw [List.mem_singleton.mp h]; exact hl
    have := hf a (by rw [hAD]; exact List.mem_append_left _ ha)
    exact ⟨hax, lt_of_le_of_ne this.1 fun h => absurd (this.2 h) (not_lt.mpr hax.le)⟩
  · have := hf e (by rw [hAD]; exact List.mem_append_right _ he)
    exact ⟨hD e he, this.1, fun h => absurd (this.2 (congrArg Prod.snd h)) (by rw [h]; exact lt_irrefl _)⟩

theorem Pos.cmp_false {C : Cargo} {p : ℚ × ℚ} {T A D B : List ℕ} (h : Pos C p T A D B) :
    ∀ e ∈ A ++ D, cmpTreeAscNeg p (item C e) = false := by
  intro e he
  rw [cmpNeg_false_iff]
  rcases List.mem_append.mp he with h' | h'
  · exact ⟨(h.left e h').2.le, fun e' => absurd e' (ne_of_lt (h.left e h').2)⟩
  · obtain ⟨h1, h2, h3⟩ := h.dom e h'
    exact ⟨h2, fun e' => lt_of_le_of_ne h1 fun e'' => h3 (Prod.ext e'' e')⟩

/-- the head of `B` is the tree successor of `p` (the reference point if `B` is empty): if it does not lie strictly to
the right of `p`, it weakly dominates `p` -/
theorem Pos.succ_dom {C : Cargo} {p : ℚ × ℚ} {T A D B : List ℕ} (h : Pos C p T A D B) {ref : ℚ × ℚ} (href : p.1 < ref.1)
    (hdom : ((B.head?.map (item C)).getD ref).1 ≤ p.1) : ∃ b ∈ B, (item C b).1 ≤ p.1 ∧ (item C b).2 ≤ p.2 := by
  cases B with
  | nil => exact absurd hdom (not_le.mpr href)
  | cons b B' =>
    exact ⟨b, List.mem_cons_self, hdom,
      ((cmpNeg_true_iff _ _).mp (h.right b List.mem_cons_self)).elim le_of_lt (fun e => le_of_eq e.1)⟩

/-- … and if it does, all of `B` lies strictly to the right of and below `p` -/
theorem Pos.right_strict {C : Cargo} {p : ℚ × ℚ} {T A D B : List ℕ} (h : Pos C p T A D B) (hst : Stair (T.map (item C)))
    {ref : ℚ × ℚ} (hdom : ¬ ((B.head?.map (item C)).getD ref).1 ≤ p.1) :
    ∀ b ∈ B, p.1 < (item C b).1 ∧ (item C b).2 < p.2 := by
  cases B with
  | nil => exact fun b hb => absurd hb List.not_mem_nil
  | cons b B' =>
    have hbx : p.1 < (item C b).1 := not_le.mp hdom
    have hby : (item C b).2 < p.2 :=
      ((cmpNeg_true_iff _ _).mp (h.right b List.mem_cons_self)).elim id (fun e => absurd e.2 (not_le.mpr hbx))
    intro b' hb'
    rcases List.mem_cons.mp hb' with rfl | hb'
    · exact ⟨hbx, hby⟩
    · have hpw := List.pairwise_map.mp hst
      rw [h.split] at hpw
      have := (List.pairwise_cons.mp (List.pairwise_append.mp hpw).2.1).1 b' hb'
      exact ⟨lt_trans hbx this.1, lt_trans this.2 hby⟩

theorem foldr_min_stair (r : ℚ) (T : List (ℚ × ℚ)) (hs : Stair T) (hle : ∀ t ∈ T, t.1 ≤ r) :
    (T.map Prod.fst).foldr min r = headX r T := by
  cases T with
  | nil => rfl
  | cons t l =>
    rw [List.map_cons, headX_cons]
    apply foldr_min_head r t.1 (l.map Prod.fst) _ (hle t (by simp))
    have : ((t :: l).map Prod.fst).Pairwise (· ≤ ·) :=
      List.pairwise_map.mpr (hs.imp (fun h => le_of_lt h.1))
    simpa using this

/-- **the strip sum of a staircase is the area it dominates** -/
theorem stair_area (r₀ r₁ : ℚ) : ∀ (T : List (ℚ × ℚ)), Stair T → (∀ t ∈ T, t.1 ≤ r₀ ∧ t.2 ≤ r₁) →
    hArea r₀ r₁ T = hvCells [r₀, r₁] (T.map toPt)
  | [], _, _ => by simp [hArea, hvCells_nil_pts]
  | t :: l, hs, hle => by
    have hs' := List.pairwise_cons.mp hs
    have ih := stair_area r₀ r₁ l hs'.2 (fun x hx => hle x (by simp [hx]))
    have key := hvCells_add_top r₀ r₁ l t.1 t.2 (fun p hp => le_of_lt (hs'.1 p hp).2) (hle t (by simp)).2
    have ht : toPt (t.1, t.2) = toPt t := rfl
    rw [List.map_cons, ← ht, key, ← ih, foldr_min_stair r₀ l hs'.2 (fun x hx => (hle x (by simp [hx])).1)]
    have hmin : min (headX r₀ l) t.1 = t.1 := by
      apply min_eq_right
      cases l with
      | nil => exact (hle t (by simp)).1
      | cons u l => exact le_of_lt (hs'.1 u (by simp)).1
    rw [hmin]
    simp only [hArea]
    rw [hArea_shift r₀ t.2 r₁ l]
    ring

/-- **the update of l.955-982**: replacing the run `D` of dominated members by the new point `p` changes the area
by `−Σ_D (y_prev − y_e)(x_next − x_e) + (y_prev(p) − y_p)(x_next − x_p)`, `x_next` the abscissa of the successor -/
theorem area_update (r₀ r₁ : ℚ) (A D B : List (ℚ × ℚ)) (p : ℚ × ℚ) :
    hArea r₀ r₁ (A ++ p :: B)
      = hArea r₀ r₁ (A ++ D ++ B) - hArea (headX r₀ B) (lastY r₁ A) D
        + (lastY r₁ A - p.2) * (headX r₀ B - p.1) := by
  rw [hArea_append, List.append_assoc, hArea_append, hArea_append]
  simp only [hArea]
  rw [hArea_shift r₀ p.2 (lastY (lastY r₁ A) D) B, hArea_change_r r₀ (headX r₀ B) D (lastY r₁ A)]
  ring

theorem hvCells_cover (ref : List ℚ) (T : List Pt) : ∀ (P : List Pt), (∀ p ∈ P, ∃ t ∈ T, Dom ref t p) →
    hvCells ref (P ++ T) = hvCells ref T
  | [], _ => rfl
  | p :: P, h => by
    obtain ⟨t, ht, hd⟩ := h p (by simp)
    rw [List.cons_append, hvCells_dominated' ref (P ++ T) t p (List.mem_append_right _ ht) hd]
    exact hvCells_cover ref T P (fun q hq => h q (by simp [hq]))

theorem hvCells_eq_of_cover (ref : List ℚ) (T P : List Pt) (hsub : ∀ t ∈ T, t ∈ P)
    (hcov : ∀ p ∈ P, ∃ t ∈ T, Dom ref t p) : hvCells ref P = hvCells ref T := by
  rw [← hvCells_cover ref T P hcov]
  apply hvCells_of_mem_iff
  intro q
  simp only [List.mem_append]
  constructor
  · exact Or.inl
  · rintro (h | h)
    · exact h
    · exact hsub q h

/-- `height` of l.907-909 -/
def hgt (C : Cargo) (R : List ℚ) (S : St) (pp : ℕ) : ℚ :=
  if pp = pv S 2 0 then rf R 2 - cg C pp 2 else cg C (nx S 2 pp) 2 - cg C pp 2

/-- the fields the main loop of the 3-D sweep never writes -/
def PtrFrame (S S' : St) : Prop := S'.next = S.next ∧ S'.prev = S.prev ∧ S'.bound = S.bound ∧ S'.calls = S.calls

theorem PtrFrame.next {S S' : St} (h : PtrFrame S S') : S'.next = S.next := h.1
theorem PtrFrame.prev {S S' : St} (h : PtrFrame S S') : S'.prev = S.prev := h.2.1
theorem PtrFrame.bound {S S' : St} (h : PtrFrame S S') : S'.bound = S.bound := h.2.2.1
theorem PtrFrame.calls {S S' : St} (h : PtrFrame S S') : S'.calls = S.calls := h.2.2.2

/-- the third coordinate at which the next slab starts: that of the next node, or the reference -/
def zOf (C : Cargo) (r₂ : ℚ) : List ℕ → ℚ
  | [] => r₂
  | a :: _ => cg C a 2

end HvC
