/-
C18 helper lemmas: records with dictionaries inside dictionaries (chapters with sub-chapters, any
depth).  A `Shape` is the tree of chapter names that every record of a history carries; `record`,
`pop`, `del` and the stream of a chapter keep a logbook aligned at every depth with respect to it.
-/
import DeapModel.Lemmas.C18Ops

namespace C18L
open Logbook

/-- the tree of chapter names: which dictionaries a record carries, and which dictionaries those
carry in turn -/
inductive Shape where
  | mk (kids : List (Name × Shape))

def Shape.kids : Shape → List (Name × Shape) | .mk k => k

/-- the dict-valued items that are still dictionaries after `chapter_infos.update(apply_to_all)`:
an inherited scalar of the same name replaces the dictionary -/
def effDicts (inh : Row) (dicts : List (Name × Entry)) : List (Name × Entry) :=
  dicts.filter fun q => !dictHas inh q.1

mutual
/-- the record `e`, entered into a logbook that inherits the scalars `inh` from the enclosing
record, carries exactly the chapter tree `sh`: its effective dictionaries have distinct names,
these are the names of `sh`, and each dictionary carries the corresponding sub-tree -/
def Fits (inh : Row) : Shape → Entry → Prop
  | sh, .mk sc dicts =>
      ((effDicts inh dicts).map (·.1)).Nodup ∧
      (∀ c, c ∈ (effDicts inh dicts).map (·.1) ↔ c ∈ sh.kids.map (·.1)) ∧
      FitsAll (dictUpdate sc inh) inh sh.kids dicts
def FitsAll (all inh : Row) (kids : List (Name × Shape)) : List (Name × Entry) → Prop
  | [] => True
  | (k, sub) :: rest =>
      (dictHas inh k = false → ∀ shk, (k, shk) ∈ kids → Fits all shk sub) ∧ FitsAll all inh kids rest
end

theorem fitsAll_iff (all inh : Row) (kids : List (Name × Shape)) (dicts : List (Name × Entry)) :
    FitsAll all inh kids dicts ↔
      ∀ q ∈ dicts, dictHas inh q.1 = false → ∀ shk, (q.1, shk) ∈ kids → Fits all shk q.2 := by
  induction dicts with
  | nil => exact ⟨fun _ _ h => (nomatch h), fun _ => trivial⟩
  | cons q qs ih => rw [List.forall_mem_cons, ← ih]; rfl

theorem fits_iff (inh : Row) (sh : Shape) (e : Entry) :
    Fits inh sh e ↔ ((effDicts inh e.dicts).map (·.1)).Nodup ∧
      (∀ c, c ∈ (effDicts inh e.dicts).map (·.1) ↔ c ∈ sh.kids.map (·.1)) ∧
      FitsAll (dictUpdate e.scalars inh) inh sh.kids e.dicts := by
  cases e; rfl

mutual
/-- aligned at every depth with respect to the chapter tree `sh`: stream position in range, the
chapters are (some of) those of the tree, and every chapter of the tree — counted as empty while
it does not exist yet — has as many rows as the logbook and is itself aligned w.r.t. its sub-tree -/
def ShapedAligned : Shape → LB → Prop
  | .mk kids, lb => lb.buffindex ≤ lb.rows.length ∧ (lb.chapters.map (·.1)).Nodup ∧
      (∀ c ∈ lb.chapters.map (·.1), c ∈ kids.map (·.1)) ∧ KidsAligned lb.rows.length lb.chapters kids
def KidsAligned (n : Nat) (chs : List (Name × LB)) : List (Name × Shape) → Prop
  | [] => True
  | (c, sh) :: rest =>
      (match getChapter c chs with
       | none => n = 0
       | some ch => ch.rows.length = n ∧ ShapedAligned sh ch) ∧ KidsAligned n chs rest
end

theorem shapedAligned_iff (sh : Shape) (lb : LB) :
    ShapedAligned sh lb ↔ lb.buffindex ≤ lb.rows.length ∧ (lb.chapters.map (·.1)).Nodup ∧
      (∀ c ∈ lb.chapters.map (·.1), c ∈ sh.kids.map (·.1)) ∧
      KidsAligned lb.rows.length lb.chapters sh.kids := by
  cases sh; rfl

theorem kidsAligned_iff (n : Nat) (chs : List (Name × LB)) (ks : List (Name × Shape)) :
    KidsAligned n chs ks ↔ ∀ q ∈ ks, (match getChapter q.1 chs with
       | none => n = 0
       | some ch => ch.rows.length = n ∧ ShapedAligned q.2 ch) := by
  induction ks with
  | nil => exact ⟨fun _ _ h => (nomatch h), fun _ => trivial⟩
  | cons q qs ih => rw [List.forall_mem_cons, ← ih]; rfl

theorem shaped_empty (sh : Shape) : ShapedAligned sh LB.empty :=
  (shapedAligned_iff sh _).2 ⟨Nat.le_refl _, .nil, fun _ h => (nomatch h),
    (kidsAligned_iff _ _ _).2 fun _ _ => rfl⟩

theorem mem_keys_getChapter (chs : List (Name × LB)) (c : Name) (h : c ∈ chs.map (·.1)) :
    ∃ ch, getChapter c chs = some ch := Dict.lookup_isSome_of_mem_keys h

mutual
theorem shaped_deep : ∀ (sh : Shape) (lb : LB), ShapedAligned sh lb → DeepAligned lb
  | .mk kids, lb, h => by
    obtain ⟨hb, hn, hk, ha⟩ := h
    exact (deepAligned_iff lb).2 ⟨hb, fun q hq =>
      kids_deep kids _ _ ha hn q hq (hk q.1 (List.mem_map_of_mem hq))⟩
theorem kids_deep : ∀ (ks : List (Name × Shape)) (n : Nat) (chs : List (Name × LB)),
    KidsAligned n chs ks → (chs.map (·.1)).Nodup → ∀ q ∈ chs, q.1 ∈ ks.map (·.1) →
      q.2.rows.length = n ∧ DeepAligned q.2
  | [], _, _, _, _, _, _, hk => nomatch hk
  | (c, sh) :: rest, n, chs, ha, hn, q, hq, hk => by
    obtain ⟨h1, hr⟩ := ha
    by_cases hqc : q.1 = c
    · rw [← hqc, show getChapter q.1 chs = some q.2 from Dict.lookup_of_mem hn hq] at h1
      exact ⟨h1.1, shaped_deep sh q.2 h1.2⟩
    · exact kids_deep rest n chs hr hn q hq ((List.mem_cons.1 hk).resolve_left hqc)
end

theorem deep_path_length (path : List Name) (lb ch : LB) (hd : DeepAligned lb)
    (h : chapterAt path lb = some ch) : ch.rows.length = lb.rows.length := by
  induction path generalizing lb with
  | nil => rw [← Option.some.inj h]
  | cons n rest ih =>
    rw [chapterAt] at h
    cases hg : getChapter n lb.chapters with
    | none => rw [hg] at h; cases h
    | some c1 =>
      rw [hg] at h
      obtain ⟨hl, hd1⟩ := ((deepAligned_iff lb).1 hd).2 (n, c1) (Dict.mem_of_lookup hg)
      rw [ih c1 hd1 h, hl]

theorem ShapedAligned.congr {sh : Shape} {lb lb' : LB} (h : ShapedAligned sh lb)
    (hr : lb'.rows.length = lb.rows.length) (hc : lb'.chapters = lb.chapters)
    (hb : lb'.buffindex ≤ lb'.rows.length) : ShapedAligned sh lb' := by
  rw [shapedAligned_iff] at h ⊢
  rw [hc, hr]
  exact ⟨hr ▸ hb, h.2⟩

mutual
theorem erase_shaped : ∀ (sh : Shape) (lb : LB) (p : Nat), ShapedAligned sh lb →
    ShapedAligned sh (eraseDeep p lb)
  | .mk kids, lb, p, h => by
    obtain ⟨hb, hn, hk, ha⟩ := h
    have hkeys : (eraseDeep p lb).chapters.map (·.1) = lb.chapters.map (·.1) := by
      rw [eraseDeep_chapters, List.map_map]; rfl
    refine ⟨?_, hkeys ▸ hn, hkeys ▸ hk, ?_⟩
    · rw [eraseDeep_buffindex, eraseDeep_rows, List.length_eraseIdx]; split <;> split <;> omega
    · rw [eraseDeep_rows, eraseDeep_chapters, List.length_eraseIdx]; exact erase_kids kids _ _ p ha
theorem erase_kids : ∀ (ks : List (Name × Shape)) (n : Nat) (chs : List (Name × LB)) (p : Nat),
    KidsAligned n chs ks →
      KidsAligned (if p < n then n - 1 else n) (chs.map fun q => (q.1, eraseDeep p q.2)) ks
  | [], _, _, _, _ => trivial
  | (c, sh) :: rest, n, chs, p, ha => by
    obtain ⟨h1, hr⟩ := ha
    refine ⟨?_, erase_kids rest n chs p hr⟩
    rw [getChapter_map]
    cases hg : getChapter c chs with
    | none => rw [hg] at h1; subst h1; simp
    | some ch =>
      rw [hg] at h1
      exact ⟨by rw [eraseDeep_rows, List.length_eraseIdx, h1.1], erase_shaped sh ch p h1.2⟩
end

theorem eraseAll_shaped (sh : Shape) (ds : List Nat) (lb : LB) (h : ShapedAligned sh lb) :
    ShapedAligned sh (eraseAllDeep ds lb) := by
  induction ds generalizing lb with
  | nil => exact h
  | cons i is ih => exact ih _ (erase_shaped sh lb i h)

theorem recordDicts_eff (all inh : Row) (dicts : List (Name × Entry)) (chs : List (Name × LB)) :
    recordDicts all inh dicts chs = recordDicts all [] (effDicts inh dicts) chs := by
  induction dicts generalizing chs with
  | nil => rfl
  | cons q qs ih =>
    obtain ⟨k, sub⟩ := q
    cases hk : dictHas inh k <;> simp only [recordDicts, effDicts, List.filter_cons, hk] <;> exact ih _

mutual
theorem record_shaped : ∀ (sh : Shape) (e : Entry) (inh : Row) (lb : LB), Fits inh sh e →
    ShapedAligned sh lb → ShapedAligned sh (recordAux inh e lb)
  | .mk kids, e, inh, lb, hf, h => by
    obtain ⟨hb, hn, hk, ha⟩ := h
    obtain ⟨f1, f2, f3⟩ := (fits_iff inh (.mk kids) e).1 hf
    obtain ⟨g1, g2, g3⟩ := recordDicts_top (dictUpdate e.scalars inh) (effDicts inh e.dicts)
      lb.chapters f1 hn
    have hfit : ∀ q ∈ kids, ∃ sub, (effDicts inh e.dicts).lookup q.1 = some sub ∧
        Fits (dictUpdate e.scalars inh) q.2 sub := by
      intro q hq
      obtain ⟨sub, hsub⟩ := Dict.lookup_isSome_of_mem_keys ((f2 q.1).2 (List.mem_map_of_mem hq))
      have hm := List.mem_filter.1 (Dict.mem_of_lookup hsub)
      exact ⟨sub, hsub, (fitsAll_iff _ _ _ _).1 f3 (q.1, sub) hm.1 (by simpa using hm.2) q.2 hq⟩
    rw [shapedAligned_iff, recordAux_rows, recordAux_chapters, recordDicts_eff, (recordAux_fields inh e lb).1,
      List.length_append]
    exact ⟨Nat.le_succ_of_le hb, g2, fun c hc => ((g3 c).1 hc).elim (hk c) (f2 c).1,
      record_kids kids _ _ lb.rows.length lb.chapters _ g1 hfit ha⟩
theorem record_kids : ∀ (ks : List (Name × Shape)) (all : Row) (eff : List (Name × Entry)) (n : Nat)
    (chs chs' : List (Name × LB)),
    (∀ c, getChapter c chs' = match eff.lookup c with
      | some sub => some (recordAux all sub ((getChapter c chs).getD LB.empty))
      | none => getChapter c chs) →
    (∀ q ∈ ks, ∃ sub, eff.lookup q.1 = some sub ∧ Fits all q.2 sub) →
    KidsAligned n chs ks → KidsAligned (n + 1) chs' ks
  | [], _, _, _, _, _, _, _, _ => trivial
  | (c, sh) :: rest, all, eff, n, chs, chs', hget, hfit, ha => by
    obtain ⟨h1, hr⟩ := ha
    obtain ⟨sub, hsub, hfs⟩ := hfit (c, sh) (List.mem_cons_self ..)
    refine ⟨?_, record_kids rest all eff n chs chs' hget (fun q hq => hfit q (List.mem_cons_of_mem _ hq)) hr⟩
    rw [hget c, show eff.lookup c = some sub from hsub]
    cases hg : getChapter c chs with
    | none =>
      rw [hg] at h1
      exact ⟨by rw [recordAux_rows, h1]; rfl, record_shaped sh sub all LB.empty hfs (shaped_empty sh)⟩
    | some ch =>
      rw [hg] at h1
      exact ⟨by rw [recordAux_rows, List.length_append]; exact congrArg (· + 1) h1.1,
        record_shaped sh sub all ch hfs h1.2⟩
end

theorem stream_shaped (sh : Shape) (lb : LB) (h : ShapedAligned sh lb) : ShapedAligned sh (stream lb).2 := by
  obtain ⟨h1, h2, h3, _⟩ := stream_state lb
  exact h.congr (congrArg List.length h1) h2 (by rw [h3, h1]; exact Nat.le_refl _)

theorem modifyAt_shaped (path : List Name) (sh : Shape) (lb : LB) (h : ShapedAligned sh lb) :
    ShapedAligned sh (modifyAt (fun l => (stream l).2) path lb) := by
  induction path generalizing sh lb with
  | nil => exact stream_shaped sh lb h
  | cons n rest ih =>
    obtain ⟨h1, h2, _, _, h5⟩ := modifyAt_cons_state (fun l => (stream l).2) n rest lb
    rw [shapedAligned_iff] at h ⊢
    rw [h1, h2, h5, keys_mapChapter]
    refine ⟨h.1, h.2.1, h.2.2.1, (kidsAligned_iff _ _ _).2 fun q hq => ?_⟩
    have hq' := (kidsAligned_iff _ _ _).1 h.2.2.2 q hq
    rw [getChapter_mapChapter]
    by_cases hqn : q.1 = n
    · rw [if_pos hqn, ← hqn]
      cases hg : getChapter q.1 lb.chapters with
      | none => rw [hg] at hq'; exact hq'
      | some ch =>
        rw [hg] at hq'
        exact ⟨(modifyAt_stream_rows rest ch).symm ▸ hq'.1, ih q.2 ch hq'.2⟩
    · rw [if_neg hqn]; exact hq'

end C18L
