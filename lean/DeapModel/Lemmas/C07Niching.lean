/-
C07 — `niching` (NSGA-III): one specification per function of the selection loop, in the form "an
answer satisfies `Q`, an error satisfies `E`" (`Run`): the answers keep the invariant `NInv`, and under
`Valid` the only error is a rejected tape.
-/
import DeapModel.Lemmas.C07Common
import DeapModel.Lemmas.ListFacts
import Mathlib.Data.List.Nodup

namespace C07L
open Nsga3

/-- `r` answers with a value in `Q` or fails with an error in `E` -/
def Run {β : Type} (r : Except Err β) (Q : β → Prop) (E : Err → Prop) : Prop :=
  match r with
  | .ok x => Q x
  | .error e => E e

namespace Run
variable {β : Type} {r : Except Err β} {Q Q' : β → Prop} {E E' : Err → Prop}

theorem ok (h : Run r Q E) {x : β} (hx : r = .ok x) : Q x := by subst hx; exact h

theorem err (h : Run r Q E) {e : Err} (he : r = .error e) : E e := by subst he; exact h

theorem mono (h : Run r Q E) (hQ : ∀ x, Q x → Q' x) (hE : ∀ e, E e → E' e) : Run r Q' E' := by
  cases r with
  | ok x => exact hQ x h
  | error e => exact hE e h

end Run

section
variable {α : Type} [LT α] [DecidableLT α]

theorem argminFirst_mem (d : Nat → α) (l : List Nat) (p : Nat) (h : argminFirst d l = some p) :
    p ∈ l := by
  cases l with
  | nil => simp [argminFirst] at h
  | cons x xs =>
    simp only [argminFirst, Option.some.injEq] at h
    rw [← h]; exact List.foldl_ite_mem (fun best q => d q < d best) xs x

theorem mem_members (L : Nat) (niches : Nat → Nat) (avail : Nat → Bool) (j p : Nat) :
    p ∈ members L niches avail j ↔ p < L ∧ niches p = j ∧ avail p = true := by
  simp [members, List.mem_filter, List.mem_range]

theorem mem_availNiches (L nref : Nat) (niches : Nat → Nat) (avail : Nat → Bool) (j : Nat) :
    j ∈ availNiches L nref niches avail ↔
      j < nref ∧ ∃ q, q < L ∧ avail q = true ∧ niches q = j := by
  simp only [availNiches, List.mem_filter, List.mem_range, List.any_eq_true, Bool.and_eq_true,
    beq_iff_eq]

theorem perm_of_isPerm {draw l : List Nat} (h : ¬ (!draw.isPerm l) = true) : draw.Perm l :=
  List.isPerm_iff.1 (by simpa using h)

/-- what `pick` does: it rejects the tape, or raises because the niche has no available member, or
selects an available member of the niche. -/
theorem pick_cases (L : Nat) (niches : Nat → Nat) (dist : Nat → α) (st : NState) (niche : Nat)
    (tape : Tape) :
    pick L niches dist st niche tape = .error .badTape ∨
    (pick L niches dist st niche tape = .error .raised ∧ members L niches st.avail niche = []) ∨
    ∃ p draw tape', tape = draw :: tape' ∧ p < L ∧ niches p = niche ∧ st.avail p = true ∧
      pick L niches dist st niche tape = .ok
        ({ selected := st.selected ++ [p], avail := upd st.avail p false,
           counts := upd st.counts niche (st.counts niche + 1) }, tape') := by
  unfold pick
  cases tape with
  | nil => exact Or.inl rfl
  | cons draw t =>
    simp only []
    split
    · exact Or.inl rfl
    · next hperm =>
      have hperm := perm_of_isPerm hperm
      split
      · next hnone =>
        refine Or.inr (Or.inl ⟨rfl, ?_⟩)
        cases draw with
        | nil => exact hperm.symm.eq_nil
        | cons x xs => split at hnone <;> simp [argminFirst] at hnone
      · next p hp =>
        have hmem : p ∈ draw := by
          split at hp
          · exact argminFirst_mem dist draw p hp
          · exact List.mem_of_head? hp
        obtain ⟨h1, h2, h3⟩ := (mem_members L niches st.avail niche p).1 (hperm.subset hmem)
        exact Or.inr (Or.inr ⟨p, draw, t, rfl, h1, h2, h3, rfl⟩)

structure NInv (L : Nat) (niches : Nat → Nat) (counts0 : Nat → Nat) (st : NState) : Prop where
  avail_iff : ∀ p, p < L → (st.avail p = true ↔ p ∉ st.selected)
  nodup : st.selected.Nodup
  lt : ∀ p ∈ st.selected, p < L
  counts : ∀ j, st.counts j = counts0 j + st.selected.countP (fun p => niches p == j)
  bal : ∀ a b, (∃ p ∈ st.selected, niches p = a) →
    (∃ q, q < L ∧ st.avail q = true ∧ niches q = b) → st.counts a ≤ st.counts b + 1

/-- every niche that still has an available candidate has at least `mc` members -/
def Floor (L : Nat) (niches : Nat → Nat) (st : NState) (mc : Nat) : Prop :=
  ∀ b, (∃ q, q < L ∧ st.avail q = true ∧ niches q = b) → mc ≤ st.counts b

variable {L k nref : Nat} {niches : Nat → Nat} {dist : Nat → α} {counts0 : Nat → Nat}

/-- selecting an available member `p` of a niche whose count `mc` is minimal among the niches that
still have an available candidate keeps the invariant (and that minimality, for the rest of the
round); only the count of that niche and the availability of `p` change. -/
theorem pick_inv {st : NState} {niche mc p : Nat}
    (inv : NInv L niches counts0 st) (hmc : st.counts niche = mc) (hfl : Floor L niches st mc)
    (hpL : p < L) (hpn : niches p = niche) (hpa : st.avail p = true) :
    let st' : NState := { selected := st.selected ++ [p], avail := upd st.avail p false,
                          counts := upd st.counts niche (st.counts niche + 1) }
    NInv L niches counts0 st' ∧ Floor L niches st' mc ∧
    st'.selected.length = st.selected.length + 1 ∧
    (∀ j, j ≠ niche → st'.counts j = st.counts j) ∧
    (∀ q, st.avail q = true → niches q ≠ niche → st'.avail q = true) := by
  intro st'
  simp only [st']
  have hpsel : p ∉ st.selected := (inv.avail_iff p hpL).1 hpa
  have hav : ∀ q, upd st.avail p false q = true → st.avail q = true ∧ q ≠ p := by
    intro q hq
    rw [nupd_apply] at hq
    split at hq
    · cases hq
    · next hne => exact ⟨hq, hne⟩
  have hcnt : ∀ j, upd st.counts niche (st.counts niche + 1) j =
      if j = niche then st.counts niche + 1 else st.counts j := fun j => nupd_apply _ _ _ _
  refine ⟨⟨?_, ?_, ?_, ?_, ?_⟩, ?_, ?_, ?_, ?_⟩
  · intro q hq
    simp only [List.mem_append, List.mem_singleton, not_or]
    by_cases hqp : q = p
    · subst hqp; simp [nupd_same]
    · rw [nupd_ne _ _ _ _ hqp, inv.avail_iff q hq]; simp [hqp]
  · exact List.nodup_append.2 ⟨inv.nodup, by simp, fun a ha b hb hab =>
      hpsel (List.mem_singleton.1 hb ▸ hab ▸ ha)⟩
  · intro q hq
    rcases List.mem_append.1 hq with h | h
    · exact inv.lt q h
    · exact List.mem_singleton.1 h ▸ hpL
  · intro j
    simp only [List.countP_append, List.countP_singleton]
    rw [hcnt j, inv.counts j]
    by_cases hj : j = niche
    · subst hj; simp [hpn, inv.counts]; omega
    · have : (niches p == j) = false := by simp [hpn]; exact fun h => hj h.symm
      simp [hj, this]
  · intro a b ⟨x, hx, hxa⟩ ⟨q, hqL, hqa, hqb⟩
    obtain ⟨hqa', hqp⟩ := hav q hqa
    have hb_floor : mc ≤ st.counts b := hfl b ⟨q, hqL, hqa', hqb⟩
    show upd st.counts niche (st.counts niche + 1) a ≤ upd st.counts niche (st.counts niche + 1) b + 1
    have hb_mono : st.counts b ≤ if b = niche then st.counts niche + 1 else st.counts b := by
      split
      · next hbn => rw [hbn]; omega
      · exact Nat.le_refl _
    rw [hcnt a, hcnt b]
    by_cases han : a = niche
    · rw [if_pos han]; omega
    · rw [if_neg han]
      -- `a` was served before this pick: the old balance applies
      have hx' : x ∈ st.selected := by
        rcases List.mem_append.1 hx with h | h
        · exact h
        · exact absurd ((List.mem_singleton.1 h ▸ hxa).symm.trans hpn) han
      have := inv.bal a b ⟨x, hx', hxa⟩ ⟨q, hqL, hqa', hqb⟩
      omega
  · intro b ⟨q, hqL, hqa, hqb⟩
    have := hfl b ⟨q, hqL, (hav q hqa).1, hqb⟩
    show mc ≤ upd st.counts niche (st.counts niche + 1) b
    rw [hcnt b]; split <;> omega
  · simp
  · intro j hj; exact (hcnt j).trans (if_neg hj)
  · intro q hq hqn
    have : q ≠ p := by intro h; subst h; exact hqn hpn
    rw [nupd_ne _ _ _ _ this]; exact hq

/-- what `round` does: it raises (a niche number out of range, or no niche available), rejects the
tape, or serves the first `k - |selected|` entries of a permutation of the available niches with the
minimal count. -/
theorem round_cases (L k nref : Nat) (niches : Nat → Nat) (dist : Nat → α) (st : NState)
    (tape : Tape) :
    (round L k nref niches dist st tape = .error .raised ∧
      ((∃ p, p < L ∧ st.avail p = true ∧ nref ≤ niches p) ∨
        availNiches L nref niches st.avail = [])) ∨
    round L k nref niches dist st tape = .error .badTape ∨
    ∃ (mc : Nat) (draw : List Nat) (t : Tape), (∀ p, p < L → st.avail p = true → niches p < nref) ∧
      ((availNiches L nref niches st.avail).map st.counts).min? = some mc ∧
      draw.Perm ((availNiches L nref niches st.avail).filter (fun j => st.counts j == mc)) ∧
      round L k nref niches dist st tape =
        pickAll L niches dist (draw.take (k - st.selected.length)) st t := by
  unfold round
  simp only []
  split
  · next hrange =>
    simp only [List.any_eq_true, Bool.and_eq_true, decide_eq_true_eq, List.mem_range] at hrange
    obtain ⟨p, hp, ha, hn⟩ := hrange
    exact Or.inl ⟨rfl, Or.inl ⟨p, hp, ha, hn⟩⟩
  · next hrange =>
    simp only [List.any_eq_true, Bool.and_eq_true, decide_eq_true_eq, List.mem_range] at hrange
    split
    · next hmin =>
      rw [List.min?_eq_none_iff, List.map_eq_nil_iff] at hmin
      exact Or.inl ⟨rfl, Or.inr hmin⟩
    · next mc hmin =>
      cases tape with
      | nil => exact Or.inr (Or.inl rfl)
      | cons draw t =>
        simp only []
        split
        · exact Or.inr (Or.inl rfl)
        · next hperm =>
          exact Or.inr (Or.inr ⟨mc, draw, t, fun p hp ha => by
            by_contra hc; exact hrange ⟨p, hp, ha, by omega⟩, hmin, perm_of_isPerm hperm, rfl⟩)

theorem round_cand {st : NState} {mc : Nat} (n : Nat) {draw : List Nat}
    (hrange : ∀ p, p < L → st.avail p = true → niches p < nref)
    (hmin : ((availNiches L nref niches st.avail).map st.counts).min? = some mc)
    (hperm : draw.Perm ((availNiches L nref niches st.avail).filter (fun j => st.counts j == mc))) :
    (draw.take n).Nodup ∧
    (∀ j ∈ draw.take n, st.counts j = mc ∧ ∃ q, q < L ∧ st.avail q = true ∧ niches q = j) ∧
    Floor L niches st mc ∧ 0 < draw.length := by
  obtain ⟨⟨c, hc, hcm⟩, hle⟩ := (List.min?_eq_some_iff.1 hmin).imp_left List.mem_map.1
  refine ⟨(List.take_sublist _ _).nodup (hperm.nodup_iff.2
      (List.Nodup.filter _ (List.Nodup.filter _ List.nodup_range))), fun j hj => ?_, ?_, ?_⟩
  · obtain ⟨h1, h2⟩ := List.mem_filter.1 (hperm.subset ((List.take_sublist _ _).subset hj))
    exact ⟨by simpa using h2, ((mem_availNiches L nref niches st.avail j).1 h1).2⟩
  · intro b ⟨q, hqL, hqa, hqb⟩
    exact hle _ (List.mem_map.2 ⟨b, (mem_availNiches L nref niches st.avail b).2
      ⟨hqb ▸ hrange q hqL hqa, q, hqL, hqa, hqb⟩, rfl⟩)
  · rw [hperm.length_eq]
    exact List.length_pos_of_mem (List.mem_filter.2 ⟨hc, by simpa using hcm⟩)

theorem NInv_init (L : Nat) (niches : Nat → Nat) (counts0 : Nat → Nat) :
    NInv L niches counts0 { selected := [], avail := fun _ => true, counts := counts0 } := by
  constructor <;> simp

/-- a niche of `js` without an available member: the only reason for `pickAll` to raise -/
def Starved (L : Nat) (niches : Nat → Nat) (st : NState) (js : List Nat) : Prop :=
  ∃ j ∈ js, ¬ ∃ q, q < L ∧ st.avail q = true ∧ niches q = j

theorem pickAll_run {mc : Nat} :
    ∀ (js : List Nat) {st : NState} (tape : Tape),
      NInv L niches counts0 st → js.Nodup → (∀ j ∈ js, st.counts j = mc) → Floor L niches st mc →
      Run (pickAll L niches dist js st tape)
        (fun r => NInv L niches counts0 r.1 ∧ r.1.selected.length = st.selected.length + js.length)
        (fun e => e = .badTape ∨ Starved L niches st js) := by
  intro js
  induction js with
  | nil => intro st tape inv _ _ _; exact ⟨inv, rfl⟩
  | cons j js ih =>
    intro st tape inv hnd hmc hfl
    rw [List.nodup_cons] at hnd
    unfold pickAll
    rcases pick_cases L niches dist st j tape with h | ⟨h, hnil⟩ | ⟨p, draw, t, _, hpL, hpn, hpa, h⟩
    · rw [h]; exact Or.inl rfl
    · rw [h]
      refine Or.inr ⟨j, List.mem_cons_self, fun ⟨q, hqL, hqa, hqn⟩ => ?_⟩
      rw [List.eq_nil_iff_forall_not_mem] at hnil
      exact hnil q ((mem_members L niches st.avail j q).2 ⟨hqL, hqn, hqa⟩)
    · obtain ⟨inv1, hfl1, hlen1, hcnt1, hkeep⟩ := pick_inv inv (hmc j List.mem_cons_self) hfl hpL hpn hpa
      rw [h]
      refine (ih t inv1 hnd.2 (fun j' hj' => ?_) hfl1).mono
        (fun r ⟨a, b⟩ => ⟨a, by rw [b, hlen1, List.length_cons]; omega⟩)
        (fun e he => he.imp_right fun ⟨j', hj', hno⟩ => ⟨j', List.mem_cons_of_mem _ hj', fun ⟨q, hqL, hqa, hqn⟩ =>
          hno ⟨q, hqL, hkeep q hqa (by rintro rfl; exact hnd.1 (hqn ▸ hj')), hqn⟩⟩)
      rw [hcnt1 j' (by rintro rfl; exact hnd.1 hj')]
      exact hmc j' (List.mem_cons_of_mem _ hj')

/-- the hypotheses under which `niching` raises nothing -/
def Valid (L k nref : Nat) (niches : Nat → Nat) : Prop := k ≤ L ∧ ∀ p, p < L → niches p < nref

/-- a round that serves the first `k - s` of `d ≥ 1` candidates makes progress and does not overshoot -/
theorem take_progress {s k d : Nat} (hs : s < k) (hd : 0 < d) :
    s + min (k - s) d ≤ k ∧ s < s + min (k - s) d :=
  ⟨Nat.le_trans (Nat.add_le_add_left (Nat.min_le_left _ _) s) (Nat.le_of_eq (Nat.add_sub_cancel' (Nat.le_of_lt hs))),
    Nat.lt_add_of_pos_right (Nat.lt_min.2 ⟨Nat.sub_pos_of_lt hs, hd⟩)⟩

theorem round_run {st : NState} (tape : Tape) (inv : NInv L niches counts0 st)
    (hlen : st.selected.length < k) :
    Run (round L k nref niches dist st tape)
      (fun r => NInv L niches counts0 r.1 ∧ r.1.selected.length ≤ k ∧
        st.selected.length < r.1.selected.length)
      (fun e => Valid L k nref niches → e = .badTape) := by
  rcases round_cases L k nref niches dist st tape with
    ⟨h, hbad⟩ | h | ⟨mc, draw, t, hr, hmin, hperm, h⟩
  · rw [h]
    rintro ⟨hkL, hn⟩
    rcases hbad with ⟨q, hqL, _, hq⟩ | hnil
    · exact absurd (hn q hqL) (Nat.not_lt.2 hq)
    · -- fewer than `L` are selected, so some niche still has an available member
      obtain ⟨q, hqL, hqs⟩ := exists_not_mem L st.selected (Nat.lt_of_lt_of_le hlen hkL)
      have := (mem_availNiches L nref niches st.avail _).2
        ⟨hn q hqL, q, hqL, (inv.avail_iff q hqL).2 hqs, rfl⟩
      rw [hnil] at this; cases this
  · rw [h]; exact fun _ => rfl
  · obtain ⟨hnd, hmc, hfl, hpos⟩ := round_cand (k - st.selected.length) hr hmin hperm
    rw [h]
    refine (pickAll_run _ t inv hnd (fun j hj => (hmc j hj).1) hfl).mono
      (fun r ⟨a, b⟩ => by rw [List.length_take] at b; exact ⟨a, b ▸ (take_progress hlen hpos).1,
        b ▸ (take_progress hlen hpos).2⟩)
      (fun e he _ => he.resolve_right fun ⟨j, hj, hno⟩ => hno (hmc j hj).2)

theorem nichingLoop_run (fuel : Nat) {st : NState} (tape : Tape) (inv : NInv L niches counts0 st)
    (hle : st.selected.length ≤ k) :
    Run (nichingLoop L k nref niches dist fuel st tape)
      (fun st' => NInv L niches counts0 st' ∧ st'.selected.length = k)
      (fun e => k - st.selected.length < fuel → Valid L k nref niches → e = .badTape) := by
  fun_induction nichingLoop L k nref niches dist fuel st tape with
  | case1 => exact fun h => absurd h (Nat.not_lt_zero _)
  | case2 _ t hlt _ _ hr => exact fun _ => (round_run t inv hlt).err hr
  | case3 _ t hlt _ _ _ hr ih =>
    obtain ⟨inv1, hle1, hgt⟩ := (round_run t inv hlt).ok hr
    simp only at hle1 hgt
    exact (ih inv1 hle1).mono (fun _ h => h) (fun e he hf => he (by omega))
  | case4 => exact ⟨inv, by omega⟩

/-- `niching`: whatever it answers keeps the invariant and has `k` elements; it fails only by
rejecting the tape when `k ≤ L` and every niche number is below `nref`. -/
theorem niching_run (counts0 : Nat → Nat) (tape : Tape) :
    Run (niching L k nref niches dist counts0 tape)
      (fun st => NInv L niches counts0 st ∧ st.selected.length = k)
      (fun e => Valid L k nref niches → e = .badTape) :=
  (nichingLoop_run (k + 1) tape (NInv_init L niches counts0) (Nat.zero_le _)).mono (fun _ h => h)
    (fun e he => he (by simp))

theorem niching_spec {tape : Tape} {st : NState}
    (h : niching L k nref niches dist counts0 tape = .ok st) :
    NInv L niches counts0 st ∧ st.selected.length = k :=
  (niching_run counts0 tape).ok h

end

end C07L
