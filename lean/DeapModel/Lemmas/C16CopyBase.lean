/-
C16 — heaps under extension and under writes: what `abs`, `Within`, `CopyOK` and `Reach` see when a heap
keeps its objects and gains new ones, or when one object is overwritten.
-/
import DeapModel.Lemmas.C16Inst

namespace Heap

/-- The attribute part of a node's pure value: `absent` outside the domain. -/
def optPV {β : Type} (f : β → PV) : Option β → PV
  | none => .absent
  | some v => f v

theorem PV.node_congr {c : ClsId} {m : Bool} {is is' : List PV} {f f' : Name → PV} (hi : is = is')
    (hf : ∀ k, f k = f' k) : PV.node c m is f = PV.node c m is' f' := by
  rw [hi, funext hf]

theorem abs_ref {objs : Oid → Option Obj} {x : Oid} {o : Obj} (n : Nat) (h : objs x = some o) :
    abs objs (n + 1) (.ref x) = .node o.cls o.mutable (o.items.map (abs objs n))
      (fun k => optPV (abs objs n) (lookup k o.attrs)) := by
  rw [abs, h]
  exact PV.node_congr rfl (fun k => by cases lookup k o.attrs <;> rfl)

theorem abs_ref_inv {objs objs' : Oid → Option Obj} {m : Nat} {x : Oid} {o : Obj} {v' : Val} (ho : objs x = some o)
    (h : abs objs' (m + 1) v' = abs objs (m + 1) (.ref x)) :
    ∃ x' o', v' = .ref x' ∧ objs' x' = some o' ∧ o'.cls = o.cls ∧ o'.mutable = o.mutable ∧
      o'.items.map (abs objs' m) = o.items.map (abs objs m) ∧
      ∀ k, optPV (abs objs' m) (lookup k o'.attrs) = optPV (abs objs m) (lookup k o.attrs) := by
  rw [abs_ref m ho] at h
  cases v' with
  | atom a => cases h
  | ref x' =>
    cases ho' : objs' x' with
    | none => rw [abs, ho'] at h; cases h
    | some o' =>
      rw [abs_ref m ho'] at h
      injection h with h1 h2 h3 h4
      exact ⟨x', o', rfl, ho', h1, h2, h3, congrFun h4⟩

theorem optPV_congr {β γ : Type} {f : β → PV} {g : γ → PV} {b : Option β} {c : Option γ}
    (h : Option.Rel (fun v w => f v = g w) b c) : optPV f b = optPV g c := by
  cases h with
  | none => rfl
  | some h => exact h

theorem optPV_congr_self {β : Type} {f g : β → PV} {b : Option β} (h : ∀ v, b = some v → f v = g v) :
    optPV f b = optPV g b := by
  cases b with
  | none => rfl
  | some v => exact h v rfl

end Heap

namespace Heap.Copy

abbrev Keeps (objs objs' : Oid → Option Obj) : Prop := ∀ x o, objs x = some o → objs' x = some o

abbrev NoDangling (objs : Oid → Option Obj) : Prop :=
  ∀ x o, objs x = some o → ∀ y, Val.ref y ∈ o.children → (objs y).isSome = true

theorem keeps_define {objs : Oid → Option Obj} {x : Oid} (h : objs x = none) (o : Obj) :
    Keeps objs (define objs x o) :=
  fun y _ ho => (define_ne _ _ _ (fun e => by rw [e, h] at ho; cases ho)).trans ho

theorem abs_atom (objs : Oid → Option Obj) (m : Nat) (a : Int) : abs objs m (.atom a) = .atom a := by
  cases m <;> rfl

theorem abs_congr {objs objs' : Oid → Option Obj} :
    ∀ m v, (∀ y, Reach objs v y → objs' y = objs y) → abs objs' m v = abs objs m v := by
  intro m
  induction m with
  | zero =>
    intro v _
    cases v <;> rfl
  | succ m ih =>
    intro v h
    cases v with
    | atom a => rfl
    | ref x =>
      have hx := h x (Reach.here x)
      cases ho : objs x with
      | none => rw [abs, abs, hx, ho]
      | some o =>
        have hch : ∀ c ∈ o.children, abs objs' m c = abs objs m c :=
          fun c hc => ih c (fun y hr => h y (Reach.step x o c y ho hc hr))
        rw [abs_ref m ho, abs_ref m (hx.trans ho)]
        exact PV.node_congr (List.map_congr_left fun c hc => hch c (List.mem_append_left _ hc))
          (fun k => optPV_congr_self fun w hl =>
            hch w (List.mem_append_right _ (lookup_mem_snd k _ w hl)))

theorem abs_ext (objs objs' : Oid → Option Obj) (hrefs : NoDangling objs) (hext : Keeps objs objs') :
    ∀ m v, (∀ x, v = .ref x → (objs x).isSome = true) → abs objs' m v = abs objs m v := by
  intro m v hv
  refine abs_congr m v fun y hr => ?_
  obtain ⟨o, ho⟩ := Option.isSome_iff_exists.1
    (reach_closed (fun y => (objs y).isSome = true) (fun x o _ => hrefs x o) hr hv)
  exact (hext y o ho).trans ho.symm

theorem Within_mono {ct : ClassTable} {P Q : (Oid → Option Obj) → ClassInfo → Obj → Prop}
    {objs objs' : Oid → Option Obj} (hk : Keeps objs objs')
    (hPQ : ∀ ci o, P objs ci o → Q objs' ci o) :
    ∀ {n m : Nat}, n ≤ m → ∀ v, Within ct P objs n v → Within ct Q objs' m v := by
  intro n
  induction n with
  | zero =>
    intro m _ v h
    cases v with
    | atom a => cases m <;> trivial
    | ref x => exact h.elim
  | succ n ih =>
    intro m hle v h
    cases v with
    | atom a => cases m <;> trivial
    | ref x =>
      obtain ⟨k, rfl⟩ : ∃ k, m = k + 1 := ⟨m - 1, by omega⟩
      obtain ⟨o, ci, ho, hci, hp, hch⟩ := h
      exact ⟨o, ci, hk x o ho, hci, hPQ ci o hp,
        fun c hc => ih (Nat.le_of_succ_le_succ hle) c (hch c hc)⟩

theorem Within_le (ct : ClassTable) (P : (Oid → Option Obj) → ClassInfo → Obj → Prop)
    (objs : Oid → Option Obj) {n m : Nat} (h : n ≤ m) (v : Val) (hv : Within ct P objs n v) :
    Within ct P objs m v :=
  Within_mono (fun _ _ h => h) (fun _ _ h => h) h v hv

theorem Within_of_isAtom {ct : ClassTable} {P : (Oid → Option Obj) → ClassInfo → Obj → Prop}
    (objs : Oid → Option Obj) (n : Nat) {v : Val} (h : v.isAtom = true) : Within ct P objs n v := by
  cases v with
  | atom a => cases n <;> trivial
  | ref y => cases h

theorem Within_def {ct : ClassTable} {P : (Oid → Option Obj) → ClassInfo → Obj → Prop}
    {objs : Oid → Option Obj} {n : Nat} {v : Val} (hv : Within ct P objs n v) :
    ∀ x, v = .ref x → (objs x).isSome = true := by
  intro x hx
  subst hx
  cases n with
  | zero => exact hv.elim
  | succ n =>
    obtain ⟨o, ci, ho, _⟩ := hv
    rw [ho]
    rfl

theorem ImmLeaf_ext {objs objs' : Oid → Option Obj} (hext : Keeps objs objs') (c : Val)
    (h : ImmLeaf objs c) : ImmLeaf objs' c := by
  cases c with
  | atom a => trivial
  | ref y =>
    obtain ⟨o, ho, hm, hc⟩ := h
    exact ⟨o, hext y o ho, hm, hc⟩

/-- The side conditions of the copy hooks speak of the attribute names an object has, of its items where
the hook takes them over as they are, and of the heap only through immutable leaves. -/
theorem CopyOK.transfer {objs objs' : Oid → Option Obj} (hk : Keeps objs objs') {ci : ClassInfo}
    {o o' : Obj} (hattrs : ∀ k, (lookup k o'.attrs).isSome = (lookup k o.attrs).isSome)
    (hitems : ci.kind.copyItems = false → o'.items = o.items) (h : CopyOK objs ci o) :
    CopyOK objs' ci o' := by
  have hnone : ∀ {k}, lookup k o.attrs = none → lookup k o'.attrs = none := fun {k} h0 => by
    have := hattrs k
    rw [h0] at this
    cases h1 : lookup k o'.attrs with
    | none => rfl
    | some v => rw [h1] at this; cases this
  obtain ⟨h1, h2, h3, h4, h5⟩ := h
  refine ⟨fun hi p hp => (hattrs p.1).trans (h1 hi p hp), fun hk' => ?_, fun hk' => ?_,
    fun hk' => ?_, fun hk' => ?_⟩ <;> rw [hitems (by rw [hk']; rfl)]
  · exact ⟨(h2 hk').1, fun k => hnone ((h2 hk').2.1 k), (h2 hk').2.2⟩
  · obtain ⟨d1, d2, d3, d4⟩ := h3 hk'
    exact ⟨d1, (hattrs _).trans d2, fun k hkn => hnone (d3 k hkn), d4⟩
  · exact h4 hk'
  · exact fun c hc => ImmLeaf_ext hk c (h5 hk' c hc)

theorem Within_ext (ct : ClassTable) (objs objs' : Oid → Option Obj)
    (hext : Keeps objs objs') (n : Nat) (v : Val) :
    Within ct CopyOK objs n v → Within ct CopyOK objs' n v :=
  Within_mono hext (fun _ _ => CopyOK.transfer hext (fun _ => rfl) (fun _ => rfl)) (Nat.le_refl n) v

theorem Reach_atom (objs : Oid → Option Obj) (a : Int) (y : Oid) : ¬ Reach objs (.atom a) y := by
  intro h
  cases h

theorem lt_of_defined {objs : Oid → Option Obj} {N : Nat} (hcl : Closed objs N) {x : Oid} {o : Obj}
    (h : objs x = some o) : x < N :=
  Bounded.lt (st := ⟨objs, N, []⟩) hcl.bound h

theorem keeps_of_agree {objs : Oid → Option Obj} {N : Nat} (hcl : Closed objs N)
    {objs' : Oid → Option Obj} (hag : ∀ y, y < N → objs' y = objs y) : Keeps objs objs' :=
  fun x _ ho => (hag x (lt_of_defined hcl ho)).trans ho

theorem Within_old {ct : ClassTable} {P : (Oid → Option Obj) → ClassInfo → Obj → Prop}
    {objs : Oid → Option Obj} {N : Nat} (hcl : Closed objs N) {n : Nat} {v : Val}
    (hv : Within ct P objs n v) : ∀ x, v = .ref x → x < N := by
  intro x hx
  obtain ⟨o, ho⟩ := Option.isSome_iff_exists.1 (Within_def hv x hx)
  exact lt_of_defined hcl ho

/-- Like `abs`, reachability depends only on the reachable part of the heap. -/
theorem Reach_congr {objs objs' : Oid → Option Obj} {v : Val} {z : Oid} (h : Reach objs' v z) :
    (∀ y, Reach objs v y → objs' y = objs y) → Reach objs v z := by
  induction h with
  | here x => exact fun _ => Reach.here x
  | step x o c z ho hc _ ih =>
    intro hag
    have ho' : objs x = some o := (hag x (Reach.here x)).symm.trans ho
    exact Reach.step x o c z ho' hc (ih fun y hr => hag y (Reach.step x o c y ho' hc hr))

theorem _root_.Heap.Closed.reach_lt {objs : Oid → Option Obj} {N : Nat} (hcl : Closed objs N) {v : Val} {y : Oid}
    (h : Reach objs v y) (hv : ∀ x, v = .ref x → x < N) : y < N :=
  reach_closed (· < N) (fun _ _ _ ho _ hy => let ⟨_, hoy⟩ := hcl.get ho hy; lt_of_defined hcl hoy) h hv

theorem Reach_old (objs objs' : Oid → Option Obj) (N : Nat) (hcl : Closed objs N)
    (hag : ∀ y, y < N → objs' y = objs y) (v : Val) (y : Oid) (h : Reach objs' v y)
    (hv : ∀ x, v = .ref x → x < N) : y < N ∧ Reach objs v y :=
  have h0 := Reach_congr h fun y hr => hag y (hcl.reach_lt hr hv)
  ⟨hcl.reach_lt h0 hv, h0⟩

theorem abs_write (objs : Oid → Option Obj) (y : Oid) (w : Obj) :
    ∀ m v, ¬ Reach objs v y → abs (write objs y w) m v = abs objs m v :=
  fun m v hv => abs_congr m v fun _ hr => define_ne _ _ _ (fun e => hv (e ▸ hr))

end Heap.Copy
