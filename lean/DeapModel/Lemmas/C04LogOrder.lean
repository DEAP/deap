/-
C04 lemmas: the vocabulary in which the helpers of the log-time sort are specified (`geOn`, `domOn`,
`Raised`, and `Upd`: what a call may do to the `front` dictionary, with the lemmas that compose calls;
`lexDesc`, `lex2`, `ge2w` for the descending lexicographic order of the sorted fitness list), and
the order facts behind it.
-/
import DeapModel.Lemmas.C04Term

set_option linter.unusedSectionVars false

namespace C04L
open NDSort

variable {α : Type} [Field α] [LinearOrder α] [IsStrictOrderedRing α] [Inhabited α]

/-- `g` is at least as good as `f` on objectives `0..n-1` -/
def geOn (n : Nat) (g f : List α) : Prop := ∀ i, i < n → nth f i ≤ nth g i

/-- `g` dominates `f` on objectives `0..n-1` -/
def domOn (n : Nat) (g f : List α) : Prop := geOn n g f ∧ ∃ i, i < n ∧ nth f i < nth g i

/-- `R f` is `front0 f` raised by the dominators described by `D`:
`R f = max (front0 f) (1 + max {R g | D g})`, written without `max` over a set -/
def Raised (R front0 : List α → Nat) (f : List α) (D : List α → Prop) : Prop :=
  ∀ n, R f ≤ n ↔ front0 f ≤ n ∧ ∀ g, D g → R g + 1 ≤ n

theorem Raised.ge {R front0 : List α → Nat} {f : List α} {D : List α → Prop} (h : Raised R front0 f D) :
    front0 f ≤ R f := ((h (R f)).1 (le_refl _)).1

theorem Raised.lt {R front0 : List α → Nat} {f : List α} {D : List α → Prop} (h : Raised R front0 f D)
    {g : List α} (hg : D g) : R g < R f := ((h (R f)).1 (le_refl _)).2 g hg

theorem Raised.attained {R front0 : List α → Nat} {f : List α} {D : List α → Prop} (h : Raised R front0 f D)
    (hpos : front0 f < R f) : ∃ g, D g ∧ R g + 1 = R f := by
  by_contra hc
  have : R f ≤ R f - 1 := by
    rw [h (R f - 1)]
    refine ⟨by omega, fun g hg => ?_⟩
    have h1 := h.lt hg
    have h2 : R g + 1 ≠ R f := fun e => hc ⟨g, hg, e⟩
    omega
  omega

theorem Raised.congr {R R' front0 front0' : List α → Nat} {f : List α} {D D' : List α → Prop}
    (h : Raised R front0 f D) (hf : R' f = R f) (h0 : front0' f = front0 f)
    (hD : ∀ g, D' g ↔ D g) (hR : ∀ g, D g → R' g = R g) : Raised R' front0' f D' := by
  intro n
  rw [hf, h0, h n]
  constructor
  · rintro ⟨h1, h2⟩; exact ⟨h1, fun g hg => by rw [hR g ((hD g).1 hg)]; exact h2 g ((hD g).1 hg)⟩
  · rintro ⟨h1, h2⟩; exact ⟨h1, fun g hg => by rw [← hR g hg]; exact h2 g ((hD g).2 hg)⟩

theorem Raised.of_forall_not {R front0 : List α → Nat} {f : List α} {D : List α → Prop} (h : ∀ g, ¬ D g)
    (he : R f = front0 f) : Raised R front0 f D :=
  fun _ => he ▸ ⟨fun h1 => ⟨h1, fun g hg => absurd hg (h g)⟩, fun h1 => h1.1⟩

/-- `fr'` is `fr` with the entries of the targets `T` raised by the (final) ranks of their
`D`-predecessors among the sources `A`: `fr' t = max (fr t) (1 + max {fr' a | a ∈ A, D a t})`;
no other entry changes, and no key is added when the targets are keys already. -/
structure Upd (D : List α → List α → Prop) (A T : List (List α)) (fr fr' : FrontDict α) : Prop where
  keys : (∀ t ∈ T, t ∈ dkeys fr) → dkeys fr' = dkeys fr
  frame : ∀ f, f ∉ T → dget fr' 0 f = dget fr 0 f
  raised : ∀ t ∈ T, Raised (fun f => dget fr' 0 f) (fun f => dget fr 0 f) t (fun a => a ∈ A ∧ D a t)

section UpdAlgebra
variable {D D' : List α → List α → Prop} {A A' A₁ A₂ T T' T₁ T₂ : List (List α)}
  {f₀ f₁ f₂ f₃ : FrontDict α}

theorem Upd.refl (h : ∀ t ∈ T, ∀ a ∈ A, ¬ D a t) : Upd D A T f₀ f₀ :=
  ⟨fun _ => rfl, fun _ _ => rfl, fun t ht => Raised.of_forall_not (fun a ha => h t ht a ha.1 ha.2) rfl⟩

/-- only the members of `A`, `T` and the restriction of `D` to `A × T` matter -/
theorem Upd.congr (h : Upd D A T f₀ f₁) (hT : ∀ x, x ∈ T' ↔ x ∈ T)
    (hA : ∀ t ∈ T, ∀ a, (a ∈ A' ∧ D' a t) ↔ (a ∈ A ∧ D a t)) : Upd D' A' T' f₀ f₁ :=
  ⟨fun hk => h.keys fun t ht => hk t ((hT t).2 ht), fun f hf => h.frame f fun hc => hf ((hT f).2 hc),
   fun t ht => (h.raised t ((hT t).1 ht)).congr rfl rfl (hA t ((hT t).1 ht)) fun _ _ => rfl⟩

/-- two groups of targets one after the other: the first group and its predecessors are left alone
by the second call -/
theorem Upd.seq (h₁ : Upd D A T₁ f₀ f₁) (h₂ : Upd D A T₂ f₁ f₂) (hT : ∀ t ∈ T₁, t ∉ T₂)
    (hA : ∀ t ∈ T₁, ∀ a ∈ A, D a t → a ∉ T₂) : Upd D A (T₁ ++ T₂) f₀ f₂ := by
  refine ⟨fun hk => ?_, fun f hf => ?_, fun t ht => ?_⟩
  · have k1 := h₁.keys fun t ht => hk t (List.mem_append_left _ ht)
    rw [h₂.keys fun t ht => k1 ▸ hk t (List.mem_append_right _ ht), k1]
  · rw [h₂.frame f fun hc => hf (List.mem_append_right _ hc), h₁.frame f fun hc => hf (List.mem_append_left _ hc)]
  · rcases List.mem_append.1 ht with ht | ht
    · exact (h₁.raised t ht).congr (h₂.frame t (hT t ht)) rfl (fun _ => Iff.rfl)
        fun a ha => h₂.frame a (hA t ht a ha.1 ha.2)
    · exact (h₂.raised t ht).congr rfl (h₁.frame t fun hc => hT t hc ht).symm (fun _ => Iff.rfl) fun _ _ => rfl

/-- two groups of sources one after the other, for the same targets -/
theorem Upd.src_append (h₁ : Upd D A₁ T f₀ f₁) (h₂ : Upd D A₂ T f₁ f₂) (hA : ∀ a ∈ A₁, a ∉ T) :
    Upd D (A₁ ++ A₂) T f₀ f₂ := by
  refine ⟨fun hk => ?_, fun f hf => by rw [h₂.frame f hf, h₁.frame f hf], fun t ht n => ?_⟩
  · have k1 := h₁.keys hk
    rw [h₂.keys fun t ht => k1 ▸ hk t ht, k1]
  · have r₁ := h₁.raised t ht n
    have r₂ := h₂.raised t ht n
    simp only [] at r₁ r₂ ⊢
    rw [r₂, r₁, and_assoc]
    refine and_congr_right fun _ => ⟨fun ⟨k1, k2⟩ a ⟨ha, hd⟩ => ?_, fun k =>
      ⟨fun a ⟨ha, hd⟩ => ?_, fun a ⟨ha, hd⟩ => k a ⟨List.mem_append_right _ ha, hd⟩⟩⟩
    · rcases List.mem_append.1 ha with ha | ha
      · rw [h₂.frame a (hA a ha)]; exact k1 a ⟨ha, hd⟩
      · exact k2 a ⟨ha, hd⟩
    · rw [← h₂.frame a (hA a ha)]; exact k a ⟨List.mem_append_left _ ha, hd⟩

/-- **Divide and conquer.**  Sources and targets are cut into an upper part (`A₁`, `T₁`) and a lower
part (`A₂`, `T₂`) such that no lower source precedes an upper target.  Upper on upper, then upper
on lower (where the relation may be tested by a simpler one), then lower on lower. -/
theorem Upd.dc (h₁ : Upd D A₁ T₁ f₀ f₁) (h₂ : Upd D' A₁ T₂ f₁ f₂) (h₃ : Upd D A₂ T₂ f₂ f₃)
    (hD : ∀ a ∈ A₁, ∀ t ∈ T₂, D' a t ↔ D a t) (hno : ∀ a ∈ A₂, ∀ t ∈ T₁, ¬ D a t)
    (hT : ∀ t ∈ T₁, t ∉ T₂) (hA : ∀ a ∈ A₁, a ∉ T₂) : Upd D (A₁ ++ A₂) (T₁ ++ T₂) f₀ f₃ := by
  have hup : ∀ t ∈ T₁, ∀ a ∈ A₁ ++ A₂, D a t → a ∈ A₁ := fun t ht a ha hd =>
    (List.mem_append.1 ha).resolve_right fun h => hno a h t ht hd
  have h₂₃ : Upd D (A₁ ++ A₂) T₂ f₁ f₃ :=
    (h₂.congr (fun _ => Iff.rfl) fun t ht a => and_congr_right fun ha => (hD a ha t ht).symm).src_append h₃ hA
  have h₁' : Upd D (A₁ ++ A₂) T₁ f₀ f₁ := h₁.congr (fun _ => Iff.rfl) fun t ht a =>
    ⟨fun ⟨ha, hd⟩ => ⟨hup t ht a ha hd, hd⟩, fun ⟨ha, hd⟩ => ⟨List.mem_append_left _ ha, hd⟩⟩
  exact h₁'.seq h₂₃ hT fun t ht a ha hd => hA a (hup t ht a ha hd)

/-- with sources disjoint from the targets the predecessors keep their old ranks: the form in which
`sortNDHelperB` and `sweepB` are specified -/
theorem Upd.old (h : Upd D A T f₀ f₁) (hA : ∀ a ∈ A, a ∉ T) :
    (∀ f, f ∉ T → dget f₁ 0 f = dget f₀ 0 f) ∧
    ∀ t ∈ T, ∀ n, dget f₁ 0 t ≤ n ↔ dget f₀ 0 t ≤ n ∧ ∀ a ∈ A, D a t → dget f₀ 0 a + 1 ≤ n :=
  ⟨h.frame, fun t ht n => (h.raised t ht n).trans <| and_congr_right fun _ =>
    ⟨fun k a ha hd => h.frame a (hA a ha) ▸ k a ⟨ha, hd⟩,
     fun k a ha => show dget f₁ 0 a + 1 ≤ n from (h.frame a (hA a ha.1)).symm ▸ k a ha.1 ha.2⟩⟩

theorem Upd.of_old (hk : (∀ t ∈ T, t ∈ dkeys f₀) → dkeys f₁ = dkeys f₀) (hA : ∀ a ∈ A, a ∉ T)
    (h : (∀ f, f ∉ T → dget f₁ 0 f = dget f₀ 0 f) ∧
      ∀ t ∈ T, ∀ n, dget f₁ 0 t ≤ n ↔ dget f₀ 0 t ≤ n ∧ ∀ a ∈ A, D a t → dget f₀ 0 a + 1 ≤ n) :
    Upd D A T f₀ f₁ :=
  ⟨hk, h.1, fun t ht n => (h.2 t ht n).trans <| and_congr_right fun _ =>
    ⟨fun k a ha => show dget f₁ 0 a + 1 ≤ n from (h.1 a (hA a ha.1)).symm ▸ k a ha.1 ha.2,
     fun k a ha hd => h.1 a (hA a ha) ▸ k a ⟨ha, hd⟩⟩⟩

/-- one conditional `front[t] = max(front[t], front[a] + 1)` -/
theorem Upd.bump_if (a t : List α) (fr : FrontDict α) (c : Prop) [Decidable c] (hc : c ↔ D a t) (hne : a ≠ t) :
    Upd D [a] [t] fr (if c then bump fr t a else fr) := by
  refine ⟨fun hk => ?_, fun f hf => ?_, fun x hx n => ?_⟩
  · split
    · exact keys_bump _ _ _ (hk t (by simp))
    · rfl
  · have : f ≠ t := fun e => hf (by simp [e])
    split
    · exact dget_bump_ne _ _ _ this
    · rfl
  · rw [List.mem_singleton] at hx; subst hx
    simp only [List.mem_singleton]
    by_cases h : c
    · rw [if_pos h, dget_bump_le, ← dget_bump_ne fr x a hne]
      exact and_congr_right fun _ => ⟨fun k g ⟨hg, _⟩ => hg ▸ k, fun k => k a ⟨rfl, hc.1 h⟩⟩
    · rw [if_neg h]
      exact ⟨fun k => ⟨k, fun g ⟨hg, hd⟩ => absurd (hc.2 (hg ▸ hd)) h⟩, fun k => k.1⟩

/-- a loop over sources, one target -/
theorem Upd.foldl_src (t : List α) (step : FrontDict α → List α → FrontDict α) :
    ∀ (A : List (List α)) (fr : FrontDict α), (∀ fr, ∀ a ∈ A, a ≠ t → Upd D [a] [t] fr (step fr a)) → t ∉ A →
      Upd D A [t] fr (A.foldl step fr)
  | [], fr, _, _ => Upd.refl (by simp)
  | a :: A, fr, h, ht =>
    have hne : a ≠ t := fun e => ht (by simp [e])
    (h fr a (by simp) hne).src_append
      (Upd.foldl_src t step A (step fr a) (fun fr a ha => h fr a (by simp [ha])) fun hc => ht (by simp [hc]))
      (by simpa using hne)

/-- a loop over targets, the sources fixed and disjoint from them -/
theorem Upd.foldl_tgt (A : List (List α)) (step : FrontDict α → List α → FrontDict α) :
    ∀ (T : List (List α)) (fr : FrontDict α), (∀ fr, ∀ t ∈ T, t ∉ A → Upd D A [t] fr (step fr t)) → T.Nodup →
      (∀ a ∈ A, a ∉ T) → Upd D A T fr (T.foldl step fr)
  | [], fr, _, _, _ => Upd.refl (by simp)
  | t :: T, fr, h, hnd, hA =>
    (h fr t (by simp) fun hc => hA t hc (by simp)).seq
      (Upd.foldl_tgt A step T (step fr t) (fun fr t ht => h fr t (by simp [ht])) (List.nodup_cons.1 hnd).2
        fun a ha hc => hA a ha (by simp [hc]))
      (by simpa using (List.nodup_cons.1 hnd).1) fun _ _ a ha _ hc => hA a ha (by simp [hc])

end UpdAlgebra

theorem nth_cons_succ (x : α) (xs : List α) (i : Nat) : nth (x :: xs) (i + 1) = nth xs i := rfl

theorem nth_cons_zero (x : α) (xs : List α) : nth (x :: xs) 0 = x := rfl

theorem nth_take (f : List α) (n i : Nat) (hi : i < n) : nth (f.take n) i = nth f i := by
  rw [nth, nth, List.getD_eq_getElem?_getD, List.getD_eq_getElem?_getD, List.getElem?_take, if_pos hi]

theorem geOn_succ (n : Nat) (g f : List α) : geOn (n + 1) g f ↔ geOn n g f ∧ nth f n ≤ nth g n := by
  constructor
  · intro h; exact ⟨fun i hi => h i (by omega), h n (by omega)⟩
  · rintro ⟨h1, h2⟩ i hi
    by_cases e : i = n
    · subst e; exact h2
    · exact h1 i (by omega)

theorem geOn_zero (g f : List α) : geOn 0 g f := fun i hi => by omega

theorem geOn_two (g f : List α) : geOn 2 g f ↔ nth f 0 ≤ nth g 0 ∧ nth f 1 ≤ nth g 1 := by
  rw [geOn_succ, geOn_succ]; simp [geOn_zero]

theorem domOn_irrefl (n : Nat) (f : List α) : ¬ domOn n f f := by
  rintro ⟨_, i, _, h⟩; exact lt_irrefl _ h

theorem domOn_two (g f : List α) :
    domOn 2 g f ↔ nth f 0 ≤ nth g 0 ∧ nth f 1 ≤ nth g 1 ∧ (nth f 0 < nth g 0 ∨ nth f 1 < nth g 1) := by
  simp only [domOn, geOn_two]
  constructor
  · rintro ⟨⟨h0, h1⟩, i, hi, hlt⟩
    refine ⟨h0, h1, ?_⟩
    have : i = 0 ∨ i = 1 := by omega
    rcases this with rfl | rfl
    · exact Or.inl hlt
    · exact Or.inr hlt
  · rintro ⟨h0, h1, h | h⟩
    · exact ⟨⟨h0, h1⟩, 0, by omega, h⟩
    · exact ⟨⟨h0, h1⟩, 1, by omega, h⟩

theorem domOn_succ_of_eq (n : Nat) (g f : List α) (he : nth g n = nth f n) :
    domOn (n + 1) g f ↔ domOn n g f := by
  simp only [domOn, geOn_succ]
  constructor
  · rintro ⟨⟨h1, _⟩, i, hi, hlt⟩
    refine ⟨h1, i, ?_, hlt⟩
    by_contra hc
    have : i = n := by omega
    subst this; rw [he] at hlt; exact lt_irrefl _ hlt
  · rintro ⟨h1, i, hi, hlt⟩
    exact ⟨⟨h1, le_of_eq he.symm⟩, i, by omega, hlt⟩

/-- strict lexicographic "comes before" on the first two objectives (descending order) -/
def lex2 (g f : List α) : Prop := nth f 0 < nth g 0 ∨ (nth f 0 = nth g 0 ∧ nth f 1 < nth g 1)

/-- weakly "comes before" on the first two objectives (descending) -/
def ge2w (a b : List α) : Prop := nth b 0 < nth a 0 ∨ (nth b 0 = nth a 0 ∧ nth b 1 ≤ nth a 1)

theorem lex2_irrefl (f : List α) : ¬ lex2 f f := by
  rintro (h | ⟨_, h⟩) <;> exact lt_irrefl _ h

theorem domOn_two_of_lex2 {g f : List α} (h : lex2 g f) : domOn 2 g f ↔ nth f 1 ≤ nth g 1 := by
  rw [domOn_two]
  rcases h with h | ⟨h0, h1⟩
  · exact ⟨fun hh => hh.2.1, fun hh => ⟨le_of_lt h, hh, Or.inl h⟩⟩
  · exact ⟨fun hh => hh.2.1, fun hh => ⟨le_of_eq h0, hh, Or.inr h1⟩⟩

theorem not_domOn_two_of_lex2 {g f : List α} (h : lex2 g f) : ¬ domOn 2 f g := by
  rw [domOn_two]
  rintro ⟨h0, h1, _⟩
  rcases h with h | ⟨e, h⟩
  · exact absurd h (not_lt.2 h0)
  · exact absurd h (not_lt.2 h1)

theorem ge2w.le0 {a b : List α} (h : ge2w a b) : nth b 0 ≤ nth a 0 := h.elim le_of_lt fun h => le_of_eq h.1

theorem ge2w_of_ge2w_of_geOn {a b h : List α} (hab : ge2w a b) (hge : geOn 2 b h) : ge2w a h := by
  rw [geOn_two] at hge
  rcases hab with h1 | ⟨h1, h2⟩
  · exact Or.inl (lt_of_le_of_lt hge.1 h1)
  · rcases lt_or_eq_of_le hge.1 with h3 | h3
    · exact Or.inl (h1 ▸ h3)
    · exact Or.inr ⟨h1 ▸ h3, le_trans hge.2 h2⟩

/-- the loop condition `h[:2] <= next_best[:2]` of `sweepB` -/
theorem tupleLe_take2 (h b : List α) (hh : 2 ≤ h.length) (hb : 2 ≤ b.length) :
    Py.tupleLe (h.take 2) (b.take 2) = true ↔ ge2w b h := by
  obtain ⟨h0, h1, hr, rfl⟩ : ∃ h0 h1 hr, h = h0 :: h1 :: hr := by
    match h, hh with
    | a :: b :: r, _ => exact ⟨a, b, r, rfl⟩
  obtain ⟨b0, b1, br, rfl⟩ : ∃ b0 b1 br, b = b0 :: b1 :: br := by
    match b, hb with
    | a :: b :: r, _ => exact ⟨a, b, r, rfl⟩
  simp only [List.take_succ_cons, List.take_zero, Py.tupleLe, ge2w, nth_cons_zero, nth_cons_succ]
  by_cases e0 : h0 = b0
  · subst e0
    by_cases e1 : h1 = b1
    · subst e1; simp
    · simp [e1]
  · simp only [e0, ↓reduceIte, decide_eq_true_eq]
    exact ⟨fun hle => Or.inl (lt_of_le_of_ne hle e0), fun hh => hh.elim le_of_lt fun hh => hh.1.elim⟩

/-- `a` comes strictly before `b` in the descending lexicographic order -/
def lexDesc (a b : List α) : Prop := Py.tupleLt b a = true

/-- `fitnesses.sort(reverse=True)` on distinct tuples is strictly descending. -/
theorem sorted_desc (l : List (List α)) (hnd : l.Nodup) :
    (l.mergeSort (fun a b => !Py.tupleLt a b)).Pairwise lexDesc := by
  refine ((List.pairwise_mergeSort_key OrderDual.toDual (fun a b => Py.tupleLt b a)
    (fun a b => C01.tupleLt_iff_lt b a) l).and ((List.mergeSort_perm _ _).nodup_iff.2 hnd)).imp ?_
  intro a b ⟨h1, h2⟩
  exact (C01.tupleLt_iff_lt b a).2 (lt_of_le_of_ne h1 (Ne.symm h2))

theorem lexDesc_irrefl (a : List α) : ¬ lexDesc a a := by
  rw [lexDesc, C01.tupleLt_iff_lt]; exact lt_irrefl a

theorem nodup_of_lexDesc {l : List (List α)} (h : l.Pairwise lexDesc) : l.Nodup :=
  h.imp (fun {a b} hab (e : a = b) => lexDesc_irrefl b (e ▸ hab))

/-- for tuples of one length, `<` is decided at the first differing objective -/
theorem tupleLt_first_diff : ∀ (a b : List α), a.length = b.length → Py.tupleLt a b = true →
    ∃ i, i < a.length ∧ (∀ j, j < i → nth a j = nth b j) ∧ nth a i < nth b i
  | [], [], _, h => by simp [Py.tupleLt] at h
  | [], _ :: _, hl, _ => by simp at hl
  | _ :: _, [], hl, _ => by simp at hl
  | x :: xs, y :: ys, hl, h => by
    simp only [Py.tupleLt] at h
    by_cases e : x = y
    · subst e
      simp only [↓reduceIte] at h
      obtain ⟨i, hi, h1, h2⟩ := tupleLt_first_diff xs ys (by simpa using hl) h
      refine ⟨i + 1, by simp; omega, ?_, by simpa [nth_cons_succ] using h2⟩
      intro j hj
      cases j with
      | zero => simp [nth_cons_zero]
      | succ j => rw [nth_cons_succ, nth_cons_succ]; exact h1 j (by omega)
    · simp only [e, ↓reduceIte, decide_eq_true_eq] at h
      exact ⟨0, by simp, fun j hj => by omega, by simpa [nth_cons_zero] using h⟩

theorem lexDesc_first_diff (m n : Nat) (a b : List α) (ha : a.length = m) (hb : b.length = m)
    (hlex : lexDesc a b) (hagree : ∀ i, n ≤ i → i < m → nth a i = nth b i) :
    ∃ i, i < n ∧ (∀ j, j < i → nth b j = nth a j) ∧ nth b i < nth a i := by
  obtain ⟨i, hi, h1, h2⟩ := tupleLt_first_diff b a (by rw [ha, hb]) hlex
  refine ⟨i, ?_, h1, h2⟩
  by_contra hc
  rw [hagree i (by omega) (hb ▸ hi)] at h2; exact lt_irrefl _ h2

/-- A later element of the sorted list is never at least as good as an earlier one on the first
`n` objectives when both agree on all further objectives. -/
theorem not_geOn_of_lexDesc (m n : Nat) (a b : List α) (ha : a.length = m) (hb : b.length = m)
    (hlex : lexDesc a b) (hagree : ∀ i, n ≤ i → i < m → nth a i = nth b i) : ¬ geOn n b a := by
  intro hge
  obtain ⟨i, hi, -, h2⟩ := lexDesc_first_diff m n a b ha hb hlex hagree
  exact absurd (hge i hi) (not_le.2 h2)

theorem lex2_of_lexDesc (m : Nat) (a b : List α) (ha : a.length = m) (hb : b.length = m)
    (hlex : lexDesc a b) (hagree : ∀ i, 2 ≤ i → i < m → nth a i = nth b i) : lex2 a b := by
  obtain ⟨i, hi, h1, h2⟩ := lexDesc_first_diff m 2 a b ha hb hlex hagree
  have : i = 0 ∨ i = 1 := by omega
  rcases this with rfl | rfl
  · exact Or.inl h2
  · exact Or.inr ⟨h1 0 (by omega), h2⟩

theorem ge2_of_lexDesc (m : Nat) (a b : List α) (ha : a.length = m) (hb : b.length = m)
    (hlex : lexDesc a b) : ge2w a b := by
  obtain ⟨i, hi, h1, h2⟩ := tupleLt_first_diff b a (by rw [ha, hb]) hlex
  match i, h1, h2 with
  | 0, _, h2 => exact Or.inl h2
  | 1, h1, h2 => exact Or.inr ⟨h1 0 (by omega), le_of_lt h2⟩
  | i + 2, h1, _ => exact Or.inr ⟨h1 0 (by omega), le_of_eq (h1 1 (by omega))⟩

theorem isDominatedLoop_iff : ∀ (w1 w2 : List α) (ne : Bool), w1.length = w2.length →
    (isDominatedLoop w1 w2 ne = true ↔
      (∀ i, i < w1.length → nth w1 i ≤ nth w2 i) ∧ (ne = true ∨ ∃ i, i < w1.length ∧ nth w1 i < nth w2 i))
  | [], [], ne, _ => by simp [isDominatedLoop]
  | [], _ :: _, _, hl => by simp at hl
  | _ :: _, [], _, hl => by simp at hl
  | a :: as, b :: bs, ne, hl => by
    have hl' : as.length = bs.length := by simpa using hl
    simp only [isDominatedLoop, List.length_cons, Nat.forall_lt_succ_left, Nat.exists_lt_succ_left,
      nth_cons_zero, nth_cons_succ]
    by_cases h1 : b < a
    · simp [h1, not_le.2 h1]
    · by_cases h2 : a < b
      · simp only [h1, h2, ↓reduceIte]
        rw [isDominatedLoop_iff as bs true hl']
        simp [le_of_lt h2]
      · simp only [h1, h2, ↓reduceIte]
        rw [isDominatedLoop_iff as bs ne hl']
        simp [not_lt.1 h1]

/-- `isDominated(f[:n], g[:n])` says that `g` dominates `f` on the first `n` objectives -/
theorem isDominated_take_iff (n : Nat) (f g : List α) (hf : n ≤ f.length) (hg : n ≤ g.length) :
    isDominated (f.take n) (g.take n) = true ↔ domOn n g f := by
  have hn : (f.take n).length = n := by simp [Nat.min_eq_left hf]
  rw [isDominated, isDominatedLoop_iff _ _ _ (by simp [Nat.min_eq_left hf, Nat.min_eq_left hg]), hn]
  simp only [Bool.false_eq_true, false_or, domOn, geOn]
  refine and_congr (forall₂_congr fun j hj => ?_) (exists_congr fun i => and_congr_right fun hi => ?_)
  · rw [nth_take _ _ _ hj, nth_take _ _ _ hj]
  · rw [nth_take _ _ _ hi, nth_take _ _ _ hi]

theorem take_eq_take_iff (n : Nat) (f g : List α) (hf : n ≤ f.length) (hg : n ≤ g.length) :
    f.take n = g.take n ↔ ∀ i, i < n → nth f i = nth g i := by
  constructor
  · intro h i hi
    rw [← nth_take f n i hi, ← nth_take g n i hi, h]
  · intro h
    apply List.ext_getElem
    · simp [Nat.min_eq_left hf, Nat.min_eq_left hg]
    · intro i h1 h2
      have hi : i < n := by simp at h1; omega
      have := h i hi
      simp only [nth, List.getD_eq_getElem?_getD] at this
      rw [List.getElem?_eq_getElem (by omega), List.getElem?_eq_getElem (by omega)] at this
      simpa using this

/-- the test of `sortNDHelperB`'s direct branch: "dominated or equal on the first `n` objectives"
is `geOn` -/
theorem dominated_or_equal_iff (n : Nat) (f g : List α) (hf : n ≤ f.length) (hg : n ≤ g.length) :
    (isDominated (f.take n) (g.take n) || f.take n == g.take n) = true ↔ geOn n g f := by
  simp only [Bool.or_eq_true, beq_iff_eq, isDominated_take_iff n f g hf hg, take_eq_take_iff n f g hf hg]
  constructor
  · rintro (h | h)
    · exact h.1
    · intro i hi; exact le_of_eq (h i hi)
  · intro h
    by_cases he : ∀ i, i < n → nth f i = nth g i
    · exact Or.inr he
    · left
      have he' : ∃ i, i < n ∧ nth f i ≠ nth g i := by
        by_contra hc
        exact he (fun i hi => by_contra (fun hne => hc ⟨i, hi, hne⟩))
      obtain ⟨i, hi, hne⟩ := he'
      exact ⟨h, i, hi, lt_of_le_of_ne (h i hi) hne⟩

/-- on tuples of length `m`, dominance of C01 is dominance on all `m` objectives -/
theorem domW_iff_domOn (m : Nat) (g f : List α) (hg : g.length = m) (hf : f.length = m) :
    domW g f = true ↔ domOn m g f := by
  rw [show domW g f = isDominated f g from (isDominatedLoop_eq_dominatesLoop f g false).symm]
  have := isDominated_take_iff m f g (by omega) (by omega)
  rwa [List.take_of_length_le (by omega), List.take_of_length_le (by omega)] at this

end C04L
