/-
C07 (NSGA-III reference points): `uniform_reference_points(nobj, p, scaling)` produces the
Das–Dennis simplex lattice: `C(nobj + p - 1, p)` pairwise distinct points with `nobj` non-negative
coordinates summing to one.
-/
import DeapModel.Core.Nsga3
import Mathlib.Data.Nat.Choose.Basic
import Mathlib.Data.List.Nodup
import Mathlib.Algebra.Order.Field.Rat
import Mathlib.Tactic.Ring

namespace C07L
open Nsga3

/-- hockey-stick identity in the shape produced by `List.length_flatMap` on `genRefs`. -/
theorem hockey (rem : Nat) : ∀ left : Nat,
    ((List.range (left + 1)).map (fun i => Nat.choose (rem + (left - i)) (left - i))).sum
      = Nat.choose (rem + 1 + left) left := by
  intro left
  induction left with
  | zero => simp
  | succ n ih =>
    rw [List.range_succ_eq_map, List.map_cons, List.sum_cons, List.map_map]
    have h : ((fun i => Nat.choose (rem + (n + 1 - i)) (n + 1 - i)) ∘ Nat.succ)
        = (fun i => Nat.choose (rem + (n - i)) (n - i)) := by
      funext i
      simp [Nat.succ_sub_succ]
    rw [h, ih]
    have e1 : rem + (n + 1) = rem + 1 + n := by omega
    have e2 : rem + 1 + (n + 1) = (rem + 1 + n) + 1 := by omega
    rw [Nat.sub_zero, e1, e2, Nat.choose_succ_succ (rem + 1 + n) n, Nat.add_comm]

theorem genRefs_length (total : Nat) : ∀ (rem : Nat) (ref : List Rat) (left depth : Nat),
    (genRefs total rem ref left depth).length = Nat.choose (rem + left) left := by
  intro rem
  induction rem with
  | zero => intro ref left depth; simp [genRefs]
  | succ rem ih =>
    intro ref left depth
    simp only [genRefs, List.length_flatMap, ih, Nat.sub_eq]
    exact hockey rem left

theorem take_succ_set (ref : List Rat) (depth : Nat) (v : Rat) (h : depth < ref.length) :
    (ref.set depth v).take (depth + 1) = ref.take depth ++ [v] := by
  have h' : depth < (ref.set depth v).length := by simpa using h
  rw [List.take_succ_eq_append_getElem h', List.take_set_of_le (Nat.le_refl _),
    List.getElem_set_self]

theorem genRefs_spec (total : Nat) : ∀ (rem : Nat) (ref : List Rat) (left depth : Nat),
    ref.length = depth + rem + 1 →
    ∀ pt ∈ genRefs total rem ref left depth,
      ∃ tail : List Rat, pt = ref.take depth ++ tail ∧ tail.length = rem + 1 ∧
        tail.sum = (left : Rat) / (total : Rat) ∧ ∀ x ∈ tail, 0 ≤ x := by
  intro rem
  induction rem with
  | zero =>
    intro ref left depth hlen pt hpt
    simp only [genRefs, List.mem_singleton] at hpt
    refine ⟨[(left : Rat) / (total : Rat)], ?_, rfl, by simp, ?_⟩
    · have hd : depth < ref.length := by omega
      have hdrop : ref.drop (depth + 1) = [] := List.drop_eq_nil_of_le (by omega)
      rw [hpt, List.set_eq_take_append_cons_drop, if_pos hd, hdrop]
    · intro x hx
      rw [List.mem_singleton] at hx
      subst hx
      exact div_nonneg (Nat.cast_nonneg _) (Nat.cast_nonneg _)
  | succ rem ih =>
    intro ref left depth hlen pt hpt
    simp only [genRefs, List.mem_flatMap, List.mem_range] at hpt
    obtain ⟨i, hi, hpt⟩ := hpt
    have hd : depth < ref.length := by omega
    obtain ⟨tail, h1, h2, h3, h4⟩ :=
      ih (ref.set depth ((i : Rat) / (total : Rat))) (left - i) (depth + 1)
        (by rw [List.length_set]; omega) pt hpt
    refine ⟨((i : Rat) / (total : Rat)) :: tail, ?_, by simp [h2], ?_, ?_⟩
    · rw [h1, take_succ_set ref depth _ hd, List.append_assoc]; rfl
    · rw [List.sum_cons, h3, Nat.cast_sub (by omega), ← add_div]
      ring
    · intro x hx
      rcases List.mem_cons.1 hx with hx | hx
      · subst hx
        exact div_nonneg (Nat.cast_nonneg _) (Nat.cast_nonneg _)
      · exact h4 x hx

theorem genRefs_branch (total rem : Nat) (ref : List Rat) (left depth : Nat) (v : Rat)
    (hlen : ref.length = depth + (rem + 1) + 1) :
    ∀ pt ∈ genRefs total rem (ref.set depth v) left (depth + 1),
      ∃ tail : List Rat, pt = (ref.take depth ++ [v]) ++ tail := by
  intro pt hpt
  obtain ⟨tail, h1, _⟩ :=
    genRefs_spec total rem (ref.set depth v) left (depth + 1)
      (by rw [List.length_set]; omega) pt hpt
  exact ⟨tail, by rw [h1, take_succ_set ref depth v (by omega)]⟩

theorem genRefs_nodup (total : Nat) (ht : total ≠ 0) :
    ∀ (rem : Nat) (ref : List Rat) (left depth : Nat),
      ref.length = depth + rem + 1 → (genRefs total rem ref left depth).Nodup := by
  intro rem
  induction rem with
  | zero => intro ref left depth _; simp [genRefs]
  | succ rem ih =>
    intro ref left depth hlen
    simp only [genRefs]
    rw [List.nodup_flatMap]
    refine ⟨fun i _ => ih _ _ _ (by rw [List.length_set]; omega), ?_⟩
    refine List.Pairwise.imp_of_mem ?_ (List.nodup_range (n := left + 1))
    intro i j _ _ hij
    show List.Disjoint _ _
    intro pt hi hj
    obtain ⟨t1, e1⟩ := genRefs_branch total rem ref _ depth _ hlen pt hi
    obtain ⟨t2, e2⟩ := genRefs_branch total rem ref _ depth _ hlen pt hj
    have := (List.append_inj (e1.symm.trans e2) (by simp)).1
    have hv : (i : Rat) / (total : Rat) = (j : Rat) / (total : Rat) := by
      simpa using this
    exact hij (Nat.cast_injective ((div_left_inj' (Nat.cast_ne_zero.2 ht)).1 hv))

theorem base_mem (nobj p : Nat) (hn : 1 ≤ nobj) :
    ∀ pt ∈ genRefs p (nobj - 1) (List.replicate nobj 0) p 0,
      pt.length = nobj ∧ pt.sum = (p : Rat) / (p : Rat) ∧ ∀ x ∈ pt, 0 ≤ x := by
  intro pt hpt
  obtain ⟨tail, h1, h2, h3, h4⟩ :=
    genRefs_spec p (nobj - 1) (List.replicate nobj 0) p 0 (by simp; omega) pt hpt
  have : pt = tail := by simpa using h1
  subst this
  exact ⟨by omega, h3, h4⟩

theorem sum_map_affine (s c : Rat) : ∀ l : List Rat,
    (l.map (fun x => x * s + c)).sum = l.sum * s + (l.length : Rat) * c := by
  intro l
  induction l with
  | nil => simp
  | cons a l ih =>
    simp only [List.map_cons, List.sum_cons, ih, List.length_cons, Nat.cast_succ]
    ring

example : (uniformRefPoints 3 2 none).length = 6 := by decide
example : (uniformRefPoints 3 4 (some (1 / 2))).length = Nat.choose 6 4 := by decide +kernel
example : ∀ pt ∈ uniformRefPoints 3 2 none, pt.length = 3 := by decide
example : ∀ pt ∈ uniformRefPoints 3 2 none, pt.sum = 1 := by decide +kernel
example : ∀ pt ∈ uniformRefPoints 3 2 none, ∀ x ∈ pt, 0 ≤ x := by decide +kernel
example : ∀ pt ∈ uniformRefPoints 3 2 (some (1 / 2)), ∀ x ∈ pt, 0 ≤ x := by decide +kernel
example : (uniformRefPoints 3 2 none).Nodup := by decide +kernel
example : (uniformRefPoints 3 2 (some (1 / 2))).Nodup := by decide +kernel

end C07L
