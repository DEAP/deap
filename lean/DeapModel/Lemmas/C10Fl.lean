/-
C10 — the sum clause and the blend range clause under the standard model of floating-point arithmetic.

`FlModel`: real-valued operations `fadd`, `fsub`, `fmul` with `fl(a op b) = (a op b)(1 + d)`, `|d| ≤ u`, and for a
product additionally an absolute term `|η| ≤ nu` (a product may underflow; sums and differences of floats are exact
when they are subnormal).  No overflow.  binary64, round to nearest: `u = 2^-53`, `nu = 2^-1075`.
`FlNum M` carries the model in its type; its `RealLike` instance runs the model definitions `RealOps.blendPair`,
`RealOps.sbxPair` (transcribed from the Python source, same operation order) with the rounded operations.

Range clause: `gamma` as the code computes it is within `gammaErr` of the exact `(1 + 2 alpha) r - alpha`, each child is
within `7/2 u (1 + |gamma|)(|x1| + |x2|) + 9/4 nu` of the exact combination, hence inside the parental interval widened
by `alpha` times its width plus `blendRangeErr`.
-/
import DeapModel.Lemmas.C10Real

namespace RealOps

/-- the standard model of floating-point arithmetic (with gradual underflow of products) -/
structure FlModel where
  /-- unit roundoff -/
  u : ℝ
  /-- largest absolute error of an underflowing product -/
  nu : ℝ
  fadd : ℝ → ℝ → ℝ
  fsub : ℝ → ℝ → ℝ
  fmul : ℝ → ℝ → ℝ
  fdiv : ℝ → ℝ → ℝ
  fpow : ℝ → ℝ → ℝ
  u_nonneg : 0 ≤ u
  nu_nonneg : 0 ≤ nu
  add_spec : ∀ a b, ∃ d, |d| ≤ u ∧ fadd a b = (a + b) * (1 + d)
  sub_spec : ∀ a b, ∃ d, |d| ≤ u ∧ fsub a b = (a - b) * (1 + d)
  mul_spec : ∀ a b, ∃ d e, |d| ≤ u ∧ |e| ≤ nu ∧ fmul a b = (a * b) * (1 + d) + e

/-- a real number computed with the operations of `M` -/
structure FlNum (M : FlModel) where
  val : ℝ

noncomputable instance (M : FlModel) : RealLike (FlNum M) where
  add a b := ⟨M.fadd a.val b.val⟩
  sub a b := ⟨M.fsub a.val b.val⟩
  mul a b := ⟨M.fmul a.val b.val⟩
  div a b := ⟨M.fdiv a.val b.val⟩
  neg a := ⟨-a.val⟩
  lt a b := a.val < b.val
  le a b := a.val ≤ b.val
  ofNat n := ⟨(n : ℝ)⟩
  ofRatio n d := ⟨(n : ℝ) / (d : ℝ)⟩
  sqrt a := ⟨Real.sqrt a.val⟩
  exp a := ⟨Real.exp a.val⟩
  log a := ⟨Real.log a.val⟩
  sin a := ⟨Real.sin a.val⟩
  cos a := ⟨Real.cos a.val⟩
  pi := ⟨Real.pi⟩
  pow a b := ⟨M.fpow a.val b.val⟩
  abs a := ⟨|a.val|⟩
  decLt := fun _ _ => Classical.dec _
  decLe := fun _ _ => Classical.dec _

variable {M : FlModel}

theorem fl_add (a b : FlNum M) : @HAdd.hAdd (FlNum M) (FlNum M) (FlNum M) (@instHAdd (FlNum M) RealLike.toAdd) a b = ⟨M.fadd a.val b.val⟩ := rfl
theorem fl_sub (a b : FlNum M) : @HSub.hSub (FlNum M) (FlNum M) (FlNum M) (@instHSub (FlNum M) RealLike.toSub) a b = ⟨M.fsub a.val b.val⟩ := rfl
theorem fl_mul (a b : FlNum M) : @HMul.hMul (FlNum M) (FlNum M) (FlNum M) (@instHMul (FlNum M) RealLike.toMul) a b = ⟨M.fmul a.val b.val⟩ := rfl
theorem fl_one : (one : FlNum M) = ⟨1⟩ := congrArg FlNum.mk Nat.cast_one
theorem fl_two : (two : FlNum M) = ⟨2⟩ := congrArg FlNum.mk Nat.cast_ofNat
theorem fl_half : (half : FlNum M) = ⟨1 / 2⟩ :=
  congrArg FlNum.mk (by rw [Int.cast_one, Nat.cast_ofNat])

def Rel (u : ℝ) (k : Nat) (e : ℝ) : Prop := |e| ≤ (1 + u) ^ k - 1

theorem Rel.zero {u : ℝ} : Rel u 0 0 := by unfold Rel; simp

theorem Rel.mono {u e : ℝ} {k j : Nat} (hu : 0 ≤ u) (h : Rel u k e) (hkj : k ≤ j) : Rel u j e :=
  h.trans (sub_le_sub_right (pow_le_pow_right₀ (le_add_of_nonneg_right hu) hkj) 1)

theorem Rel.abs_le {u e : ℝ} {k : Nat} (h : Rel u k e) : |e| ≤ (1 + u) ^ k - 1 := h

theorem abs_mul_le' {x y A B : ℝ} (hx : |x| ≤ A) (hy : |y| ≤ B) : |x * y| ≤ A * B := by
  rw [abs_mul]; exact mul_le_mul hx hy (abs_nonneg _) (le_trans (abs_nonneg _) hx)

theorem abs_one_add_le {d u : ℝ} (h : |d| ≤ u) : |1 + d| ≤ 1 + u :=
  (abs_add_le 1 d).trans (by rw [abs_one]; exact add_le_add_right h 1)

theorem abs_one_sub_le (g : ℝ) : |1 - g| ≤ 1 + |g| := by
  have := abs_sub (1 : ℝ) g; rwa [abs_one] at this

theorem Rel.exact {u : ℝ} : Rel u 0 ((1 : ℝ) - 1) := by rw [sub_self]; exact Rel.zero

theorem Rel.rnd {u d : ℝ} (h : |d| ≤ u) : Rel u 1 (1 + d - 1) := by
  rw [add_sub_cancel_left]; unfold Rel; rwa [pow_one, add_sub_cancel_left]

theorem Rel.mul {u w w' : ℝ} {k j : Nat} (ha : Rel u k (w - 1)) (hb : Rel u j (w' - 1)) :
    Rel u (k + j) (w * w' - 1) := by
  have e : w * w' - 1 = (w - 1) + (w' - 1) + (w - 1) * (w' - 1) := by ring
  have h := abs_mul_le' ha hb
  unfold Rel at *
  rw [e, pow_add]
  linarith only [abs_add_three (w - 1) (w' - 1) ((w - 1) * (w' - 1)), ha, hb, h]

/-- each power of `u` is at most an eighth of the one before -/
theorem pow2_bound {u : ℝ} (h0 : 0 ≤ u) (h1 : u ≤ 1 / 8) : (1 + u) ^ 2 - 1 ≤ 5 / 2 * u := by
  have h2 := mul_le_mul_of_nonneg_left h1 h0
  linarith only [h2, h0]
theorem pow3_bound {u : ℝ} (h0 : 0 ≤ u) (h1 : u ≤ 1 / 8) : (1 + u) ^ 3 - 1 ≤ 7 / 2 * u := by
  have h2 := mul_le_mul_of_nonneg_left h1 h0
  have h3 := mul_le_mul_of_nonneg_left h2 h0
  linarith only [h2, h3, h0]
theorem pow4_bound {u : ℝ} (h0 : 0 ≤ u) (h1 : u ≤ 1 / 8) : (1 + u) ^ 4 - 1 ≤ 5 * u := by
  have h2 := mul_le_mul_of_nonneg_left h1 h0
  have h3 := mul_le_mul_of_nonneg_left h2 h0
  have h4 := mul_le_mul_of_nonneg_left h3 h0
  linarith only [h2, h3, h4, h0]

theorem kappa_le {u : ℝ} (hu : u ≤ 1 / 8) : 1 + u ≤ 9 / 8 :=
  (add_le_add le_rfl hu).trans_eq (by norm_num)

/-! `Lin1 u j n v s`: the computed `v` is the exact `s` times `j` rounding factors, plus an absolute part of at most `n`
(products may underflow).  `Lin2 u j k n v s t`: the same for a sum `s + t` whose terms carry `j` resp. `k` factors.
`κ` is any bound of `1 + u`; the theorems put in `9/8`. -/

def Lin1 (u : ℝ) (j : Nat) (n v s : ℝ) : Prop :=
  ∃ w e, Rel u j (w - 1) ∧ |e| ≤ n ∧ v = s * w + e

def Lin2 (u : ℝ) (j k : Nat) (n v s t : ℝ) : Prop :=
  ∃ w w' e, Rel u j (w - 1) ∧ Rel u k (w' - 1) ∧ |e| ≤ n ∧ v = s * w + t * w' + e

theorem Lin1.exact {u : ℝ} (c : ℝ) : Lin1 u 0 0 c c :=
  ⟨1, 0, Rel.exact, by rw [abs_zero], by ring⟩

theorem Lin1.fmul (M : FlModel) {p P w : ℝ} {j : Nat} (hp : p = P * w) (hw : Rel M.u j (w - 1)) (x : ℝ) :
    Lin1 M.u (j + 1) M.nu (M.fmul p x) (P * x) := by
  obtain ⟨d, e, hd, he, h⟩ := M.mul_spec p x
  exact ⟨w * (1 + d), e, hw.mul (Rel.rnd hd), he, by rw [h, hp]; ring⟩

theorem Lin2.fadd (M : FlModel) {κ n1 n2 v1 v2 s t : ℝ} {j k : Nat} (hκ : 1 + M.u ≤ κ) (h1 : Lin1 M.u j n1 v1 s)
    (h2 : Lin1 M.u k n2 v2 t) : Lin2 M.u (j + 1) (k + 1) ((n1 + n2) * κ) (M.fadd v1 v2) s t := by
  obtain ⟨w1, e1, hw1, he1, rfl⟩ := h1
  obtain ⟨w2, e2, hw2, he2, rfl⟩ := h2
  obtain ⟨d, hd, h⟩ := M.add_spec (s * w1 + e1) (t * w2 + e2)
  refine ⟨w1 * (1 + d), w2 * (1 + d), (e1 + e2) * (1 + d), hw1.mul (Rel.rnd hd), hw2.mul (Rel.rnd hd), ?_,
    by rw [h]; ring⟩
  exact abs_mul_le' ((abs_add_le _ _).trans (add_le_add he1 he2)) ((abs_one_add_le hd).trans hκ)

theorem Lin2.scale {u nu κ n v s t c d e w : ℝ} {j k : Nat} (h : Lin2 u j k n v s t) (hκ : 1 + u ≤ κ) (hc : 0 ≤ c)
    (hd : |d| ≤ u) (he : |e| ≤ nu) (hw : w = c * v * (1 + d) + e) :
    Lin2 u (j + 1) (k + 1) (c * n * κ + nu) w (c * s) (c * t) := by
  obtain ⟨w1, w2, e0, hw1, hw2, he0, rfl⟩ := h
  refine ⟨w1 * (1 + d), w2 * (1 + d), c * e0 * (1 + d) + e, hw1.mul (Rel.rnd hd), hw2.mul (Rel.rnd hd), ?_,
    by rw [hw]; ring⟩
  have hc' : |c| ≤ c := (abs_of_nonneg hc).le
  exact (abs_add_le _ _).trans (add_le_add (abs_mul_le' (abs_mul_le' hc' he0) ((abs_one_add_le hd).trans hκ)) he)

theorem Lin2.swap {u n v s t : ℝ} {j k : Nat} (h : Lin2 u j k n v s t) : Lin2 u k j n v t s := by
  obtain ⟨w, w', e, hw, hw', he, rfl⟩ := h
  exact ⟨w', w, e, hw', hw, he, by ring⟩

theorem Lin2.err {u n v s t S T cj ck : ℝ} {j k : Nat} (h : Lin2 u j k n v s t) (hj : (1 + u) ^ j - 1 ≤ cj)
    (hk : (1 + u) ^ k - 1 ≤ ck) (hs : |s| ≤ S) (ht : |t| ≤ T) : |v - (s + t)| ≤ S * cj + T * ck + n := by
  obtain ⟨w, w', e, hw, hw', he, rfl⟩ := h
  have e1 : s * w + t * w' + e - (s + t) = s * (w - 1) + t * (w' - 1) + e := by ring
  rw [e1]
  exact (abs_add_three _ _ _).trans
    (add_le_add (add_le_add (abs_mul_le' hs (hw.trans hj)) (abs_mul_le' ht (hw'.trans hk))) he)

/-- two computed sums whose terms carry the roundings the other way round (`j, k` against `k, j`) and obey the same bounds
`A`, `B`: the errors add to `(cj + ck)(A + B)` and twice the absolute part -/
theorem Lin2.err_pair {u n v1 v2 s1 t1 s2 t2 A B S cj ck : ℝ} {j k : Nat} (h1 : Lin2 u j k n v1 s1 t1)
    (h2 : Lin2 u k j n v2 s2 t2) (hj : (1 + u) ^ j - 1 ≤ cj) (hk : (1 + u) ^ k - 1 ≤ ck) (hs1 : |s1| ≤ A) (ht1 : |t1| ≤ B)
    (hs2 : |s2| ≤ A) (ht2 : |t2| ≤ B) (hS : s1 + t1 + (s2 + t2) = S) :
    |v1 + v2 - S| ≤ (cj + ck) * (A + B) + (n + n) := by
  rw [← hS, add_sub_add_comm]
  exact ((abs_add_le _ _).trans (add_le_add (h1.err hj hk hs1 ht1) (h2.err hk hj hs2 ht2))).trans_eq (by ring)

theorem child_lin (M : FlModel) {κ : ℝ} (hκ : 1 + M.u ≤ κ) (g x y : ℝ) :
    Lin2 M.u 3 2 ((M.nu + M.nu) * κ) (M.fadd (M.fmul (M.fsub 1 g) x) (M.fmul g y)) ((1 - g) * x) (g * y) := by
  obtain ⟨d, hd, e⟩ := M.sub_spec 1 g
  exact Lin2.fadd M hκ (Lin1.fmul M e (Rel.rnd hd) x) (Lin1.fmul M (mul_one g).symm Rel.exact y)

theorem child_lin' (M : FlModel) {κ : ℝ} (hκ : 1 + M.u ≤ κ) (g x y : ℝ) :
    Lin2 M.u 2 3 ((M.nu + M.nu) * κ) (M.fadd (M.fmul g x) (M.fmul (M.fsub 1 g) y)) (g * x) ((1 - g) * y) := by
  obtain ⟨d, hd, e⟩ := M.sub_spec 1 g
  exact Lin2.fadd M hκ (Lin1.fmul M (mul_one g).symm Rel.exact x) (Lin1.fmul M e (Rel.rnd hd) y)

theorem blendPair_sum_fl (M : FlModel) (hu : M.u ≤ 1 / 8) (alpha x1 x2 r : FlNum M) :
    |((blendPair alpha x1 x2 r).1.val + (blendPair alpha x1 x2 r).2.val) - (x1.val + x2.val)|
      ≤ 6 * M.u * (|x1.val| + |x2.val|) * (1 + |(blendGamma alpha r).val|) + 5 * M.nu := by
  simp only [blendPair, fl_add, fl_sub, fl_mul, fl_one]
  generalize (blendGamma alpha r).val = g
  have h0 := M.u_nonneg
  have hκ := kappa_le hu
  have hg : |g| ≤ 1 + |g| := le_add_of_nonneg_left zero_le_one
  refine ((child_lin M hκ g x1.val x2.val).err_pair (child_lin' M hκ g x1.val x2.val) (pow3_bound h0 hu) (pow2_bound h0 hu)
    (abs_mul_le' (abs_one_sub_le g) le_rfl) (abs_mul_le' hg le_rfl) (abs_mul_le' hg le_rfl)
    (abs_mul_le' (abs_one_sub_le g) le_rfl) (by ring)).trans ?_
  -- `7/2 + 5/2 = 6`, and the absolute parts are `2 * (2 * 9/8) nu`
  refine add_le_add (le_of_eq (by ring)) ?_
  rw [show (M.nu + M.nu) * (9 / 8) + (M.nu + M.nu) * (9 / 8) = 9 / 2 * M.nu by ring]
  exact mul_le_mul_of_nonneg_right (by norm_num) M.nu_nonneg

/-- one assignment of `cxSimulatedBinary` (:284 with `p = 1 + b`, `q = 1 - b`, :285 the other way round) -/
theorem sbx_lin (M : FlModel) {κ p P q Q dp dq : ℝ} (hκ : 1 + M.u ≤ κ) (hp : p = P * (1 + dp)) (hdp : |dp| ≤ M.u)
    (hq : q = Q * (1 + dq)) (hdq : |dq| ≤ M.u) (x1 x2 : ℝ) :
    Lin2 M.u 4 4 (1 / 2 * ((M.nu + M.nu) * κ) * κ + M.nu) (M.fmul (1 / 2) (M.fadd (M.fmul p x1) (M.fmul q x2)))
      (1 / 2 * (P * x1)) (1 / 2 * (Q * x2)) := by
  obtain ⟨d, e, hd, he, h⟩ := M.mul_spec (1 / 2) (M.fadd (M.fmul p x1) (M.fmul q x2))
  exact (Lin2.fadd M hκ (Lin1.fmul M hp (Rel.rnd hdp) x1) (Lin1.fmul M hq (Rel.rnd hdq) x2)).scale hκ
    (by norm_num) hd he h

theorem sbxPair_sum_fl (M : FlModel) (hu : M.u ≤ 1 / 8) (eta x1 x2 rand : FlNum M) :
    |((sbxPair eta x1 x2 rand).1.val + (sbxPair eta x1 x2 rand).2.val) - (x1.val + x2.val)|
      ≤ 5 * M.u * (|x1.val| + |x2.val|) * (1 + |(sbxBeta eta rand).val|) + 5 * M.nu := by
  simp only [sbxPair, fl_add, fl_sub, fl_mul, fl_one, fl_half]
  generalize (sbxBeta eta rand).val = b
  have h0 := M.u_nonneg
  have hκ := kappa_le hu
  obtain ⟨dp, hdp, ep⟩ := M.add_spec 1 b
  obtain ⟨dq, hdq, eq⟩ := M.sub_spec 1 b
  have hh : |(1 / 2 : ℝ)| ≤ 1 / 2 := (abs_of_pos (one_half_pos (α := ℝ))).le
  have hb1 : |1 + b| ≤ 1 + |b| := abs_one_add_le le_rfl
  have hb2 := abs_one_sub_le b
  refine ((sbx_lin M hκ ep hdp eq hdq x1.val x2.val).err_pair (sbx_lin M hκ eq hdq ep hdp x1.val x2.val)
    (pow4_bound h0 hu) (pow4_bound h0 hu) (abs_mul_le' hh (abs_mul_le' hb1 le_rfl)) (abs_mul_le' hh (abs_mul_le' hb2 le_rfl))
    (abs_mul_le' hh (abs_mul_le' hb2 le_rfl)) (abs_mul_le' hh (abs_mul_le' hb1 le_rfl)) (by ring)).trans ?_
  -- `(5 + 5) / 2 = 5`, and the absolute parts are `2 * (81/64 + 1) nu`
  refine add_le_add (le_of_eq (by ring)) ?_
  rw [show 1 / 2 * ((M.nu + M.nu) * (9 / 8)) * (9 / 8) + M.nu + (1 / 2 * ((M.nu + M.nu) * (9 / 8)) * (9 / 8) + M.nu)
    = 145 / 32 * M.nu by ring]
  exact mul_le_mul_of_nonneg_right (by norm_num) M.nu_nonneg

/-- bound on `|gamma_computed - gamma_exact|` for `alpha ≥ 0`, `r ∈ [0, 1]` -/
noncomputable def gammaErr (u nu alpha : ℝ) : ℝ := 6 * u * (1 + 2 * alpha) + 4 * nu

/-- bound on the distance of a blend child from the exact child, `X = |x1| + |x2|` -/
noncomputable def blendRangeErr (u nu alpha X : ℝ) : ℝ :=
  (7 / 2 * u * (2 + alpha + gammaErr u nu alpha) + gammaErr u nu alpha) * X + 9 / 4 * nu

/-- a rounded subtraction whose first operand `w` carries the error `E` against `W`: the rounding acts on that error and on the
exact difference -/
theorem sub_round_err {w W a d u κ E B : ℝ} (hw : |w - W| ≤ E) (hd : |d| ≤ u) (hκ : 1 + u ≤ κ) (hB : |W - a| ≤ B) :
    |(w - a) * (1 + d) - (W - a)| ≤ E * κ + B * u := by
  have e : (w - a) * (1 + d) - (W - a) = (w - W) * (1 + d) + (W - a) * d := by ring
  rw [e]
  exact (abs_add_le _ _).trans (add_le_add (abs_mul_le' hw ((abs_one_add_le hd).trans hκ)) (abs_mul_le' hB hd))

theorem blendGamma_fl (M : FlModel) (hu : M.u ≤ 1 / 8) (alpha r : FlNum M) (ha : 0 ≤ alpha.val) (hr0 : 0 ≤ r.val)
    (hr1 : r.val ≤ 1) :
    |(blendGamma alpha r).val - ((1 + 2 * alpha.val) * r.val - alpha.val)| ≤ gammaErr M.u M.nu alpha.val := by
  simp only [blendGamma, fl_add, fl_sub, fl_mul, fl_one, fl_two]
  generalize alpha.val = a at ha ⊢
  generalize r.val = r at hr0 hr1 ⊢
  have h0 := M.u_nonneg
  have hn := M.nu_nonneg
  have hκ := kappa_le hu
  obtain ⟨d3, e3, hd3, he3, q3⟩ := M.mul_spec (M.fadd 1 (M.fmul 2 a)) r
  obtain ⟨d4, hd4, q4⟩ := M.sub_spec (M.fmul (M.fadd 1 (M.fmul 2 a)) r) a
  have hr : |r| ≤ 1 := (abs_of_nonneg hr0).trans_le hr1
  -- the product `w = fl(fl(1 + fl(2 a)) r)` against `r + 2 a r`
  have hD := ((Lin2.fadd M hκ (Lin1.exact 1) (Lin1.fmul M (mul_one 2).symm Rel.exact a)).scale hκ hr0 hd3 he3
    (w := M.fmul (M.fadd 1 (M.fmul 2 a)) r) (by rw [q3]; ring)).err (pow2_bound h0 hu) (pow3_bound h0 hu)
    (abs_mul_le' hr abs_one.le) (abs_mul_le' hr (abs_of_nonneg (mul_nonneg (zero_le_two (α := ℝ)) ha)).le)
  -- the last subtraction rounds that error and the exact `gamma`, which is at most `1 + a`
  have eG : (1 + 2 * a) * r - a = r * 1 + r * (2 * a) - a := by ring
  rw [q4, eG]
  refine (sub_round_err hD hd4 hκ (eG ▸ gamma_abs ha hr0 hr1)).trans ?_
  unfold gammaErr
  linarith only [mul_le_of_le_one_left hn hr1, mul_nonneg ha h0, hn, h0]

/-- the affine combination at a perturbed coefficient: a value within `K (1 + |g|)(|x| + |y|) + n` of `(1 - g) x + g y` is
within `(K (2 + a + E) + E)(|x| + |y|) + n` of `(1 - G) x + G y` when `|g - G| ≤ E` and `|G| ≤ 1 + a` -/
theorem affine_perturb {K E a n g G x y c : ℝ} (hK : 0 ≤ K)
    (k : |c - ((1 - g) * x + g * y)| ≤ (1 + |g|) * |x| * K + (1 + |g|) * |y| * K + n)
    (hg : |g - G| ≤ E) (hG : |G| ≤ 1 + a) :
    |c - ((1 - G) * x + G * y)| ≤ (K * (2 + a + E) + E) * (|x| + |y|) + n := by
  have habs : 1 + |g| ≤ 2 + a + E := by linarith only [abs_sub_abs_le_abs_sub g G, hg, hG]
  have hX : 0 ≤ |x| + |y| := add_nonneg (abs_nonneg x) (abs_nonneg y)
  have e : c - ((1 - G) * x + G * y) = (c - ((1 - g) * x + g * y)) + (g - G) * (y - x) := by ring
  have s2 : |(g - G) * (y - x)| ≤ E * (|x| + |y|) := abs_mul_le' hg ((abs_sub y x).trans (add_comm _ _).le)
  have s1 := mul_le_mul_of_nonneg_left (mul_le_mul_of_nonneg_right habs hX) hK
  rw [e]
  linarith only [abs_add_le (c - ((1 - g) * x + g * y)) ((g - G) * (y - x)), k, s1, s2]

/-- a computed child against the exact child for the exact `gamma`: `c` computed with the computed `g`, `G` the
exact gamma with `|g - G| ≤ gammaErr`, `|G| ≤ 1 + a` -/
theorem child_vs_exact {M : FlModel} (hu : M.u ≤ 1 / 8) {a g G x y c : ℝ}
    (hc : Lin2 M.u 3 2 ((M.nu + M.nu) * (9 / 8)) c ((1 - g) * x) (g * y))
    (hg : |g - G| ≤ gammaErr M.u M.nu a) (hG : |G| ≤ 1 + a) :
    |c - ((1 - G) * x + G * y)| ≤ blendRangeErr M.u M.nu a (|x| + |y|) := by
  have h0 := M.u_nonneg
  have k := hc.err (ck := 7 / 2 * M.u) (pow3_bound h0 hu)
    ((pow2_bound h0 hu).trans (mul_le_mul_of_nonneg_right (by norm_num) h0))
    (abs_mul_le' (abs_one_sub_le g) le_rfl) (abs_mul_le' (le_add_of_nonneg_left zero_le_one : |g| ≤ 1 + |g|) le_rfl)
  exact (affine_perturb (mul_nonneg (by norm_num) h0) k hg hG).trans_eq (by unfold blendRangeErr; ring)

theorem within_of_abs_sub_le {c e lo hi E : ℝ} (h : |c - e| ≤ E) (h1 : lo ≤ e) (h2 : e ≤ hi) :
    lo - E ≤ c ∧ c ≤ hi + E := by
  obtain ⟨p, q⟩ := abs_le.1 h
  constructor <;> linarith

theorem blendPair_range_fl (M : FlModel) (hu : M.u ≤ 1 / 8) (alpha x1 x2 r : FlNum M) (ha : 0 ≤ alpha.val)
    (hr0 : 0 ≤ r.val) (hr1 : r.val ≤ 1) :
    let E := blendRangeErr M.u M.nu alpha.val (|x1.val| + |x2.val|)
    (min x1.val x2.val - alpha.val * |x1.val - x2.val| - E ≤ (blendPair alpha x1 x2 r).1.val ∧
      (blendPair alpha x1 x2 r).1.val ≤ max x1.val x2.val + alpha.val * |x1.val - x2.val| + E) ∧
    (min x1.val x2.val - alpha.val * |x1.val - x2.val| - E ≤ (blendPair alpha x1 x2 r).2.val ∧
      (blendPair alpha x1 x2 r).2.val ≤ max x1.val x2.val + alpha.val * |x1.val - x2.val| + E) := by
  intro E
  have hκ := kappa_le hu
  have hg := blendGamma_fl M hu alpha r ha hr0 hr1
  obtain ⟨g0, g1⟩ := gamma_range ha hr0 hr1
  have hG := gamma_abs ha hr0 hr1
  obtain ⟨⟨l1, u1⟩, l2, u2⟩ := exact_range (x1 := x1.val) (x2 := x2.val) g0 g1
  have k1 := child_vs_exact hu (child_lin M hκ (blendGamma alpha r).val x1.val x2.val) hg hG
  have k2 := child_vs_exact hu (child_lin' M hκ (blendGamma alpha r).val x1.val x2.val).swap hg hG
  rw [add_comm |x2.val|] at k2
  simp only [blendPair, fl_add, fl_sub, fl_mul, fl_one]
  exact ⟨within_of_abs_sub_le k1 l1 u1, within_of_abs_sub_le k2 (by linarith only [l2]) (by linarith only [u2])⟩

/-- for `u ≤ 1/1000` and `alpha ≤ 2` the allowance of `blend_range_rounded` is below
`45 u (|x1| + |x2|) + 5 nu (1 + |x1| + |x2|)`: the error of `gamma` is at most `30 u + 4 nu`, the coefficient of `X` then
`7/2 u (4 + 30 u + 4 nu) + 30 u + 4 nu`, and `u u`, `u nu` are a thousandth of `u`, `nu` -/
theorem blendRangeErr_le {u nu alpha X : ℝ} (hu0 : 0 ≤ u) (hu : u ≤ 1 / 1000) (hn0 : 0 ≤ nu)
    (ha2 : alpha ≤ 2) (hX : 0 ≤ X) : blendRangeErr u nu alpha X ≤ 45 * u * X + 5 * nu * (1 + X) := by
  unfold blendRangeErr gammaErr
  have hg : 6 * u * (1 + 2 * alpha) + 4 * nu ≤ 30 * u + 4 * nu := by
    linarith only [mul_le_mul_of_nonneg_left ha2 hu0]
  -- the coefficient of `X` is at most `45 u + 5 nu`; then `9/4 nu ≤ 5 nu`
  have hC := (add_le_add (mul_le_mul_of_nonneg_left (add_le_add (add_le_add (le_refl 2) ha2) hg)
    (mul_nonneg (by norm_num) hu0 : 0 ≤ 7 / 2 * u)) hg).trans (by
    linarith only [mul_le_mul_of_nonneg_left hu hu0, mul_le_mul_of_nonneg_right hu hn0, hu0, hn0] :
      7 / 2 * u * (2 + 2 + (30 * u + 4 * nu)) + (30 * u + 4 * nu) ≤ 45 * u + 5 * nu)
  refine (add_le_add (mul_le_mul_of_nonneg_right hC hX)
    (mul_le_mul_of_nonneg_right (by norm_num : (9 / 4 : ℝ) ≤ 5) hn0)).trans_eq ?_
  ring

/-- an arithmetic that is wrong by the full relative error `u` in every operation -/
noncomputable def inflFl (u nu : ℝ) (hu : 0 ≤ u) (hnu : 0 ≤ nu) : FlModel where
  u := u
  nu := nu
  fadd a b := (a + b) * (1 + u)
  fsub a b := (a - b) * (1 + u)
  fmul a b := (a * b) * (1 + u) + nu
  fdiv a b := a / b
  fpow a b := a ^ b
  u_nonneg := hu
  nu_nonneg := hnu
  add_spec a b := ⟨u, by rw [abs_of_nonneg hu], rfl⟩
  sub_spec a b := ⟨u, by rw [abs_of_nonneg hu], rfl⟩
  mul_spec a b := ⟨u, nu, by rw [abs_of_nonneg hu], by rw [abs_of_nonneg hnu], rfl⟩

/-- binary64 constants: unit roundoff `2^-53`, half the smallest subnormal `2^-1075` -/
noncomputable def infl64 : FlModel := inflFl ((2 : ℝ) ^ (-53 : ℤ)) ((2 : ℝ) ^ (-1075 : ℤ)) (by positivity) (by positivity)

theorem infl64_u : infl64.u ≤ 1 / 8 :=
  (zpow_le_zpow_right₀ one_le_two (by norm_num : (-53 : ℤ) ≤ -3)).trans (by norm_num)

end RealOps
