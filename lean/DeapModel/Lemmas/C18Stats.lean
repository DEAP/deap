/-
Helper lemmas for `Statistics` (the table of registered functions) and for the `MultiStatistics` state
machine (`Core/StatsHist.lean`), used by `Props/C18.lean`.
-/
import DeapModel.Core.StatsHist
import DeapModel.Lemmas.C18Lists

namespace C18L
open Logbook (Name)
open Stats

variable {δ κ φ ρ : Type}

/-- a registration: name, function, frozen arguments -/
abbrev Reg (κ φ ρ : Type) := Name × (φ → List κ → ρ) × φ

def registerAll (s : Statistics δ κ φ ρ) (regs : List (Reg κ φ ρ)) : Statistics δ κ φ ρ :=
  regs.foldl (fun s r => Stats.register s r.1 r.2.1 r.2.2) s

theorem lookup_setFn (name n : Name) (v : φ × (φ → List κ → ρ))
    (fs : List (Name × (φ × (φ → List κ → ρ)))) :
    (setFn name v fs).lookup n = if n = name then some v else fs.lookup n := by
  rw [setFn_eq_upsert]; exact Dict.lookup_upsert _ name n fs

theorem lookup_compile (s : Statistics δ κ φ ρ) (data : List δ) (n : Name) :
    (Stats.compile s data).lookup n = (s.functions.lookup n).map fun w => w.2 w.1 (data.map s.key) :=
  Dict.lookup_map_snd (fun w : φ × (φ → List κ → ρ) => w.2 w.1 (data.map s.key)) n s.functions

theorem registerAll_key (s : Statistics δ κ φ ρ) (regs : List (Reg κ φ ρ)) :
    (registerAll s regs).key = s.key := by
  induction regs generalizing s with
  | nil => rfl
  | cons r rs ih => exact ih _

theorem registerAll_lookup (s : Statistics δ κ φ ρ) (regs : List (Reg κ φ ρ)) (n : Name) :
    (registerAll s regs).functions.lookup n =
      match regs.reverse.find? (fun r => r.1 == n) with
      | some r => some (r.2.2, r.2.1)
      | none => s.functions.lookup n := by
  induction regs generalizing s with
  | nil => rfl
  | cons r rs ih =>
    rw [show registerAll s (r :: rs) = registerAll (Stats.register s r.1 r.2.1 r.2.2) rs from rfl, ih,
      List.reverse_cons, List.find?_append]
    cases rs.reverse.find? (fun r => r.1 == n) with
    | some x => rfl
    | none =>
      simp only [Option.none_or, List.find?_cons, List.find?_nil, Stats.register, lookup_setFn]
      by_cases h : n = r.1
      · subst h; simp
      · have hb : (r.1 == n) = false := by simpa using Ne.symm h
        simp [h, hb]

theorem dSet_eq_upsert (d : Dict) (k : Name) (v : Nat) : dSet d k v = Dict.upsert (fun _ => v) k d := by
  induction d with
  | nil => rfl
  | cons q qs ih => obtain ⟨k', v'⟩ := q; simp only [dSet, Dict.upsert, ih]

theorem mem_dSet (d : Dict) (k : Name) (v : Nat) (p : Name × Nat) (h : p ∈ dSet d k v) :
    p ∈ d ∨ p = (k, v) := Dict.mem_upsert _ k d p (dSet_eq_upsert d k v ▸ h)

theorem dHas_iff (d : Dict) (k : Name) : dHas d k = true ↔ k ∈ dKeys d := by
  simp only [dHas, dKeys, List.any_eq_true, List.mem_map, beq_iff_eq]

theorem dKeys_dSet (d : Dict) (k : Name) (v : Nat) :
    dKeys (dSet d k v) = if dHas d k then dKeys d else dKeys d ++ [k] := by
  rw [dSet_eq_upsert, dKeys, Dict.keys_upsert]
  exact if_congr (dHas_iff d k).symm rfl rfl

theorem nodup_dSet (d : Dict) (k : Name) (v : Nat) (h : (dKeys d).Nodup) : (dKeys (dSet d k v)).Nodup :=
  dSet_eq_upsert d k v ▸ Dict.nodup_keys_upsert _ k d h

theorem nodup_dUpdate (d e : Dict) (h : (dKeys d).Nodup) : (dKeys (dUpdate d e)).Nodup := by
  induction e generalizing d with
  | nil => exact h
  | cons p ps ih => exact ih _ (nodup_dSet d p.1 p.2 h)

theorem mem_dUpdate (d e : Dict) (n : Nat) (hd : ∀ p ∈ d, p.2 < n) (he : idsOk n e = true) :
    ∀ p ∈ dUpdate d e, p.2 < n := by
  induction e generalizing d with
  | nil => exact hd
  | cons q qs ih =>
    simp only [idsOk, List.all_cons, Bool.and_eq_true, decide_eq_true_eq] at he
    refine ih (dSet d q.1 q.2) (fun p hp => ?_) he.2
    rcases mem_dSet d q.1 q.2 p hp with h | h
    · exact hd p h
    · rw [h]; exact he.1

theorem dDel_sublist (d : Dict) (k : Name) : (dKeys (dDel d k)).Sublist (dKeys d) :=
  List.Sublist.map _ List.filter_sublist

theorem lookup_some_mem (d : Dict) (k : Name) (v : Nat) (h : d.lookup k = some v) : (k, v) ∈ d :=
  Dict.mem_of_lookup h

theorem length_registerHeap (heap : List (Statistics δ κ φ ρ)) (ids : List Nat) (name : Name)
    (fn : φ → List κ → ρ) (args : φ) : (registerHeap heap ids name fn args).length = heap.length := by
  induction ids generalizing heap with
  | nil => rfl
  | cons i is ih => rw [registerHeap, List.foldl_cons]; exact (ih _).trans (List.length_modify ..)

theorem registerHeap_get (heap : List (Statistics δ κ φ ρ)) (ids : List Nat) (name : Name)
    (fn : φ → List κ → ρ) (args : φ) (id : Nat) (s : Statistics δ κ φ ρ) (hs : heap[id]? = some s) :
    ∃ s', (registerHeap heap ids name fn args)[id]? = some s' ∧ s'.key = s.key ∧
      ∀ n, s'.functions.lookup n =
        if n = name ∧ id ∈ ids then some (args, fn) else s.functions.lookup n := by
  induction ids generalizing heap s with
  | nil => exact ⟨s, hs, rfl, by simp⟩
  | cons i is ih =>
    have hm : (heap.modify i fun s => Stats.register s name fn args)[id]? =
        some (if i = id then Stats.register s name fn args else s) := by
      rw [List.getElem?_modify, hs]; rfl
    obtain ⟨s', e1, e2, e3⟩ := ih _ _ hm
    refine ⟨s', e1, by rw [e2]; split <;> rfl, fun n => ?_⟩
    rw [e3 n]
    by_cases hi : i = id
    · rw [if_pos hi, Stats.register, lookup_setFn]
      by_cases hn : n = name <;> simp [hn, hi]
    · rw [if_neg hi]; simp [Ne.symm hi]

/-- every stored id is an object, the keys of the dict are distinct -/
def MInv (st : MS δ κ φ ρ) : Prop := (∀ p ∈ st.map, p.2 < st.heap.length) ∧ (dKeys st.map).Nodup

theorem minv_empty : MInv (MS.empty : MS δ κ φ ρ) := ⟨fun _ h => (nomatch h), .nil⟩

theorem minv_step (st : MS δ κ φ ρ) (op : MOp δ κ φ ρ) (h : MInv st) : MInv (step st op).1 := by
  obtain ⟨h1, h2⟩ := h
  cases op
  case alloc key => exact ⟨fun p hp => by have := h1 p hp; simp only [step, List.length_append]; omega, h2⟩
  case regObj id name fn args =>
    simp only [step]; split
    · exact ⟨fun p hp => by simpa using h1 p hp, h2⟩
    · exact ⟨h1, h2⟩
  case register name fn args => exact ⟨fun p hp => by simpa [step, length_registerHeap] using h1 p hp, h2⟩
  case setItem k id =>
    simp only [step]; split
    · next hid =>
      exact ⟨fun p hp => (mem_dSet _ _ _ _ hp).elim (h1 p) fun e => e ▸ hid, nodup_dSet _ _ _ h2⟩
    · exact ⟨h1, h2⟩
  case delItem k | pop k =>
    simp only [step]; split
    · exact ⟨fun p hp => h1 p (List.mem_of_mem_filter hp), h2.sublist (dDel_sublist _ _)⟩
    · exact ⟨h1, h2⟩
  case update e | ior e =>
    simp only [step]; split
    · next he => exact ⟨mem_dUpdate _ _ _ h1 he, nodup_dUpdate _ _ h2⟩
    · exact ⟨h1, h2⟩
  case setDefault k id =>
    simp only [step]; split
    · next hid =>
      split
      · exact ⟨h1, h2⟩
      · next hl =>
        refine ⟨fun p hp => (List.mem_append.1 hp).elim (h1 p) fun e => by rw [List.mem_singleton.1 e]; exact hid, ?_⟩
        rw [dKeys, List.map_append]
        exact List.nodup_append.2 ⟨h2, List.nodup_singleton _, fun a ha b hb e =>
          Dict.lookup_eq_none_iff_keys.1 hl (by rw [← show a = k from e.trans (List.mem_singleton.1 hb)]; exact ha)⟩
    · exact ⟨h1, h2⟩
  case popItem =>
    simp only [step]; split
    · exact ⟨fun p hp => h1 p ((List.dropLast_sublist _).subset hp),
        h2.sublist ((List.dropLast_sublist _).map _)⟩
    · exact ⟨h1, h2⟩
  case clear => exact ⟨fun _ h => (nomatch h), .nil⟩
  case objFields id => simp only [step]; split <;> exact ⟨h1, h2⟩
  all_goals exact ⟨h1, h2⟩

theorem minv_runFrom (st : MS δ κ φ ρ) (h : List (MOp δ κ φ ρ)) (hi : MInv st) : MInv (runFrom st h) := by
  induction h generalizing st with
  | nil => exact hi
  | cons op ops ih => exact ih _ (minv_step st op hi)

theorem view_keys (st : MS δ κ φ ρ) (h : ∀ p ∈ st.map, p.2 < st.heap.length) :
    (view st).map (·.1) = dKeys st.map := by
  obtain ⟨heap, map⟩ := st
  simp only [view, dKeys] at h ⊢
  induction map with
  | nil => rfl
  | cons p ps ih =>
    rw [List.filterMap_cons, List.getElem?_eq_getElem (h p (List.mem_cons_self ..))]
    exact congrArg (p.1 :: ·) (ih fun q hq => h q (List.mem_cons_of_mem _ hq))

theorem step_obs (st : MS δ κ φ ρ) (op : MOp δ κ φ ρ) (h : op.isObs = true) : (step st op).1 = st := by
  cases op <;> first | exact absurd h Bool.false_ne_true | skip
  case objFields id => simp only [step]; split <;> rfl
  all_goals rfl

theorem sortNames_spec (l : List Name) : (sortNames l).Perm l ∧ (sortNames l).Pairwise (· ≤ ·) :=
  sort_spec (r := (· ≤ ·)) (fun a b h => by omega) (fun a b c h1 h2 => by omega) insertSorted (fun _ => rfl)
    (fun _ _ _ => rfl) sortNames rfl (fun _ _ => rfl) l

end C18L
