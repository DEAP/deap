/-
C03 composed: the caller's list object (`population[:] = …`) and the ask/tell protocol of `eaGenerateUpdate`.
-/
import DeapModel.Lemmas.C03Compose

namespace LoopsC
open Variation Loops Archive C08L

theorem cgeneration_slice {σ : Type} {ev : List Int → List Int} {stp : Step σ} {g : Nat} {t t' : σ}
    {c c' : CState} (h : cgeneration ev stp .slice g t c = some (t', c')) :
    c'.popRef = c.popRef ∧ c'.lists c.popRef = c'.ls.pop ∧ c.nextL ≤ c'.nextL ∧
    ∀ i, i < c.nextL → i ≠ c.popRef → c'.lists i = c.lists i := by
  obtain ⟨ls', h', _, _, rfl⟩ := cgeneration_unfold h
  exact ⟨rfl, by simp [assignPop], Nat.le_succ _, fun i hi hne => by simp [assignPop, hne, Nat.ne_of_lt hi]⟩

theorem crunGens_inPlace {σ : Type} {ev : List Int → List Int} (steps : List (Step σ)) (g : Nat) (t t' : σ)
    (c c' : CState) (h : crunGens ev (inPlace steps) g t c = some (t', c')) :
    c'.popRef = c.popRef ∧ c.nextL ≤ c'.nextL ∧ ∀ i, i < c.nextL → i ≠ c.popRef → c'.lists i = c.lists i :=
  (crunGens_iterates ev).induct (P := fun _ c1 => c1.popRef = c.popRef ∧ c.nextL ≤ c1.nextL ∧
      ∀ i, i < c.nextL → i ≠ c.popRef → c1.lists i = c.lists i) (inPlace steps) g t t' c c'
    (fun x hx g t t' c1 c2 hP hg => by
      obtain ⟨stp, _, rfl⟩ := List.mem_map.1 hx
      obtain ⟨hp, _, hn, hf⟩ := cgeneration_slice hg
      exact ⟨hp.trans hP.1, by omega, fun i hi hne => by rw [hf i (by omega) (hP.1 ▸ hne), hP.2.2 i hi hne]⟩)
    ⟨rfl, Nat.le_refl _, fun _ _ _ => rfl⟩ h

theorem hofUpdate_ls_congr (c : CState) (a b : LState) (h : a.shownObj = b.shownObj) :
    hofUpdate c b = (hofUpdate c a).map (fun c1 => { c1 with ls := b }) := by
  simp only [hofUpdate, newShown, h]
  split <;> rfl

theorem guGeneration_eq {σ : Type} (ev : List Int → List Int) (objs : List (Nat × Obj)) (order : List Nat)
    (g : Nat) (t : σ) (c : CState) :
    guGeneration ev objs order g t c =
      (cgeneration ev (guStep objs order) .rebind g t c).map (fun x =>
        (x.1, { x.2 with strat := ((c.strat.ask g (objs.map (·.1))).tell g
          ((objs.map (·.1)).map (fun o => (o, x.2.ls.st.heap o)))) })) := by
  simp only [guGeneration, cgeneration, generation, guStep]
  by_cases hnd : (objs.map (·.1)).Nodup
  · simp only [hnd, decide_true, ↓reduceIte]
    generalize evalPhase ev true g { c.ls with st := writeAll c.ls.st objs } (objs.map (·.1)) = e
    by_cases hperm : isPerm order (objs.map (·.1)).length = true
    · simp only [hperm, ↓reduceIte]
      cases hpick : pickAll (objs.map (·.1)) order with
      | none =>
        split <;> rfl
      | some np =>
        simp only []
        have hcg := hofUpdate_ls_congr c e.1 { e.1 with pop := np, log := e.1.log ++ [(g, e.2)] } rfl
        rw [hcg]
        cases hofUpdate c e.1 with
        | none => rfl
        | some c1 => rfl
    · simp only [hperm, Bool.false_eq_true, ↓reduceIte]
      split <;> rfl
  · simp [hnd]

theorem guGeneration_unfold {σ : Type} {ev : List Int → List Int} {objs : List (Nat × Obj)} {order : List Nat}
    {g : Nat} {t t' : σ} {c c' : CState} (h : guGeneration ev objs order g t c = some (t', c')) :
    ∃ c2, cgeneration ev (guStep objs order) .rebind g t c = some (t', c2) ∧
      c' = { c2 with
        strat := (c.strat.ask g (objs.map (·.1))).tell g ((objs.map (·.1)).map (fun o => (o, c2.ls.st.heap o))) } := by
  rw [guGeneration_eq] at h
  obtain ⟨x, hc, hx⟩ := Option.map_eq_some_iff.1 h
  cases hx
  exact ⟨x.2, hc, rfl⟩

theorem CInv.with_strat {ev : List Int → List Int} {m base g : Nat} {c : CState} (h : CInv ev m base g c) (a : AskTell) :
    CInv ev m base g { c with strat := a } :=
  ⟨h.inv, h.shownOk, h.hofRun, h.flat, h.popCur, h.refLt, h.listPop⟩

theorem guGeneration_inv {σ : Type} {ev : List Int → List Int} {objs : List (Nat × Obj)} {order : List Nat}
    {m base g : Nat} {t t' : σ} {c c' : CState} (hi : CInv ev m base g c)
    (h : guGeneration ev objs order g t c = some (t', c')) : CInv ev m base (g + 1) c' := by
  obtain ⟨c2, hc, rfl⟩ := guGeneration_unfold h
  exact (cgeneration_inv (guStep_contract objs order) hi hc).with_strat _

theorem guGeneration_ls {σ : Type} {ev : List Int → List Int} {objs : List (Nat × Obj)} {order : List Nat}
    {g : Nat} {t t' : σ} {c c' : CState} (h : guGeneration ev objs order g t c = some (t', c')) :
    generation ev (guStep objs order) g t c.ls = some (t', c'.ls) := by
  obtain ⟨c2, hc, rfl⟩ := guGeneration_unfold h
  exact cgeneration_ls (c' := c2) hc

/-- what one `toolbox.update` call received is what the preceding `toolbox.generate` handed out, evaluated,
each individual exactly once -/
structure TellOk (ev : List Int → List Int) (ls : LState) (x : Nat × Option (List Nat) × List (Nat × Obj)) :
    Prop where
  /-- the strategy was waiting for exactly these objects, in this order -/
  pending : x.2.1 = some (x.2.2.map (·.1))
  /-- every one carries the fitness `evaluate` gives for the genotype it has -/
  evaluated : ∀ e ∈ x.2.2, e.2.fit = some (ev e.2.genome)
  /-- the `evaluate` calls of that generation are exactly these individuals, in order -/
  once : ls.evals.filter (fun e => e.1 == x.1) = (x.2.2.map (·.1)).map (fun o => (x.1, o))
  /-- … pairwise different objects: each is evaluated once -/
  nodup : (x.2.2.map (·.1)).Nodup

structure ProtoInv (ev : List Int → List Int) (g : Nat) (c : CState) : Prop where
  idle : c.strat.pending = none
  tellsOk : ∀ x ∈ c.strat.tells, TellOk ev c.ls x
  tellsGen : c.strat.tells.map (·.1) = List.range g
  asks : c.strat.asks = c.strat.tells.map (fun x => (x.1, x.2.2.map (·.1)))

theorem guGeneration_proto {σ : Type} {ev : List Int → List Int} {objs : List (Nat × Obj)} {order : List Nat}
    {m base g : Nat} {t t' : σ} {c c' : CState} (hi : CInv ev m base g c) (hp : ProtoInv ev g c)
    (h : guGeneration ev objs order g t c = some (t', c')) : ProtoInv ev (g + 1) c' := by
  obtain ⟨c2, hc, rfl⟩ := guGeneration_unfold h
  obtain ⟨r, u⟩ := generation_unfold (cgeneration_ls hc)
  have hheap := u.heap
  have hevals := u.evals
  obtain ⟨hnd, _, hoff⟩ := gu_produce u.produce
  have hes : evalSet (guStep (σ := σ) objs order) r = objs.map (·.1) := by simp [evalSet, guStep, hoff]
  rw [hes] at hevals hheap
  have hmapfst : ((objs.map (·.1)).map (fun o => (o, c2.ls.st.heap o))).map (·.1) = objs.map (·.1) := by
    rw [List.map_map]; exact List.map_id'' (fun _ => rfl) _
  refine ⟨rfl, fun x hx => ?_, ?_, ?_⟩
  · rcases List.mem_append.1 (show x ∈ c.strat.tells ++ [_] from hx) with h1 | h1
    · have hold := hp.tellsOk x h1
      have hxg : x.1 < g := List.mem_range.1 (hp.tellsGen ▸ List.mem_map.2 ⟨x, h1, rfl⟩)
      refine ⟨hold.pending, hold.evaluated, ?_, hold.nodup⟩
      show c2.ls.evals.filter _ = _
      rw [hevals, List.filter_append, filter_gen_map, if_neg (by omega), List.append_nil]
      exact hold.once
    · cases List.mem_singleton.1 h1
      refine ⟨by simp only [hmapfst]; rfl, fun e he => ?_, ?_, by simp only [hmapfst]; exact hnd⟩
      · obtain ⟨o, ho, rfl⟩ := List.mem_map.1 he
        show (c2.ls.st.heap o).fit = some (ev (c2.ls.st.heap o).genome)
        rw [hheap]; exact assignFits_truthful _ _ _ _ (Or.inl ho)
      · simp only [hmapfst]
        show c2.ls.evals.filter _ = _
        rw [hevals, List.filter_append, filter_gen_map, if_pos rfl, filter_gen_lt hi.inv.evalsLt, List.nil_append]
  · show (c.strat.tells ++ [_]).map _ = _
    rw [List.map_append, hp.tellsGen, List.range_succ]; rfl
  · show c.strat.asks ++ [_] = (c.strat.tells ++ [_]).map _
    rw [List.map_append, ← hp.asks]
    simp only [List.map_cons, List.map_nil, hmapfst]

theorem crunGU_iterates {σ : Type} (ev : List Int → List Int) :
    Iterates (crunGU (σ := σ) ev) (fun x => guGeneration ev x.1 x.2) :=
  ⟨fun _ _ _ => rfl, fun x rest g t c => by simp only [crunGU]; split <;> simp [*]⟩

theorem crunGU_inv {σ : Type} {ev : List Int → List Int} {m base : Nat} (gens : List (List (Nat × Obj) × List Nat))
    (g : Nat) (t t' : σ) (c c' : CState) (hi : CInv ev m base g c) (hp : ProtoInv ev g c)
    (h : crunGU ev gens g t c = some (t', c')) :
    CInv ev m base (g + gens.length) c' ∧ ProtoInv ev (g + gens.length) c' :=
  (crunGU_iterates ev).induct (P := fun g c => CInv ev m base g c ∧ ProtoInv ev g c) gens g t t' c c'
    (fun _ _ _ _ _ _ _ hP hg => ⟨guGeneration_inv hP.1 hg, guGeneration_proto hP.1 hP.2 hg⟩) ⟨hi, hp⟩ h

theorem crunGU_ls {σ : Type} {ev : List Int → List Int} (gens : List (List (Nat × Obj) × List Nat)) (g : Nat) (t t' : σ)
    (c c' : CState) (h : crunGU ev gens g t c = some (t', c')) :
    runGens ev (gens.map (fun x => guStep (σ := σ) x.1 x.2)) g t c.ls = some (t', c'.ls) :=
  (crunGU_iterates ev).proj (runGens_iterates ev) _ (·.ls) (fun _ _ _ _ _ _ => guGeneration_ls) gens g t t' c c' h

theorem initState_inv (ev : List Int → List Int) (st : St) (m base : Nat) :
    CInv ev m base 0 (initState st [] m base) ∧ ProtoInv ev 0 (initState st [] m base) := by
  refine ⟨⟨?_, ⟨by simp [initState], rfl⟩, rfl, rfl, by intro p hp; simp [initState] at hp, by simp [initState],
    by simp [initState]⟩, ⟨rfl, by simp [initState], rfl, rfl⟩⟩
  exact ⟨by simp [initState], by simp [initState], by simp [initState], by simp [initState], by simp [initState],
    by simp [initState], by simp [initState], by simp [initState]⟩

end LoopsC
