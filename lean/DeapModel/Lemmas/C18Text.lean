/-
C18 helper lemmas: the TEXT of a logbook (`Core/LogbookText.lean`).  On a logbook whose chapters
are aligned at every depth `__txt__` never raises and returns a header block followed by exactly one line per
row from `startindex` on; that line is `rowLine` — the cells of the row in column order (a chapter column
holds the chapter's line of the same record), left-justified to the `columns_len` after the call.
-/
import DeapModel.Lemmas.C18Hist
import DeapModel.Core.LogbookText

namespace C18L
open Logbook

mutual
/-- the line of record number `i` of the logbook when its row is `r`: one cell per column, in column order —
for a chapter column the line of record `i` in that chapter, else the formatted field (`""` for a missing
one) — left-justified to the widths `W.len` and joined by tabs -/
def rowLineOf (fmt : Fmt) (i : Nat) (r : Row) : LB → CL → String
  | .mk rows chs _ h _ _, W =>
      formatLine (W.len.getD []) ((columnsOf fmt h rows (chs.map (·.1))).map fun name =>
        (chapterLine fmt i name chs W.chapters).getD (cellVal fmt r name))
/-- the line of record `i` in the chapter called `name` (the chapters and their `columns_len` trees in step) -/
def chapterLine (fmt : Fmt) (i : Nat) (name : Name) : List (Name × LB) → List (Name × CL) → Option String
  | [], _ => none
  | (k, ch) :: rest, cs =>
      if name = k then some (rowLineOf fmt i (ch.rows.getD i []) ch ((cs.head?.map (·.2)).getD CL.empty))
      else chapterLine fmt i name rest cs.tail
end

/-- the line of record `i` of the logbook -/
def rowLine (fmt : Fmt) (i : Nat) (lb : LB) (W : CL) : String := rowLineOf fmt i (lb.rows.getD i []) lb W

/-- the lines of the records `si, si+1, …` of the logbook -/
def dataLines (fmt : Fmt) (si : Nat) (lb : LB) (W : CL) : List String :=
  (List.range' si (lb.rows.length - si)).map fun i => rowLine fmt i lb W

theorem dataLines_length (fmt : Fmt) (si : Nat) (lb : LB) (W : CL) :
    (dataLines fmt si lb W).length = lb.rows.length - si := by
  rw [dataLines, List.length_map, List.length_range']

@[simp] theorem CL.len_mk (l : Option (List Nat)) (c : List (Name × CL)) : (CL.mk l c).len = l := rfl
@[simp] theorem CL.chapters_mk (l : Option (List Nat)) (c : List (Name × CL)) : (CL.mk l c).chapters = c := rfl

theorem chapterLine_spec (fmt : Fmt) (i : Nat) (name : Name) (chs : List (Name × LB)) (cs : List (Name × CL)) :
    match getChapter name chs with
    | some ch => ∃ W, chapterLine fmt i name chs cs = some (rowLine fmt i ch W)
    | none => chapterLine fmt i name chs cs = none := by
  induction chs generalizing cs with
  | nil => rfl
  | cons q rest ih =>
    obtain ⟨k, c⟩ := q
    rw [getChapter, Dict.lookup_cons, chapterLine]
    by_cases hnk : name = k
    · rw [if_pos hnk, if_pos hnk]; exact ⟨_, rfl⟩
    · rw [if_neg hnk, if_neg hnk]; exact ih cs.tail

section Lists
variable {α β : Type}

theorem pyIndex_append (H D : List α) (i : Nat) :
    pyIndex (H ++ D) ((i : Int) + (H.length : Int)) = D[i]? := by
  rw [pyIndex, if_pos (by omega), show ((i : Int) + (H.length : Int)).toNat = H.length + i by omega,
    List.getElem?_append_right (by omega), Nat.add_sub_cancel_left]

theorem le_foldl_max (l : List Nat) (a x : Nat) (h : x ≤ a ∨ x ∈ l) : x ≤ l.foldl max a := by
  induction l generalizing a with
  | nil => exact h.resolve_right List.not_mem_nil
  | cons y ys ih =>
    refine ih _ ?_
    rcases h with h | h
    · exact Or.inl (Nat.le_trans h (Nat.le_max_left _ _))
    · exact (List.mem_cons.1 h).imp (fun e => by rw [e]; exact Nat.le_max_right _ _) id

theorem le_maxNat (l : List Nat) (x : Nat) (hx : x ∈ l) : x ≤ maxNat l := le_foldl_max l 0 x (Or.inr hx)

theorem allSome_of_forall (l : List (Option α)) (h : ∀ o ∈ l, o.isSome) :
    ∃ ys, allSome l = some ys ∧ ys.length = l.length := by
  induction l with
  | nil => exact ⟨[], rfl, rfl⟩
  | cons o os ih =>
    obtain ⟨ys, h1, h2⟩ := ih (fun o' ho' => h o' (List.mem_cons_of_mem _ ho'))
    cases o with
    | none => exact absurd (h none (List.mem_cons_self ..)) (by simp)
    | some x => exact ⟨x :: ys, by rw [allSome, h1]; rfl, by rw [List.length_cons, h2]; rfl⟩

theorem allSome_map_some (l : List α) (f : α → β) : allSome (l.map fun x => some (f x)) = some (l.map f) := by
  induction l with
  | nil => rfl
  | cons x xs ih => rw [List.map_cons, allSome, ih]; rfl

theorem map_drop_zipIdx (l : List α) (d : α) (k : Nat) (F : Nat → α → β) :
    ((l.drop k).zipIdx 0).map (fun p => F (k + p.2) p.1) =
      (List.range' k (l.length - k)).map fun i => F i (l.getD i d) := by
  apply List.ext_getElem
  · simp
  · intro i h1 h2
    have hi : k + i < l.length := by simp at h1; omega
    simp [List.getElem?_eq_getElem hi]

theorem map_getD_range' (l : List α) (d : α) (k : Nat) :
    (List.range' k (l.length - k)).map (fun i => l.getD i d) = l.drop k :=
  (map_drop_zipIdx l d k fun _ x => x).symm.trans (List.zipIdx_map_fst 0 _)

end Lists

theorem cellLoop_ok (f : Name → Option String) (g : Name → String) (cols : List Name) (w : List Nat)
    (hw : w.length = cols.length) (hf : ∀ c ∈ cols, f c = some (g c)) :
    (cellLoop f cols w).1 = some (cols.map g) ∧ (cellLoop f cols w).2.length = cols.length := by
  induction cols generalizing w with
  | nil => rw [List.length_eq_zero_iff.1 hw]; exact ⟨rfl, rfl⟩
  | cons c cs ih =>
    cases w with
    | nil => cases hw
    | cons k ks =>
      obtain ⟨h1, h2⟩ := ih ks (Nat.succ.inj hw) (fun c' hc' => hf c' (List.mem_cons_of_mem _ hc'))
      simp only [cellLoop, hf c (List.mem_cons_self ..), h1, h2, Option.map_some, List.map_cons, List.length_cons,
        and_self]

theorem rowLoop_ok (f : Row → Nat → Name → Option String) (g : Row → Nat → Name → String) (cols : List Name)
    (rs : List Row) (i0 : Nat) (w : List Nat) (hw : w.length = cols.length)
    (hf : ∀ p ∈ rs.zipIdx i0, ∀ c ∈ cols, f p.1 p.2 c = some (g p.1 p.2 c)) :
    (rowLoop f cols rs i0 w).1 = some ((rs.zipIdx i0).map fun p => cols.map (g p.1 p.2)) ∧
    (rowLoop f cols rs i0 w).2.length = cols.length := by
  induction rs generalizing i0 w with
  | nil => exact ⟨rfl, hw⟩
  | cons r rs ih =>
    obtain ⟨h1, h2⟩ := cellLoop_ok (f r i0) (g r i0) cols w hw (hf (r, i0) (List.mem_cons_self ..))
    obtain ⟨h3, h4⟩ := ih (i0 + 1) (cellLoop (f r i0) cols w).2 h2 (fun p hp => hf p (List.mem_cons_of_mem _ hp))
    simp only [rowLoop]
    rw [show cellLoop (f r i0) cols w = (some (cols.map (g r i0)), (cellLoop (f r i0) cols w).2) from
      Prod.ext h1 rfl]
    simp only [h3, h4, Option.map_some, List.zipIdx_cons, List.map_cons, and_self]

/-- what `__txt__` needs from the texts of the chapters: the text of a chapter is some header lines (none when
`startindex > 0`) followed by the chapter's lines `L i` of the records `si ≤ i < n` -/
def ChOk (si n : Nat) (chTxt : List (Name × List String)) (L : Nat → Name → Option String) : Prop :=
  ∀ name, match chTxt.lookup name with
    | none => ∀ i, L i name = none
    | some t => ∃ H, t = H ++ (List.range' si (n - si)).map (fun i => (L i name).getD "") ∧
        (si ≠ 0 → H = []) ∧ ∀ i, (L i name).isSome = true

theorem ChOk.of_none {si n : Nat} {chTxt : List (Name × List String)} {L : Nat → Name → Option String}
    (hok : ChOk si n chTxt L) {name : Name} (h : chTxt.lookup name = none) : ∀ i, L i name = none := by
  have := hok name; rwa [h] at this

theorem ChOk.of_some {si n : Nat} {chTxt : List (Name × List String)} {L : Nat → Name → Option String}
    (hok : ChOk si n chTxt L) {name : Name} {t : List String} (h : chTxt.lookup name = some t) :
    ∃ H, t = H ++ (List.range' si (n - si)).map (fun i => (L i name).getD "") ∧
      (si ≠ 0 → H = []) ∧ ∀ i, (L i name).isSome = true := by
  have := hok name; rwa [h] at this

theorem initWidths_length (fmt : Fmt) (cols : List Name) (old : Option (List Nat)) :
    (initWidths fmt cols old).length = cols.length := by
  unfold initWidths
  split
  · split
    · assumption
    · exact List.length_map _
  · exact List.length_map _

theorem cellAt_ok (fmt : Fmt) (si n : Nat) (chTxt : List (Name × List String)) (L : Nat → Name → Option String)
    (hok : ChOk si n chTxt L) (row : Row) (i : Nat) (hi : i < n - si) (name : Name) :
    cellAt fmt si n chTxt row i name = some ((L (si + i) name).getD (cellVal fmt row name)) := by
  unfold cellAt
  cases hl : chTxt.lookup name with
  | none => rw [hok.of_none hl (si + i)]; rfl
  | some t =>
    obtain ⟨H, ht, hH, hs⟩ := hok.of_some hl
    have hoff : offsetOf si n t = (H.length : Int) := by
      unfold offsetOf
      by_cases h0 : si = 0
      · subst h0; rw [ht]; simp
      · rw [if_neg h0, hH h0]; rfl
    obtain ⟨x, hx⟩ := Option.isSome_iff_exists.1 (hs (si + i))
    rw [hx, Option.getD_some]
    show pyIndex t ((i : Int) + offsetOf si n t) = some x
    rw [hoff, ht, pyIndex_append, List.getElem?_map, List.getElem?_range' hi]
    simp only [Option.map_some, Nat.one_mul, hx, Option.getD_some]

theorem headerLines_pos (n : Nat) (chTxt : List (Name × List String)) (L : Nat → Name → Option String)
    (hok : ChOk 0 n chTxt L) : 0 < headerLines n chTxt := by
  unfold headerLines
  cases chTxt with
  | nil => exact Int.one_pos
  | cons q rest =>
    obtain ⟨k, t⟩ := q
    obtain ⟨H, ht, _, _⟩ := hok.of_some (List.lookup_cons_self ..)
    have hlen : n ≤ t.length := by rw [ht]; simp
    have hm : t.length ≤ maxNat (((k, t) :: rest).map (·.2.length)) := le_maxNat _ _ (List.mem_cons_self ..)
    rw [List.isEmpty_cons, if_neg Bool.false_ne_true]
    omega

/-- the matrix of cells that the row loop builds when the texts of the chapters are as `ChOk` says: per record
from `si` on one cell per column, a chapter column holding the chapter's line, any other the formatted field -/
def cellMatrix (fmt : Fmt) (si : Nat) (rows : List Row) (cols : List Name) (L : Nat → Name → Option String) :
    List (List String) :=
  (List.range' si (rows.length - si)).map fun i =>
    cols.map fun name => (L i name).getD (cellVal fmt (rows.getD i []) name)

theorem rowLoop_cellAt (fmt : Fmt) (si : Nat) (rows : List Row) (cols : List Name) (w0 : List Nat)
    (chTxt : List (Name × List String)) (L : Nat → Name → Option String) (hw : w0.length = cols.length)
    (hok : ChOk si rows.length chTxt L) :
    (rowLoop (cellAt fmt si rows.length chTxt) cols (rows.drop si) 0 w0).1 = some (cellMatrix fmt si rows cols L) := by
  rw [cellMatrix, ← map_drop_zipIdx rows [] si fun i r => cols.map fun name => (L i name).getD (cellVal fmt r name)]
  refine (rowLoop_ok _ (fun r i name => (L (si + i) name).getD (cellVal fmt r name)) cols _ 0 w0 hw ?_).1
  intro p hp c _
  have := (List.mem_zipIdx (x := p.1) (i := p.2) hp).2.1
  rw [List.length_drop] at this
  exact cellAt_ok fmt si rows.length chTxt L hok p.1 p.2 (by omega) c

theorem finishTxt_of_header (fmt : Fmt) (si : Nat) (hdr : Bool) (rows : List Row) (lh : Bool) (cols : List Name)
    (w0 : List Nat) (chTxt : List (Name × List String)) (L : Nat → Name → Option String)
    (hw : w0.length = cols.length) (hok : ChOk si rows.length chTxt L) (hcols : List (List String))
    (hh : (hdr && si == 0 && lh) = true → allSome (cols.zipIdx.map fun p =>
      headerCol fmt rows.length (headerLines rows.length chTxt) chTxt (cellMatrix fmt si rows cols L) p.2 p.1) =
        some hcols) :
    ∃ w, finishTxt fmt si hdr rows lh cols w0 chTxt =
      (some (((if (hdr && si == 0 && lh) = true then headerBlock (headerLines rows.length chTxt).toNat hcols
          else []) ++ cellMatrix fmt si rows cols L).map (formatLine w)), w) := by
  refine ⟨(rowLoop (cellAt fmt si rows.length chTxt) cols (rows.drop si) 0 w0).2, ?_⟩
  rw [finishTxt, show rowLoop (cellAt fmt si rows.length chTxt) cols (rows.drop si) 0 w0 = (some _, _) from
    Prod.ext (rowLoop_cellAt fmt si rows cols w0 chTxt L hw hok) rfl]
  by_cases hflag : (hdr && si == 0 && lh) = true
  · simp only [hflag, if_true, hh hflag]
  · simp only [hflag, if_false, Bool.false_eq_true, List.nil_append]

theorem finishTxt_ok (fmt : Fmt) (si : Nat) (hdr : Bool) (rows : List Row) (lh : Bool) (cols : List Name)
    (w0 : List Nat) (chTxt : List (Name × List String)) (L : Nat → Name → Option String)
    (hn : rows.length ≠ 0) (hw : w0.length = cols.length) (hok : ChOk si rows.length chTxt L) :
    ∃ Hd w, finishTxt fmt si hdr rows lh cols w0 chTxt =
        (some (Hd ++ (cellMatrix fmt si rows cols L).map (formatLine w)), w) ∧
      (Hd ≠ [] ↔ (hdr && si == 0 && lh) = true) := by
  by_cases hflag : (hdr && si == 0 && lh) = true
  · obtain rfl : si = 0 := by simp only [Bool.and_eq_true, beq_iff_eq] at hflag; exact hflag.1.2
    have hpos := headerLines_pos rows.length chTxt L hok
    obtain ⟨hcols, hh, -⟩ := allSome_of_forall (cols.zipIdx.map fun p =>
        headerCol fmt rows.length (headerLines rows.length chTxt) chTxt (cellMatrix fmt 0 rows cols L) p.2 p.1) (by
      -- no header cell raises: a chapter's text is not empty and as long as the logbook, any other column has a line
      intro o ho
      obtain ⟨p, -, rfl⟩ := List.mem_map.1 ho
      unfold headerCol
      cases hl : chTxt.lookup p.1 with
      | none => simp only []; rw [if_neg (by omega)]; rfl
      | some t =>
        obtain ⟨H, ht, -, -⟩ := hok.of_some hl
        have hlen : t.length = H.length + rows.length := by rw [ht]; simp
        have hne : t.isEmpty = false := List.isEmpty_eq_false_iff.2 fun e => by rw [e] at hlen; simp at hlen; omega
        simp only []; rw [if_neg (by rw [hne]; simp; omega)]; rfl)
    obtain ⟨w, hf⟩ := finishTxt_of_header fmt 0 hdr rows lh cols w0 chTxt L hw hok hcols fun _ => hh
    rw [if_pos hflag, List.map_append] at hf
    refine ⟨_, w, hf, iff_of_true (fun he => ?_) hflag⟩
    have := congrArg List.length he
    rw [List.length_map, headerBlock, List.length_map, List.length_range, List.length_nil] at this
    omega
  · obtain ⟨w, hf⟩ := finishTxt_of_header fmt si hdr rows lh cols w0 chTxt L hw hok [] fun h => absurd h hflag
    rw [if_neg hflag] at hf
    exact ⟨[], w, hf, iff_of_false (fun h => h rfl) hflag⟩

theorem finishTxt_plain (fmt : Fmt) (si : Nat) (hdr : Bool) (rows : List Row) (lh : Bool) (cols : List Name)
    (w0 : List Nat) (hw : w0.length = cols.length) :
    ∃ w, finishTxt fmt si hdr rows lh cols w0 [] =
      (some ((if (hdr && si == 0 && lh) = true then [formatLine w (cols.map fmt.name)] else []) ++
        (List.range' si (rows.length - si)).map (fun i =>
          formatLine w (cols.map fun name => cellVal fmt (rows.getD i []) name))), w) := by
  obtain ⟨w, hf⟩ := finishTxt_of_header fmt si hdr rows lh cols w0 [] (fun _ _ => none) hw (fun _ _ => rfl)
    (cols.zipIdx.map fun p => [fmt.name p.1]) fun _ => allSome_map_some _ _
  refine ⟨w, hf.trans ?_⟩
  have hz : cols.zipIdx.map (fun p => fmt.name p.1) = cols.map fmt.name := by
    have := congrArg (List.map fmt.name) (List.zipIdx_map_fst 0 cols)
    rwa [List.map_map] at this
  simp only [cellMatrix, Option.getD_none, List.map_append, List.map_map]
  split
  · simp [headerBlock, headerLines, hz, Function.comp_def]
  · rfl

mutual
theorem txtT_ok (fmt : Fmt) (si : Nat) (hdr : Bool) : ∀ (lb : LB) (cl : CL), DeepAligned lb →
    ∃ Hd, (txtT fmt si hdr lb cl).1 = some (Hd ++ dataLines fmt si lb (txtT fmt si hdr lb cl).2) ∧
      (Hd ≠ [] ↔ (txt si hdr lb).header = true)
  | .mk rows chs b h lh hs, cl, hd => by
    by_cases hz : rows.length = 0
    · exact ⟨[], by simp [txtT, hz, dataLines], by simp [txt, hz]⟩
    · obtain ⟨chTxt, hc1, hc2⟩ := chaptersT_ok fmt si hdr rows.length chs cl.chapters hd.2
      obtain ⟨Hd, w, hf1, hf2⟩ := finishTxt_ok fmt si hdr rows lh (columnsOf fmt h rows (chs.map (·.1)))
        (initWidths fmt (columnsOf fmt h rows (chs.map (·.1))) cl.len) chTxt _ hz (initWidths_length _ _ _) hc2
      refine ⟨Hd, ?_, hf2.trans ?_⟩
      · simp only [txtT, hz, if_false]
        rw [show chaptersT fmt si hdr chs cl.chapters = (some chTxt, _) from Prod.ext hc1 rfl]
        simp only [hf1, cellMatrix, dataLines, rowLine, rowLineOf, CL.len_mk, CL.chapters_mk, Option.getD_some,
          rows_mk, List.map_map, Function.comp_def]
      · rw [txt_header_iff]; simp [hz, and_assoc]
theorem chaptersT_ok (fmt : Fmt) (si : Nat) (hdr : Bool) (n : Nat) :
    ∀ (chs : List (Name × LB)) (cs : List (Name × CL)), AllAligned n chs →
    ∃ chTxt, (chaptersT fmt si hdr chs cs).1 = some chTxt ∧
      ChOk si n chTxt (fun i name => chapterLine fmt i name chs (chaptersT fmt si hdr chs cs).2)
  | [], cs, _ => ⟨[], rfl, fun _ _ => rfl⟩
  | (k, ch) :: rest, cs, ha => by
    obtain ⟨hl, hdk, hr⟩ := ha
    obtain ⟨Hk, hk1, hk2⟩ := txtT_ok fmt si hdr ch (clChild k cs) hdk
    obtain ⟨restTxt, hr1, hr2⟩ := chaptersT_ok fmt si hdr n rest cs hr
    have hcs : chaptersT fmt si hdr ((k, ch) :: rest) cs =
        (some ((k, Hk ++ dataLines fmt si ch (txtT fmt si hdr ch (clChild k cs)).2) :: restTxt),
         (k, (txtT fmt si hdr ch (clChild k cs)).2) :: (chaptersT fmt si hdr rest cs).2) := by
      simp only [chaptersT]
      rw [show txtT fmt si hdr ch (clChild k cs) = (some _, _) from Prod.ext hk1 rfl]
      simp only [hr1, Option.map_some]
    rw [hcs]
    refine ⟨_, rfl, fun name => ?_⟩
    rw [Dict.lookup_cons]; simp only [chapterLine]
    by_cases hnk : name = k
    · simp only [if_pos hnk]
      refine ⟨Hk, ?_, fun h0 => ?_, fun _ => rfl⟩
      · simp [dataLines, rowLine, hl]
      · by_contra hne
        exact h0 ((txt_header_iff si hdr ch).1 (hk2.1 hne)).2.2.1
    · simp only [if_neg hnk]; exact hr2 name
end

theorem stepT_lb (fmt : Fmt) (s : LB × CL) (o : Op) : (stepT fmt s o).1.1 = (step s.1 o).1 := by
  cases o <;> simp only [stepT]
  split <;> rfl

theorem stepT_obs (fmt : Fmt) (s : LB × CL) (o : Op) : (stepT fmt s o).2.1 = (step s.1 o).2 := by
  cases o <;> simp only [stepT]
  split <;> rfl

theorem runFromT_lb (fmt : Fmt) (ops : List Op) (s : LB × CL) : (runFromT fmt s ops).1 = runFrom s.1 ops := by
  induction ops generalizing s with
  | nil => rfl
  | cons o os ih => exact (ih _).trans (congrArg (runFrom · os) (stepT_lb fmt s o))

theorem runT_lb (fmt : Fmt) (ops : List Op) : (runT fmt ops).1 = run ops := runFromT_lb fmt ops _

/-- what one reading of the stream returns, taken apart: the header block, and every delivered row next to
its line -/
def block (fmt : Fmt) (s : LB × CL) : List String × List (Row × String) :=
  let r := txtT fmt s.1.buffindex (!s.1.headerStreamed) s.1 s.2
  let t := r.1.getD []
  (t.take (t.length - (s.1.rows.length - s.1.buffindex)),
   (List.range' s.1.buffindex (s.1.rows.length - s.1.buffindex)).map fun i => (s.1.rows.getD i [], rowLine fmt i s.1 r.2))

theorem block_ok (fmt : Fmt) (s : LB × CL) (hd : DeepAligned s.1) :
    (streamT fmt s).1 = some ((block fmt s).1 ++ (block fmt s).2.map (·.2)) ∧
    (block fmt s).2.map (·.1) = (stream s.1).1.rows ∧
    ((block fmt s).1 ≠ [] ↔ (stream s.1).1.header = true) ∧
    ∀ p ∈ (block fmt s).2, ∃ i, s.1.rows[i]? = some p.1 ∧ p.2 = rowLineOf fmt i p.1 s.1 (streamT fmt s).2.2 := by
  obtain ⟨Hd, h1, h2⟩ := txtT_ok fmt s.1.buffindex (!s.1.headerStreamed) s.1 s.2 hd
  have hb1 : (block fmt s).1 = Hd := by
    simp only [block, h1, Option.getD_some, List.length_append, dataLines_length, Nat.add_sub_cancel]
    exact List.take_left' rfl
  have hb2 : (block fmt s).2.map (·.2) =
      dataLines fmt s.1.buffindex s.1 (txtT fmt s.1.buffindex (!s.1.headerStreamed) s.1 s.2).2 := List.map_map ..
  refine ⟨by rw [hb1, hb2]; exact h1, ?_, by rw [hb1, h2, stream_text], fun p hp => ?_⟩
  · rw [stream_text, txt_rows, ← map_getD_range' s.1.rows []]; exact List.map_map ..
  · obtain ⟨i, hi, rfl⟩ := List.mem_map.1 hp
    have hlt : i < s.1.rows.length := by
      have := (List.mem_range'_1.1 hi).2; have := ((deepAligned_iff s.1).1 hd).1; omega
    exact ⟨i, by simp [List.getElem?_eq_getElem hlt], rfl⟩

/-- the readings of the stream along a history, each taken apart -/
def blocksFrom (fmt : Fmt) : LB × CL → List Op → List (List String × List (Row × String))
  | _, [] => []
  | s, .stream :: ops => block fmt s :: blocksFrom fmt (stepT fmt s .stream).1 ops
  | s, o :: ops => blocksFrom fmt (stepT fmt s o).1 ops

theorem header_blocks_le_one {bs : List (List String × List (Row × String))} {lb : LB} {ops : List Op}
    (h : bs.map (fun b => decide (b.1 ≠ [])) = (streamsFrom lb ops).map (·.header)) :
    (bs.filter fun b => decide (b.1 ≠ [])).length ≤ 1 := by
  have := congrArg (fun l => (l.filter id).length) h
  simp only [List.filter_map, List.length_map, Function.comp_def, id] at this
  exact this ▸ Nat.le_of_add_right_le (headers_le_one ops lb)

theorem blocks_history (fmt : Fmt) (ops : List Op) (s : LB × CL)
    (hall : ∀ pre, pre <+: ops → DeepAligned (runFrom s.1 pre)) :
    streamTextsFrom fmt s ops = (blocksFrom fmt s ops).map (fun b => some (b.1 ++ b.2.map (·.2))) ∧
    (blocksFrom fmt s ops).map (fun b => b.2.map (·.1)) = (streamsFrom s.1 ops).map (·.rows) ∧
    (blocksFrom fmt s ops).map (fun b => decide (b.1 ≠ [])) = (streamsFrom s.1 ops).map (·.header) ∧
    ∀ b ∈ blocksFrom fmt s ops, ∀ p ∈ b.2, ∃ pre W i, pre <+: ops ∧
      (runFrom s.1 pre).rows[i]? = some p.1 ∧ p.2 = rowLineOf fmt i p.1 (runFrom s.1 pre) W := by
  induction ops generalizing s with
  | nil => exact ⟨rfl, rfl, rfl, fun _ hb => (nomatch hb)⟩
  | cons o os ih =>
    have hd : DeepAligned s.1 := hall [] List.nil_prefix
    obtain ⟨i1, i2, i3, i4⟩ := ih (stepT fmt s o).1 fun pre hp =>
      stepT_lb fmt s o ▸ hall (o :: pre) (List.cons_prefix_cons.2 ⟨rfl, hp⟩)
    rw [stepT_lb] at i2 i3
    have hlift : ∀ b ∈ blocksFrom fmt (stepT fmt s o).1 os, ∀ p ∈ b.2, ∃ pre W i, pre <+: (o :: os) ∧
        (runFrom s.1 pre).rows[i]? = some p.1 ∧ p.2 = rowLineOf fmt i p.1 (runFrom s.1 pre) W := by
      intro b hb p hp
      obtain ⟨pre, W, i, hpre, hr, hl⟩ := i4 b hb p hp
      rw [stepT_lb] at hr hl
      exact ⟨o :: pre, W, i, List.cons_prefix_cons.2 ⟨rfl, hpre⟩, hr, hl⟩
    cases o
    case stream =>
      obtain ⟨b1, b2, b3, b4⟩ := block_ok fmt s hd
      refine ⟨congrArg₂ _ b1 i1, congrArg₂ _ b2 i2, congrArg₂ _ ?_ i3, fun b hb p hp => ?_⟩
      · rw [Bool.eq_iff_iff]; simpa using b3
      · rcases List.mem_cons.1 hb with rfl | hb
        · obtain ⟨i, hr, hl⟩ := b4 p hp
          exact ⟨[], (streamT fmt s).2.2, i, List.nil_prefix, hr, hl⟩
        · exact hlift b hb p hp
    all_goals exact ⟨i1, i2, i3, hlift⟩

end C18L
