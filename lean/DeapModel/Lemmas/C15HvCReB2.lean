import DeapModel.Lemmas.C15HvCReB1
/-!
C15 — the 3-D base case of `_hv.c` re-entered: Cases 0 and 2 of the entry phase (every node of the list of dimension 2
is at or above `bound[2]`, in particular `bound[2] = -DBL_MAX`): the first node is initialised (l.845-848, l.860-862),
`reconnectLoop` stops at once, the main loop starts at the second node.
-/
namespace HvC
open HvSweep (Hj RL)

theorem caseA_entry {C : Cargo} {R : List ℚ} {d n : ℕ} {O : ℕ → List ℕ} {F : ℕ}
    (c : CCtx C R d n O) (hF : n + 2 ≤ F) {S : St} {A : List ℕ} (inv : InvC C R d n O S 2 A) (hA : 2 ≤ A.length)
    (hge : ∀ a ∈ RL O 2 A, geBound S 2 (cg C a 2) = true) :
    ∃ S3 P Q hv ha, EntryRes C R d n O A S S3 P Q hv ha ∧
      (∀ v S', sweepLoop C R F F (Q.headD 0) hv ha S3 = some (v, S') → dim3 C R F S = some (v, avlClearTree S')) := by
  have l2 := l2_of_inv c inv
  obtain ⟨a1, a2, rest, hL⟩ : ∃ a1 a2 rest, RL O 2 A = a1 :: a2 :: rest := by
    match hRL : RL O 2 A, l2.len with
    | [], h => simp at h; omega
    | [x], h => simp at h; omega
    | x :: y :: l, _ => exact ⟨x, y, l, rfl⟩
  have hD : DLc n S 2 (a1 :: a2 :: rest) := hL ▸ l2.dl
  have ha1L : a1 ∈ RL O 2 A := by rw [hL]; simp
  have ha2L : a2 ∈ RL O 2 A := by rw [hL]; simp
  have ha1A : a1 ∈ A := (l2.mem a1).mp ha1L
  have ha1I := inv.sub a1 ha1A
  have ha1n : a1 ≤ n := ((HvSweep.mem_ids n a1).mp ha1I).2
  have ha20 : a2 ≠ 0 := by
    have := (hD.2.2 a2 (by simp)).1
    omega
  have hd2 : 2 < d := l2.hd
  have hlastL := l2.last_mem hA
  have hlt : ∀ a ∈ RL O 2 A, ltBound S 2 (cg C a 2) = false := fun a ha => by
    unfold ltBound
    rw [hge a ha]
    rfl
  set A1 : ℚ := (rf R 0 - cg C a1 0) * (rf R 1 - cg C a1 1) with hA1
  have hign1 : ign (entryA C R S a1) a1 = 0 :=
    ign_setIgn_self (setIgn S a1 0) a1 0 (by rw [show (setIgn S a1 0).ignore.length = _ from List.length_set, inv.tsh.ign]; omega)
  have hignne : ∀ q, q ≠ a1 → ign (entryA C R S a1) q = ign S q := fun q hq =>
    (ign_setIgn_ne (setIgn S a1 0) a1 q 0 hq).trans (ign_setIgn_ne S a1 q 0 hq)
  have hdr1 : dr (entryA C R S a1) a1 = rf R 2 :=
    dr_setDr_self (setDr S a1 (rf R 2)) a1 _ (by rw [show (setDr S a1 (rf R 2)).domr.length = _ from List.length_set, inv.tsh.domr]; omega)
  have hdrne : ∀ q, q ≠ a1 → dr (entryA C R S a1) q = dr S q := fun q hq =>
    (dr_setDr_ne (setDr S a1 (rf R 2)) a1 q _ hq).trans (dr_setDr_ne S a1 q _ hq)
  have hgood1 := inv.good a1 ha1A
  obtain ⟨hc1, hc2⟩ := HvSweep.caches_of_first c.g 1 hd2 A inv.sub a1 (a2 :: rest) hL
  rw [Hj_single_eq_areaProdC c a1 ha1I hgood1 1 (by omega), show areaProdC C R a1 2 = A1 by simp [areaProdC, hA1]] at hc1
  have hnA : ∀ y, y ∉ A → y ≠ a1 := fun y hy e => hy (e ▸ ha1A)
  have h1 : ∀ {t}, t ∈ [a1] → t = a1 := fun h => List.mem_singleton.mp h
  have hmarks := marks_cleared (C := C) (O := O) hign1 hignne (fun q hq _ => hdrne q hq) inv.ig inv.igd
  refine ⟨entryA C R S a1, [a1], a2 :: rest, 0 + A1 * (cg C a2 2 - cg C a1 2), A1, ?_, ?_⟩
  · exact
      { sl :=
          { anodup := inv.nodup
            asub := inv.sub
            agood := inv.good
            split := hL
            prene := by simp
            shape := inv.shape
            tsh :=
              ⟨HvSweep.shaped_tset inv.tsh.area a1 2 A1, HvSweep.shaped_tset inv.tsh.vol a1 2 0,
                (List.length_set.trans List.length_set).trans inv.tsh.ign,
                (List.length_set.trans List.length_set).trans inv.tsh.domr, List.length_set.trans inv.tsh.bound⟩
            dl := l2.dl
            tne := List.cons_ne_nil a1 []
            tnd := List.nodup_singleton a1
            tsub := fun t ht => ht
            tign := fun t ht => by rw [h1 ht, hign1]; decide
            stair := List.pairwise_singleton _ _
            cover := fun q hq => ⟨q, hq, le_refl _, le_refl _⟩
            area := by
              show A1 = hArea (rf R 0) (rf R 1) ([a1].map (item C))
              simp only [List.map_cons, List.map_nil, hArea, hA1, item]; ring
            val := by
              show 0 + A1 * (cg C a2 2 - cg C a1 2) + A1 * (rf R 2 - cg C a2 2) = Hj R (spt C R) 2 [a1]
              rw [Hj_single_eq_areaProdC c a1 ha1I hgood1 2 hd2]; simp only [areaProdC, hA1]; ring
            cache := fun a ha => by
              rw [h1 ha, hc1, hc2]
              exact ⟨ar_setAr_self inv.tsh.area ha1n hd2 A1, vl_setVl_self inv.tsh.vol ha1n hd2 0⟩
            drT := fun t ht => by rw [h1 ht]; exact hdr1
            drge := fun a ha => by rw [h1 ha, hdr1]; exact le_of_lt (hgood1 2 hd2)
            drout := fun a ha hnt => absurd ha hnt
            drL := fun a ha q hq hb => absurd ((h1 hq).trans (h1 ha).symm) hb.1
            ig := hmarks.1
            igd := hmarks.2 }
        next := rfl
        prev := rfl
        bound := rfl
        ign_out := fun y hy => hignne y (hnA y hy)
        dr_out := fun y hy => hdrne y (hnA y hy)
        cache_hi := fun a i hi => ⟨ar_setAr_ne S a1 2 a i A1 (Or.inr hi), vl_setVl_ne S a1 2 a i 0 (Or.inr hi)⟩ }
  · intro v S' hsw
    obtain ⟨f, rfl, -⟩ := HvSweep.exists_fuel_succ hF
    rw [dim3_caseA C R (hlt _ hlastL) hD.1.1.1 (hge a1 ha1L)
      (show nx S 2 a1 = a2 from (HvSweep.seg_node (toSw S) 2 [] 0 a1 (a2 :: rest) 0 hD.1).2.1)
      (HvSweep.seg_node (toSw S) 2 [a1] 0 a2 rest 0 hD.1).1
      (hlt a2 ha2L) inv.tsh.area inv.tsh.vol hd2 ha1n, if_pos ha20]
    exact congrArg _ hsw

end HvC
