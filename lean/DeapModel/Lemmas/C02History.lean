/-
C02 — `tools.History` (`Core/History.lean`): the genealogy dictionaries as association lists (`dget`/`dset`, instances
of `Lemmas/Dict.lean`), what one `update` call writes and stamps, that the `decorator` keeps `OpContract`, and the walk of `getGenealogy` (it stays inside
the tree, and ends whenever every parent index is below its child's).
-/
import DeapModel.Core.History
import DeapModel.Lemmas.C02Ops
import DeapModel.Lemmas.ListCore
import DeapModel.Lemmas.Dict

namespace History
open Variation

theorem dget_eq {β : Type} (d : Dict β) (k : Nat) : dget d k = d.lookup k := by
  induction d with
  | nil => rfl
  | cons e d ih => obtain ⟨k', v⟩ := e; rw [dget, Dict.lookup_cons, ih]; by_cases h : k' = k <;> simp [h, Ne.symm]

theorem dset_eq {β : Type} (d : Dict β) (k : Nat) (v : β) : dset d k v = Dict.upsert (fun _ => v) k d := by
  induction d with
  | nil => rfl
  | cons e d ih => obtain ⟨k', v'⟩ := e; simp only [dset, Dict.upsert, ih]; split <;> simp_all

theorem dget_dset_same {β : Type} (d : Dict β) (k : Nat) (v : β) : dget (dset d k v) k = some v := by
  rw [dget_eq, dset_eq, Dict.lookup_upsert, if_pos rfl]

theorem dget_dset_other {β : Type} (d : Dict β) (k k2 : Nat) (v : β) (hne : k2 ≠ k) :
    dget (dset d k v) k2 = dget d k2 := by
  rw [dget_eq, dset_eq, Dict.lookup_upsert, if_neg hne, dget_eq]

theorem dset_fresh {β : Type} (d : Dict β) (k : Nat) (v : β) (hk : k ∉ dkeys d) : dset d k v = d ++ [(k, v)] :=
  (dset_eq d k v).trans (Dict.upsert_fresh _ k d hk)

theorem dget_isSome_iff {β : Type} (d : Dict β) (k : Nat) : (dget d k).isSome = true ↔ k ∈ dkeys d :=
  dget_eq d k ▸ Dict.lookup_isSome_iff_keys

theorem dget_append {β : Type} (d e : Dict β) (k : Nat) :
    dget (d ++ e) k = match dget d k with | some v => some v | none => dget e k := by
  rw [dget_eq, dget_eq, dget_eq, List.lookup_append]; cases d.lookup k <;> rfl

theorem dget_map_const {β : Type} (l : List Nat) (v : β) (k : Nat) :
    dget (l.map fun j => (j, v)) k = if k ∈ l then some v else none := by
  rw [dget_eq]
  induction l with
  | nil => rfl
  | cons j l ih => rw [List.map_cons, Dict.lookup_cons, ih]; by_cases h : k = j <;> simp [h]

theorem dget_eq_none {β : Type} {d : Dict β} {k : Nat} (hk : k ∉ dkeys d) : dget d k = none :=
  dget_eq d k ▸ Dict.lookup_eq_none_iff_keys.2 hk

theorem parentIndices_eq (h : Heap) (inds : List Nat) :
    parentIndices h inds =
      if ∀ o ∈ inds, ((h o).hidx).isSome = true then inds.filterMap (fun o => (h o).hidx) else [] := by
  rw [parentIndices, List.mapM_option]
  by_cases c : ∀ o ∈ inds, ((h o).hidx).isSome = true
  · rw [if_pos c, if_pos c]
  · rw [if_neg c, if_neg c]

theorem parentIndices_mem (h : Heap) (inds : List Nat) : ∀ q ∈ parentIndices h inds, ∃ o ∈ inds, (h o).hidx = some q := by
  intro q hq
  rw [parentIndices_eq] at hq
  split at hq
  · simpa using hq
  · simp at hq

/-- the keys of both dicts are `1, 2, …, genealogy_index`, in this order -/
def WF (H : Hist) : Prop := dkeys H.tree = List.range' 1 H.index ∧ dkeys H.hist = List.range' 1 H.index

theorem WF_init : WF {} := ⟨rfl, rfl⟩

/-- one turn of `update`'s loop on the heap: `o` is stamped with `k`, a deep copy of it is stored under the new oid `n` -/
def stamp (h : Heap) (o k n : Nat) : Heap :=
  (h.set o { h o with hidx := some k }).set n ((h.set o { h o with hidx := some k }) o)

theorem updateLoop_cons (ps : List Nat) (H : Hist) (h : Heap) (n o : Nat) (rest : List Nat) :
    updateLoop ps H h n (o :: rest) =
      updateLoop ps ⟨H.index + 1, dset H.tree (H.index + 1) ps, dset H.hist (H.index + 1) n⟩
        (stamp h o (H.index + 1) n) (n + 1) rest := rfl

theorem stamp_new (h : Heap) (o k n : Nat) : stamp h o k n n = { h o with hidx := some k } := by simp [stamp]

theorem stamp_other (h : Heap) {o n p : Nat} (k : Nat) (h1 : p ≠ o) (h2 : p ≠ n) : stamp h o k n p = h p := by
  simp [stamp, h1, h2]

theorem stamp_hidx (h : Heap) {o n p : Nat} (k : Nat) (b : Option Nat) (hpn : p ≠ n) :
    ({ stamp h o k n p with hidx := b } : Obj) = { h p with hidx := b } := by
  by_cases e : p = o
  · subst e; simp [stamp, hpn]
  · rw [stamp_other h k e hpn]

theorem updateLoop_next (ps : List Nat) (H : Hist) (h : Heap) (n : Nat) (inds : List Nat) :
    (updateLoop ps H h n inds).next = n + inds.length := by
  induction inds generalizing H h n with
  | nil => rfl
  | cons o rest ih => rw [updateLoop_cons, ih, List.length_cons]; omega

theorem updateLoop_index (ps : List Nat) (H : Hist) (h : Heap) (n : Nat) (inds : List Nat) :
    (updateLoop ps H h n inds).hist.index = H.index + inds.length := by
  induction inds generalizing H h n with
  | nil => rfl
  | cons o rest ih => rw [updateLoop_cons, ih, List.length_cons]; exact Nat.add_right_comm ..

theorem updateLoop_frame (ps : List Nat) (H : Hist) (h : Heap) (n : Nat) (inds : List Nat) (o : Nat)
    (ho : o ∉ inds) (hn : o < n) : (updateLoop ps H h n inds).heap o = h o := by
  induction inds generalizing H h n with
  | nil => rfl
  | cons x rest ih =>
    rw [updateLoop_cons, ih _ _ _ (fun hm => ho (List.mem_cons_of_mem _ hm)) (by omega),
      stamp_other h _ (fun e => ho (by simp [e])) (by omega)]

theorem updateLoop_genome_fit (ps : List Nat) (H : Hist) (h : Heap) (n : Nat) (inds : List Nat) (o : Nat) (hn : o < n) :
    ((updateLoop ps H h n inds).heap o).genome = (h o).genome ∧ ((updateLoop ps H h n inds).heap o).fit = (h o).fit := by
  induction inds generalizing H h n with
  | nil => exact ⟨rfl, rfl⟩
  | cons x rest ih =>
    have e := congrArg (fun y : Obj => (y.genome, y.fit)) (stamp_hidx h (o := x) (H.index + 1) none (Nat.ne_of_lt hn))
    rw [updateLoop_cons, (ih _ _ _ (by omega)).1, (ih _ _ _ (by omega)).2]
    exact ⟨congrArg Prod.fst e, congrArg Prod.snd e⟩

theorem setHidx_twice (x : Obj) (a b : Option Nat) : ({ ({ x with hidx := a } : Obj) with hidx := b } : Obj) = { x with hidx := b } := rfl

theorem updateLoop_stamped (ps : List Nat) (H : Hist) (h : Heap) (n : Nat) (inds : List Nat) (hlt : ∀ o ∈ inds, o < n)
    (i o : Nat) (hi : inds[i]? = some o) :
    (updateLoop ps H h n inds).heap (n + i) = { h o with hidx := some (H.index + i + 1) } ∧
    (inds.Nodup → (updateLoop ps H h n inds).heap o = { h o with hidx := some (H.index + i + 1) }) := by
  induction inds generalizing H h n i with
  | nil => simp at hi
  | cons x rest ih =>
    have hrest : ∀ o ∈ rest, o < n + 1 := fun o ho => Nat.lt_succ_of_lt (hlt o (List.mem_cons_of_mem _ ho))
    rw [updateLoop_cons]
    cases i with
    | zero =>
      cases hi
      have hon := hlt o (List.mem_cons_self ..)
      refine ⟨?_, fun hnd => ?_⟩
      · rw [Nat.add_zero n, updateLoop_frame _ _ _ _ _ n (fun hm => Nat.lt_irrefl _ (hlt n (List.mem_cons_of_mem _ hm)))
          (Nat.lt_succ_self n)]
        exact stamp_new ..
      · rw [updateLoop_frame _ _ _ _ _ o (List.nodup_cons.1 hnd).1 (Nat.lt_succ_of_lt hon)]
        simp [stamp, Nat.ne_of_lt hon]
    | succ j =>
      have hs := stamp_hidx h (o := x) (H.index + 1) (some (H.index + 1 + j + 1))
        (Nat.ne_of_lt (hlt o (List.mem_cons_of_mem _ (List.mem_of_getElem? hi))))
      obtain ⟨a, b⟩ := ih ⟨H.index + 1, _, _⟩ (stamp h x (H.index + 1) n) (n + 1) hrest j hi
      rw [show n + (j + 1) = n + 1 + j by omega, show H.index + (j + 1) + 1 = H.index + 1 + j + 1 by omega]
      exact ⟨a.trans hs, fun hnd => (b (List.nodup_cons.1 hnd).2).trans hs⟩

theorem range'_one_succ (k : Nat) : List.range' 1 (k + 1) = List.range' 1 k ++ [k + 1] := by
  rw [List.range'_concat]; simp [Nat.add_comm]

theorem WF_step (H : Hist) (hwf : WF H) (ps : List Nat) (n : Nat) :
    WF { index := H.index + 1, tree := dset H.tree (H.index + 1) ps, hist := dset H.hist (H.index + 1) n } ∧
    dset H.tree (H.index + 1) ps = H.tree ++ [(H.index + 1, ps)] ∧
    dset H.hist (H.index + 1) n = H.hist ++ [(H.index + 1, n)] := by
  have hk1 : H.index + 1 ∉ dkeys H.tree := by rw [hwf.1]; simp [List.mem_range']; omega
  have hk2 : H.index + 1 ∉ dkeys H.hist := by rw [hwf.2]; simp [List.mem_range']; omega
  have e1 := dset_fresh H.tree (H.index + 1) ps hk1
  have e2 := dset_fresh H.hist (H.index + 1) n hk2
  refine ⟨⟨?_, ?_⟩, e1, e2⟩
  · show dkeys (dset H.tree (H.index + 1) ps) = List.range' 1 (H.index + 1)
    rw [e1, range'_one_succ, ← hwf.1]; simp [dkeys]
  · show dkeys (dset H.hist (H.index + 1) n) = List.range' 1 (H.index + 1)
    rw [e2, range'_one_succ, ← hwf.2]; simp [dkeys]

theorem updateLoop_dicts (ps : List Nat) (H : Hist) (h : Heap) (n : Nat) (inds : List Nat) (hwf : WF H) :
    WF (updateLoop ps H h n inds).hist ∧
    (updateLoop ps H h n inds).hist.tree = H.tree ++ (List.range' (H.index + 1) inds.length).map (fun k => (k, ps)) ∧
    (updateLoop ps H h n inds).hist.hist =
      H.hist ++ List.zip (List.range' (H.index + 1) inds.length) (List.range' n inds.length) := by
  induction inds generalizing H h n with
  | nil => simp [updateLoop, hwf]
  | cons x rest ih =>
    obtain ⟨hwf', e1, e2⟩ := WF_step H hwf ps n
    rw [updateLoop_cons]
    obtain ⟨w, t, hh⟩ := ih _ (stamp h x (H.index + 1) n) (n + 1) hwf'
    refine ⟨w, ?_, ?_⟩
    · rw [t]; show dset H.tree (H.index + 1) ps ++ _ = _
      rw [e1]; simp [List.range'_succ]
    · rw [hh]; show dset H.hist (H.index + 1) n ++ _ = _
      rw [e2]; simp [List.range'_succ]

/-- `genealogy_tree` after `update`: the old entries, then every new index mapped to the tuple of parent indices -/
theorem update_tree_dget (H : Hist) (h : Heap) (n : Nat) (inds : List Nat) (hwf : WF H) (k : Nat) :
    dget (update H h n inds).hist.tree k =
      match dget H.tree k with
      | some v => some v
      | none => if k ∈ List.range' (H.index + 1) inds.length then some (parentIndices h inds) else none := by
  rw [show (update H h n inds).hist.tree = _ from (updateLoop_dicts _ H h n inds hwf).2.1, dget_append, dget_map_const]
  cases dget H.tree k <;> rfl

theorem histMate_contract {σ : Type} {m : σ → Heap → Nat → Nat → Nat → MateRes σ} (hm : MateContract m) :
    MateContract (histMate m) := by
  refine .of_forall fun t h n a b => ?_
  have hn := hm.next t.1 h n a b
  have hf := hm.fst t.1 h n a b
  have hs := hm.snd t.1 h n a b
  simp only [histMate, update, updateLoop_next, List.length_cons, List.length_nil]
  refine ⟨by omega, Ret.mono hf (Nat.le_refl _) (Nat.le_add_right ..), Ret.mono hs (Nat.le_refl _) (Nat.le_add_right ..),
    hm.distinct t.1 h n a b, fun o ha hb hon => ?_⟩
  rw [updateLoop_frame _ _ _ _ _ o (by simp; omega) (by omega)]
  exact hm.frame t.1 h n a b o ha hb hon

theorem histMutate_contract {σ : Type} {u : σ → Heap → Nat → Nat → MutRes σ} (hu : MutContract u) :
    MutContract (histMutate u) := by
  refine .of_forall fun t h n a => ?_
  have hn := hu.next t.1 h n a
  have hr := hu.ret t.1 h n a
  simp only [histMutate, update, updateLoop_next, List.length_cons, List.length_nil]
  refine ⟨by omega, Kept.mono hr (Nat.le_refl _) (Nat.le_add_right ..), fun o ha hon => ?_⟩
  rw [updateLoop_frame _ _ _ _ _ o (by simp; omega) (by omega)]
  exact hu.frame t.1 h n a o ha hon

theorem plainMate_contract {σ : Type} {m : σ → Heap → Nat → Nat → Nat → MateRes σ} (hm : MateContract m) :
    MateContract (plainMate m) :=
  ⟨fun t => hm.next t.1, fun t => hm.fst t.1, fun t => hm.snd t.1, fun t => hm.distinct t.1, fun t => hm.frame t.1⟩

theorem plainMutate_contract {σ : Type} {u : σ → Heap → Nat → Nat → MutRes σ} (hu : MutContract u) :
    MutContract (plainMutate u) :=
  ⟨fun t => hu.next t.1, fun t => hu.ret t.1, fun t => hu.frame t.1⟩

/-- `g` is a sub-map of `tree` -/
def Sub (g tree : Dict (List Nat)) : Prop := ∀ k ps, dget g k = some ps → dget tree k = some ps

theorem Sub_dset {g tree : Dict (List Nat)} (hs : Sub g tree) (k : Nat) (ps : List Nat) (hk : dget tree k = some ps) :
    Sub (dset g k ps) tree := by
  intro k2 ps2 h2
  by_cases e : k2 = k
  · subst e; rw [dget_dset_same] at h2; cases h2; exact hk
  · rw [dget_dset_other _ _ _ _ e] at h2; exact hs k2 ps2 h2

theorem forParents_sub (tree : Dict (List Nat)) (rec : Nat → GSt → Option GSt)
    (hrec : ∀ p s s', Sub s.gtree tree → rec p s = some s' → Sub s'.gtree tree) :
    ∀ (ps : List Nat) (s s' : GSt), Sub s.gtree tree → forParents rec ps s = some s' → Sub s'.gtree tree := by
  intro ps
  induction ps with
  | nil => intro s s' hs h; simp only [forParents, Option.some.injEq] at h; subst h; exact hs
  | cons p ps ih =>
    intro s s' hs h
    simp only [forParents] at h
    split at h
    · exact ih s s' hs h
    · split at h
      · cases h
      · next s1 h1 => exact ih { s1 with visited := p :: s1.visited } s' (hrec p s s1 hs h1) h

theorem genealogy_sub (tree : Dict (List Nat)) (maxd : Option Nat) :
    ∀ (fuel index depth : Nat) (s s' : GSt), Sub s.gtree tree → genealogy tree maxd fuel index depth s = some s' →
      Sub s'.gtree tree := by
  intro fuel
  induction fuel with
  | zero => intro index depth s s' _ h; simp [genealogy] at h
  | succ fuel ih =>
    intro index depth s s' hs h
    simp only [genealogy] at h
    split at h
    · cases h; exact hs
    · next parents hp =>
      split at h
      · cases h; exact hs
      · exact forParents_sub tree _ (fun p s1 s2 h1 h2 => ih p (depth + 1) s1 s2 h1 h2) parents _ s'
          (Sub_dset hs index parents hp) h

/-- every parent index is smaller than its child's: what `update` builds when no index comes from elsewhere -/
def Below (tree : Dict (List Nat)) : Prop := ∀ k ps, dget tree k = some ps → ∀ p ∈ ps, p < k

theorem forParents_isSome (rec : Nat → GSt → Option GSt) :
    ∀ (ps : List Nat) (s : GSt), (∀ p ∈ ps, ∀ s, (rec p s).isSome = true) → (forParents rec ps s).isSome = true := by
  intro ps
  induction ps with
  | nil => intro s _; rfl
  | cons p ps ih =>
    intro s hrec
    simp only [forParents]
    split
    · exact ih s (fun q hq => hrec q (List.mem_cons_of_mem _ hq))
    · have := hrec p (by simp) s
      cases hr : rec p s with
      | none => rw [hr] at this; cases this
      | some s1 => exact ih _ (fun q hq => hrec q (List.mem_cons_of_mem _ hq))

theorem genealogy_isSome (tree : Dict (List Nat)) (maxd : Option Nat) (hb : Below tree) :
    ∀ (fuel index depth : Nat) (s : GSt), index < fuel → (genealogy tree maxd fuel index depth s).isSome = true := by
  intro fuel
  induction fuel with
  | zero => intro index depth s h; omega
  | succ fuel ih =>
    intro index depth s hlt
    simp only [genealogy]
    split
    · rfl
    · next parents hp =>
      split
      · rfl
      · exact forParents_isSome _ parents _ (fun p hpm s1 => ih p (depth + 1) s1 (by have := hb index parents hp p hpm; omega))

/-- `k` is a key of the result built so far / of `genealogy_tree` -/
def inG (s : GSt) (k : Nat) : Prop := (dget s.gtree k).isSome = true
def inT (tree : Dict (List Nat)) (k : Nat) : Prop := (dget tree k).isSome = true

theorem inG_of_dget {s : GSt} {k : Nat} {ps : List Nat} (h : dget s.gtree k = some ps) : inG s k := by
  unfold inG; rw [h]; rfl

/-- every visited index of the tree has been recorded, and every recorded index that is not still being worked on
(`S` = the indices whose frames are on the stack) has all its parents (that the tree knows) recorded -/
def Inv (tree : Dict (List Nat)) (S : Nat → Prop) (s : GSt) : Prop :=
  (∀ v ∈ s.visited, inT tree v → inG s v) ∧
  (∀ k, inG s k → ¬ S k → ∀ ps, dget tree k = some ps → ∀ p ∈ ps, inT tree p → inG s p)

/-- the walk only adds keys -/
def Mono (s s' : GSt) : Prop := ∀ k, inG s k → inG s' k

theorem Inv_empty (tree : Dict (List Nat)) : Inv tree (fun _ => False) {} :=
  ⟨fun v hv => by simp at hv, fun k hk => by simp [inG, dget] at hk⟩

theorem inG_dset (s : GSt) (k k2 : Nat) (ps : List Nat) :
    inG { s with gtree := dset s.gtree k ps } k2 ↔ (k2 = k ∨ inG s k2) := by
  unfold inG
  by_cases e : k2 = k
  · subst e; simp [dget_dset_same]
  · simp [dget_dset_other _ _ _ _ e, e]

theorem forParents_inv (tree : Dict (List Nat)) (S : Nat → Prop) (rec : Nat → GSt → Option GSt)
    (hrec : ∀ p s s', Inv tree S s → rec p s = some s' → Inv tree S s' ∧ Mono s s' ∧ (inT tree p → inG s' p)) :
    ∀ (ps : List Nat) (s s' : GSt), Inv tree S s → forParents rec ps s = some s' →
      Inv tree S s' ∧ Mono s s' ∧ (∀ p ∈ ps, inT tree p → inG s' p) := by
  intro ps
  induction ps with
  | nil =>
    intro s s' hi h
    simp only [forParents, Option.some.injEq] at h; subst h
    exact ⟨hi, fun _ h => h, fun p hp => by simp at hp⟩
  | cons p ps ih =>
    intro s s' hi h
    simp only [forParents] at h
    split at h
    · next hv =>
      have hv' : p ∈ s.visited := by simpa using hv
      obtain ⟨i1, m1, c1⟩ := ih s s' hi h
      refine ⟨i1, m1, fun q hq ht => ?_⟩
      rcases List.mem_cons.mp hq with e | hq
      · subst e; exact m1 _ (hi.1 _ hv' ht)
      · exact c1 q hq ht
    · split at h
      · cases h
      · next s1 h1 =>
        obtain ⟨i1, m1, c1⟩ := hrec p s s1 hi h1
        have i2 : Inv tree S { s1 with visited := p :: s1.visited } := by
          refine ⟨fun v hv ht => ?_, i1.2⟩
          rcases List.mem_cons.mp hv with e | hv
          · subst e; exact c1 ht
          · exact i1.1 v hv ht
        obtain ⟨i3, m3, c3⟩ := ih _ s' i2 h
        refine ⟨i3, fun k hk => m3 k (m1 k hk), fun q hq ht => ?_⟩
        rcases List.mem_cons.mp hq with e | hq
        · subst e; exact m3 _ (c1 ht)
        · exact c3 q hq ht

theorem genealogy_inv (tree : Dict (List Nat)) :
    ∀ (fuel index depth : Nat) (S : Nat → Prop) (s s' : GSt), Inv tree S s →
      genealogy tree none fuel index depth s = some s' →
      Inv tree S s' ∧ Mono s s' ∧ (inT tree index → inG s' index) := by
  intro fuel
  induction fuel with
  | zero => intro index depth S s s' _ h; simp [genealogy] at h
  | succ fuel ih =>
    intro index depth S s s' hi h
    simp only [genealogy] at h
    split at h
    · next hnone =>
      cases h
      exact ⟨hi, fun _ h => h, fun ht => by unfold inT at ht; rw [hnone] at ht; cases ht⟩
    · next parents hp =>
      simp only [over, Bool.false_eq_true, if_false] at h
      -- the frame of `index` is now on the stack
      have i0 : Inv tree (fun k => S k ∨ k = index) { s with gtree := dset s.gtree index parents } := by
        refine ⟨fun v hv ht => (inG_dset s index v parents).mpr (Or.inr (hi.1 v hv ht)), ?_⟩
        intro k hk hS ps hps p hpm ht
        have hk' : inG s k := by
          rcases (inG_dset s index k parents).mp hk with e | hk
          · exact absurd (Or.inr e) hS
          · exact hk
        exact (inG_dset s index p parents).mpr (Or.inr (hi.2 k hk' (fun hs => hS (Or.inl hs)) ps hps p hpm ht))
      obtain ⟨i1, m1, c1⟩ := forParents_inv tree (fun k => S k ∨ k = index)
        (fun p s1 => genealogy tree none fuel p (depth + 1) s1)
        (fun p s1 s2 h1 h2 => ih p (depth + 1) _ s1 s2 h1 h2) parents _ s' i0 h
      have hidx : inG s' index := m1 index ((inG_dset s index index parents).mpr (Or.inl rfl))
      refine ⟨⟨i1.1, ?_⟩, fun k hk => m1 k ((inG_dset s index k parents).mpr (Or.inr hk)), fun _ => hidx⟩
      intro k hk hS ps hps p hpm ht
      by_cases e : k = index
      · subst e
        rw [hp] at hps; cases hps
        exact c1 p hpm ht
      · exact i1.2 k hk (fun hs => hs.elim hS e) ps hps p hpm ht

/-- what two `update`s build when the first individual carried the index `2` of ANOTHER history: `1 ↦ (2,)`, `2 ↦ (1,)` -/
def cyclicTree : Dict (List Nat) := [(1, [2]), (2, [1])]

theorem genealogy_cyclic :
    ∀ (fuel depth : Nat) (s : GSt), 1 ∉ s.visited → 2 ∉ s.visited →
      genealogy cyclicTree none fuel 1 depth s = none ∧ genealogy cyclicTree none fuel 2 depth s = none := by
  intro fuel
  induction fuel with
  | zero => intro depth s _ _; exact ⟨rfl, rfl⟩
  | succ fuel ih =>
    intro depth s h1 h2
    constructor
    · have := (ih (depth + 1) { s with gtree := dset s.gtree 1 [2] } h1 h2).2
      simp only [cyclicTree] at this
      simp [genealogy, cyclicTree, dget, over, forParents, h2, this]
    · have := (ih (depth + 1) { s with gtree := dset s.gtree 2 [1] } h1 h2).1
      simp only [cyclicTree] at this
      simp [genealogy, cyclicTree, dget, over, forParents, h1, this]

end History
