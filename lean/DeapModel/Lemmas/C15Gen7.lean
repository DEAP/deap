import DeapModel.Lemmas.C15Gen6
/-!
C15 — every level of the transcribed sweep meets the level interface; hence `compute` returns the
specification in every dimension.  `toPt3` makes a point of a triple, for the statement of `C15.sweep_3d`.
-/
namespace HvSweep
open Hypervolume

section ctx
variable {C : Cargo} {dims n : ℕ} {O : ℕ → List ℕ} {pt : ℕ → List ℚ} {ref : List ℚ}

theorem inv_tick (S : St) (k m : ℕ) (A : List ℕ) (inv : Inv C dims n O pt ref S k A) :
    Inv C dims n O pt ref (tick S m) k A :=
  inv_of_marks inv rfl rfl rfl rfl rfl inv.tshape.2.2 (ig_frame (S := S) (fun _ _ => rfl) inv.ig)

/-- **every level `1 ≤ k < dims` of `hvRecursive` meets the level interface** -/
theorem levels_ok (g : GCtx C dims n O pt ref) (h2 : 2 ≤ dims) (F : ℕ) (hF : n + 1 ≤ F) :
    ∀ (k : ℕ), 1 ≤ k → k < dims → LevelOK C dims n O pt ref F k
  | 0, h, _ => by omega
  | 1, _, _ => level1_ok g h2 F hF
  | k + 2, _, hk => by
    have hrec := levels_ok g h2 F hF (k + 1) (by omega) (by omega)
    intro S A inv hne
    have hlen : A.length ≠ 0 := fun h => hne (List.length_eq_zero_iff.mp h)
    rw [hvRecursive_add_two C F k hlen S]
    obtain ⟨v, S', hrun, post⟩ := general_full g (k + 1) (by omega) hk F hF hrec (tick S (k + 2)) A
      (inv_tick S (k + 2) (k + 2) A inv) hne
    exact ⟨v, S', hrun,
      { val := post.val
        ptr := (show PtrEq S (tick S (k + 2)) from fun _ _ => ⟨rfl, rfl⟩).trans post.ptr
        inv := post.inv
        ign_out := post.ign_out
        cache_hi := post.cache_hi
        bounds_hi := post.bounds_hi }⟩

end ctx

/-- **the glue to `preProcess`**: the orders it builds are a static context for the translated front, and the state it
leaves satisfies the level invariant at the top level with all nodes present -/
theorem preProcess_ctx (ref : List ℚ) (front : List (List ℚ)) (h1 : 1 ≤ ref.length)
    (hlen : ∀ p ∈ front, p.length = ref.length)
    (hle : ∀ p ∈ front, ∀ j < ref.length, p.getD j 0 ≤ ref.getD j 0) :
    ∃ O : ℕ → List ℕ,
      GCtx ([] :: translate front ref) ref.length front.length O (fun a => front.getD (a - 1) []) ref ∧
      Inv ([] :: translate front ref) ref.length front.length O (fun a => front.getD (a - 1) []) ref
        (preProcess ([] :: translate front ref) ref.length front.length) (ref.length - 1) (ids front.length) := by
  set C : Cargo := [] :: translate front ref
  set n := front.length
  set dims := ref.length
  have hnode := fun a (ha : a ∈ ids n) => cg_node front ref hlen ha
  obtain ⟨hS, hD⟩ := preProcess_spec C dims n
  -- the static order of dimension `i` is the one the loop of `preProcess` built
  have hex : ∀ i, ∃ L, i < dims → (i, L) ∈ cum C (List.range dims) (ids n) := fun i => by
    by_cases hi : i < dims
    · obtain ⟨L, hL⟩ := cum_exists C _ (ids n) i (List.mem_range.mpr hi)
      exact ⟨L, fun _ => hL⟩
    · exact ⟨[], fun h => absurd h hi⟩
  choose O hO using hex
  have g : GCtx C dims n O (fun a => front.getD (a - 1) []) ref :=
    { hdims := rfl
      perm := fun i hi => cum_perm C _ _ i _ (hO i hi)
      sorted := fun i hi => cum_sorted C _ _ i _ (hO i hi)
      cgv := fun a ha => (hnode a ha).2
      len := fun a ha => hlen _ (hnode a ha).1
      le := fun a ha j hj => hle _ (hnode a ha).1 j hj }
  have hRL : ∀ i < dims, RL O i (ids n) = O i := by
    intro i hi
    apply List.filter_eq_self.mpr
    intro a ha
    simpa using (g.mem hi a).mp ha
  have hfields := preProcess_fields C dims n
  refine ⟨O, g, ?_⟩
  exact
    { shape := hS
      tshape := by
        refine ⟨?_, ?_, ?_⟩
        · rw [hfields.area]; exact shaped_replicate (n + 1) dims 0
        · rw [preProcess_field (·.volume) (fun _ _ _ _ => rfl) (fun _ _ _ _ => rfl)]
          exact shaped_replicate (n + 1) dims 0
        · rw [hfields.ignore]; simp [initSt]
      nodup := ids_nodup n
      sub := fun a ha => ha
      lists := by
        intro i hi
        rw [hRL i (by omega)]
        exact hD i _ (hO i (by omega))
      cv := by
        intro j hj1 hjK a ha b hb _
        rw [hfields.bounds] at hb
        have : (initSt dims n).bounds.getD (j + 1) none = none := by
          show (List.replicate dims none).getD (j + 1) none = none
          exact getD_replicate_self dims (j + 1) none
        rw [this] at hb; cases hb
      ig := by
        intro q hq hm
        have : ign (preProcess C dims n) q = 0 := by
          show (preProcess C dims n).ignore.getD q 0 = 0
          rw [hfields.ignore]; exact getD_replicate_self (n + 1) q 0
        omega }

/-- **the transcribed algorithm computes the specification in every dimension `≥ 2`** -/
theorem sweep_general (ref : List ℚ) (front : List (List ℚ)) (h2 : 2 ≤ ref.length)
    (hlen : ∀ p ∈ front, p.length = ref.length)
    (hle : ∀ p ∈ front, ∀ j < ref.length, p.getD j 0 ≤ ref.getD j 0) :
    compute front ref = some (hvCells ref front) := by
  unfold compute computeSt
  by_cases hn0 : front.length = 0
  · have hf : front = [] := List.length_eq_zero_iff.mp hn0
    rw [hn0, hvRecursive_len_zero, hf, hvCells_nil_pts]
    rfl
  · obtain ⟨O, g, inv⟩ := preProcess_ctx ref front (le_trans one_le_two h2) hlen hle
    have hidslen : (ids front.length).length = front.length := by simp [ids]
    obtain ⟨v, S', hrun, post⟩ := levels_ok g h2 (front.length + 1) (le_refl _) (ref.length - 1) (by omega) (by omega)
      _ (ids front.length) inv (fun h => hn0 (hidslen ▸ congrArg List.length h))
    rw [hidslen] at hrun
    rw [hrun]
    simp only [Option.map_some, Option.some.injEq]
    rw [post.val, Hj_top ref _ (le_trans one_le_two h2)]
    congr 1
    exact ids_map front []

def toPt3 (p : ℚ × ℚ × ℚ) : Pt := [p.1, p.2.1, p.2.2]

end HvSweep
