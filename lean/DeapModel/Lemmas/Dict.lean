/-
Python dicts as association lists (`List (κ × β)`, keys unique, insertion order), read with `List.lookup`: the facts
every model of a `dict` in the development needs, proved once.  A model's own `d[k] = v` is `upsert (fun _ => v) k d` and its
own `d.get(k)` is `d.lookup k`, each by a three-line induction.  Core Lean only, so that the Mathlib-free clusters can import it.
-/

namespace Dict

variable {κ β γ : Type} [DecidableEq κ]

theorem lookup_cons (k c : κ) (v : β) (l : List (κ × β)) :
    ((k, v) :: l).lookup c = if c = k then some v else l.lookup c := by
  rw [List.lookup_cons]; split <;> simp_all

theorem lookup_map_snd (g : β → γ) (c : κ) (l : List (κ × β)) :
    (l.map fun q => (q.1, g q.2)).lookup c = (l.lookup c).map g := by
  induction l with
  | nil => rfl
  | cons q qs ih => obtain ⟨k, v⟩ := q; simp only [List.map_cons, lookup_cons, ih]; split <;> rfl

theorem mem_of_lookup {l : List (κ × β)} {c : κ} {v : β} (h : l.lookup c = some v) : (c, v) ∈ l := by
  obtain ⟨l₁, l₂, rfl, -⟩ := List.lookup_eq_some_iff.1 h
  simp

theorem lookup_isSome_iff_keys {l : List (κ × β)} {c : κ} : (l.lookup c).isSome = true ↔ c ∈ l.map (·.1) := by
  rw [List.lookup_isSome_iff, List.mem_map]
  exact ⟨fun ⟨p, hp, e⟩ => ⟨p, hp, (beq_iff_eq.1 e).symm⟩, fun ⟨p, hp, e⟩ => ⟨p, hp, beq_iff_eq.2 e.symm⟩⟩

theorem lookup_isSome_of_mem_keys {l : List (κ × β)} {c : κ} (h : c ∈ l.map (·.1)) : ∃ v, l.lookup c = some v :=
  Option.isSome_iff_exists.1 (lookup_isSome_iff_keys.2 h)

theorem lookup_eq_none_iff_keys {l : List (κ × β)} {c : κ} : l.lookup c = none ↔ c ∉ l.map (·.1) := by
  rw [← lookup_isSome_iff_keys]; cases l.lookup c <;> simp

theorem lookup_of_mem {l : List (κ × β)} (hn : (l.map (·.1)).Nodup) {q : κ × β} (hq : q ∈ l) :
    l.lookup q.1 = some q.2 := by
  induction l with
  | nil => simp at hq
  | cons r rs ih =>
    obtain ⟨k, v⟩ := r
    simp only [List.map_cons, List.nodup_cons] at hn
    rcases List.mem_cons.1 hq with rfl | hq
    · simp
    · have hne : q.1 ≠ k := fun e => hn.1 (e ▸ List.mem_map_of_mem hq)
      simp [lookup_cons, hne, ih hn.2 hq]

/-- `d[k] = f(d.get(k))`: the entry of `k` gets `f` of its old value, in place; a new key is appended. -/
def upsert (f : Option β → β) (k : κ) : List (κ × β) → List (κ × β)
  | [] => [(k, f none)]
  | (k', v) :: rest => if k' = k then (k', f (some v)) :: rest else (k', v) :: upsert f k rest

theorem lookup_upsert (f : Option β → β) (k c : κ) (l : List (κ × β)) :
    (upsert f k l).lookup c = if c = k then some (f (l.lookup k)) else l.lookup c := by
  induction l with
  | nil => simp [upsert, lookup_cons]
  | cons q qs ih =>
    obtain ⟨k', v⟩ := q
    have hk' : k = k' ↔ k' = k := eq_comm
    by_cases hk : k' = k <;> by_cases hc : c = k' <;> simp_all [upsert, lookup_cons]

theorem keys_upsert (f : Option β → β) (k : κ) (l : List (κ × β)) :
    (upsert f k l).map (·.1) = if k ∈ l.map (·.1) then l.map (·.1) else l.map (·.1) ++ [k] := by
  induction l with
  | nil => rfl
  | cons q qs ih =>
    obtain ⟨k', v⟩ := q
    by_cases hk : k' = k
    · simp [upsert, hk]
    · simp only [upsert, hk, if_false, List.map_cons, ih, List.mem_cons, Ne.symm hk, false_or]
      split <;> rfl

theorem mem_keys_upsert (f : Option β → β) (k c : κ) (l : List (κ × β)) :
    c ∈ (upsert f k l).map (·.1) ↔ c = k ∨ c ∈ l.map (·.1) := by
  rw [keys_upsert]; split
  · next h => exact ⟨Or.inr, fun h' => h'.elim (fun e => e ▸ h) id⟩
  · simp [or_comm]

theorem nodup_keys_upsert (f : Option β → β) (k : κ) (l : List (κ × β)) (h : (l.map (·.1)).Nodup) :
    ((upsert f k l).map (·.1)).Nodup := by
  rw [keys_upsert]
  split
  · exact h
  · next hk => exact List.nodup_append.2 ⟨h, by simp, fun a ha b hb e => hk (List.mem_singleton.1 hb ▸ e ▸ ha)⟩

theorem mem_upsert (f : Option β → β) (k : κ) (l : List (κ × β)) (p : κ × β)
    (h : p ∈ upsert f k l) : p ∈ l ∨ p = (k, f (l.lookup k)) := by
  induction l with
  | nil => simpa [upsert] using h
  | cons q qs ih =>
    obtain ⟨k', v⟩ := q
    by_cases hk : k' = k
    · subst hk; simp only [upsert, if_true, List.mem_cons, List.lookup_cons_self] at h ⊢
      exact h.elim Or.inr fun h => Or.inl (Or.inr h)
    · simp only [upsert, hk, if_false, List.mem_cons, lookup_cons, Ne.symm hk] at h ⊢
      rcases h with h | h
      · exact Or.inl (Or.inl h)
      · exact (ih h).imp Or.inr id

theorem upsert_fresh (f : Option β → β) (k : κ) (l : List (κ × β)) (h : k ∉ l.map (·.1)) :
    upsert f k l = l ++ [(k, f none)] := by
  induction l with
  | nil => rfl
  | cons q qs ih =>
    simp only [List.map_cons, List.mem_cons, not_or] at h
    simp [upsert, Ne.symm h.1, ih h.2]

end Dict
