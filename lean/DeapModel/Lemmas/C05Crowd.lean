/-
C05 lemmas: `assignCrowdingDist` computes the crowding distance of the statement when the
values of every objective are pairwise distinct.

`crowdSpec vals j` is written from the statement: for every objective, with the column of that
objective, the individual's contribution is infinite when it has no smaller or no larger neighbour,
otherwise (least larger value − greatest smaller value) / (nobj · (max − min)); contributions are
added, infinity absorbing.
-/
import DeapModel.Lemmas.C05Cut
import DeapModel.Lemmas.ListFacts
import DeapModel.Lemmas.ListCore
import Mathlib.Data.List.Nodup

set_option linter.unusedSectionVars false

namespace C05L
open NDSort Crowding

section Lengths
variable {α : Type} [LT α] [DecidableEq α] [DecidableLT α]
  [Add α] [Sub α] [Mul α] [Div α] [Zero α] [NatCast α] [Inhabited α]

theorem objStep_fst (nobj i : Nat) (st : List (List α × Nat) × List (Dist α)) :
    (objStep nobj st i).1 = sortCrowd i st.1 := by
  simp only [objStep]
  split
  · split <;> rfl
  · rfl

theorem objStep_length (nobj : Nat) (st : List (List α × Nat) × List (Dist α)) (i : Nat) :
    (objStep nobj st i).2.length = st.2.length := by
  have hfold : ∀ (l : List ((List α × Nat) × (List α × Nat) × (List α × Nat))) (norm : α) (d : List (Dist α)),
      (l.foldl (tripleStep i norm) d).length = d.length := by
    intro l norm
    induction l with
    | nil => intro d; rfl
    | cons t l ih => intro d; simp only [List.foldl_cons]; rw [ih]; simp [tripleStep]
  simp only [objStep]
  split
  · split
    · simp
    · rw [hfold]; simp
  · rfl

theorem foldl_objStep_length (nobj : Nat) : ∀ (idx : List Nat)
    (st : List (List α × Nat) × List (Dist α)), (idx.foldl (objStep nobj) st).2.length = st.2.length
  | [], _ => rfl
  | i :: idx, st => by
    simp only [List.foldl_cons]; rw [foldl_objStep_length nobj idx, objStep_length]

theorem assignCrowdingDist_length (vals : List (List α)) :
    (assignCrowdingDist vals).length = vals.length := by
  cases vals with
  | nil => rfl
  | cons v0 rest =>
    simp only [assignCrowdingDist]
    rw [foldl_objStep_length]; simp

end Lengths

variable {α : Type} [Field α] [LinearOrder α] [Inhabited α]

/-- the greatest element (first one, if repeated) -/
def maxOf : List α → Option α
  | [] => none
  | x :: xs => some (xs.foldl (fun m y => if m < y then y else m) x)

def minOf : List α → Option α
  | [] => none
  | x :: xs => some (xs.foldl (fun m y => if y < m then y else m) x)

/-- greatest column value strictly below `v` -/
def predOf (col : List α) (v : α) : Option α := maxOf (col.filter (fun u => decide (u < v)))

/-- least column value strictly above `v` -/
def succOf (col : List α) (v : α) : Option α := minOf (col.filter (fun u => decide (v < u)))

/-- contribution of one objective (its column `col`) to the distance of an individual whose value
is `v`: `none` = infinite = no neighbour on one side -/
def contrib (nobj : Nat) (col : List α) (v : α) : Dist α :=
  match predOf col v, succOf col v, minOf col, maxOf col with
  | some p, some s, some lo, some hi => some ((s - p) / ((nobj : α) * (hi - lo)))
  | _, _, _, _ => none

def combine (acc : Dist α) : Dist α → Dist α
  | none => none
  | some x => acc.add x

def crowdPartial (vals : List (List α)) (nobj : Nat) (j : Nat) (upto : Nat) : Dist α :=
  (List.range upto).foldl
    (fun acc i => combine acc (contrib nobj (vals.map (fun v => val v i)) (val (vals.getD j []) i))) (some 0)

/-- the crowding distance of individual `j` of the front `vals`, from the statement -/
def crowdSpec (vals : List (List α)) (j : Nat) : Dist α :=
  crowdPartial vals (vals.headD []).length j (vals.headD []).length

theorem maxOf_eq_some_iff (l : List α) (m : α) : maxOf l = some m ↔ m ∈ l ∧ ∀ y ∈ l, y ≤ m := by
  cases l with
  | nil => simp [maxOf]
  | cons x xs =>
    obtain ⟨h1, h2⟩ := List.foldl_pick (· < · : α → α → Prop) lt_irrefl (fun _ _ _ => lt_trans)
      (fun _ _ _ h1 h2 => not_lt.2 (le_trans (not_lt.1 h2) (not_lt.1 h1))) xs x
    simp only [maxOf, Option.some.injEq]
    constructor
    · rintro rfl; exact ⟨h1, fun y hy => not_lt.1 (h2 y hy)⟩
    · rintro ⟨hm, hle⟩; exact le_antisymm (hle _ h1) (not_lt.1 (h2 m hm))

theorem minOf_eq_some_iff (l : List α) (m : α) : minOf l = some m ↔ m ∈ l ∧ ∀ y ∈ l, m ≤ y := by
  cases l with
  | nil => simp [minOf]
  | cons x xs =>
    obtain ⟨h1, h2⟩ := List.foldl_pick (fun a b : α => b < a) lt_irrefl (fun _ _ _ h1 h2 => lt_trans h2 h1)
      (fun _ _ _ h1 h2 => not_lt.2 (le_trans (not_lt.1 h1) (not_lt.1 h2))) xs x
    simp only [minOf, Option.some.injEq]
    constructor
    · rintro rfl; exact ⟨h1, fun y hy => not_lt.1 (h2 y hy)⟩
    · rintro ⟨hm, hle⟩; exact le_antisymm (not_lt.1 (h2 m hm)) (hle _ h1)

theorem maxOf_eq_none_iff (l : List α) : maxOf l = none ↔ l = [] := by
  cases l <;> simp [maxOf]

theorem minOf_eq_none_iff (l : List α) : minOf l = none ↔ l = [] := by
  cases l <;> simp [minOf]

theorem predOf_eq_some_iff (col : List α) (v p : α) :
    predOf col v = some p ↔ p ∈ col ∧ p < v ∧ ∀ u ∈ col, u < v → u ≤ p := by
  simp only [predOf, maxOf_eq_some_iff, List.mem_filter, decide_eq_true_eq, and_assoc, and_imp]

theorem succOf_eq_some_iff (col : List α) (v s : α) :
    succOf col v = some s ↔ s ∈ col ∧ v < s ∧ ∀ u ∈ col, v < u → s ≤ u := by
  simp only [succOf, minOf_eq_some_iff, List.mem_filter, decide_eq_true_eq, and_assoc, and_imp]

theorem predOf_eq_none_iff (col : List α) (v : α) : predOf col v = none ↔ ∀ u ∈ col, v ≤ u := by
  simp only [predOf, maxOf_eq_none_iff, List.filter_eq_nil_iff, decide_eq_true_eq, not_lt]

theorem succOf_eq_none_iff (col : List α) (v : α) : succOf col v = none ↔ ∀ u ∈ col, u ≤ v := by
  simp only [succOf, minOf_eq_none_iff, List.filter_eq_nil_iff, decide_eq_true_eq, not_lt]

section Triples
variable {β : Type} (key : β → α)

theorem triples_eq_zip : ∀ (l : List β), triples l = List.zip l (List.zip (l.drop 1) (l.drop 2))
  | [] => rfl
  | [a] => rfl
  | [a, b] => rfl
  | a :: b :: c :: rest => by
    rw [triples, triples_eq_zip (b :: c :: rest)]; rfl

theorem triples_mem (l : List β) (t : β × β × β) (h : t ∈ triples l) :
    t.1 ∈ l ∧ t.2.1 ∈ l.tail ∧ t.2.2 ∈ l := by
  rw [triples_eq_zip] at h
  obtain ⟨h1, h2⟩ := List.of_mem_zip h
  exact ⟨h1, List.drop_one ▸ (List.of_mem_zip h2).1, (List.drop_sublist _ _).subset (List.of_mem_zip h2).2⟩

/-- in a strictly increasing list the outer elements of a consecutive triple are the nearest
neighbours of its centre -/
theorem triples_sorted : ∀ (l : List β), l.Pairwise (fun a b => key a < key b) →
    ∀ t ∈ triples l, key t.1 < key t.2.1 ∧ key t.2.1 < key t.2.2 ∧
      ∀ x ∈ l, key x ≤ key t.1 ∨ key x = key t.2.1 ∨ key t.2.2 ≤ key x
  | [], _, t, h => nomatch h
  | [_], _, t, h => nomatch h
  | [_, _], _, t, h => nomatch h
  | a :: b :: c :: rest, hp, t, h => by
    rw [triples] at h
    have hp' := List.pairwise_cons.1 hp
    have hp'' := List.pairwise_cons.1 hp'.2
    rcases List.mem_cons.1 h with rfl | h
    · refine ⟨hp'.1 b (by simp), hp''.1 c (by simp), ?_⟩
      intro x hx
      rcases List.mem_cons.1 hx with rfl | hx
      · exact Or.inl (le_refl _)
      · rcases List.mem_cons.1 hx with rfl | hx
        · exact Or.inr (Or.inl rfl)
        · rcases List.mem_cons.1 hx with rfl | hx
          · exact Or.inr (Or.inr (le_refl _))
          · exact Or.inr (Or.inr (le_of_lt ((List.pairwise_cons.1 hp''.2).1 x hx)))
    · obtain ⟨h1, h2, h3⟩ := triples_sorted (b :: c :: rest) hp'.2 t h
      refine ⟨h1, h2, ?_⟩
      intro x hx
      rcases List.mem_cons.1 hx with hxa | hx
      · rw [hxa]; exact Or.inl (le_of_lt (hp'.1 _ (triples_mem (b :: c :: rest) t h).1))
      · exact h3 x hx

theorem head_last_or_centre : ∀ (l : List β) (c : β), c ∈ l →
    l.head? = some c ∨ l.getLast? = some c ∨ ∃ t ∈ triples l, t.2.1 = c
  | [a], c, h => Or.inl (by rw [List.mem_singleton.1 h]; rfl)
  | a :: b :: l, c, h => by
    rcases List.mem_cons.1 h with rfl | h
    · exact Or.inl rfl
    · right
      rw [List.getLast?_cons_cons]
      rcases head_last_or_centre (b :: l) c h with h1 | h1 | ⟨t, ht, hc⟩
      · cases l with
        | nil => exact Or.inl h1
        | cons c' l =>
          rw [triples]
          exact Or.inr ⟨(a, b, c'), List.mem_cons_self .., Option.some.inj h1⟩
      · exact Or.inl h1
      · cases l with
        | nil => nomatch ht
        | cons c' l => rw [triples]; exact Or.inr ⟨t, List.mem_cons_of_mem _ ht, hc⟩

theorem sorted_head (l : List β) (hs : l.Pairwise (fun a b => key a < key b)) {first : β}
    (hf : l.head? = some first) : ∀ x ∈ l, x = first ∨ key first < key x := by
  cases l with
  | nil => exact fun x hx => nomatch hx
  | cons a r =>
    cases Option.some.inj hf
    exact fun x hx => (List.mem_cons.1 hx).imp id ((List.pairwise_cons.1 hs).1 x)

theorem sorted_getLast (l : List β) (hs : l.Pairwise (fun a b => key a < key b)) {last : β}
    (hl : l.getLast? = some last) : ∀ x ∈ l, key x ≤ key last := by
  intro x hx
  rw [← List.dropLast_append_getLast? last hl] at hx hs
  exact (List.mem_append.1 hx).elim
    (fun h => le_of_lt ((List.pairwise_append.1 hs).2.2 x h last (List.mem_singleton_self _)))
    (fun h => List.mem_singleton.1 h ▸ le_refl _)

/-- The contributions of an objective read off the column sorted strictly increasingly: infinite at
both ends, and for the centre of a consecutive triple the gap between its two list neighbours over
`nobj · (last − first)`. -/
theorem contrib_sorted (nobj : Nat) (l : List β) (col : List α) (hs : l.Pairwise (fun a b => key a < key b))
    (hcol : (l.map key).Perm col) {first last : β} (hf : l.head? = some first) (hl : l.getLast? = some last) :
    contrib nobj col (key first) = none ∧ contrib nobj col (key last) = none ∧
    ∀ t ∈ triples l, contrib nobj col (key t.2.1) =
      some ((key t.2.2 - key t.1) / ((nobj : α) * (key last - key first))) := by
  have hkey : ∀ u, u ∈ col ↔ ∃ x ∈ l, key x = u := fun u => by rw [← hcol.mem_iff]; simp
  have hlo : ∀ u ∈ col, key first ≤ u := fun u hu => by
    obtain ⟨x, hx, rfl⟩ := (hkey u).1 hu
    exact (sorted_head key l hs hf x hx).elim (fun e => e ▸ le_refl _) le_of_lt
  have hhi : ∀ u ∈ col, u ≤ key last := fun u hu => by
    obtain ⟨x, hx, rfl⟩ := (hkey u).1 hu; exact sorted_getLast key l hs hl x hx
  refine ⟨?_, ?_, fun t ht => ?_⟩
  · simp [contrib, (predOf_eq_none_iff _ _).2 hlo]
  · simp [contrib, (succOf_eq_none_iff _ _).2 hhi]
  · obtain ⟨s1, s2, s3⟩ := triples_sorted key l hs t ht
    obtain ⟨m1, -, m3⟩ := triples_mem l t ht
    have hmin : minOf col = some (key first) :=
      (minOf_eq_some_iff _ _).2 ⟨(hkey _).2 ⟨first, List.mem_of_mem_head? hf, rfl⟩, hlo⟩
    have hmax : maxOf col = some (key last) :=
      (maxOf_eq_some_iff _ _).2 ⟨(hkey _).2 ⟨last, List.mem_of_getLast? hl, rfl⟩, hhi⟩
    have hpred : predOf col (key t.2.1) = some (key t.1) := by
      refine (predOf_eq_some_iff _ _ _).2 ⟨(hkey _).2 ⟨t.1, m1, rfl⟩, s1, fun u hu hlt => ?_⟩
      obtain ⟨x, hx, rfl⟩ := (hkey u).1 hu
      rcases s3 x hx with h | h | h
      · exact h
      · rw [h] at hlt; exact absurd hlt (lt_irrefl _)
      · exact absurd (lt_of_le_of_lt h hlt) (not_lt.2 (le_of_lt s2))
    have hsucc : succOf col (key t.2.1) = some (key t.2.2) := by
      refine (succOf_eq_some_iff _ _ _).2 ⟨(hkey _).2 ⟨t.2.2, m3, rfl⟩, s2, fun u hu hlt => ?_⟩
      obtain ⟨x, hx, rfl⟩ := (hkey u).1 hu
      rcases s3 x hx with h | h | h
      · exact absurd (lt_of_lt_of_le hlt h) (not_lt.2 (le_of_lt s1))
      · rw [h] at hlt; exact absurd hlt (lt_irrefl _)
      · exact h
    simp [contrib, hpred, hsucc, hmin, hmax]

end Triples

theorem triples_fold (i : Nat) (norm : α) : ∀ (l : List (List α × Nat)) (d : List (Dist α)),
    (l.map (·.2)).Nodup → (∀ c ∈ l, c.2 < d.length) →
    (∀ t ∈ triples l, ((triples l).foldl (tripleStep i norm) d).getD t.2.1.2 none =
        (d.getD t.2.1.2 none).add ((val t.2.2.1 i - val t.1.1 i) / norm)) ∧
    (∀ j, (∀ t ∈ triples l, t.2.1.2 ≠ j) →
        ((triples l).foldl (tripleStep i norm) d).getD j none = d.getD j none)
  | [], d, _, _ => ⟨fun _ h => (nomatch h), fun _ _ => rfl⟩
  | [_], d, _, _ => ⟨fun _ h => (nomatch h), fun _ _ => rfl⟩
  | [_, _], d, _, _ => ⟨fun _ h => (nomatch h), fun _ _ => rfl⟩
  | a :: b :: c :: rest, d, hnd, hb => by
    have hnd' : ((b :: c :: rest).map (·.2)).Nodup := by
      simp only [List.map_cons] at hnd ⊢; exact (List.nodup_cons.1 hnd).2
    have hbn : b.2 ∉ (c :: rest).map (·.2) := by
      simp only [List.map_cons] at hnd'; exact (List.nodup_cons.1 hnd').1
    have hlen1 : (tripleStep i norm d (a, b, c)).length = d.length := by simp [tripleStep]
    obtain ⟨ih1, ih2⟩ := triples_fold i norm (b :: c :: rest) (tripleStep i norm d (a, b, c)) hnd'
      (by intro x hx; rw [hlen1]; exact hb x (List.mem_cons_of_mem _ hx))
    have hcentre : ∀ t ∈ triples (b :: c :: rest), t.2.1.2 ≠ b.2 := by
      intro t ht e
      have := (triples_mem _ t ht).2.1
      simp only [List.tail_cons] at this
      exact hbn (e ▸ List.mem_map_of_mem this)
    have hbb : b.2 < d.length := hb b (by simp)
    rw [triples]
    simp only [List.foldl_cons]
    refine ⟨?_, ?_⟩
    · intro t ht
      rcases List.mem_cons.1 ht with rfl | ht
      · rw [ih2 b.2 hcentre]
        simp only [tripleStep]
        exact List.getD_set_self _ _ _ _ hbb
      · rw [ih1 t ht]
        simp only [tripleStep]
        rw [List.getD_set_ne _ _ _ (hcentre t ht)]
    · intro j hj
      have hjb : b.2 ≠ j := hj (a, b, c) (by simp)
      rw [ih2 j (fun t ht => hj t (List.mem_cons_of_mem _ ht))]
      simp only [tripleStep]
      exact List.getD_set_ne _ _ _ (Ne.symm hjb)

theorem objStep_spec (nobj i : Nat) (st : List (List α × Nat) × List (Dist α)) (col : List α)
    (hsorted : (sortCrowd i st.1).Pairwise (fun a b => val a.1 i < val b.1 i))
    (hnd : ((sortCrowd i st.1).map (·.2)).Nodup)
    (hbound : ∀ c ∈ sortCrowd i st.1, c.2 < st.2.length)
    (hcol : ((sortCrowd i st.1).map (fun c => val c.1 i)).Perm col) :
    ∀ c ∈ sortCrowd i st.1, (objStep nobj st i).2.getD c.2 none =
      combine (st.2.getD c.2 none) (contrib nobj col (val c.1 i)) := by
  simp only [objStep]
  generalize sortCrowd i st.1 = L at *
  obtain ⟨crowd0, d⟩ := st
  cases hL : L with
  | nil => intro c hc; simp at hc
  | cons first rest =>
    rw [← hL]
    have hhead : L.head? = some first := by rw [hL]; rfl
    obtain ⟨last, hlast⟩ : ∃ last, L.getLast? = some last := by
      rw [hL]; exact ⟨(first :: rest).getLast (by simp), List.getLast?_eq_getLast_of_ne_nil (by simp)⟩
    have hfirstL : first ∈ L := by rw [hL]; simp
    have hlastL : last ∈ L := List.mem_of_getLast? hlast
    rw [hhead, hlast]
    simp only []
    have hmin := sorted_head (fun c : List α × Nat => val c.1 i) L hsorted hhead
    have hmaxle := sorted_getLast (fun c : List α × Nat => val c.1 i) L hsorted hlast
    obtain ⟨cfirst, clast, ccentre⟩ := contrib_sorted (fun c : List α × Nat => val c.1 i) nobj L col hsorted hcol
      hhead hlast
    -- the two `set`s: both ends are infinite, whether or not they coincide
    have hbf : first.2 < d.length := hbound first hfirstL
    have hbl : last.2 < d.length := hbound last hlastL
    have hd1first : ((d.set first.2 none).set last.2 none).getD first.2 none = none := by
      by_cases e : last.2 = first.2
      · rw [e]; exact List.getD_set_self _ _ _ _ (by simpa using hbf)
      · rw [List.getD_set_ne _ _ _ (Ne.symm e)]; exact List.getD_set_self _ _ _ _ hbf
    have hd1last : ((d.set first.2 none).set last.2 none).getD last.2 none = none :=
      List.getD_set_self _ _ _ _ (by simpa using hbl)
    by_cases heq : val last.1 i = val first.1 i
    · -- a single individual
      rw [if_pos heq]
      intro c hc
      have hcf : c = first := (hmin c hc).resolve_right fun h =>
        absurd (lt_of_lt_of_le h (hmaxle c hc)) (by rw [heq]; exact lt_irrefl _)
      rw [hcf, hd1first, cfirst]; rfl
    · rw [if_neg heq]
      obtain ⟨f1, f2⟩ := triples_fold i ((nobj : α) * (val last.1 i - val first.1 i)) L
        ((d.set first.2 none).set last.2 none) hnd (by intro c hc; simpa using hbound c hc)
      -- the centre of a triple is neither end, so the loop leaves the ends alone
      have hcentre : ∀ t ∈ triples L, t.2.1.2 ≠ first.2 ∧ t.2.1.2 ≠ last.2 := by
        intro t ht
        obtain ⟨s1, s2, _⟩ := triples_sorted (fun c : List α × Nat => val c.1 i) L hsorted t ht
        obtain ⟨m1, m2, m3⟩ := triples_mem L t ht
        replace m2 := List.mem_of_mem_tail m2
        refine ⟨fun e => ?_, fun e => ?_⟩
        · rw [List.inj_on_of_nodup_map hnd m2 hfirstL e] at s1
          exact absurd (lt_of_lt_of_le s1 ((hmin _ m1).elim (fun e => e ▸ le_refl _) le_of_lt)) (lt_irrefl _)
        · rw [List.inj_on_of_nodup_map hnd m2 hlastL e] at s2
          exact absurd (lt_of_le_of_lt (hmaxle _ m3) s2) (lt_irrefl _)
      intro c hc
      rcases head_last_or_centre L c hc with h | h | ⟨t, ht, rfl⟩
      · rw [(Option.some.inj (hhead ▸ h) : first = c).symm, f2 first.2 fun t ht => (hcentre t ht).1, hd1first, cfirst]
        rfl
      · rw [(Option.some.inj (hlast ▸ h) : last = c).symm, f2 last.2 fun t ht => (hcentre t ht).2, hd1last, clast]
        rfl
      · rw [f1 t ht, List.getD_set_ne _ _ _ (hcentre t ht).2, List.getD_set_ne _ _ _ (hcentre t ht).1,
          ccentre t ht]
        rfl

/-- `crowd.sort(key=…)` in a form the kernel evaluates -/
theorem sortCrowd_eq_isort (i : Nat) (crowd : List (List α × Nat)) :
    sortCrowd i crowd = LoopsC.isort (fun a b => !decide (val b.1 i < val a.1 i)) crowd := by
  refine LoopsC.mergeSort_eq_isort (fun a b c => ?_) (fun a b => ?_) crowd
  · simp only [Bool.not_eq_true', decide_eq_false_iff_not, not_lt]
    exact fun h1 h2 => le_trans h1 h2
  · simp only [Bool.or_eq_true, Bool.not_eq_true', decide_eq_false_iff_not, not_lt]
    exact le_total _ _

theorem sortCrowd_facts (vals : List (List α)) (i : Nat) (crowd : List (List α × Nat))
    (hperm : crowd.Perm vals.zipIdx) (hcolnd : (vals.map (fun v => val v i)).Nodup) :
    (sortCrowd i crowd).Perm vals.zipIdx ∧
    (sortCrowd i crowd).Pairwise (fun a b => val a.1 i < val b.1 i) ∧
    ((sortCrowd i crowd).map (·.2)).Nodup ∧
    (∀ c ∈ sortCrowd i crowd, c.2 < vals.length) ∧
    ((sortCrowd i crowd).map (fun c => val c.1 i)).Perm (vals.map (fun v => val v i)) := by
  have hp : (sortCrowd i crowd).Perm vals.zipIdx := (List.mergeSort_perm _ _).trans hperm
  have hcol : ((sortCrowd i crowd).map (fun c => val c.1 i)).Perm (vals.map (fun v => val v i)) := by
    have := hp.map (fun c : List α × Nat => val c.1 i)
    have e : vals.zipIdx.map (fun c : List α × Nat => val c.1 i) = vals.map (fun v => val v i) := by
      conv_rhs => rw [← List.zipIdx_map_fst 0 vals]
      rw [List.map_map]; rfl
    rwa [e] at this
  refine ⟨hp, ?_, ?_, ?_, hcol⟩
  · have hle := List.pairwise_mergeSort_key (fun c : List α × Nat => val c.1 i)
      (fun a b => decide (val a.1 i < val b.1 i)) (fun _ _ => decide_eq_true_iff) crowd
    have hne : (sortCrowd i crowd).Pairwise (fun a b => val a.1 i ≠ val b.1 i) := by
      have := hcol.nodup_iff.2 hcolnd
      rwa [List.Nodup, List.pairwise_map] at this
    exact (hle.and hne).imp fun ⟨h1, h2⟩ => lt_of_le_of_ne h1 h2
  · exact (hp.map (·.2)).nodup_iff.2 (by
      rw [show vals.zipIdx.map (·.2) = List.range' 0 vals.length from List.zipIdx_map_snd 0 vals]
      exact List.nodup_range')
  · intro c hc
    have := hp.mem_iff.1 hc
    rw [List.mem_zipIdx_iff_getElem?] at this
    exact (List.getElem?_eq_some_iff.1 this).1

theorem crowdPartial_succ (vals : List (List α)) (nobj j k : Nat) :
    crowdPartial vals nobj j (k + 1) =
      combine (crowdPartial vals nobj j k)
        (contrib nobj (vals.map (fun v => val v k)) (val (vals.getD j []) k)) := by
  simp [crowdPartial, List.range_succ]

/-- the loop over the objectives keeps: the crowd is the front with its indices, every individual has a
distance, and that distance is the statement's up to the objectives done -/
theorem objStep_inv (vals : List (List α)) (nobj k : Nat) (hdist : (vals.map (fun v => val v k)).Nodup)
    (st : List (List α × Nat) × List (Dist α)) (h1 : st.1.Perm vals.zipIdx) (h2 : st.2.length = vals.length)
    (h3 : ∀ j < vals.length, st.2.getD j none = crowdPartial vals nobj j k) :
    (objStep nobj st k).1.Perm vals.zipIdx ∧ (objStep nobj st k).2.length = vals.length ∧
    ∀ j < vals.length, (objStep nobj st k).2.getD j none = crowdPartial vals nobj j (k + 1) := by
  obtain ⟨f1, f2, f3, f4, f5⟩ := sortCrowd_facts vals k st.1 h1 hdist
  refine ⟨by rw [objStep_fst]; exact f1, by rw [objStep_length]; exact h2, ?_⟩
  intro j hj
  have hc : (vals[j], j) ∈ sortCrowd k st.1 := by
    rw [f1.mem_iff, List.mem_zipIdx_iff_getElem?]; simp [hj]
  have := objStep_spec nobj k st (vals.map (fun v => val v k)) f2 f3
    (by intro c hc; rw [h2]; exact f4 c hc) f5 (vals[j], j) hc
  rw [this, h3 j hj, crowdPartial_succ]
  have e : vals.getD j [] = vals[j] := by simp [hj]
  rw [e]

theorem foldl_objStep_spec (vals : List (List α)) (nobj : Nat)
    (hdist : ∀ i < nobj, (vals.map (fun v => val v i)).Nodup) (k : Nat) (hk : k ≤ nobj) :
    ((List.range k).foldl (objStep nobj) (vals.zipIdx, List.replicate vals.length (some 0))).1.Perm vals.zipIdx ∧
    ((List.range k).foldl (objStep nobj) (vals.zipIdx, List.replicate vals.length (some 0))).2.length = vals.length ∧
    ∀ j < vals.length,
      ((List.range k).foldl (objStep nobj) (vals.zipIdx, List.replicate vals.length (some 0))).2.getD j none =
        crowdPartial vals nobj j k := by
  induction k with
  | zero =>
    refine ⟨by simp, by simp, ?_⟩
    intro j hj
    simp [crowdPartial, hj]
  | succ k ih =>
    obtain ⟨ih1, ih2, ih3⟩ := ih (Nat.le_of_succ_le hk)
    rw [List.range_succ, List.foldl_append]
    exact objStep_inv vals nobj k (hdist k hk) _ ih1 ih2 ih3

theorem assignCrowdingDist_spec (vals : List (List α))
    (hdist : ∀ i < (vals.headD []).length, (vals.map (fun v => val v i)).Nodup) (j : Nat)
    (hj : j < vals.length) : (assignCrowdingDist vals)[j]? = some (crowdSpec vals j) := by
  cases vals with
  | nil => simp at hj
  | cons v0 rest =>
    simp only [List.headD_cons] at hdist
    obtain ⟨_, h2, h3⟩ := foldl_objStep_spec (v0 :: rest) v0.length hdist v0.length (le_refl _)
    have h := h3 j hj
    simp only [assignCrowdingDist, crowdSpec, List.headD_cons]
    rw [List.getD_eq_getElem?_getD] at h
    have hlt : j < ((List.range v0.length).foldl (objStep v0.length)
        ((v0 :: rest).zipIdx, List.replicate (v0 :: rest).length (some 0))).2.length := by rw [h2]; exact hj
    rw [List.getElem?_eq_getElem hlt] at h ⊢
    simp only [Option.getD_some] at h
    rw [h]

/-- the finite contribution of one objective -/
def gap (nobj : Nat) (col : List α) (v : α) : α :=
  ((succOf col v).getD v - (predOf col v).getD v) / ((nobj : α) * ((maxOf col).getD v - (minOf col).getD v))

theorem contrib_eq_none_iff (nobj : Nat) (col : List α) (v : α) (hv : v ∈ col) :
    contrib nobj col v = none ↔ (∀ u ∈ col, v ≤ u) ∨ (∀ u ∈ col, u ≤ v) := by
  have hne : col ≠ [] := List.ne_nil_of_mem hv
  obtain ⟨lo, hlo⟩ : ∃ lo, minOf col = some lo := by
    cases h : minOf col with
    | none => exact absurd ((minOf_eq_none_iff col).1 h) hne
    | some lo => exact ⟨lo, rfl⟩
  obtain ⟨hi, hhi⟩ : ∃ hi, maxOf col = some hi := by
    cases h : maxOf col with
    | none => exact absurd ((maxOf_eq_none_iff col).1 h) hne
    | some hi => exact ⟨hi, rfl⟩
  rw [← predOf_eq_none_iff, ← succOf_eq_none_iff]
  simp only [contrib, hlo, hhi]
  cases predOf col v <;> cases succOf col v <;> simp

theorem contrib_eq_some_gap (nobj : Nat) (col : List α) (v : α) (h : contrib nobj col v ≠ none) :
    contrib nobj col v = some (gap nobj col v) := by
  simp only [contrib, gap] at h ⊢
  cases h1 : predOf col v <;> cases h2 : succOf col v <;> cases h3 : minOf col <;> cases h4 : maxOf col <;>
    simp_all

theorem combine_none (c : Dist α) : combine (none : Dist α) c = none := by
  cases c <;> simp [combine, Dist.add]

theorem crowdPartial_none (vals : List (List α)) (nobj j : Nat) : ∀ (k : Nat),
    (∃ i < k, contrib nobj (vals.map (fun v => val v i)) (val (vals.getD j []) i) = none) →
    crowdPartial vals nobj j k = none
  | 0, h => by obtain ⟨i, hi, _⟩ := h; omega
  | k + 1, h => by
    rw [crowdPartial_succ]
    obtain ⟨i, hi, hc⟩ := h
    by_cases hik : i = k
    · subst hik; rw [hc]; rfl
    · rw [crowdPartial_none vals nobj j k ⟨i, by omega, hc⟩, combine_none]

theorem crowdPartial_some (vals : List (List α)) (nobj j : Nat) : ∀ (k : Nat),
    (∀ i < k, contrib nobj (vals.map (fun v => val v i)) (val (vals.getD j []) i) ≠ none) →
    crowdPartial vals nobj j k =
      some (((List.range k).map (fun i => gap nobj (vals.map (fun v => val v i)) (val (vals.getD j []) i))).sum)
  | 0, _ => by simp [crowdPartial]
  | k + 1, h => by
    rw [crowdPartial_succ, crowdPartial_some vals nobj j k (fun i hi => h i (by omega)),
      contrib_eq_some_gap _ _ _ (h k (by omega))]
    simp [combine, Dist.add, List.range_succ]

/-- a last front of one individual is taken whole when anything is missing -/
theorem selFromFronts_last_single (w : List α) (fronts : List (List (Ind α))) (x : Ind α) (k : Nat)
    (hl : fronts.getLast? = some [x]) (hk : fronts.dropLast.flatten.length < k) :
    selFromFronts w fronts k = fronts.dropLast.flatten ++ [x] := by
  obtain ⟨d, hd⟩ : ∃ d, assignCrowdingDist [values w x] = [d] :=
    List.length_eq_one_iff.1 (assignCrowdingDist_length _)
  simp only [selFromFronts, cutWith, hl, Option.getD_some, if_pos hk, List.map_cons, List.map_nil, hd,
    List.zip_cons_cons, List.zip_nil_right, sortByDistDesc, List.mergeSort_singleton]
  rw [List.take_of_length_le (Nat.sub_pos_of_lt hk)]

end C05L
