/-
C01 — helper lemmas about families of fitness classes (`Core/FitClass.lean`): attribute lookup is stable under
the creation of further classes, every operation keeps the world well-formed and leaves the variables it does
not write alone.  The property theorems are in `Props/C01.lean`.
-/
import DeapModel.Core.FitClass
import Mathlib.Data.List.Basic

set_option linter.unusedSectionVars false

namespace C01
open Fitness

variable {α : Type}

/-- Parents exist before their children (Python cannot name a class that does not exist yet). -/
def TableWF (tbl : ClassTable α) : Prop :=
  ∀ (c : Nat) (k : FitClass α), tbl[c]? = some k → ∀ p : Nat, k.parent = some p → p < c

/-- Every object is an instance of a class that exists. -/
def WorldWF (W : World α) : Prop :=
  TableWF W.classes ∧ ∀ s x, W.insts s = some x → x.cls < W.classes.length

theorem tableWF_nil : TableWF ([] : ClassTable α) := by
  intro c k h; simp at h

theorem worldWF_empty : WorldWF (World.empty : World α) :=
  ⟨tableWF_nil, by intro s x h; simp [World.empty] at h⟩

theorem mroFuel_mem_lt (tbl : ClassTable α) : ∀ fuel c k, k ∈ mroFuel tbl fuel c → k < tbl.length := by
  intro fuel
  induction fuel with
  | zero => intro c k h; simp [mroFuel] at h
  | succ f ih =>
    intro c k h
    unfold mroFuel at h
    cases hc : tbl[c]? with
    | none => simp [hc] at h
    | some cl =>
      simp only [hc, List.mem_cons] at h
      rcases h with rfl | h
      · exact (List.getElem?_eq_some_iff.1 hc).1
      · cases hp : cl.parent with
        | none => simp [hp] at h
        | some p => simp only [hp] at h; exact ih p k h

theorem mroFuel_append (tbl ext : ClassTable α) (h : TableWF tbl) :
    ∀ fuel c, c < tbl.length → mroFuel (tbl ++ ext) fuel c = mroFuel tbl fuel c := by
  intro fuel
  induction fuel with
  | zero => intro c _; rfl
  | succ f ih =>
    intro c hc
    unfold mroFuel
    rw [List.getElem?_append_left hc]
    cases hk : tbl[c]? with
    | none => rfl
    | some cl =>
      cases hp : cl.parent with
      | none => simp only [hp]
      | some p =>
        have hpc : p < c := h c cl hk p hp
        simp only [hp, ih p (Nat.lt_trans hpc hc)]

theorem findSome?_congr_mem {β γ : Type} (l : List β) (f g : β → Option γ) (h : ∀ x ∈ l, f x = g x) :
    l.findSome? f = l.findSome? g := by
  induction l with
  | nil => rfl
  | cons x xs ih =>
    simp only [List.findSome?_cons, h x (by simp)]
    cases g x with
    | some _ => rfl
    | none => exact ih (fun y hy => h y (by simp [hy]))

theorem lookupWeights_append (tbl ext : ClassTable α) (h : TableWF tbl) (c : Nat) (hc : c < tbl.length) :
    lookupWeights (tbl ++ ext) c = lookupWeights tbl c := by
  unfold lookupWeights mro
  rw [mroFuel_append tbl ext h (c + 1) c hc]
  apply findSome?_congr_mem
  intro k hk
  rw [List.getElem?_append_left (mroFuel_mem_lt tbl _ _ k hk)]

theorem lookupWeights_some_lt (tbl : ClassTable α) (c : Nat) (w : List α) (h : lookupWeights tbl c = some w) :
    c < tbl.length := by
  by_contra hc
  have hn : tbl[c]? = none := List.getElem?_eq_none (Nat.le_of_not_lt hc)
  simp [lookupWeights, mro, mroFuel, hn] at h

theorem lookupWeights_own (tbl : ClassTable α) (c : Nat) (w : List α) (p : Option Nat)
    (h : tbl[c]? = some ⟨some w, p⟩) : lookupWeights tbl c = some w := by
  simp [lookupWeights, mro, mroFuel, h]

theorem mroFuel_enough (tbl : ClassTable α) (h : TableWF tbl) :
    ∀ c fuel, c + 1 ≤ fuel → mroFuel tbl fuel c = mroFuel tbl (c + 1) c := by
  intro c
  induction c using Nat.strongRecOn with
  | _ c ih =>
    intro fuel hf
    obtain ⟨f, rfl⟩ : ∃ f, fuel = f + 1 := ⟨fuel - 1, by omega⟩
    unfold mroFuel
    cases hk : tbl[c]? with
    | none => rfl
    | some cl =>
      cases hp : cl.parent with
      | none => simp only [hp]
      | some p =>
        have hpc : p < c := h c cl hk p hp
        simp only [hp, ih p hpc f (by omega), ih p hpc c (by omega)]

theorem lookupWeights_inherit (tbl : ClassTable α) (h : TableWF tbl) (c p : Nat)
    (hc : tbl[c]? = some ⟨none, some p⟩) : lookupWeights tbl c = lookupWeights tbl p := by
  have hpc : p < c := h c _ hc p rfl
  have hm : mroFuel tbl c p = mroFuel tbl (p + 1) p := mroFuel_enough tbl h p c (by omega)
  simp only [lookupWeights, mro]
  rw [show mroFuel tbl (c + 1) c = c :: mroFuel tbl c p by
    conv => lhs; unfold mroFuel
    simp [hc]]
  simp [hc, hm]

/-- A class deriving directly from the library's base class without declaring `weights` is abstract. -/
theorem lookupWeights_abstract (tbl : ClassTable α) (c : Nat) (hc : tbl[c]? = some ⟨none, none⟩) :
    lookupWeights tbl c = none := by
  simp [lookupWeights, mro, mroFuel, hc]

theorem defClass_eq (tbl tbl' : ClassTable α) (k : FitClass α) (h : defClass tbl k = some tbl') :
    tbl' = tbl ++ [k] ∧ ∀ p, k.parent = some p → p < tbl.length := by
  unfold defClass at h
  cases hp : k.parent with
  | none => simp [hp] at h; exact ⟨h.symm, by intro p hp'; cases hp'⟩
  | some p =>
    simp only [hp] at h
    by_cases hlt : p < tbl.length
    · simp [hlt] at h; exact ⟨h.symm, by intro q hq; cases hq; exact hlt⟩
    · simp [hlt] at h

theorem tableWF_append (tbl : ClassTable α) (k : FitClass α) (h : TableWF tbl)
    (hk : ∀ p, k.parent = some p → p < tbl.length) : TableWF (tbl ++ [k]) := by
  intro c cl hc p hp
  by_cases hlt : c < tbl.length
  · rw [List.getElem?_append_left hlt] at hc; exact h c cl hc p hp
  · have hlen : c < (tbl ++ [k]).length := (List.getElem?_eq_some_iff.1 hc).1
    have hce : c = tbl.length := by simp at hlen; omega
    subst hce
    simp at hc
    subst hc
    exact hk p hp

/-- A bounded form of `TableWF`, decidable on a concrete table. -/
theorem tableWF_of_lt (tbl : ClassTable α) (h : ∀ c < tbl.length, ∀ p ∈ tbl[c]?.bind (·.parent), p < c) :
    TableWF tbl := fun c k hc p hp =>
  h c (List.getElem?_eq_some_iff.1 hc).1 p (by rw [hc]; exact hp)

section Step
variable [LT α] [LE α] [DecidableEq α] [DecidableLT α] [DecidableLE α] [Mul α] [Div α]

theorem put_view_ne (W : World α) (slot s : Nat) (x : Inst α) (h : s ≠ slot) :
    (W.put slot x).view s = W.view s := by
  simp [World.view, World.put, h]

theorem put_view_self (W : World α) (slot : Nat) (x : Inst α) :
    (W.put slot x).view slot = some (x.fit.wvalues, lookupWeights W.classes x.cls) := by
  simp [World.view, World.put]

theorem worldWF_put (W : World α) (slot : Nat) (x : Inst α) (h : WorldWF W) (hx : x.cls < W.classes.length) :
    WorldWF (W.put slot x) := by
  refine ⟨h.1, ?_⟩
  intro s y hy
  simp only [World.put] at hy ⊢
  by_cases hs : s = slot
  · simp [hs] at hy; subst hy; exact hx
  · simp [hs] at hy; exact h.2 s y hy

theorem wstep_world (W : World α) (o : WOp α) :
    (wstep W o).1 = W ∨
    (∃ k, (∀ p, k.parent = some p → p < W.classes.length) ∧ (wstep W o).1 = ⟨W.classes ++ [k], W.insts⟩) ∨
    (∃ s x, o.writes = some s ∧ (wstep W o).1 = W.put s x ∧ (WorldWF W → x.cls < W.classes.length)) := by
  cases o with
  | defclass k =>
    cases hd : defClass W.classes k with
    | none => exact .inl (by simp only [wstep, hd])
    | some tbl =>
      obtain ⟨rfl, hk⟩ := defClass_eq _ _ _ hd
      exact .inr (.inl ⟨k, hk, by simp only [wstep, hd]⟩)
  | new slot c arg =>
    cases hl : lookupWeights W.classes c with
    | none => exact .inl (by simp only [wstep, hl])
    | some w =>
      cases hi : init w arg with
      | none => exact .inl (by simp only [wstep, hl, hi])
      | some f => exact .inr (.inr ⟨slot, ⟨c, f⟩, rfl, by simp only [wstep, hl, hi], fun _ => lookupWeights_some_lt _ _ _ hl⟩)
  | set slot arg =>
    cases hx : W.insts slot with
    | none => exact .inl (by simp only [wstep, hx])
    | some x =>
      cases hl : lookupWeights W.classes x.cls with
      | none => exact .inl (by simp only [wstep, hx, hl])
      | some w =>
        cases hs : setValues w arg.items with
        | none => exact .inl (by simp only [wstep, hx, hl, hs])
        | some f => exact .inr (.inr ⟨slot, ⟨x.cls, f⟩, rfl, by simp only [wstep, hx, hl, hs], fun h => h.2 slot x hx⟩)
  | del slot =>
    cases hx : W.insts slot with
    | none => exact .inl (by simp only [wstep, hx])
    | some x => exact .inr (.inr ⟨slot, ⟨x.cls, delValues⟩, rfl, by simp only [wstep, hx], fun h => h.2 slot x hx⟩)
  | get slot | str slot =>
    refine .inl ?_
    cases hx : W.insts slot with
    | none => simp only [wstep, hx]
    | some x => cases hl : lookupWeights W.classes x.cls <;> simp only [wstep, hx, hl]
  | cmp i j | dom i j ia ib => exact .inl (by cases hx : W.insts i <;> cases hy : W.insts j <;> simp only [wstep, hx, hy])
  | clone i k =>
    cases hx : W.insts i with
    | none => exact .inl (by simp only [wstep, hx])
    | some x => exact .inr (.inr ⟨k, ⟨x.cls, deepcopy x.fit⟩, rfl, by simp only [wstep, hx], fun h => h.2 i x hx⟩)

theorem wstep_wf (W : World α) (o : WOp α) (h : WorldWF W) : WorldWF (wstep W o).1 := by
  rcases wstep_world W o with e | ⟨k, hk, e⟩ | ⟨s, x, _, e, hx⟩ <;> rw [e]
  · exact h
  · exact ⟨tableWF_append _ _ h.1 hk, fun s x hx => Nat.lt_of_lt_of_le (h.2 s x hx) (by simp)⟩
  · exact worldWF_put W s x h (hx h)

theorem wrun_wf (W : World α) (ops : List (WOp α)) (h : WorldWF W) : WorldWF (wrun W ops).1 := by
  induction ops generalizing W with
  | nil => exact h
  | cons o ops ih => exact ih _ (wstep_wf W o h)

/-- An operation leaves every variable it does not write exactly as it was: same own weighted values, and the
object's class still resolves to the same weights (even when the operation created a new class). -/
theorem wstep_view_frame (W : World α) (o : WOp α) (s : Nat) (h : WorldWF W) (hs : o.writes ≠ some s) :
    (wstep W o).1.view s = W.view s := by
  rcases wstep_world W o with e | ⟨k, hk, e⟩ | ⟨s', x, hw, e, _⟩ <;> rw [e]
  · simp only [World.view]
    cases hx : W.insts s with
    | none => rfl
    | some x => simp only [lookupWeights_append _ _ h.1 _ (h.2 s x hx)]
  · exact put_view_ne W s' s x fun e => hs (e ▸ hw)

theorem wrun_view_frame (W : World α) (ops : List (WOp α)) (s : Nat) (h : WorldWF W)
    (hs : ∀ o ∈ ops, o.writes ≠ some s) : (wrun W ops).1.view s = W.view s := by
  induction ops generalizing W with
  | nil => rfl
  | cons o ops ih =>
    simp only [wrun]
    rw [ih _ (wstep_wf W o h) (fun o' ho' => hs o' (by simp [ho'])),
      wstep_view_frame W o s h (hs o (by simp))]

theorem view_eq_cases (W W' : World α) (s : Nat) (h : W.view s = W'.view s) :
    (W.insts s = none ∧ W'.insts s = none) ∨
    ∃ x x', W.insts s = some x ∧ W'.insts s = some x' ∧ x.fit = x'.fit ∧
      lookupWeights W.classes x.cls = lookupWeights W'.classes x'.cls := by
  unfold World.view at h
  rcases hx : W.insts s with _ | ⟨c, ⟨wv⟩⟩ <;> rcases hx' : W'.insts s with _ | ⟨c', ⟨wv'⟩⟩ <;> rw [hx, hx'] at h
  · exact .inl ⟨rfl, rfl⟩
  · cases h
  · cases h
  · obtain ⟨h1, h2⟩ := Prod.mk.inj (Option.some.inj h)
    exact .inr ⟨_, _, rfl, rfl, congrArg Fit.mk h1, h2⟩

/-- An operation on instances is a function of the VIEWS of the variables it reads. -/
theorem step_congr (W W' : World α) (o : WOp α) (S : List Nat) (hS : o.reads = some S)
    (hview : ∀ s ∈ S, W.view s = W'.view s) :
    (wstep W o).2 = (wstep W' o).2 ∧
    ∀ s, (s ∈ S ∨ (o.writes = some s ∧ (wstep W o).2 ≠ Out.err)) →
      (wstep W o).1.view s = (wstep W' o).1.view s := by
  -- an operation that fails, or only reads, leaves both worlds as they were
  have same (out : Out α) (h : out = Out.err ∨ o.writes = none) :
      ∀ s, (s ∈ S ∨ (o.writes = some s ∧ out ≠ Out.err)) → W.view s = W'.view s :=
    fun s hs => hview s (hs.resolve_right fun hw => h.elim hw.2 fun hn => nomatch hn ▸ hw.1)
  -- a successful write puts objects with the same view into the same variable
  have wrote (k : Nat) (hk : o.writes = some k) (out : Out α) (x x' : Inst α) (hfit : x.fit = x'.fit)
      (hlk : lookupWeights W.classes x.cls = lookupWeights W'.classes x'.cls) :
      ∀ s, (s ∈ S ∨ (o.writes = some s ∧ out ≠ Out.err)) → (W.put k x).view s = (W'.put k x').view s :=
    fun s hs => by
      by_cases hsk : s = k
      · rw [hsk, put_view_self, put_view_self, hfit, hlk]
      · rw [put_view_ne _ _ _ _ hsk, put_view_ne _ _ _ _ hsk]
        exact hview s (hs.resolve_right fun hw => hsk (Option.some.inj (hw.1.symm.trans hk)))
  cases o with
  | defclass k | new slot c arg => cases hS
  | set slot arg =>
    cases hS
    rcases view_eq_cases W W' slot (hview slot (by simp)) with ⟨hx, hx'⟩ | ⟨x, x', hx, hx', hfit, hlk⟩
    · simp only [wstep, hx, hx']; exact ⟨trivial, same _ (.inl rfl)⟩
    · cases hl : lookupWeights W.classes x.cls with
      | none => simp only [wstep, hx, hx', ← hlk, hl]; exact ⟨trivial, same _ (.inl rfl)⟩
      | some w =>
        cases hsv : setValues w arg.items with
        | none => simp only [wstep, hx, hx', ← hlk, hl, hsv]; exact ⟨trivial, same _ (.inl rfl)⟩
        | some f => simp only [wstep, hx, hx', ← hlk, hl, hsv]; exact ⟨trivial, wrote slot rfl _ _ _ rfl hlk⟩
  | del slot =>
    cases hS
    rcases view_eq_cases W W' slot (hview slot (by simp)) with ⟨hx, hx'⟩ | ⟨x, x', hx, hx', hfit, hlk⟩
    · simp only [wstep, hx, hx']; exact ⟨trivial, same _ (.inl rfl)⟩
    · simp only [wstep, hx, hx']; exact ⟨trivial, wrote slot rfl _ _ _ rfl hlk⟩
  | get slot | str slot =>
    cases hS
    rcases view_eq_cases W W' slot (hview slot (by simp)) with ⟨hx, hx'⟩ | ⟨x, x', hx, hx', hfit, hlk⟩
    · simp only [wstep, hx, hx']; exact ⟨trivial, same _ (.inl rfl)⟩
    · cases hl : lookupWeights W.classes x.cls <;> simp only [wstep, hx, hx', ← hlk, hl, hfit] <;>
        exact ⟨trivial, same _ (.inr rfl)⟩
  | cmp i j | dom i j ia ib =>
    cases hS
    rcases view_eq_cases W W' i (hview i (by simp)) with ⟨hx, hx'⟩ | ⟨x, x', hx, hx', hfit, _⟩ <;>
      rcases view_eq_cases W W' j (hview j (by simp)) with ⟨hy, hy'⟩ | ⟨y, y', hy, hy', hfit', _⟩ <;>
      simp only [wstep, *] <;> exact ⟨trivial, same _ (.inr rfl)⟩
  | clone i k =>
    cases hS
    rcases view_eq_cases W W' i (hview i (by simp)) with ⟨hx, hx'⟩ | ⟨x, x', hx, hx', hfit, hlk⟩
    · simp only [wstep, hx, hx']; exact ⟨trivial, same _ (.inl rfl)⟩
    · simp only [wstep, hx, hx', hfit]; exact ⟨trivial, wrote k rfl _ _ _ rfl hlk⟩

theorem get_of_view (W : World α) (slot : Nat) (wv w : List α) (h : W.view slot = some (wv, some w)) :
    (wstep W (.get slot)).2 = Out.values wv (getValues w ⟨wv⟩) (valid (⟨wv⟩ : Fit α)) := by
  simp only [World.view] at h
  cases hx : W.insts slot with
  | none => simp [hx] at h
  | some x =>
    simp only [hx, Option.some.injEq, Prod.mk.injEq] at h
    obtain ⟨c, ⟨v⟩⟩ := x
    simp only at h
    simp only [wstep, hx, h.2, h.1]

end Step

section Reclone

theorem zipWith_div_mul [Mul α] [Div α] (xs ws : List α) :
    List.zipWith (· * ·) (List.zipWith (· / ·) xs ws) ws = List.zipWith (fun x w => x / w * w) xs ws := by
  induction xs generalizing ws with
  | nil => simp
  | cons x xs ih => cases ws with
    | nil => simp
    | cons w ws => simp [ih]

theorem zipWith_eq_left_iff {β : Type} (g : α → β → α) (xs : List α) (ws : List β) (hl : xs.length = ws.length) :
    List.zipWith g xs ws = xs ↔ ∀ p ∈ List.zip xs ws, g p.1 p.2 = p.1 := by
  induction xs generalizing ws with
  | nil => simp
  | cons x xs ih => cases ws with
    | nil => simp at hl
    | cons w ws =>
      have hl' : xs.length = ws.length := by simpa using hl
      simp [ih ws hl']

end Reclone

end C01
