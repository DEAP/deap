/-
C07 — translator tie, helper lemmas: the combinators of Core/GenPreludeC07.lean (`G7.whileO`, `G7.loopO`, `G7.forO`,
`G7.index`, `G7.setIdx`) that the definitions regenerated from deap/tools/emo.py are written with, related to the
hand-written recursive functions of Core/Spea2.lean (`scanDown`, `scanUp`, `partitionLoop`) and Core/Nsga3.lean
(`genRefs`), and `G7.sortedI`, `G7.delIdx` under `G7.forO` (`forO_del`) to the position-by-position deletion of
`Spea2.delDesc`.  The theorems `Gen.<f>_refines_model` / `Gen.genRefs_eq_model` themselves live in
GenEq/C07.lean.tmpl and are elaborated on every run against the regenerated definitions.
-/
import DeapModel.Core.GenPreludeC07
import DeapModel.Lemmas.C07Select
import DeapModel.Lemmas.C07Refs
import Mathlib.Data.List.InsertIdx

namespace C07G

theorem index_nat {β : Type} (l : List β) (n : Nat) : G7.index l (n : Int) = l[n]? := by
  unfold G7.index
  have : ¬ ((n : Int) < 0) := Int.not_lt.2 (Int.natCast_nonneg n)
  simp [this]

theorem setIdx_nat {β : Type} (l : List β) (n : Nat) (v : β) :
    G7.setIdx l (n : Int) v = if n < l.length then some (l.set n v) else none := by
  unfold G7.setIdx
  have : ¬ ((n : Int) < 0) := Int.not_lt.2 (Int.natCast_nonneg n)
  simp [this]

section QS
open Spea2
variable {α : Type} [LT α] [DecidableLT α]

theorem scanDown_le (a : List α) (x : α) (j j' : Nat) (h : scanDown a x j = some j') : j ≤ a.length := by
  cases j with
  | zero => omega
  | succ j =>
    rw [scanDown] at h
    split at h
    · exact absurd h (by simp)
    · rename_i v hv
      have := (List.getElem?_eq_some_iff.1 hv).1
      omega

theorem whileO_scanDown (a : List α) (x : α) (c : Int → Option Bool) (b : Int → Option Int)
    (hc : ∀ j : Int, c j = (G7.index a j).bind fun t => if x < t then some true else some false)
    (hb : ∀ j : Int, b j = some (j - 1)) :
    ∀ (j j' : Nat), scanDown a x j = some j' → ∀ fuel, j ≤ fuel →
      G7.whileO fuel c b ((j : Int) - 1) = some (j' : Int) := by
  intro j
  induction j with
  | zero => intro j' h; simp [scanDown] at h
  | succ j ih =>
    intro j' h fuel hf
    obtain ⟨f, rfl⟩ : ∃ f, fuel = f + 1 := ⟨fuel - 1, by omega⟩
    have e1 : ((j + 1 : Nat) : Int) - 1 = (j : Int) := by omega
    rw [e1, G7.whileO, hc, index_nat]
    rw [scanDown] at h
    split at h
    · exact absurd h (by simp)
    · rename_i v hv
      rw [hv]
      by_cases hlt : x < v
      · simp only [hlt, if_true] at h
        simp only [Option.bind_some, hlt, if_true, hb]
        exact ih j' h f (by omega)
      · simp only [hlt, if_false, Option.some.injEq] at h
        simp only [Option.bind_some, hlt, if_false, h]

theorem whileO_scanUp (a : List α) (x : α) (c : Int → Option Bool) (b : Int → Option Int)
    (hc : ∀ j : Int, c j = (G7.index a j).bind fun t => if t < x then some true else some false)
    (hb : ∀ j : Int, b j = some (j + 1)) :
    ∀ (fuel i i' : Nat), scanUp a x fuel i = some i' →
      G7.whileO fuel c b (i : Int) = some (i' : Int) := by
  intro fuel
  induction fuel with
  | zero => intro i i' h; simp [scanUp] at h
  | succ f ih =>
    intro i i' h
    rw [G7.whileO, hc, index_nat]
    rw [scanUp] at h
    split at h
    · exact absurd h (by simp)
    · rename_i v hv
      rw [hv]
      by_cases hlt : v < x
      · simp only [hlt, if_true] at h
        simp only [Option.bind_some, hlt, if_true, hb]
        have := ih (i + 1) i' h
        simpa using this
      · simp only [hlt, if_false, Option.some.injEq] at h
        simp only [Option.bind_some, hlt, if_false, h]

/-- the body of the `while True` of `_partition`, in normal form -/
def partBody (x : α) (s : Int × Int × List α) : Option (G7.Ctl (Int × Int × List α) (List α × Int)) :=
  (G7.whileO (s.2.2.length + 1)
      (fun j => (G7.index s.2.2 j).bind fun t => if x < t then some true else some false)
      (fun j => some (j - 1)) (s.1 - 1)).bind fun j =>
  (G7.whileO (s.2.2.length + 1)
      (fun i => (G7.index s.2.2 i).bind fun t => if t < x then some true else some false)
      (fun i => some (i + 1)) (s.2.1 + 1)).bind fun i =>
  if i < j then
    (G7.index s.2.2 j).bind fun tj => (G7.index s.2.2 i).bind fun ti =>
    (G7.setIdx s.2.2 i tj).bind fun a1 => (G7.setIdx a1 j ti).bind fun a2 =>
    some (G7.Ctl.cont (j, i, a2))
  else some (G7.Ctl.ret (s.2.2, j))

/-- one round of the generated `while True` body, in terms of the two scans of the model -/
theorem partBody_scans (x : α) (a : List α) (i1 j j' i' : Nat) (hj : scanDown a x j = some j')
    (hi : scanUp a x (a.length + 1) i1 = some i') :
    partBody x ((j : Int), (i1 : Int) - 1, a) =
      if i' < j' then
        (G7.index a (j' : Int)).bind fun tj => (G7.index a (i' : Int)).bind fun ti =>
        (G7.setIdx a (i' : Int) tj).bind fun a1 => (G7.setIdx a1 (j' : Int) ti).bind fun a2 =>
        some (G7.Ctl.cont ((j' : Int), (i' : Int), a2))
      else some (G7.Ctl.ret (a, (j' : Int))) := by
  have hd := whileO_scanDown a x _ _ (fun _ => rfl) (fun _ => rfl) j j' hj (a.length + 1)
    (by have := scanDown_le a x j j' hj; omega)
  have hu := whileO_scanUp a x _ _ (fun _ => rfl) (fun _ => rfl) (a.length + 1) i1 i' hi
  rw [partBody]
  simp only [hd, Int.sub_add_cancel, hu, Option.bind_some, Int.ofNat_lt]

theorem loopO_partition (x : α) (B : Int × Int × List α → Option (G7.Ctl (Int × Int × List α) (List α × Int)))
    (hB : ∀ s, B s = partBody x s) :
    ∀ (fuel : Nat) (a : List α) (i1 j : Nat) (a' : List α) (q : Nat),
      partitionLoop x fuel a i1 j = some (a', q) →
      G7.loopO fuel B ((j : Int), (i1 : Int) - 1, a) = some (a', (q : Int)) := by
  intro fuel a i1 j a' q h
  fun_induction partitionLoop x fuel a i1 j with
  | case1 | case2 | case3 | case5 => cases h
  | case4 f a i1 j j' hj i' hi hlt vi vj hvj hvi ih =>
    have hil := (List.getElem?_eq_some_iff.1 hvi).1
    have hjl := (List.getElem?_eq_some_iff.1 hvj).1
    rw [G7.loopO, hB, partBody_scans x a i1 j j' i' hj hi, if_pos hlt]
    simp only [index_nat, hvi, hvj, Option.bind_some, setIdx_nat, hil, if_true, List.length_set, hjl]
    simpa using ih h
  | case6 f a i1 j j' hj i' hi hlt =>
    rw [G7.loopO, hB, partBody_scans x a i1 j j' i' hj hi, if_neg hlt]
    cases h; rfl

end QS

/-- `for i in range(left + 1)` of `gen_refs_recursive`: the loop over the state `(ref, points)` -/
theorem forO_genRefs {γ : Type} (ref : List γ) (depth : Nat) (F : Int → List γ × List (List γ) → Option (List γ × List (List γ)))
    (g : Nat → List (List γ)) (left : Nat)
    (hF : ∀ (i : Nat) (r : List γ) (pts : List (List γ)), i ≤ left → (∀ v, r.set depth v = ref.set depth v) →
      ∃ r', (∀ v, r'.set depth v = ref.set depth v) ∧ F (i : Int) (r, pts) = some (r', pts ++ g i)) :
    ∀ (l : List Nat) (r : List γ) (pts : List (List γ)), (∀ i ∈ l, i ≤ left) → (∀ v, r.set depth v = ref.set depth v) →
      ∃ r', G7.forO (l.map (fun (k : Nat) => (0 : Int) + (k : Int))) F (r, pts) = some (r', pts ++ l.flatMap g) := by
  intro l
  induction l with
  | nil => intro r pts _ _; exact ⟨r, by simp [G7.forO]⟩
  | cons i l ih =>
    intro r pts hl hr
    obtain ⟨r1, hr1, h1⟩ := hF i r pts (hl i (by simp)) hr
    obtain ⟨r2, h2⟩ := ih r1 (pts ++ g i) (fun k hk => hl k (by simp [hk])) hr1
    refine ⟨r2, ?_⟩
    simp only [List.map_cons, G7.forO, Int.zero_add, h1, List.flatMap_cons]
    simp only [Int.zero_add] at h2
    rw [h2, List.append_assoc]

theorem range_zero (n : Nat) : G7.range 0 ((n : Int) + 1) = (List.range (n + 1)).map (fun (k : Nat) => (0 : Int) + (k : Int)) := by
  unfold G7.range
  have : ((n : Int) + 1 - 0).toNat = n + 1 := by omega
  rw [this]


/-! ### the deletion loop of `selSPEA2` (`for index in reversed(sorted(to_remove)): del chosen_indices[index]`) -/

theorem sortedI_map (l : List Nat) :
    G7.sortedI (l.map Int.ofNat) = (l.mergeSort (fun a b => decide (a ≤ b))).map Int.ofNat := by
  unfold G7.sortedI
  rw [List.map_mergeSort]
  intro a _ b _
  simp

theorem delIdx_nat {β : Type} (l : List β) (n : Nat) :
    G7.delIdx l (n : Int) = if n < l.length then some (l.eraseIdx n) else none := by
  unfold G7.delIdx
  have : ¬ ((n : Int) < 0) := Int.not_lt.2 (Int.natCast_nonneg n)
  simp [this]

theorem forO_del (F : Int → List Int → Option (List Int)) (hF : ∀ p s, F p s = (G7.delIdx s p).bind some) :
    ∀ (l c : List Nat) (r : List Int), G7.forO (l.map Int.ofNat) F (c.map Int.ofNat) = some r →
      r = (l.foldl (fun l i => l.eraseIdx i) c).map Int.ofNat := by
  intro l
  induction l with
  | nil => intro c r h; simpa [G7.forO] using h.symm
  | cons i l ih =>
    intro c r h
    simp only [List.map_cons, G7.forO, hF] at h
    have e : G7.delIdx (c.map Int.ofNat) (Int.ofNat i) = if i < c.length then some ((c.eraseIdx i).map Int.ofNat) else none := by
      have := delIdx_nat (c.map Int.ofNat) i
      simpa [List.eraseIdx_map] using this
    rw [e] at h
    by_cases hi : i < c.length
    · simp only [hi, if_true, Option.bind_some] at h
      exact ih _ r h
    · simp [hi] at h

end C07G
