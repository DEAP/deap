/-
C12 helper lemmas on the Python expression model of `Core/PyExpr`.  The tokenizer is compositional at break characters
(`lexGo_append`), an identifier is one name token, a decimal integer literal one `int` token.  Keywords.  What `pExpr` and
`evalPy` make of the tokens of a name or a literal (`atom_parse`, `atom_eval`), and which texts are atoms (`atomOf_*`).
-/
import DeapModel.Core.PyExpr

namespace PyLang

/-- the characters after which (and before which) a token boundary is certain -/
def isBreak (c : Char) : Bool := c == ' ' || c == '\t' || c == '(' || c == ')' || c == ',' || c == ':'

/-- what may follow a complete piece of text: the end, or a break character -/
def Break (rest : Str) : Prop := rest = [] ∨ ∃ c r, rest = c :: r ∧ isBreak c = true

theorem isBreak_cases {c : Char} (h : isBreak c = true) :
    c = ' ' ∨ c = '\t' ∨ c = '(' ∨ c = ')' ∨ c = ',' ∨ c = ':' := by
  simp only [isBreak, Bool.or_eq_true, beq_iff_eq] at h
  rcases h with ((((h | h) | h) | h) | h) | h <;> simp [h]

theorem break_not_cont {c : Char} (h : isBreak c = true) (acc : Str) : contWord acc c = false := by
  rcases isBreak_cases h with rfl | rfl | rfl | rfl | rfl | rfl <;>
    simp [contWord, isWordChar, isIdChar] <;> decide

theorem break_start {c : Char} (h : isBreak c = true) : ∃ em, startChar c = some (.idle, em) := by
  rcases isBreak_cases h with rfl | rfl | rfl | rfl | rfl | rfl <;> exact ⟨_, rfl⟩

/-- one character of the tokenizer as a transition: the next state and the tokens emitted (`none` = not in the language) -/
def lexStep : LexSt → Char → Option (LexSt × List Tok)
  | .idle, c => startChar c
  | .word acc, c =>
    if contWord acc c then some (.word (c :: acc), [])
    else
      match wordTok acc.reverse, startChar c with
      | some t, some (st, em) => some (st, t :: em)
      | _, _ => none
  | .str q acc, c =>
    if c == q then some (.idle, [Tok.str acc.reverse])
    else if c == '\\' || c == '\n' || c == '\r' then none
    else some (.str q (c :: acc), [])

theorem lexGo_cons (st : LexSt) (c : Char) (cs : Str) :
    lexGo st (c :: cs) = (lexStep st c).bind fun p => (lexGo p.1 cs).map (fun r => p.2 ++ r) := by
  cases st with
  | idle => cases h : startChar c <;> simp [lexGo, lexStep, h]
  | word acc =>
    by_cases hc : contWord acc c = true
    · simp [lexGo, lexStep, hc]
    · cases hw : wordTok acc.reverse <;> cases hs : startChar c <;> simp [lexGo, lexStep, hc, hw, hs]
  | str q acc =>
    by_cases hq : (c == q) = true
    · simp [lexGo, lexStep, hq]
    · by_cases he : (c == '\\' || c == '\n' || c == '\r') = true <;> simp [lexGo, lexStep, hq, he]

theorem lexGo_append : ∀ (a : Str) (st : LexSt) (ta : List Tok) (b : Str),
    lexGo st a = some ta → Break b → lexGo st (a ++ b) = (lexGo .idle b).map (fun r => ta ++ r)
  | [], st, ta, b, h, hb => by
    cases st with
    | idle =>
      simp [lexGo] at h; subst h
      simp
    | str q acc => simp [lexGo] at h
    | word acc =>
      simp only [lexGo, Option.map_eq_some_iff] at h
      obtain ⟨t, ht, rfl⟩ := h
      rcases hb with rfl | ⟨c, r, rfl, hc⟩
      · simp [lexGo, ht]
      · obtain ⟨em, hem⟩ := break_start hc
        simp only [List.nil_append, lexGo, break_not_cont hc acc, Bool.false_eq_true, if_false, ht, hem,
          Option.map_map]
        congr 1
  | c :: cs, st, ta, b, h, hb => by
    rw [lexGo_cons] at h
    rw [List.cons_append, lexGo_cons]
    cases hs : lexStep st c with
    | none => simp [hs] at h
    | some p =>
      simp only [hs, Option.bind_some, Option.map_eq_some_iff] at h
      obtain ⟨r, hr, rfl⟩ := h
      simp only [Option.bind_some, lexGo_append cs p.1 r b hr hb, Option.map_map]
      congr 1
      funext x; simp

theorem lex_append {a : Str} {ta : List Tok} (h : lex a = some ta) {b : Str} (hb : Break b) :
    lex (a ++ b) = (lex b).map (fun r => ta ++ r) := lexGo_append a .idle ta b h hb

theorem isIdChar_word {c : Char} (h : isIdChar c = true) : isWordChar c = true := by
  simp [isWordChar, h]

theorem lexGo_word_run : ∀ (w acc : Str), (∀ c ∈ w, isIdChar c = true) →
    lexGo (.word acc) w = (wordTok (acc.reverse ++ w)).map (fun t => [t])
  | [], acc, _ => by simp [lexGo]
  | c :: w, acc, h => by
    have hc : contWord acc c = true := by simp [contWord, isIdChar_word (h c (by simp))]
    simp only [lexGo, hc, if_true]
    rw [lexGo_word_run w (c :: acc) (fun x hx => h x (by simp [hx]))]
    simp

theorem ident_shape {x : Str} (h : isIdent x = true) :
    ∃ c cs, x = c :: cs ∧ (c.isAlpha || c == '_') = true ∧ (∀ d ∈ cs, isIdChar d = true) ∧ isKeyword x = false := by
  cases x with
  | nil => simp [isIdent] at h
  | cons c cs =>
    simp only [isIdent, Bool.and_eq_true, List.all_eq_true, Bool.not_eq_true'] at h
    exact ⟨c, cs, rfl, h.1.1, h.1.2, h.2⟩

theorem alpha_idChar {c : Char} (h : (c.isAlpha || c == '_') = true) : isIdChar c = true := by
  simp only [Bool.or_eq_true] at h
  rcases h with h | h
  · simp [isIdChar, Char.isAlphanum, h]
  · simp [isIdChar, h]

theorem lex_ident {x : Str} (h : isIdent x = true) : lex x = some [.name x] := by
  obtain ⟨c, cs, rfl, hc, hcs, _⟩ := ident_shape h
  have hid := alpha_idChar hc
  have hstart : startChar c = some (.word [c], []) := by simp [startChar, isIdChar_word hid]
  simp only [lex, lexGo, hstart]
  rw [lexGo_word_run cs [c] hcs]
  have hall : (c :: cs).all isIdChar = true := by
    simp only [List.all_cons, hid, Bool.true_and, List.all_eq_true]; exact hcs
  simp [wordTok, hc, hall]

theorem digit_bounds {c : Char} (h : c.isDigit = true) : 48 ≤ c.val.toNat ∧ c.val.toNat ≤ 57 := by
  simp only [Char.isDigit, Bool.and_eq_true, decide_eq_true_eq] at h
  have h1 := UInt32.le_iff_toNat_le.1 h.1
  have h2 := UInt32.le_iff_toNat_le.1 h.2
  exact ⟨h1, h2⟩

theorem digit_not_alpha {c : Char} (h : c.isDigit = true) : (c.isAlpha || c == '_') = false := by
  obtain ⟨h1, h2⟩ := digit_bounds h
  have hne : c ≠ '_' := by rintro rfl; revert h2; decide
  have e1 : 'A'.val.toNat = 65 := rfl
  have e2 : 'a'.val.toNat = 97 := rfl
  simp only [Char.isAlpha, Char.isUpper, Char.isLower, Bool.or_eq_false_iff, Bool.and_eq_false_iff, decide_eq_false_iff_not,
    UInt32.le_iff_toNat_le, beq_eq_false_iff_ne]
  exact ⟨⟨by omega, Or.inl (by omega)⟩, hne⟩

theorem digit_idChar {c : Char} (h : c.isDigit = true) : isIdChar c = true := by
  simp [isIdChar, Char.isAlphanum, h]

theorem span_loop_all {p : Char → Bool} : ∀ (l acc : List Char), (∀ c ∈ l, p c = true) →
    List.span.loop p l acc = (acc.reverse ++ l, [])
  | [], acc, _ => by simp [List.span.loop]
  | c :: l, acc, h => by
    simp only [List.span.loop, h c (by simp)]
    rw [span_loop_all l (c :: acc) (fun x hx => h x (by simp [hx]))]
    simp

theorem span_all {p : Char → Bool} (l : List Char) (h : ∀ c ∈ l, p c = true) : l.span p = (l, []) := by
  simp [List.span, span_loop_all l [] h]

theorem parseNum_int {s : Str} (h : isIntLit s = true) : parseNum s = some (.int (digitsVal s)) := by
  simp only [isIntLit, allDigits, Bool.and_eq_true, Bool.not_eq_true', List.all_eq_true, Bool.or_eq_true,
    beq_iff_eq, bne_iff_ne] at h
  obtain ⟨⟨hne, hd⟩, hz⟩ := h
  -- a digit is none of `e`, `E`, `.`: both `span`s of `parseNum` run to the end
  have hm : ∀ c ∈ s, (c != 'e' && c != 'E') = true ∧ (c != '.') = true := fun c hc => by
    obtain ⟨h1, h2⟩ := digit_bounds (hd c hc)
    simp only [Bool.and_eq_true, bne_iff_ne]
    refine ⟨⟨?_, ?_⟩, ?_⟩ <;> (rintro rfl; revert h1 h2; decide)
  have s1 := span_all (p := fun c => c != 'e' && c != 'E') s (fun c hc => (hm c hc).1)
  have s2 := span_all (p := fun c => c != '.') s (fun c hc => (hm c hc).2)
  have hall : allDigits s = true := by simp [allDigits, hne]; exact hd
  unfold parseNum
  simp only [s1, s2]
  simp [hall, hz]

theorem intLit_shape {s : Str} (h : isIntLit s = true) : ∃ c cs, s = c :: cs ∧ ∀ d ∈ c :: cs, d.isDigit = true := by
  simp only [isIntLit, allDigits, Bool.and_eq_true, Bool.not_eq_true', List.all_eq_true] at h
  cases s with
  | nil => simp at h
  | cons c cs => exact ⟨c, cs, rfl, h.1.2⟩

theorem lex_intLit {s : Str} (h : isIntLit s = true) : isIdent s = false ∧ lex s = some [.int (digitsVal s)] := by
  obtain ⟨c, cs, rfl, hd⟩ := intLit_shape h
  have hc := hd c (by simp)
  have hna := digit_not_alpha hc
  have hstart : startChar c = some (.word [c], []) := by simp [startChar, isIdChar_word (digit_idChar hc)]
  refine ⟨by simp [isIdent, hna], ?_⟩
  simp only [lex, lexGo, hstart]
  rw [lexGo_word_run cs [c] (fun d hd' => digit_idChar (hd d (by simp [hd'])))]
  simp [wordTok, hna, parseNum_int h]

/-- what the proofs need of the keyword table, in one evaluation: the kernel decodes the table's string literals once per
declaration, and that is nearly all an evaluation of `isKeyword` costs -/
theorem keyword_facts : isKeyword "True".toList = true ∧ isKeyword "False".toList = true ∧ isKeyword "None".toList = true ∧
    isKeyword "lambda".toList = true ∧ constName "lambda".toList = none := by
  decide +kernel

theorem ident_not_const {x : Str} (h : isIdent x = true) : constName x = none := by
  obtain ⟨c, cs, rfl, _, _, hk⟩ := ident_shape h
  -- the three constant names are keywords
  obtain ⟨hT, hF, hN, _⟩ := keyword_facts
  unfold constName
  split
  · next he => rw [he, hT] at hk; cases hk
  · split
    · next he => rw [he, hF] at hk; cases hk
    · split
      · next he => rw [he, hN] at hk; cases hk
      · rfl

theorem isIdent_of_keyword {x : Str} (h : isKeyword x = true) : isIdent x = false := by
  cases x <;> simp [isIdent, h]

theorem ident_nameExpr {x : Str} (h : isIdent x = true) : nameExpr x = some (.name x) := by
  have hk : isKeyword x = false := by
    obtain ⟨c, cs, rfl, _, _, hk⟩ := ident_shape h; exact hk
  simp [nameExpr, ident_not_const h, hk]

/-- what follows an argument inside a call, or a whole expression: nothing, a comma or the closing parenthesis -/
def Follow (r : List Tok) : Prop := r = [] ∨ (∃ r', r = .comma :: r') ∨ (∃ r', r = .rpar :: r')

theorem const_nameExpr {x : Str} {e : PyExpr} (h : constName x = some e) : nameExpr x = some e := by
  simp [nameExpr, h]

theorem pExpr_name {x : Str} {e : PyExpr} (h : nameExpr x = some e) (m : Nat) {r : List Tok} (hr : Follow r) :
    pExpr (m + 1) (Tok.name x :: r) = some (e, r) := by
  rcases hr with rfl | ⟨r', rfl⟩ | ⟨r', rfl⟩ <;> simp [pExpr, h]

theorem atom_parse {s : Str} {e : PyExpr} (h : atomOf s = some e) :
    ∃ toks, lex s = some toks ∧ 1 ≤ toks.length ∧
      ∀ n r, Follow r → 2 * toks.length ≤ n → pExpr n (toks ++ r) = some (e, r) := by
  unfold atomOf at h
  split at h
  · next hid =>
    cases h
    refine ⟨_, lex_ident hid, by simp, fun n r hr hn => ?_⟩
    obtain ⟨m, rfl⟩ := Nat.exists_eq_add_of_le' (Nat.le_trans (by decide : 1 ≤ 2 * 1) hn)
    exact pExpr_name (ident_nameExpr hid) m hr
  · -- a literal: one token, or a minus sign and one token; two units of fuel read either
    have lit : ∀ {toks : List Tok} {e' : PyExpr}, lex s = some toks → 1 ≤ toks.length →
        (∀ m r, pExpr (m + 2) (toks ++ r) = some (e', r)) →
        ∃ toks, lex s = some toks ∧ 1 ≤ toks.length ∧
          ∀ n r, Follow r → 2 * toks.length ≤ n → pExpr n (toks ++ r) = some (e', r) := fun hl h1 hp =>
      ⟨_, hl, h1, fun n r _ hn => by
        obtain ⟨m, rfl⟩ := Nat.exists_eq_add_of_le' (Nat.le_trans (Nat.le_mul_of_pos_right 2 h1) hn)
        exact hp m r⟩
    split at h
    · next x hl =>                       -- `True`, `False`, `None`
      refine ⟨_, hl, by simp, fun n r hr hn => ?_⟩
      obtain ⟨m, rfl⟩ := Nat.exists_eq_add_of_le' (Nat.le_trans (by decide : 1 ≤ 2 * 1) hn)
      exact pExpr_name (const_nameExpr h) m hr
    · next n hl => cases h; exact lit hl (by simp) fun m r => by simp [pExpr]      -- `3`
    · next m e hl => cases h; exact lit hl (by simp) fun m r => by simp [pExpr]    -- `1e-17`
    · next v hl => cases h; exact lit hl (by simp) fun m r => by simp [pExpr]      -- `'ab'`
    · next n hl => cases h; exact lit hl (by simp) fun m r => by simp [pExpr]      -- `-3`
    · next m e hl => cases h; exact lit hl (by simp) fun m r => by simp [pExpr]    -- `-2.5e+16`
    · cases h

/-- a constant expression (a literal, possibly negated, `True`, `False`, `None`) has its value in every namespace -/
theorem evalPy_const {e : PyExpr} (h : (evalConst e).isSome = true) (P : PyEnv) : evalPy P e = evalConst e := by
  unfold evalConst at h ⊢
  split <;> simp_all [evalPy, negVal]

theorem atom_eval {s : Str} {e : PyExpr} (h : atomOf s = some e) (P : PyEnv) :
    (isIdent s = true ∧ e = .name s) ∨ (isIdent s = false ∧ evalPy P e = evalConst e) := by
  unfold atomOf at h
  split at h
  · next hid => left; exact ⟨hid, by simpa using h.symm⟩
  · next hid =>
    right
    refine ⟨by simpa using hid, ?_⟩
    split at h
    · next x hl =>                                 -- `True`, `False`, `None`
      unfold constName at h
      split at h
      · cases h; exact evalPy_const rfl P
      · split at h
        · cases h; exact evalPy_const rfl P
        · split at h
          · cases h; exact evalPy_const rfl P
          · cases h
    · cases h; exact evalPy_const rfl P            -- `3`
    · cases h; exact evalPy_const rfl P            -- `1e-17`
    · cases h; exact evalPy_const rfl P            -- `'ab'`
    · cases h; exact evalPy_const rfl P            -- `-3`
    · cases h; exact evalPy_const rfl P            -- `-2.5e+16`
    · cases h

theorem atomOf_int {s : Str} (h : isIntLit s = true) : atomOf s = some (.int (digitsVal s)) := by
  simp [atomOf, lex_intLit h]

theorem atomOf_ident {s : Str} (h : isIdent s = true) : atomOf s = some (.name s) := by simp [atomOf, h]

theorem atomOf_negInt {r : Str} (h : isIntLit r = true) : atomOf ('-' :: r) = some (.neg (.int (digitsVal r))) := by
  have hr := (lex_intLit h).2
  have hstart : startChar '-' = some (.idle, [.minus]) := rfl
  simp only [lex] at hr
  simp [atomOf, isIdent, lex, lexGo, hstart, hr]

end PyLang
