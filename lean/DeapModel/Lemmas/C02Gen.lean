/-
C02 — translator tie, helper lemmas.

The translator `harness/py2lean_c02.py` renders `deap/algorithms.py` `varAnd` / `varOr` as state-passing actions over the prelude
`Core/GenPreludeC02.lean`.  Here: the CANONICAL renderings (`varAndCanon`, `varOrCanon`: what the translator produces from the
source as it is, with the loop bodies named) and the proofs that they are the hand-written model of `Core/Variation.lean` composed
with its own decoders of the recorded draws (`decodeAnd`, `decodeOr`) — the index loops of the source against the structural
recursions of the model (`forPairs_mateBody`, `forEach_mutBody`, `repeatM_orBody`).  The committed theorems of
`GenEq/C02.lean.tmpl` show `Gen.<f> = <f>Canon` for the regenerated text (tactic `genv_eq`) and transfer.
-/
import DeapModel.Core.GenPreludeC02
import DeapModel.Lemmas.C02

namespace GenVL
open Variation GenV

variable {σ β γ : Type}

@[simp] theorem bind_apply (m : M σ β) (k : β → M σ γ) (g : GSt σ) :
    GenV.bind m k g = match m g with | none => none | some (x, g1) => k x g1 := rfl
@[simp] theorem pure_apply (x : β) (g : GSt σ) : (GenV.pure x : M σ β) g = some (x, g) := rfl
@[simp] theorem fail_apply (g : GSt σ) : (GenV.fail : M σ β) g = none := rfl
theorem bind_pure_id (m : M σ β) : GenV.bind m (fun x => GenV.pure x) = m := by
  funext g; simp only [bind_apply]; cases m g with
  | none => rfl
  | some p => rfl

/-- monad laws used to bring a regenerated definition to the canonical shape -/
theorem bind_assoc (m : M σ β) (k : β → M σ γ) {δ : Type} (k2 : γ → M σ δ) :
    GenV.bind (GenV.bind m k) k2 = GenV.bind m (fun x => GenV.bind (k x) k2) := by
  funext g; simp only [bind_apply]; cases m g <;> rfl

theorem pure_bind (x : β) (k : β → M σ γ) : GenV.bind (GenV.pure x) k = k x := rfl

theorem mapM_clone (l : List Nat) (g : GSt σ) :
    GenV.mapM (fun v => GenV.clone v) l g = some ((cloneAll g.st l).2, { g with st := (cloneAll g.st l).1 }) := by
  induction l generalizing g with
  | nil => rfl
  | cons p ps ih =>
    simp only [GenV.mapM, bind_apply, GenV.clone, ih, cloneAll, pure_apply]

def rnds (fl : List Float) : List Draw := fl.map Draw.rnd

/-- canonical body of varAnd's crossover loop (lines 71-75) -/
def mateBody (ops : Ops σ) (cxpb : Float) (a b : Nat) : M σ (Nat × Nat) :=
  GenV.bind GenV.random fun r =>
  if r < cxpb then
    GenV.bind (GenV.mate ops a b) fun p =>
    GenV.bind (GenV.delFit p.1) fun _ =>
    GenV.bind (GenV.delFit p.2) fun _ =>
    GenV.pure (p.1, p.2)
  else GenV.pure (a, b)

/-- canonical body of varAnd's mutation loop (lines 77-80) -/
def mutBody (ops : Ops σ) (mutpb : Float) (a : Nat) : M σ Nat :=
  GenV.bind GenV.random fun r =>
  if r < mutpb then
    GenV.bind (GenV.mutate ops a) fun p =>
    GenV.bind (GenV.delFit p) fun _ =>
    GenV.pure p
  else GenV.pure a

def resOut (rest : List Draw) (r : Res σ) : List Nat × GSt σ := (r.off, ⟨r.tape, r.st, rest⟩)

theorem forPairs_mateBody (ops : Ops σ) (cxpb : Float) :
    ∀ (l : List Nat) (ds : List Float) (rest : List Draw) (t : σ) (s : St), ds.length = l.length / 2 →
      GenV.forPairs (mateBody ops cxpb) l ⟨t, s, ds.map Draw.rnd ++ rest⟩ =
        (mateLoop ops t s l (ds.map fun r => decide (r < cxpb))).map (resOut rest)
  | [], ds, rest, t, s, h => by
    cases ds with
    | nil => simp [GenV.forPairs, resOut]
    | cons d ds => simp at h
  | [a], ds, rest, t, s, h => by
    cases ds with
    | nil => simp [GenV.forPairs, resOut]
    | cons d ds => simp at h
  | a :: b :: l, ds, rest, t, s, h => by
    cases ds with
    | nil => exfalso; simp at h; omega
    | cons d ds =>
      have h' : ds.length = l.length / 2 := by simp at h; omega
      by_cases hd : d < cxpb <;>
        simp only [GenV.forPairs, bind_apply, mateBody, GenV.random, List.map_cons, List.cons_append, hd, if_true, if_false,
          GenV.mate, GenV.delFit, pure_apply, mateLoop, decide_true, decide_false, Bool.false_eq_true] <;>
        rw [forPairs_mateBody ops cxpb l ds rest _ _ h'] <;>
        cases mateLoop ops _ _ l (ds.map fun r => decide (r < cxpb)) <;> simp [resOut]

theorem forEach_mutBody (ops : Ops σ) (mutpb : Float) :
    ∀ (l : List Nat) (ds : List Float) (rest : List Draw) (t : σ) (s : St), ds.length = l.length →
      GenV.forEach (mutBody ops mutpb) l ⟨t, s, ds.map Draw.rnd ++ rest⟩ =
        (mutLoop ops t s l (ds.map fun r => decide (r < mutpb))).map (resOut rest)
  | [], ds, rest, t, s, h => by
    cases ds with
    | nil => simp [GenV.forEach, mutLoop, resOut]
    | cons d ds => simp at h
  | a :: l, ds, rest, t, s, h => by
    cases ds with
    | nil => simp at h
    | cons d ds =>
      have h' : ds.length = l.length := by simpa using h
      by_cases hd : d < mutpb <;>
        simp only [GenV.forEach, bind_apply, mutBody, GenV.random, List.map_cons, List.cons_append, hd, if_true, if_false,
          GenV.mutate, GenV.delFit, pure_apply, mutLoop, decide_true, decide_false, Bool.false_eq_true] <;>
        rw [forEach_mutBody ops mutpb l ds rest _ _ h'] <;>
        cases mutLoop ops _ _ l (ds.map fun r => decide (r < mutpb)) <;> simp [resOut]

/-- the canonical rendering of `varAnd` (what the translator produces from the source as it is) -/
def varAndCanon (ops : Ops σ) (population : List Nat) (cxpb mutpb : Float) : M σ (List Nat) :=
  GenV.bind (GenV.mapM (fun v => GenV.clone v) population) fun off =>
  GenV.bind (GenV.forPairs (mateBody ops cxpb) off) fun off =>
  GenV.bind (GenV.forEach (mutBody ops mutpb) off) fun off =>
  GenV.pure off

/-- On every tape that starts with the `len/2 + len` results of `random()` the call consumes: the regenerated `varAnd` is the
model's `varAnd` on the decisions `decodeAnd` reads off those results, and hands the rest of the tape on. -/
theorem varAndCanon_eq_model (ops : Ops σ) (population : List Nat) (cxpb mutpb : Float) (t : σ) (s : St)
    (fl : List Float) (rest : List Draw) (h : fl.length = population.length / 2 + population.length) :
    varAndCanon ops population cxpb mutpb ⟨t, s, fl.map Draw.rnd ++ rest⟩ =
      ((decodeAnd cxpb mutpb population.length fl).bind fun d =>
        Variation.varAnd ops t s population d.1 d.2).map (resOut rest) := by
  have hsplit : fl = fl.take (population.length / 2) ++ fl.drop (population.length / 2) := (List.take_append_drop _ _).symm
  have hlen : (cloneAll s population).2.length = population.length := by simp [cloneAll_off]
  have h1 : (fl.take (population.length / 2)).length = (cloneAll s population).2.length / 2 := by
    rw [hlen]; simp; omega
  simp only [varAndCanon, bind_apply, mapM_clone, decodeAnd, h, if_true, Option.bind_some, Variation.varAnd]
  conv => lhs; rw [hsplit, List.map_append, List.append_assoc]
  rw [forPairs_mateBody ops cxpb _ _ _ _ _ h1]
  cases hm : mateLoop ops t (cloneAll s population).1 (cloneAll s population).2
      ((fl.take (population.length / 2)).map fun r => decide (r < cxpb)) with
  | none => simp
  | some m =>
    have h2 : (fl.drop (population.length / 2)).length = m.off.length := by
      rw [mateLoop_length _ _ _ _ m hm]; simp; omega
    simp only [Option.map_some, resOut]
    rw [forEach_mutBody ops mutpb _ _ _ _ _ h2]
    cases mutLoop ops m.tape m.st m.off ((fl.drop (population.length / 2)).map fun r => decide (r < mutpb)) <;> simp [resOut]

/-- canonical body of varOr's loop (lines 231-243): the element appended to `offspring` -/
def orBody (ops : Ops σ) (population : List Nat) (cxpb mutpb : Float) : M σ Nat :=
  GenV.bind GenV.random fun r =>
  if r < cxpb then
    GenV.bind (GenV.sample2 population) fun smp =>
    GenV.bind (GenV.mapM (fun v => GenV.clone v) smp) fun cl =>
    GenV.bind (GenV.unpack2 cl) fun i =>
    GenV.bind (GenV.mate ops i.1 i.2) fun p =>
    GenV.bind (GenV.delFit p.1) fun _ =>
    GenV.pure p.1
  else if r < cxpb + mutpb then
    GenV.bind (GenV.choice population) fun c =>
    GenV.bind (GenV.clone c) fun i =>
    GenV.bind (GenV.mutate ops i) fun m =>
    GenV.bind (GenV.delFit m) fun _ =>
    GenV.pure m
  else
    GenV.bind (GenV.choice population) fun c =>
    GenV.clone c

def varOrCanon (ops : Ops σ) (population : List Nat) (lambda_ : Nat) (cxpb mutpb : Float) : M σ (List Nat) :=
  if cxpb + mutpb <= 1.0 then GenV.repeatM (orBody ops population cxpb mutpb) lambda_ else GenV.fail

/-- what is kept of a finished call: the returned list, the operators' state, the heap -/
def resExact (r : Res σ) : List Nat × σ × St := (r.off, r.tape, r.st)

def exactK (x : List Nat × GSt σ) : Option (List Nat × σ × St) :=
  if x.2.draws.isEmpty then some (x.1, x.2.tape, x.2.st) else none

theorem bind_const_none {α β : Type} (x : Option α) : (x.bind fun _ => (none : Option β)) = none := by
  cases x <;> rfl

def consOut (o : Nat) (r : List Nat × σ × St) : List Nat × σ × St := (o :: r.1, r.2)

theorem repeatM_succ_exact (body : M σ Nat) (n : Nat) (g : GSt σ) :
    (GenV.repeatM body (n + 1) g).bind exactK =
      match body g with
      | none => none
      | some (o, g1) => ((GenV.repeatM body n g1).bind exactK).map (consOut o) := by
  simp only [GenV.repeatM, bind_apply, pure_apply]
  cases body g with
  | none => rfl
  | some p =>
    obtain ⟨o, g1⟩ := p
    simp only []
    cases GenV.repeatM body n g1 with
    | none => rfl
    | some q =>
      simp only [Option.bind_some, exactK]; split <;> rfl

theorem decode_cons_model (ops : Ops σ) (population : List Nat) (t : σ) (s : St) (c : Choice) (d : Option (List Choice)) :
    ((d.map (c :: ·)).bind fun ch => (varOrLoop ops population t s ch).map resExact) =
      match varOrStep ops population t s c with
      | none => none
      | some (t1, s1, o) => (d.bind fun ch => (varOrLoop ops population t1 s1 ch).map resExact).map (consOut o) := by
  cases d with
  | none => cases varOrStep ops population t s c <;> rfl
  | some ch =>
    simp only [Option.map_some, Option.bind_some, varOrLoop]
    cases varOrStep ops population t s c with
    | none => rfl
    | some x =>
      obtain ⟨t1, s1, o⟩ := x
      simp only []
      cases varOrLoop ops population t1 s1 ch <;> simp [resExact, consOut]

/-- one iteration of the rendered loop reads one choice off the tape and is the model's `varOrStep` on it -/
theorem orBody_apply (ops : Ops σ) (population : List Nat) (cxpb mutpb : Float) (t : σ) (s : St) (draws : List Draw) :
    orBody ops population cxpb mutpb ⟨t, s, draws⟩ =
      (draw1 cxpb mutpb draws).bind fun y =>
        (varOrStep ops population t s y.1).map fun z => (z.2.2, ⟨z.1, z.2.1, y.2⟩) := by
  match draws with
  | [] | Draw.sample .. :: _ | Draw.choice _ :: _ => rfl
  | Draw.rnd r :: rest =>
    dsimp only [draw1]
    simp only [orBody, bind_apply, GenV.random, branch]
    by_cases h1 : r < cxpb
    · simp only [h1, if_true]
      match rest with
      | [] | Draw.rnd _ :: _ | Draw.choice _ :: _ => rfl
      | Draw.sample i j :: rest' =>
        by_cases hij : i = j
        · simp only [bind_apply, GenV.sample2, hij, if_true, Option.bind_none]
        · -- both sides look the two positions up first; then they compute the same
          simp only [bind_apply, GenV.sample2, hij, if_false, Option.bind_some, varOrStep]
          cases population[i]? <;> cases population[j]? <;> rfl
    · by_cases h2 : r < cxpb + mutpb
      · simp only [h1, h2, if_true, if_false]
        match rest with
        | [] | Draw.rnd _ :: _ | Draw.sample .. :: _ => rfl
        | Draw.choice i :: rest' =>
          simp only [bind_apply, GenV.choice, Option.bind_some, varOrStep]
          cases population[i]? <;> rfl
      · simp only [h1, h2, if_false]
        match rest with
        | [] | Draw.rnd _ :: _ | Draw.sample .. :: _ => rfl
        | Draw.choice i :: rest' =>
          simp only [bind_apply, GenV.choice, Option.bind_some, varOrStep]
          cases population[i]? <;> rfl

theorem repeatM_orBody (ops : Ops σ) (population : List Nat) (cxpb mutpb : Float) :
    ∀ (n : Nat) (t : σ) (s : St) (draws : List Draw),
      (GenV.repeatM (orBody ops population cxpb mutpb) n ⟨t, s, draws⟩).bind exactK =
        (decodeOr cxpb mutpb n draws).bind fun ch => (varOrLoop ops population t s ch).map resExact
  | 0, t, s, draws => by cases draws <;> rfl
  | n + 1, t, s, draws => by
    rw [repeatM_succ_exact, orBody_apply, decodeOr_succ]
    cases draw1 cxpb mutpb draws with
    | none => rfl
    | some y =>
      simp only [Option.bind_some, decode_cons_model]
      cases varOrStep ops population t s y.1 with
      | none => rfl
      | some z => simp only [Option.map_some, repeatM_orBody ops population cxpb mutpb n]

theorem decodeOr_length (cxpb mutpb : Float) : ∀ (n : Nat) (draws : List Draw) (ch : List Choice),
    decodeOr cxpb mutpb n draws = some ch → ch.length = n :=
  fun n draws ch h => (decodeOr_spec cxpb mutpb n draws ch h).1

/-- The regenerated `varOr`, run on a tape that holds exactly the draws the call consumes, is the model's `varOr` on the
choices `decodeOr` reads off that tape (`none` on both sides: the assertion fails, the tape does not fit, a drawn position is
outside the population). -/
theorem varOrCanon_eq_model (ops : Ops σ) (population : List Nat) (lambda_ : Nat) (cxpb mutpb : Float) (t : σ) (s : St)
    (draws : List Draw) :
    GenV.runExact (varOrCanon ops population lambda_ cxpb mutpb) t s draws =
      if orAssert cxpb mutpb then
        (decodeOr cxpb mutpb lambda_ draws).bind fun ch => (Variation.varOr ops t s population lambda_ ch).map resExact
      else none := by
  have hrun : ∀ (m : M σ (List Nat)), GenV.runExact m t s draws = (m ⟨t, s, draws⟩).bind exactK := by
    intro m; simp only [GenV.runExact]; cases m ⟨t, s, draws⟩ <;> rfl
  rw [hrun]
  by_cases ha : cxpb + mutpb <= 1.0
  · simp only [varOrCanon, ha, if_true, orAssert, decide_true, repeatM_orBody, Variation.varOr]
    cases hd : decodeOr cxpb mutpb lambda_ draws with
    | none => rfl
    | some ch => simp [decodeOr_length cxpb mutpb _ _ _ hd]
  · simp [varOrCanon, ha, orAssert]

end GenVL

/-- `Gen.<f> = <f>Canon`: definitional when the source is as the canon was transcribed; otherwise the monad laws, then
pointwise on the state. -/
macro "genv_eq" : tactic => `(tactic| first
  | with_reducible rfl
  | (simp only [GenVL.bind_pure_id, GenVL.pure_bind, GenVL.bind_assoc, List.nil_append]; with_reducible rfl)
  | (funext g; simp [GenVL.bind_pure_id, GenVL.pure_bind, GenVL.bind_assoc, GenVL.mateBody, GenVL.mutBody, GenVL.orBody,
      GenV.clone, GenV.mate, GenV.mutate, GenV.delFit, GenV.random, GenV.sample2, GenV.choice]))
