import DeapModel.Lemmas.C15HvCReA1
/-!
C15 — the 3-D base case of `_hv.c` (`hv_recursive` with `dim == 2`, l.825-992): one iteration of the sweep along the
third coordinate, with the staircase of the first two coordinates kept in the AVL tree (here: the abstract ordered
sequence `St.tree`).  The answer of `avl_search_closest` is used through `link_spec` only, so the iteration is
specified for every admissible search at once (`sweepBodyWith_eq`), and the choice of the answer is not observable
(`C15.hvC_search_choice`, proved from it in `Props/C15.lean`).
-/
namespace HvC

theorem tpv_mid (S : St) (A X : List ℕ) (a : ℕ) (hT : S.tree = A ++ a :: X) (hnd : S.tree.Nodup) :
    tpv S a = (A.getLast?).getD 0 := by
  unfold tpv
  rw [hT] at hnd ⊢
  have h1 := List.nodup_append.mp hnd
  have h2 := List.nodup_cons.mp h1.2.1
  exact listPrev_mid a X h2.1 A (fun hm => h1.2.2 a hm a (by simp) rfl)

theorem lastY_map_concat (yp : ℚ) (C : Cargo) (A' : List ℕ) (a : ℕ) :
    lastY yp ((A' ++ [a]).map (item C)) = (item C a).2 := by
  rw [List.map_append, List.map_cons, List.map_nil, lastY_append_singleton]

/-- **the loop l.955-968**, on a tree `A ++ D' ++ tnode :: X` whose run `D' ++ [tnode]` is dominated by the new point:
it unlinks all of the run but its first member `d1`, each with `domr := px2`, and subtracts the strips of the run (the
first one measured from the last member of `A`; when `A` is empty it is empty, and l.975 subtracts it after the loop) -/
theorem chainLoop_spec (C : Cargo) (nxt0 px0 px2 : ℚ) (A X : List ℕ) (d1 : ℕ) : ∀ (D' : List ℕ) (fuel tnode : ℕ)
    (cur prv : ℚ × ℚ) (hypera : ℚ) (S : St),
    S.tree = A ++ D' ++ tnode :: X → S.tree.Nodup → 0 ∉ S.tree →
    (∀ e ∈ D', px0 ≤ (item C e).1) → (∀ a ∈ A.getLast?, (item C a).1 < px0) →
    (D' ++ [tnode]).head? = some d1 → cur = item C tnode → D'.length < fuel →
    ∃ prv' S', chainLoop C nxt0 px0 px2 fuel tnode cur prv hypera S
        = some (d1, item C d1, prv',
            hypera - hArea nxt0 (lastY (item C d1).2 (A.map (item C))) ((D' ++ [tnode]).map (item C)), S') ∧
      S' = { S with tree := A ++ d1 :: X, domr := (D' ++ [tnode]).tail.foldr (fun t dm => dm.set t px2) S.domr } ∧
      (∀ a ∈ A.getLast?, prv' = item C a) := by
  intro D'
  induction D' using List.reverseRecOn with
  | nil =>
    intro fuel tnode cur prv hypera S hT hnd h0 hD hA hd1 hcur hf
    obtain ⟨f, rfl, hf'⟩ := HvSweep.exists_fuel_succ hf
    simp only [List.nil_append, List.head?_cons, Option.some.injEq] at hd1
    subst hd1
    simp only [List.append_nil] at hT
    have htpv := tpv_mid S A X tnode hT hnd
    have hS : S = { S with tree := A ++ tnode :: X, domr := ([] ++ [tnode]).tail.foldr (fun t dm => dm.set t px2) S.domr } := by
      rw [← hT]; rfl
    rcases eq_nil_or_snoc A with hAn | ⟨A', a, hAa'⟩
    · subst hAn
      simp only [List.getLast?_nil, Option.getD_none] at htpv
      refine ⟨prv, S, ?_, hS, fun a h => by simp at h⟩
      unfold chainLoop
      rw [if_pos htpv]
      simp [hArea, hcur]
    · subst hAa'
      have htpv' : tpv S tnode = a := by rw [htpv]; simp
      have ha0 : a ≠ 0 := fun e => h0 (by rw [hT, e]; simp)
      refine ⟨item C a, S, ?_, hS, fun a' h => by simp at h; rw [h]⟩
      unfold chainLoop
      rw [if_neg (by rw [htpv']; exact ha0)]
      simp only [htpv']
      rw [if_pos (hA a (by simp))]
      simp only [List.nil_append, List.map_cons, List.map_nil, hArea, lastY_map_concat, hcur]
      simp
  | append_singleton D'' e ih =>
    intro fuel tnode cur prv hypera S hT hnd h0 hD hA hd1 hcur hf
    obtain ⟨f, rfl, hf'⟩ := HvSweep.exists_fuel_succ hf
    have hT' : S.tree = (A ++ D'' ++ [e]) ++ tnode :: X := by rw [hT]; simp
    have htpv : tpv S tnode = e := by
      rw [tpv_mid S (A ++ D'' ++ [e]) X tnode hT' hnd]; simp
    have he0 : e ≠ 0 := fun h => h0 (by rw [hT, h]; simp)
    have hex : px0 ≤ (item C e).1 := hD e List.mem_concat_self
    set S1 := setDr (avlUnlinkNode S tnode) tnode px2 with hS1
    have hT1 : S1.tree = A ++ D'' ++ e :: X := by
      show S.tree.erase tnode = _
      rw [hT', erase_mid tnode _ X (not_mem_of_nodup_mid (hT' ▸ hnd))]; simp
    have hd1' : (D'' ++ [e]).head? = some d1 := by
      rw [← hd1, List.append_assoc]
      cases D'' <;> rfl
    obtain ⟨prv', S', hrun, hS', hprv⟩ := ih f e (item C e) (item C e)
      (hypera - ((item C e).2 - cur.2) * (nxt0 - cur.1)) S1 hT1 (hnd.erase _) (fun hm => h0 (List.mem_of_mem_erase hm))
      (fun x hx => hD x (List.mem_append_left _ hx)) hA hd1' rfl
      (by rw [List.length_append] at hf'; exact hf')
    refine ⟨prv', S', ?_, ?_, hprv⟩
    · unfold chainLoop
      rw [if_neg (by rw [htpv]; exact he0)]
      simp only [htpv]
      rw [if_neg (not_lt.mpr hex), ← hS1, hrun]
      simp only [Option.some.injEq, Prod.mk.injEq, and_true, true_and]
      rw [List.map_append (l₁ := D'' ++ [e]), List.map_cons, List.map_nil, hArea_snoc, lastY_map_concat, hcur]; ring
    · have ht : (D'' ++ [e] ++ [tnode]).tail = (D'' ++ [e]).tail ++ [tnode] := List.tail_append_of_ne_nil (by simp)
      rw [hS', ht, List.foldr_append]
      rfl

theorem ite_height (h v x : ℚ) (hh : 0 ≤ h) : (if 0 < h then v + x * h else v) = v + x * h := by
  rcases lt_or_eq_of_le hh with h1 | h1
  · rw [if_pos h1]
  · rw [← h1]; simp

/-- **l.944-987**: `pp` has been linked into the tree after `A ++ D` and before `B`, `A` lying to the left of `pp` and
the run `D` not: `D` is unlinked, each member with `domr := pp.z`, and the area becomes the strip sum of the new
staircase -/
theorem sweepTail_spec (C : Cargo) (R : List ℚ) (tfuel pp : ℕ) (hyperv hypera height : ℚ) (nxt : ℚ × ℚ) (tnode : ℕ)
    (S : St) (A D B : List ℕ)
    (hT : S.tree = A ++ D ++ pp :: B) (hnd : S.tree.Nodup) (h0 : 0 ∉ S.tree)
    (hA : ∀ a ∈ A, (item C a).1 < (item C pp).1) (hD : ∀ e ∈ D, (item C pp).1 ≤ (item C e).1)
    (harea : hypera = hArea (rf R 0) (rf R 1) ((A ++ D ++ B).map (item C)))
    (htn : tnode = ((A ++ D).getLast?).getD 0)
    (hnxt : nxt.1 = headX (rf R 0) (B.map (item C)))
    (hfuel : (A ++ D).length < tfuel) (hh : 0 ≤ height) :
    ∃ r, sweepTail C R tfuel pp hyperv hypera height nxt tnode S = some r ∧
      r.1 = hyperv + r.2.1 * height ∧
      r.2.1 = hArea (rf R 0) (rf R 1) ((A ++ pp :: B).map (item C)) ∧
      r.2.2 = { S with tree := A ++ pp :: B,
                       domr := D.foldr (fun t dm => dm.set t (cg C pp 2)) (S.domr.set pp (rf R 2)),
                       area := HvSweep.tset S.area pp 2 r.2.1 } := by
  -- the area bookkeeping, independent of the case
  have hmap1 : (A ++ D ++ B).map (item C) = A.map (item C) ++ D.map (item C) ++ B.map (item C) := by simp
  have hmap2 : (A ++ pp :: B).map (item C) = A.map (item C) ++ item C pp :: B.map (item C) := by simp
  have hupd := area_update (rf R 0) (rf R 1) (A.map (item C)) (D.map (item C)) (B.map (item C)) (item C pp)
  rw [← hmap1, ← hmap2, ← harea, ← hnxt] at hupd
  have hitem : (item C pp) = (cg C pp 0, cg C pp 1) := rfl
  unfold sweepTail
  simp only
  set S2 := setDr S pp (rf R 2)
  rcases eq_nil_or_snoc D with rfl | ⟨D', t, rfl⟩
  · -- no predecessor is dominated
    rw [List.append_nil] at hT htn
    have hst' : ∀ x, setAr S2 pp 2 x =
        { S with
          tree := A ++ pp :: B
          domr := ([] : List ℕ).foldr (fun t dm => dm.set t (cg C pp 2)) (S.domr.set pp (rf R 2))
          area := HvSweep.tset S.area pp 2 x } := fun x => by rw [← hT]; rfl
    rcases eq_nil_or_snoc A with rfl | ⟨A', a, rfl⟩
    · have htn0 : tnode = 0 := htn
      rw [if_neg (by rw [htn0]; simp)]
      simp only
      rw [ite_height _ _ _ hh]
      refine ⟨_, rfl, rfl, ?_, hst' _⟩
      rw [hupd]
      simp [hArea, hitem]
    · have htna : tnode = a := by rw [htn]; simp
      have ha0 : a ≠ 0 := fun e => h0 (by rw [hT, e]; simp)
      have hnot : ¬ (item C tnode).1 ≥ cg C pp 0 := by
        rw [htna]; exact not_le.mpr (hA a List.mem_concat_self)
      rw [if_pos (by rw [htna]; exact ha0), if_neg hnot]
      simp only
      rw [ite_height _ _ _ hh]
      refine ⟨_, rfl, rfl, ?_, hst' _⟩
      rw [hupd, lastY_map_concat, htna]
      simp [hArea, hitem]
  · -- the run `D' ++ [t] = d1 :: rest` is dominated by `pp`
    have htnt : tnode = t := by rw [htn]; simp
    have ht0 : t ≠ 0 := fun e => h0 (by rw [hT, e]; simp)
    have hge : (item C tnode).1 ≥ cg C pp 0 := by rw [htnt]; exact hD t List.mem_concat_self
    rw [if_pos (by rw [htnt]; exact ht0), if_pos hge]
    have hT2 : S2.tree = A ++ D' ++ t :: (pp :: B) := by rw [show S2.tree = S.tree from rfl, hT]; simp
    have hnd2 : S2.tree.Nodup := hnd
    have htpv : tpv S2 pp = t := by
      rw [tpv_mid S2 (A ++ D' ++ [t]) B pp (by rw [hT2, List.append_assoc (A ++ D')]; rfl) hnd2]; simp
    rw [htpv]
    obtain ⟨d1, rest, hrest⟩ : ∃ d1 rest, D' ++ [t] = d1 :: rest := by
      cases hD' : D' ++ [t] with
      | nil => simp at hD'
      | cons x rest => exact ⟨x, rest, rfl⟩
    obtain ⟨prv', S3, hrun, hS3, hprv⟩ := chainLoop_spec C nxt.1 (cg C pp 0) (cg C pp 2) A (pp :: B) d1 D'
      tfuel t (item C t) (item C tnode) hypera S2 hT2 hnd2 h0
      (fun e he => hD e (by simp [he])) (fun a ha => hA a (List.mem_of_mem_getLast? ha)) (by rw [hrest]; rfl)
      rfl (lt_of_le_of_lt ((List.sublist_append_left D' [t]).trans (List.sublist_append_right A _)).length_le hfuel)
    rw [hrun]
    simp only
    have hnd2' : (A ++ d1 :: (rest ++ pp :: B)).Nodup := by
      have e : S2.tree = A ++ d1 :: (rest ++ pp :: B) := by
        rw [hT2, List.append_assoc, show D' ++ t :: (pp :: B) = (D' ++ [t]) ++ pp :: B by simp, hrest]; rfl
      exact e ▸ hnd2
    have hd1A : d1 ∉ A := not_mem_of_nodup_mid hnd2'
    have htp3 : tpv S3 d1 = (A.getLast?).getD 0 := by
      rw [hS3]
      exact listPrev_mid d1 _ (fun hm => (List.nodup_cons.mp (List.nodup_append.mp hnd2').2.1).1
        (List.mem_append_right _ hm)) A hd1A
    rw [htp3]
    have hst' : ∀ x, setAr (setDr (avlUnlinkNode S3 d1) d1 (cg C pp 2)) pp 2 x =
        { S with
          tree := A ++ pp :: B
          domr := (D' ++ [t]).foldr (fun t dm => dm.set t (cg C pp 2)) (S.domr.set pp (rf R 2))
          area := HvSweep.tset S.area pp 2 x } := fun x => by
      rw [hS3, hrest]
      simp only [setAr, setDr, avlUnlinkNode]
      rw [erase_mid d1 A (pp :: B) hd1A]
      rfl
    rcases eq_nil_or_snoc A with rfl | ⟨A', a, rfl⟩
    · -- the run reaches the head of the tree: the strip of d1 up to the reference is taken after the loop (l.975)
      simp only [List.getLast?_nil, Option.getD_none, if_true]
      rw [ite_height _ _ _ hh]
      refine ⟨_, rfl, rfl, ?_, hst' _⟩
      rw [hupd, hrest]
      simp only [List.map_nil, lastY_nil, List.map_cons, hArea, hitem]
      ring
    · have ha0 : a ≠ 0 := fun e => h0 (by rw [hT, e]; simp)
      simp only [List.getLast?_concat, Option.getD_some, if_neg ha0]
      rw [ite_height _ _ _ hh]
      refine ⟨_, rfl, rfl, ?_, hst' _⟩
      rw [hupd, hprv a (by simp), lastY_map_concat, lastY_map_concat]
      simp [hitem]

theorem nodup_insert_mid {A D B : List ℕ} {pp : ℕ} (hnd : (A ++ D ++ B).Nodup) (hpp : pp ∉ A ++ D ++ B) :
    (A ++ pp :: B).Nodup := by
  have hAB : (A ++ B).Nodup := by
    have : (A ++ B).Sublist (A ++ D ++ B) := by
      rw [List.append_assoc]
      exact (List.Sublist.refl A).append (List.sublist_append_right D B)
    exact this.nodup hnd
  have h1 := List.nodup_append.mp hAB
  refine List.nodup_append.mpr ⟨h1.1, List.nodup_cons.mpr ⟨fun hm => hpp (by simp [hm]), h1.2.1⟩, ?_⟩
  intro a ha b hb
  rcases List.mem_cons.mp hb with rfl | hb
  · intro e; exact hpp (by rw [← e]; simp [ha])
  · exact h1.2.2 a ha b hb

/-- what l.944-987 do to the other tables, read off the final state -/
theorem sweepTail_tables (C : Cargo) (R : List ℚ) (S : St) (pp : ℕ) (A D B : List ℕ) (x : ℚ)
    (hT : S.tree = A ++ D ++ pp :: B) (hnd : S.tree.Nodup) (S' : St)
    (hS' : S' = { S with tree := A ++ pp :: B,
                         domr := D.foldr (fun t dm => dm.set t (cg C pp 2)) (S.domr.set pp (rf R 2)),
                         area := HvSweep.tset S.area pp 2 x }) :
    S'.vol = S.vol ∧ S'.area = HvSweep.tset S.area pp 2 x ∧ S'.ignore = S.ignore ∧ S'.domr.length = S.domr.length ∧
    PtrFrame S S' ∧ (pp < S.domr.length → dr S' pp = rf R 2) ∧
    (∀ y, y ≠ pp → (y ∉ S.tree ∨ y ∈ S'.tree) → dr S' y = dr S y) ∧
    (∀ y ∈ S.tree, y ∉ S'.tree → y < S.domr.length → dr S' y = cg C pp 2) := by
  subst hS'
  rw [hT, List.append_assoc] at hnd
  have h1 := List.nodup_append.mp hnd
  have h2 := List.nodup_append.mp h1.2.1
  have hppD : pp ∉ D := fun hm => h2.2.2 pp hm pp (by simp) rfl
  have hDout : ∀ y ∈ D, y ∉ A ++ pp :: B := fun y hy hm =>
    (List.mem_append.mp hm).elim (fun h => h1.2.2 y h y (List.mem_append_left _ hy) rfl) (fun h => h2.2.2 y hy y h rfl)
  refine ⟨rfl, rfl, rfl, (length_foldr_set _ _ _).trans List.length_set, ⟨rfl, rfl, rfl, rfl⟩, fun hlt => ?_,
    fun y hy hm => ?_, fun y hyS hyn hlt => ?_⟩
  · exact (getD_foldr_set_of_not_mem _ _ _ hppD).trans (List.getD_set_self _ _ _ _ hlt)
  · have hyD : y ∉ D := fun hD => hm.elim (fun h => h (by rw [hT]; simp [hD])) (hDout y hD)
    exact (getD_foldr_set_of_not_mem _ _ _ hyD).trans (List.getD_set_ne _ _ _ hy)
  · have hyD : y ∈ D := by
      rw [hT] at hyS
      rcases List.mem_append.mp hyS with h | h
      · exact (List.mem_append.mp h).elim (fun h => absurd (List.mem_append_left _ h) hyn) id
      · exact absurd (List.mem_append_right _ h) hyn
    exact getD_foldr_set_of_mem _ _ _ hyD (by rw [List.length_set]; exact hlt)

/-- **the body of the main loop l.899-989 as an expression in which the search does not occur**: for every
admissible search, on a tree split at the position of `pp` -/
theorem sweepBodyWith_eq (C : Cargo) (R : List ℚ) {search : St → ℚ × ℚ → ℕ × ℤ} (hadm : Admissible C search)
    (tfuel pp : ℕ) (hyperv hypera : ℚ) (S : St) (As B : List ℕ)
    (hT : S.tree = As ++ B) (hne : S.tree ≠ []) (hnd : S.tree.Nodup) (h0 : 0 ∉ S.tree) (hpp : pp ∉ S.tree)
    (hAs : ∀ e ∈ As, cmpTreeAscNeg (item C pp) (item C e) = false)
    (hB : ∀ e ∈ B, cmpTreeAscNeg (item C pp) (item C e) = true) :
    sweepBodyWith search C R tfuel pp hyperv hypera S =
      if (2 : ℤ) ≤ ign S pp then some (hyperv + hypera * hgt C R S pp, hypera, setAr (setVl S pp 2 hyperv) pp 2 hypera)
      else if ((B.head?.map (item C)).getD (rf R 0, rf R 1)).1 ≤ cg C pp 0 then
        some (if 0 < hgt C R S pp then hyperv + hypera * hgt C R S pp else hyperv, hypera,
          { S with vol := HvSweep.tset S.vol pp 2 hyperv, ignore := S.ignore.set pp 2,
                   domr := S.domr.set pp (cg C pp 2), area := HvSweep.tset S.area pp 2 hypera })
      else sweepTail C R tfuel pp hyperv hypera (hgt C R S pp) ((B.head?.map (item C)).getD (rf R 0, rf R 1))
        (As.getLast?.getD 0) { setVl S pp 2 hyperv with tree := As ++ pp :: B } := by
  unfold sweepBodyWith
  simp only
  have hans := hadm (setVl S pp 2 hyperv) (item C pp) As B hT hne hAs hB
  generalize search (setVl S pp 2 hyperv) (item C pp) = ans at hans ⊢
  obtain ⟨tnode, cmp⟩ := ans
  obtain ⟨e1, e2, e3⟩ := link_spec C (rf R 0, rf R 1) (setVl S pp 2 hyperv) pp tnode cmp As B hT hnd hpp hans
  simp only [e1 h0, e2, e3]
  rfl

theorem sweepBody_re : SweepBodyRe_Statement := by
  intro C R tfuel pp hyperv hypera S hne hnd h0 hppT hpp0 hst hpplt hign harea hfuel hh
  obtain ⟨A, D, B, hpos⟩ := stair_pos C (item C pp) S.tree hst
  have hTs := hpos.split
  rw [sweepBody, sweepBodyWith_eq C R (admissible_searchClosest C) tfuel pp hyperv hypera S (A ++ D) B hTs hne hnd h0 hppT
    hpos.cmp_false hpos.right, if_neg hign]
  have hnxt : ((B.head?.map (item C)).getD (rf R 0, rf R 1)).1 = headX (rf R 0) (B.map (item C)) := by cases B <;> rfl
  by_cases hdom : ((B.head?.map (item C)).getD (rf R 0, rf R 1)).1 ≤ cg C pp 0
  · -- l.927-935: the tree successor weakly dominates `pp`
    rw [if_pos hdom, ite_height _ _ _ hh]
    obtain ⟨b, hbB, hbx, hby⟩ := hpos.succ_dom (ref := (rf R 0, rf R 1)) hpplt hdom
    have hw : ∃ b ∈ S.tree, (item C b).1 ≤ (item C pp).1 ∧ (item C b).2 ≤ (item C pp).2 :=
      ⟨b, by rw [hTs]; exact List.mem_append_right _ hbB, hbx, hby⟩
    -- the state as a variable with its field equations, so that the conjuncts below do not carry the record
    generalize hS' :
      ({ S with
          vol := HvSweep.tset S.vol pp 2 hyperv
          ignore := S.ignore.set pp 2
          domr := S.domr.set pp (cg C pp 2)
          area := HvSweep.tset S.area pp 2 hypera } : St) = S'
    obtain ⟨eT, eF, eV, eA, eI, eD⟩ : S'.tree = S.tree ∧ PtrFrame S S' ∧ S'.vol = HvSweep.tset S.vol pp 2 hyperv ∧
        S'.area = HvSweep.tset S.area pp 2 hypera ∧ S'.ignore = S.ignore.set pp 2 ∧
        S'.domr = S.domr.set pp (cg C pp 2) := by
      subst hS'
      exact ⟨rfl, ⟨rfl, rfl, rfl, rfl⟩, rfl, rfl, rfl, rfl⟩
    refine ⟨(_, _, S'), rfl, rfl, ?_, eF, ?_, ?_, ?_, ?_, ?_, eV, eA, Or.inl ⟨hw, eT, eI, eD⟩⟩
    · rw [eT]; exact harea
    · rw [eT]; exact hne
    · rw [eT]; exact hnd
    · rw [eT]; exact fun t ht => Or.inr ht
    · rw [eT]; exact hst
    · rw [eT]
      rintro q (rfl | hq)
      · exact hw
      · exact ⟨q, hq, le_refl _, le_refl _⟩
  rw [if_neg hdom]
  have hBfacts := hpos.right_strict hst (ref := (rf R 0, rf R 1)) hdom
  set S1 : St := { setVl S pp 2 hyperv with tree := A ++ D ++ pp :: B }
  have hnd1 : S1.tree.Nodup :=
    nodup_insert_mid (A := A ++ D) (D := []) (B := B) (by simpa [← hTs] using hnd) (by simpa [← hTs] using hppT)
  have hmem1 : ∀ t, t ∈ S1.tree ↔ t = pp ∨ t ∈ S.tree := fun t => by rw [hTs]; exact mem_insert_mid
  obtain ⟨r, hrun, hr1, hr2, hrS⟩ := sweepTail_spec C R tfuel pp hyperv hypera (hgt C R S pp) _ ((A ++ D).getLast?.getD 0)
    S1 A D B rfl hnd1 (fun h => ((hmem1 0).mp h).elim (fun e => hpp0 e.symm) h0) (fun a ha => (hpos.left a ha).1)
    (fun e he => (hpos.dom e he).1) (by rw [← hTs]; exact harea) rfl hnxt
    (lt_of_le_of_lt (by rw [hTs]; exact (List.sublist_append_left (A ++ D) B).length_le) hfuel) hh
  have hrT : r.2.2.tree = A ++ pp :: B := by rw [hrS]
  obtain ⟨fvol, farea, fign, flen, hrF, fpp, fother, fgone⟩ := sweepTail_tables C R S1 pp A D B r.2.1 rfl hnd1 r.2.2 hrS
  have hinD : ∀ a ∈ S.tree, a ∉ r.2.2.tree → a ∈ D := by
    intro a haS har
    rw [hTs] at haS
    rw [hrT] at har
    rcases List.mem_append.mp haS with h | h
    · exact (List.mem_append.mp h).elim (fun h => absurd (List.mem_append_left _ h) har) id
    · exact absurd (List.mem_append_right _ (List.mem_cons_of_mem _ h)) har
  refine ⟨r, hrun, hr1, by rw [hrT]; exact hr2, hrF, by rw [hrT]; simp, ?_, ?_, ?_, ?_, fvol, farea,
    Or.inr ⟨fign, by rw [hrT]; simp, flen, ?_, fpp, ?_, ?_⟩⟩
  · rw [hrT]; exact nodup_insert_mid (by rw [← hTs]; exact hnd) (by rw [← hTs]; exact hppT)
  · intro t ht
    rw [hrT, mem_insert_mid] at ht
    refine ht.imp_right fun h => ?_
    rw [hTs]
    exact (List.mem_append.mp h).elim (fun h => by simp [h]) (fun h => by simp [h])
  · rw [hrT]
    refine stair_insert C (List.Pairwise.sublist ?_ hst) hpos.left hBfacts
    rw [hTs, List.append_assoc]
    exact ((List.Sublist.refl A).append (List.sublist_append_right D B)).map _
  · rintro q (rfl | hq)
    · exact ⟨q, by rw [hrT]; simp, le_refl _, le_refl _⟩
    · by_cases hqr : q ∈ r.2.2.tree
      · exact ⟨q, hqr, le_refl _, le_refl _⟩
      · have := hpos.dom q (hinD q hq hqr)
        exact ⟨pp, by rw [hrT]; simp, this.1, this.2.1⟩
  · intro t ht hd
    rw [hTs] at ht
    rcases List.mem_append.mp ht with h | h
    · rcases List.mem_append.mp h with h | h
      · exact absurd hd.2 (not_le.mpr (hpos.left t h).2)
      · obtain ⟨e1, e2, e3⟩ := hpos.dom t h
        exact e3 (Prod.ext (le_antisymm e1 hd.1) (le_antisymm e2 hd.2))
    · exact absurd hd.1 (not_le.mpr (hBfacts t h).1)
  · intro y hy hm
    exact fother y hy (hm.imp_left fun hm h => ((hmem1 y).mp h).elim hy hm)
  · intro a haS har
    obtain ⟨e1, e2, e3⟩ := hpos.dom a (hinD a haS har)
    exact ⟨fgone a ((hmem1 a).mpr (Or.inr haS)) har, e1, e2, e3⟩

end HvC
