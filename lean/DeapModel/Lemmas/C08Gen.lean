/-
Helper lemmas of the C08 translator tie (GenEq/C08.lean.tmpl): the Python notions of Core/GenPreludeC08.lean against the
list primitives the hand-written model Core/Archive.lean uses, the generic bridge `forLoop` (rendering of a Python `for`)
= option fold, and the rendered scan of `ParetoFront.update`.  The model facts the tie needs (`Len` and its preservation:
outside `len(keys) = len(items)` Python's negative-index / IndexError behaviour and the model's truncated subtraction
differ, and no history reaches such a state) are in `C08Model.lean`.
-/
import DeapModel.Core.GenPreludeC08
import DeapModel.Lemmas.C08Model

set_option linter.unusedSectionVars false

namespace Gen08L
open Archive G8

variable {G α : Type} [LT α] [LE α] [DecidableEq α] [DecidableLT α] [DecidableLE α]
variable {β σ : Type}

/-- A rendered `for` whose body never breaks and is, under an invariant, the model's step. -/
theorem forLoop_fold (P : σ → Prop) (body : σ → β → Option (Ctl σ)) (f : σ → β → Option σ)
    (hP : ∀ s x s', P s → f s x = some s' → P s')
    (hb : ∀ s x, P s → body s x = (f s x).map Ctl.next) :
    ∀ (l : List β) (s : σ), P s → forLoop body l s = (foldOpt f s l).map (fun s' => (s', false)) := by
  intro l
  induction l with
  | nil => intro s _; rfl
  | cons x xs ih =>
    intro s hs
    simp only [forLoop, foldOpt, hb s x hs]
    cases hf : f s x with
    | none => simp
    | some s' => simp [ih s' (hP s x s' hs hf)]

/-- `for x in l: if p(x): break` `else:` — the flag is `any`. -/
theorem forLoop_any (p : β → Bool) (body : Unit → β → Option (Ctl Unit))
    (hb : ∀ s x, body s x = if p x then some (Ctl.brk ()) else some (Ctl.next ())) :
    ∀ l : List β, forLoop body l () = some ((), l.any p) := by
  intro l
  induction l with
  | nil => rfl
  | cons x xs ih =>
    simp only [forLoop, hb, List.any_cons]
    cases p x <;> simp [ih]

theorem normIdx_eq (len : Nat) (i : Int) : normIdx len i = pyIndex len i := by
  simp [normIdx, pyIndex]

theorem delItem_eq (l : List β) (i : Int) : delItem l i = (pyIndex l.length i).map (Py.removeAt l) := by
  unfold delItem
  rw [normIdx_eq]
  cases pyIndex l.length i <;> simp [Py.removeAt]

theorem delItem_nat (l : List β) (k : Nat) (hk : k < l.length) : delItem l (Int.ofNat k) = some (Py.removeAt l k) := by
  simp [delItem_eq, pyIndex_nat hk]

theorem getItem_neg_one (l : List β) : getItem l (-1 : Int) = l.getLast? := by
  unfold getItem normIdx
  cases l with
  | nil => simp
  | cons x xs =>
    have h1 : ¬ (0 : Int) ≤ -1 := by omega
    have h2 : -(Int.ofNat (x :: xs).length) ≤ (-1 : Int) := by simp; omega
    have h3 : ((-1 : Int) + Int.ofNat (x :: xs).length).toNat = xs.length := by simp; omega
    simp only [h1, h2, h3, if_true, if_false]
    rw [List.getLast?_eq_getElem?]
    simp

theorem getItem_zero_cons (x : β) (xs : List β) : getItem (x :: xs) (0 : Int) = some x := by
  simp [getItem, normIdx]

theorem getItem_zero_nil : getItem ([] : List β) (0 : Int) = none := by
  simp [getItem, normIdx]

theorem listInsert_nat (l : List β) (k : Nat) (x : β) (hk : k ≤ l.length) :
    listInsert l (Int.ofNat k) x = Py.insertAt l k x := by
  have h1 : ¬ ((k : Int) < 0) := by omega
  have h2 : ¬ ((k : Int) > (l.length : Int)) := by omega
  simp [listInsert, clampIdx, h1, h2, Py.insertAt]

theorem pyMod_pos (a : Int) (n : Nat) (hn : n ≠ 0) : pyMod a (Int.ofNat n) = some (a % (n : Int)) := by
  simp [pyMod, hn, Int.fmod_eq_emod_of_nonneg a (Int.natCast_nonneg n)]

theorem pyMod_zero (a : Int) : pyMod a (Int.ofNat 0) = none := by
  simp [pyMod]

theorem ofNat_sub' (a b : Nat) (h : b ≤ a) : Int.ofNat a - Int.ofNat b = Int.ofNat (a - b) := by
  simp only [Int.ofNat_eq_natCast]; omega

/-- the state of the rendered inner loop: the variables in the renderer's order -/
abbrev ScanSt := Bool × List Nat × Bool × Bool

def tup (s : Scan) : ScanSt := (s.isDominated, s.toRemove, s.dominatesOne, s.hasTwin)

/-- one iteration of the rendered scan, written by hand -/
def scanBody (sim : Ind G α → Ind G α → Bool) (ind : Ind G α) (st : ScanSt) (p : Nat × Ind G α) :
    Option (Ctl ScanSt) :=
  if (!st.2.2.1) && dom p.2.fit ind.fit then some (Ctl.brk (true, st.2.1, st.2.2.1, st.2.2.2))
  else if dom ind.fit p.2.fit then some (Ctl.next (st.1, st.2.1 ++ [p.1], true, st.2.2.2))
  else if Fitness.eq ind.fit p.2.fit && sim ind p.2 then some (Ctl.brk (st.1, st.2.1, st.2.2.1, true))
  else some (Ctl.next st)

/-- Whether the scan was left by `break`.  The recursion has the shape of `Archive.scan`, so it threads a `Scan`; it
reads only `dominatesOne` (`scanBrk_toRemove`), the position appended to `toRemove` is a dummy. -/
def scanBrk (sim : Ind G α → Ind G α → Bool) (ind : Ind G α) : List (Ind G α) → Scan → Bool
  | [], _ => false
  | hofer :: rest, s =>
    if !s.dominatesOne && dom hofer.fit ind.fit then true
    else if dom ind.fit hofer.fit then
      scanBrk sim ind rest { s with dominatesOne := true, toRemove := s.toRemove ++ [0] }
    else if Fitness.eq ind.fit hofer.fit && sim ind hofer then true
    else scanBrk sim ind rest s

theorem scanBrk_toRemove (sim : Ind G α → Ind G α → Bool) (ind : Ind G α) :
    ∀ (l : List (Ind G α)) (s s' : Scan), s.dominatesOne = s'.dominatesOne → scanBrk sim ind l s = scanBrk sim ind l s' := by
  intro l
  induction l with
  | nil => intro s s' _; rfl
  | cons x xs ih =>
    intro s s' h
    simp only [scanBrk, h]
    rw [ih { s with dominatesOne := true, toRemove := s.toRemove ++ [0] }
      { s' with dominatesOne := true, toRemove := s'.toRemove ++ [0] } rfl, ih s s' h]

theorem forLoop_scan (sim : Ind G α → Ind G α → Bool) (ind : Ind G α)
    (body : ScanSt → Nat × Ind G α → Option (Ctl ScanSt)) (hb : ∀ st p, body st p = scanBody sim ind st p) :
    ∀ (l : List (Ind G α)) (i : Nat) (s : Scan),
      forLoop body (enumFrom i l) (tup s) = some (tup (scan sim ind l i s), scanBrk sim ind l s) := by
  intro l
  induction l with
  | nil => intro i s; rfl
  | cons x xs ih =>
    intro i s
    simp only [enumFrom, forLoop, hb, scanBody, scan, scanBrk, tup]
    by_cases h1 : ((!s.dominatesOne) && dom x.fit ind.fit) = true
    · simp only [h1, ↓reduceIte]
    · simp only [h1, ↓reduceIte, Bool.false_eq_true]
      by_cases h2 : dom ind.fit x.fit = true
      · simp only [h2, ↓reduceIte]
        rw [scanBrk_toRemove sim ind xs { s with dominatesOne := true, toRemove := s.toRemove ++ [0] }
          { s with dominatesOne := true, toRemove := s.toRemove ++ [i] } rfl]
        exact ih (i + 1) { s with dominatesOne := true, toRemove := s.toRemove ++ [i] }
      · simp only [h2, ↓reduceIte, Bool.false_eq_true]
        by_cases h3 : (Fitness.eq ind.fit x.fit && sim ind x) = true
        · simp only [h3, ↓reduceIte]
        · simp only [h3, ↓reduceIte, Bool.false_eq_true]
          exact ih (i + 1) s

theorem forLoop_scan0 (sim : Ind G α → Ind G α → Bool) (ind : Ind G α)
    (body : ScanSt → Nat × Ind G α → Option (Ctl ScanSt)) (hb : ∀ st p, body st p = scanBody sim ind st p)
    (l : List (Ind G α)) :
    forLoop body (enumFrom 0 l) (false, [], false, false)
      = some (tup (scan sim ind l 0 {}), scanBrk sim ind l {}) :=
  forLoop_scan sim ind body hb l 0 {}

end Gen08L
