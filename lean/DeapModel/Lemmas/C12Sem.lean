/-
Helper lemmas for C12: the environment `compile` evaluates in and the equation of `compile`; `GpCompile.evalTree` is the
value-generic `GpTree.evalG` at the carrier `PyLang.Val`.
-/
import DeapModel.Core.GpCompile
import DeapModel.Core.GpSemantic

namespace GpCompile
open GpTree

/-- the `evalTree` environment `compile` uses: the parameters shadow variables and callables of the context -/
def bodyTreeEnv (env : Env) (args : List Str) (vals : List Val) : Env :=
  { env with vars := bindArgs args vals env.vars, funs := shadowFuns args vals env.funs }

theorem compile_eq (env : Env) (arguments : List Str) (t : Tree) (vals : List Val) :
    compile env arguments t vals =
      if vals.length ≠ arguments.length then none else evalTree (bodyTreeEnv env arguments vals) t := rfl

def toEnvG (env : Env) : EnvG Val := ⟨env.funs, env.vars, env.lit⟩

mutual
theorem evalTree_eq_evalG (env : Env) : ∀ t : Tree, evalTree env t = evalG (toEnvG env) t
  | .node p as => by
    rw [evalTree, evalG, evalF_eq_evalGF env as]
    by_cases hk : p.kind = .prim
    · simp only [hk, if_true, toEnvG]
      cases env.funs p.name.toList <;> cases evalGF ⟨env.funs, env.vars, env.lit⟩ as <;> rfl
    · simp only [hk, if_false, toEnvG]
      cases env.vars p.text.toList <;> rfl
theorem evalF_eq_evalGF (env : Env) : ∀ ts : List Tree, evalF env ts = evalGF (toEnvG env) ts
  | [] => by rw [evalF, evalGF]
  | t :: ts => by
    rw [evalF, evalGF, evalTree_eq_evalG env t, evalF_eq_evalGF env ts]
    cases evalG (toEnvG env) t <;> cases evalGF (toEnvG env) ts <;> rfl
end

end GpCompile
