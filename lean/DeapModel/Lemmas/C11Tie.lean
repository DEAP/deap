/-
Helper lemmas of the C11 translator tie (GenEq/C11.lean.tmpl): the Python notions of Core/GenPreludeC11.lean against the
hand-written list-level models of Core/GpTree.lean / GpCompile.lean.
-/
import DeapModel.Core.GenPreludeC11
import DeapModel.Core.GpCompile
import DeapModel.Core.GpGraph
import DeapModel.Lemmas.C11Hist
import DeapModel.Lemmas.Dict

namespace Gen11
open GpTree

theorem index_nat {α : Type} (l : List α) (n : Nat) : index l (n : Int) = l[n]? := by
  simp [index]

theorem pop_nil {α : Type} : pop ([] : List α) = none := rfl

theorem pop_snoc {α : Type} (l : List α) (a : α) : pop (l ++ [a]) = some (a, l) := by
  simp [pop]

theorem index_last {α : Type} (S : List α) (x : α) : index (S ++ [x]) (-1) = some x := by
  have h1 : ¬ (0 : Int) ≤ -1 := by omega
  have h2 : (0 : Int) ≤ -1 + ((S ++ [x]).length : Int) := by simp; omega
  have h3 : (-1 + ((S ++ [x]).length : Int)).toNat = S.length := by simp; omega
  simp only [index, h1, h2, h3, if_true, if_false]
  simp

theorem pop_snoc2 {α : Type} (S : List α) (y x : α) : pop (S ++ [y, x]) = some (x, S ++ [y]) := by
  have : S ++ [y, x] = (S ++ [y]) ++ [x] := by simp
  rw [this, pop_snoc]

theorem pop_singleton {α : Type} (x : α) : pop [x] = some (x, []) := rfl

theorem modLast_snoc {α : Type} (S : List α) (x : α) (f : α → α) : modLast (S ++ [x]) f = some (S ++ [f x]) := by
  simp [modLast]

theorem rep_single {α : Type} (x : α) (n : Nat) : rep [x] (n : Int) = List.replicate n x := by
  simp [rep]

theorem arity_eq (p : Node) : arity p = (p.arity : Int) := rfl

theorem forM_pure {α σ : Type} (f : α → σ → Option σ) (g : σ → α → σ) (h : ∀ a s, f a s = some (g s a)) :
    ∀ (l : List α) (s : σ), forM l s f = some (l.foldl g s)
  | [], s => rfl
  | a :: as, s => by simp [forM, h, forM_pure f g h as]

/-- the loop of `height`: Python's stack (top = last element) is the model's stack reversed -/
theorem height_forM (f : Node → List Int × Int → Option (List Int × Int))
    (h0 : ∀ e m, f e ([], m) = none)
    (h1 : ∀ e (st : List Int) d m, f e (st ++ [d], m) = some (st ++ rep [d + 1] (arity e), max m d)) :
    ∀ (l : List Prim) (st : List Nat) (m : Nat),
      (forM l ((st.map Int.ofNat).reverse, (m : Int)) f).map Prod.snd = (heightGo l st m).map Int.ofNat
  | [], st, m => by simp [forM, heightGo]
  | p :: rest, [], m => by simp [forM, heightGo, h0]
  | p :: rest, d :: st, m => by
    have e1 : ((d :: st).map Int.ofNat).reverse = (st.map Int.ofNat).reverse ++ [(d : Int)] := by simp
    rw [e1]
    simp only [forM, h1, heightGo]
    have e2 : (st.map Int.ofNat).reverse ++ rep [(d : Int) + 1] (arity p)
        = ((List.replicate p.arity (d + 1) ++ st).map Int.ofNat).reverse := by
      rw [arity_eq, show ((d : Int) + 1) = ((d + 1 : Nat) : Int) from rfl, rep_single]
      simp
    have e3 : max (m : Int) (d : Int) = ((max m d : Nat) : Int) := by omega
    rw [e2, e3]
    exact height_forM f h0 h1 rest _ _

theorem setSlice_nat {α : Type} (l : List α) (b e : Nat) (val : List α) (hbe : b ≤ e) (hb : b < l.length) :
    setSlice l ((b : Int), (e : Int)) val = l.take b ++ val ++ l.drop e := by
  have c1 : ∀ k : Nat, clip l.length (k : Int) = min k l.length := by
    intro k; simp [clip]; omega
  simp only [setSlice, c1]
  rw [Nat.min_eq_left (Nat.le_of_lt hb)]
  by_cases h : e ≤ l.length
  · rw [Nat.min_eq_left h, Nat.max_eq_right hbe]
  · rw [Nat.min_eq_right (by omega), Nat.max_eq_right (Nat.le_of_lt hb)]
    rw [List.drop_eq_nil_of_le (Nat.le_refl _), List.drop_eq_nil_of_le (by omega)]

theorem searchSubtreePy_nat (l : List Prim) (i : Int) (b : Nat) (h : pyIndex l.length i = (b : Int)) :
    searchSubtreePy l i = (searchSubtree l b).map (fun be => ((be.1 : Int), (be.2 : Int))) :=
  GpTree.searchSubtreePy_nat l i b h

open GpCompile

/-- a terminal / ephemeral node has arity 0 (gp.py:242-244) -/
def NodeOK (p : Node) : Prop := p.kind ≠ .prim → p.args = []

theorem join_eq : ∀ (l : List Str), join l = joinArgs l
  | [] => rfl
  | [a] => rfl
  | a :: b :: rest => by simp [join, joinArgs, join_eq (b :: rest)]

theorem format_eq (p : Node) (a : List Str) (hp : NodeOK p) (h : a.length = p.arity) :
    format p a = some (fmt p a) := by
  unfold format fmt
  by_cases hk : p.kind = .prim
  · simp [hk, Prim.arity] at *
    simp [← h, join_eq]
  · have := hp hk
    simp [hk, Prim.arity, this] at *
    exact h

/-- the inner `while` of `__str__`: Python's stack (top = last) is the model's frame list reversed -/
theorem unwind_whileM (c : List (Node × List Str) × Str → Option Bool)
    (body : List (Node × List Str) × Str → Option (Bool × (List (Node × List Str) × Str)))
    (hc : ∀ S p a s, c (S ++ [(p, a)], s) = some (decide (len a = arity p)))
    (hb0 : ∀ p a s, body ([(p, a)], s) = (format p a).map (fun str => (false, ([], str))))
    (hb1 : ∀ S q qa p a s, body (S ++ [(q, qa)] ++ [(p, a)], s)
        = (format p a).map (fun str => (true, (S ++ [(q, qa ++ [str])], str)))) :
    ∀ (st : List (Prim × List Str)) (fuel : Nat) (p : Prim) (a : List Str) (s : Str),
      st.length + 1 ≤ fuel → NodeOK p → (∀ x ∈ st, NodeOK x.1) →
      whileM fuel (st.reverse ++ [(p, a)], s) c body
        = some ((unwind p a st s).2.reverse, (unwind p a st s).1)
  | _, 0, _, _, _, h, _, _ => by omega
  | [], fuel + 1, p, a, s, _, hp, _ => by
    simp only [whileM, hc, unwind]
    by_cases h : a.length = p.arity
    · have : len a = arity p := by simp [len, arity_eq, h]
      simp [this, h, hb0, format_eq p a hp h]
    · have : ¬ len a = arity p := by simp [len, arity_eq]; omega
      simp [this, h]
  | (q, qa) :: st, fuel + 1, p, a, s, hf, hp, hst => by
    have h0 : ((q, qa) :: st).reverse ++ [(p, a)] = st.reverse ++ [(q, qa)] ++ [(p, a)] := by simp
    rw [h0]
    simp only [whileM, hc, unwind]
    by_cases h : a.length = p.arity
    · have : len a = arity p := by simp [len, arity_eq, h]
      simp only [this, h, hb1, format_eq p a hp h, decide_true, if_true, Option.map_some]
      exact unwind_whileM c body hc hb0 hb1 st fuel q _ _ (by simp at hf; omega)
        (hst (q, qa) (by simp)) (fun x hx => hst x (by simp [hx]))
    · have : ¬ len a = arity p := by simp [len, arity_eq]; omega
      simp [this, h]

theorem unwind_frames : ∀ (st : List (Prim × List Str)) (p : Prim) (a : List Str) (s : Str),
    NodeOK p → (∀ x ∈ st, NodeOK x.1) → ∀ x ∈ (unwind p a st s).2, NodeOK x.1
  | [], p, a, s, hp, _ => by
    unfold unwind; split <;> simp; exact hp
  | (q, qa) :: st, p, a, s, hp, hst => by
    unfold unwind; split
    · exact unwind_frames st q _ _ (hst (q, qa) (by simp)) (fun x hx => hst x (by simp [hx]))
    · intro x hx
      rcases List.mem_cons.1 hx with rfl | hx
      · exact hp
      · exact hst x hx

theorem unwind_length : ∀ (st : List (Prim × List Str)) (p : Prim) (a : List Str) (s : Str),
    (unwind p a st s).2.length ≤ st.length + 1
  | [], p, a, s => by unfold unwind; split <;> simp
  | (q, qa) :: st, p, a, s => by
    unfold unwind; split
    · have := unwind_length st q (qa ++ [fmt p a]) (fmt p a); simp only [List.length_cons]; omega
    · simp

/-- the `for node in self` loop of `__str__` -/
theorem str_forM (f : Node → List (Node × List Str) × Str → Option (List (Node × List Str) × Str))
    (hf : ∀ node (st : List (Prim × List Str)) s, NodeOK node → (∀ x ∈ st, NodeOK x.1) →
      f node (st.reverse, s) = some ((unwind node [] st s).2.reverse, (unwind node [] st s).1)) :
    ∀ (l : List Prim) (st : List (Prim × List Str)) (s : Str), (∀ p ∈ l, NodeOK p) → (∀ x ∈ st, NodeOK x.1) →
      (forM l (st.reverse, s) f).map Prod.snd
        = some (l.foldl (fun (state : Str × List (Prim × List Str)) node => unwind node [] state.2 state.1) (s, st)).1
  | [], st, s, _, _ => by simp [forM]
  | p :: rest, st, s, hl, hst => by
    simp only [forM, hf p st s (hl p (by simp)) hst, List.foldl_cons]
    exact str_forM f hf rest _ _ (fun x hx => hl x (by simp [hx]))
      (unwind_frames st p [] s (hl p (by simp)) hst)

/-- the `while total > 0` loop of `searchSubtree` reading the positions `off, off+1, …` of a virtual list `L` -/
theorem walk_whileM_off (L : List Prim) (off : Int) (get : Int → Option Prim)
    (hget : ∀ k : Nat, k ≤ L.length → get (off + (k : Int)) = L[k]?)
    (c : Int × Int → Option Bool) (body : Int × Int → Option (Bool × (Int × Int)))
    (hc : ∀ t e, c (t, e) = some (decide (0 < t)))
    (hb : ∀ t e, body (t, e) = (get e).map (fun x => (true, (t + (arity x - 1), e + 1)))) :
    ∀ (fuel k t : Nat), k ≤ L.length → L.length + 1 ≤ fuel + k →
      whileM fuel ((t : Int), off + (k : Int)) c body = (walk (L.drop k) t k).map (fun (k' : Nat) => ((0 : Int), off + (k' : Int)))
  | 0, k, t, h1, h2 => by omega
  | fuel + 1, k, 0, h1, h2 => by
    cases h : L.drop k <;> simp [whileM, hc, walk]
  | fuel + 1, k, t + 1, h1, h2 => by
    have ht : (0 : Int) < ((t + 1 : Nat) : Int) := by omega
    simp only [whileM, hc, ht, decide_true, hb, hget k h1]
    by_cases he : k < L.length
    · have hd : L.drop k = L[k] :: L.drop (k + 1) := by simp
      rw [hd]
      simp only [List.getElem?_eq_getElem he, Option.map_some, walk]
      have := walk_whileM_off L off get hget c body hc hb fuel (k + 1) (t + L[k].arity) (by omega) (by omega)
      rw [← this]
      congr 2
      · simp [arity_eq]; omega
      · omega
    · have : L.drop k = [] := List.drop_eq_nil_of_le (by omega)
      rw [this]
      simp [walk, List.getElem?_eq_none (Nat.le_of_not_lt he)]

theorem walk_whileM (l : List Prim) (c : Int × Int → Option Bool) (body : Int × Int → Option (Bool × (Int × Int)))
    (hc : ∀ t e, c (t, e) = some (decide (0 < t)))
    (hb : ∀ t e, body (t, e) = (index l e).map (fun x => (true, (t + (arity x - 1), e + 1)))) :
    ∀ (fuel e t : Nat), e ≤ l.length → l.length + 1 ≤ fuel + e →
      whileM fuel ((t : Int), (e : Int)) c body = (walk (l.drop e) t e).map (fun e' => ((0 : Int), (e' : Int))) :=
  fun fuel e t h1 h2 => by
    have := walk_whileM_off l 0 (index l) (fun k _ => by rw [Int.zero_add, index_nat]) c body hc hb fuel e t h1 h2
    simp only [Int.zero_add] at this
    rw [this]
    cases walk (l.drop e) t e <;> rfl

/-- Python's reading of the positions `b, b+1, …` for a negative `b ≥ -len`: first the tail from `b+len`, then the list
again from 0 -/
theorem index_wrap (l : List Prim) (b : Int) (hb : b < 0) (hb2 : 0 ≤ b + (l.length : Int)) :
    ∀ k : Nat, k ≤ (l.drop (b + (l.length : Int)).toNat ++ l).length →
      index l (b + (k : Int)) = (l.drop (b + (l.length : Int)).toNat ++ l)[k]? := by
  obtain ⟨n, hn⟩ : ∃ n : Nat, b + (l.length : Int) = n := ⟨_, (Int.toNat_of_nonneg hb2).symm⟩
  rw [hn, Int.toNat_natCast]
  intro k hk
  rw [List.length_append, List.length_drop] at hk
  unfold index
  split
  · rw [List.getElem?_append_right (by rw [List.length_drop]; omega), List.length_drop]
    congr 1; omega
  · rw [if_pos (by omega), List.getElem?_append_left (by rw [List.length_drop]; omega), List.getElem?_drop]
    congr 1; omega

def castP (x : Nat × Nat) : Int × Int := ((x.1 : Int), (x.2 : Int))
/-- Python's stack of `[i, remaining]` pairs (top = last) for the model's stack (top = head) -/
def SP (st : List (Nat × Nat)) : List (Int × Int) := (st.map castP).reverse

theorem SP_cons (x : Nat × Nat) (st : List (Nat × Nat)) : SP (x :: st) = SP st ++ [castP x] := by simp [SP]
theorem SP_nil : SP [] = [] := rfl

/-- the top frame still expects a child.  `stack[-1][1] -= 1` is `r - 1` on `Nat` in the model (`decTop`); it never truncates
because the loop pops the completed frames (`popDone`) after every node, which is this invariant (`popDone_topPos`). -/
def TopPos : List (Nat × Nat) → Prop
  | [] => True
  | (_, r) :: _ => 0 < r

theorem popDone_topPos : ∀ st : List (Nat × Nat), TopPos (popDone st)
  | [] => by simp [popDone, TopPos]
  | (_, 0) :: st => popDone_topPos st
  | (j, r + 1) :: st => by simp [popDone, TopPos]

theorem dictSet_eq_upsert (L : Dict) (k : Int) (v : String) : dictSet L k v = _root_.Dict.upsert (fun _ => v) k L := by
  induction L with
  | nil => rfl
  | cons e L ih => obtain ⟨k', v'⟩ := e; by_cases hk : k' = k <;> simp [dictSet, _root_.Dict.upsert, hk, ih]

theorem dictSet_fresh (L : Dict) (k : Int) (v : String) (h : ∀ x ∈ L, x.1 < k) : dictSet L k v = L ++ [(k, v)] := by
  rw [dictSet_eq_upsert, _root_.Dict.upsert_fresh]
  intro hk
  obtain ⟨x, hx, e⟩ := List.mem_map.1 hk
  have := h x hx
  omega

/-- the `while stack and stack[-1][1] == 0: stack.pop()` loop -/
theorem popDone_whileM (c : List (Int × Int) → Option Bool) (body : List (Int × Int) → Option (Bool × List (Int × Int)))
    (hc0 : c [] = some false)
    (hc1 : ∀ S j r, c (S ++ [(j, r)]) = some (decide (r = 0)))
    (hb : ∀ S x, body (S ++ [x]) = some (true, S)) :
    ∀ (st : List (Nat × Nat)) (fuel : Nat), st.length + 1 ≤ fuel → whileM fuel (SP st) c body = some (SP (popDone st))
  | _, 0, h => by omega
  | [], fuel + 1, _ => by simp [whileM, SP_nil, hc0, popDone]
  | (j, 0) :: st, fuel + 1, h => by
    simp only [SP_cons, castP, whileM, hc1, popDone, hb]
    exact popDone_whileM c body hc0 hc1 hb st fuel (by simp at h; omega)
  | (j, r + 1) :: st, fuel + 1, h => by
    simp only [SP_cons, castP, whileM, hc1, popDone]
    have : ¬ (((r : Int) + 1) = 0) := by omega
    simp [this]

/-- the `for i, node in enumerate(expr)` loop of `graph` -/
theorem graph_forM (F : Int × Node → List (Int × Int) × List (Int × Int) × Dict → Option (List (Int × Int) × List (Int × Int) × Dict))
    (hF : ∀ (i : Nat) (node : Node) (st : List (Nat × Nat)) (E : List (Int × Int)) (L : Dict), TopPos st →
      F ((i : Int), node) (SP st, E, L)
        = some (SP (popDone ((i, node.arity) :: decTop st)), E ++ (edgeTo st i).map castP, dictSet L (i : Int) (labelOf node))) :
    ∀ (l : List Prim) (i : Nat) (st : List (Nat × Nat)) (E : List (Int × Int)) (L : Dict), TopPos st → (∀ x ∈ L, x.1 < (i : Int)) →
      ∃ S', forM (enumFrom (i : Int) l) (SP st, E, L) F
        = some (S', E ++ (graphLoop l i st).map castP, L ++ enumFrom (i : Int) (l.map labelOf))
  | [], i, st, E, L, _, _ => ⟨SP st, by simp [forM, enumFrom, graphLoop]⟩
  | p :: rest, i, st, E, L, ht, hL => by
    simp only [enumFrom, forM, hF i p st E L ht, graphLoop, List.map_cons]
    rw [dictSet_fresh L i (labelOf p) hL]
    obtain ⟨S', h⟩ := graph_forM F hF rest (i + 1) (popDone ((i, p.arity) :: decTop st)) (E ++ (edgeTo st i).map castP)
      (L ++ [((i : Int), labelOf p)]) (popDone_topPos _) (by
        intro x hx
        rcases List.mem_append.1 hx with hx | hx
        · have := hL x hx; omega
        · simp at hx; subst hx; omega)
    refine ⟨S', ?_⟩
    have e : ((i : Int) + 1) = ((i + 1 : Nat) : Int) := by omega
    rw [e, h]
    simp [List.map_append, List.append_assoc]

end Gen11
