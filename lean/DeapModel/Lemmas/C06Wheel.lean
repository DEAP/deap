/-
Helper lemmas for C06: the roulette wheel and stochastic universal sampling.
-/
import DeapModel.Lemmas.C06
import Mathlib.Data.Rat.Floor

namespace C06L
open Selection

/-- Sum of the first-objective values of the individuals listed in `l`. -/
def sumOn (fs : List Rat) (l : List Nat) : Rat := (l.map (fun i => fs.getD i 0)).sum

@[simp] theorem sumOn_nil (fs : List Rat) : sumOn fs [] = 0 := rfl
@[simp] theorem sumOn_cons (fs : List Rat) (i : Nat) (l : List Nat) :
    sumOn fs (i :: l) = fs.getD i 0 + sumOn fs l := by simp [sumOn]
@[simp] theorem sumOn_append (fs : List Rat) (a b : List Nat) :
    sumOn fs (a ++ b) = sumOn fs a + sumOn fs b := by simp [sumOn]

theorem sumOn_nonneg {fs : List Rat} {l : List Nat} (h : ∀ i ∈ l, 0 < fs.getD i 0) : 0 ≤ sumOn fs l := by
  induction l with
  | nil => simp
  | cons i l ih =>
    rw [sumOn_cons]
    exact add_nonneg (h i List.mem_cons_self).le (ih fun j hj => h j (List.mem_cons_of_mem _ hj))

theorem sumOn_pos {fs : List Rat} {l : List Nat} (h : ∀ i ∈ l, 0 < fs.getD i 0) (hne : l ≠ []) :
    0 < sumOn fs l := by
  cases l with
  | nil => exact absurd rfl hne
  | cons i l =>
    rw [sumOn_cons]
    exact add_pos_of_pos_of_nonneg (h i List.mem_cons_self) (sumOn_nonneg fun j hj => h j (List.mem_cons_of_mem _ hj))

theorem pySum_eq_sum (l : List Rat) : pySum l = l.sum := List.sum_eq_foldl.symm

theorem sumOn_range (fs : List Rat) : sumOn fs (List.range fs.length) = fs.sum := by
  rw [sumOn, List.map_getD_range]

theorem sumOn_perm (fs : List Rat) {a b : List Nat} (h : a.Perm b) : sumOn fs a = sumOn fs b := by
  unfold sumOn
  exact (h.map _).sum_eq

theorem min_succ (k : ℕ) (h : ℤ) : min ((k + 1 : ℕ) : ℤ) (h + 1) = min (k : ℤ) (h + 1) + if (k : ℤ) ≤ h then 1 else 0 := by
  rw [Nat.cast_succ]
  split
  · next hk => rw [min_eq_left (by omega), min_eq_left (by omega)]
  · next hk => rw [min_eq_right (by omega), min_eq_right (by omega), add_zero]

theorem countP_range_Ioc (k : ℕ) (lo hi : ℤ) (hlo : -1 ≤ lo) (hle : lo ≤ hi) :
    (((List.range k).countP (fun (m : ℕ) => decide (lo < (m : ℤ) ∧ (m : ℤ) ≤ hi)) : ℕ) : ℤ)
      = min (k : ℤ) (hi + 1) - min (k : ℤ) (lo + 1) := by
  induction k with
  | zero => rw [List.range_zero, List.countP_nil, Nat.cast_zero, min_eq_left (by omega), min_eq_left (by omega), sub_self]
  | succ k ih =>
    -- the new number `k` raises each of the two clipped ends it lies below
    rw [List.range_succ, List.countP_append, Nat.cast_add, ih, List.countP_singleton, min_succ, min_succ]
    by_cases h1 : (k : ℤ) ≤ lo
    · rw [if_pos h1, if_pos (h1.trans hle), if_neg (by simpa using fun h => absurd h1 (not_le.2 h))]; ring
    · by_cases h2 : (k : ℤ) ≤ hi
      · rw [if_neg h1, if_pos h2, if_pos (by simpa using ⟨not_le.1 h1, h2⟩)]; ring
      · rw [if_neg h1, if_neg h2, if_neg (by simpa using fun _ => not_le.1 h2)]; ring

theorem floor_add_sub_floor (A q : ℚ) :
    ⌊A + q⌋ - ⌊A⌋ = ⌊q⌋ ∨ ⌊A + q⌋ - ⌊A⌋ = ⌈q⌉ := by
  by_cases hq : ((⌊q⌋ : ℤ) : ℚ) = q
  · left
    rw [← hq]; simp
  · have h1 := Int.le_floor_add A q
    have h2 := Int.le_floor_add_floor A q
    have h3 : ⌈q⌉ = ⌊q⌋ + 1 := by
      apply le_antisymm (Int.ceil_le_floor_add_one q)
      rw [Int.add_one_le_iff, Int.lt_ceil]
      exact lt_of_le_of_ne (Int.floor_le q) hq
    rcases (by omega : ⌊A + q⌋ - ⌊A⌋ = ⌊q⌋ ∨ ⌊A + q⌋ - ⌊A⌋ = ⌊q⌋ + 1) with h | h
    · left; exact h
    · right; rw [h3]; exact h

theorem min_floor_add_one (k : ℕ) (x : ℚ) (h : x < k) : min (k : ℤ) (⌊x⌋ + 1) = ⌊x⌋ + 1 :=
  min_eq_right (Int.add_one_le_iff.2 (Int.floor_lt.2 (by exact_mod_cast h)))

/-- Pointers `r, r + 1, …, r + k - 1` with `0 < r < 1`, a sector that starts at `a`, is `q` wide and leaves `b` behind it
(`a + q + b = k`): with `min k (⌊x - r⌋ + 1)` pointers at or below `x`, the sector holds `⌊q⌋` or `⌈q⌉`.  For `r > 0` no
end needs care: the last pointer lies below `k`, and the first sector, which has no lower end, starts at `⌊-r⌋ + 1 = 0`. -/
theorem pointers_interior (k : ℕ) (r a q b : ℚ) (first last : Prop) [Decidable first] (hr : 0 < r) (hr1 : r < 1)
    (h0 : first → a = 0) (hb0 : last → b = 0) (hbpos : ¬ last → 0 < b) (hab : a + q + b = k) :
    min (k : ℤ) (⌊a + q - r⌋ + 1) - (if first then 0 else ⌊a - r⌋ + 1) = ⌊q⌋ ∨
    min (k : ℤ) (⌊a + q - r⌋ + 1) - (if first then 0 else ⌊a - r⌋ + 1) = ⌈q⌉ := by
  have hb : 0 ≤ b := by by_cases hl : last; exacts [(hb0 hl).ge, (hbpos hl).le]
  have hlo : (if first then (0 : ℤ) else ⌊a - r⌋ + 1) = ⌊a - r⌋ + 1 := by
    split
    · next hp =>
      rw [h0 hp, (Int.floor_eq_iff (z := -1)).2 ⟨by push_cast; linarith, by push_cast; linarith⟩]; rfl
    · rfl
  rw [min_floor_add_one k _ (by linarith)]
  have := floor_add_sub_floor (a - r) q
  rw [sub_add_eq_add_sub] at this
  omega

/-- The same sector for the boundary draw `r = 0`, where both ends need care: the pointer `0` goes to the first sector,
and the last sector ends at `k`, where there is no pointer. -/
theorem pointers_boundary (k : ℕ) (a q b : ℚ) (first last : Prop) [Decidable first]
    (h0 : first → a = 0) (hb0 : last → b = 0) (hbpos : ¬ last → 0 < b) (hab : a + q + b = k) (c : ℤ)
    (hc : c = min (k : ℤ) (⌊a + q⌋ + 1) - (if first then 0 else ⌊a⌋ + 1)) :
    (¬ first → ¬ last → c = ⌊q⌋ ∨ c = ⌈q⌉) ∧ (first → ¬ last → c = ⌊q⌋ + 1) ∧
    (¬ first → last → c = ⌈q⌉ - 1) ∧ (first → last → c = k) := by
  have hU (hl : ¬ last) : min (k : ℤ) (⌊a + q⌋ + 1) = ⌊a + q⌋ + 1 := min_floor_add_one k _ (by linarith [hbpos hl])
  have hK (hl : last) : a + q = k := by linarith [hb0 hl]
  refine ⟨fun hf hl => ?_, fun hf hl => ?_, fun hf hl => ?_, fun hf hl => ?_⟩
  · rw [hU hl, if_neg hf] at hc
    have := floor_add_sub_floor a q
    omega
  · rw [hU hl, if_pos hf, h0 hf, zero_add] at hc
    omega
  · have ha : a = (k : ℚ) + -q := by linarith [hK hl]
    rw [hK hl, Int.floor_natCast, min_eq_left (Int.le_add_one le_rfl), if_neg hf, ha, Int.floor_natCast_add,
      Int.floor_neg] at hc
    omega
  · rw [hK hl, Int.floor_natCast, min_eq_left (Int.le_add_one le_rfl), if_pos hf, sub_zero] at hc
    exact hc

theorem mapM_cons_some {α β : Type} (f : α → Option β) (x : α) (xs : List α) (r : List β) :
    (x :: xs).mapM f = some r ↔ ∃ y ys, f x = some y ∧ xs.mapM f = some ys ∧ r = y :: ys := by
  rw [List.mapM_cons]
  rcases f x with _ | y
  · simp
  · rcases xs.mapM f with _ | ys <;> simp [eq_comm]

theorem firstVals_length {w : List Rat} {pop : Pop} {fs : List Rat} (h : firstVals w pop = some fs) :
    fs.length = pop.length := List.mapM_length _ _ _ h

/-- Both wheels stop at the first individual of `o` at which the running sum (started at `s`) satisfies `P`:
`> u` for the roulette spin, `≥ p` for a pointer of universal sampling. -/
def firstReach (P : Rat → Prop) [DecidablePred P] (fs : List Rat) : List Nat → Rat → Option Nat
  | [], _ => none
  | i :: rest, s => if P (s + fs.getD i 0) then some i else firstReach P fs rest (s + fs.getD i 0)

theorem spin_eq (fs : List Rat) (u : Rat) (o : List Nat) (s : Rat) :
    spin fs u o s = firstReach (· > u) fs o s := by
  induction o generalizing s with
  | nil => rfl
  | cons i rest ih => simp only [spin, firstReach, ih]

theorem susPoint_eq (fs : List Rat) (o : List Nat) (p : Rat) :
    susPoint fs o p = firstReach (fun s => ¬ s < p) fs o 0 := by
  have walk (rest : List Nat) : ∀ cur s,
      susWalk fs p cur s rest = if s < p then firstReach (fun s => ¬ s < p) fs rest s else some cur := by
    induction rest with
    | nil => intro cur s; simp only [susWalk, firstReach]
    | cons j rest ih => intro cur s; simp only [susWalk, firstReach, ih, ite_not]
  cases o with
  | nil => rfl
  | cons i rest => simp only [susPoint, firstReach, walk, zero_add, ite_not]

section FirstReach
variable {P : Rat → Prop} [DecidablePred P] {fs : List Rat}

theorem firstReach_mem {o : List Nat} {s : Rat} {i : Nat} (h : firstReach P fs o s = some i) : i ∈ o := by
  induction o generalizing s with
  | nil => cases h
  | cons j rest ih =>
    rw [firstReach] at h
    split at h
    · exact Option.some.inj h ▸ List.mem_cons_self
    · exact List.mem_cons_of_mem _ (ih h)

theorem firstReach_isSome {o : List Nat} {s : Rat} (hne : o ≠ []) (h : P (s + sumOn fs o)) :
    ∃ i, firstReach P fs o s = some i := by
  induction o generalizing s with
  | nil => exact absurd rfl hne
  | cons j rest ih =>
    rw [firstReach]
    split
    · exact ⟨j, rfl⟩
    · next hP =>
      rw [sumOn_cons, ← add_assoc] at h
      exact ih (by rintro rfl; exact hP (by simpa using h)) h

theorem firstReach_some_iff (hmono : ∀ a b, a ≤ b → P a → P b) {o : List Nat}
    (hpos : ∀ i ∈ o, 0 < fs.getD i 0) (s : Rat) (i : Nat) :
    firstReach P fs o s = some i ↔
      ∃ pre post, o = pre ++ i :: post ∧ (pre = [] ∨ ¬ P (s + sumOn fs pre)) ∧
        P (s + sumOn fs pre + fs.getD i 0) := by
  induction o generalizing s with
  | nil => simp [firstReach]
  | cons j rest ih =>
    rw [firstReach]
    have hrest : ∀ x ∈ rest, 0 < fs.getD x 0 := fun x hx => hpos x (List.mem_cons_of_mem _ hx)
    by_cases hP : P (s + fs.getD j 0)
    · rw [if_pos hP, Option.some.injEq]
      constructor
      · rintro rfl; exact ⟨[], rest, rfl, .inl rfl, by rwa [sumOn_nil, add_zero]⟩
      · rintro ⟨pre, post, heq, h1, _⟩
        cases pre with
        | nil => exact (List.cons.inj heq).1
        | cons a pre' =>
          obtain ⟨rfl, rfl⟩ := List.cons.inj heq
          refine absurd (hmono _ _ ?_ hP) (h1.resolve_left (List.cons_ne_nil _ _))
          rw [sumOn_cons]
          linarith [sumOn_nonneg (fs := fs) (l := pre') fun x hx => hrest x (by simp [hx])]
    · rw [if_neg hP, ih hrest]
      constructor
      · rintro ⟨pre, post, rfl, h1, h2⟩
        refine ⟨j :: pre, post, rfl, .inr ?_, by rwa [sumOn_cons, ← add_assoc]⟩
        rw [sumOn_cons, ← add_assoc]
        rcases h1 with rfl | h1
        · rwa [sumOn_nil, add_zero]
        · exact h1
      · rintro ⟨pre, post, heq, h1, h2⟩
        cases pre with
        | nil =>
          obtain ⟨rfl, rfl⟩ := List.cons.inj heq
          rw [sumOn_nil, add_zero] at h2
          exact absurd h2 hP
        | cons a pre' =>
          obtain ⟨rfl, rfl⟩ := List.cons.inj heq
          rw [sumOn_cons, ← add_assoc] at h1 h2
          exact ⟨pre', post, rfl, .inr (h1.resolve_left (List.cons_ne_nil _ _)), h2⟩

end FirstReach

theorem spin_mem {fs : List Rat} {u : Rat} {o : List Nat} {s : Rat} {i : Nat}
    (h : spin fs u o s = some i) : i ∈ o := firstReach_mem (spin_eq fs u o s ▸ h)

theorem susPoint_mem {fs : List Rat} {p : Rat} {o : List Nat} {i : Nat}
    (h : susPoint fs o p = some i) : i ∈ o := firstReach_mem (susPoint_eq fs o p ▸ h)

theorem spin_some_iff (fs : List Rat) (u : Rat) (o : List Nat) (s : Rat)
    (hpos : ∀ i ∈ o, 0 < fs.getD i 0) (hs : s ≤ u) (i : Nat) :
    spin fs u o s = some i ↔
      ∃ pre post, o = pre ++ i :: post ∧ s + sumOn fs pre ≤ u ∧ u < s + sumOn fs pre + fs.getD i 0 := by
  rw [spin_eq, firstReach_some_iff (fun a b hab ha => lt_of_lt_of_le ha hab) hpos]
  refine exists_congr fun pre => exists_congr fun post => and_congr_right fun _ => and_congr_left fun _ => ?_
  rw [not_lt]
  exact ⟨fun h => h.elim (fun e => by rw [e, sumOn_nil, add_zero]; exact hs) id, .inr⟩

theorem spin_isSome (fs : List Rat) (u : Rat) (o : List Nat) (s : Rat) (hs : s ≤ u)
    (h : u < s + sumOn fs o) : ∃ i, spin fs u o s = some i := by
  rw [spin_eq]
  exact firstReach_isSome (by rintro rfl; rw [sumOn_nil, add_zero] at h; exact absurd hs (not_le.2 h)) h

theorem rouletteStep_parses (fs : List Rat) (o : List Nat) (S : Rat) :
    Parses (rouletteStep fs o S) (fun r => [Draw.random r]) (fun x r => (0 ≤ r ∧ r < 1) ∧ x = spin fs (r * S) o 0) := by
  intro t x t'
  have : rouletteStep fs o S t = (popRandom t).map fun p => (spin fs (p.1 * S) o 0, p.2) := by
    unfold rouletteStep; cases popRandom t <;> rfl
  rw [this, Option.map_eq_some_iff]
  constructor
  · rintro ⟨⟨r, t1⟩, hp, he⟩
    cases he
    obtain ⟨rfl, hv⟩ := popRandom_some.1 hp
    exact ⟨r, rfl, hv, rfl⟩
  · rintro ⟨r, rfl, hv, rfl⟩
    exact ⟨(r, t'), popRandom_some.2 ⟨rfl, hv⟩, rfl⟩

theorem nodup_decomp_unique {o pre post pre' post' : List Nat} {j : Nat} (hnd : o.Nodup)
    (h1 : o = pre ++ j :: post) (h2 : o = pre' ++ j :: post') : pre = pre' ∧ post = post' := by
  subst h1
  have hj : j ∉ pre ∧ j ∉ post := by
    rw [List.nodup_append] at hnd
    obtain ⟨_, h2, h3⟩ := hnd
    rw [List.nodup_cons] at h2
    exact ⟨fun hm => h3 j hm j (by simp) rfl, h2.1⟩
  have := (List.append_cons_inj_of_notMem hj.1 hj.2).1 h2
  exact ⟨this.1, this.2.2⟩

/-- In a duplicate-free list a statement about "the" place of `j` may quantify over all its places. -/
theorem decomp_iff {o pre post : List Nat} {j : Nat} (hnd : o.Nodup) (ho : o = pre ++ j :: post) {Q : List Nat → Prop} :
    (∃ pre' post', o = pre' ++ j :: post' ∧ Q pre') ↔ Q pre :=
  ⟨fun ⟨_, _, ho', hQ⟩ => (nodup_decomp_unique hnd ho ho').1 ▸ hQ, fun hQ => ⟨pre, post, ho, hQ⟩⟩

theorem susPoint_iff (fs : List Rat) (o : List Nat) (p : Rat) (hpos : ∀ i ∈ o, 0 < fs.getD i 0) (i : Nat) :
    susPoint fs o p = some i ↔
      ∃ pre post, o = pre ++ i :: post ∧ (pre = [] ∨ sumOn fs pre < p) ∧
        p ≤ sumOn fs pre + fs.getD i 0 := by
  rw [susPoint_eq, firstReach_some_iff (fun a b hab ha hb => ha (lt_of_le_of_lt hab hb)) hpos]
  simp only [zero_add, not_not]
  simp only [not_lt]

theorem susPoint_isSome (fs : List Rat) (o : List Nat) (p : Rat) (hne : o ≠ []) (h : p ≤ sumOn fs o) :
    ∃ i, susPoint fs o p = some i := by
  rw [susPoint_eq]
  exact firstReach_isSome hne (by rwa [zero_add, not_lt])

/-- Every pointer `(r + m)·S/k`, `m < k`, of a draw `r < 1` lies on the wheel (at most `k·S/k = S`), so each finds an
individual: the walk `while sum_ < p` never runs past the end. -/
theorem susPoints_mapM_isSome (fs : List Rat) (o : List Nat) (k : Nat) (r : Rat) (hne : o ≠ []) (hk : 0 < k)
    (hS : 0 < sumOn fs o) (hr1 : r < 1) :
    ∃ res, (susPoints (0 + (sumOn fs o / (k : ℚ) - 0) * r) (sumOn fs o / (k : ℚ)) k).mapM (susPoint fs o) = some res := by
  have hkq : (0 : ℚ) < (k : ℚ) := by exact_mod_cast hk
  refine List.mapM_isSome _ _ fun p hp => ?_
  obtain ⟨m, hm, rfl⟩ := List.mem_map.1 hp
  refine susPoint_isSome _ _ _ hne ?_
  have hm' : r + m ≤ k := by
    have : (m : ℚ) + 1 ≤ k := by exact_mod_cast List.mem_range.1 hm
    linarith
  calc 0 + (sumOn fs o / k - 0) * r + m * (sumOn fs o / k) = (r + m) * (sumOn fs o / k) := by ring
    _ ≤ k * (sumOn fs o / k) := mul_le_mul_of_nonneg_right hm' (div_pos hS hkq).le
    _ = sumOn fs o := mul_div_cancel₀ _ hkq.ne'

theorem sus_count_eq (fs : List Rat) (o pre post : List Nat) (i k : Nat) (r d : Rat)
    (hpos : ∀ j ∈ o, 0 < fs.getD j 0) (hnd : o.Nodup) (ho : o = pre ++ i :: post)
    (res : List Nat) (hres : (susPoints (0 + (d - 0) * r) d k).mapM (susPoint fs o) = some res) :
    res.count i = (List.range k).countP (fun (m : ℕ) =>
      decide ((pre = [] ∨ sumOn fs pre < (r + (m : ℚ)) * d) ∧
        (r + (m : ℚ)) * d ≤ sumOn fs pre + fs.getD i 0)) := by
  rw [List.mapM_count _ _ _ hres i]
  unfold susPoints
  rw [List.countP_map]
  apply List.countP_congr
  intro m _
  simp only [Function.comp_apply, decide_eq_true_eq]
  have hp : (0 + (d - 0) * r + (m : ℚ) * d) = (r + (m : ℚ)) * d := by ring
  rw [hp, susPoint_iff fs o _ hpos i]
  exact decomp_iff hnd ho

/-- The pointers `(r + m)·d`, `m < k`, in the sector `(C, C + f]` are those with `⌊C/d - r⌋ < m ≤ ⌊(C + f)/d - r⌋`
(no lower bound for the first sector, which also takes the pointer 0). -/
theorem sus_count_floor (k : ℕ) (r d C f : ℚ) (pre : List ℕ) (hd : 0 < d) (hr0 : 0 ≤ r) (hr1 : r < 1)
    (hC : 0 ≤ C) (hf : 0 < f) (hCf : C + f ≤ k * d) :
    (((List.range k).countP (fun (m : ℕ) =>
      decide ((pre = [] ∨ C < (r + (m : ℚ)) * d) ∧ (r + (m : ℚ)) * d ≤ C + f)) : ℕ) : ℤ)
      = min (k : ℤ) (⌊(C + f) / d - r⌋ + 1) - (if pre = [] then 0 else ⌊C / d - r⌋ + 1) := by
  have hlo : -1 ≤ ⌊C / d - r⌋ := Int.le_floor.2 (by simpa using sub_le_sub (div_nonneg hC hd.le) hr1.le)
  have hle : ⌊C / d - r⌋ ≤ ⌊(C + f) / d - r⌋ :=
    Int.floor_le_floor (sub_le_sub_right (div_le_div_of_nonneg_right (le_add_of_nonneg_right hf.le) hd.le) r)
  have hlok : ⌊C / d - r⌋ + 1 ≤ (k : ℤ) :=
    Int.add_one_le_iff.2 (Int.floor_lt.2 (by
      push_cast
      exact (sub_le_self _ hr0).trans_lt ((div_lt_iff₀ hd).2 ((lt_add_of_pos_right C hf).trans_le hCf))))
  -- the first sector has no lower end: every pointer index lies above `-1`
  have e1 (m : ℕ) : (pre = [] ∨ C < (r + m) * d) ↔ (if pre = [] then -1 else ⌊C / d - r⌋) < (m : ℤ) := by
    split
    · next hp => exact iff_of_true (Or.inl hp) (neg_one_lt_zero.trans_le (Int.natCast_nonneg m))
    · next hp => rw [or_iff_right hp, Int.floor_lt, Int.cast_natCast, sub_lt_iff_lt_add, div_lt_iff₀ hd, add_comm]
  have e2 (m : ℕ) : (r + m) * d ≤ C + f ↔ (m : ℤ) ≤ ⌊(C + f) / d - r⌋ := by
    rw [Int.le_floor, Int.cast_natCast, le_sub_iff_add_le, le_div_iff₀ hd, add_comm]
  simp only [e1, e2]
  split
  · rw [countP_range_Ioc k _ _ le_rfl (hlo.trans hle), neg_add_cancel, min_eq_right (Int.natCast_nonneg k)]
  · rw [countP_range_Ioc k _ _ hlo hle, min_eq_right hlok]

theorem wheel_facts {w : List Rat} {pop : Pop} {fs : List Rat} (hfs : firstVals w pop = some fs)
    (hpos : ∀ f ∈ fs, 0 < f) :
    (sortedDesc (fitLt pop) (List.range pop.length)).Nodup ∧
    (∀ j ∈ sortedDesc (fitLt pop) (List.range pop.length), 0 < fs.getD j 0) ∧
    sumOn fs (sortedDesc (fitLt pop) (List.range pop.length)) = fs.sum ∧
    pySum fs = fs.sum := by
  have hlen := firstVals_length hfs
  refine ⟨nodup_sortedDesc_range pop _, ?_, ?_, pySum_eq_sum fs⟩
  · intro j hj
    have hj' : j < fs.length := by rw [hlen]; exact (mem_sortedDesc_range pop _ j).1 hj
    rw [List.getD_eq_getElem?_getD, List.getElem?_eq_getElem hj']
    exact hpos _ (List.getElem_mem hj')
  · rw [sumOn_perm fs (sortedDesc_perm _ _), ← hlen, sumOn_range]

theorem selSUS_some_iff {w : List Rat} {pop : Pop} {fs : List Rat} {k : Nat} {t t' : Tape} {res : List Nat}
    (hk : k ≠ 0) (hfs : firstVals w pop = some fs) :
    selSUS w pop k t = some (res, t') ↔
      ∃ r, popRandom t = some (r, t') ∧
        (susPoints (0 + (pySum fs / (k : ℚ) - 0) * r) (pySum fs / (k : ℚ)) k).mapM
          (susPoint fs (sortedDesc (fitLt pop) (List.range pop.length))) = some res := by
  simp only [selSUS, if_neg hk, hfs]
  rcases popRandom t with _ | ⟨r, t1⟩
  · simp
  · dsimp only
    split <;> rename_i hX <;> simp only [hX, Option.some.injEq, Prod.mk.injEq, reduceCtorEq, and_assoc,
      exists_eq_left', false_and, and_comm]

theorem selRoulette_some_iff {w : List Rat} {pop : Pop} {fs : List Rat} {k : Nat} {t t' : Tape}
    {res : List Nat} (hfs : firstVals w pop = some fs) :
    selRoulette w pop k t = some (res, t') ↔
      ∃ l, Selection.repeatM (rouletteStep fs (sortedDesc (fitLt pop) (List.range pop.length)) (pySum fs)) k t
        = some (l, t') ∧ res = l.filterMap id := by
  rw [selRoulette]
  simp only [hfs]
  rcases Selection.repeatM (rouletteStep fs (sortedDesc (fitLt pop) (List.range pop.length)) (pySum fs)) k t
    with _ | ⟨l, t1⟩ <;> simp [eq_comm, and_comm]

/-- `selRoulette` on evaluated individuals reads `k` draws from `[0, 1)` and answers the individuals at which the spins stop -/
theorem selRoulette_parses {w : List Rat} {pop : Pop} {fs : List Rat} (hfs : firstVals w pop = some fs) (k : Nat) :
    Parses (selRoulette w pop k) (fun rs : List Rat => rs.map Draw.random)
      (fun res rs => rs.length = k ∧
        res = (rs.map fun r => spin fs (r * pySum fs) (sortedDesc (fitLt pop) (List.range pop.length)) 0).filterMap id ∧
        ∀ r ∈ rs, 0 ≤ r ∧ r < 1) := by
  have hrep := (rouletteStep_parses fs (sortedDesc (fitLt pop) (List.range pop.length)) (pySum fs)).repeatM_map k
  intro t res t'
  rw [selRoulette_some_iff hfs]
  constructor
  · rintro ⟨l, hl, rfl⟩
    obtain ⟨rs, ht, hlen, rfl, hv⟩ := (hrep _ _ _).1 hl
    exact ⟨rs, ht, hlen, rfl, hv⟩
  · rintro ⟨rs, ht, hlen, rfl, hv⟩
    exact ⟨_, (hrep _ _ _).2 ⟨rs, ht, hlen, rfl, hv⟩, rfl⟩

/-- A wheel of total `S` cut into `k` pointer distances `S / k`: a sector `f` behind `p` and before `s` is `k·f/S` wide in
pointer units, and the three parts make up `k`. -/
theorem sector_units {S p f s : ℚ} {k : ℕ} (hS : S ≠ 0) (htot : p + f + s = S) :
    f / (S / k) = k * f / S ∧ p / (S / k) + k * f / S + s / (S / k) = k := by
  have hq : f / (S / k) = k * f / S := by rw [div_div_eq_mul_div, mul_comm]
  exact ⟨hq, by rw [← hq, ← add_div, ← add_div, htot, div_div_cancel₀ hS]⟩

/-- The sector of `i` on the wheel in pointer units: it starts at `a`, is `q = k·fᵢ/S` wide and leaves `b` behind it,
`a + q + b = k`; the number of pointers `r, r + 1, …` in it. -/
theorem sus_sector {w : List Rat} {pop : Pop} {fs : List Rat} {k : Nat} {r : Rat} {t t' : Tape} {res : List Nat}
    (hfs : firstVals w pop = some fs) (hpos : ∀ f ∈ fs, 0 < f) (hk : 0 < k)
    (h : selSUS w pop k (Draw.random r :: t) = some (res, t')) {i : Nat} {pre post : List Nat}
    (ho : sortedDesc (fitLt pop) (List.range pop.length) = pre ++ i :: post) :
    0 ≤ r ∧ r < 1 ∧ ∃ a b : ℚ, (pre = [] → a = 0) ∧ (post = [] → b = 0) ∧ (post ≠ [] → 0 < b) ∧
      a + (k : ℚ) * fs.getD i 0 / fs.sum + b = k ∧
      ((res.count i : ℕ) : ℤ) = min (k : ℤ) (⌊a + (k : ℚ) * fs.getD i 0 / fs.sum - r⌋ + 1) -
        (if pre = [] then 0 else ⌊a - r⌋ + 1) := by
  obtain ⟨hnd, hpo, hsum, hpy⟩ := wheel_facts hfs hpos
  obtain ⟨r', hr', hres⟩ := (selSUS_some_iff (Nat.pos_iff_ne_zero.1 hk) hfs).1 h
  obtain ⟨heq, hr0, hr1⟩ := popRandom_some.1 hr'
  obtain ⟨rfl, rfl⟩ : r = r' ∧ t = t' := by simpa using heq
  have hin : ∀ j ∈ pre ++ i :: post, 0 < fs.getD j 0 := fun j hj => hpo j (ho ▸ hj)
  have hS : 0 < fs.sum := by rw [← hsum, ho]; exact sumOn_pos hin (by simp)
  have hkq : (0 : ℚ) < k := by exact_mod_cast hk
  have hd : 0 < fs.sum / k := div_pos hS hkq
  have hpost : ∀ j ∈ post, 0 < fs.getD j 0 := fun j hj => hin j (by simp [hj])
  have htot : sumOn fs pre + fs.getD i 0 + sumOn fs post = fs.sum := by
    rw [← hsum, ho, sumOn_append, sumOn_cons]; ring
  obtain ⟨hq, hab⟩ := sector_units (k := k) hS.ne' htot
  rw [hpy] at hres
  have hcount := sus_count_floor k r _ (sumOn fs pre) (fs.getD i 0) pre hd hr0 hr1
    (sumOn_nonneg fun j hj => hin j (by simp [hj])) (hin i (by simp))
    (by rw [mul_div_cancel₀ _ hkq.ne', ← htot]; exact le_add_of_nonneg_right (sumOn_nonneg hpost))
  rw [← sus_count_eq fs _ pre post i k r _ hpo hnd ho res hres, add_div, hq] at hcount
  refine ⟨hr0, hr1, _, sumOn fs post / (fs.sum / k), ?_, ?_, fun hp => div_pos (sumOn_pos hpost hp) hd, hab, hcount⟩
  · rintro rfl; exact zero_div _
  · rintro rfl; exact zero_div _

end C06L
