import DeapModel.Lemmas.C15Sweep2d
/-!
C15 — towards the all-dimension correctness of the transcribed sweep: the static picture.
Static orders `O i` (the lists built by `preProcess`), positions, the restriction `RL i A` of an order to a node
set, prefixes, the projected hypervolumes `Hj`, and the IDEAL cache contents `ARv` / `VOLv` of a node with their
recurrences (the slab step along the last coordinate).
-/
namespace Hypervolume

theorem boxVol_take : ∀ (ref : List ℚ) (p : Pt), boxVol ref (p.take ref.length) = boxVol ref p
  | [], _ => rfl
  | r :: ref, [] => by simp [boxVol]
  | r :: ref, x :: p => by
    rw [List.length_cons, List.take_succ_cons, boxVol_cons, boxVol_cons, boxVol_take ref p]

theorem pmax_take : ∀ (ref : List ℚ) (p q : Pt), pmax ref (p.take ref.length) (q.take ref.length) = pmax ref p q
  | [], _, _ => rfl
  | r :: ref, p, q => by
    have ih := pmax_take ref p.tail q.tail
    cases p <;> cases q <;> simp_all [pmax]

theorem hvIE_take (ref : List ℚ) (S : List Pt) : hvIE ref (S.map (fun p => p.take ref.length)) = hvIE ref S := by
  induction S using hvIE_induction ref with
  | nil => rfl
  | cons q S ih _ =>
    rw [List.map_cons, hvIE_cons, hvIE_cons, ih, boxVol_take, List.map_map]
    congr 2
    exact List.map_congr_left (fun p _ => pmax_take ref p q)

theorem hvCells_take (ref : List ℚ) (S : List Pt) : hvCells ref (S.map (fun p => p.take ref.length)) = hvCells ref S := by
  rw [hvCells_eq_hvIE, hvCells_eq_hvIE]
  exact hvIE_take ref S

theorem take_succ_getD (l : List ℚ) (k : ℕ) (h : k < l.length) : l.take (k + 1) = l.take k ++ [l.getD k 0] := by
  rw [List.take_add_one, List.getD_eq_getElem?_getD, List.getElem?_eq_getElem h]
  rfl

/-- the slab step along coordinate `ref.length` for points that may have further coordinates -/
theorem hvCells_add_top_slab_getD (r : ℚ) (ref : List ℚ) (P : List Pt) (p : Pt)
    (hl : ∀ s ∈ p :: P, ref.length < s.length)
    (hz : ∀ s ∈ P, s.getD ref.length 0 ≤ p.getD ref.length 0) (hr : p.getD ref.length 0 ≤ r) :
    hvCells (ref ++ [r]) (p :: P) = hvCells (ref ++ [r]) P
      + (r - p.getD ref.length 0) * (hvCells ref (p :: P) - hvCells ref P) := by
  -- cut the points after coordinate `ref.length`
  have hcut : ∀ s ∈ p :: P, s.take (ref.length + 1) = s.take ref.length ++ [s.getD ref.length 0] :=
    fun s hs => take_succ_getD s ref.length (hl s hs)
  have e1 : ∀ S : List Pt, hvCells (ref ++ [r]) (S.map (·.take (ref.length + 1))) = hvCells (ref ++ [r]) S := by
    intro S
    have := hvCells_take (ref ++ [r]) S
    rwa [List.length_append, List.length_singleton] at this
  have e2 : ∀ S : List Pt, (∀ s ∈ S, s ∈ p :: P) →
      hvCells ref ((S.map (·.take (ref.length + 1))).map List.dropLast) = hvCells ref S := by
    intro S hS
    rw [← hvCells_take ref S, List.map_map]
    exact congrArg _ (List.map_congr_left fun s hs => by
      show (s.take (ref.length + 1)).dropLast = _
      rw [hcut s (hS s hs), List.dropLast_concat])
  have hlast : ∀ s ∈ p :: P, (s.take (ref.length + 1)).getLastD 0 = s.getD ref.length 0 := fun s hs => by
    rw [hcut s hs, List.getLastD_concat]
  have key := hvCells_add_top_slab_last r ref (P.map (·.take (ref.length + 1))) (p.take (ref.length + 1))
    (by
      intro s hs
      have : ∃ t ∈ p :: P, s = t.take (ref.length + 1) := by
        rcases List.mem_cons.mp hs with rfl | hs
        · exact ⟨p, List.mem_cons_self, rfl⟩
        · obtain ⟨t, ht, rfl⟩ := List.mem_map.mp hs
          exact ⟨t, List.mem_cons_of_mem _ ht, rfl⟩
      obtain ⟨t, ht, rfl⟩ := this
      rw [List.length_take, Nat.min_eq_left (hl t ht)])
    (by
      intro s hs
      obtain ⟨t, ht, rfl⟩ := List.mem_map.mp hs
      rw [hlast t (List.mem_cons_of_mem _ ht), hlast p List.mem_cons_self]
      exact hz t ht)
    (by rw [hlast p List.mem_cons_self]; exact hr)
  have e1' := e1 (p :: P)
  have e2' := e2 (p :: P) (fun s hs => hs)
  simp only [List.map_cons] at e1' e2' key
  rw [e1', e1, e2', e2 P (fun s hs => List.mem_cons_of_mem _ hs), hlast p List.mem_cons_self] at key
  exact key

end Hypervolume

namespace HvSweep
open Hypervolume

/-- the static data of one run: reference point, the points of the nodes, their translated coordinates -/
structure GCtx (C : Cargo) (dims n : ℕ) (O : ℕ → List ℕ) (pt : ℕ → List ℚ) (ref : List ℚ) : Prop where
  hdims : ref.length = dims
  perm : ∀ i < dims, (O i).Perm (ids n)
  sorted : ∀ i < dims, (O i).Pairwise (fun a b => cg C a i ≤ cg C b i)
  cgv : ∀ a ∈ ids n, ∀ j < dims, cg C a j = (pt a).getD j 0 - ref.getD j 0
  len : ∀ a ∈ ids n, (pt a).length = dims
  le : ∀ a ∈ ids n, ∀ j < dims, (pt a).getD j 0 ≤ ref.getD j 0

/-- hypervolume of the node set `D` in the coordinates `0 .. j` -/
def Hj (ref : List ℚ) (pt : ℕ → List ℚ) (j : ℕ) (D : List ℕ) : ℚ := hvCells (ref.take (j + 1)) (D.map pt)

theorem Hj_nil (ref : List ℚ) (pt : ℕ → List ℚ) (j : ℕ) : Hj ref pt j [] = 0 := hvCells_nil_pts _

/-- at the top level `Hj` is the hypervolume -/
theorem Hj_top (ref : List ℚ) (pt : ℕ → List ℚ) (h : 1 ≤ ref.length) (D : List ℕ) :
    Hj ref pt (ref.length - 1) D = hvCells ref (D.map pt) := by
  unfold Hj
  rw [Nat.sub_add_cancel h, List.take_length]

theorem Hj_congr (ref : List ℚ) (pt : ℕ → List ℚ) (j : ℕ) (D E : List ℕ) (h : ∀ a, a ∈ D ↔ a ∈ E) :
    Hj ref pt j D = Hj ref pt j E := by
  unfold Hj
  apply hvCells_of_mem_iff
  intro q
  simp only [List.mem_map]
  constructor
  · rintro ⟨a, ha, rfl⟩; exact ⟨a, (h a).mp ha, rfl⟩
  · rintro ⟨a, ha, rfl⟩; exact ⟨a, (h a).mpr ha, rfl⟩

/-- **the slab step in terms of nodes** (level `j + 1`): `p` is at least as high as every node of `D` in
coordinate `j + 1` -/
theorem Hj_add_top {C : Cargo} {dims n : ℕ} {O : ℕ → List ℕ} {pt : ℕ → List ℚ} {ref : List ℚ}
    (g : GCtx C dims n O pt ref) (j : ℕ) (hj : j + 1 < dims) (D : List ℕ) (p : ℕ)
    (hD : ∀ s ∈ p :: D, s ∈ ids n)
    (hz : ∀ s ∈ D, (pt s).getD (j + 1) 0 ≤ (pt p).getD (j + 1) 0) :
    Hj ref pt (j + 1) (p :: D) = Hj ref pt (j + 1) D
      + (ref.getD (j + 1) 0 - (pt p).getD (j + 1) 0) * (Hj ref pt j (p :: D) - Hj ref pt j D) := by
  have hrl : j + 1 < ref.length := by rw [g.hdims]; exact hj
  have hlen1 : (ref.take (j + 1)).length = j + 1 := by rw [List.length_take]; omega
  have key := hvCells_add_top_slab_getD (ref.getD (j + 1) 0) (ref.take (j + 1)) (D.map pt) (pt p)
  rw [hlen1, ← take_succ_getD ref (j + 1) hrl, ← List.map_cons (f := pt)] at key
  refine key (fun s hs => ?_) (fun s hs => ?_) (g.le p (hD p List.mem_cons_self) (j + 1) hj)
  · obtain ⟨a, ha, rfl⟩ := List.mem_map.mp hs
    rw [g.len a (hD a ha)]; exact hj
  · obtain ⟨a, ha, rfl⟩ := List.mem_map.mp hs
    exact hz a ha

theorem Hj_dominated (ref : List ℚ) (pt : ℕ → List ℚ) (j : ℕ) (D : List ℕ) (b q : ℕ) (hb : b ∈ D)
    (hd : ∀ i ≤ j, (pt b).getD i 0 ≤ (pt q).getD i 0) : Hj ref pt j (q :: D) = Hj ref pt j D := by
  unfold Hj
  apply hvCells_dominated' _ _ (pt b) (pt q) (List.mem_map_of_mem hb)
  rw [dom_iff]
  intro i hi
  rw [List.length_take] at hi
  exact hd i (by omega)

theorem Hj_single_succ {C : Cargo} {dims n : ℕ} {O : ℕ → List ℕ} {pt : ℕ → List ℚ} {ref : List ℚ}
    (g : GCtx C dims n O pt ref) (j : ℕ) (hj : j + 1 < dims) (a : ℕ) (ha : a ∈ ids n) :
    Hj ref pt (j + 1) [a] = (ref.getD (j + 1) 0 - (pt a).getD (j + 1) 0) * Hj ref pt j [a] := by
  have := Hj_add_top g j hj [] a (by intro s hs; simp at hs; rw [hs]; exact ha) (by simp)
  rw [this, Hj_nil, Hj_nil]; ring

/-- position of a node in the static order of dimension `i` -/
def pos (O : ℕ → List ℕ) (i a : ℕ) : ℕ := (O i).idxOf a

/-- the static order of dimension `i` restricted to the node set `A` -/
def RL (O : ℕ → List ℕ) (i : ℕ) (A : List ℕ) : List ℕ := (O i).filter (fun a => decide (a ∈ A))

/-- the nodes of `A` at or before `a` in dimension `i` -/
def preSet (O : ℕ → List ℕ) (i : ℕ) (A : List ℕ) (a : ℕ) : List ℕ :=
  A.filter (fun b => decide (pos O i b ≤ pos O i a))

theorem mem_RL (O : ℕ → List ℕ) (i : ℕ) (A : List ℕ) (a : ℕ) : a ∈ RL O i A ↔ a ∈ O i ∧ a ∈ A := by
  unfold RL; simp

theorem mem_preSet (O : ℕ → List ℕ) (i : ℕ) (A : List ℕ) (a b : ℕ) :
    b ∈ preSet O i A a ↔ b ∈ A ∧ pos O i b ≤ pos O i a := by
  unfold preSet; simp

theorem RL_congr (O : ℕ → List ℕ) (i : ℕ) (A B : List ℕ) (h : ∀ a, a ∈ A ↔ a ∈ B) : RL O i A = RL O i B := by
  apply List.filter_congr
  intro a _
  simp [h a]

theorem idxOf_lt_of_sublist_pair : ∀ (L : List ℕ) (b a : ℕ), L.Nodup → [b, a].Sublist L → L.idxOf b < L.idxOf a
  | [], b, a, _, h => by simp at h
  | x :: L, b, a, hnd, h => by
    have hnd' := List.nodup_cons.mp hnd
    cases h with
    | cons _ h' =>
      have hb : b ∈ L := h'.subset (by simp)
      have ha : a ∈ L := h'.subset (by simp)
      have hxb : x ≠ b := fun e => hnd'.1 (e ▸ hb)
      have hxa : x ≠ a := fun e => hnd'.1 (e ▸ ha)
      rw [List.idxOf_cons_ne _ hxb, List.idxOf_cons_ne _ hxa]
      have := idxOf_lt_of_sublist_pair L b a hnd'.2 h'
      omega
    | cons_cons _ h' =>
      have ha : a ∈ L := h'.subset (by simp)
      have hxa : x ≠ a := fun e => hnd'.1 (e ▸ ha)
      rw [List.idxOf_cons_self, List.idxOf_cons_ne _ hxa]
      omega

theorem pos_lt_of_split (O : ℕ → List ℕ) (i : ℕ) (hnd : (O i).Nodup) (L l₁ l₂ : List ℕ) (a : ℕ)
    (hsub : L.Sublist (O i)) (hL : L = l₁ ++ a :: l₂) :
    (∀ b ∈ l₁, pos O i b < pos O i a) ∧ (∀ b ∈ l₂, pos O i a < pos O i b) := by
  subst hL
  exact ⟨fun b hb => idxOf_lt_of_sublist_pair (O i) b a hnd
      (((List.singleton_sublist.mpr hb).append (List.singleton_sublist.mpr List.mem_cons_self)).trans hsub),
    fun b hb => idxOf_lt_of_sublist_pair (O i) a b hnd
      (((List.Sublist.cons_cons a (List.singleton_sublist.mpr hb)).trans (List.sublist_append_right l₁ _)).trans hsub)⟩

theorem pos_inj (O : ℕ → List ℕ) (i a b : ℕ) (ha : a ∈ O i) (_hb : b ∈ O i) (h : pos O i a = pos O i b) : a = b :=
  (List.idxOf_inj ha).mp h

section sorted
variable {f : ℕ → ℚ} {L : List ℕ} (hs : L.Pairwise (fun a b => f a ≤ f b)) {a b : ℕ} (ha : a ∈ L) (hb : b ∈ L)
include hs ha hb

/-- in a list sorted by the key `f`, positions and keys go together -/
theorem le_of_idxOf_le (h : L.idxOf b ≤ L.idxOf a) : f b ≤ f a := by
  rcases Nat.lt_or_ge (L.idxOf b) (L.idxOf a) with hlt | hge
  · have hla := List.idxOf_lt_length_of_mem ha
    have hlb := List.idxOf_lt_length_of_mem hb
    have := List.pairwise_iff_getElem.mp hs (L.idxOf b) (L.idxOf a) hlb hla hlt
    rwa [List.getElem_idxOf hlb, List.getElem_idxOf hla] at this
  · rw [(List.idxOf_inj ha).mp (by omega : L.idxOf a = L.idxOf b)]

theorem idxOf_lt_of_lt (h : f a < f b) : L.idxOf a < L.idxOf b := by
  by_contra hc
  have := le_of_idxOf_le hs ha hb (by omega)
  linarith

end sorted

section ctx
variable {C : Cargo} {dims n : ℕ} {O : ℕ → List ℕ} {pt : ℕ → List ℚ} {ref : List ℚ}

theorem GCtx.nodup (g : GCtx C dims n O pt ref) {i : ℕ} (hi : i < dims) : (O i).Nodup :=
  (g.perm i hi).nodup_iff.mpr (ids_nodup n)

theorem GCtx.mem (g : GCtx C dims n O pt ref) {i : ℕ} (hi : i < dims) (a : ℕ) : a ∈ O i ↔ a ∈ ids n :=
  (g.perm i hi).mem_iff

theorem GCtx.cg_le_of_pos (g : GCtx C dims n O pt ref) {i : ℕ} (hi : i < dims) {a b : ℕ} (ha : a ∈ O i) (hb : b ∈ O i)
    (h : pos O i b ≤ pos O i a) : cg C b i ≤ cg C a i :=
  le_of_idxOf_le (g.sorted i hi) ha hb h

theorem GCtx.pos_lt_of_cg_lt (g : GCtx C dims n O pt ref) {i : ℕ} (hi : i < dims) {a b : ℕ} (ha : a ∈ O i) (hb : b ∈ O i)
    (h : cg C a i < cg C b i) : pos O i a < pos O i b :=
  idxOf_lt_of_lt (g.sorted i hi) ha hb h

theorem RL_sublist (O : ℕ → List ℕ) (i : ℕ) (A : List ℕ) : (RL O i A).Sublist (O i) := List.filter_sublist

/-- the prefix of the restricted list up to a node is its `preSet` -/
theorem mem_preSet_of_split (g : GCtx C dims n O pt ref) {i : ℕ} (hi : i < dims) (A : List ℕ)
    (hA : ∀ a ∈ A, a ∈ ids n) (l₁ l₂ : List ℕ) (a : ℕ) (hL : RL O i A = l₁ ++ a :: l₂) (b : ℕ) :
    b ∈ preSet O i A a ↔ b ∈ l₁ ++ [a] := by
  obtain ⟨h1, h2⟩ := pos_lt_of_split O i (g.nodup hi) (RL O i A) l₁ l₂ a (RL_sublist O i A) hL
  rw [mem_preSet]
  constructor
  · rintro ⟨hbA, hpos⟩
    have hbL : b ∈ RL O i A := (mem_RL O i A b).mpr ⟨(g.mem hi b).mpr (hA b hbA), hbA⟩
    rw [hL] at hbL
    rcases List.mem_append.mp hbL with h | h
    · exact List.mem_append_left _ h
    · rcases List.mem_cons.mp h with h | h
      · rw [h]; simp
      · have := h2 b h; omega
  · intro hb
    rcases List.mem_append.mp hb with h | h
    · have hbL : b ∈ RL O i A := by rw [hL]; exact List.mem_append_left _ h
      exact ⟨((mem_RL O i A b).mp hbL).2, le_of_lt (h1 b h)⟩
    · simp at h
      have haL : a ∈ RL O i A := by rw [hL]; simp
      rw [h]
      exact ⟨((mem_RL O i A a).mp haL).2, le_refl _⟩

theorem mem_preSet_succ (g : GCtx C dims n O pt ref) {i : ℕ} (hi : i < dims) (A : List ℕ)
    (hA : ∀ a ∈ A, a ∈ ids n) (l₁ l₂ : List ℕ) (a a' : ℕ) (hL : RL O i A = l₁ ++ a :: a' :: l₂) (b : ℕ) :
    b ∈ preSet O i A a' ↔ b ∈ a' :: preSet O i A a := by
  rw [mem_preSet_of_split g hi A hA (l₁ ++ [a]) l₂ a' (by rw [hL]; simp) b, List.mem_cons,
    mem_preSet_of_split g hi A hA l₁ (a' :: l₂) a hL b, List.mem_append, List.mem_singleton, or_comm]

/-- `area[a][j+1]` should be: the `j+1`-dimensional (coordinates `0..j`) hypervolume of the nodes at or before `a` -/
def ARv (ref : List ℚ) (pt : ℕ → List ℚ) (O : ℕ → List ℕ) (j : ℕ) (A : List ℕ) (a : ℕ) : ℚ :=
  Hj ref pt j (preSet O (j + 1) A a)

/-- `volume[a][j+1]` should be: the volume of the slabs strictly before `a` -/
def VOLv (C : Cargo) (ref : List ℚ) (pt : ℕ → List ℚ) (O : ℕ → List ℕ) (j : ℕ) (A : List ℕ) (a : ℕ) : ℚ :=
  Hj ref pt (j + 1) (preSet O (j + 1) A a) + ARv ref pt O j A a * cg C a (j + 1)

theorem preSet_congr (O : ℕ → List ℕ) (i : ℕ) (A B : List ℕ) (a : ℕ)
    (h : ∀ b, pos O i b ≤ pos O i a → (b ∈ A ↔ b ∈ B)) : ∀ b, b ∈ preSet O i A a ↔ b ∈ preSet O i B a := by
  intro b
  rw [mem_preSet, mem_preSet]
  constructor
  · rintro ⟨h1, h2⟩; exact ⟨(h b h2).mp h1, h2⟩
  · rintro ⟨h1, h2⟩; exact ⟨(h b h2).mpr h1, h2⟩

theorem ARv_congr (O : ℕ → List ℕ) (j : ℕ) (A B : List ℕ) (a : ℕ)
    (h : ∀ b, pos O (j + 1) b ≤ pos O (j + 1) a → (b ∈ A ↔ b ∈ B)) : ARv ref pt O j A a = ARv ref pt O j B a :=
  Hj_congr ref pt j _ _ (preSet_congr O (j + 1) A B a h)

theorem VOLv_congr (O : ℕ → List ℕ) (j : ℕ) (A B : List ℕ) (a : ℕ)
    (h : ∀ b, pos O (j + 1) b ≤ pos O (j + 1) a → (b ∈ A ↔ b ∈ B)) : VOLv C ref pt O j A a = VOLv C ref pt O j B a := by
  unfold VOLv
  rw [ARv_congr O j A B a h, Hj_congr ref pt (j + 1) _ _ (preSet_congr O (j + 1) A B a h)]

theorem ARv_single (ref : List ℚ) (pt : ℕ → List ℚ) (O : ℕ → List ℕ) (j a : ℕ) : ARv ref pt O j [a] a = Hj ref pt j [a] :=
  Hj_congr ref pt j _ _ fun b => by
    rw [mem_preSet]
    exact ⟨fun h => h.1, fun h => ⟨h, by rw [List.mem_singleton.mp h]⟩⟩

/-- the ideal `area` of a node at a split of the list of its level: the hypervolume, one dimension down, of the nodes up
to it -/
theorem ARv_of_split (g : GCtx C dims n O pt ref) {j : ℕ} (hj : j + 1 < dims) {A : List ℕ} (hA : ∀ a ∈ A, a ∈ ids n)
    {l₁ l₂ : List ℕ} {a : ℕ} (hL : RL O (j + 1) A = l₁ ++ a :: l₂) : ARv ref pt O j A a = Hj ref pt j (l₁ ++ [a]) :=
  Hj_congr ref pt j _ _ (mem_preSet_of_split g hj A hA l₁ l₂ a hL)

theorem VOLv_of_split (g : GCtx C dims n O pt ref) {j : ℕ} (hj : j + 1 < dims) {A : List ℕ} (hA : ∀ a ∈ A, a ∈ ids n)
    {l₁ l₂ : List ℕ} {a : ℕ} (hL : RL O (j + 1) A = l₁ ++ a :: l₂) :
    VOLv C ref pt O j A a = Hj ref pt (j + 1) (l₁ ++ [a]) + Hj ref pt j (l₁ ++ [a]) * cg C a (j + 1) := by
  unfold VOLv
  rw [ARv_of_split g hj hA hL, Hj_congr ref pt (j + 1) _ _ (mem_preSet_of_split g hj A hA l₁ l₂ a hL)]

/-- the value of the level is read off the caches of the last node -/
theorem Hj_of_last (g : GCtx C dims n O pt ref) (j : ℕ) (hj : j + 1 < dims) (A : List ℕ) (hA : ∀ a ∈ A, a ∈ ids n)
    (l₁ : List ℕ) (a : ℕ) (hL : RL O (j + 1) A = l₁ ++ [a]) :
    VOLv C ref pt O j A a - ARv ref pt O j A a * cg C a (j + 1) = Hj ref pt (j + 1) A := by
  rw [VOLv_of_split g hj hA hL, ARv_of_split g hj hA hL, add_sub_cancel_right]
  refine Hj_congr ref pt (j + 1) _ _ fun b => ?_
  rw [← hL, mem_RL]
  exact ⟨fun h => h.2, fun h => ⟨(g.mem hj b).mpr (hA b h), h⟩⟩

theorem caches_of_first (g : GCtx C dims n O pt ref) (j : ℕ) (hj : j + 1 < dims) (A : List ℕ) (hA : ∀ a ∈ A, a ∈ ids n)
    (a : ℕ) (l₂ : List ℕ) (hL : RL O (j + 1) A = a :: l₂) :
    ARv ref pt O j A a = Hj ref pt j [a] ∧ VOLv C ref pt O j A a = 0 := by
  have haI : a ∈ ids n := hA a ((mem_RL O (j + 1) A a).mp (by rw [hL]; simp)).2
  refine ⟨ARv_of_split g hj hA (l₁ := []) hL, ?_⟩
  rw [VOLv_of_split g hj hA (l₁ := []) hL]
  show Hj ref pt (j + 1) [a] + Hj ref pt j [a] * cg C a (j + 1) = 0
  rw [Hj_single_succ g j hj a haI, g.cgv a haI (j + 1) hj]
  ring

/-- from one node of the list of level `j + 1` to the next: one more slab -/
theorem caches_step (g : GCtx C dims n O pt ref) (j : ℕ) (hj : j + 1 < dims) (A : List ℕ) (hA : ∀ a ∈ A, a ∈ ids n)
    (l₁ l₂ : List ℕ) (a a' : ℕ) (hL : RL O (j + 1) A = l₁ ++ a :: a' :: l₂) :
    VOLv C ref pt O j A a' = VOLv C ref pt O j A a + ARv ref pt O j A a * (cg C a' (j + 1) - cg C a (j + 1)) := by
  have hL' : RL O (j + 1) A = (l₁ ++ [a]) ++ a' :: l₂ := by rw [hL]; simp
  have hm1 := mem_preSet_of_split g hj A hA l₁ (a' :: l₂) a hL
  have hmem := mem_preSet_succ g hj A hA l₁ l₂ a a' hL
  have haL : ∀ x ∈ RL O (j + 1) A, x ∈ ids n := fun x hx => hA x ((mem_RL O (j + 1) A x).mp hx).2
  have ha'I : a' ∈ ids n := haL a' (by rw [hL]; simp)
  have hpreI : ∀ s ∈ a' :: preSet O (j + 1) A a, s ∈ ids n := by
    intro s hs
    rcases List.mem_cons.mp hs with rfl | hs
    · exact ha'I
    · exact hA s ((mem_preSet O (j + 1) A a s).mp hs).1
  obtain ⟨hp1, _⟩ := pos_lt_of_split O (j + 1) (g.nodup hj) (RL O (j + 1) A) (l₁ ++ [a]) l₂ a' (RL_sublist O (j + 1) A) hL'
  have hz : ∀ s ∈ preSet O (j + 1) A a, (pt s).getD (j + 1) 0 ≤ (pt a').getD (j + 1) 0 := by
    intro s hs
    have hsI : s ∈ ids n := hA s ((mem_preSet O (j + 1) A a s).mp hs).1
    have hsl : s ∈ l₁ ++ [a] := (hm1 s).mp hs
    have hle := g.cg_le_of_pos hj ((g.mem hj a').mpr ha'I) ((g.mem hj s).mpr hsI) (le_of_lt (hp1 s hsl))
    rw [g.cgv s hsI (j + 1) hj, g.cgv a' ha'I (j + 1) hj] at hle
    linarith
  have hstep := Hj_add_top g j hj (preSet O (j + 1) A a) a' hpreI hz
  unfold VOLv ARv
  rw [Hj_congr ref pt (j + 1) _ _ hmem, Hj_congr ref pt j _ _ hmem, hstep, g.cgv a' ha'I (j + 1) hj]
  ring

end ctx

end HvSweep
