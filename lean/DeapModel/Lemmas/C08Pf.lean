/-
C08 — the Pareto archive: dominance `Dom` on weighted value tuples (irreflexive, transitive at equal lengths), the scan
of `ParetoFront.update` over the members, and the invariants of one iteration under `PfHyp`: members mutually
non-dominated (`Anti`), no two equal-fitness similar members (`NoTwin`), every individual seen dominated by or twin of
a member (`Cover`).
-/
import DeapModel.Lemmas.C08HofInv
import DeapModel.Lemmas.ListFacts

namespace C08L
open Archive
open Fitness (Fit)

variable {G α : Type} [LinearOrder α]

/-- Pareto dominance on weighted value tuples: nowhere worse, somewhere better. -/
def Dom (a b : List α) : Prop :=
  (∀ i (h1 : i < a.length) (h2 : i < b.length), b[i] ≤ a[i]) ∧
  ∃ i, ∃ (h1 : i < a.length) (h2 : i < b.length), b[i] < a[i]

set_option linter.unusedSectionVars false in
theorem mem_zip_iff (a b : List α) (p : α × α) :
    p ∈ a.zip b ↔ ∃ i, ∃ (h1 : i < a.length) (h2 : i < b.length), p = (a[i], b[i]) := by
  rw [List.mem_iff_getElem]
  constructor
  · rintro ⟨i, hi, rfl⟩
    rw [List.length_zip] at hi
    exact ⟨i, by omega, by omega, List.getElem_zip⟩
  · rintro ⟨i, h1, h2, rfl⟩
    exact ⟨i, by rw [List.length_zip]; omega, List.getElem_zip⟩

theorem dom_iff (a b : Fit α) : dom a b = true ↔ Dom a.wvalues b.wvalues := by
  simp only [dom, Fitness.dominates, Gen01L.pySlice_range, C01.dominatesLoop_iff, Bool.false_eq_true, false_or, Dom,
    mem_zip_iff]
  constructor
  · rintro ⟨h1, p, ⟨i, i1, i2, rfl⟩, h2⟩
    exact ⟨fun j j1 j2 => h1 _ ⟨j, j1, j2, rfl⟩, i, i1, i2, h2⟩
  · rintro ⟨h1, i, i1, i2, h2⟩
    exact ⟨fun p ⟨j, j1, j2, e⟩ => e ▸ h1 j j1 j2, _, ⟨i, i1, i2, rfl⟩, h2⟩

theorem Dom.irrefl (a : List α) : ¬ Dom a a := by
  rintro ⟨_, i, h1, h2, h⟩
  exact lt_irrefl _ h

theorem Dom.trans {a b c : List α} (hab : a.length = b.length) (hbc : b.length = c.length)
    (h1 : Dom a b) (h2 : Dom b c) : Dom a c := by
  obtain ⟨w1, i, i1, i2, s1⟩ := h1
  obtain ⟨w2, _⟩ := h2
  refine ⟨fun j j1 j2 => le_trans (w2 j (by omega) j2) (w1 j j1 (by omega)), i, i1, by omega, ?_⟩
  exact lt_of_le_of_lt (w2 i i2 (by omega)) s1

theorem dom_irrefl (a : Fit α) : dom a a = false := C01.dominates_irrefl a _

theorem dom_trans {n : Nat} {a b c : Fit α} (ha : a.wvalues.length = n) (hb : b.wvalues.length = n)
    (hc : c.wvalues.length = n) (h1 : dom a b = true) (h2 : dom b c = true) : dom a c = true :=
  (dom_iff a c).2 (Dom.trans (by omega) (by omega) ((dom_iff a b).1 h1) ((dom_iff b c).1 h2))

variable (sim : Ind G α → Ind G α → Bool) (ind : Ind G α)

/-- Unconditionally: the scan appends a strictly increasing list of valid positions to `to_remove`. -/
theorem scan_toRemove (l : List (Ind G α)) (i : Nat) (s : Scan) :
    ∃ extra, (scan sim ind l i s).toRemove = s.toRemove ++ extra ∧ extra.Pairwise (· < ·) ∧
      ∀ j ∈ extra, i ≤ j ∧ j < i + l.length := by
  induction l generalizing i s with
  | nil => exact ⟨[], (List.append_nil _).symm, List.Pairwise.nil, nofun⟩
  | cons hofer rest ih =>
    have stop : ∀ s' : Scan, s'.toRemove = s.toRemove → ∃ extra, s'.toRemove = s.toRemove ++ extra ∧
        extra.Pairwise (· < ·) ∧ ∀ j ∈ extra, i ≤ j ∧ j < i + (hofer :: rest).length :=
      fun s' e => ⟨[], e.trans (List.append_nil _).symm, List.Pairwise.nil, nofun⟩
    have next : ∀ j, i + 1 ≤ j ∧ j < i + 1 + rest.length → i ≤ j ∧ j < i + (hofer :: rest).length :=
      fun j hj => by rw [List.length_cons]; omega
    rw [scan]
    by_cases h1 : (!s.dominatesOne && dom hofer.fit ind.fit) = true
    · rw [if_pos h1]; exact stop _ rfl
    · rw [if_neg h1]
      by_cases h2 : dom ind.fit hofer.fit = true
      · rw [if_pos h2]
        obtain ⟨ex, e1, e2, e3⟩ := ih (i + 1) { s with dominatesOne := true, toRemove := s.toRemove ++ [i] }
        refine ⟨i :: ex, by rw [e1, List.append_assoc]; rfl,
          List.pairwise_cons.2 ⟨fun j hj => (e3 j hj).1, e2⟩,
          List.forall_mem_cons.2 ⟨⟨Nat.le_refl _, by rw [List.length_cons]; omega⟩, fun j hj => next j (e3 j hj)⟩⟩
      · rw [if_neg h2]
        by_cases h3 : (Fitness.eq ind.fit hofer.fit && sim ind hofer) = true
        · rw [if_pos h3]; exact stop _ rfl
        · rw [if_neg h3]
          obtain ⟨ex, e1, e2, e3⟩ := ih (i + 1) s
          exact ⟨ex, e1, e2, fun j hj => next j (e3 j hj)⟩

theorem scan_stop (l : List (Ind G α)) (i : Nat) (s : Scan) (h1 : ∀ x ∈ l, dom ind.fit x.fit = false)
    (h2 : ∃ x ∈ l, (!s.dominatesOne && dom x.fit ind.fit) = true ∨ (Fitness.eq ind.fit x.fit && sim ind x) = true) :
    (scan sim ind l i s).toRemove = s.toRemove ∧
      (!(scan sim ind l i s).isDominated && !(scan sim ind l i s).hasTwin) = false := by
  induction l generalizing i with
  | nil => obtain ⟨_, hx, _⟩ := h2; cases hx
  | cons hofer rest ih =>
    rw [scan]
    by_cases hd : (!s.dominatesOne && dom hofer.fit ind.fit) = true
    · rw [if_pos hd]; exact ⟨rfl, rfl⟩
    · rw [if_neg hd, if_neg (by rw [h1 hofer List.mem_cons_self]; exact Bool.false_ne_true)]
      by_cases ht : (Fitness.eq ind.fit hofer.fit && sim ind hofer) = true
      · rw [if_pos ht]; exact ⟨rfl, Bool.and_false _⟩
      · rw [if_neg ht]
        obtain ⟨x, hx, hc⟩ := h2
        rcases List.mem_cons.1 hx with rfl | hx
        · exact absurd hc (not_or.2 ⟨hd, ht⟩)
        · exact ih (i + 1) (fun y hy => h1 y (List.mem_cons_of_mem _ hy)) ⟨x, hx, hc⟩

/-- A scan that meets neither a dominator of `ind` nor a twin runs through the whole list and records the positions
`ind` dominates. -/
theorem scan_through (l : List (Ind G α)) (i : Nat) (s : Scan)
    (h1 : ∀ x ∈ l, dom x.fit ind.fit = false)
    (h2 : ∀ x ∈ l, (Fitness.eq ind.fit x.fit && sim ind x) = false) :
    (scan sim ind l i s).isDominated = s.isDominated ∧ (scan sim ind l i s).hasTwin = s.hasTwin ∧
    (scan sim ind l i s).toRemove = s.toRemove ++ idxs (fun x => dom ind.fit x.fit) l i := by
  induction l generalizing i s with
  | nil => simp [scan, idxs]
  | cons hofer rest ih =>
    simp only [scan, h1 hofer (by simp), Bool.and_false, Bool.false_eq_true, ↓reduceIte,
      h2 hofer (by simp), idxs]
    have r1 : ∀ x ∈ rest, dom x.fit ind.fit = false := fun x hx => h1 x (by simp [hx])
    have r2 : ∀ x ∈ rest, (Fitness.eq ind.fit x.fit && sim ind x) = false := fun x hx => h2 x (by simp [hx])
    split
    · obtain ⟨a, b, c⟩ := ih (i + 1) { s with dominatesOne := true, toRemove := s.toRemove ++ [i] } r1 r2
      exact ⟨a, b, by rw [c]; simp⟩
    · exact ih (i + 1) s r1 r2

variable {base : Nat} {seen : List (Ind G α)} {h : HoF G α}

set_option linter.unusedSectionVars false in
theorem Origin.len {n : Nat} (ho : Origin seen h) (hlen : ∀ x ∈ seen, x.fit.wvalues.length = n) :
    ∀ it ∈ h.items, it.fit.wvalues.length = n := fun it hit =>
  let ⟨x, hx, sx⟩ := ho it hit
  sx.2 ▸ hlen x hx

theorem removeAll_spec (js : List Nat) (h : HoF G α)
    (hs : Str base seen h) (hd : js.Pairwise (· > ·)) (hlt : ∀ j ∈ js, j < h.items.length) :
    ∃ h', removeAll h js = some h' ∧ Str base seen h' ∧ h'.items = js.foldl List.eraseIdx h.items := by
  induction js generalizing h with
  | nil => exact ⟨h, rfl, hs, rfl⟩
  | cons j js ih =>
    rw [List.pairwise_cons] at hd
    have hj := hlt j (by simp)
    simp only [removeAll, (remove_spec h _ _ (Gen08L.pyIndex_nat hj)).2]
    exact ih (erased h j) (erased_str hs j hj) hd.2 (fun j' hj' => by
      have := hd.1 j' hj'
      rw [length_erased h j hj]; omega)

theorem foldl_eraseIdx_sublist {β : Type} (js : List Nat) (l : List β) :
    (js.foldl List.eraseIdx l).Sublist l :=
  List.foldl_eraseIdx_sublist js l

theorem pfStep_removals (hs : Str base seen h) :
    ∃ h1, removeAll h (scan sim ind h.items 0 {}).toRemove.reverse = some h1 ∧ Str base seen h1 ∧
      h1.items = (scan sim ind h.items 0 {}).toRemove.reverse.foldl List.eraseIdx h.items := by
  obtain ⟨ex, e1, e2, e3⟩ := scan_toRemove sim ind h.items 0 {}
  rw [show (scan sim ind h.items 0 {}).toRemove = ex from e1]
  exact removeAll_spec ex.reverse h hs (List.pairwise_reverse.2 e2)
    (fun j hj => by have := e3 j (List.mem_reverse.1 hj); omega)

theorem pfStep_str (hs : Str base seen h) :
    ∃ h', pfStep sim h ind = some h' ∧ Str base (seen ++ [ind]) h' := by
  obtain ⟨h1, r1, r2, _⟩ := pfStep_removals sim ind hs
  have r2' : Str base (seen ++ [ind]) h1 := r2.mono (fun x hx => by simp [hx])
  simp only [pfStep, r1]
  split
  · exact ⟨_, rfl, insert_str r2' ind (by simp)⟩
  · exact ⟨_, rfl, r2'⟩

/-- Hypotheses for the Pareto archive: the similarity operator is reflexive and symmetric and does
not look at object identity; every fitness of the universe `U` has `n` objectives. -/
structure PfHyp (sim : Ind G α → Ind G α → Bool) (n : Nat) (U : List (Ind G α)) : Prop extends SimBase sim where
  len : ∀ x ∈ U, x.fit.wvalues.length = n

def Twin (sim : Ind G α → Ind G α → Bool) (a b : Ind G α) : Prop := a.fit = b.fit ∧ sim a b = true

def Anti (h : HoF G α) : Prop := ∀ a ∈ h.items, ∀ b ∈ h.items, dom a.fit b.fit = false

def NoTwin (sim : Ind G α → Ind G α → Bool) (h : HoF G α) : Prop :=
  h.items.Pairwise (fun a b => ¬ Twin sim a b)

def Cover (sim : Ind G α → Ind G α → Bool) (seen : List (Ind G α)) (h : HoF G α) : Prop :=
  ∀ x ∈ seen, (∃ it ∈ h.items, dom it.fit x.fit = true) ∨ (∃ it ∈ h.items, Twin sim x it)

variable {sim} {ind}

theorem eqtwin_iff (x y : Ind G α) :
    (Fitness.eq x.fit y.fit && sim x y) = true ↔ Twin sim x y := by
  simp [Twin, eq_iff]

theorem Cover.snoc (hc : Cover sim seen h)
    (hi : (∃ it ∈ h.items, dom it.fit ind.fit = true) ∨ (∃ it ∈ h.items, Twin sim ind it)) :
    Cover sim (seen ++ [ind]) h := by
  intro x hx
  rw [List.mem_append, List.mem_singleton] at hx
  rcases hx with hx | rfl
  · exact hc x hx
  · exact hi

theorem pfStep_cases {n : Nat} (hs : Str base seen h)
    (hanti : Anti h) (hlen : ∀ it ∈ h.items, it.fit.wvalues.length = n) (hlen_ind : ind.fit.wvalues.length = n) :
    (pfStep sim h ind = some h ∧ ∃ hofer ∈ h.items, dom hofer.fit ind.fit = true) ∨
    (pfStep sim h ind = some h ∧ ∃ t ∈ h.items, Twin sim ind t) ∨
    (∃ h1, pfStep sim h ind = some (insert h1 ind) ∧
      h1.items = h.items.filter (fun x => !dom ind.fit x.fit) ∧
      (∀ x ∈ h.items, dom x.fit ind.fit = false) ∧ ∀ x ∈ h.items, ¬ Twin sim ind x) := by
  have stop : (∀ x ∈ h.items, dom ind.fit x.fit = false) →
      (∃ x ∈ h.items, (!({} : Scan).dominatesOne && dom x.fit ind.fit) = true ∨
        (Fitness.eq ind.fit x.fit && sim ind x) = true) → pfStep sim h ind = some h := fun h1 h2 => by
    obtain ⟨ht, hc⟩ := scan_stop sim ind h.items 0 {} h1 h2
    simp only [pfStep, show (scan sim ind h.items 0 {}).toRemove = [] from ht, List.reverse_nil, removeAll, hc,
      Bool.false_eq_true, ↓reduceIte]
  by_cases hA : ∃ hofer ∈ h.items, dom hofer.fit ind.fit = true
  · -- by transitivity `ind` dominates no member
    obtain ⟨hofer, hhof, hdom⟩ := hA
    refine Or.inl ⟨stop (fun x hx => Bool.eq_false_iff.2 fun hq => Bool.false_ne_true
      ((hanti hofer hhof x hx).symm.trans (dom_trans (hlen _ hhof) hlen_ind (hlen _ hx) hdom hq)))
      ⟨hofer, hhof, Or.inl hdom⟩, hofer, hhof, hdom⟩
  · have hnd : ∀ x ∈ h.items, dom x.fit ind.fit = false :=
      fun x hx => Bool.eq_false_iff.2 fun hq => hA ⟨x, hx, hq⟩
    by_cases hT : ∃ t ∈ h.items, Twin sim ind t
    · -- `ind` dominates no member either: its twin has the same fitness
      obtain ⟨t, ht, htw⟩ := hT
      exact Or.inr (Or.inl ⟨stop (fun x hx => htw.1 ▸ hanti t ht x hx)
        ⟨t, ht, Or.inr ((eqtwin_iff _ _).2 htw)⟩, t, ht, htw⟩)
    · have hnt : ∀ x ∈ h.items, ¬ Twin sim ind x := fun x hx htw => hT ⟨x, hx, htw⟩
      obtain ⟨s1, s2, s3⟩ := scan_through sim ind h.items 0 {} hnd
        (fun x hx => Bool.eq_false_iff.2 fun hq => hnt x hx ((eqtwin_iff _ _).1 hq))
      obtain ⟨h1, r1, _, r4⟩ := pfStep_removals sim ind hs
      rw [show (scan sim ind h.items 0 {}).toRemove = idxs (fun x => dom ind.fit x.fit) h.items 0 from s3,
        foldl_eraseIdx_idxs] at r4
      refine Or.inr (Or.inr ⟨h1, ?_, r4, hnd, hnt⟩)
      simp only [pfStep, r1, show (scan sim ind h.items 0 {}).isDominated = false from s1,
        show (scan sim ind h.items 0 {}).hasTwin = false from s2, Bool.not_false, Bool.and_self, ↓reduceIte]

theorem pfStep_sem {n : Nat} {h' : HoF G α}
    (hlen : ∀ x ∈ seen ++ [ind], x.fit.wvalues.length = n)
    (hs : Str base seen h) (hanti : Anti h) (e : pfStep sim h ind = some h') :
    Anti h' ∧ (SimSym sim → NoTwin sim h → NoTwin sim h') ∧
      (SimBase sim → Cover sim seen h → Cover sim (seen ++ [ind]) h') := by
  have hlen_ind : ind.fit.wvalues.length = n := hlen ind (by simp)
  have hlen_it := hs.origin.len fun x hx => hlen x (List.mem_append_left _ hx)
  rcases pfStep_cases hs hanti hlen_it hlen_ind with
    ⟨e', hdom⟩ | ⟨e', htw⟩ | ⟨h1, e', hi1, hnd, hnt⟩ <;> cases e'.symm.trans e
  · exact ⟨hanti, fun _ hn => hn, fun _ hcov => hcov.snoc (Or.inl hdom)⟩
  · exact ⟨hanti, fun _ hn => hn, fun _ hcov => hcov.snoc (Or.inr htw)⟩
  · have hmem1 : ∀ x, x ∈ h1.items ↔ x ∈ h.items ∧ dom ind.fit x.fit = false := by
      intro x; rw [hi1, List.mem_filter]; simp
    have hnew : copyInd h1.next ind ∈ (insert h1 ind).items := (mem_insert _ _ _).2 (Or.inl rfl)
    have hold : ∀ it ∈ h.items, dom ind.fit it.fit = false → it ∈ (insert h1 ind).items :=
      fun it hit hq => (mem_insert _ _ _).2 (Or.inr ((hmem1 it).2 ⟨hit, hq⟩))
    refine ⟨?_, fun hh hnotwin => ?_, fun hh hcov => ?_⟩
    · intro a ha b hb
      rw [mem_insert] at ha hb
      rcases ha with rfl | ha <;> rcases hb with rfl | hb
      · exact dom_irrefl _
      · exact ((hmem1 b).1 hb).2
      · exact hnd a ((hmem1 a).1 ha).1
      · exact hanti a ((hmem1 a).1 ha).1 b ((hmem1 b).1 hb).1
    · -- a twin of the copy among the old members would be a twin of `ind`
      refine pairwise_insertAt_of_forall _ (hnotwin.sublist (hi1 ▸ List.filter_sublist))
        (fun x hx htw => ?_) (fun x hx htw => ?_) <;>
        refine hnt x ((hmem1 x).1 hx).1 ⟨?_, ?_⟩
      · exact htw.1.symm
      · rw [← sim_copy_left hh h1.next]; exact hh.symm _ _ htw.2
      · exact htw.1
      · rw [← sim_copy_left hh h1.next]; exact htw.2
    · intro x hx
      rw [List.mem_append, List.mem_singleton] at hx
      rcases hx with hx | rfl
      · -- a member covering `x` stays, or is dominated by `ind`, which then covers `x`
        have hlx : x.fit.wvalues.length = n := hlen x (by simp [hx])
        rcases hcov x hx with ⟨it, hit, hd⟩ | ⟨it, hit, ht⟩
        · cases hq : dom ind.fit it.fit with
          | false => exact Or.inl ⟨it, hold it hit hq, hd⟩
          | true => exact Or.inl ⟨_, hnew, dom_trans hlen_ind (hlen_it it hit) hlx hq hd⟩
        · cases hq : dom ind.fit it.fit with
          | false => exact Or.inr ⟨it, hold it hit hq, ht⟩
          | true => exact Or.inl ⟨_, hnew, ht.1 ▸ hq⟩
      · exact Or.inr ⟨_, hnew, rfl, by rw [sim_copy_right hh.toSimSym]; exact hh.refl x⟩

end C08L
