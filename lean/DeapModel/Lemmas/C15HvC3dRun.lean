import DeapModel.Lemmas.C15HvC3d
import DeapModel.Lemmas.C15Gen3
/-!
C15 — the 3-D base case of `_hv.c` run on a freshly set up list (`bound[2] = -DBL_MAX`): the main loop accumulates
`area of the staircase × thickness of the slab`, which is the slab decomposition of the 3-D hypervolume along the
third coordinate.
-/
namespace HvC
open Hypervolume

/-- volume dominated by the nodes `D` -/
def V3 (C : Cargo) (r₀ r₁ r₂ : ℚ) (D : List ℕ) : ℚ := hvCells [r₀, r₁, r₂] (D.map (ptOf C))

/-- the slab added by a node whose third coordinate is the largest so far -/
theorem V3_add_top (C : Cargo) (r₀ r₁ r₂ : ℚ) (pre : List ℕ) (p : ℕ)
    (hlen : ∀ a ∈ p :: pre, (ptOf C a).length = 3)
    (hz : ∀ s ∈ pre, cg C s 2 ≤ cg C p 2) (hr : cg C p 2 ≤ r₂) :
    V3 C r₀ r₁ r₂ (p :: pre) = V3 C r₀ r₁ r₂ pre
      + (r₂ - cg C p 2) * (hvCells [r₀, r₁] ((p :: pre).map (ptOf C)) - hvCells [r₀, r₁] (pre.map (ptOf C))) :=
  hvCells_add_top_slab_getD r₂ [r₀, r₁] (pre.map (ptOf C)) (ptOf C p)
    (by
      rw [← List.map_cons]
      intro s hs
      obtain ⟨a, ha, rfl⟩ := List.mem_map.mp hs
      rw [hlen a ha]; exact Nat.lt_succ_self 2)
    (by
      intro s hs
      obtain ⟨a, ha, rfl⟩ := List.mem_map.mp hs
      exact hz a ha) hr

open HvSweep (Hj) in
/-- **the value kept by the sweep along the third coordinate**: `hv + ha · (r₂ − z)` is the volume dominated by the
processed nodes, `ha` their area; when the node `p` (third coordinate `z`, the largest so far) joins them, the same
holds with the new area `ha'`, by the slab step -/
theorem val_step {ref : List ℚ} {pt : ℕ → List ℚ} {pre : List ℕ} {p : ℕ} {hv ha ha' z : ℚ}
    (hslab : Hj ref pt 2 (p :: pre)
      = Hj ref pt 2 pre + (ref.getD 2 0 - z) * (Hj ref pt 1 (p :: pre) - Hj ref pt 1 pre))
    (hA : ha = Hj ref pt 1 pre) (hA' : ha' = Hj ref pt 1 (pre ++ [p]))
    (hval : hv + ha * (ref.getD 2 0 - z) = Hj ref pt 2 pre) :
    hv + ha' * (ref.getD 2 0 - z) = Hj ref pt 2 (pre ++ [p]) := by
  have hcons : ∀ j, Hj ref pt j (pre ++ [p]) = Hj ref pt j (p :: pre) := fun j =>
    HvSweep.Hj_congr ref pt j _ _ (fun a => by simp [or_comm])
  rw [hcons 2, hslab, ← hcons 1, ← hA', ← hA, ← hval]
  ring

/-- what the main loop keeps about the tree: a staircase of processed nodes that covers all processed nodes -/
structure TreeInv (C : Cargo) (r₀ r₁ : ℚ) (S : St) (pre : List ℕ) (hypera : ℚ) : Prop where
  ne : S.tree ≠ []
  nodup : S.tree.Nodup
  sub : ∀ t ∈ S.tree, t ∈ pre
  stair : Stair (S.tree.map (item C))
  cover : ∀ q ∈ pre, ∃ t ∈ S.tree, (item C t).1 ≤ (item C q).1 ∧ (item C t).2 ≤ (item C q).2
  area : hypera = hArea r₀ r₁ (S.tree.map (item C))

/-- the strip sum kept in `hypera` is the area dominated by the processed nodes, in whatever form `pt` the points are
given as long as their first two coordinates are the node's -/
theorem TreeInv.area_eq {C : Cargo} {r₀ r₁ : ℚ} {S : St} {pre : List ℕ} {hypera : ℚ} (h : TreeInv C r₀ r₁ S pre hypera)
    (hlt : ∀ a ∈ pre, (item C a).1 < r₀ ∧ (item C a).2 < r₁) (pt : ℕ → Pt)
    (hpt : ∀ a ∈ pre, (pt a).take 2 = toPt (item C a)) : hypera = hvCells [r₀, r₁] (pre.map pt) := by
  rw [h.area, stair_area r₀ r₁ _ h.stair (by
    intro t ht
    obtain ⟨a, ha, rfl⟩ := List.mem_map.mp ht
    have := hlt a (h.sub a ha)
    exact ⟨le_of_lt this.1, le_of_lt this.2⟩), ← hvCells_take [r₀, r₁] (pre.map pt), List.map_map, List.map_map,
    List.map_congr_left (f := (fun p => p.take [r₀, r₁].length) ∘ pt) (g := toPt ∘ item C) hpt]
  symm
  apply hvCells_eq_of_cover
  · intro t ht
    obtain ⟨a, ha, rfl⟩ := List.mem_map.mp ht
    exact List.mem_map.mpr ⟨a, h.sub a ha, rfl⟩
  · intro p hp
    obtain ⟨q, hq, rfl⟩ := List.mem_map.mp hp
    obtain ⟨t, ht, hd⟩ := h.cover q hq
    exact ⟨_, List.mem_map.mpr ⟨t, ht, rfl⟩, hd.1, hd.2, trivial⟩

theorem TreeInv.step {C : Cargo} {r₀ r₁ : ℚ} {S S' : St} {pre : List ℕ} {p : ℕ} {hypera hypera' : ℚ}
    (h : TreeInv C r₀ r₁ S pre hypera) (hne : S'.tree ≠ []) (hnd : S'.tree.Nodup)
    (hsub : ∀ t ∈ S'.tree, t = p ∨ t ∈ S.tree) (hst : Stair (S'.tree.map (item C)))
    (hcov : ∀ q, (q = p ∨ q ∈ S.tree) → ∃ t ∈ S'.tree, (item C t).1 ≤ (item C q).1 ∧ (item C t).2 ≤ (item C q).2)
    (harea : hypera' = hArea r₀ r₁ (S'.tree.map (item C))) : TreeInv C r₀ r₁ S' (pre ++ [p]) hypera' := by
  refine ⟨hne, hnd, fun t ht => ?_, hst, fun q hq => ?_, harea⟩
  · rcases hsub t ht with rfl | h'
    · simp
    · exact List.mem_append_left _ (h.sub t h')
  · rcases List.mem_append.mp hq with hq | hq
    · obtain ⟨t, ht, hd⟩ := h.cover q hq
      obtain ⟨t', ht', hd'⟩ := hcov t (Or.inr ht)
      exact ⟨t', ht', le_trans hd'.1 hd.1, le_trans hd'.2 hd.2⟩
    · exact hcov q (Or.inl (List.mem_singleton.mp hq))

theorem zOf_ge (C : Cargo) {r₂ : ℚ} {p : ℕ} {rest : List ℕ} (h1 : cg C p 2 ≤ r₂) (h2 : ∀ q ∈ rest, cg C p 2 ≤ cg C q 2) :
    cg C p 2 ≤ zOf C r₂ rest := by
  cases rest with
  | nil => exact h1
  | cons q _ => exact h2 q (by simp)

theorem TreeInv.length_le {C : Cargo} {r₀ r₁ : ℚ} {S : St} {pre : List ℕ} {hypera : ℚ} (h : TreeInv C r₀ r₁ S pre hypera) :
    S.tree.length ≤ pre.length :=
  (List.subperm_of_subset h.nodup h.sub).length_le

theorem hgt_eq (C : Cargo) (R : List ℚ) (n : ℕ) (S : St) (pre rest : List ℕ) (p : ℕ) (hD : DLc n S 2 (pre ++ p :: rest)) :
    hgt C R S p = zOf C (rf R 2) rest - cg C p 2 ∧ nx S 2 p = rest.headD 0 ∧ p ≠ 0 := by
  have hndL : (pre ++ p :: rest).Nodup := hD.2.1
  have hp0 : p ≠ 0 := by
    have := (hD.2.2 p (by simp)).1
    omega
  have hprest : p ∉ rest := (List.nodup_cons.mp (List.nodup_append.mp hndL).2.1).1
  have hnx := (seg_pv_nx S 2 pre p rest hD.1).2
  have hlast : pv S 2 0 = (p :: rest).getLast (by simp) := by
    have := HvSweep.seg_pv_end (toSw S) 2 (pre ++ p :: rest) 0 0 hD.1
    rw [show HvSweep.pv (toSw S) 2 0 = pv S 2 0 from rfl] at this
    rw [this, List.getLast_cons (by simp), List.getLast_append_of_ne_nil (by simp)]
  refine ⟨?_, hnx, hp0⟩
  unfold hgt
  cases rest with
  | nil =>
    have : pv S 2 0 = p := by rw [hlast]; rfl
    rw [if_pos this.symm]; rfl
  | cons q rest' =>
    have hne : p ≠ pv S 2 0 := by
      rw [hlast, List.getLast_cons (by simp)]
      intro e
      exact hprest (e ▸ List.getLast_mem _)
    rw [if_neg hne, hnx]; rfl

/-- **the main loop l.899-989** on the nodes `rest` still to come, `pre` being processed -/
theorem sweepLoop_spec (C : Cargo) (R : List ℚ) (n tfuel : ℕ) : ∀ (rest pre : List ℕ) (fuel : ℕ) (hyperv hypera : ℚ) (S : St),
    DLc n S 2 (pre ++ rest) →
    (pre ++ rest).Pairwise (fun a b => cg C a 2 ≤ cg C b 2) →
    (∀ a ∈ pre ++ rest, (item C a).1 < rf R 0 ∧ (item C a).2 < rf R 1 ∧ cg C a 2 ≤ rf R 2 ∧ (ptOf C a).length = 3) →
    (∀ a ∈ rest, ¬ (2 : ℤ) ≤ ign S a) →
    TreeInv C (rf R 0) (rf R 1) S pre hypera →
    hyperv + hypera * (rf R 2 - zOf C (rf R 2) rest) = V3 C (rf R 0) (rf R 1) (rf R 2) pre →
    rest.length ≤ fuel → n < tfuel →
    ∃ S', sweepLoop C R tfuel fuel (rest.headD 0) hyperv hypera S
      = some (V3 C (rf R 0) (rf R 1) (rf R 2) (pre ++ rest), S')
  | [], pre, fuel, hyperv, hypera, S, hD, hs, hfacts, hign, hT, hV, hf, htf => by
    refine ⟨S, ?_⟩
    simp only [zOf, sub_self, mul_zero, add_zero] at hV
    cases fuel <;> simp [sweepLoop, hV]
  | p :: rest, pre, fuel, hyperv, hypera, S, hD, hs, hfacts, hign, hT, hV, hf, htf => by
    obtain ⟨f, rfl, hf'⟩ := HvSweep.exists_fuel_succ hf
    have hndL : (pre ++ p :: rest).Nodup := hD.2.1
    have hppre : p ∉ pre := not_mem_of_nodup_mid hndL
    have hprest : p ∉ rest := (List.nodup_cons.mp (List.nodup_append.mp hndL).2.1).1
    have hpT : p ∉ S.tree := fun hm => hppre (hT.sub p hm)
    have h0T : 0 ∉ S.tree := by
      intro hm
      have := (hD.2.2 0 (List.mem_append_left _ (hT.sub 0 hm))).1
      omega
    have hpf := hfacts p (by simp)
    obtain ⟨hhgt, hnx, hp0⟩ := hgt_eq C R n S pre rest p hD
    have hh : 0 ≤ hgt C R S p := by
      rw [hhgt]
      exact sub_nonneg.mpr (zOf_ge C hpf.2.2.1 (List.pairwise_cons.mp (List.pairwise_append.mp hs).2.1).1)
    have htlen : S.tree.length < tfuel :=
      lt_of_le_of_lt (hT.length_le.trans ((List.sublist_append_left pre _).length_le.trans (HvSweep.dl_length_le hD))) htf
    obtain ⟨r, hrun, hr1, hr2, hrF, hrne, hrnd, hrsub, hrst, hrcov, _, _, hbr⟩ :=
      sweepBody_re C R tfuel p hyperv hypera S hT.ne hT.nodup h0T hpT hp0 hT.stair hpf.1
        (hign p (by simp)) hT.area htlen hh
    have hrI : ∀ a, a ≠ p → ign r.2.2 a = ign S a := fun a ha => by
      unfold ign
      rcases hbr with ⟨_, _, hig, _⟩ | ⟨hig, _⟩
      · rw [hig]; exact List.getD_set_ne _ _ _ ha
      · rw [hig]
    have hD' : DLc n r.2.2 2 ((pre ++ [p]) ++ rest) := by
      unfold DLc
      rw [toSw_eq_of hrF.next hrF.prev, List.append_assoc]
      exact hD
    have hT' : TreeInv C (rf R 0) (rf R 1) r.2.2 (pre ++ [p]) r.2.1 := hT.step hrne hrnd hrsub hrst hrcov hr2
    have hsub : ∀ a ∈ pre ++ [p], a ∈ pre ++ p :: rest := fun a ha =>
      (List.mem_append.mp ha).elim (List.mem_append_left _) fun h => by simp [List.mem_singleton.mp h]
    have hlt : ∀ a ∈ pre ++ p :: rest, (item C a).1 < rf R 0 ∧ (item C a).2 < rf R 1 := fun a ha =>
      ⟨(hfacts a ha).1, (hfacts a ha).2.1⟩
    have hpt : ∀ a ∈ pre ++ p :: rest, (ptOf C a).take 2 = toPt (item C a) := fun a ha =>
      HvSweep.take2_pt _ (by rw [(hfacts a ha).2.2.2]; decide)
    have hA2 : hypera = hvCells [rf R 0, rf R 1] (pre.map (ptOf C)) :=
      hT.area_eq (fun a ha => hlt a (List.mem_append_left _ ha)) _ (fun a ha => hpt a (List.mem_append_left _ ha))
    have hA2' : r.2.1 = hvCells [rf R 0, rf R 1] ((pre ++ [p]).map (ptOf C)) :=
      hT'.area_eq (fun a ha => hlt a (hsub a ha)) _ (fun a ha => hpt a (hsub a ha))
    have hslab := V3_add_top C (rf R 0) (rf R 1) (rf R 2) pre p
      (by
        intro a ha
        rcases List.mem_cons.mp ha with rfl | ha
        · exact hpf.2.2.2
        · exact (hfacts a (List.mem_append_left _ ha)).2.2.2)
      (fun s hs' => (List.pairwise_append.mp hs).2.2 s hs' p (by simp)) hpf.2.2.1
    have hV' : r.1 + r.2.1 * (rf R 2 - zOf C (rf R 2) rest) = V3 C (rf R 0) (rf R 1) (rf R 2) (pre ++ [p]) := by
      rw [hr1, hhgt]
      refine Eq.trans ?_ (val_step (ref := [rf R 0, rf R 1, rf R 2]) (pt := ptOf C) hslab hA2 hA2' hV)
      show _ = hyperv + r.2.1 * (rf R 2 - cg C p 2)
      ring
    obtain ⟨S', hfin⟩ := sweepLoop_spec C R n tfuel rest (pre ++ [p]) f r.1 r.2.1 r.2.2 hD'
      (by rw [List.append_assoc]; exact hs) (by rw [List.append_assoc]; exact hfacts)
      (by
        intro a ha
        rw [hrI a (fun e => hprest (e ▸ ha))]
        exact hign a (by simp [ha]))
      hT' hV' hf' htf
    refine ⟨S', ?_⟩
    unfold sweepLoop
    simp only [List.headD_cons, if_neg hp0, hrun]
    have hnx' : nx r.2.2 2 p = rest.headD 0 := by
      have : nx r.2.2 2 p = nx S 2 p := by unfold nx; rw [hrF.next]
      rw [this, hnx]
    rw [hnx', hfin]
    simp

open HvSweep (Shaped tset)

theorem ltBound_none {i : ℕ} (S : St) (x : ℚ) (h : S.bound.getD i none = none) : ltBound S i x = false := by
  unfold ltBound geBound; rw [h]; rfl

theorem geBound_none {i : ℕ} (S : St) (x : ℚ) (h : S.bound.getD i none = none) : geBound S i x = true := by
  unfold geBound; rw [h]

theorem V3_single (C : Cargo) (r₀ r₁ r₂ : ℚ) (a : ℕ) (hlen : (ptOf C a).length = 3)
    (h0 : cg C a 0 < r₀) (h1 : cg C a 1 < r₁) (h2 : cg C a 2 < r₂) :
    V3 C r₀ r₁ r₂ [a] = (r₀ - cg C a 0) * (r₁ - cg C a 1) * (r₂ - cg C a 2) := by
  unfold V3
  rw [List.map_cons, List.map_nil, hvCells_single]
  have hp : ptOf C a = [cg C a 0, cg C a 1, cg C a 2] := by
    have : ∀ p : Pt, p.length = 3 → p = [p.getD 0 0, p.getD 1 0, p.getD 2 0] := by
      intro p h
      match p, h with
      | [a, b, c], _ => rfl
    exact this _ hlen
  rw [hp]
  have hb : ∀ x y z : ℚ, boxVol [r₀, r₁, r₂] [x, y, z]
      = (if x < r₀ then r₀ - x else 0) * ((if y < r₁ then r₁ - y else 0) * ((if z < r₂ then r₂ - z else 0) * 1)) :=
    fun _ _ _ => rfl
  rw [hb, if_pos h0, if_pos h1, if_pos h2]
  ring

/-- `dim3` past the test of l.838, phase by phase: `m` is the first node of the tree and `S₁` the state with which
l.860 is reached (l.844-857), `E` the state after l.860-862, `q` the node at which `reconnectLoop` stops; then the main
loop runs from the successor of `pv q` and the tree is cleared.  (The intermediate states are variables, so that nothing
here has to look inside them.) -/
theorem dim3_phases (C : Cargo) (R : List ℚ) (F : ℕ) {S S₁ E S₂ : St} {m q : ℕ}
    (h838 : ltBound S 2 (cg C (pv S 2 0) 2) = false)
    (hfirst : (if geBound S 2 (cg C (nx S 2 0) 2) then
        some (nx S 2 0, setIgn (setVl (setAr (setDr S (nx S 2 0) (rf R 2)) (nx S 2 0) 2
          ((rf R 0 - cg C (nx S 2 0) 0) * (rf R 1 - cg C (nx S 2 0) 1))) (nx S 2 0) 2 0) (nx S 2 0) 0)
      else (skipLoop F (nx S 2 0) S).map (fun pp => (pp, S))) = some (m, S₁))
    (hE : E = setDr (avlInsertTop (setIgn S₁ m 0) m) m (rf R 2))
    (hrec : reconnectLoop C R F (nx E 2 m) E = some (q, S₂)) :
    dim3 C R F S =
      (sweepLoop C R F F (nx (setBound S₂ 2 (cg C (pv S₂ 2 0) 2)) 2 (pv S₂ 2 q))
        (vl S₂ (pv S₂ 2 q) 2 + ar S₂ (pv S₂ 2 q) 2 *
          (if nx S₂ 2 (pv S₂ 2 q) ≠ 0 then cg C (nx S₂ 2 (pv S₂ 2 q)) 2 - cg C (pv S₂ 2 q) 2
           else rf R 2 - cg C (pv S₂ 2 q) 2))
        (ar S₂ (pv S₂ 2 q) 2) (setBound S₂ 2 (cg C (pv S₂ 2 0) 2))).map (fun r => (r.1, avlClearTree r.2)) := by
  subst hE
  unfold dim3
  simp only [h838, Bool.false_eq_true, if_false, hfirst, hrec]
  cases sweepLoop C R F F _ _ _ _ <;> rfl

/-- the state after l.845-848 and l.860-862 for the first node `a1` of the list of dimension 2, field by field -/
def entryA0 (C : Cargo) (R : List ℚ) (S : St) (a1 : ℕ) : St :=
  { S with
    ignore := (S.ignore.set a1 0).set a1 0
    area := tset S.area a1 2 ((rf R 0 - cg C a1 0) * (rf R 1 - cg C a1 1))
    vol := tset S.vol a1 2 0
    domr := (S.domr.set a1 (rf R 2)).set a1 (rf R 2)
    tree := [a1] }

/-- … and l.885 -/
def entryA (C : Cargo) (R : List ℚ) (S : St) (a1 : ℕ) : St := setBound (entryA0 C R S a1) 2 (cg C (pv S 2 0) 2)

/-- **the entry phase when the first node `a1` is at or above `bound[2]`** (l.844-848): `a1` starts the tree,
`reconnectLoop` stops at once because the second node `a2` (or the list head) is not below the bound either, and the
main loop starts at `a2` -/
theorem dim3_caseA (C : Cargo) (R : List ℚ) {d n f : ℕ} {S : St} {a1 a2 : ℕ}
    (h838 : ltBound S 2 (cg C (pv S 2 0) 2) = false) (hnx0 : nx S 2 0 = a1)
    (h844 : geBound S 2 (cg C a1 2) = true) (hnx1 : nx S 2 a1 = a2) (hpv : pv S 2 a2 = a1)
    (h867 : ltBound S 2 (cg C a2 2) = false)
    (harea : Shaped (n + 1) d S.area) (hvol : Shaped (n + 1) d S.vol) (hd : 2 < d) (ha1 : a1 ≤ n) :
    dim3 C R (f + 1) S =
      (sweepLoop C R (f + 1) (f + 1) a2
        (0 + (rf R 0 - cg C a1 0) * (rf R 1 - cg C a1 1) *
          (if a2 ≠ 0 then cg C a2 2 - cg C a1 2 else rf R 2 - cg C a1 2))
        ((rf R 0 - cg C a1 0) * (rf R 1 - cg C a1 1)) (entryA C R S a1)).map (fun r => (r.1, avlClearTree r.2)) := by
  have hE : entryA0 C R S a1 = setDr (avlInsertTop (setIgn (setIgn (setVl (setAr (setDr S a1 (rf R 2)) a1 2
      ((rf R 0 - cg C a1 0) * (rf R 1 - cg C a1 1))) a1 2 0) a1 0) a1 0) a1) a1 (rf R 2) := by
    simp only [setDr, avlInsertTop, setIgn, setVl, setAr, entryA0]
  -- `entryA0` has the pointers and the bounds of `S`
  have hrec : reconnectLoop C R (f + 1) (nx (entryA0 C R S a1) 2 a1) (entryA0 C R S a1) = some (a2, entryA0 C R S a1) := by
    have h : ltBound (entryA0 C R S a1) 2 (cg C a2 2) = false := h867
    rw [show nx (entryA0 C R S a1) 2 a1 = a2 from hnx1]
    simp only [reconnectLoop, reconnectLoopWith, h, Bool.false_eq_true, if_false]
  rw [dim3_phases C R (f + 1) h838 (by rw [hnx0, h844, if_pos rfl]) hE hrec,
    show pv (entryA0 C R S a1) 2 a2 = a1 from hpv, show pv (entryA0 C R S a1) 2 0 = pv S 2 0 from rfl,
    show nx (entryA0 C R S a1) 2 a1 = a2 from hnx1,
    show nx (setBound (entryA0 C R S a1) 2 (cg C (pv S 2 0) 2)) 2 a1 = a2 from hnx1,
    show vl (entryA0 C R S a1) a1 2 = 0 from vl_setVl_self hvol ha1 hd 0,
    show ar (entryA0 C R S a1) a1 2 = _ from ar_setAr_self harea ha1 hd _]
  rfl

/-- **the 3-D base case entered with `bound[2] = -DBL_MAX`** (every `ignore` flag 0) returns the hypervolume of the
nodes of the list of dimension 2 -/
theorem dim3_fresh (C : Cargo) (R : List ℚ) (d n fuel : ℕ) (S : St) (a1 : ℕ) (rest : List ℕ)
    (hD : DLc n S 2 (a1 :: rest))
    (hs : (a1 :: rest).Pairwise (fun a b => cg C a 2 ≤ cg C b 2))
    (hfacts : ∀ a ∈ a1 :: rest, cg C a 0 < rf R 0 ∧ cg C a 1 < rf R 1 ∧ cg C a 2 < rf R 2 ∧ (ptOf C a).length = 3)
    (hbound : S.bound.getD 2 none = none)
    (hign : ∀ a, ign S a = 0)
    (hd : 2 < d) (hvol : HvSweep.Shaped (n + 1) d S.vol) (harea : HvSweep.Shaped (n + 1) d S.area)
    (hfuel : n < fuel) :
    ∃ S', dim3 C R fuel S = some (V3 C (rf R 0) (rf R 1) (rf R 2) (a1 :: rest), S') := by
  obtain ⟨f, rfl, -⟩ := HvSweep.exists_fuel_succ hfuel
  have ha1 := hfacts a1 (by simp)
  have hnode := HvSweep.seg_node (toSw S) 2 [] 0 a1 rest 0 hD.1
  have hnx1 : nx S 2 a1 = (rest ++ [0]).head (by simp) := hnode.2.1
  have hheight : (if (rest ++ [0]).head (by simp) ≠ 0 then cg C ((rest ++ [0]).head (by simp)) 2 - cg C a1 2
      else rf R 2 - cg C a1 2) = zOf C (rf R 2) rest - cg C a1 2 := by
    cases rest with
    | nil => simp [zOf]
    | cons q rest' =>
      have hq0 : q ≠ 0 := Nat.one_le_iff_ne_zero.mp (hD.2.2 q (List.mem_cons_of_mem _ List.mem_cons_self)).1
      simp [zOf, hq0]
  rw [dim3_caseA C R (ltBound_none S _ hbound) hD.1.1.1 (geBound_none S _ hbound) hnx1
    (by rw [← hnx1]; exact hnode.2.2.2) (ltBound_none S _ hbound) harea hvol hd (hD.2.2 a1 (by simp)).2, hheight]
  set A1 : ℚ := (rf R 0 - cg C a1 0) * (rf R 1 - cg C a1 1) with hA1
  have hT3 : TreeInv C (rf R 0) (rf R 1) (entryA C R S a1) [a1] A1 := by
    refine ⟨by show [a1] ≠ []; simp, by show [a1].Nodup; simp, fun t ht => ht, ?_, fun q hq => ⟨q, hq, le_refl _, le_refl _⟩, ?_⟩
    · show Stair ([a1].map (item C)); simp [Stair]
    · show A1 = hArea (rf R 0) (rf R 1) ([a1].map (item C))
      simp only [List.map_cons, List.map_nil, hArea, hA1, item]; ring
  have hV3 : (0 + A1 * (zOf C (rf R 2) rest - cg C a1 2)) + A1 * (rf R 2 - zOf C (rf R 2) rest)
      = V3 C (rf R 0) (rf R 1) (rf R 2) [a1] := by
    rw [V3_single C _ _ _ a1 ha1.2.2.2 ha1.1 ha1.2.1 ha1.2.2.1, hA1]; ring
  obtain ⟨S', hfin⟩ := sweepLoop_spec C R n (f + 1) rest [a1] (f + 1) (0 + A1 * (zOf C (rf R 2) rest - cg C a1 2)) A1
    (entryA C R S a1) hD hs
    (fun a ha => ⟨(hfacts a ha).1, (hfacts a ha).2.1, le_of_lt (hfacts a ha).2.2.1, (hfacts a ha).2.2.2⟩)
    (by
      intro a ha
      have hne : a ≠ a1 := fun e => (List.nodup_cons.mp hD.2.1).1 (e ▸ ha)
      have : ign (entryA C R S a1) a = ign S a :=
        (ign_setIgn_ne (setIgn S a1 0) a1 a 0 hne).trans (ign_setIgn_ne S a1 a 0 hne)
      rw [this, hign a]; decide)
    hT3 hV3
    (Nat.le_of_lt (lt_of_le_of_lt (Nat.le_of_succ_le (HvSweep.dl_length_le hD)) hfuel))
    hfuel
  have hhead : (rest ++ [0]).head (by simp) = rest.headD 0 := by cases rest <;> rfl
  -- the volume as a variable: `rfl` below must not look into `V3`
  rw [List.singleton_append] at hfin
  generalize V3 C (rf R 0) (rf R 1) (rf R 2) (a1 :: rest) = v at hfin ⊢
  rw [hhead, hfin]
  exact ⟨_, rfl⟩

end HvC
