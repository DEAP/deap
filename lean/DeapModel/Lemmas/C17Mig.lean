/-
C17 — helper lemmas about the model of `tools.migRing` (`DeapModel/Core/Migration.lean`).
-/
import DeapModel.Core.Migration

namespace Migration

section
variable {α κ : Type} [DecidableEq κ]

theorem indexOf?_spec (key : α → κ) (x : α) (l : List α) (j : Nat) (h : indexOf? key x l = some j) :
    ∃ hj : j < l.length, key l[j] = key x := by
  induction l generalizing j with
  | nil => cases h
  | cons y ys ih =>
    rw [indexOf?] at h
    split at h
    · next hk => cases h; exact ⟨Nat.succ_pos _, hk⟩
    · cases hi : indexOf? key x ys with
      | none => rw [hi] at h; cases h
      | some i =>
        rw [hi] at h; cases h
        obtain ⟨hj, hk⟩ := ih i hi
        exact ⟨Nat.succ_lt_succ hj, hk⟩

theorem set_perm {β : Type} : ∀ (l : List β) (j : Nat) (hj : j < l.length) (e : β),
    (l[j] :: l.set j e).Perm (e :: l)
  | [], _, hj, _ => absurd hj (Nat.not_lt_zero _)
  | y :: ys, 0, _, e => List.Perm.swap e y ys
  | y :: ys, j + 1, hj, e => by
    have hj' : j < ys.length := Nat.lt_of_succ_lt_succ hj
    exact (List.Perm.swap y ys[j] (ys.set j e)).trans
      (((set_perm ys j hj' e).cons y).trans (List.Perm.swap e y ys))

theorem replaceAll_spec (key : α → κ) :
    ∀ (imm emi pop pop' : List α), replaceAll key pop imm emi = some pop' →
      pop'.length = pop.length ∧
      (pop'.map key ++ imm.map key).Perm (pop.map key ++ (emi.take imm.length).map key)
  | [], _, pop, pop', h => by cases h; exact ⟨rfl, .refl _⟩
  | _ :: _, [], pop, pop', h => by cases h
  | x :: imm, e :: emi, pop, pop', h => by
    rw [replaceAll] at h
    cases hi : indexOf? key x pop with
    | none => rw [hi] at h; cases h
    | some j =>
      rw [hi] at h
      obtain ⟨hj, hk⟩ := indexOf?_spec key x pop j hi
      obtain ⟨ihl, ih⟩ := replaceAll_spec key imm emi (pop.set j e) pop' h
      refine ⟨ihl.trans (List.length_set ..), ?_⟩
      have hs := (set_perm pop j hj e).map key
      -- count every genome on both sides
      rw [List.perm_iff_count] at ih hs ⊢
      intro a
      have := ih a; have := hs a
      simp only [List.map_cons, List.length_cons, List.take_succ_cons, List.count_append, List.count_cons, hk] at *
      omega

/-- genomes that leave the demes along the pairs … -/
def leaving (key : α → κ) (immigrants : List (List α)) (pairs : List (Nat × Nat)) : List κ :=
  pairs.flatMap (fun p => ((immigrants[p.2]?).getD []).map key)

/-- … and genomes that arrive. -/
def arriving (key : α → κ) (emigrants immigrants : List (List α)) (pairs : List (Nat × Nat)) : List κ :=
  pairs.flatMap (fun p => (((emigrants[p.1]?).getD []).take ((immigrants[p.2]?).getD []).length).map key)

theorem migrate_spec (key : α → κ) (emigrants immigrants : List (List α)) :
    ∀ (pairs : List (Nat × Nat)) (pops pops' : List (List α)),
      migrate key emigrants immigrants pops pairs = some pops' →
      pops'.map List.length = pops.map List.length ∧
      (pops'.flatten.map key ++ leaving key immigrants pairs).Perm
        (pops.flatten.map key ++ arriving key emigrants immigrants pairs)
  | [], pops, pops', h => by cases h; exact ⟨rfl, .refl _⟩
  | (fr, to) :: rest, pops, pops', h => by
    rw [migrate] at h
    split at h
    next p imm hp himm =>
      cases hr : replaceAll key p imm ((emigrants[fr]?).getD []) with
      | none => rw [hr] at h; cases h
      | some p' =>
        rw [hr] at h
        obtain ⟨hto, rfl⟩ := List.getElem?_eq_some_iff.1 hp
        obtain ⟨ihl, ih⟩ := migrate_spec key emigrants immigrants rest (pops.set to p') pops' h
        obtain ⟨h2l, h2⟩ := replaceAll_spec key imm ((emigrants[fr]?).getD []) pops[to] p' hr
        constructor
        · rw [ihl, List.map_set, h2l]
          have := List.set_getElem_self (as := pops.map List.length) (i := to) (by simpa using hto)
          rwa [List.getElem_map] at this
        · have h1 := ((set_perm pops to hto p').flatten).map key
          -- every genome occurs equally often on both sides: add up the three balances
          rw [List.perm_iff_count] at ih h1 h2 ⊢
          intro a
          have := ih a; have := h1 a; have := h2 a
          simp only [leaving, arriving, List.flatMap_cons, himm, Option.getD_some, List.map_append,
            List.count_append, List.flatten_cons] at *
          omega
    next => cases h

theorem enumFrom'_fst : ∀ (i : Nat) (m : List Nat), (enumFrom' i m).map Prod.fst = List.range' i m.length
  | _, [] => rfl
  | i, _ :: xs => congrArg (i :: ·) (enumFrom'_fst (i + 1) xs)

theorem enumFrom'_snd : ∀ (i : Nat) (m : List Nat), (enumFrom' i m).map Prod.snd = m
  | _, [] => rfl
  | i, x :: xs => congrArg (x :: ·) (enumFrom'_snd (i + 1) xs)

theorem defaultRing_perm (n : Nat) (hn : 0 < n) : (defaultRing n).Perm (List.range n) := by
  cases n with
  | zero => cases hn
  | succ n =>
    rw [defaultRing, List.range_succ_eq_map]
    exact List.perm_append_comm

omit [DecidableEq κ] in
theorem leaving_perm_arriving (key : α → κ) (E : List (List α)) (m : List Nat)
    (hm : m.Perm (List.range E.length)) (hlen : ∀ a ∈ E, ∀ b ∈ E, a.length = b.length) :
    (leaving key E (enumFrom' 0 m)).Perm (arriving key E E (enumFrom' 0 m)) := by
  let G : Nat → List κ := fun i => ((E[i]?).getD []).map key
  have hL : leaving key E (enumFrom' 0 m) = m.flatMap G := by
    have := List.flatMap_map Prod.snd G (enumFrom' 0 m)
    rw [enumFrom'_snd] at this
    rw [this]; rfl
  have hA : arriving key E E (enumFrom' 0 m) = (List.range E.length).flatMap G := by
    have e1 : arriving key E E (enumFrom' 0 m) = (enumFrom' 0 m).flatMap (fun p => G p.1) := by
      rw [arriving, List.flatMap_def, List.flatMap_def]
      refine congrArg _ (List.map_congr_left fun p hp => ?_)
      have hfr : p.1 < E.length := by
        have := List.mem_range'_1.1 (enumFrom'_fst 0 m ▸ List.mem_map_of_mem (f := Prod.fst) hp)
        have := hm.length_eq; simp at this; omega
      have hto : p.2 < E.length :=
        List.mem_range.1 (hm.mem_iff.1 (enumFrom'_snd 0 m ▸ List.mem_map_of_mem (f := Prod.snd) hp))
      simp only [G, List.getElem?_eq_getElem hfr, List.getElem?_eq_getElem hto, Option.getD_some]
      rw [List.take_of_length_le (Nat.le_of_eq (hlen _ (List.getElem_mem hfr) _ (List.getElem_mem hto)))]
    rw [e1, ← List.flatMap_map Prod.fst G, enumFrom'_fst, hm.length_eq, List.length_range, List.range_eq_range']
  rw [hL, hA]
  exact List.Perm.flatMap_right G hm

end

end Migration
