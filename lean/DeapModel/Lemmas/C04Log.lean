/-
C04 lemmas: what is proved about the model of `sortLogNondominated` for any linearly ordered scalar
with `+` and `-` (no field structure).
`splitA` / `splitB` are one pivot cut (`cutAt`) applied to one or two lists; whatever ranks the `front`
dictionary holds, every distinct fitness lands in exactly one front (the fronts partition the
population, equal fitnesses share a front), and the truncation loop returns the leading fronts needed
to reach `k`.
-/
import DeapModel.Lemmas.C04Dict
import DeapModel.Lemmas.ListFacts

set_option linter.unusedSectionVars false

namespace C04L
open NDSort

section Cut
variable {α β : Type} [LinearOrder α] [Add α] (key : β → α) (med2 : α)

/-- One list cut at the pivot `med2` (twice the median) the way `splitA` / `splitB` do it: the
elements whose doubled key is above the pivot, and the rest; with `up`, the elements on the pivot go
to the upper part as well (`best_a`/`worst_a` of the source; without, `best_b`/`worst_b`). -/
def cutAt (up : Prop) [Decidable up] (l : List β) : List β × List β :=
  if up then (l.filter (fun f => decide (med2 < key f + key f) || !decide (key f + key f < med2)),
              l.filter (fun f => !decide (med2 < key f + key f) && decide (key f + key f < med2)))
  else (l.filter (fun f => decide (med2 < key f + key f)), l.filter (fun f => !decide (med2 < key f + key f)))

/-- `balance_a <= balance_b`: the ties go up when that cut of `l` is at least as balanced. -/
def cutRule (l : List β) : Prop :=
  (((cutAt key med2 True l).1.length : Int) - (cutAt key med2 True l).2.length).natAbs ≤
  (((cutAt key med2 False l).1.length : Int) - (cutAt key med2 False l).2.length).natAbs

instance (l : List β) : Decidable (cutRule key med2 l) := by unfold cutRule; infer_instance

variable {key med2} {up : Prop} [Decidable up] {l : List β} {x : β}

theorem mem_cutAt_fst : x ∈ (cutAt key med2 up l).1 ↔
    x ∈ l ∧ (med2 < key x + key x ∨ up ∧ ¬ key x + key x < med2) := by
  unfold cutAt; split <;> simp [*]

theorem mem_cutAt_snd : x ∈ (cutAt key med2 up l).2 ↔
    x ∈ l ∧ ¬ med2 < key x + key x ∧ (up → key x + key x < med2) := by
  unfold cutAt; split <;> simp [*]

theorem cutAt_sublist : (cutAt key med2 up l).1.Sublist l ∧ (cutAt key med2 up l).2.Sublist l := by
  unfold cutAt; split <;> exact ⟨List.filter_sublist, List.filter_sublist⟩

theorem cutAt_cover (hx : x ∈ l) : x ∈ (cutAt key med2 up l).1 ∨ x ∈ (cutAt key med2 up l).2 := by
  rw [mem_cutAt_fst, mem_cutAt_snd]
  by_cases h1 : med2 < key x + key x
  · exact Or.inl ⟨hx, Or.inl h1⟩
  · by_cases h2 : up ∧ ¬ key x + key x < med2
    · exact Or.inl ⟨hx, Or.inr h2⟩
    · exact Or.inr ⟨hx, h1, fun hu => not_not.1 fun h => h2 ⟨hu, h⟩⟩

theorem cutAt_length : (cutAt key med2 up l).1.length + (cutAt key med2 up l).2.length = l.length := by
  unfold cutAt; split
  · rw [List.length_eq_length_filter_add (l := l)
      (fun f => decide (med2 < key f + key f) || !decide (key f + key f < med2))]
    simp only [Bool.not_or, Bool.not_not]
  · exact (List.length_eq_length_filter_add _).symm

theorem cutAt_append (l' : List β) : cutAt key med2 up (l ++ l') =
    ((cutAt key med2 up l).1 ++ (cutAt key med2 up l').1, (cutAt key med2 up l).2 ++ (cutAt key med2 up l').2) := by
  unfold cutAt; split <;> simp only [List.filter_append]

theorem cutAt_of (h : up) : cutAt key med2 up l = cutAt key med2 True l := by simp only [h]

theorem cutAt_of_not (h : ¬ up) : cutAt key med2 up l = cutAt key med2 False l := by
  simp only [h]

/-- the arithmetic of the balance test: `a1`/`a2` = sizes of the two parts when the ties go up,
`b1`/`b2` when they go down.  A cut with an empty side has imbalance `T`; the other cut reaches `T`
only with an empty side of its own, and `hb2`, `ha1`, `hne` leave at most one of the four sides empty. -/
theorem balance_progress (a1 a2 b1 b2 T : Nat) (ha : a1 + a2 = T) (hb : b1 + b2 = T)
    (hb2 : 1 ≤ b2) (ha1 : 1 ≤ a1) (hne : 1 ≤ b1 ∨ 1 ≤ a2) :
    (((a1 : Int) - a2).natAbs ≤ ((b1 : Int) - b2).natAbs → a1 < T ∧ a2 < T) ∧
    (¬ ((a1 : Int) - a2).natAbs ≤ ((b1 : Int) - b2).natAbs → b1 < T ∧ b2 < T) := by
  constructor <;> intro h <;> omega

/-- The rule makes both parts shorter than `l` as soon as `l` has an element not above the pivot,
one not below it and one off it. -/
theorem cutAt_progress (key : β → α) (med2 : α) (l : List β)
    (hlo : ∃ x ∈ l, key x + key x ≤ med2) (hhi : ∃ y ∈ l, med2 ≤ key y + key y)
    (hoff : ∃ z ∈ l, med2 < key z + key z ∨ key z + key z < med2) :
    (cutAt key med2 (cutRule key med2 l) l).1.length < l.length ∧
    (cutAt key med2 (cutRule key med2 l) l).2.length < l.length := by
  obtain ⟨x, hx, hxm⟩ := hlo
  obtain ⟨y, hy, hym⟩ := hhi
  obtain ⟨z, hz, hzm⟩ := hoff
  have hb2 : 1 ≤ (cutAt key med2 False l).2.length :=
    List.length_pos_of_mem (mem_cutAt_snd.2 ⟨hx, not_lt.2 hxm, False.elim⟩)
  have ha1 : 1 ≤ (cutAt key med2 True l).1.length :=
    List.length_pos_of_mem (mem_cutAt_fst.2 ⟨hy, Or.inr ⟨trivial, not_lt.2 hym⟩⟩)
  have hne : 1 ≤ (cutAt key med2 False l).1.length ∨ 1 ≤ (cutAt key med2 True l).2.length :=
    hzm.imp (fun h => List.length_pos_of_mem (mem_cutAt_fst.2 ⟨hz, Or.inl h⟩))
      (fun h => List.length_pos_of_mem (mem_cutAt_snd.2 ⟨hz, lt_asymm h, fun _ => h⟩))
  obtain ⟨pa, pb⟩ := balance_progress _ _ _ _ l.length cutAt_length cutAt_length hb2 ha1 hne
  by_cases h : cutRule key med2 l
  · rw [cutAt_of h]; exact pa h
  · rw [cutAt_of_not h]; exact pb h

end Cut

section Pick
variable {β γ : Type} [LinearOrder γ] (key : β → γ) {l : List β} {m : β}

theorem pyMaxBy_spec (h : pyMaxBy key l = some m) : m ∈ l ∧ ∀ y ∈ l, key y ≤ key m := by
  cases l with
  | nil => simp [pyMaxBy] at h
  | cons x xs =>
    simp only [pyMaxBy, Option.some.injEq] at h; subst h
    have := List.foldl_pick (fun a b => key a < key b) (fun _ => lt_irrefl _) (fun _ _ _ => lt_trans)
      (fun _ _ _ h1 h2 => not_lt.2 (le_trans (not_lt.1 h2) (not_lt.1 h1))) xs x
    exact ⟨this.1, fun y hy => not_lt.1 (this.2 y hy)⟩

theorem pyMinBy_spec (h : pyMinBy key l = some m) : m ∈ l ∧ ∀ y ∈ l, key m ≤ key y := by
  cases l with
  | nil => simp [pyMinBy] at h
  | cons x xs =>
    simp only [pyMinBy, Option.some.injEq] at h; subst h
    have := List.foldl_pick (fun a b => key b < key a) (fun _ => lt_irrefl _) (fun _ _ _ h1 h2 => lt_trans h2 h1)
      (fun _ _ _ h1 h2 => not_lt.2 (le_trans (not_lt.1 h1) (not_lt.1 h2))) xs x
    exact ⟨this.1, fun y hy => not_lt.1 (this.2 y hy)⟩

theorem pyMaxBy_isSome (h : l ≠ []) : ∃ m, pyMaxBy key l = some m := by
  cases l with
  | nil => exact absurd rfl h
  | cons x xs => exact ⟨_, rfl⟩

end Pick

variable {α : Type} [LinearOrder α] [Add α] [Neg α] [Inhabited α]

theorem minKey_spec (l : List (List α)) (obj : Nat) (hne : l ≠ []) :
    ∃ v, minKey l obj = some v ∧ (∃ z ∈ l, nth z obj = v) ∧ ∀ z ∈ l, v ≤ nth z obj := by
  cases l with
  | nil => exact absurd rfl hne
  | cons x xs =>
    obtain ⟨h1, h2⟩ := pyMinBy_spec (fun f : List α => nth f obj) (l := x :: xs) rfl
    exact ⟨_, rfl, ⟨_, h1, rfl⟩, h2⟩

theorem maxKey_spec (l : List (List α)) (obj : Nat) (hne : l ≠ []) :
    ∃ v, maxKey l obj = some v ∧ (∃ z ∈ l, nth z obj = v) ∧ ∀ z ∈ l, nth z obj ≤ v := by
  cases l with
  | nil => exact absurd rfl hne
  | cons x xs =>
    obtain ⟨h1, h2⟩ := pyMaxBy_spec (fun f : List α => nth f obj) (l := x :: xs) rfl
    exact ⟨_, rfl, ⟨_, h1, rfl⟩, h2⟩

/-- the first test of `sortNDHelperB` on objective `obj`: every member of `a` is at least as good as
every member of `b` -/
theorem optGe_minKey_maxKey (a b : List (List α)) (obj : Nat) (ha : a ≠ []) (hb : b ≠ []) :
    optGe (minKey a obj) (maxKey b obj) = true ↔ ∀ x ∈ a, ∀ y ∈ b, nth y obj ≤ nth x obj := by
  obtain ⟨_, e1, ⟨zmin, hzmin, rfl⟩, hmin⟩ := minKey_spec a obj ha
  obtain ⟨_, e2, ⟨zmax, hzmax, rfl⟩, hmax⟩ := maxKey_spec b obj hb
  rw [e1, e2]; simp only [optGe, decide_eq_true_eq]
  exact ⟨fun h x hx y hy => le_trans (hmax y hy) (le_trans h (hmin x hx)), fun h => h zmin hzmin zmax hzmax⟩

/-- the second test: some member of `a` is at least as good as some member of `b` -/
theorem optGe_maxKey_minKey (a b : List (List α)) (obj : Nat) (ha : a ≠ []) (hb : b ≠ []) :
    optGe (maxKey a obj) (minKey b obj) = true ↔ ∃ x ∈ a, ∃ y ∈ b, nth y obj ≤ nth x obj := by
  obtain ⟨_, e1, ⟨zmax, hzmax, rfl⟩, hmax⟩ := maxKey_spec a obj ha
  obtain ⟨_, e2, ⟨zmin, hzmin, rfl⟩, hmin⟩ := minKey_spec b obj hb
  rw [e1, e2]; simp only [optGe, decide_eq_true_eq]
  exact ⟨fun h => ⟨zmax, hzmax, zmin, hzmin, h⟩,
    fun ⟨x, hx, y, hy, h⟩ => le_trans (hmin y hy) (le_trans h (hmax x hx))⟩

theorem isDominatedLoop_eq_dominatesLoop : ∀ (a b : List α) (ne : Bool),
    isDominatedLoop a b ne = Fitness.dominatesLoop b a ne
  | [], b, ne => by cases b <;> simp [isDominatedLoop, Fitness.dominatesLoop]
  | x :: xs, [], ne => by simp [isDominatedLoop, Fitness.dominatesLoop]
  | x :: xs, y :: ys, ne => by
    simp only [isDominatedLoop, Fitness.dominatesLoop]
    by_cases h1 : y < x
    · simp [h1, not_lt_of_gt h1]
    · by_cases h2 : x < y
      · simp [h1, h2, isDominatedLoop_eq_dominatesLoop xs ys]
      · simp [h1, h2, isDominatedLoop_eq_dominatesLoop xs ys]

theorem splitA_eq (fits : List (List α)) (obj : Nat) :
    splitA fits obj = cutAt (fun f => nth f obj) (median2 fits (fun f => nth f obj))
      (cutRule (fun f => nth f obj) (median2 fits (fun f => nth f obj)) fits) fits := by
  unfold splitA cutRule cutAt; rfl

/-- `splitB` cuts `best` and `worst` at one pivot with one rule, that of `best ++ worst`.  Key and
pivot are parameters with equations so that a caller can `generalize` the median first
(`splitB_progress`). -/
theorem splitB_eq (best worst : List (List α)) (obj : Nat) (key : List α → α) (med2 : α)
    (hkey : key = fun f => nth f obj)
    (hmed : med2 = median2 (if best.length > worst.length then best else worst) key) :
    splitB best worst obj =
      ((cutAt key med2 (cutRule key med2 (best ++ worst)) best).1,
       (cutAt key med2 (cutRule key med2 (best ++ worst)) best).2,
       (cutAt key med2 (cutRule key med2 (best ++ worst)) worst).1,
       (cutAt key med2 (cutRule key med2 (best ++ worst)) worst).2) := by
  have hR : cutRule key med2 (best ++ worst) ↔
      (((cutAt key med2 True best).1.length : Int) - (cutAt key med2 True best).2.length +
        (cutAt key med2 True worst).1.length - (cutAt key med2 True worst).2.length).natAbs ≤
      (((cutAt key med2 False best).1.length : Int) - (cutAt key med2 False best).2.length +
        (cutAt key med2 False worst).1.length - (cutAt key med2 False worst).2.length).natAbs := by
    have e : ∀ a b c d : Int, a + c - (b + d) = a - b + c - d := by intros; omega
    simp only [cutRule, cutAt_append, List.length_append, Nat.cast_add, e]
  by_cases h : cutRule key med2 (best ++ worst)
  · rw [cutAt_of h, cutAt_of h]; subst hkey hmed; exact if_pos (hR.1 h)
  · rw [cutAt_of_not h, cutAt_of_not h]; subst hkey hmed; exact if_neg (mt hR.2 h)

theorem dget_bump_ne (front : FrontDict α) (a b : List α) {f : List α} (h : f ≠ a) :
    dget (bump front a b) 0 f = dget front 0 f := by
  rw [bump, dget_dset_ne _ _ _ (Ne.symm h)]

theorem dget_bump_le (front : FrontDict α) (a b : List α) (n : Nat) :
    dget (bump front a b) 0 a ≤ n ↔ dget front 0 a ≤ n ∧ dget front 0 b + 1 ≤ n := by
  rw [bump, dget_dset_self, Nat.max_le]

theorem keys_bump (front : FrontDict α) (a b : List α) (ha : a ∈ dkeys front) :
    dkeys (bump front a b) = dkeys front := by
  rw [bump, dkeys_dset, if_pos ha]

theorem keys_foldl {γ : Type} (step : FrontDict α → γ → FrontDict α) (ok : γ → Prop)
    (h : ∀ fr x, ok x → dkeys (step fr x) = dkeys fr) : ∀ (l : List γ) (fr : FrontDict α),
    (∀ x ∈ l, ok x) → dkeys (l.foldl step fr) = dkeys fr :=
  fun l fr hl => List.foldlRecOn (motive := fun d => dkeys d = dkeys fr) l step rfl
    fun d hd x hx => (h d x (hl x hx)).trans hd

theorem keys_stairs_bump (front : FrontDict α) (s : Stairs α) (idx : Nat) (fit : List α)
    (hfit : fit ∈ dkeys front) :
    dkeys (if 0 < idx ∧ idx ≤ s.stairs.length then
        match pyMaxBy (fun f => dget front 0 f) (s.fstairs.take idx) with
        | some fstair => bump front fit fstair
        | none => front
      else front) = dkeys front := by
  split
  · split
    · exact keys_bump _ _ _ hfit
    · rfl
  · rfl

theorem keys_sweepA (fits : List (List α)) (front : FrontDict α) (h : ∀ f ∈ fits, f ∈ dkeys front) :
    dkeys (sweepA fits front) = dkeys front := by
  cases fits with
  | nil => rfl
  | cons f0 rest =>
    refine List.foldlRecOn (motive := fun st => dkeys st.2 = dkeys front) rest sweepAStep
      (b := (_, front)) rfl ?_
    intro st hst fit hfit
    exact (keys_stairs_bump st.2 st.1 _ fit (hst ▸ h fit (List.mem_cons_of_mem _ hfit))).trans hst

theorem dkeys_init (l : List (List α)) : dkeys (l.map (fun f => (f, 0)) : FrontDict α) = l := by
  rw [dkeys, List.map_map]; exact List.map_id'' (fun _ => rfl) l

/-- also for an absent key, whose rank reads 0 -/
theorem dget_le_foldl_max (front : FrontDict α) (f : List α) : dget front 0 f ≤ (dvalues front).foldl max 0 := by
  have hmono : ∀ (l : List Nat) (a : Nat), a ≤ l.foldl max a := fun l => by
    induction l with
    | nil => exact fun a => Nat.le_refl a
    | cons x l ih => exact fun a => Nat.le_trans (Nat.le_max_left a x) (ih _)
  have gen : ∀ (d : FrontDict α) (a : Nat), dget d 0 f ≤ (dvalues d).foldl max a := fun d => by
    induction d with
    | nil => exact fun a => Nat.zero_le _
    | cons p r ih =>
      intro a
      simp only [dget, dvalues, List.map_cons, List.foldl_cons]
      split
      · exact Nat.le_trans (Nat.le_max_right a p.2) (hmono _ _)
      · exact ih _
  exact gen front 0

theorem logFronts_fold_getElem? (rank : List α → Nat) (g : List α → List (Ind α)) (i : Nat) :
    ∀ (fs : List (List α)) (pf : List (List (Ind α))),
      (fs.foldl (fun pf fit => pf.modify (rank fit) (· ++ g fit)) pf)[i]? =
        pf[i]?.map (· ++ (fs.filter (fun f => rank f == i)).flatMap g)
  | [], pf => by simp
  | a :: fs, pf => by
    simp only [List.foldl_cons]
    rw [logFronts_fold_getElem? rank g i fs, List.getElem?_modify]
    by_cases h : rank a = i
    · subst h
      cases hpf : pf[rank a]? with
      | none => simp
      | some x => simp [List.append_assoc]
    · have h' : ¬ (rank a == i) = true := by simpa using h
      cases hpf : pf[i]? with
      | none => simp
      | some x => simp [h, h']

/-- the fitnesses of rank `i`, for `i < nb` -/
def rankFronts (rank : List α → Nat) (fs : List (List α)) (nb : Nat) : List (List (List α)) :=
  (List.range nb).map (fun i => fs.filter (fun f => rank f == i))

/-- `logFronts` in closed form: front `i` is the concatenation of the groups of the fitnesses of rank `i`. -/
theorem logFronts_eq_map (fs : List (List α)) (front : FrontDict α) (uf : List (List α × List (Ind α))) :
    logFronts fs front uf =
      (rankFronts (fun f => dget front 0 f) fs ((dvalues front).foldl max 0 + 1)).map
        (fun F => F.flatMap (dget uf [])) := by
  apply List.ext_getElem?
  intro i
  have h := logFronts_fold_getElem? (fun f => dget front 0 f) (dget uf []) i fs
    (List.replicate ((dvalues front).foldl max 0 + 1) [])
  simp only [logFronts, rankFronts]
  rw [h]
  by_cases hi : i < (dvalues front).foldl max 0 + 1
  · simp [hi]
  · simp [hi]

theorem rankFronts_flatten_perm (rank : List α → Nat) (fs : List (List α)) (n : Nat) (hlt : ∀ f ∈ fs, rank f < n) :
    (rankFronts rank fs n).flatten.Perm fs := by
  have := flatMap_filter_key_perm rank fs (List.range n) List.nodup_range
  rw [List.filter_eq_self.2 fun f hf => decide_eq_true (List.mem_range.2 (hlt f hf))] at this
  simpa [rankFronts, List.flatMap_def, beq_eq_decide] using this

theorem mem_rankFronts {rank : List α → Nat} {fs : List (List α)} {n : Nat} {F : List (List α)} :
    F ∈ rankFronts rank fs n ↔ ∃ i < n, fs.filter (fun f => rank f == i) = F := by
  simp only [rankFronts, List.mem_map, List.mem_range]

/-- `logRanks` on a non-empty population, with the grouping loop under its name `mapFitInd` -/
theorem logRanks_cons (ind0 : Ind α) (rest : List (Ind α)) :
    logRanks (ind0 :: rest) =
      (helperA ((dkeys (mapFitInd (ind0 :: rest))).mergeSort (fun a b => !Py.tupleLt a b)) (ind0.w.length - 1)
        ((dkeys (mapFitInd (ind0 :: rest))).map (fun f => (f, 0)))).map fun front =>
        ((dkeys (mapFitInd (ind0 :: rest))).mergeSort (fun a b => !Py.tupleLt a b), front, mapFitInd (ind0 :: rest)) :=
  rfl

/-- Whatever ranks `front` holds, the fronts built from them partition the population. -/
theorem logRanks_partition (pop : List (Ind α)) (fs : List (List α)) (front : FrontDict α)
    (uf : List (List α × List (Ind α))) (h : logRanks pop = some (fs, front, uf)) :
    (logFronts fs front uf).flatten.Perm pop ∧
    (∀ F ∈ logFronts fs front uf, ∀ x ∈ pop, ∀ y ∈ pop, x.w = y.w → (x ∈ F ↔ y ∈ F)) := by
  cases pop with
  | nil => simp [logRanks] at h
  | cons ind0 rest =>
    simp only [logRanks_cons, Option.map_eq_some_iff, Prod.mk.injEq] at h
    obtain ⟨fr, -, rfl, rfl, rfl⟩ := h
    have hperm := List.mergeSort_perm (dkeys (mapFitInd (ind0 :: rest))) (fun a b => !Py.tupleLt a b)
    rw [logFronts_eq_map, show dget (mapFitInd (ind0 :: rest)) [] = _ from funext (mapFitInd_get _)]
    refine ⟨?_, ?_⟩
    · rw [← List.flatMap_def, ← List.flatMap_assoc, List.flatMap_id']
      refine ((rankFronts_flatten_perm _ _ _ fun f _ => Nat.lt_succ_of_le (dget_le_foldl_max fr f)).flatMap_right _).trans ?_
      refine (hperm.flatMap_right _).trans ((flatMap_group_perm _ _ (mapFitInd_nodup _)).trans ?_)
      exact List.Perm.of_eq (carriers_eq_self fun x hx => (mem_mapFitInd_keys _ x.w).2 ⟨x, hx, rfl⟩)
    · intro F hF x hx y hy hxy
      simp only [List.mem_map, mem_rankFronts] at hF
      obtain ⟨_, ⟨i, -, rfl⟩, rfl⟩ := hF
      simp [hx, hy, hxy]

theorem logTruncate_eq_leading (fronts : List (List (Ind α))) (k : Nat) (hk : k ≠ 0) :
    logTruncate fronts k = leading fronts k := by
  have gen : ∀ (fs : List (List (Ind α))) (count : Nat), count < k →
      logTruncate.go k fs count = leading fs (k - count) := by
    intro fs
    induction fs with
    | nil => intro c _; simp [logTruncate.go, leading]
    | cons f fs ih =>
      intro c hc
      rw [leading, if_neg (by omega), logTruncate.go]
      by_cases hge : c + f.length ≥ k
      · rw [if_pos hge]
        have : k - c - f.length = 0 := by omega
        rw [this, leading_zero]
      · rw [if_neg hge, ih (c + f.length) (by omega)]
        have : k - (c + f.length) = k - c - f.length := by omega
        rw [this]
  have := gen fronts 0 (by omega)
  simpa [logTruncate] using this

theorem helperA_two (a b : List α) (obj : Nat) (front : FrontDict α) :
    helperA [a, b] obj front =
      some (if isDominated (b.take (obj + 1)) (a.take (obj + 1)) then bump front b a else front) := by
  rw [helperA]; simp; split <;> rfl

theorem sortLog_pair (x y : Ind α) (a b c d : α) (hx : x.w = [a, b]) (hy : y.w = [c, d]) (hca : c < a)
    (hdb : d < b) : sortLog [x, y] 2 = some [[x], [y]] := by
  have h1 : ¬ a < c := not_lt.2 hca.le
  have h2 : ¬ b < d := not_lt.2 hdb.le
  simp [sortLog, logRanks, hx, hy, dset, dget, dkeys, dvalues, helperA_two, logFronts, logTruncate, logTruncate.go,
    List.mergeSort, Py.tupleLt, isDominated, isDominatedLoop, bump, hdb, hca.ne', h1, h2]

end C04L
