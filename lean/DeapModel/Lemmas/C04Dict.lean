/-
C04 lemmas: the association-list dictionaries as instances of `Lemmas/Dict.lean`, the grouping `mapFitInd`,
dominance on weighted value tuples of one length is a strict partial order, and the ranking of the individuals
is the ranking of their distinct fitnesses with every fitness replaced by its group.
-/
import DeapModel.Lemmas.C04Peel
import DeapModel.Props.C01
import DeapModel.Lemmas.Dict

namespace C04L
open NDSort

-- Tried first, these are the instances the search ends with anyway; otherwise it goes by way of `Ord α`
-- (`Std.LawfulOrderOrd` …) at every `List.count`, `∈` and `filter` on lists of fitnesses, and gives
-- that way up only after unfolding `compare`.
attribute [local instance 2000] List.instLawfulBEq instLawfulBEq LinearOrder.toDecidableLT LinearOrder.toDecidableLE

section Dict
variable {κ ν : Type} [DecidableEq κ]

theorem dget_eq (d : List (κ × ν)) (dflt : ν) (k : κ) : dget d dflt k = (d.lookup k).getD dflt := by
  induction d with
  | nil => rfl
  | cons p r ih => obtain ⟨a, b⟩ := p; rw [dget, Dict.lookup_cons, ih]; by_cases h : a = k <;> simp [h, Ne.symm]

theorem dset_eq (d : List (κ × ν)) (k : κ) (v : ν) : dset d k v = Dict.upsert (fun _ => v) k d := by
  induction d with
  | nil => rfl
  | cons p r ih => obtain ⟨a, b⟩ := p; simp only [dset, Dict.upsert, ih]

theorem dget_dset (d : List (κ × ν)) (dflt : ν) (k k' : κ) (v : ν) :
    dget (dset d k v) dflt k' = if k = k' then v else dget d dflt k' := by
  rw [dget_eq, dset_eq, Dict.lookup_upsert, dget_eq]; by_cases h : k' = k <;> simp [h, Ne.symm]

theorem dget_dset_self (d : List (κ × ν)) (dflt : ν) (k : κ) (v : ν) :
    dget (dset d k v) dflt k = v := by simp [dget_dset]

theorem dget_dset_ne (d : List (κ × ν)) (dflt : ν) {k k' : κ} (v : ν) (h : k ≠ k') :
    dget (dset d k v) dflt k' = dget d dflt k' := by simp [dget_dset, h]

theorem dkeys_dset (d : List (κ × ν)) (k : κ) (v : ν) :
    dkeys (dset d k v) = if k ∈ dkeys d then dkeys d else dkeys d ++ [k] :=
  dset_eq d k v ▸ Dict.keys_upsert _ k d

theorem mem_dkeys_dset (d : List (κ × ν)) (k k' : κ) (v : ν) :
    k' ∈ dkeys (dset d k v) ↔ k' = k ∨ k' ∈ dkeys d :=
  dset_eq d k v ▸ Dict.mem_keys_upsert _ k k' d

theorem nodup_dkeys_dset (d : List (κ × ν)) (k : κ) (v : ν) (h : (dkeys d).Nodup) :
    (dkeys (dset d k v)).Nodup :=
  dset_eq d k v ▸ Dict.nodup_keys_upsert _ k d h

theorem dget_of_not_mem (d : List (κ × ν)) (dflt : ν) (k : κ) (h : k ∉ dkeys d) :
    dget d dflt k = dflt := by
  rw [dget_eq, Dict.lookup_eq_none_iff_keys.2 h]; rfl

end Dict

variable {α : Type}

section Group
variable [DecidableEq α]

/-- the grouping loop started from an arbitrary dictionary -/
def groupFrom (d : List (List α × List (Ind α))) (pop : List (Ind α)) : List (List α × List (Ind α)) :=
  pop.foldl (fun d ind => dset d ind.w (dget d [] ind.w ++ [ind])) d

theorem groupFrom_spec (pop : List (Ind α)) : ∀ (d : List (List α × List (Ind α))),
    (∀ f, dget (groupFrom d pop) [] f = dget d [] f ++ pop.filter (fun x => decide (x.w = f))) ∧
    ((dkeys d).Nodup → (dkeys (groupFrom d pop)).Nodup) ∧
    (∀ f, f ∈ dkeys (groupFrom d pop) ↔ f ∈ dkeys d ∨ ∃ x ∈ pop, x.w = f) := by
  induction pop with
  | nil => intro d; simp [groupFrom]
  | cons a pop ih =>
    intro d
    obtain ⟨h1, h2, h3⟩ := ih (dset d a.w (dget d [] a.w ++ [a]))
    simp only [groupFrom, List.foldl_cons] at h1 h2 h3 ⊢
    refine ⟨fun f => ?_, fun hd => h2 (nodup_dkeys_dset _ _ _ hd), fun f => ?_⟩
    · rw [h1 f, dget_dset]
      by_cases h : a.w = f
      · simp [h]
      · simp [h]
    · rw [h3 f, mem_dkeys_dset]
      constructor
      · rintro ((rfl | h) | ⟨x, hx, rfl⟩)
        · exact Or.inr ⟨a, by simp, rfl⟩
        · exact Or.inl h
        · exact Or.inr ⟨x, by simp [hx], rfl⟩
      · rintro (h | ⟨x, hx, rfl⟩)
        · exact Or.inl (Or.inr h)
        · rcases List.mem_cons.1 hx with rfl | hx
          · exact Or.inl (Or.inl rfl)
          · exact Or.inr ⟨x, hx, rfl⟩

theorem mapFitInd_get (pop : List (Ind α)) (f : List α) :
    dget (mapFitInd pop) [] f = pop.filter (fun x => decide (x.w = f)) :=
  ((groupFrom_spec pop []).1 f).trans (List.nil_append _)

theorem mapFitInd_nodup (pop : List (Ind α)) : (dkeys (mapFitInd pop)).Nodup :=
  (groupFrom_spec pop []).2.1 List.nodup_nil

theorem mem_mapFitInd_keys (pop : List (Ind α)) (f : List α) :
    f ∈ dkeys (mapFitInd pop) ↔ ∃ x ∈ pop, x.w = f :=
  ((groupFrom_spec pop []).2.2 f).trans (or_iff_right List.not_mem_nil)

/-- the groups of the distinct keys `F`, one after the other, are the elements whose key is in `F` -/
theorem flatMap_filter_key_perm {β γ : Type} [DecidableEq γ] (key : β → γ) (l : List β) : ∀ (F : List γ), F.Nodup →
    (F.flatMap (fun c => l.filter (fun x => decide (key x = c)))).Perm (l.filter (fun x => decide (key x ∈ F)))
  | [], _ => by simp
  | f :: F, hnd => by
    have hf : f ∉ F := (List.nodup_cons.1 hnd).1
    rw [List.flatMap_cons]
    refine (List.Perm.append_left _ (flatMap_filter_key_perm key l F (List.nodup_cons.1 hnd).2)).trans ?_
    have hsplit := List.filter_append_perm (fun x : β => decide (key x = f))
      (l.filter (fun x => decide (key x ∈ f :: F)))
    rw [List.filter_filter, List.filter_filter] at hsplit
    have e1 : l.filter (fun x => decide (key x = f) && decide (key x ∈ f :: F)) =
        l.filter (fun x => decide (key x = f)) :=
      List.filter_congr fun x _ => by by_cases h : key x = f <;> simp [h]
    have e2 : l.filter (fun x => (!decide (key x = f)) && decide (key x ∈ f :: F)) =
        l.filter (fun x => decide (key x ∈ F)) :=
      List.filter_congr fun x _ => by
        by_cases h : key x = f
        · simp [h, hf]
        · simp [h]
    rw [e1, e2] at hsplit
    exact hsplit

theorem flatMap_group_perm (pop : List (Ind α)) (F : List (List α)) (h : F.Nodup) :
    (F.flatMap (fun f => pop.filter (fun x => decide (x.w = f)))).Perm (pop.filter (fun x => decide (x.w ∈ F))) := by
  convert flatMap_filter_key_perm (fun x : Ind α => x.w) pop F h

end Group

section Dom
variable [LinearOrder α]

theorem domW_iff (a b : List α) :
    domW a b = true ↔ (∀ p ∈ a.zip b, p.2 ≤ p.1) ∧ (∃ p ∈ a.zip b, p.2 < p.1) := by
  rw [domW, C01.dominatesLoop_iff]; simp only [Bool.false_eq_true, false_or]

theorem domW_irrefl (a : List α) : domW a a = false := C01.dominatesLoop_irrefl a

theorem zip_trans : ∀ (a b c : List α), a.length = b.length → b.length = c.length →
    (∀ p ∈ a.zip b, p.2 ≤ p.1) → (∀ p ∈ b.zip c, p.2 ≤ p.1) →
    (∀ p ∈ a.zip c, p.2 ≤ p.1) ∧ ((∃ p ∈ a.zip b, p.2 < p.1) → ∃ p ∈ a.zip c, p.2 < p.1)
  | [], _, _, _, _, _, _ => ⟨fun _ h => (List.not_mem_nil h).elim, fun ⟨_, h, _⟩ => (List.not_mem_nil h).elim⟩
  | _ :: _, [], _, h, _, _, _ => by simp at h
  | _ :: _, _ :: _, [], _, h, _, _ => by simp at h
  | x :: a, y :: b, z :: c, h1, h2, hab, hbc => by
    simp only [List.zip_cons_cons, List.mem_cons, forall_eq_or_imp, exists_eq_or_imp] at hab hbc ⊢
    obtain ⟨ih1, ih2⟩ := zip_trans a b c (by simpa using h1) (by simpa using h2) hab.2 hbc.2
    exact ⟨⟨le_trans hbc.1 hab.1, ih1⟩, fun h => h.imp (lt_of_le_of_lt hbc.1) ih2⟩

theorem domW_trans {a b c : List α} (h1 : a.length = b.length) (h2 : b.length = c.length)
    (hab : domW a b = true) (hbc : domW b c = true) : domW a c = true := by
  rw [domW_iff] at *
  exact ⟨(zip_trans a b c h1 h2 hab.1 hbc.1).1, (zip_trans a b c h1 h2 hab.1 hbc.1).2 hab.2⟩

theorem spo_domW (m : Nat) (R : List (List α)) (hlen : ∀ f ∈ R, f.length = m) : SPO domW R :=
  ⟨fun x _ => domW_irrefl x,
   fun x hx y hy z hz => domW_trans ((hlen x hx).trans (hlen y hy).symm) ((hlen y hy).trans (hlen z hz).symm)⟩

theorem spo_domI (m : Nat) (pop : List (Ind α)) (hlen : ∀ x ∈ pop, x.w.length = m) : SPO domI pop :=
  ⟨fun x _ => domW_irrefl x.w,
   fun x hx y hy z hz => domW_trans ((hlen x hx).trans (hlen y hy).symm) ((hlen y hy).trans (hlen z hz).symm)⟩

/-- individuals carrying one of the fitnesses `F` -/
def carriers (pop : List (Ind α)) (F : List (List α)) : List (Ind α) :=
  pop.filter (fun x => decide (x.w ∈ F))

theorem mem_carriers {pop : List (Ind α)} {F : List (List α)} {x : Ind α} :
    x ∈ carriers pop F ↔ x ∈ pop ∧ x.w ∈ F := by simp [carriers]

theorem carriers_eq_self {pop : List (Ind α)} {F : List (List α)} (h : ∀ x ∈ pop, x.w ∈ F) : carriers pop F = pop :=
  List.filter_eq_self.2 fun x hx => decide_eq_true (h x hx)

theorem carriers_ne_nil (pop : List (Ind α)) (R : List (List α)) (hrep : ∀ f ∈ R, ∃ x ∈ pop, x.w = f)
    (hne : R ≠ []) : carriers pop R ≠ [] := by
  obtain ⟨f, hf⟩ := List.exists_mem_of_ne_nil R hne
  obtain ⟨x, hx, rfl⟩ := hrep f hf
  exact List.ne_nil_of_mem (mem_carriers.2 ⟨hx, hf⟩)

theorem any_carriers (pop : List (Ind α)) (R : List (List α)) (hrep : ∀ f ∈ R, ∃ x ∈ pop, x.w = f)
    (x : Ind α) : (carriers pop R).any (fun y => domI y x) = R.any (fun f => domW f x.w) := by
  rw [Bool.eq_iff_iff]
  simp only [List.any_eq_true, mem_carriers, domI]
  constructor
  · rintro ⟨y, ⟨_, hy⟩, hd⟩; exact ⟨y.w, hy, hd⟩
  · rintro ⟨f, hf, hd⟩
    obtain ⟨y, hy, rfl⟩ := hrep f hf
    exact ⟨y, ⟨hy, hf⟩, hd⟩

theorem carriers_nondom (pop : List (Ind α)) (R : List (List α)) (hrep : ∀ f ∈ R, ∃ x ∈ pop, x.w = f) :
    nondom domI (carriers pop R) = carriers pop (nondom domW R) ∧
    dominatedPart domI (carriers pop R) = carriers pop (dominatedPart domW R) := by
  have h := any_carriers pop R hrep
  simp only [carriers] at h
  constructor <;>
  · simp only [nondom, dominatedPart, carriers, List.filter_filter]
    refine List.filter_congr fun x _ => ?_
    rw [h x, Bool.eq_iff_iff]
    simp [and_comm]

/-- The ranking of the individuals is the ranking of their distinct fitnesses, every fitness
replaced by the individuals carrying it. -/
theorem peel_carriers (m : Nat) (pop : List (Ind α)) (hlen : ∀ x ∈ pop, x.w.length = m) :
    ∀ (R : List (List α)), SPO domW R → (∀ f ∈ R, ∃ x ∈ pop, x.w = f) →
      peel domI (carriers pop R) = (peel domW R).map (carriers pop) := by
  have hpop := spo_domI m pop hlen
  refine peel_induction (P := fun R => (∀ f ∈ R, ∃ x ∈ pop, x.w = f) →
      peel domI (carriers pop R) = (peel domW R).map (carriers pop)) ?_ ?_
  · intro _; simp [carriers, peel_nil]
  · intro R hne hR ih hrep
    have hS : SPO domI (carriers pop R) := hpop.mono (fun x hx => (mem_carriers.1 hx).1)
    rw [peel_eq (carriers_ne_nil pop R hrep hne) hS, peel_eq hne hR, List.map_cons, (carriers_nondom pop R hrep).1,
      (carriers_nondom pop R hrep).2, ih (fun f hf => hrep f (dominatedPart_subset f hf))]

end Dom

end C04L
