import DeapModel.Lemmas.C15HvCReB5
import DeapModel.Lemmas.C15HvCGenB6
/-!
C15 — `fpli_hv` of `_hv.c` in EVERY dimension, from the level interface (`Lemmas/C15HvCInv.lean`): the induction over
the levels of `hv_recursive` (3-D base case `C15HvCRe*`, general step `C15HvCGen*`), and the glue to `setup_cdllist` +
`filter`.
-/
namespace HvC
open Hypervolume
open HvSweep (RL ids)

theorem levels_ok {C : Cargo} {R : List ℚ} {d n : ℕ} {O : ℕ → List ℕ} (c : CCtx C R d n O) (F : ℕ) (hF : n + 2 ≤ F) :
    ∀ (k : ℕ), 2 ≤ k → k < d → LevelOKC C R d n O F k
  | 0, h, _ => by omega
  | 1, h, _ => by omega
  | 2, _, _ => dim3_ok C R d n O F c hF
  | k + 3, _, hk => generalStep_ok C R d n O F (k + 2) c hF (by omega) hk (levels_ok c F hF (k + 2) (by omega) (by omega))

theorem cg_trC (C : Cargo) (R : List ℚ) (a j : ℕ) (ha : a < C.length) (hp : j < (ptOf C a).length) (hr : j < R.length) :
    HvSweep.cg (trC C R) a j = cg C a j - rf R j := by
  unfold HvSweep.cg HvSweep.tget trC
  have : (C.map (fun p => List.zipWith (· - ·) p R)).getD a [] = List.zipWith (· - ·) (C.getD a []) R := by
    simp only [List.getD_eq_getElem?_getD, List.getElem?_map, List.getElem?_eq_getElem ha, Option.map_some,
      Option.getD_some]
  rw [this]
  exact List.getD_zipWith (· - ·) (ptOf C a) R j 0 0 0 hp hr

theorem hvCells_take_all (R : List ℚ) (P : List Pt) : hvCells (R.take R.length) P = hvCells R P := by
  rw [List.take_length]

/-- a point with every coordinate at or below the reference is its own clamp -/
theorem zipWith_min_eq_self : ∀ (p r : List ℚ), p.length = r.length → (∀ j < r.length, p.getD j 0 ≤ r.getD j 0) →
    List.zipWith min p r = p
  | [], _, _, _ => rfl
  | x :: p, [], h, _ => by simp at h
  | x :: p, y :: r, h, hle => by
    rw [List.zipWith_cons_cons, zipWith_min_eq_self p r (by simpa using h)
      (fun j hj => by simpa using hle (j + 1) (by simp; omega))]
    have : x ≤ y := by simpa using hle 0 (by simp)
    rw [min_eq_left this]

/-- the clamped points are a static context for any orders sorted by the coordinates as given -/
theorem CCtx.of_orders {C : Cargo} {R : List ℚ} {d n : ℕ} {O : ℕ → List ℕ} (hd : 3 ≤ d) (hRd : R.length = d)
    (hCl : C.length = n + 1) (hlenpt : ∀ a ∈ ids n, (ptOf C a).length = d) (hO : ∀ j < d, Order C n j (O j)) :
    CCtx C R d n O := by
  have haC : ∀ a ∈ ids n, a < C.length := by
    intro a ha
    have := (HvSweep.mem_ids n a).mp ha
    omega
  have hlens : ∀ a ∈ ids n, (spt C R a).length = d := by
    intro a ha
    rw [spt_eq C R a (haC a ha), List.length_zipWith, hlenpt a ha, hRd, min_self]
  have hsmin : ∀ a ∈ ids n, ∀ j < d, (spt C R a).getD j 0 = min (cg C a j) (rf R j) :=
    fun a ha j hj => spt_getD C R a j (by rw [hlens a ha]; exact hj)
  have hcg : ∀ a ∈ ids n, ∀ j < d, HvSweep.cg (stc C R) a j = (spt C R a).getD j 0 - R.getD j 0 := by
    intro a ha j hj
    have hcl : a < (clC C R).length := by unfold clC; rw [List.length_map]; exact haC a ha
    exact cg_trC (clC C R) R a j hcl (by rw [hlens a ha]; exact hj) (by rw [hRd]; exact hj)
  exact
    { g :=
        { hdims := hRd
          perm := fun i hi => (hO i hi).perm
          sorted := by
            intro i hi
            have hp := (hO i hi).perm
            refine List.Pairwise.imp_of_mem ?_ (hO i hi).sorted
            intro a b ha hb hab
            rw [hcg a (hp.mem_iff.mp ha) i hi, hcg b (hp.mem_iff.mp hb) i hi,
              hsmin a (hp.mem_iff.mp ha) i hi, hsmin b (hp.mem_iff.mp hb) i hi]
            have := min_le_min_right (rf R i) hab
            linarith
          cgv := hcg
          len := hlens
          le := by
            intro a ha j hj
            rw [hsmin a ha j hj]
            exact min_le_right _ _ }
      srt := fun i hi => (hO i hi).sorted
      hd := hd }

/-- **the glue to `setup_cdllist` + `filter`**: for every list of points with `d = ref.length ≥ 3` coordinates
(NO assumption on their position relative to the reference point) there are static orders `O` such that the static
context `CCtx` holds, and the state after `filter` satisfies the level interface `InvC` at the top level `d - 1` with the
surviving nodes `G` (those strictly below the reference in every coordinate). -/
theorem Ready.ctx {data : List (List ℚ)} {R : List ℚ} {n' : ℕ} {S : St} (hR : Ready data R n' S) (hd : 3 ≤ R.length)
    (hlen : ∀ p ∈ data, p.length = R.length) :
    ∃ (O : ℕ → List ℕ) (G : List ℕ), CCtx ([] :: data) R R.length data.length O ∧
      InvC ([] :: data) R R.length data.length O S (R.length - 1) G ∧ G.length = n' ∧
      G = (ids data.length).filter (goodUpTo ([] :: data) R R.length) := by
  set C : Cargo := [] :: data with hC
  set n := data.length with hn
  set d := R.length with hdd
  classical
  let O : ℕ → List ℕ := fun j => if hj : j < d then (hR.lists j hj).choose else []
  have hO : ∀ j (hj : j < d), Order C n j (O j) ∧ DLc n S j ((O j).filter (goodUpTo C R d)) := by
    intro j hj
    have : O j = (hR.lists j hj).choose := by simp [O, hj]
    rw [this]; exact (hR.lists j hj).choose_spec
  have c : CCtx C R d n O := CCtx.of_orders hd rfl (by simp [hC, hn])
    (fun a ha => hlen _ (mem_data_of_mem_ids data a ha)) (fun j hj => (hO j hj).1)
  set G := (ids n).filter (goodUpTo C R d) with hG
  have hGlen : G.length = n' := hR.count.symm
  have hRL : ∀ i < d, RL O i G = (O i).filter (goodUpTo C R d) := by
    intro i hi
    apply List.filter_congr
    intro a ha
    have haI : a ∈ ids n := (hO i hi).1.perm.mem_iff.mp ha
    rw [hG]
    simp [List.mem_filter, haI]
  have hbnone : ∀ i, S.bound.getD i none = none := by
    intro i; rw [hR.same.bound]; exact HvSweep.getD_replicate_self _ _ none
  have hign0 : ∀ x, ign S x = 0 := by
    intro x
    show S.ignore.getD x 0 = 0
    rw [hR.same.ignore]; exact HvSweep.getD_replicate_self _ _ 0
  have inv : InvC C R d n O S (d - 1) G :=
    { shape := hR.shape
      tsh :=
        { area := by rw [hR.same.area]; exact HvSweep.shaped_replicate _ _ _
          vol := by rw [hR.same.vol]; exact HvSweep.shaped_replicate _ _ _
          ign := by rw [hR.same.ignore]; simp [initSt, hn]
          domr := by rw [hR.same.domr]; simp [initSt, hn]
          bound := by rw [hR.same.bound]; simp [initSt, hdd] }
      nodup := (HvSweep.ids_nodup n).filter _
      sub := fun a ha => (List.mem_filter.mp ha).1
      good := fun a ha j hj => (goodUpTo_iff C R d a).mp (List.mem_filter.mp ha).2 j hj
      lists := by
        intro i _ hi
        rw [hRL i (by omega)]
        exact (hO i (by omega)).2
      cv := by
        intro j _ _ a _ b hb _
        rw [hbnone] at hb; cases hb
      ig := by
        intro q _ hq
        rw [hign0 q] at hq; omega
      igd := by
        intro q hq
        rw [hign0 q] at hq; omega
      dm := by
        intro a _ b hb _
        rw [hbnone] at hb; cases hb
      tree := by rw [hR.same.tree]; rfl }
  exact ⟨O, G, c, inv, hGlen, rfl⟩

/-- `fpli_hv` returns the specification for three and more objectives — for EVERY list of points with as many
coordinates as the reference point, wherever they lie relative to it (points not strictly below the reference are
removed by `filter` and contribute nothing to `hvCells`) -/
theorem fpliHv_ge3_all (data : List (List ℚ)) (R : List ℚ) (hd : 3 ≤ R.length) (hlen : ∀ p ∈ data, p.length = R.length) :
    fpliHv data R = some (hvCells R data) := by
  refine fpliHv_of_rec data R (by omega) (fun {n' S} hR hn => ?_)
  obtain ⟨O, G, c, inv, hGlen, hGdef⟩ := hR.ctx hd hlen
  set C : Cargo := [] :: data with hC
  set n := data.length
  set d := R.length
  have hlv := levels_ok c (n + 2) (le_refl _) (d - 1) (by omega) (by omega)
  obtain ⟨v, S', hrun, post⟩ := hlv S G inv (by rw [hGlen]; omega)
  rw [hGlen] at hrun
  refine ⟨S', hrun.trans ?_⟩
  rw [post.val, HvSweep.Hj_top R _ (by omega)]
  -- a surviving node is its own clamp
  have hmap : G.map (spt C R) = G.map (ptOf C) := by
    apply List.map_congr_left
    intro a ha
    have haI := inv.sub a ha
    have haC : a < C.length := by
      have := (HvSweep.mem_ids n a).mp haI
      simp [hC]; omega
    rw [spt_eq C R a haC]
    apply zipWith_min_eq_self _ _ (hlen _ (mem_data_of_mem_ids data a haI))
    intro j hj
    exact (inv.good a ha j hj).le
  rw [hmap, hGdef]
  -- the survivors carry the whole hypervolume
  have hv := hvCells_data_eq_good data R (ids n) (List.Perm.refl _)
  rw [hv]

end HvC
