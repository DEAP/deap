/-
Helper lemmas and specification vocabulary for C06: the tournaments and the double tournament's parsimony stage.
-/
import DeapModel.Lemmas.C06

namespace C06L
open Selection

theorem fitTournStep_iff {pop : Pop} {fs : Nat} {select : Nat → Tape → Option (List Nat × Tape)}
    {t t' : Tape} {w : Nat} :
    fitTournStep pop fs select t = some (w, t') ↔
      ∃ asp, select fs t = some (asp, t') ∧ pyMax (fitGt pop) asp = some w := by
  unfold fitTournStep
  rcases select fs t with _ | ⟨asp, t1⟩
  · simp
  · cases h2 : pyMax (fitGt pop) asp <;> simp [h2, and_comm]

theorem fitTournStep_spec {pop : Pop} {fs : Nat} {select : Nat → Tape → Option (List Nat × Tape)}
    {t t' : Tape} {w : Nat} (h : fitTournStep pop fs select t = some (w, t')) :
    ∃ asp, select fs t = some (asp, t') ∧ w ∈ asp ∧ ∀ a ∈ asp, fitLt pop w a = false :=
  let ⟨asp, hs, hm⟩ := fitTournStep_iff.1 h
  ⟨asp, hs, pyMax_spec pop hm⟩

/-- a fitness tournament over any reader `select` of aspirants reads what `select` reads and answers the first best aspirant -/
theorem Parses.fitStep {D : Type} {select : Nat → Tape → Option (List Nat × Tape)} {enc : D → Tape}
    {R : List Nat → D → Prop} {fs : Nat} (h : Parses (select fs) enc R) (pop : Pop) :
    Parses (fitTournStep pop fs select) enc (fun w d => ∃ asp, R asp d ∧ pyMax (fitGt pop) asp = some w) :=
  fun _ _ _ => fitTournStep_iff.trans
    ⟨fun ⟨asp, hs, hm⟩ => let ⟨d, ht, hR⟩ := (h _ _ _).1 hs; ⟨d, ht, asp, hR, hm⟩,
      fun ⟨d, ht, asp, hR, hm⟩ => ⟨asp, (h _ _ _).2 ⟨d, ht, hR⟩, hm⟩⟩

theorem tournStep_eq_fit (pop : Pop) (ts : Nat) : tournStep pop ts = fitTournStep pop ts (selRandom pop.length) := rfl

/-- The statement's size tournament between `i1` and `i2` with the draw `r`: the smaller individual
wins iff `r < parsimony_size / 2`; with equal sizes the first one wins iff `r < 1/2`. -/
def parsimonyPick (pop : Pop) (ps : Rat) (i1 i2 : Nat) (r : Rat) : Nat :=
  if sizeAt pop i1 = sizeAt pop i2 then (if r < 1 / 2 then i1 else i2)
  else if sizeAt pop i1 < sizeAt pop i2 then (if r < ps / 2 then i1 else i2)
  else (if r < ps / 2 then i2 else i1)

theorem sizeTournStep_iff {pop : Pop} {ps : Rat} {select : Nat → Tape → Option (List Nat × Tape)}
    {t t' : Tape} {w : Nat} :
    sizeTournStep pop ps select t = some (w, t') ↔
      ∃ i1 i2 t1 r, select 2 t = some ([i1, i2], t1) ∧ popRandom t1 = some (r, t') ∧
        w = parsimonyPick pop ps i1 i2 r := by
  -- the model orders the pair by size before it draws; `parsimonyPick` is the same choice on the unordered pair
  have key (i1 i2 : Nat) (r : Rat) :
      (if r < (if decide (sizeAt pop i1 = sizeAt pop i2) = true then (1 : Rat) / 2 else ps / 2) then
        (if decide (sizeAt pop i1 > sizeAt pop i2) = true then i2 else i1)
      else (if decide (sizeAt pop i1 > sizeAt pop i2) = true then i1 else i2))
      = parsimonyPick pop ps i1 i2 r := by
    unfold parsimonyPick
    rcases Nat.lt_trichotomy (sizeAt pop i1) (sizeAt pop i2) with h | h | h
    · simp [h, h.ne, h.asymm]
    · simp [h]
    · simp [h, h.ne', h.asymm]
  unfold sizeTournStep
  split
  · next i1 i2 t1 hsel =>
    simp only [hsel, key, Option.some.injEq, Prod.mk.injEq, List.cons.injEq, and_assoc,
      exists_and_left, exists_eq_left']
    rcases popRandom t1 with _ | ⟨r, t2⟩ <;> simp [eq_comm, and_comm]
  · next hne => exact iff_of_false nofun fun ⟨i1, i2, t1, r, hsel, _⟩ => hne i1 i2 t1 hsel

theorem sizeTournStep_spec {pop : Pop} {ps : Rat} {select : Nat → Tape → Option (List Nat × Tape)}
    {t t' : Tape} {w : Nat} (h : sizeTournStep pop ps select t = some (w, t')) :
    ∃ i1 i2 t1 r, select 2 t = some ([i1, i2], t1) ∧ popRandom t1 = some (r, t') ∧ (w = i1 ∨ w = i2) := by
  obtain ⟨i1, i2, t1, r, hs, hr, rfl⟩ := sizeTournStep_iff.1 h
  refine ⟨i1, i2, t1, r, hs, hr, ?_⟩
  unfold parsimonyPick
  split_ifs <;> simp

/-- What a `select(individuals, k=m)` callback guarantees: `m` population indices. -/
def SelOK (n : Nat) (select : Nat → Tape → Option (List Nat × Tape)) : Prop :=
  ∀ m t l t', select m t = some (l, t') → l.length = m ∧ ∀ i ∈ l, i < n

theorem selRandom_ok (n : Nat) : SelOK n (selRandom n) :=
  fun _ _ _ _ h => (selRandom_spec.1 h).2

theorem fitTournament_ok {pop : Pop} {fs : Nat} {select : Nat → Tape → Option (List Nat × Tape)}
    (hs : SelOK pop.length select) : SelOK pop.length (fitTournament pop fs select) := by
  intro m t l t' h
  refine ⟨repeatM_length _ h, repeatM_forall _ (fun i => i < pop.length) ?_ h⟩
  intro t x t' hx
  obtain ⟨asp, h1, h2, _⟩ := fitTournStep_spec hx
  exact (hs _ _ _ _ h1).2 x h2

theorem sizeTournament_ok {pop : Pop} {ps : Rat} {select : Nat → Tape → Option (List Nat × Tape)}
    (hs : SelOK pop.length select) : SelOK pop.length (sizeTournament pop ps select) := by
  intro m t l t' h
  refine ⟨repeatM_length _ h, repeatM_forall _ (fun i => i < pop.length) ?_ h⟩
  intro t x t' hx
  obtain ⟨i1, i2, t1, r, h1, _, h3⟩ := sizeTournStep_spec hx
  rcases h3 with rfl | rfl <;> exact (hs _ _ _ _ h1).2 _ (by simp)

theorem selDouble_some_iff {pop : Pop} {k fs : Nat} {ps : Rat} {ff : Bool} {t : Tape} {r : List Nat × Tape} :
    selDoubleTournament pop k fs ps ff t = some r ↔ (1 ≤ ps ∧ ps ≤ 2) ∧
      (bif ff then sizeTournament pop ps (fitTournament pop fs (selRandom pop.length)) k t
        else fitTournament pop fs (sizeTournament pop ps (selRandom pop.length)) k t) = some r :=
  Option.ite_none_right_eq_some.trans (and_congr_right fun _ => by cases ff <;> rfl)

theorem selDouble_ok (pop : Pop) (fs : Nat) (ps : Rat) (ff : Bool) :
    SelOK pop.length fun k => selDoubleTournament pop k fs ps ff := by
  intro k t l t' h
  cases ff
  · exact fitTournament_ok (sizeTournament_ok (selRandom_ok _)) _ _ _ _ (selDouble_some_iff.1 h).2
  · exact sizeTournament_ok (fitTournament_ok (selRandom_ok _)) _ _ _ _ (selDouble_some_iff.1 h).2

/-- tape segment of one size tournament fed by `selRandom`: two choices and a coin -/
def enc3 (d : Nat × Nat × Rat) : Tape := [Draw.choice d.1, Draw.choice d.2.1, Draw.random d.2.2]

/-- a valid (pair, coin) triple for a population of `n` individuals -/
def Valid3 (n : Nat) (d : Nat × Nat × Rat) : Prop := d.1 < n ∧ d.2.1 < n ∧ 0 ≤ d.2.2 ∧ d.2.2 < 1

theorem sizeStep_random_parses (pop : Pop) (ps : Rat) :
    Parses (sizeTournStep pop ps (selRandom pop.length)) enc3
      (fun w d => Valid3 pop.length d ∧ w = parsimonyPick pop ps d.1 d.2.1 d.2.2) := by
  intro t w t'
  rw [sizeTournStep_iff]
  constructor
  · rintro ⟨i1, i2, t1, r, hsel, hr, rfl⟩
    obtain ⟨rfl, _, hlt⟩ := selRandom_spec.1 hsel
    obtain ⟨rfl, h0, h1⟩ := popRandom_some.1 hr
    exact ⟨(i1, i2, r), by simp [enc3], ⟨hlt i1 (by simp), hlt i2 (by simp), h0, h1⟩, rfl⟩
  · rintro ⟨⟨i1, i2, r⟩, rfl, ⟨h1, h2, h3, h4⟩, rfl⟩
    refine ⟨i1, i2, Draw.random r :: t', r, selRandom_spec.2 ?_, popRandom_some.2 ⟨rfl, h3, h4⟩, rfl⟩
    exact ⟨by simp [enc3], rfl, List.forall_mem_cons.2 ⟨h1, List.forall_mem_cons.2 ⟨h2, nofun⟩⟩⟩

theorem fitStep_size_parses (pop : Pop) (ps : Rat) (fs : Nat) :
    Parses (fitTournStep pop fs (sizeTournament pop ps (selRandom pop.length)))
      (fun trips : List (Nat × Nat × Rat) => trips.flatMap enc3)
      (fun w trips => trips.length = fs ∧ (∀ d ∈ trips, Valid3 pop.length d) ∧
        pyMax (fitGt pop) (trips.map (fun d => parsimonyPick pop ps d.1 d.2.1 d.2.2)) = some w) :=
  (Parses.fitStep (select := sizeTournament pop ps (selRandom pop.length)) ((sizeStep_random_parses pop ps).repeatM fs) pop).congr
    fun _ _ => ⟨fun ⟨_, ⟨hlen, hall⟩, hm⟩ => by obtain ⟨rfl, hv⟩ := forall₂_map_iff.1 hall; exact ⟨hlen, hv, hm⟩,
      fun ⟨hlen, hv, hm⟩ => ⟨_, ⟨hlen, forall₂_map_iff.2 ⟨rfl, hv⟩⟩, hm⟩⟩

/-- tape segment of one fitness-first selection: two groups of choices and a coin -/
def encF (d : List Nat × List Nat × Rat) : Tape :=
  d.1.map Draw.choice ++ (d.2.1.map Draw.choice ++ [Draw.random d.2.2])

theorem fitStep_random_parses (pop : Pop) (fs : Nat) :
    Parses (fitTournStep pop fs (selRandom pop.length)) (fun g : List Nat => g.map Draw.choice)
      (fun w g => (g.length = fs ∧ ∀ a ∈ g, a < pop.length) ∧ pyMax (fitGt pop) g = some w) :=
  ((selRandom_parses pop.length fs).fitStep pop).congr
    fun _ g => ⟨fun ⟨_, ⟨rfl, hv⟩, hm⟩ => ⟨hv, hm⟩, fun ⟨hv, hm⟩ => ⟨g, ⟨rfl, hv⟩, hm⟩⟩

/-- Which tapes `selTournament` accepts and what it answers: `k` groups of `tournsize` valid choices, of each the first
best (`tournament_winner` and `tournament_total` are the two directions). -/
theorem selTournament_parses (pop : Pop) (k ts : Nat) :
    Parses (selTournament pop k ts) (fun groups : List (List Nat) => groups.flatMap fun g => g.map Draw.choice)
      (fun res groups => groups.length = k ∧ List.Forall₂ (fun w g => (g.length = ts ∧ ∀ a ∈ g, a < pop.length) ∧
        pyMax (fitGt pop) g = some w) res groups) := by
  show Parses (Selection.repeatM (tournStep pop ts) k) _ _
  rw [tournStep_eq_fit]
  exact (fitStep_random_parses pop ts).repeatM k

theorem sizeStep_fit_parses (pop : Pop) (ps : Rat) (fs : Nat) :
    Parses (sizeTournStep pop ps (fitTournament pop fs (selRandom pop.length))) encF
      (fun w d => d.1.length = fs ∧ d.2.1.length = fs ∧ (∀ a ∈ d.1, a < pop.length) ∧ (∀ a ∈ d.2.1, a < pop.length) ∧
        0 ≤ d.2.2 ∧ d.2.2 < 1 ∧
        ∃ w1 w2, pyMax (fitGt pop) d.1 = some w1 ∧ pyMax (fitGt pop) d.2.1 = some w2 ∧
          w = parsimonyPick pop ps w1 w2 d.2.2) := by
  have hrep : Parses (fitTournament pop fs (selRandom pop.length) 2) _ _ := (fitStep_random_parses pop fs).repeatM 2
  intro t w t'
  rw [sizeTournStep_iff]
  constructor
  · rintro ⟨i1, i2, t1, r, hsel, hr, rfl⟩
    obtain ⟨_, rfl, -, _ | ⟨ha, _ | ⟨hb, _ | _⟩⟩⟩ := (hrep t [i1, i2] t1).1 hsel
    obtain ⟨rfl, h0, h1⟩ := popRandom_some.1 hr
    exact ⟨(_, _, r), by simp [encF], ha.1.1, hb.1.1, ha.1.2, hb.1.2, h0, h1, i1, i2, ha.2, hb.2, rfl⟩
  · rintro ⟨⟨g1, g2, r⟩, rfl, hl1, hl2, hv1, hv2, h0, h1, w1, w2, hm1, hm2, rfl⟩
    refine ⟨w1, w2, Draw.random r :: t', r, ?_, popRandom_some.2 ⟨rfl, h0, h1⟩, rfl⟩
    refine (hrep _ _ _).2 ⟨[g1, g2], by simp [encF], rfl, ?_⟩
    exact List.Forall₂.cons ⟨⟨hl1, hv1⟩, hm1⟩ (List.Forall₂.cons ⟨⟨hl2, hv2⟩, hm2⟩ List.Forall₂.nil)

end C06L
