import DeapModel.Lemmas.C15Wrap
import DeapModel.Lemmas.C15Sym
/-!
C15 — the two-dimensional staircase as pyhv's base case `dimIndex == 1` computes it (sweep the points in
ascending order of the SECOND coordinate, keep the running minimum of the first: `stairXY_eq_hvCells`), and the
slab decomposition of the general step in every dimension (`slabFold_inv`; `C15.hv_slab_decomposition` reads it off).  Pure mathematics about
`hvCells` (no pointers).
-/
namespace Hypervolume

def toPt (p : ℚ × ℚ) : Pt := [p.1, p.2]

theorem pmax_pair (r₁ r₂ : ℚ) (p q : ℚ × ℚ) :
    pmax [r₁, r₂] (toPt p) (toPt q) = [if p.1 ≤ q.1 then q.1 else p.1, if p.2 ≤ q.2 then q.2 else p.2] := rfl

/-- adding a point that is highest in the second coordinate: the new area is
(old running minimum − new running minimum of the first coordinate) × (r₂ − y).  This is the slab step along
the last coordinate, the slab being one-dimensional. -/
theorem hvCells_add_top (r₁ r₂ : ℚ) (P : List (ℚ × ℚ)) (x y : ℚ) (hy : ∀ p ∈ P, p.2 ≤ y) (hyr : y ≤ r₂) :
    hvCells [r₁, r₂] (toPt (x, y) :: P.map toPt)
      = hvCells [r₁, r₂] (P.map toPt)
        + ((P.map Prod.fst).foldr min r₁ - min ((P.map Prod.fst).foldr min r₁) x) * (r₂ - y) := by
  have key := hvCells_add_top_slab_last r₂ [r₁] (P.map toPt) (toPt (x, y))
    (by
      intro s hs
      rcases List.mem_cons.mp hs with rfl | hs
      · rfl
      · obtain ⟨q, _, rfl⟩ := List.mem_map.mp hs; rfl)
    (by intro s hs; obtain ⟨q, hq, rfl⟩ := List.mem_map.mp hs; exact hy q hq) hyr
  have hfst : ∀ Q : List (ℚ × ℚ), ((Q.map toPt).map List.dropLast).map (fun p : Pt => p.headD 0) = Q.map Prod.fst := by
    intro Q; rw [List.map_map, List.map_map]; rfl
  rw [hvCells_1d, hvCells_1d, ← List.map_cons (f := toPt), hfst, hfst, List.map_cons, List.map_cons,
    List.foldr_cons] at key
  rw [show ([r₁, r₂] : List ℚ) = [r₁] ++ [r₂] from rfl, key, min_comm]
  show _ + (r₂ - y) * _ = _
  ring

/-- pyhv's 2-D loop on value pairs: `yq` the ordinate of the previous point, `h` the running minimum of
`x − r₁`, `hvol` the accumulated area (everything translated by the reference, as in the code). -/
def stairXY (r₁ r₂ : ℚ) : List (ℚ × ℚ) → (yq h hvol : ℚ) → ℚ
  | [], yq, h, hvol => hvol + h * (yq - r₂)
  | p :: l, yq, h, hvol =>
    stairXY r₁ r₂ l p.2 (if p.1 - r₁ < h then p.1 - r₁ else h) (hvol + h * ((yq - r₂) - (p.2 - r₂)))

/-- the running minimum of `stairXY`, kept translated by the reference -/
theorem ite_sub_lt_sub (x m r : ℚ) : (if x - r < m - r then x - r else m - r) = min x m - r := by
  rcases lt_or_ge x m with h | h
  · rw [if_pos (sub_lt_sub_right h r), min_eq_left h.le]
  · rw [if_neg (not_lt.mpr (sub_le_sub_right h r)), min_eq_right h]

theorem stairXY_inv (r₁ r₂ : ℚ) : ∀ (rest P : List (ℚ × ℚ)) (yq h hvol : ℚ),
    (∀ p ∈ P, p.2 ≤ yq) → (∀ p ∈ rest, yq ≤ p.2) → (rest.Pairwise (fun a b => a.2 ≤ b.2)) →
    (∀ p ∈ rest, p.2 ≤ r₂) →
    h = (P.map Prod.fst).foldr min r₁ - r₁ →
    hvol + h * (yq - r₂) = hvCells [r₁, r₂] (P.map toPt) →
    stairXY r₁ r₂ rest yq h hvol = hvCells [r₁, r₂] ((P ++ rest).map toPt)
  | [], P, yq, h, hvol, _, _, _, _, _, hinv => by
    rw [List.append_nil]; exact hinv
  | p :: rest, P, yq, h, hvol, hP, hrest, hsorted, hr, hh, hinv => by
    have hs := List.pairwise_cons.mp hsorted
    have hpy : yq ≤ p.2 := hrest p (by simp)
    have key := hvCells_add_top r₁ r₂ P p.1 p.2 (fun q hq => le_trans (hP q hq) hpy) (hr p (by simp))
    rw [stairXY, hvCells_of_perm _ (List.perm_middle.map toPt)]
    apply stairXY_inv r₁ r₂ rest (p :: P)
    · intro q hq
      rcases List.mem_cons.mp hq with rfl | hq
      · exact le_refl _
      · exact le_trans (hP q hq) hpy
    · exact fun q hq => hs.1 q hq
    · exact hs.2
    · exact fun q hq => hr q (by simp [hq])
    · rw [List.map_cons, List.foldr_cons, hh, ite_sub_lt_sub]
    · rw [List.map_cons, show toPt p = toPt (p.1, p.2) from rfl, key, ← hinv, hh, ite_sub_lt_sub, min_comm]
      ring

/-- **The 2-D staircase of pyhv** (sweep in ascending order of the second coordinate, running minimum of
the first) computes the specification. -/
theorem stairXY_eq_hvCells (r₁ r₂ : ℚ) (p : ℚ × ℚ) (rest : List (ℚ × ℚ))
    (hsorted : (p :: rest).Pairwise (fun a b => a.2 ≤ b.2))
    (hx : p.1 ≤ r₁) (hy : ∀ q ∈ p :: rest, q.2 ≤ r₂) :
    stairXY r₁ r₂ rest p.2 (p.1 - r₁) 0 = hvCells [r₁, r₂] ((p :: rest).map toPt) := by
  have hs := List.pairwise_cons.mp hsorted
  refine stairXY_inv r₁ r₂ rest [p] p.2 (p.1 - r₁) 0 (by intro q hq; simp at hq; rw [hq]) (fun q hq => hs.1 q hq)
    hs.2 (fun q hq => hy q (by simp [hq])) (by simp [min_eq_left hx]) ?_
  have := hvCells_add_top r₁ r₂ [] p.1 p.2 (by simp) (hy p (by simp))
  rw [List.map_nil, List.map_nil, hvCells_nil_pts, List.foldr_nil, min_eq_right hx] at this
  rw [List.map_cons, List.map_nil, show toPt p = toPt (p.1, p.2) from rfl, this]
  ring

/-- pyhv's general step as a fold over the points in ascending order of the leading coordinate:
`hvol += area(prefix) × thickness`, the last slab reaching the reference. -/
def slabFold (r : ℚ) (ref : List ℚ) : List Pt → (P : List Pt) → (zq hvol : ℚ) → ℚ
  | [], P, zq, hvol => hvol + hvCells ref (P.map List.tail) * (r - zq)
  | p :: rest, P, zq, hvol =>
    slabFold r ref rest (p :: P) (p.headD 0) (hvol + hvCells ref (P.map List.tail) * (p.headD 0 - zq))

theorem slabFold_inv (r : ℚ) (ref : List ℚ) : ∀ (rest P : List Pt) (zq hvol : ℚ),
    (∀ s ∈ P, s.headD 0 ≤ zq) → (∀ s ∈ rest, zq ≤ s.headD 0) → rest.Pairwise (fun a b => a.headD 0 ≤ b.headD 0) →
    (∀ s ∈ rest, s.headD 0 ≤ r) →
    hvol + hvCells ref (P.map List.tail) * (r - zq) = hvCells (r :: ref) P →
    slabFold r ref rest P zq hvol = hvCells (r :: ref) (P ++ rest)
  | [], P, zq, hvol, _, _, _, _, hinv => by rw [List.append_nil]; exact hinv
  | p :: rest, P, zq, hvol, hP, hrest, hsorted, hr, hinv => by
    have hs := List.pairwise_cons.mp hsorted
    have hpz : zq ≤ p.headD 0 := hrest p (by simp)
    have key := hvCells_add_top_slab r ref P p (fun s hs' => le_trans (hP s hs') hpz) (hr p (by simp))
    rw [slabFold, hvCells_of_perm _ List.perm_middle]
    apply slabFold_inv r ref rest (p :: P)
    · intro s hs'
      rcases List.mem_cons.mp hs' with rfl | hs'
      · exact le_refl _
      · exact le_trans (hP s hs') hpz
    · exact fun s hs' => hs.1 s hs'
    · exact hs.2
    · exact fun s hs' => hr s (by simp [hs'])
    · rw [key, ← hinv]; ring

end Hypervolume
