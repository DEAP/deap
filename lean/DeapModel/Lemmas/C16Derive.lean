/-
C16 — lemmas about creator classes derived from creator classes (`Core/HeapDerive.lean`): a sequence of
`setattr`s keeps the value set LAST under a name, which belongs to the declaration executed last.
-/
import DeapModel.Core.HeapDerive
import DeapModel.Lemmas.C16Inst

namespace Heap

theorem setAll_cons (p : Name × Val) (r acc : List (Name × Val)) :
    setAll (p :: r) acc = setAll r (dictSet p.1 p.2 acc) := rfl

theorem lastDecl_isSome_of_mem {name : Name} {l : List (Name × ClsId)}
    (h : name ∈ l.map (·.1)) : ∃ c, lastDecl name l = some c := by
  induction l with
  | nil => cases h
  | cons p r ih =>
    simp only [lastDecl]
    cases hr : lastDecl name r with
    | some c => exact ⟨c, rfl⟩
    | none =>
      rcases List.mem_cons.1 h with h | h
      · exact ⟨p.2, if_pos h.symm⟩
      · obtain ⟨c, hc⟩ := ih h
        rw [hr] at hc
        cases hc

section
variable {objs : Oid → Option Obj} {lo hi : Nat} {l : List (Name × ClsId)} {sets : List (Name × Val)}
  (hA : AttrsIn objs lo hi l sets)
include hA

/-- The `__dict__` after the `setattr`s: a name that is declared holds a reference into the slots of this call,
to a new object of the class declared LAST under that name; any other name holds what it held before. -/
theorem AttrsIn.lookup_setAll_acc (k : Name) :
    ∀ acc, match lastDecl k l with
      | none => lookup k (setAll sets acc) = lookup k acc
      | some c => ∃ y o, lookup k (setAll sets acc) = some (Val.ref y) ∧ lo ≤ y ∧ y < hi ∧
          objs y = some o ∧ o.cls = c := by
  induction hA with
  | nil => exact fun _ => rfl
  | @cons p q l' _ hpq _ ih =>
    intro acc
    have ih' := ih (dictSet q.1 q.2 acc)
    rw [setAll_cons, lastDecl]
    split at ih'
    · rename_i hl
      rw [hl, ih', lookup_dictSet, hpq.1]
      obtain ⟨y, o, hq, hy⟩ := hpq.2
      by_cases hk : p.1 = k
      · rw [if_pos hk, if_pos hk]
        exact ⟨y, o, congrArg some hq, hy⟩
      · rw [if_neg hk, if_neg hk]
    · rename_i c hl
      rw [hl]
      exact ih'

theorem AttrsIn.lookup_setAll_ref {k : Name} {v : Val}
    (h : lookup k (setAll sets []) = some v) : ∃ y : Nat, v = Val.ref y ∧ lo ≤ y ∧ y < hi := by
  have := hA.lookup_setAll_acc k []
  split at this
  · rw [h] at this
    cases this
  · obtain ⟨y, _, hv, hlo, hhi, _⟩ := this
    exact ⟨y, Option.some.inj (h.symm.trans hv), hlo, hhi⟩

theorem AttrsIn.lookup_setAll_of_decl {k : Name} {c : ClsId}
    (hc : lastDecl k l = some c) :
    ∃ y o, lookup k (setAll sets []) = some (Val.ref y) ∧ lo ≤ y ∧ y < hi ∧ objs y = some o ∧
      o.cls = c := by
  have := hA.lookup_setAll_acc k []
  rwa [hc] at this

end

theorem createD_of_eq (ct : ClassTable) (dt : DTable) (objs : Oid → Option Obj) (next : Nat)
    (memo : List (Oid × Oid)) (d : Nat) (items : List Val) (st' : State) (x : Oid)
    (hb : ∀ y, next ≤ y → objs y = none)
    (h : createD ct dt ⟨objs, next, memo⟩ d items = some (st', x)) :
    ∃ dc sb sets, dt[d]? = some dc ∧ x = next ∧
      st' = ⟨define sb.objs next
        ⟨clsOfD ct d, items, dictUpdate (setAll sets []) (baseInitAttrs dc.kind), dc.kind != .node⟩,
        sb.next, sb.memo⟩ ∧
      Ext True ⟨objs, next + 1, memo⟩ sb ∧
      AttrsIn sb.objs (next + 1) sb.next (mroDecl dt d) sets := by
  unfold createD at h
  split at h
  · cases h
  · rename_i dc hdc
    split at h
    · cases h
    · rename_i sb sets hrun
      cases h
      obtain ⟨hE, hA⟩ := instAttrs_of_eq ct (Bounded.reserve (st := ⟨objs, next, memo⟩) hb) hrun
      exact ⟨dc, sb, sets, hdc, rfl, rfl, hE, hA⟩

end Heap
