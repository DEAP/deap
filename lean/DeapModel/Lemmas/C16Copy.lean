/-
C16 — `clone` and `cloneChain`: the facts the property theorems are read off from; a freshly created
object satisfies the side conditions of the copy hooks.
-/
import DeapModel.Lemmas.C16CopyMain

namespace Heap.Copy

section Clone
variable {ct : ClassTable} {objs : Oid → Option Obj} {N : Nat}

theorem Reach_new {st : State} {P : List Oid} (hI : CInv ct objs N st P)
    (c : Val) (y : Oid) (h : Reach st.objs c y) (hc : ChildOK objs N st.objs c) :
    N ≤ y ∨ ImmutableIn objs y := by
  have hS : ChildOK objs N st.objs (.ref y) := by
    refine reach_closed (fun z => ChildOK objs N st.objs (.ref z)) ?_ h (fun x hx => hx ▸ hc)
    intro x o hx ho z hz
    rcases hx with ⟨hxN, o0, ho0, _, hat⟩ | ⟨hx, _⟩
    · rw [hI.old x hxN, ho0] at ho
      cases ho
      cases hat _ hz
    · exact hI.new x o hx ho _ hz
  rcases hS with ⟨_, o, ho, hm, _⟩ | ⟨hy, _⟩
  · exact Or.inr ⟨o, ho, hm⟩
  · exact Or.inl hy

theorem clone_facts (hct : CTOk ct) (hcl : Closed objs N) (n : Nat) (v : Val)
    (hv : Within ct CopyOK objs n v) :
    ∃ objs' next' v', clone ct n objs N v = some (objs', next', v') ∧
      (∀ m, abs objs' m v' = abs objs m v) ∧ (∀ m, abs objs' m v = abs objs m v) ∧
      Closed objs' next' ∧ N ≤ next' ∧ (∀ y, y < N → objs' y = objs y) ∧
      (DictNodup ct → Within ct CopyOK objs' n v') ∧
      (∀ y, Reach objs' v' y → N ≤ y ∨ ImmutableIn objs y) ∧ ∀ x, v = .ref x → v' = .ref N := by
  obtain ⟨st', v', h, hI, hE, hg, hroot⟩ := copyVal_spec hct hcl n n ⟨objs, N, []⟩ [] v (Nat.le_refl _) hv
    (fun p hp => by cases hp) (CInv.init hcl)
  refine ⟨st'.objs, st'.next, v', by simp only [clone, h], hg.abs,
    fun m => abs_ext objs st'.objs hcl.refs (hI.keeps0 hcl) m v (Within_def hv), ⟨hI.bound, hI.refs hcl⟩, hI.le,
    hI.old, fun hnd => hg.within hnd n hv, fun y hy => Reach_new hI v' y hy hg.new.childOK,
    fun x hx => hroot x hx rfl⟩

theorem clone_facts_of_eq (hct : CTOk ct) (hcl : Closed objs N) {n : Nat} {v : Val}
    (hv : Within ct CopyOK objs n v) {objs' : Oid → Option Obj} {next' : Nat} {v' : Val}
    (h : clone ct n objs N v = some (objs', next', v')) :
    (∀ y, y < N → objs' y = objs y) ∧ (∀ y, Reach objs' v' y → N ≤ y ∨ ImmutableIn objs y) := by
  obtain ⟨o1, n1, v1, h1, _, _, _, _, hold, _, hdis, _⟩ := clone_facts hct hcl n v hv
  cases h.symm.trans h1
  exact ⟨hold, hdis⟩

theorem shared_immutable (hcl : Closed objs N) {objs' : Oid → Option Obj}
    (hold : ∀ y, y < N → objs' y = objs y) {v w : Val} (hv : ∀ x, v = .ref x → x < N)
    (hdis : ∀ y, Reach objs' w y → N ≤ y ∨ ImmutableIn objs y) :
    ∀ y o, Reach objs' v y → Reach objs' w y → objs' y = some o → o.mutable = false := by
  intro y o h1 h2 ho
  have hy := (Reach_old objs objs' N hcl hold v y h1 hv).1
  rcases hdis y h2 with h3 | ⟨o0, ho0, hm⟩
  · exact absurd hy (Nat.not_lt.2 h3)
  · rw [hold y hy, ho0] at ho
    cases ho
    exact hm

theorem cloneChain_facts (hct : CTOk ct) (hnd : DictNodup ct) (n k : Nat) :
    ∀ (objs : Oid → Option Obj) (N : Nat) (v : Val), Closed objs N → Within ct CopyOK objs n v →
    ∃ objs' N' vs, cloneChain ct n k objs N v = some (objs', N', vs) ∧ vs.length = k ∧
      Closed objs' N' ∧ N ≤ N' ∧ (∀ y, y < N → objs' y = objs y) ∧
      (∀ w ∈ vs, ∀ m, abs objs' m w = abs objs m v) ∧
      (∀ w ∈ vs, ∀ y, Reach objs' w y → N ≤ y ∨ ImmutableIn objs y) ∧
      (∀ (i j : Nat), i < j → ∀ wi wj, (v :: vs)[i]? = some wi → (v :: vs)[j]? = some wj →
        ∀ y o, Reach objs' wi y → Reach objs' wj y → objs' y = some o → o.mutable = false) := by
  induction k with
  | zero =>
    intro objs N v hcl _
    refine ⟨objs, N, [], rfl, rfl, hcl, Nat.le_refl _, fun _ _ => rfl,
      fun w hw => (by cases hw), fun w hw => (by cases hw), ?_⟩
    intro i j hij wi wj _ hj
    cases j with
    | zero => omega
    | succ j => simp at hj
  | succ k ih =>
    intro objs N v hcl hv
    obtain ⟨objs1, N1, v1, h1, habs1, _, hcl1, hN1, hold1, hw1, hdis1, _⟩ :=
      clone_facts hct hcl n v hv
    have hv1 := hw1 hnd
    obtain ⟨objs2, N2, vs, h2, hlen, hcl2, hN2, hold2, habs2, hdis2, hpair2⟩ :=
      ih objs1 N1 v1 hcl1 hv1
    have hold02 : ∀ y, y < N → objs2 y = objs y := fun y hy => by
      rw [hold2 y (Nat.lt_of_lt_of_le hy hN1), hold1 y hy]
    have hdis : ∀ w ∈ v1 :: vs, ∀ y, Reach objs2 w y → N ≤ y ∨ ImmutableIn objs y := by
      intro w hw y hr
      rcases List.mem_cons.1 hw with hw | hw
      · subst hw
        exact hdis1 y (Reach_old objs1 objs2 N1 hcl1 hold2 w y hr (Within_old hcl1 hv1)).2
      · rcases hdis2 w hw y hr with h | ⟨o, ho, hm⟩
        · exact Or.inl (by omega)
        · by_cases hy : y < N
          · exact Or.inr ⟨o, by rw [← hold1 y hy]; exact ho, hm⟩
          · exact Or.inl (Nat.le_of_not_lt hy)
    refine ⟨objs2, N2, v1 :: vs, by simp only [cloneChain, h1, h2], by simp [hlen], hcl2,
      by omega, hold02, ?_, hdis, ?_⟩
    · intro w hw m
      rcases List.mem_cons.1 hw with hw | hw
      · subst hw
        rw [abs_ext objs1 objs2 hcl1.refs (keeps_of_agree hcl1 hold2) m w (Within_def hv1)]
        exact habs1 m
      · rw [habs2 w hw m]
        exact habs1 m
    · intro i j hij wi wj hi hj
      obtain ⟨j', rfl⟩ : ∃ j', j = j' + 1 := ⟨j - 1, by omega⟩
      cases i with
      | zero =>
        cases hi
        exact shared_immutable hcl hold02 (Within_old hcl hv) (hdis wj (List.mem_of_getElem? hj))
      | succ i =>
        exact hpair2 i j' (by omega) wi wj hi hj

end Clone

section Fresh
variable {ct : ClassTable}

theorem createOK_step {c : ClsId} {ci : ClassInfo} {p : Name × ClsId} (h : CreateOK ct c)
    (hci : ct[c]? = some ci) (hp : p ∈ ci.dictInst) : CreateOK ct p.2 :=
  fun c' ci' hr => h c' ci' (.step c ci p c' hci hp hr)

theorem createOK_of_all
    (h : ∀ (c' : ClsId) (ci : ClassInfo), ct[c']? = some ci → (ci.kind = .fitness ∨ ci.kind = .cfitness) → ci.dictInst = [])
    (c : ClsId) : CreateOK ct c :=
  fun c' ci _ => h c' ci

theorem copyOK_fresh (objs : Oid → Option Obj) (c : ClsId) (ci : ClassInfo) (items : List Val)
    (attrs : List (Name × Val)) (mu : Bool)
    (hfit : (ci.kind = .fitness ∨ ci.kind = .cfitness) → ci.dictInst = [])
    (hnames : attrs.map (·.1) = ci.dictInst.map (·.1))
    (hitems : ∀ v ∈ items, v.isAtom = true) :
    CopyOK objs ci ⟨c, items, dictUpdate attrs (baseInitAttrs ci.kind), mu⟩ := by
  have hnil : (ci.kind = .fitness ∨ ci.kind = .cfitness) → attrs = [] := fun hk =>
    List.map_eq_nil_iff.1 (by rw [hnames, hfit hk]; rfl)
  refine ⟨fun _ p hp => ?_, fun hk => ?_, fun hk => ?_, fun _ => hitems,
    fun _ v hv => ImmLeaf_of_isAtom objs v (hitems v hv)⟩
  · show (lookup p.1 (dictUpdate attrs (baseInitAttrs ci.kind))).isSome = true
    rw [lookup_dictUpdate]
    split
    · rfl
    · exact (lookup_isSome_iff _ _).2 (hnames ▸ List.mem_map.2 ⟨p, hp, rfl⟩)
  · rw [hnil (Or.inl hk), hk]
    exact ⟨hfit (Or.inl hk), fun _ => rfl, hitems⟩
  · rw [hnil (Or.inr hk), hk]
    exact ⟨hfit (Or.inr hk), rfl, fun k hkn => if_neg (Ne.symm hkn), hitems⟩

/-- `cls(items)` with atom items, from success: the new object satisfies the side conditions of
the copy hooks, at depth = the fuel of the instantiation. -/
theorem newInst_within :
    ∀ (fuel : Nat) (st st' : State) (c : ClsId) (items : List Val) (x : Oid), Bounded st →
      CreateOK ct c → (∀ v ∈ items, v.isAtom = true) →
      newInst ct fuel st c items = some (st', x) → Within ct CopyOK st'.objs fuel (.ref x) := by
  intro fuel
  induction fuel with
  | zero => intro st st' c items x _ _ _ h; simp [newInst] at h
  | succ n ih =>
    intro st st' c items x hb hok hitems h
    obtain ⟨ci, sb, attrs, hci, hrun, rfl, rfl⟩ := newInst_succ_inv h
    obtain ⟨hE, hA⟩ := instLoop_of_eq ct n hb.reserve hrun
    -- every instantiated attribute satisfies the side conditions, in the heap it was made in and later
    obtain ⟨_, _, hW⟩ := mapSt_of_eq (I := Bounded) (E := Ext True)
      (R := fun t _ q => Within ct CopyOK t.objs n q.2) (fun _ => Ext.refl) (fun _ _ _ => Ext.trans)
      (fun t t1 _ q ht hE hq => Within_ext ct t.objs t1.objs (fun _ _ => hE.keeps ht) n q.2 hq)
      ci.dictInst (fun p hp t t1 q ht hq => by
        obtain ⟨y, hr, rfl⟩ := instStep_of_eq hq
        have hE1 := ((newInst_of_eq ct n t t1 p.2 [] y ht hr).ext (fun _ hv => nomatch hv)).2.1
        exact ⟨hE1.bound, hE1, ih t t1 p.2 [] y ht (createOK_step hok hci hp) (fun _ hv => nomatch hv) hr⟩)
      _ sb attrs hb.reserve hrun
    have hnone : sb.objs st.next = none :=
      (hE.old st.next (Nat.lt_succ_self _)).trans (hb st.next (Nat.le_refl _))
    refine ⟨_, ci, define_same _ _ _, hci,
      copyOK_fresh _ c ci items attrs _ (hok c ci (.self c) hci) hA.names hitems, ?_⟩
    intro v hv
    rcases List.mem_append.1 hv with hv | hv
    · exact Within_of_isAtom _ n (hitems v hv)
    · obtain ⟨q, hq, rfl⟩ := List.mem_map.1 hv
      rcases mem_dictUpdate hq with hq | hq
      · obtain ⟨p, _, hw⟩ := hW.mem_right q hq
        exact Within_ext ct _ _ (keeps_define hnone _) n _ hw
      · exact Within_of_isAtom _ n (baseInitAttrs_atom ci.kind q hq)

end Fresh

end Heap.Copy
