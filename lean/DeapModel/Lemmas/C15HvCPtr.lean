import DeapModel.Core.HvC
import DeapModel.Lemmas.C15Sweep2d
/-!
C15 — pointer-level lemmas about the transcription `Core/HvC.lean` of `_hv.c`: the multi-list built by
`setup_cdllist`, and what `filter` leaves of it.  The list lemmas of `C15SweepPtr` (about the pyhv transcription)
are reused through the projection `toSw` of the `next` / `prev` tables.
-/
namespace HvC

open HvSweep (Shape DL Seg)

theorem not_mem_of_nodup_mid {α : Type} {a : α} {A X : List α} (h : (A ++ a :: X).Nodup) : a ∉ A :=
  fun hm => (List.nodup_append.mp h).2.2 a hm a (by simp) rfl

theorem eq_nil_or_snoc {α : Type} (l : List α) : l = [] ∨ ∃ l' b, l = l' ++ [b] := by
  simpa using l.eq_nil_or_concat

/-- the `next` / `prev` tables seen as a state of the pyhv transcription (for the list lemmas) -/
def toSw (S : St) : HvSweep.St :=
  { next := S.next, prev := S.prev, ignore := [], area := [], volume := [], bounds := [], calls := [] }

@[simp] theorem nx_toSw (S : St) (i a : ℕ) : HvSweep.nx (toSw S) i a = nx S i a := rfl
@[simp] theorem pv_toSw (S : St) (i a : ℕ) : HvSweep.pv (toSw S) i a = pv S i a := rfl
theorem toSw_setNx (S : St) (i a v : ℕ) : toSw (setNx S i a v) = HvSweep.setNx (toSw S) i a v := rfl
theorem toSw_setPv (S : St) (i a v : ℕ) : toSw (setPv S i a v) = HvSweep.setPv (toSw S) i a v := rfl

theorem cg_eq (C : Cargo) (a i : ℕ) : cg C a i = HvSweep.cg C a i := rfl

/-- the neighbours of a node of a list, read off the list -/
theorem seg_pv_nx (S : St) (i : ℕ) (pre : List ℕ) (p : ℕ) (rest : List ℕ) (h : Seg (toSw S) i 0 (pre ++ p :: rest) 0) :
    pv S i p = pre.getLast?.getD 0 ∧ nx S i p = rest.headD 0 := by
  obtain ⟨h1, h2, _⟩ := HvSweep.seg_node (toSw S) i pre 0 p rest 0 h
  refine ⟨h1.trans ?_, h2.trans ?_⟩
  · rcases eq_nil_or_snoc pre with rfl | ⟨l, a, rfl⟩ <;> simp
  · cases rest <;> rfl

/-- the pointer tables have `d` rows for the ids `0..n` -/
def ShapeC (d n : ℕ) (S : St) : Prop := Shape d n (toSw S)
/-- the list of dimension `i` is the circular doubly linked list `head, L…, head` -/
def DLc (n : ℕ) (S : St) (i : ℕ) (L : List ℕ) : Prop := DL n (toSw S) i L

/-- everything but the pointers -/
def SameData (S T : St) : Prop :=
  T.ignore = S.ignore ∧ T.area = S.area ∧ T.vol = S.vol ∧ T.bound = S.bound ∧ T.domr = S.domr ∧ T.tree = S.tree
    ∧ T.calls = S.calls

theorem SameData.ignore {S T : St} (h : SameData S T) : T.ignore = S.ignore := h.1
theorem SameData.area {S T : St} (h : SameData S T) : T.area = S.area := h.2.1
theorem SameData.vol {S T : St} (h : SameData S T) : T.vol = S.vol := h.2.2.1
theorem SameData.bound {S T : St} (h : SameData S T) : T.bound = S.bound := h.2.2.2.1
theorem SameData.domr {S T : St} (h : SameData S T) : T.domr = S.domr := h.2.2.2.2.1
theorem SameData.tree {S T : St} (h : SameData S T) : T.tree = S.tree := h.2.2.2.2.2.1
theorem SameData.calls {S T : St} (h : SameData S T) : T.calls = S.calls := h.2.2.2.2.2.2
theorem SameData.refl (S : St) : SameData S S := ⟨rfl, rfl, rfl, rfl, rfl, rfl, rfl⟩
theorem SameData.trans {S T U : St} (h₁ : SameData S T) (h₂ : SameData T U) : SameData S U := by
  obtain ⟨a1, a2, a3, a4, a5, a6, a7⟩ := h₁
  obtain ⟨b1, b2, b3, b4, b5, b6, b7⟩ := h₂
  exact ⟨b1.trans a1, b2.trans a2, b3.trans a3, b4.trans a4, b5.trans a5, b6.trans a6, b7.trans a7⟩
theorem sameData_setNx (S : St) (i a v : ℕ) : SameData S (setNx S i a v) := ⟨rfl, rfl, rfl, rfl, rfl, rfl, rfl⟩
theorem sameData_setPv (S : St) (i a v : ℕ) : SameData S (setPv S i a v) := ⟨rfl, rfl, rfl, rfl, rfl, rfl, rfl⟩

theorem shapeC_initSt (d n : ℕ) : ShapeC d n (initSt d n) :=
  ⟨HvSweep.shaped_replicate d (n + 1) 0, HvSweep.shaped_replicate d (n + 1) 0⟩

theorem shapeC_setNx {d n : ℕ} {S : St} (h : ShapeC d n S) (i a v : ℕ) : ShapeC d n (setNx S i a v) :=
  HvSweep.shape_setNx h i a v
theorem shapeC_setPv {d n : ℕ} {S : St} (h : ShapeC d n S) (i a v : ℕ) : ShapeC d n (setPv S i a v) :=
  HvSweep.shape_setPv h i a v

theorem nx_setNx_self {d n : ℕ} {S : St} (h : ShapeC d n S) {i a : ℕ} (hi : i < d) (ha : a ≤ n) (v : ℕ) :
    nx (setNx S i a v) i a = v := HvSweep.nx_setNx_self h hi ha v
theorem nx_setNx_ne (S : St) (i a j b v : ℕ) (h : j ≠ i ∨ b ≠ a) : nx (setNx S i a v) j b = nx S j b :=
  HvSweep.nx_setNx_ne (toSw S) i a j b v h
theorem pv_setPv_self {d n : ℕ} {S : St} (h : ShapeC d n S) {i a : ℕ} (hi : i < d) (ha : a ≤ n) (v : ℕ) :
    pv (setPv S i a v) i a = v := HvSweep.pv_setPv_self h hi ha v
theorem pv_setPv_ne (S : St) (i a j b v : ℕ) (h : j ≠ i ∨ b ≠ a) : pv (setPv S i a v) j b = pv S j b :=
  HvSweep.pv_setPv_ne (toSw S) i a j b v h
@[simp] theorem nx_setPv (S : St) (i a v j b : ℕ) : nx (setPv S i a v) j b = nx S j b := rfl
@[simp] theorem pv_setNx (S : St) (i a v j b : ℕ) : pv (setNx S i a v) j b = pv S j b := rfl

theorem shapeC_linkFrom {d n : ℕ} (j : ℕ) : ∀ (rest : List ℕ) (p : ℕ) (S : St), ShapeC d n S → ShapeC d n (linkFrom j p rest S)
  | [], _, _, h => shapeC_setPv (shapeC_setNx h _ _ _) _ _ _
  | a :: rest, _, _, h => shapeC_linkFrom j rest a _ (shapeC_setPv (shapeC_setNx h _ _ _) _ _ _)

theorem sameData_linkFrom (j : ℕ) : ∀ (rest : List ℕ) (p : ℕ) (S : St), SameData S (linkFrom j p rest S)
  | [], p, S => (sameData_setNx S j p 0).trans (sameData_setPv _ j 0 p)
  | a :: rest, p, S =>
    ((sameData_setNx S j p a).trans (sameData_setPv _ j a p)).trans (sameData_linkFrom j rest a _)

theorem nx_linkFrom_frame (j : ℕ) : ∀ (rest : List ℕ) (p : ℕ) (S : St) (j' u : ℕ), (j' ≠ j ∨ u ∉ p :: rest) →
    nx (linkFrom j p rest S) j' u = nx S j' u
  | [], p, S, j', u, h => by
    simp only [linkFrom, nx_setPv]
    exact nx_setNx_ne _ _ _ _ _ _ (h.imp_right fun h e => h (by simp [e]))
  | a :: rest, p, S, j', u, h => by
    simp only [linkFrom]
    rw [nx_linkFrom_frame j rest a _ j' u (h.imp_right fun h hm => h (List.mem_cons_of_mem _ hm)), nx_setPv]
    exact nx_setNx_ne _ _ _ _ _ _ (h.imp_right fun h e => h (by simp [e]))

theorem pv_linkFrom_frame (j : ℕ) : ∀ (rest : List ℕ) (p : ℕ) (S : St) (j' v : ℕ), (j' ≠ j ∨ v ∉ rest ++ [0]) →
    pv (linkFrom j p rest S) j' v = pv S j' v
  | [], p, S, j', v, h => by
    simp only [linkFrom]
    rw [pv_setPv_ne _ _ _ _ _ _ (h.imp_right fun h e => h (by simp [e])), pv_setNx]
  | a :: rest, p, S, j', v, h => by
    simp only [linkFrom]
    rw [pv_linkFrom_frame j rest a _ j' v (h.imp_right fun h hm => h (List.mem_cons_of_mem _ hm)),
      pv_setPv_ne _ _ _ _ _ _ (h.imp_right fun h e => h (by simp [e])), pv_setNx]

theorem seg_linkFrom {d n : ℕ} {j : ℕ} (hj : j < d) : ∀ (rest : List ℕ) (p : ℕ) (S : St), ShapeC d n S →
    (p :: rest).Nodup → 0 ∉ rest → (∀ a ∈ p :: rest, a ≤ n) →
    Seg (toSw (linkFrom j p rest S)) j p rest 0
  | [], p, S, hS, _, _, hn => by
    simp only [linkFrom]
    refine ⟨?_, ?_⟩
    · show nx (setPv (setNx S j p 0) j 0 p) j p = 0
      rw [nx_setPv]; exact nx_setNx_self hS hj (hn p (by simp)) 0
    · show pv (setPv (setNx S j p 0) j 0 p) j 0 = p
      exact pv_setPv_self (shapeC_setNx hS _ _ _) hj (Nat.zero_le _) p
  | a :: rest, p, S, hS, hnd, h0, hn => by
    simp only [linkFrom]
    have hnd' := List.nodup_cons.mp hnd
    have hnd'' := List.nodup_cons.mp hnd'.2
    set S1 := setPv (setNx S j p a) j a p with hS1
    have hS1s : ShapeC d n S1 := shapeC_setPv (shapeC_setNx hS _ _ _) _ _ _
    have ih := seg_linkFrom hj rest a S1 hS1s hnd'.2 (fun hm => h0 (List.mem_cons_of_mem _ hm))
      (fun x hx => hn x (List.mem_cons_of_mem _ hx))
    refine ⟨⟨?_, ?_⟩, ih⟩
    · show nx (linkFrom j a rest S1) j p = a
      rw [nx_linkFrom_frame j rest a S1 j p (Or.inr hnd'.1), hS1, nx_setPv]
      exact nx_setNx_self hS hj (hn p (by simp)) a
    · show pv (linkFrom j a rest S1) j a = p
      have ha0 : a ≠ 0 := fun e => h0 (by simp [e])
      rw [pv_linkFrom_frame j rest a S1 j a (Or.inr (by
        intro hm
        rcases List.mem_append.mp hm with h | h
        · exact hnd''.1 h
        · simp at h; exact ha0 h)), hS1]
      exact pv_setPv_self (shapeC_setNx hS _ _ _) hj (hn a (by simp)) p

theorem dlc_linkFrom {d n : ℕ} {j : ℕ} (hj : j < d) (L : List ℕ) (S : St) (hS : ShapeC d n S)
    (hnd : L.Nodup) (hr : ∀ a ∈ L, 1 ≤ a ∧ a ≤ n) : DLc n (linkFrom j 0 L S) j L := by
  have h0 : 0 ∉ L := fun hm => by have := (hr 0 hm).1; omega
  refine ⟨seg_linkFrom hj L 0 S hS (List.nodup_cons.mpr ⟨h0, hnd⟩) h0 ?_, hnd, hr⟩
  intro a ha
  rcases List.mem_cons.mp ha with rfl | ha
  · exact Nat.zero_le _
  · exact (hr a ha).2

theorem qsortByDim_eq (C : Cargo) (nodes : List ℕ) (j : ℕ) : qsortByDim C nodes j = HvSweep.sortByDimension C nodes j := rfl

/-- the loop of `setup_cdllist`: dimension `j` of `js` gets the stable sort by coordinate `j` of the order of the
previous dimension (`HvSweep.cum`, the same bookkeeping as for pyhv's `preProcess`). -/
theorem setupLoop_spec (C : Cargo) {d n : ℕ} : ∀ (js : List ℕ) (S : St) (nodes : List ℕ),
    js.Nodup → (∀ j ∈ js, j < d) → ShapeC d n S → nodes.Nodup → (∀ x ∈ nodes, 1 ≤ x ∧ x ≤ n) →
    ShapeC d n (setupLoop C js nodes S) ∧ SameData S (setupLoop C js nodes S) ∧
      (∀ j L, (j, L) ∈ HvSweep.cum C js nodes → DLc n (setupLoop C js nodes S) j L)
  | [], S, nodes, _, _, hS, _, _ => ⟨hS, SameData.refl S, by simp [HvSweep.cum]⟩
  | j :: js, S, nodes, hnd, hlt, hS, hn, hr => by
    have hnd' := List.nodup_cons.mp hnd
    have hperm := HvSweep.sortByDimension_perm C nodes j
    have hn' : (HvSweep.sortByDimension C nodes j).Nodup := hperm.nodup_iff.mpr hn
    have hr' : ∀ x ∈ HvSweep.sortByDimension C nodes j, 1 ≤ x ∧ x ≤ n := fun x hx => hr x (hperm.mem_iff.mp hx)
    have hd1 := dlc_linkFrom (hlt j (by simp)) (HvSweep.sortByDimension C nodes j) S hS hn' hr'
    have hS1 : ShapeC d n (linkFrom j 0 (HvSweep.sortByDimension C nodes j) S) := shapeC_linkFrom j _ 0 S hS
    obtain ⟨f1, f2, f3⟩ := setupLoop_spec C js (linkFrom j 0 (HvSweep.sortByDimension C nodes j) S)
      (HvSweep.sortByDimension C nodes j) hnd'.2 (fun i hi => hlt i (by simp [hi])) hS1 hn' hr'
    simp only [setupLoop, qsortByDim_eq]
    refine ⟨f1, (sameData_linkFrom j _ 0 S).trans f2, ?_⟩
    intro i L hiL
    simp only [HvSweep.cum, List.mem_cons, Prod.mk.injEq] at hiL
    rcases hiL with ⟨rfl, rfl⟩ | hiL
    · -- dimension j is not touched by the later iterations
      refine HvSweep.dl_congr ?_ hd1
      intro a
      exact setupLoop_frame C js _ _ i a hnd'.1
    · exact f3 i L hiL
where
  setupLoop_frame (C : Cargo) : ∀ (js : List ℕ) (S : St) (nodes : List ℕ) (i a : ℕ), i ∉ js →
      HvSweep.nx (toSw (setupLoop C js nodes S)) i a = HvSweep.nx (toSw S) i a ∧
      HvSweep.pv (toSw (setupLoop C js nodes S)) i a = HvSweep.pv (toSw S) i a
    | [], S, nodes, i, a, _ => ⟨rfl, rfl⟩
    | j :: js, S, nodes, i, a, hi => by
      have hij : i ≠ j := fun e => hi (by simp [e])
      have his : i ∉ js := fun h => hi (by simp [h])
      obtain ⟨e1, e2⟩ := setupLoop_frame C js (linkFrom j 0 (qsortByDim C nodes j) S) (qsortByDim C nodes j) i a his
      simp only [setupLoop]
      refine ⟨e1.trans ?_, e2.trans ?_⟩
      · exact nx_linkFrom_frame j _ 0 S i a (Or.inl hij)
      · exact pv_linkFrom_frame j _ 0 S i a (Or.inl hij)

/-- the node order of dimension `j` after `setup_cdllist`: a permutation of the ids, ascending in coordinate `j` -/
structure Order (C : Cargo) (n j : ℕ) (L : List ℕ) : Prop where
  perm : L.Perm (HvSweep.ids n)
  sorted : L.Pairwise (fun a b => cg C a j ≤ cg C b j)

theorem setupCdllist_spec (C : Cargo) (d n : ℕ) :
    ShapeC d n (setupCdllist C d n) ∧ SameData (initSt d n) (setupCdllist C d n) ∧
      ∀ j < d, ∃ L, DLc n (setupCdllist C d n) j L ∧ Order C n j L := by
  have hnd : ((List.range d).reverse).Nodup := List.nodup_reverse.mpr List.nodup_range
  have hlt : ∀ j ∈ (List.range d).reverse, j < d := fun j hj => List.mem_range.mp (List.mem_reverse.mp hj)
  obtain ⟨h1, h2, h3⟩ := setupLoop_spec C (List.range d).reverse (initSt d n) (HvSweep.ids n) hnd hlt
    (shapeC_initSt d n) (HvSweep.ids_nodup n) (fun x hx => (HvSweep.mem_ids n x).mp hx)
  refine ⟨h1, h2, ?_⟩
  intro j hj
  obtain ⟨L, hL⟩ := HvSweep.cum_exists C (List.range d).reverse (HvSweep.ids n) j
    (List.mem_reverse.mpr (List.mem_range.mpr hj))
  refine ⟨L, h3 j L hL, HvSweep.cum_perm C _ _ j L hL, ?_⟩
  exact HvSweep.cum_sorted C _ _ j L hL

/-- one iteration of `filter_delete_node` -/
def fdStep (node : ℕ) (S : St) (i : ℕ) : St :=
  let S := setPv S i (nx S i node) (pv S i node)
  setNx S i (pv S i node) (nx S i node)

theorem filterDeleteNode_eq (S : St) (node d : ℕ) : filterDeleteNode S node d = (List.range d).foldl (fdStep node) S := rfl

theorem sameData_fdStep (x : ℕ) (S : St) (i : ℕ) : SameData S (fdStep x S i) :=
  (sameData_setPv S _ _ _).trans (sameData_setNx _ _ _ _)

theorem shapeC_fdStep {d n : ℕ} {S : St} (h : ShapeC d n S) (x i : ℕ) : ShapeC d n (fdStep x S i) :=
  shapeC_setNx (shapeC_setPv h _ _ _) _ _ _

theorem uStep_fd (d n x : ℕ) : HvSweep.UStep toSw d n x (fdStep x) :=
  { other := fun S i j hj a => by
      show nx (fdStep x S i) j a = nx S j a ∧ pv (fdStep x S i) j a = pv S j a
      unfold fdStep
      exact ⟨by rw [nx_setNx_ne _ _ _ _ _ _ (Or.inl hj), nx_setPv], by rw [pv_setNx, pv_setPv_ne _ _ _ _ _ _ (Or.inl hj)]⟩
    shape := fun _ _ h => shapeC_fdStep h _ _
    self := fun S i _ h a => by
      -- l.1037 reads `node->prev[i]` after l.1036 wrote `node->next[i]->prev[i]`: the same unless `next[i] == node`
      have h1 : pv (setPv S i (nx S i x) (pv S i x)) i x = pv S i x := pv_setPv_ne _ _ _ _ _ _ (Or.inr (Ne.symm h))
      unfold fdStep
      simp only [h1]
      exact ⟨rfl, rfl⟩ }

theorem sameData_foldl_fdStep (x : ℕ) : ∀ (ds : List ℕ) (S : St), SameData S (ds.foldl (fdStep x) S)
  | [], S => SameData.refl S
  | i :: ds, S => (sameData_fdStep x S i).trans (sameData_foldl_fdStep x ds _)

theorem filterDeleteNode_spec {d n : ℕ} (x : ℕ) (Ls : ℕ → List ℕ) (k : ℕ) (S : St) (hk : k ≤ d) (hS : ShapeC d n S)
    (hL : ∀ j < d, DLc n S j (Ls j) ∧ x ∈ Ls j) :
    ShapeC d n (filterDeleteNode S x k) ∧ SameData S (filterDeleteNode S x k) ∧
      (∀ j < k, DLc n (filterDeleteNode S x k) j ((Ls j).erase x)) ∧
      (∀ j, k ≤ j → ∀ a, nx (filterDeleteNode S x k) j a = nx S j a ∧ pv (filterDeleteNode S x k) j a = pv S j a) ∧
      (∀ j, nx (filterDeleteNode S x k) j x = nx S j x ∧ pv (filterDeleteNode S x k) j x = pv S j x) := by
  have hlt : ∀ i ∈ List.range k, i < d := fun i hi => lt_of_lt_of_le (List.mem_range.mp hi) hk
  obtain ⟨h1, h2, h3, h4⟩ := (uStep_fd d n x).fold_dl S List.nodup_range hlt hS Ls (fun i hi => hL i (hlt i hi))
  have hout : ∀ j, k ≤ j → j ∉ List.range k := fun j hj hm => by have := List.mem_range.mp hm; omega
  refine ⟨h1, sameData_foldl_fdStep x _ S, fun j hj => h3 j (List.mem_range.mpr hj), fun j hj => h4 j (hout j hj), fun j => ?_⟩
  rcases Nat.lt_or_ge j k with hj | hj
  · have hun := HvSweep.dl_unlink hS (by omega : j < d) (hL j (by omega)).1 (hL j (by omega)).2
    have := h2 j (List.mem_range.mpr hj) x
    exact ⟨this.1.trans hun.2.1, this.2.trans hun.2.2⟩
  · exact h4 j (hout j hj) x

/-- what `filter` maintains: every list is the original order restricted to the nodes still `alive` -/
structure FInv (d n : ℕ) (Ls : ℕ → List ℕ) (alive : ℕ → Bool) (S : St) : Prop where
  shape : ShapeC d n S
  lists : ∀ j < d, DLc n S j ((Ls j).filter alive)

theorem filter_erase_eq (L : List ℕ) (alive : ℕ → Bool) (a : ℕ) (hnd : L.Nodup) :
    (L.filter alive).erase a = L.filter (fun b => alive b && decide (b ≠ a)) := by
  rw [(hnd.filter _).erase_eq_filter, List.filter_filter]
  apply List.filter_congr
  intro b _
  by_cases hb : b = a <;> simp [hb]

theorem length_filter_perm {L L' : List ℕ} (h : L.Perm L') (p : ℕ → Bool) : (L.filter p).length = (L'.filter p).length :=
  (h.filter p).length_eq

theorem finv_stop (C : Cargo) (R : List ℚ) {d n : ℕ} (Ls : ℕ → List ℕ) (hO : ∀ j < d, Order C n j (Ls j)) {i : ℕ}
    {alive : ℕ → Bool} {S : St} (hI : FInv d n Ls alive S)
    (hall : ∀ b ∈ HvSweep.ids n, alive b = true → cg C b i < rf R i) :
    FInv d n Ls (fun b => alive b && decide (cg C b i < rf R i)) S ∧
      ∀ j < d, (Ls j).filter (fun b => alive b && decide (cg C b i < rf R i)) = (Ls j).filter alive := by
  have hcongr : ∀ j < d, (Ls j).filter (fun b => alive b && decide (cg C b i < rf R i)) = (Ls j).filter alive := by
    intro j hj
    apply List.filter_congr
    intro b hb
    cases hab : alive b with
    | false => rfl
    | true => simp [hall b ((hO j hj).perm.mem_iff.mp hb) hab]
  exact ⟨⟨hI.shape, fun j hj => by rw [hcongr j hj]; exact hI.lists j hj⟩, hcongr⟩

theorem filterInner_spec (C : Cargo) (R : List ℚ) {d n : ℕ} (Ls : ℕ → List ℕ) (hO : ∀ j < d, Order C n j (Ls j))
    {i : ℕ} (hi : i < d) : ∀ (k : ℕ) (alive : ℕ → Bool) (aux : ℕ) (S : St), FInv d n Ls alive S →
    ((Ls i).filter alive).length = k → aux = (0 :: (Ls i).filter alive).getLast (by simp) →
    FInv d n Ls (fun b => alive b && decide (cg C b i < rf R i)) (filterInner C R d i k aux k S).2 ∧
      (filterInner C R d i k aux k S).1 = ((Ls i).filter (fun b => alive b && decide (cg C b i < rf R i))).length ∧
      SameData S (filterInner C R d i k aux k S).2
  | 0, alive, aux, S, hI, hlen, haux => by
    have hnil : (Ls i).filter alive = [] := List.length_eq_zero_iff.mp hlen
    obtain ⟨h1, h2⟩ := finv_stop C R Ls hO hI (i := i) (fun b hb hab => by
      have : b ∈ (Ls i).filter alive := List.mem_filter.mpr ⟨(hO i hi).perm.mem_iff.mpr hb, hab⟩
      rw [hnil] at this; exact absurd this List.not_mem_nil)
    exact ⟨h1, by rw [h2 i hi, hnil]; rfl, SameData.refl S⟩
  | k + 1, alive, aux, S, hI, hlen, haux => by
    have hne : (Ls i).filter alive ≠ [] := fun e => by rw [e] at hlen; simp at hlen
    obtain ⟨l1, hl1⟩ : ∃ l1, (Ls i).filter alive = l1 ++ [aux] :=
      ⟨_, by rw [haux, List.getLast_cons hne]; exact (List.dropLast_append_getLast hne).symm⟩
    obtain ⟨hauxL, halive⟩ := List.mem_filter.mp (show aux ∈ (Ls i).filter alive by rw [hl1]; simp)
    have hauxi : aux ∈ HvSweep.ids n := (hO i hi).perm.mem_iff.mp hauxL
    simp only [filterInner]
    by_cases hlt : cg C aux i < rf R i
    · -- `aux` is the last, hence the largest, node still alive
      rw [if_pos hlt]
      obtain ⟨h1, h2⟩ := finv_stop C R Ls hO hI (i := i) (fun b hb hab => by
        have hbm : b ∈ (Ls i).filter alive := List.mem_filter.mpr ⟨(hO i hi).perm.mem_iff.mpr hb, hab⟩
        have hs := (hO i hi).sorted.filter alive
        rw [hl1] at hbm hs
        rcases List.mem_append.mp hbm with h | h
        · exact lt_of_le_of_lt ((List.pairwise_append.mp hs).2.2 b h aux (by simp)) hlt
        · rw [List.mem_singleton.mp h]; exact hlt)
      exact ⟨h1, by rw [h2 i hi, hlen], SameData.refl S⟩
    · rw [if_neg hlt]
      have hmem : ∀ j < d, DLc n S j ((Ls j).filter alive) ∧ aux ∈ (Ls j).filter alive := fun j hj =>
        ⟨hI.lists j hj, List.mem_filter.mpr ⟨(hO j hj).perm.mem_iff.mpr hauxi, halive⟩⟩
      obtain ⟨e1, e2, e3, e4, e5⟩ := filterDeleteNode_spec aux (fun j => (Ls j).filter alive) d S (le_refl _) hI.shape hmem
      set S1 := filterDeleteNode S aux d
      set alive1 : ℕ → Bool := fun b => alive b && decide (b ≠ aux) with ha1
      have hnd : ∀ j < d, (Ls j).Nodup := fun j hj => (hO j hj).perm.nodup_iff.mpr (HvSweep.ids_nodup n)
      have hI1 : FInv d n Ls alive1 S1 := ⟨e1, fun j hj => by
        rw [ha1, ← filter_erase_eq (Ls j) alive aux (hnd j hj)]; exact e3 j hj⟩
      have hl1' : (Ls i).filter alive1 = l1 := by
        rw [ha1, ← filter_erase_eq (Ls i) alive aux (hnd i hi), hl1,
          List.erase_append_right _ (not_mem_of_nodup_mid (hl1 ▸ (hnd i hi).filter alive))]
        simp
      have hlen1 : ((Ls i).filter alive1).length = k := by
        rw [hl1] at hlen
        rw [hl1']
        simpa using hlen
      have haux1 : pv S1 i aux = (0 :: (Ls i).filter alive1).getLast (by simp) := by
        rw [(e5 i).2, hl1']
        exact (HvSweep.seg_node (toSw S) i l1 0 aux [] 0 (hl1 ▸ (hI.lists i hi).1)).1
      obtain ⟨f1, f2, f3⟩ := filterInner_spec C R Ls hO hi k alive1 (pv S1 i aux) S1 hI1 hlen1 haux1
      have hfun : (fun b => alive1 b && decide (cg C b i < rf R i)) = (fun b => alive b && decide (cg C b i < rf R i)) := by
        funext b
        by_cases hb : b = aux
        · subst hb; simp [ha1, hlt]
        · simp [ha1, hb]
      rw [hfun] at f1 f2
      exact ⟨f1, f2, e2.trans f3⟩

/-- the nodes that strictly dominate the reference point in the first `k` coordinates -/
def goodUpTo (C : Cargo) (R : List ℚ) (k : ℕ) (b : ℕ) : Bool := (List.range k).all (fun i => decide (cg C b i < rf R i))

theorem goodUpTo_succ (C : Cargo) (R : List ℚ) (k b : ℕ) :
    goodUpTo C R (k + 1) b = (goodUpTo C R k b && decide (cg C b k < rf R k)) := by
  unfold goodUpTo; rw [List.range_succ, List.all_append]; simp

theorem goodUpTo_iff (C : Cargo) (R : List ℚ) (k b : ℕ) : goodUpTo C R k b = true ↔ ∀ i < k, cg C b i < rf R i := by
  unfold goodUpTo; simp [List.all_eq_true]

theorem filter_loop_spec (C : Cargo) (R : List ℚ) {d n : ℕ} (Ls : ℕ → List ℕ) (hO : ∀ j < d, Order C n j (Ls j)) :
    ∀ (k : ℕ), k ≤ d → ∀ (S : St), FInv d n Ls (fun _ => true) S →
    let r := (List.range k).foldl (fun (nS : ℕ × St) i => filterInner C R d i nS.1 (pv nS.2 i 0) nS.1 nS.2) (n, S)
    FInv d n Ls (goodUpTo C R k) r.2 ∧ r.1 = ((HvSweep.ids n).filter (goodUpTo C R k)).length ∧ SameData S r.2
  | 0, _, S, hI => by
    have hfun : goodUpTo C R 0 = fun _ => true := by funext b; rfl
    simp only [List.range_zero, List.foldl_nil]
    rw [hfun]
    refine ⟨hI, ?_, SameData.refl S⟩
    simp [HvSweep.ids]
  | k + 1, hk, S, hI => by
    obtain ⟨e1, e2, e3⟩ := filter_loop_spec C R Ls hO k (by omega) S hI
    simp only [List.range_succ, List.foldl_append, List.foldl_cons, List.foldl_nil]
    set r := (List.range k).foldl (fun (nS : ℕ × St) i => filterInner C R d i nS.1 (pv nS.2 i 0) nS.1 nS.2) (n, S)
    have hik : k < d := by omega
    have hlen : ((Ls k).filter (goodUpTo C R k)).length = r.1 := by
      rw [e2]; exact length_filter_perm (hO k hik).perm _
    have haux : pv r.2 k 0 = (0 :: (Ls k).filter (goodUpTo C R k)).getLast (by simp) :=
      HvSweep.seg_pv_end (toSw r.2) k _ 0 0 (e1.lists k hik).1
    obtain ⟨f1, f2, f3⟩ := filterInner_spec C R Ls hO hik r.1 (goodUpTo C R k) (pv r.2 k 0) r.2 e1 hlen haux
    have hfun : (fun b => goodUpTo C R k b && decide (cg C b k < rf R k)) = goodUpTo C R (k + 1) := by
      funext b; rw [goodUpTo_succ]
    rw [hfun] at f1 f2
    refine ⟨f1, ?_, e3.trans f3⟩
    rw [f2]; exact length_filter_perm (hO k hik).perm _

/-- **`setup_cdllist` + `filter`**: every list is its sorted order restricted to the points strictly below the
reference in every coordinate; the returned count is their number; nothing but the pointers has been written. -/
theorem setup_filter_spec (C : Cargo) (R : List ℚ) (d n : ℕ) :
    let r := filter C R d n (setupCdllist C d n)
    ShapeC d n r.2 ∧ SameData (initSt d n) r.2 ∧ r.1 = ((HvSweep.ids n).filter (goodUpTo C R d)).length ∧
      ∀ j < d, ∃ L, Order C n j L ∧ DLc n r.2 j (L.filter (goodUpTo C R d)) := by
  obtain ⟨h1, h2, h3⟩ := setupCdllist_spec C d n
  classical
  let Ls : ℕ → List ℕ := fun j => if hj : j < d then (h3 j hj).choose else []
  have hLs : ∀ j (hj : j < d), DLc n (setupCdllist C d n) j (Ls j) ∧ Order C n j (Ls j) := by
    intro j hj
    have : Ls j = (h3 j hj).choose := by simp [Ls, hj]
    rw [this]; exact (h3 j hj).choose_spec
  have hI : FInv d n Ls (fun _ => true) (setupCdllist C d n) :=
    ⟨h1, fun j hj => by rw [List.filter_true]; exact (hLs j hj).1⟩
  obtain ⟨e1, e2, e3⟩ := filter_loop_spec C R Ls (fun j hj => (hLs j hj).2) d (le_refl _) (setupCdllist C d n) hI
  refine ⟨e1.shape, h2.trans e3, e2, ?_⟩
  intro j hj
  exact ⟨Ls j, (hLs j hj).2, e1.lists j hj⟩

open HvSweep (Shaped)

theorem ar_setAr_self {d n : ℕ} {S : St} (h : Shaped (n + 1) d S.area) {a i : ℕ} (ha : a ≤ n) (hi : i < d) (v : ℚ) :
    ar (setAr S a i v) a i = v :=
  HvSweep.tget_tset_self _ _ _ _ _ (by rw [h.1]; omega) (by rw [h.2 a (by omega)]; exact hi)

theorem ar_setAr_ne (S : St) (a i a' i' : ℕ) (v : ℚ) (h : a' ≠ a ∨ i' ≠ i) : ar (setAr S a i v) a' i' = ar S a' i' :=
  HvSweep.tget_tset_ne _ _ _ _ _ _ _ h

theorem vl_setVl_self {d n : ℕ} {S : St} (h : Shaped (n + 1) d S.vol) {a i : ℕ} (ha : a ≤ n) (hi : i < d) (v : ℚ) :
    vl (setVl S a i v) a i = v :=
  HvSweep.tget_tset_self _ _ _ _ _ (by rw [h.1]; omega) (by rw [h.2 a (by omega)]; exact hi)

theorem vl_setVl_ne (S : St) (a i a' i' : ℕ) (v : ℚ) (h : a' ≠ a ∨ i' ≠ i) : vl (setVl S a i v) a' i' = vl S a' i' :=
  HvSweep.tget_tset_ne _ _ _ _ _ _ _ h

theorem dr_setDr_self (S : St) (a : ℕ) (v : ℚ) (h : a < S.domr.length) : dr (setDr S a v) a = v :=
  List.getD_set_self _ _ _ _ h

theorem dr_setDr_ne (S : St) (a b : ℕ) (v : ℚ) (h : b ≠ a) : dr (setDr S a v) b = dr S b :=
  List.getD_set_ne _ _ _ h

theorem ign_setIgn_self (S : St) (a : ℕ) (v : ℤ) (h : a < S.ignore.length) : ign (setIgn S a v) a = v :=
  List.getD_set_self _ _ _ _ h

theorem ign_setIgn_ne (S : St) (a b : ℕ) (v : ℤ) (h : b ≠ a) : ign (setIgn S a v) b = ign S b :=
  List.getD_set_ne _ _ _ h

theorem toSw_eq_of {S S' : St} (h1 : S'.next = S.next) (h2 : S'.prev = S.prev) : toSw S' = toSw S := by
  unfold toSw; rw [h1, h2]

end HvC
