import DeapModel.Lemmas.C15HvCPtr
/-!
C15 — the transcription `Core/HvC.lean` of `_hv.c`: the equations of `hv_recursive` by its `dim`, the points `ptOf` of
the nodes, what `filter` leaves out adds nothing to `hvCells` (`hvCells_data_eq_good`), the product that `fpli_hv` returns
for a single point (`single_eq_hvCells`), and the base cases `dim == 0` (one dimension, `dim1_eq_hvCells`) and `dim == 1`
(two dimensions: `loop2d_eq`, `dim2_eq_hvCells`) of `hv_recursive`.
-/
namespace HvC
open Hypervolume
open HvSweep (Seg ids)

/-! `hv_recursive` by its `dim` (l.703-1024) -/

theorem hvRecursive_zero (C : Cargo) (R : List ℚ) (F c : ℕ) (S : St) :
    hvRecursive C R F 0 c S = some (rf R 0 - cg C (nx S 0 0) 0, setIgn (tick S 0) (nx S 0 0) (-1)) := rfl

theorem hvRecursive_one (C : Cargo) (R : List ℚ) (F c : ℕ) (S : St) :
    hvRecursive C R F 1 c S =
      match loop2d C R F (nx S 1 0) (cg C (nx S 1 0) 0) 0 (tick S 1) with
      | none => none
      | some (hyperv, hypera, p1, S) => some (hyperv + (rf R 0 - hypera) * (rf R 1 - cg C p1 1), S) := rfl

theorem hvRecursive_two (C : Cargo) (R : List ℚ) (F c : ℕ) (S : St) :
    hvRecursive C R F 2 c S = dim3 C R F (tick S 2) := rfl

theorem hvRecursive_general (C : Cargo) (R : List ℚ) (F k c : ℕ) (S : St) :
    hvRecursive C R F (k + 3) c S = general (hvRecursive C R F (k + 2)) C R F (k + 3) c (tick S (k + 3)) := rfl

def ptOf (C : Cargo) (a : ℕ) : Pt := C.getD a []

theorem cg_ptOf (C : Cargo) (a i : ℕ) : cg C a i = (ptOf C a).getD i 0 := rfl

theorem ptOf_cons (data : List (List ℚ)) (a : ℕ) (ha : 1 ≤ a) : ptOf ([] :: data) a = data.getD (a - 1) [] := by
  obtain ⟨b, rfl⟩ : ∃ b, a = b + 1 := ⟨a - 1, by omega⟩
  simp [ptOf]

theorem map_ptOf_ids (data : List (List ℚ)) : (ids data.length).map (ptOf ([] :: data)) = data := by
  have h := HvSweep.ids_map data []
  conv_rhs => rw [← h]
  apply List.map_congr_left
  intro a ha
  rw [ptOf_cons data a ((HvSweep.mem_ids _ a).mp ha).1]

theorem mem_data_of_mem_ids (data : List (List ℚ)) (a : ℕ) (ha : a ∈ ids data.length) : ptOf ([] :: data) a ∈ data := by
  have : ptOf ([] :: data) a ∈ (ids data.length).map (ptOf ([] :: data)) := List.mem_map_of_mem ha
  rwa [map_ptOf_ids] at this

theorem hvCells_drop_boundary (ref : List ℚ) : ∀ (Q S : List Pt), (∀ q ∈ Q, OnBoundary ref q) →
    hvCells ref (Q ++ S) = hvCells ref S
  | [], S, _ => rfl
  | q :: Q, S, h => by
    rw [List.cons_append, hvCells_boundary' ref (Q ++ S) q (h q (by simp))]
    exact hvCells_drop_boundary ref Q S (fun x hx => h x (by simp [hx]))

theorem not_good_onBoundary (C : Cargo) (R : List ℚ) (a : ℕ) (h : goodUpTo C R R.length a = false) :
    OnBoundary R (ptOf C a) := by
  rw [onBoundary_iff]
  by_contra hne
  have : goodUpTo C R R.length a = true := by
    rw [goodUpTo_iff]
    intro i hi
    by_contra hlt
    exact hne ⟨i, hi, by rw [← cg_ptOf]; exact not_lt.mp hlt⟩
  rw [this] at h; cases h

theorem hvCells_data_eq_good (data : List (List ℚ)) (R : List ℚ) (L : List ℕ) (hL : L.Perm (ids data.length)) :
    hvCells R data = hvCells R ((L.filter (goodUpTo ([] :: data) R R.length)).map (ptOf ([] :: data))) := by
  set C : Cargo := [] :: data
  set good := goodUpTo C R R.length
  have h1 : hvCells R data = hvCells R (L.map (ptOf C)) := by
    conv_lhs => rw [← map_ptOf_ids data]
    exact hvCells_of_perm R (hL.map (ptOf C)).symm
  have h2 : hvCells R (L.map (ptOf C))
      = hvCells R ((L.filter (fun a => !good a)).map (ptOf C) ++ (L.filter good).map (ptOf C)) := by
    rw [← List.map_append]
    exact hvCells_of_perm R (((List.filter_append_perm good L).symm.trans List.perm_append_comm).map _)
  rw [h1, h2]
  apply hvCells_drop_boundary
  intro q hq
  obtain ⟨a, ha, rfl⟩ := List.mem_map.mp hq
  have := (List.mem_filter.mp ha).2
  exact not_good_onBoundary C R a (by simpa using this)

theorem boxVol_fold : ∀ (R : List ℚ) (p : Pt) (c : ℚ), (∀ i < R.length, p.getD i 0 < R.getD i 0) →
    (List.range R.length).foldl (fun h i => h * (R.getD i 0 - p.getD i 0)) c = c * boxVol R p
  | [], p, c, _ => by simp [boxVol]
  | r :: R, p, c, h => by
    rw [List.length_cons, List.range_succ_eq_map, List.foldl_cons, List.foldl_map]
    have h0 : p.headD 0 < r := by
      have := h 0 (Nat.succ_pos _)
      rwa [getD_zero_eq p, List.getD_cons_zero] at this
    have ih := boxVol_fold R p.tail (c * (r - p.headD 0)) (fun i hi => by
      have := h (i + 1) (Nat.succ_lt_succ hi)
      rwa [getD_succ_eq p, List.getD_cons_succ] at this)
    have hfun : (fun (h : ℚ) (i : ℕ) => h * ((r :: R).getD (i + 1) 0 - p.getD (i + 1) 0))
        = (fun (h : ℚ) (i : ℕ) => h * (R.getD i 0 - p.tail.getD i 0)) := by
      funext h i
      rw [getD_succ_eq p, List.getD_cons_succ]
    simp only [Nat.succ_eq_add_one]
    rw [hfun, getD_zero_eq p, List.getD_cons_zero, ih, boxVol, if_pos h0]
    ring

theorem single_eq_hvCells (C : Cargo) (R : List ℚ) (p : ℕ) (hgood : goodUpTo C R R.length p = true) :
    (List.range R.length).foldl (fun h i => h * (rf R i - cg C p i)) 1 = hvCells R [ptOf C p] := by
  rw [hvCells_single]
  have := boxVol_fold R (ptOf C p) 1 (by
    intro i hi
    exact (goodUpTo_iff C R R.length p).mp hgood i hi)
  rw [one_mul] at this
  exact this

theorem foldr_min_head (r : ℚ) : ∀ (x : ℚ) (xs : List ℚ), (x :: xs).Pairwise (· ≤ ·) → x ≤ r → (x :: xs).foldr min r = x := by
  intro x xs hs hx
  refine le_antisymm (foldr_min_le_mem r _ x (by simp)) (le_foldr_min r x _ (fun y hy => ?_) hx)
  rcases List.mem_cons.mp hy with rfl | hy
  · exact le_refl _
  · exact (List.pairwise_cons.mp hs).1 y hy

theorem dim1_eq_hvCells (C : Cargo) (r : ℚ) (a : ℕ) (G : List ℕ)
    (hs : (a :: G).Pairwise (fun x y => cg C x 0 ≤ cg C y 0)) (hr : cg C a 0 ≤ r) :
    r - cg C a 0 = hvCells [r] ((a :: G).map (ptOf C)) := by
  rw [hvCells_1d, List.map_map]
  have hm : ((fun p : Pt => p.headD 0) ∘ ptOf C) = (fun x => cg C x 0) := by
    funext x
    show (ptOf C x).headD 0 = (ptOf C x).getD 0 0
    cases ptOf C x <;> rfl
  rw [hm, List.map_cons, foldr_min_head r _ _ (by
    have := List.pairwise_map.mpr hs
    simpa using this) hr]

/-- the loop l.1001-1008 on the list of the remaining nodes: `(hyperv, hypera, p1)` -/
def stairNodesC (C : Cargo) (r0 : ℚ) : List ℕ → (p1 : ℕ) → (hypera hyperv : ℚ) → ℚ × ℚ × ℕ
  | [], p1, hypera, hyperv => (hyperv, hypera, p1)
  | p0 :: l, p1, hypera, hyperv =>
    stairNodesC C r0 l p0 (if cg C p0 0 < hypera then cg C p0 0 else hypera)
      (hyperv + (r0 - hypera) * (cg C p0 1 - cg C p1 1))

theorem loop2d_eq (C : Cargo) (R : List ℚ) : ∀ (l : List ℕ) (fuel p1 : ℕ) (hypera hyperv : ℚ) (S : St),
    l.length < fuel → Seg (toSw S) 1 p1 l 0 → (∀ p ∈ l, p ≠ 0) →
    ∃ S', loop2d C R fuel p1 hypera hyperv S
        = some ((stairNodesC C (rf R 0) l p1 hypera hyperv).1, (stairNodesC C (rf R 0) l p1 hypera hyperv).2.1,
                (stairNodesC C (rf R 0) l p1 hypera hyperv).2.2, S')
  | [], fuel, p1, hypera, hyperv, S, hf, hs, _ => by
    obtain ⟨f, rfl, hf'⟩ := HvSweep.exists_fuel_succ hf
    have : nx S 1 p1 = 0 := hs.1
    refine ⟨S, ?_⟩
    simp [loop2d, this, stairNodesC]
  | p :: l, fuel, p1, hypera, hyperv, S, hf, hs, hne => by
    obtain ⟨f, rfl, hf'⟩ := HvSweep.exists_fuel_succ hf
    have hp : nx S 1 p1 = p := hs.1.1
    have hp0 : p ≠ 0 := hne p (by simp)
    unfold loop2d
    simp only [hp, if_neg hp0, stairNodesC]
    by_cases hlt : cg C p 0 < hypera
    · rw [if_pos hlt, if_pos hlt]
      exact loop2d_eq C R l f p (cg C p 0) _ S hf' hs.2 (fun x hx => hne x (List.mem_cons_of_mem _ hx))
    · rw [if_neg hlt, if_neg hlt]
      set S1 := (if ign S p = 0 then setIgn S p 1 else S) with hS1
      have hseg : Seg (toSw S1) 1 p l 0 := by
        have : toSw S1 = toSw S := by rw [hS1]; split <;> rfl
        rw [this]; exact hs.2
      exact loop2d_eq C R l f p hypera _ S1 hf' hseg (fun x hx => hne x (List.mem_cons_of_mem _ hx))

/-- the C loop is pyhv's staircase with the running minimum untranslated -/
theorem stairNodesC_XY (C : Cargo) (r₁ r₂ : ℚ) : ∀ (l : List ℕ) (p1 : ℕ) (hypera hyperv : ℚ),
    (stairNodesC C r₁ l p1 hypera hyperv).1
        + (r₁ - (stairNodesC C r₁ l p1 hypera hyperv).2.1) * (r₂ - cg C (stairNodesC C r₁ l p1 hypera hyperv).2.2 1)
      = stairXY r₁ r₂ (l.map (fun a => (cg C a 0, cg C a 1))) (cg C p1 1) (hypera - r₁) hyperv
  | [], p1, hypera, hyperv => by
    simp only [stairNodesC, List.map_nil, stairXY]; ring
  | p :: l, p1, hypera, hyperv => by
    simp only [stairNodesC, List.map_cons, stairXY]
    rw [stairNodesC_XY C r₁ r₂ l p]
    congr 1
    · by_cases hlt : cg C p 0 < hypera
      · rw [if_pos hlt, if_pos (sub_lt_sub_right hlt r₁)]
      · rw [if_neg hlt, if_neg (mt (sub_lt_sub_iff_right r₁).mp hlt)]
    · ring

theorem dim2_eq_hvCells (C : Cargo) (r₁ r₂ : ℚ) (a : ℕ) (l : List ℕ)
    (hs : (a :: l).Pairwise (fun x y => cg C x 1 ≤ cg C y 1))
    (hlen : ∀ x ∈ a :: l, (ptOf C x).length = 2)
    (hle : ∀ x ∈ a :: l, cg C x 0 ≤ r₁ ∧ cg C x 1 ≤ r₂) :
    (stairNodesC C r₁ l a (cg C a 0) 0).1
        + (r₁ - (stairNodesC C r₁ l a (cg C a 0) 0).2.1) * (r₂ - cg C (stairNodesC C r₁ l a (cg C a 0) 0).2.2 1)
      = hvCells [r₁, r₂] ((a :: l).map (ptOf C)) := by
  rw [stairNodesC_XY]
  have hpt : ∀ x ∈ a :: l, ptOf C x = toPt (cg C x 0, cg C x 1) := by
    intro x hx
    exact HvSweep.list_len2 (ptOf C x) (hlen x hx)
  have hmap : (a :: l).map (ptOf C) = ((cg C a 0, cg C a 1) :: l.map (fun x => (cg C x 0, cg C x 1))).map toPt := by
    rw [← List.map_cons (f := fun x => (cg C x 0, cg C x 1)), List.map_map]
    apply List.map_congr_left
    intro x hx
    exact hpt x hx
  rw [hmap]
  apply stairXY_eq_hvCells r₁ r₂ (cg C a 0, cg C a 1) (l.map (fun x => (cg C x 0, cg C x 1)))
  · have : ((a :: l).map (fun x => (cg C x 0, cg C x 1))).Pairwise (fun p q => p.2 ≤ q.2) :=
      List.pairwise_map.mpr hs
    simpa using this
  · exact (hle a (by simp)).1
  · intro q hq
    have : q ∈ (a :: l).map (fun x => (cg C x 0, cg C x 1)) := by simpa using hq
    obtain ⟨x, hx, rfl⟩ := List.mem_map.mp this
    exact (hle x hx).2

end HvC
