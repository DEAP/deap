/-
C18 helper lemmas: the single operations of the logbook model — Python indices, chapter lookup,
`record`, `stream`, and `pop` / `del [i]` / `del [slice]` on logbooks whose chapters are aligned at
every depth.
-/
import DeapModel.Lemmas.C18Lists

namespace C18L
open Logbook

/-- the list position addressed by a Python index on a list of length `n` (`none`: out of range) -/
def pos? (n : Nat) (i : Int) : Option Nat :=
  if 0 ≤ position n i ∧ position n i < (n : Int) then some (position n i).toNat else none

theorem pos?_eq_some {n : Nat} {i : Int} {p : Nat} :
    pos? n i = some p ↔ (0 ≤ position n i ∧ position n i < (n : Int)) ∧ (position n i).toNat = p := by
  unfold pos?; split <;> simp [*]

theorem pos?_eq_none {n : Nat} {i : Int} :
    pos? n i = none ↔ ¬ (0 ≤ position n i ∧ position n i < (n : Int)) := by
  unfold pos?; split <;> simp [*]

theorem pos?_lt {n : Nat} {i : Int} {p : Nat} (h : pos? n i = some p) : p < n := by
  obtain ⟨h1, rfl⟩ := pos?_eq_some.1 h; omega

theorem pos?_nat (n i : Nat) : pos? n (i : Int) = if i < n then some i else none := by
  have hpos : position n (i : Int) = i := if_neg (by omega)
  unfold pos?; rw [hpos]
  by_cases h : i < n
  · rw [if_pos h, if_pos ⟨by omega, by omega⟩, Int.toNat_natCast]
  · rw [if_neg h, if_neg (by omega)]

@[simp] theorem rows_mk (r : List Row) (c : List (Name × LB)) (b : Nat) (h : Option (List Name)) (l s : Bool) :
    (LB.mk r c b h l s).rows = r := rfl
@[simp] theorem chapters_mk (r : List Row) (c : List (Name × LB)) (b : Nat) (h : Option (List Name)) (l s : Bool) :
    (LB.mk r c b h l s).chapters = c := rfl
@[simp] theorem buffindex_mk (r : List Row) (c : List (Name × LB)) (b : Nat) (h : Option (List Name)) (l s : Bool) :
    (LB.mk r c b h l s).buffindex = b := rfl
@[simp] theorem header_mk (r : List Row) (c : List (Name × LB)) (b : Nat) (h : Option (List Name)) (l s : Bool) :
    (LB.mk r c b h l s).header = h := rfl
@[simp] theorem logHeader_mk (r : List Row) (c : List (Name × LB)) (b : Nat) (h : Option (List Name)) (l s : Bool) :
    (LB.mk r c b h l s).logHeader = l := rfl
@[simp] theorem headerStreamed_mk (r : List Row) (c : List (Name × LB)) (b : Nat) (h : Option (List Name)) (l s : Bool) :
    (LB.mk r c b h l s).headerStreamed = s := rfl

@[simp] theorem LB.eta (lb : LB) :
    LB.mk lb.rows lb.chapters lb.buffindex lb.header lb.logHeader lb.headerStreamed = lb := by cases lb; rfl

theorem getChapter_modify (g : LB → LB) (key c : Name) (chs : List (Name × LB)) :
    getChapter c (modifyChapter g key chs) =
      if c = key then some (g ((getChapter key chs).getD LB.empty)) else getChapter c chs := by
  rw [modifyChapter_eq_upsert]; exact Dict.lookup_upsert _ key c chs

theorem keys_modify (g : LB → LB) (key : Name) (chs : List (Name × LB)) :
    (modifyChapter g key chs).map (·.1) =
      if key ∈ chs.map (·.1) then chs.map (·.1) else chs.map (·.1) ++ [key] := by
  rw [modifyChapter_eq_upsert]; exact Dict.keys_upsert _ key chs

theorem getChapter_map (f : LB → LB) (c : Name) (chs : List (Name × LB)) :
    getChapter c (chs.map fun q => (q.1, f q.2)) = (getChapter c chs).map f :=
  Dict.lookup_map_snd f c chs

theorem getChapter_mapChapter (f : LB → LB) (n c : Name) (chs : List (Name × LB)) :
    getChapter c (mapChapter f n chs) = if c = n then (getChapter n chs).map f else getChapter c chs := by
  induction chs with
  | nil => simp [mapChapter, getChapter]
  | cons q qs ih =>
    obtain ⟨k, ch⟩ := q
    simp only [getChapter] at ih ⊢
    have hk' : n = k ↔ k = n := eq_comm
    by_cases hk : k = n <;> by_cases hc : c = k <;> simp_all [mapChapter, Dict.lookup_cons]

theorem keys_mapChapter (f : LB → LB) (n : Name) (chs : List (Name × LB)) :
    (mapChapter f n chs).map (·.1) = chs.map (·.1) := by
  induction chs with
  | nil => rfl
  | cons q qs ih => obtain ⟨k, ch⟩ := q; simp only [mapChapter]; split <;> simp [ih]

theorem recordAux_rows (inh : Row) (e : Entry) (lb : LB) :
    (recordAux inh e lb).rows = lb.rows ++ [dictUpdate e.scalars inh] := by
  cases e; cases lb; rfl

theorem record_rows (e : Entry) (lb : LB) : (record e lb).rows = lb.rows ++ [e.scalars] := recordAux_rows [] e lb

theorem recordAux_fields (inh : Row) (e : Entry) (lb : LB) :
    (recordAux inh e lb).buffindex = lb.buffindex ∧ (recordAux inh e lb).header = lb.header ∧
    (recordAux inh e lb).logHeader = lb.logHeader ∧
    (recordAux inh e lb).headerStreamed = lb.headerStreamed := by
  cases e; cases lb; exact ⟨rfl, rfl, rfl, rfl⟩

theorem recordAux_chapters (inh : Row) (e : Entry) (lb : LB) :
    (recordAux inh e lb).chapters =
      recordDicts (dictUpdate e.scalars inh) inh e.dicts lb.chapters := by
  cases e; cases lb; rfl

@[simp] theorem dictUpdate_nil (d : Row) : dictUpdate d [] = d := rfl

theorem recordDicts_top (all : Row) (dicts : List (Name × Entry)) (chs : List (Name × LB))
    (hn : (dicts.map (·.1)).Nodup) (hc : (chs.map (·.1)).Nodup) :
    (∀ c, getChapter c (recordDicts all [] dicts chs) =
      match dicts.lookup c with
      | some sub => some (recordAux all sub ((getChapter c chs).getD LB.empty))
      | none => getChapter c chs) ∧
    ((recordDicts all [] dicts chs).map (·.1)).Nodup ∧
    (∀ c, c ∈ (recordDicts all [] dicts chs).map (·.1) ↔ c ∈ chs.map (·.1) ∨ c ∈ dicts.map (·.1)) := by
  induction dicts generalizing chs with
  | nil => exact ⟨fun _ => rfl, hc, fun c => by simp [recordDicts]⟩
  | cons d ds ih =>
    obtain ⟨k, sub⟩ := d
    rw [List.map_cons, List.nodup_cons] at hn
    have hc' : ((modifyChapter (recordAux all sub) k chs).map (·.1)).Nodup := by
      rw [modifyChapter_eq_upsert]; exact Dict.nodup_keys_upsert _ k chs hc
    obtain ⟨h1, h2, h3⟩ := ih (modifyChapter (recordAux all sub) k chs) hn.2 hc'
    have hrd : recordDicts all [] ((k, sub) :: ds) chs =
        recordDicts all [] ds (modifyChapter (recordAux all sub) k chs) := by
      simp [recordDicts, dictHas]
    rw [hrd]
    refine ⟨fun c => ?_, h2, fun c => ?_⟩
    · rw [h1 c, getChapter_modify, Dict.lookup_cons]
      by_cases hck : c = k
      · subst hck; rw [Dict.lookup_eq_none_iff_keys.2 hn.1, if_pos rfl, if_pos rfl]
      · rw [if_neg hck, if_neg hck]
    · rw [h3 c, keys_modify]
      by_cases hk : k ∈ chs.map (·.1) <;> simp only [hk, if_true, if_false, List.map_cons, List.mem_cons,
        List.mem_append, List.not_mem_nil, or_false]
      · exact ⟨fun h => h.imp id Or.inr, fun h => h.elim Or.inl fun h => h.elim (fun e => Or.inl (e ▸ hk)) Or.inr⟩
      · exact or_assoc

theorem txt_rows (si : Nat) (hdr : Bool) (lb : LB) : (txt si hdr lb).rows = lb.rows.drop si := by
  unfold txt; split
  · next hz => rw [List.length_eq_zero_iff.1 hz, List.drop_nil]
  · rfl

theorem txt_header_iff (si : Nat) (hdr : Bool) (lb : LB) :
    (txt si hdr lb).header = true ↔
      lb.rows.length ≠ 0 ∧ hdr = true ∧ si = 0 ∧ lb.logHeader = true := by
  unfold txt; split <;> simp [*, and_assoc]

theorem stream_text (lb : LB) : (stream lb).1 = txt lb.buffindex (!lb.headerStreamed) lb := by cases lb; rfl

theorem stream_state (lb : LB) :
    (stream lb).2.rows = lb.rows ∧ (stream lb).2.chapters = lb.chapters ∧
    (stream lb).2.buffindex = lb.rows.length ∧ (stream lb).2.logHeader = lb.logHeader := by
  cases lb; exact ⟨rfl, rfl, rfl, rfl⟩

theorem stream_header (lb : LB) :
    (stream lb).1.header = (!lb.headerStreamed && (lb.buffindex == 0 && decide (0 < lb.rows.length) && lb.logHeader)) ∧
    (stream lb).2.headerStreamed =
      (lb.headerStreamed || (lb.buffindex == 0 && decide (0 < lb.rows.length) && lb.logHeader)) := by
  refine ⟨?_, by cases lb; rfl⟩
  rw [Bool.eq_iff_iff, stream_text, txt_header_iff]
  simp [Nat.pos_iff_ne_zero]; tauto

theorem setHeader_state (hd : Option (List Name)) (lb : LB) :
    (setHeader hd lb).rows = lb.rows ∧ (setHeader hd lb).chapters = lb.chapters ∧
    (setHeader hd lb).buffindex = lb.buffindex ∧ (setHeader hd lb).logHeader = lb.logHeader := by
  cases lb; exact ⟨rfl, rfl, rfl, rfl⟩

theorem setLogHeader_state (f : Bool) (lb : LB) :
    (setLogHeader f lb).rows = lb.rows ∧ (setLogHeader f lb).chapters = lb.chapters ∧
    (setLogHeader f lb).buffindex = lb.buffindex := by
  cases lb; exact ⟨rfl, rfl, rfl⟩

theorem pickle_eq (lb : LB) : pickle lb = lb := by cases lb; rfl

theorem modifyAt_cons_state (g : LB → LB) (n : Name) (rest : List Name) (lb : LB) :
    (modifyAt g (n :: rest) lb).rows = lb.rows ∧
    (modifyAt g (n :: rest) lb).buffindex = lb.buffindex ∧
    (modifyAt g (n :: rest) lb).logHeader = lb.logHeader ∧
    (modifyAt g (n :: rest) lb).headerStreamed = lb.headerStreamed ∧
    (modifyAt g (n :: rest) lb).chapters = mapChapter (modifyAt g rest) n lb.chapters := by
  cases lb; exact ⟨rfl, rfl, rfl, rfl, rfl⟩

theorem modifyAt_stream_rows (path : List Name) (lb : LB) :
    (modifyAt (fun l => (stream l).2) path lb).rows = lb.rows := by
  cases path with
  | nil => exact (stream_state lb).1
  | cons n rest => exact (modifyAt_cons_state _ n rest lb).1

mutual
/-- every chapter, at every depth, has as many rows as its parent, and every stream position is
within its logbook -/
def DeepAligned : LB → Prop
  | .mk rows chs b _ _ _ => b ≤ rows.length ∧ AllAligned rows.length chs
def AllAligned (n : Nat) : List (Name × LB) → Prop
  | [] => True
  | (_, ch) :: rest => ch.rows.length = n ∧ DeepAligned ch ∧ AllAligned n rest
end

mutual
/-- position `p` removed from the logbook and from every chapter at every depth, each stream
position following the removal (specification of `pop` / `del`) -/
def eraseDeep (p : Nat) : LB → LB
  | .mk rows chs b h lh hs => .mk (rows.eraseIdx p) (eraseDeepAll p chs) (if p < b then b - 1 else b) h lh hs
def eraseDeepAll (p : Nat) : List (Name × LB) → List (Name × LB)
  | [] => []
  | (k, ch) :: rest => (k, eraseDeep p ch) :: eraseDeepAll p rest
end

theorem eraseDeepAll_eq_map (p : Nat) (chs : List (Name × LB)) :
    eraseDeepAll p chs = chs.map fun q => (q.1, eraseDeep p q.2) := by
  induction chs with
  | nil => rfl
  | cons q qs ih => rw [List.map_cons, ← ih]; rfl

theorem eraseDeep_rows (p : Nat) (lb : LB) : (eraseDeep p lb).rows = lb.rows.eraseIdx p := by
  cases lb; rfl
theorem eraseDeep_chapters (p : Nat) (lb : LB) :
    (eraseDeep p lb).chapters = lb.chapters.map fun q => (q.1, eraseDeep p q.2) := by
  cases lb; exact eraseDeepAll_eq_map p _
theorem eraseDeep_buffindex (p : Nat) (lb : LB) :
    (eraseDeep p lb).buffindex = if p < lb.buffindex then lb.buffindex - 1 else lb.buffindex := by
  cases lb; rfl
theorem eraseDeep_header (p : Nat) (lb : LB) :
    (eraseDeep p lb).header = lb.header ∧ (eraseDeep p lb).logHeader = lb.logHeader ∧
    (eraseDeep p lb).headerStreamed = lb.headerStreamed := by
  cases lb; exact ⟨rfl, rfl, rfl⟩

theorem allAligned_iff (n : Nat) (chs : List (Name × LB)) :
    AllAligned n chs ↔ ∀ q ∈ chs, q.2.rows.length = n ∧ DeepAligned q.2 := by
  induction chs with
  | nil => exact ⟨fun _ _ h => (nomatch h), fun _ => trivial⟩
  | cons q qs ih => rw [List.forall_mem_cons, ← ih, and_assoc]; rfl

theorem deepAligned_iff (lb : LB) :
    DeepAligned lb ↔ lb.buffindex ≤ lb.rows.length ∧
      ∀ q ∈ lb.chapters, q.2.rows.length = lb.rows.length ∧ DeepAligned q.2 := by
  cases lb; exact and_congr_right' (allAligned_iff _ _)

/-- the stream position after `pop`, `p` being the position the index addresses (support.py:423-424) -/
private theorem bcond {n : Nat} {i : Int} {p : Nat} (b : Nat) (h : pos? n i = some p) :
    (if 0 ≤ position n i ∧ position n i < (b : Int) then b - 1 else b) = if p < b then b - 1 else b := by
  obtain ⟨h1, rfl⟩ := pos?_eq_some.1 h
  exact if_congr (by omega) rfl rfl

mutual
theorem pop_deep (index : Int) (p : Nat) : ∀ (lb : LB), DeepAligned lb →
    pos? lb.rows.length index = some p → pop index lb = (lb.rows[p]?, eraseDeep p lb)
  | .mk rows chs b h lh hs, hd, hp => by
    have hp' : pos? rows.length index = some p := hp
    obtain ⟨hin, hpe⟩ := pos?_eq_some.1 hp'
    simp only [pop, popChapters_deep index p rows.length chs hd.2 hp', bcond b hp', if_pos hin, hpe, eraseDeep,
      rows_mk]
theorem popChapters_deep (index : Int) (p n : Nat) : ∀ (chs : List (Name × LB)), AllAligned n chs →
    pos? n index = some p → popChapters index chs = (eraseDeepAll p chs, false)
  | [], _, _ => rfl
  | (k, ch) :: rest, ha, hp => by
    obtain ⟨hl, hd, hr⟩ := ha
    have hpl : p < ch.rows.length := hl ▸ pos?_lt hp
    simp only [popChapters, pop_deep index p ch hd (hl ▸ hp), List.getElem?_eq_getElem hpl,
      popChapters_deep index p n rest hr hp, eraseDeepAll]
end

mutual
theorem pop_out_deep (index : Int) : ∀ (lb : LB), DeepAligned lb →
    pos? lb.rows.length index = none → pop index lb = (none, lb)
  | .mk rows chs b h lh hs, hd, hp => by
    have hout : ¬ (0 ≤ position rows.length index ∧ position rows.length index < (rows.length : Int)) :=
      pos?_eq_none.1 hp
    have hb : ¬ (0 ≤ position rows.length index ∧ position rows.length index < (b : Int)) := by
      have := hd.1; omega
    rcases popChapters_out index rows.length chs hd.2 hp with hc | hc <;>
      simp only [pop, hc, if_neg hb, if_neg hout]
theorem popChapters_out (index : Int) (n : Nat) : ∀ (chs : List (Name × LB)), AllAligned n chs →
    pos? n index = none → popChapters index chs = (chs, false) ∨ popChapters index chs = (chs, true)
  | [], _, _ => Or.inl rfl
  | (k, ch) :: rest, ha, hp => by
    right
    simp only [popChapters, pop_out_deep index ch ha.2.1 (ha.1 ▸ hp)]
end

mutual
theorem eraseDeep_aligned (p : Nat) : ∀ (lb : LB), DeepAligned lb → DeepAligned (eraseDeep p lb)
  | .mk rows chs b h lh hs, hd => by
    refine ⟨?_, List.length_eraseIdx ▸ eraseDeepAll_aligned p rows.length chs hd.2⟩
    have := hd.1
    rw [List.length_eraseIdx]; split <;> split <;> omega
theorem eraseDeepAll_aligned (p n : Nat) : ∀ (chs : List (Name × LB)), AllAligned n chs →
    AllAligned (if p < n then n - 1 else n) (eraseDeepAll p chs)
  | [], _ => trivial
  | (k, ch) :: rest, ha =>
    ⟨by rw [eraseDeep_rows, List.length_eraseIdx, ha.1], eraseDeep_aligned p ch ha.2.1,
      eraseDeepAll_aligned p n rest ha.2.2⟩
end

theorem delIndex_deep (lb : LB) (key : Int) (p : Nat) (hd : DeepAligned lb)
    (h : pos? lb.rows.length key = some p) : delIndex key lb = (eraseDeep p lb, false) := by
  simp only [delIndex, pop_deep key p lb hd h, List.getElem?_eq_getElem (pos?_lt h)]

theorem delIndex_out (lb : LB) (key : Int) (hd : DeepAligned lb)
    (h : pos? lb.rows.length key = none) : delIndex key lb = (lb, true) := by
  simp only [delIndex, pop_out_deep key lb hd h]

theorem delIndex_eq_pop (lb : LB) (key : Int) : (delIndex key lb).1 = (pop key lb).2 := by
  unfold delIndex
  rcases pop key lb with ⟨_ | _, lb'⟩ <;> rfl

theorem pop_frame (i : Int) (lb : LB) :
    (pop i lb).2.rows.Sublist lb.rows ∧ (pop i lb).2.headerStreamed = lb.headerStreamed := by
  obtain ⟨rows, chs, b, h, lh, hs⟩ := lb
  simp only [pop]
  split
  · exact ⟨.refl _, rfl⟩
  · split
    · exact ⟨List.eraseIdx_sublist _ _, rfl⟩
    · exact ⟨.refl _, rfl⟩

theorem delEach_frame (ds : List Nat) (lb : LB) :
    (delEach ds lb).1.rows.Sublist lb.rows ∧ (delEach ds lb).1.headerStreamed = lb.headerStreamed := by
  induction ds generalizing lb with
  | nil => exact ⟨.refl _, rfl⟩
  | cons i is ih =>
    have h1 := delIndex_eq_pop lb i ▸ pop_frame i lb
    rw [delEach]
    generalize delIndex (i : Int) lb = r at h1 ⊢
    obtain ⟨lb', _ | _⟩ := r
    · exact ⟨(ih lb').1.trans h1.1, (ih lb').2.trans h1.2⟩
    · exact h1

/-- positions removed one after the other, at every depth -/
def eraseAllDeep : List Nat → LB → LB
  | [], lb => lb
  | i :: is, lb => eraseAllDeep is (eraseDeep i lb)

theorem eraseAllDeep_rows (ds : List Nat) (lb : LB) : (eraseAllDeep ds lb).rows = eraseAll ds lb.rows := by
  induction ds generalizing lb with
  | nil => rfl
  | cons i is ih => rw [eraseAllDeep, ih, eraseDeep_rows, eraseAll]

theorem chapterAt_eraseDeep (p : Nat) (path : List Name) (lb : LB) :
    chapterAt path (eraseDeep p lb) = (chapterAt path lb).map (eraseDeep p) := by
  induction path generalizing lb with
  | nil => rfl
  | cons n rest ih =>
    simp only [chapterAt, eraseDeep_chapters, getChapter_map]
    cases getChapter n lb.chapters with
    | none => rfl
    | some ch => exact ih ch

theorem chapterAt_eraseAllDeep (ds : List Nat) (path : List Name) (lb : LB) :
    chapterAt path (eraseAllDeep ds lb) = (chapterAt path lb).map (eraseAllDeep ds) := by
  induction ds generalizing lb with
  | nil => show chapterAt path lb = _; cases chapterAt path lb <;> rfl
  | cons i is ih => rw [eraseAllDeep, ih, chapterAt_eraseDeep, Option.map_map]; rfl

theorem delEach_deep (ds : List Nat) (hd : ds.Pairwise (· > ·)) (lb : LB) (h : DeepAligned lb)
    (hr : ∀ i ∈ ds, i < lb.rows.length) :
    Logbook.delEach ds lb = (eraseAllDeep ds lb, false) ∧ DeepAligned (eraseAllDeep ds lb) := by
  induction ds generalizing lb with
  | nil => exact ⟨rfl, h⟩
  | cons i is ih =>
    rw [List.pairwise_cons] at hd
    have hi : i < lb.rows.length := hr i (by simp)
    have h1 := delIndex_deep lb (i : Int) i h (by rw [pos?_nat, if_pos hi])
    obtain ⟨h3, h4⟩ := ih hd.2 (eraseDeep i lb) (eraseDeep_aligned i lb h)
      (eraseDeep_rows i lb ▸ desc_tail_lt hd.1 hi lb.rows rfl)
    exact ⟨by simp only [Logbook.delEach, h1, h3, eraseAllDeep], h4⟩

theorem delSlice_deep (idx : List Nat) (hn : idx.Nodup) (lb : LB) (h : DeepAligned lb)
    (hr : ∀ i ∈ idx, i < lb.rows.length) :
    delSlice idx lb = (eraseAllDeep (sortDesc idx) lb, false) ∧ DeepAligned (eraseAllDeep (sortDesc idx) lb) :=
  delEach_deep (sortDesc idx) (sortDesc_strict idx hn) lb h (fun i hi => hr i ((mem_sortDesc i idx).1 hi))

theorem step_delSlice {lb : LB} (h : DeepAligned lb) {idx : List Nat} (hn : idx.Nodup)
    (hr : ∀ i ∈ idx, i < lb.rows.length) : (step lb (.delSlice idx)).1 = eraseAllDeep (sortDesc idx) lb :=
  congrArg Prod.fst (delSlice_deep idx hn lb h hr).1

end C18L
