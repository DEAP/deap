/-
C10 — the rounded semantics (`Core/RoundedOps.lean`): interval facts for any lawful arithmetic, the clamp, the NaN
analysis of bounded SBX and bounded polynomial mutation, and a toy arithmetic that is lawful.
-/
import DeapModel.Core.RoundedOps
import DeapModel.Lemmas.C10Lists
import Mathlib.Data.Rat.Floor

namespace RoundedOps
open XF RealOps

/-- a finite value inside the rational interval `[lo, hi]` -/
def FinIn (x : XF) (lo hi : Rat) : Prop := ∃ q, x = fin q ∧ lo ≤ q ∧ q ≤ hi
/-- `+inf` or a finite value `≥ L` (in particular not `nan`) -/
def Ge (L : Rat) (x : XF) : Prop := x = pinf ∨ ∃ q, x = fin q ∧ L ≤ q

theorem FinIn.ge {x : XF} {lo hi L : Rat} (h : FinIn x lo hi) (h0 : L ≤ lo) : Ge L x := by
  obtain ⟨q, rfl, h1, _⟩ := h
  exact Or.inr ⟨q, rfl, h0.trans h1⟩

theorem FinIn.mono {x : XF} {lo hi lo' hi' : Rat} (h : FinIn x lo hi) (h1 : lo' ≤ lo) (h2 : hi ≤ hi') :
    FinIn x lo' hi' := by
  obtain ⟨q, rfl, a, b⟩ := h
  exact ⟨q, rfl, h1.trans a, b.trans h2⟩

theorem Ge.ne_nan {L : Rat} {x : XF} (h : Ge L x) : x ≠ nan := by
  rcases h with rfl | ⟨q, rfl, _⟩ <;> simp

theorem FinIn.ne_nan {x : XF} {lo hi : Rat} (h : FinIn x lo hi) : x ≠ nan := by
  obtain ⟨q, rfl, _⟩ := h; simp

@[simp] theorem le_fin_fin (a b : Rat) : XF.le (fin a) (fin b) = true ↔ a ≤ b := by simp [XF.le]
@[simp] theorem lt_fin_fin (a b : Rat) : XF.lt (fin a) (fin b) = true ↔ a < b := by simp [XF.lt]

variable {A : Arith}

theorem ne_nan_of_le {a b : XF} (h : XF.le a b = true) : a ≠ nan ∧ b ≠ nan := by
  constructor <;> rintro rfl
  · cases h
  · cases a <;> cases h

theorem lt_eq_false_of_le {a b : XF} (h : XF.le a b = true) : XF.lt b a = false := by
  cases a <;> cases b <;> first | rfl | cases h | exact decide_eq_false (not_lt.2 (of_decide_eq_true h))

theorem xle_of_lt {a b : XF} (h : XF.lt a b = true) : XF.le a b = true := by
  cases a <;> cases b <;> first | rfl | cases h | exact decide_eq_true (le_of_lt (of_decide_eq_true h))

theorem rnd_ge (hA : A.Lawful) {L q : Rat} (hL : A.rep L = true) (h : L ≤ q) : Ge L (A.rnd q) := by
  have m1 := hA.rnd_mono L q h
  rw [hA.rnd_exact L hL] at m1
  cases hq : A.rnd q with
  | fin r => rw [hq] at m1; exact Or.inr ⟨r, rfl, (le_fin_fin L r).1 m1⟩
  | pinf => exact Or.inl rfl
  | ninf => rw [hq] at m1; cases m1
  | nan => exact absurd hq (hA.rnd_not_nan q)

theorem rnd_in (hA : A.Lawful) {L H q : Rat} (hL : A.rep L = true) (hH : A.rep H = true)
    (h1 : L ≤ q) (h2 : q ≤ H) : FinIn (A.rnd q) L H := by
  have m2 := hA.rnd_mono q H h2
  rw [hA.rnd_exact H hH] at m2
  rcases rnd_ge hA hL h1 with h | ⟨r, h, hr⟩ <;> rw [h] at m2
  · cases m2
  · exact ⟨r, h, hr, (le_fin_fin r H).1 m2⟩

theorem rnd_le_of_le (hA : A.Lawful) {q q' r r' : Rat} (h : q ≤ q') (e : A.rnd q = fin r) (e' : A.rnd q' = fin r') :
    r ≤ r' := by
  have := hA.rnd_mono q q' h
  rw [e, e'] at this
  simpa using this

theorem add_fin (a b : Rat) : A.add (fin a) (fin b) = A.rnd (a + b) := rfl
theorem sub_fin (a b : Rat) : A.sub (fin a) (fin b) = A.rnd (a - b) := by
  simp only [Arith.sub, XF.neg, Arith.add, sub_eq_add_neg]
theorem mul_fin (a b : Rat) : A.mul (fin a) (fin b) = A.rnd (a * b) := rfl
theorem div_fin (a : Rat) {b : Rat} (h : b ≠ 0) : A.div (fin a) (fin b) = A.rnd (a / b) := by
  simp only [Arith.div, h, if_false]

theorem add_FinIn (hA : A.Lawful) {x y : XF} {a b c d L H : Rat} (hx : FinIn x a b) (hy : FinIn y c d)
    (hL : A.rep L = true) (hH : A.rep H = true) (h1 : L ≤ a + c) (h2 : b + d ≤ H) : FinIn (A.add x y) L H := by
  obtain ⟨p, rfl, p1, p2⟩ := hx
  obtain ⟨q, rfl, q1, q2⟩ := hy
  rw [add_fin]
  exact rnd_in hA hL hH (by linarith) (by linarith)

theorem sub_FinIn (hA : A.Lawful) {x y : XF} {a b c d L H : Rat} (hx : FinIn x a b) (hy : FinIn y c d)
    (hL : A.rep L = true) (hH : A.rep H = true) (h1 : L ≤ a - d) (h2 : b - c ≤ H) : FinIn (A.sub x y) L H := by
  obtain ⟨p, rfl, p1, p2⟩ := hx
  obtain ⟨q, rfl, q1, q2⟩ := hy
  rw [sub_fin]
  exact rnd_in hA hL hH (by linarith) (by linarith)

theorem mul_FinIn (hA : A.Lawful) {x y : XF} {a b c d H : Rat} (hx : FinIn x a b) (hy : FinIn y c d)
    (ha : 0 ≤ a) (hc : 0 ≤ c) (hH : A.rep H = true) (h2 : b * d ≤ H) : FinIn (A.mul x y) 0 H := by
  obtain ⟨p, rfl, p1, p2⟩ := hx
  obtain ⟨q, rfl, q1, q2⟩ := hy
  rw [mul_fin]
  refine rnd_in hA hA.rep_zero hH (mul_nonneg (ha.trans p1) (hc.trans q1)) ?_
  exact (mul_le_mul p2 q2 (hc.trans q1) ((ha.trans p1).trans p2)).trans h2

theorem div_FinIn (hA : A.Lawful) {x y : XF} {a b c d H : Rat} (hx : FinIn x a b) (hy : FinIn y c d)
    (ha : 0 ≤ a) (hc : 0 < c) (hH : A.rep H = true) (h2 : b / c ≤ H) : FinIn (A.div x y) 0 H := by
  obtain ⟨p, rfl, p1, p2⟩ := hx
  obtain ⟨q, rfl, q1, q2⟩ := hy
  have hq : 0 < q := hc.trans_le q1
  rw [div_fin _ (ne_of_gt hq)]
  refine rnd_in hA hA.rep_zero hH (div_nonneg (ha.trans p1) hq.le) ?_
  exact (div_le_div₀ ((ha.trans p1).trans p2) p2 hc q1).trans h2

theorem mul_Ge_fin (hA : A.Lawful) {x y : XF} {c d : Rat} (hx : Ge 0 x) (hy : FinIn y c d) (hc : 0 < c) :
    Ge 0 (A.mul x y) := by
  obtain ⟨q, rfl, q1, q2⟩ := hy
  have hq : 0 < q := hc.trans_le q1
  rcases hx with rfl | ⟨p, rfl, hp⟩
  · left; simp only [Arith.mul, ne_of_gt hq, hq, if_false, if_true]
  · rw [mul_fin]; exact rnd_ge hA hA.rep_zero (mul_nonneg hp hq.le)

theorem div_Ge_fin (hA : A.Lawful) {x y : XF} {c d : Rat} (hx : Ge 0 x) (hy : FinIn y c d) (hc : 0 < c) :
    Ge 0 (A.div x y) := by
  obtain ⟨q, rfl, q1, q2⟩ := hy
  have hq : 0 < q := hc.trans_le q1
  rcases hx with rfl | ⟨p, rfl, hp⟩
  · left; simp only [Arith.div, ne_of_gt hq, hq, if_false, if_true]
  · rw [div_fin _ (ne_of_gt hq)]; exact rnd_ge hA hA.rep_zero (div_nonneg hp hq.le)

theorem one_add_ge (hA : A.Lawful) {x : XF} (hx : Ge 0 x) : Ge 1 (A.add (fin 1) x) := by
  rcases hx with rfl | ⟨p, rfl, hp⟩
  · left; rfl
  · rw [add_fin]
    exact rnd_ge hA hA.rep_one (by linarith)

theorem xle_trans {a b c : XF} (h1 : XF.le a b = true) (h2 : XF.le b c = true) : XF.le a c = true := by
  cases a <;> cases b <;> cases c <;> simp_all [XF.le]
  exact le_trans h1 h2

theorem xlt_of_lt_of_le {a b c : XF} (h1 : XF.lt a b = true) (h2 : XF.le b c = true) : XF.lt a c = true := by
  cases a <;> cases b <;> cases c <;> simp_all [XF.le, XF.lt]
  exact lt_of_lt_of_le h1 h2

theorem between_fin {r : XF} {a b : Rat} (h1 : XF.le (fin a) r = true) (h2 : XF.le r (fin b) = true) :
    FinIn r a b := by
  cases r with
  | fin q => exact ⟨q, rfl, by simpa using h1, by simpa using h2⟩
  | pinf => simp [XF.le] at h2
  | ninf | nan => simp [XF.le] at h1

theorem powPy_eq_of_pow {a b : XF} {q : Rat} (h : A.pow a b = fin q) : A.powPy a b = fin q := by
  unfold Arith.powPy
  rw [h]
  cases a <;> cases b <;> rfl

theorem powPy_of_FinIn {a b : XF} {lo hi : Rat} (h : FinIn (A.pow a b) lo hi) : FinIn (A.powPy a b) lo hi := by
  obtain ⟨r, hr, h1, h2⟩ := h
  exact ⟨r, powPy_eq_of_pow hr, h1, h2⟩

/-- a power that is not one of the invalid operations: base `≥ 0`, exponent not `nan`, not `0 ** negative` -/
def PowValid (x y : XF) : Prop := XF.le (fin 0) x = true ∧ y ≠ nan ∧ (x = fin 0 → XF.lt y (fin 0) = false)

theorem PowValid.of_nonneg {x y : XF} (hx : XF.le (fin 0) x = true) (hy : XF.le (fin 0) y = true) : PowValid x y :=
  ⟨hx, (ne_nan_of_le hy).2, fun _ => lt_eq_false_of_le hy⟩

theorem PowValid.of_pos {x y : XF} (hx : XF.lt (fin 0) x = true) (hy : y ≠ nan) : PowValid x y :=
  ⟨xle_of_lt hx, hy, fun h => by rw [h] at hx; exact absurd ((lt_fin_fin 0 0).1 hx) (lt_irrefl 0)⟩

theorem pow_nonneg_of_valid (hA : A.Lawful) {x y : XF} (h : PowValid x y) : XF.le (fin 0) (A.pow x y) = true := by
  obtain ⟨hx, hy, h0⟩ := h
  refine (hA.pow_sign x y hx).resolve_left fun h => ?_
  rcases hA.pow_nan x y h with e | e | e | ⟨e, e'⟩
  · exact (ne_nan_of_le hx).2 e
  · exact hy e
  · rw [lt_eq_false_of_le hx] at e; cases e
  · rw [h0 e] at e'; cases e'

theorem pow_unit (hA : A.Lawful) {x y : XF} {c d : Rat} (hx : FinIn x 0 1) (hy : FinIn y c d) (hc : 0 ≤ c) :
    FinIn (A.powPy x y) 0 1 := by
  obtain ⟨p, rfl, p1, p2⟩ := hx
  obtain ⟨q, rfl, q1, q2⟩ := hy
  have h0 : XF.le (fin 0) (fin p) = true := by simpa using p1
  have hy0 : XF.le (fin 0) (fin q) = true := by simpa using hc.trans q1
  apply powPy_of_FinIn
  apply between_fin (pow_nonneg_of_valid hA (.of_nonneg h0 hy0))
  have := hA.pow_mono_base (fin p) (fin 1) (fin q) h0 (by simpa using p2) hy0
  rwa [hA.pow_one_base (fin q) (by simp)] at this

theorem pow_recip (hA : A.Lawful) {x : XF} {e : Rat} (hx : Ge 1 x) (he : 0 ≤ e) :
    FinIn (A.powPy x (fin (-e))) 0 1 := by
  have hx1 : XF.le (fin 1) x = true := by
    rcases hx with rfl | ⟨p, rfl, hp⟩
    · rfl
    · simpa using hp
  have hx0 := xlt_of_lt_of_le ((lt_fin_fin 0 1).2 zero_lt_one) hx1
  apply powPy_of_FinIn
  apply between_fin (pow_nonneg_of_valid hA (.of_pos hx0 (by simp)))
  have := hA.pow_anti_base (fin 1) x (fin (-e)) (by simp) hx1 (by simp; linarith)
  rwa [hA.pow_one_base (fin (-e)) (by simp)] at this

theorem pow_cap (hA : A.Lawful) {x y : XF} {C : Rat} (hx : FinIn x 0 C) (hy : FinIn y 0 1)
    (hC : A.rep C = true) (h1 : 1 ≤ C) : FinIn (A.powPy x y) 0 C := by
  obtain ⟨p, rfl, p1, p2⟩ := hx
  obtain ⟨q, rfl, q1, q2⟩ := hy
  have h0 : XF.le (fin 0) (fin p) = true := by simpa using p1
  have hy0 : XF.le (fin 0) (fin q) = true := by simpa using q1
  apply powPy_of_FinIn
  apply between_fin (pow_nonneg_of_valid hA (.of_nonneg h0 hy0))
  have m1 := hA.pow_mono_base (fin p) (fin C) (fin q) h0 (by simpa using p2) hy0
  have m2 := hA.pow_mono_exp (fin C) (fin q) (fin 1) (by simpa using h1) (by simpa using q2)
  rw [hA.pow_one_exp C hC (by linarith)] at m2
  exact xle_trans m1 m2

variable (A)
theorem xf_add (a b : XFA A) : @HAdd.hAdd (XFA A) (XFA A) (XFA A) (@instHAdd (XFA A) RealLike.toAdd) a b = ⟨A.add a.val b.val⟩ := rfl
theorem xf_sub (a b : XFA A) : @HSub.hSub (XFA A) (XFA A) (XFA A) (@instHSub (XFA A) RealLike.toSub) a b = ⟨A.sub a.val b.val⟩ := rfl
theorem xf_mul (a b : XFA A) : @HMul.hMul (XFA A) (XFA A) (XFA A) (@instHMul (XFA A) RealLike.toMul) a b = ⟨A.mul a.val b.val⟩ := rfl
theorem xf_div (a b : XFA A) : @HDiv.hDiv (XFA A) (XFA A) (XFA A) (@instHDiv (XFA A) RealLike.toDiv) a b = ⟨A.div a.val b.val⟩ := rfl
theorem xf_neg (a : XFA A) : @Neg.neg (XFA A) RealLike.toNeg a = ⟨XF.neg a.val⟩ := rfl
theorem xf_lt (a b : XFA A) : @LT.lt (XFA A) RealLike.toLT a b ↔ XF.lt a.val b.val = true := Iff.rfl
theorem xf_le (a b : XFA A) : @LE.le (XFA A) RealLike.toLE a b ↔ XF.le a.val b.val = true := Iff.rfl
theorem xf_pow (a b : XFA A) : (RealLike.pow a b : XFA A) = ⟨A.powPy a.val b.val⟩ := rfl
theorem xf_abs (a : XFA A) : (RealLike.abs a : XFA A) = ⟨XF.abs a.val⟩ := rfl
theorem xf_one : (one : XFA A) = ⟨fin 1⟩ := congrArg (fun q => (⟨fin q⟩ : XFA A)) Nat.cast_one
theorem xf_two : (two : XFA A) = ⟨fin 2⟩ := congrArg (fun q => (⟨fin q⟩ : XFA A)) Nat.cast_ofNat
theorem xf_zero : (zero : XFA A) = ⟨fin 0⟩ := congrArg (fun q => (⟨fin q⟩ : XFA A)) Nat.cast_zero
variable {A}
theorem xf_half (hA : A.Lawful) : (half : XFA A) = ⟨fin (1 / 2)⟩ :=
  congrArg XFA.mk ((congrArg A.rnd (by norm_num)).trans (hA.rnd_exact _ hA.rep_half))
theorem xf_eps (hA : A.Lawful) : (eps : XFA A) = ⟨fin A.eps⟩ :=
  congrArg XFA.mk ((congrArg A.rnd (by norm_num)).trans hA.eps_lit)

theorem xf_pmin (a b : XFA A) : RealLike.pmin a b = ⟨XF.pmin a.val b.val⟩ := by
  simp only [RealLike.pmin, XF.pmin, xf_lt]
  split <;> rfl
theorem xf_pmax (a b : XFA A) : RealLike.pmax a b = ⟨XF.pmax a.val b.val⟩ := by
  simp only [RealLike.pmax, XF.pmax, xf_lt]
  split <;> rfl
theorem xf_clamp (c xl xu : XFA A) : RealOps.clamp c xl xu = ⟨XF.clamp c.val xl.val xu.val⟩ := by
  simp only [RealOps.clamp, XF.clamp, xf_pmin, xf_pmax]

theorem pmin_fin (p q : Rat) : XF.pmin (fin p) (fin q) = fin (min p q) := by
  simp only [XF.pmin, lt_fin_fin]
  split
  · next h => rw [min_eq_right h.le]
  · next h => rw [min_eq_left (not_lt.1 h)]

theorem pmax_fin (p q : Rat) : XF.pmax (fin p) (fin q) = fin (max p q) := by
  simp only [XF.pmax, lt_fin_fin]
  split
  · next h => rw [max_eq_right h.le]
  · next h => rw [max_eq_left (not_lt.1 h)]

theorem clamp_in {c : XF} {xl xu : Rat} (h : xl ≤ xu) (hc : c ≠ nan) : FinIn (XF.clamp c (fin xl) (fin xu)) xl xu := by
  cases c with
  | nan => exact absurd rfl hc
  | pinf => exact ⟨xu, by simp [XF.clamp, XF.pmin, XF.pmax, XF.lt], h, le_refl _⟩
  | ninf => exact ⟨xl, by simp [XF.clamp, XF.pmin, XF.pmax, XF.lt, not_lt.2 h], le_refl _, h⟩
  | fin q =>
    rw [XF.clamp, pmax_fin, pmin_fin]
    exact ⟨_, rfl, le_min (le_max_right _ _) h, min_le_right _ _⟩

theorem clamp_nan' (xl xu : XF) : XF.clamp nan xl xu = nan := by
  cases xl <;> cases xu <;> simp [XF.clamp, XF.pmin, XF.pmax, XF.lt]

/- `xsimp [defs]`: unfold model definitions at `XFA A` down to the operations of `A` -/
open Lean.Parser.Tactic in
syntax "xsimp" " [" simpLemma,* "]" : tactic
macro_rules
  | `(tactic| xsimp [$ts,*]) => `(tactic| simp only [$ts,*, xf_add, xf_sub, xf_mul, xf_div, xf_neg, xf_pow,
      xf_abs, xf_le, xf_lt, xf_one, xf_two, xf_zero, xf_pmin, xf_pmax, xf_clamp])

theorem fin_FinIn (q : Rat) : FinIn (fin q) q q := ⟨q, rfl, le_refl _, le_refl _⟩

theorem gap_pos (hA : A.Lawful) : 0 < 2 - 2 * A.top :=
  sub_pos.2 ((mul_lt_mul_of_pos_left hA.top_lt two_pos).trans_eq (mul_one 2))

theorem eta_one (hA : A.Lawful) {e : Rat} (he0 : 0 ≤ e) (he1 : e + 1 ≤ A.omega) :
    FinIn (A.add (fin e) (fin 1)) 1 A.omega :=
  add_FinIn hA (fin_FinIn e) (fin_FinIn 1) hA.rep_one hA.rep_omega (by linarith) he1

theorem mut_pow (hA : A.Lawful) {x : XF} (hx : FinIn x 1 A.omega) : FinIn (A.div (fin 1) x) 0 1 :=
  div_FinIn hA (fin_FinIn 1) hx (by norm_num) (by norm_num) hA.rep_one (by norm_num)

/-- the spread factor `beta_q` of either child (:332-337 / :341-346), `d = x1 - xl` resp. `xu - x2`, `w = x2 - x1` -/
theorem sbxbBetaQ_ok (hA : A.Lawful) {d w : XF} {e r : Rat} (he0 : 0 ≤ e) (he1 : e + 1 ≤ A.omega)
    (hr0 : 0 ≤ r) (hr1 : r ≤ A.top) (hd : FinIn d 0 A.omega) (hw : FinIn w A.eps A.omega) :
    FinIn (sbxbBetaQ (⟨fin e⟩ : XFA A) ⟨fin r⟩ (sbxbAlpha ⟨fin e⟩ (sbxbBeta ⟨d⟩ ⟨w⟩))).val 0 A.omega := by
  have h2 : (0 : Rat) ≤ 2 := by norm_num
  have hΩ1 : (1 : Rat) ≤ A.omega := le_trans (by norm_num) hA.omega_ge
  have ht : Ge 0 (A.mul (fin 2) d) := by
    obtain ⟨p, rfl, p1, _⟩ := hd
    rw [mul_fin]; exact rnd_ge hA hA.rep_zero (mul_nonneg h2 p1)
  have hq : Ge 0 (A.div (A.mul (fin 2) d) w) := div_Ge_fin hA ht hw hA.eps_pos
  have hbeta := one_add_ge hA hq
  obtain ⟨e', hee, e1, e2⟩ := eta_one hA he0 he1
  have hpw := pow_recip hA hbeta (le_trans (by norm_num) e1 : (0 : Rat) ≤ e')
  have halpha : FinIn (A.sub (fin 2) (A.powPy (A.add (fin 1) (A.div (A.mul (fin 2) d) w)) (fin (-e')))) 1 2 :=
    sub_FinIn hA (fin_FinIn 2) hpw hA.rep_one hA.rep_two (by norm_num) (by norm_num)
  have hme : FinIn (A.div (fin 1) (fin e')) 0 1 := mut_pow hA ⟨e', rfl, e1, e2⟩
  have hrand : FinIn (fin r) 0 A.top := ⟨r, rfl, hr0, hr1⟩
  xsimp [sbxbBetaQ, sbxbAlpha, sbxbBeta]
  rw [apply_ite XFA.val]
  split <;> (rw [hee]; simp only [XF.neg])
  · have hra := mul_FinIn hA hrand halpha (le_refl _) (by norm_num) hA.rep_two
      (by have := hA.top_lt; linarith)
    exact (pow_cap hA hra hme hA.rep_two (by norm_num)).mono (le_refl _) hA.omega_ge
  · have hra := mul_FinIn hA hrand halpha (le_refl _) (by norm_num) hA.rep_two_top (by linarith)
    have hg := gap_pos hA
    have hdn := sub_FinIn hA (fin_FinIn 2) hra hA.rep_gap hA.rep_two (le_refl _) (by norm_num)
    have hiv := div_FinIn hA (fin_FinIn 1) hdn (by norm_num) hg hA.rep_omega hA.gap_inv
    exact pow_cap hA hiv hme hA.rep_omega hΩ1

theorem sub_ne_nan_of (hA : A.Lawful) {s p : XF} {lo hi : Rat} (hs : FinIn s lo hi) (hp : Ge 0 p) : A.sub s p ≠ nan := by
  obtain ⟨q, rfl, _, _⟩ := hs
  rcases hp with rfl | ⟨t, rfl, _⟩
  · simp [Arith.sub, XF.neg, Arith.add]
  · rw [sub_fin]; exact hA.rnd_not_nan _

theorem add_ne_nan_of (hA : A.Lawful) {s p : XF} {lo hi : Rat} (hs : FinIn s lo hi) (hp : p ≠ nan) : A.add s p ≠ nan := by
  obtain ⟨q, rfl, _, _⟩ := hs
  cases p with
  | fin t => rw [add_fin]; exact hA.rnd_not_nan _
  | pinf | ninf => simp [Arith.add]
  | nan => exact absurd rfl hp

theorem half_mul_ne_nan (hA : A.Lawful) {x : XF} (hx : x ≠ nan) : A.mul (fin (1 / 2)) x ≠ nan := by
  cases x with
  | fin t => rw [mul_fin]; exact hA.rnd_not_nan _
  | pinf | ninf => simp [Arith.mul]
  | nan => exact absurd rfl hx

theorem mul_fin_ne_nan (hA : A.Lawful) {x y : XF} {a b c d : Rat} (hx : FinIn x a b) (hy : FinIn y c d) :
    A.mul x y ≠ nan := by
  obtain ⟨p, rfl, _, _⟩ := hx
  obtain ⟨q, rfl, _, _⟩ := hy
  rw [mul_fin]; exact hA.rnd_not_nan _

/-- the two children of one locus (:332-350) for ordered parents `a ≤ b`: neither value before the clamp is `nan` -/
theorem sbxbChildren_ok (hA : A.Lawful) {e r a b xl xu : Rat} (he0 : 0 ≤ e) (he1 : e + 1 ≤ A.omega)
    (hr0 : 0 ≤ r) (hr1 : r ≤ A.top) (h1 : xl ≤ a) (hab : a ≤ b) (h2 : b ≤ xu) (hwd : xu - xl ≤ A.omega)
    (hs1 : -A.omega ≤ a + b) (hs2 : a + b ≤ A.omega) (hw : FinIn (A.sub (fin b) (fin a)) A.eps A.omega) :
    FinIn (sbxbChildren (⟨fin e⟩ : XFA A) ⟨fin a⟩ ⟨fin b⟩ ⟨fin xl⟩ ⟨fin xu⟩ ⟨fin r⟩).1.val xl xu ∧
    FinIn (sbxbChildren (⟨fin e⟩ : XFA A) ⟨fin a⟩ ⟨fin b⟩ ⟨fin xl⟩ ⟨fin xu⟩ ⟨fin r⟩).2.val xl xu := by
  have hlu : xl ≤ xu := h1.trans (hab.trans h2)
  have hs : FinIn (A.add (fin a) (fin b)) (-A.omega) A.omega :=
    add_FinIn hA (fin_FinIn a) (fin_FinIn b) hA.rep_neg_omega hA.rep_omega hs1 hs2
  have hd1 : FinIn (A.sub (fin a) (fin xl)) 0 A.omega :=
    sub_FinIn hA (fin_FinIn a) (fin_FinIn xl) hA.rep_zero hA.rep_omega (by linarith) (by linarith)
  have hd2 : FinIn (A.sub (fin xu) (fin b)) 0 A.omega :=
    sub_FinIn hA (fin_FinIn xu) (fin_FinIn b) hA.rep_zero hA.rep_omega (by linarith) (by linarith)
  have hb1 := sbxbBetaQ_ok hA he0 he1 hr0 hr1 hd1 hw
  have hb2 := sbxbBetaQ_ok hA he0 he1 hr0 hr1 hd2 hw
  have hp1 := mul_Ge_fin hA (hb1.ge (le_refl _)) hw hA.eps_pos
  have hp2 := mul_Ge_fin hA (hb2.ge (le_refl _)) hw hA.eps_pos
  constructor
  · xsimp [sbxbChildren, sbxbRaw1, xf_half hA]
    exact clamp_in hlu (half_mul_ne_nan hA (sub_ne_nan_of hA hs hp1))
  · xsimp [sbxbChildren, sbxbRaw2, xf_half hA]
    exact clamp_in hlu (half_mul_ne_nan hA (add_ne_nan_of hA hs hp2.ne_nan))

theorem guard_exact (hA : A.Lawful) {p q : Rat}
    (hg : XF.lt (fin A.eps) (XF.abs (A.sub (fin p) (fin q))) = true) : A.eps < |p - q| := by
  by_contra hcon
  obtain ⟨h1, h2⟩ := abs_le.1 (not_lt.1 hcon)
  obtain ⟨t, ht, t1, t2⟩ := rnd_in hA hA.rep_neg_eps hA.rep_eps h1 h2
  rw [sub_fin, ht] at hg
  simp only [XF.abs, lt_fin_fin] at hg
  split at hg <;> linarith

/-- draws as bounded SBX needs them: finite, in `[0, top]` -/
def DrawsTop (A : Arith) (rs : List (XFA A)) : Prop := ∀ r ∈ rs, ∃ t : Rat, r = ⟨fin t⟩ ∧ 0 ≤ t ∧ t ≤ A.top
/-- draws of `random.random()`: finite, in `[0, 1)` -/
def DrawsUnit (A : Arith) (rs : List (XFA A)) : Prop := ∀ r ∈ rs, ∃ t : Rat, r = ⟨fin t⟩ ∧ 0 ≤ t ∧ t < 1

theorem DrawsTop.nil : DrawsTop A [] := nofun
theorem DrawsTop.cons {t : Rat} {rs : List (XFA A)} (h0 : 0 ≤ t) (h1 : t ≤ A.top) (h : DrawsTop A rs) :
    DrawsTop A (⟨fin t⟩ :: rs) :=
  List.forall_mem_cons.2 ⟨⟨t, rfl, h0, h1⟩, h⟩
theorem DrawsUnit.nil : DrawsUnit A [] := nofun
theorem DrawsUnit.cons {t : Rat} {rs : List (XFA A)} (h0 : 0 ≤ t) (h1 : t < 1) (h : DrawsUnit A rs) :
    DrawsUnit A (⟨fin t⟩ :: rs) :=
  List.forall_mem_cons.2 ⟨⟨t, rfl, h0, h1⟩, h⟩

theorem sbxbMag_iff {M : Mag} {e a b xl xu : Rat} : sbxbMag M e a b xl xu = true ↔
    (0 ≤ e ∧ e + 1 ≤ M.omega) ∧ (xl ≤ a ∧ a ≤ xu) ∧ (xl ≤ b ∧ b ≤ xu) ∧ xu - xl ≤ M.omega ∧
    -M.omega ≤ a + b ∧ a + b ≤ M.omega := by
  simp only [sbxbMag, Bool.and_eq_true, decide_eq_true_eq, and_assoc]

theorem sbxbGene_rounded (hA : A.Lawful) {e p q xl xu : Rat} {rs rest : List (XFA A)} {y1 y2 : XFA A}
    (hm : sbxbMag A.toMag e p q xl xu = true) (hr : DrawsTop A rs)
    (hrun : sbxbGene (⟨fin e⟩ : XFA A) ⟨fin p⟩ ⟨fin q⟩ ⟨fin xl⟩ ⟨fin xu⟩ rs = some (y1, y2, rest)) :
    FinIn y1.val xl xu ∧ FinIn y2.val xl xu := by
  obtain ⟨⟨he0, he1⟩, ⟨p1, p2⟩, ⟨q1, q2⟩, hwd, hs1, hs2⟩ := sbxbMag_iff.1 hm
  rcases (sbxbGene_spec hrun).2 with ⟨rfl, rfl⟩ | ⟨hguard, rand, hmem, hc⟩
  · exact ⟨⟨p, rfl, p1, p2⟩, ⟨q, rfl, q1, q2⟩⟩
  · obtain ⟨t, rfl, t0, t1⟩ := hr rand hmem
    rw [xf_eps hA] at hguard
    simp only [xf_sub, xf_abs, xf_lt] at hguard
    have hmm : RealLike.pmin (⟨fin p⟩ : XFA A) ⟨fin q⟩ = ⟨fin (min p q)⟩ := by rw [xf_pmin, pmin_fin]
    have hMM : RealLike.pmax (⟨fin p⟩ : XFA A) ⟨fin q⟩ = ⟨fin (max p q)⟩ := by rw [xf_pmax, pmax_fin]
    rw [hmm, hMM] at hc
    have hsum : min p q + max p q = p + q := min_add_max p q
    have hdiff : A.eps ≤ max p q - min p q := by rw [max_sub_min_eq_abs']; exact (guard_exact hA hguard).le
    have hw : FinIn (A.sub (fin (max p q)) (fin (min p q))) A.eps A.omega := by
      rw [sub_fin]
      refine rnd_in hA hA.rep_eps hA.rep_omega hdiff ?_
      have := le_min p1 q1; have := max_le p2 q2; linarith
    have hch := sbxbChildren_ok hA (r := t) (a := min p q) (b := max p q) (xl := xl) (xu := xu) he0 he1 t0 t1
      (le_min p1 q1) (min_le_max) (max_le p2 q2) hwd (by linarith) (by linarith) hw
    rcases hc with ⟨rfl, rfl⟩ | ⟨rfl, rfl⟩
    · exact hch
    · exact ⟨hch.2, hch.1⟩

theorem polyMag_iff {M : Mag} {e x xl xu : Rat} : polyMag M e x xl xu = true ↔
    (0 ≤ e ∧ e + 1 ≤ M.omega) ∧ (xl ≤ x ∧ x ≤ xu) ∧ M.eps ≤ xu - xl ∧ xu - xl ≤ M.omega := by
  simp only [polyMag, Bool.and_eq_true, decide_eq_true_eq, and_assoc]

/-- `delta_1`, `delta_2` (:78-79): the rounded numerator does not exceed the rounded width, which is at least `eps` -/
theorem delta_unit (hA : A.Lawful) {n w : Rat} (h0 : 0 ≤ n) (h1 : n ≤ w) (hw0 : A.eps ≤ w) (hw1 : w ≤ A.omega) :
    FinIn (A.div (A.rnd n) (A.rnd w)) 0 1 := by
  obtain ⟨wd, hwd, w1, _⟩ := rnd_in hA hA.rep_eps hA.rep_omega hw0 hw1
  obtain ⟨nd, hnd, n0, _⟩ := rnd_in hA hA.rep_zero hA.rep_omega h0 (h1.trans hw1)
  have hpos := hA.eps_pos.trans_le w1
  rw [hwd, hnd]
  exact div_FinIn hA ⟨nd, rfl, n0, rnd_le_of_le hA h1 hnd hwd⟩ (fin_FinIn wd) le_rfl hpos hA.rep_one
    (by rw [div_self hpos.ne'])

/-- `val ** mut_pow` in either branch (:84-90): `val = a + b * xy ** (eta + 1)` with `a`, `b`, `delta` in `[0, 1]` -/
theorem poly_val (hA : A.Lawful) {a b d ee : XF} (ha : FinIn a 0 1) (hb : FinIn b 0 1) (hd : FinIn d 0 1)
    (hee : FinIn ee 1 A.omega) :
    FinIn (A.powPy (A.add a (A.mul b (A.powPy (A.sub (fin 1) d) ee))) (A.div (fin 1) ee)) 0 2 := by
  have hxy := sub_FinIn hA (fin_FinIn 1) hd hA.rep_zero hA.rep_one (by norm_num) (by norm_num)
  have hpr := mul_FinIn hA hb (pow_unit hA hxy hee (by norm_num)) le_rfl le_rfl hA.rep_one (by norm_num)
  exact pow_cap hA (add_FinIn hA ha hpr hA.rep_zero hA.rep_two (by norm_num) (by norm_num)) (mut_pow hA hee)
    hA.rep_two (by norm_num)

theorem polyGene_rounded (hA : A.Lawful) {e x xl xu t : Rat} (hm : polyMag A.toMag e x xl xu = true)
    (t0 : 0 ≤ t) (t1 : t < 1) :
    FinIn (polyGene (⟨fin e⟩ : XFA A) ⟨fin x⟩ ⟨fin xl⟩ ⟨fin xu⟩ ⟨fin t⟩).val xl xu := by
  obtain ⟨⟨he0, he1⟩, ⟨x1, x2⟩, hn, hwd⟩ := polyMag_iff.1 hm
  have hΩ := hA.omega_ge
  have hlu : xl ≤ xu := by linarith [hA.eps_pos]
  have hw : FinIn (A.sub (fin xu) (fin xl)) A.eps A.omega := by
    rw [sub_fin]; exact rnd_in hA hA.rep_eps hA.rep_omega hn hwd
  have hd1 := delta_unit hA (sub_nonneg.2 x1) (by linarith : x - xl ≤ xu - xl) hn hwd
  have hd2 := delta_unit hA (sub_nonneg.2 x2) (by linarith : xu - x ≤ xu - xl) hn hwd
  have hee := eta_one hA he0 he1
  have one11 := fin_FinIn (1 : Rat)
  have two22 := fin_FinIn (2 : Rat)
  have hdq : FinIn (polyDeltaQ (⟨fin e⟩ : XFA A) ⟨fin x⟩ ⟨fin xl⟩ ⟨fin xu⟩ ⟨fin t⟩).val (-A.omega) A.omega := by
    xsimp [polyDeltaQ, polyValLow, polyValHigh, polyDelta1, polyDelta2, xf_half hA]
    split
    -- the draw enters with the interval of its branch, so that the side conditions are about numerals
    · next hlt =>
      have ht : FinIn (fin t) 0 (1 / 2) := ⟨t, rfl, t0, le_of_lt (by simpa using hlt)⟩
      rw [sub_fin x xl, sub_fin xu xl]
      have htr := mul_FinIn hA two22 ht (by norm_num) le_rfl hA.rep_one (by norm_num)
      have hom := sub_FinIn hA one11 htr hA.rep_zero hA.rep_one (by norm_num) (by norm_num)
      exact sub_FinIn hA (poly_val hA htr hom hd1 hee) one11 hA.rep_neg_omega hA.rep_omega (by linarith only [hΩ])
        (by linarith only [hΩ])
    · next hlt =>
      have ht : FinIn (fin t) (1 / 2) 1 := ⟨t, rfl, by simpa using hlt, t1.le⟩
      rw [sub_fin xu x, sub_fin xu xl]
      have homr := sub_FinIn hA one11 ht hA.rep_zero hA.rep_half (by norm_num) (by norm_num)
      have ha1 := mul_FinIn hA two22 homr (by norm_num) le_rfl hA.rep_one (by norm_num)
      have hrh := sub_FinIn hA ht (fin_FinIn (1 / 2 : Rat)) hA.rep_zero hA.rep_half (by norm_num) (by norm_num)
      have ha2 := mul_FinIn hA two22 hrh (by norm_num) le_rfl hA.rep_one (by norm_num)
      exact sub_FinIn hA one11 (poly_val hA ha1 ha2 hd2 hee) hA.rep_neg_omega hA.rep_omega (by linarith only [hΩ])
        (by linarith only [hΩ])
  xsimp [polyGene, polyRaw]
  exact clamp_in hlu (add_ne_nan_of hA (fin_FinIn x) (mul_fin_ne_nan hA hdq hw))

theorem powPy_one_base (hA : A.Lawful) {y : XF} (hy : y ≠ nan) : A.powPy (fin 1) y = fin 1 :=
  powPy_eq_of_pow (hA.pow_one_base y hy)

theorem rnd_zero (hA : A.Lawful) : A.rnd 0 = fin 0 := hA.rnd_exact 0 hA.rep_zero
theorem rnd_one (hA : A.Lawful) : A.rnd 1 = fin 1 := hA.rnd_exact 1 hA.rep_one

/-- fixed-point toy format: multiples of `2^-60` up to `2^60`, rounding downwards, overflow to the infinities -/
def toyRnd (q : Rat) : XF :=
  if (2 : Rat) ^ 60 < q then pinf else if q < -(2 : Rat) ^ 60 then ninf
  else fin (((⌊q * 2 ^ 60⌋ : Int) : Rat) / 2 ^ 60)

def toyRep (q : Rat) : Bool :=
  decide (-(2 : Rat) ^ 60 ≤ q) && decide (q ≤ (2 : Rat) ^ 60) && decide (((⌊q * 2 ^ 60⌋ : Int) : Rat) = q * 2 ^ 60)

/-- a crude power with the order properties of the real one: `x ** y = x` for `y ≥ 1`, `1` otherwise -/
def toyPow (x y : XF) : XF :=
  if x = nan ∨ y = nan ∨ XF.lt x (fin 0) = true ∨ (x = fin 0 ∧ XF.lt y (fin 0) = true) then nan
  else if XF.le (fin 1) y = true then x else fin 1

/-- a crude exponential with the lower bounds of the real one: `1` for `0 ≤ x ≤ 41`, overflow beyond, and
`2^-k` with `k = ⌈-x / 0.693⌉` for `x < 0` as long as `2^-k` is a number of the format, `0` below -/
def toyExp : XF → XF
  | fin x =>
    if 41 < x then pinf else if 0 ≤ x then fin 1
    else if (⌈-x / ln2lo⌉).toNat ≤ 60 then fin (1 / 2 ^ (⌈-x / ln2lo⌉).toNat) else fin 0
  | pinf => pinf
  | ninf => fin 0
  | nan => nan

/-- a crude square root (one Heron step from 1, rounded): no theorem uses a law of `sqrt` -/
def toySqrt : XF → XF
  | fin q => if q < 0 then nan else toyRnd ((q + 1) / 2)
  | pinf => pinf
  | _ => nan

def toy : Arith where
  omega := 2 ^ 60
  eps := 11529 / 2 ^ 60
  top := 1 - 1 / 2 ^ 53
  tiny := 1 / 2 ^ 60
  kmax := 60
  expmax := 41
  rep := toyRep
  rnd := toyRnd
  pow := toyPow
  exp := toyExp
  sqrt := toySqrt

theorem toyRnd_mono (q q' : Rat) (h : q ≤ q') : XF.le (toyRnd q) (toyRnd q') = true := by
  unfold toyRnd
  by_cases h1 : (2 : Rat) ^ 60 < q
  · have : (2 : Rat) ^ 60 < q' := lt_of_lt_of_le h1 h
    simp [h1, this, XF.le]
  · by_cases h2 : q < -(2 : Rat) ^ 60
    · simp only [h1, h2, if_false, if_true]
      split
      · rfl
      · split <;> rfl
    · simp only [h1, h2, if_false]
      by_cases h3 : (2 : Rat) ^ 60 < q'
      · simp [h3, XF.le]
      · have h4 : ¬ q' < -(2 : Rat) ^ 60 := by
          intro h4; exact h2 (lt_of_le_of_lt h h4)
        simp only [h3, h4, if_false, le_fin_fin]
        apply div_le_div_of_nonneg_right _ (by positivity)
        exact_mod_cast Int.floor_le_floor (mul_le_mul_of_nonneg_right h (by positivity))

theorem toyRnd_exact (q : Rat) (h : toyRep q = true) : toyRnd q = fin q := by
  simp only [toyRep, Bool.and_eq_true, decide_eq_true_eq] at h
  obtain ⟨⟨h1, h2⟩, h3⟩ := h
  unfold toyRnd
  rw [if_neg (not_lt.2 h2), if_neg (not_lt.2 h1), h3]
  congr 1
  field_simp

theorem toyPow_valid {x y : XF} (h : PowValid x y) : toyPow x y = if XF.le (fin 1) y = true then x else fin 1 := by
  obtain ⟨hx, hy, h0⟩ := h
  refine if_neg ?_
  rintro (h | h | h | ⟨h, h'⟩)
  · exact (ne_nan_of_le hx).2 h
  · exact hy h
  · rw [lt_eq_false_of_le hx] at h; cases h
  · rw [h0 h] at h'; cases h'

theorem xle_one_one : XF.le (fin 1) (fin 1) = true := (le_fin_fin 1 1).2 le_rfl

theorem toy_lawful : toy.Lawful where
  rnd_not_nan q := by
    show toyRnd q ≠ nan
    unfold toyRnd; split
    · nofun
    · split <;> nofun
  rnd_mono := toyRnd_mono
  rnd_exact := toyRnd_exact
  -- the constants of the format: closed facts about rationals, evaluated
  rep_zero := by decide +kernel
  rep_one := by decide +kernel
  rep_two := by decide +kernel
  rep_half := by decide +kernel
  rep_omega := by decide +kernel
  rep_neg_omega := by decide +kernel
  omega_ge := by decide +kernel
  eps_lit := by decide +kernel
  rep_eps := by decide +kernel
  rep_neg_eps := by decide +kernel
  eps_pos := by decide +kernel
  top_lt := by decide +kernel
  rep_two_top := by decide +kernel
  rep_gap := by decide +kernel
  gap_inv := by decide +kernel
  pow_nan x y h := by
    by_contra hc
    have hx : x ≠ nan := fun e => hc (Or.inl e)
    change toyPow x y = nan at h
    unfold toyPow at h
    rw [if_neg hc] at h
    split at h
    · exact hx h
    · cases h
  pow_sign x y hx := by
    change toyPow x y = nan ∨ XF.le (fin 0) (toyPow x y) = true
    unfold toyPow
    split
    · exact Or.inl rfl
    · right; split
      · exact hx
      · exact (le_fin_fin 0 1).2 zero_le_one
  pow_one_base y hy := by
    change toyPow (fin 1) y = fin 1
    rw [toyPow_valid (.of_pos ((lt_fin_fin 0 1).2 zero_lt_one) hy)]
    split <;> rfl
  pow_one_exp q _ h0 := by
    change toyPow (fin q) (fin 1) = fin q
    rw [toyPow_valid (.of_nonneg ((le_fin_fin 0 q).2 h0) ((le_fin_fin 0 1).2 zero_le_one)), if_pos xle_one_one]
  pow_mono_base a b y ha hab hy := by
    change XF.le (toyPow a y) (toyPow b y) = true
    rw [toyPow_valid (.of_nonneg ha hy), toyPow_valid (.of_nonneg (xle_trans ha hab) hy)]
    split
    · exact hab
    · exact xle_one_one
  pow_anti_base a b y ha hab hy := by
    change XF.le (toyPow b y) (toyPow a y) = true
    have hb := xlt_of_lt_of_le ha hab
    have hy1 : ¬ XF.le (fin 1) y = true := fun h =>
      absurd ((le_fin_fin 1 0).1 (xle_trans h hy)) (not_le.2 zero_lt_one)
    rw [toyPow_valid (.of_pos ha (ne_nan_of_le hy).1), toyPow_valid (.of_pos hb (ne_nan_of_le hy).1), if_neg hy1, if_neg hy1]
    exact xle_one_one
  pow_mono_exp a y y' ha hyy := by
    change XF.le (toyPow a y) (toyPow a y') = true
    have ha0 := xlt_of_lt_of_le ((lt_fin_fin 0 1).2 zero_lt_one) ha
    rw [toyPow_valid (.of_pos ha0 (ne_nan_of_le hyy).1), toyPow_valid (.of_pos ha0 (ne_nan_of_le hyy).2)]
    by_cases h1 : XF.le (fin 1) y = true
    · rw [if_pos h1, if_pos (xle_trans h1 hyy)]
      cases a <;> first | rfl | cases ha | exact (le_fin_fin _ _).2 le_rfl
    · rw [if_neg h1]
      split
      · exact ha
      · exact xle_one_one

/-! fixtures of the `example`s of `Props/C10.lean`: closed facts about the toy arithmetic, evaluated -/

theorem toy_sbxbMag : sbxbMag toy.toMag 20 0 1 0 1 = true := by decide +kernel
theorem toy_polyMag : polyMag toy.toMag 20 0 0 1 = true := by decide +kernel
theorem toy_width_overflow : toy.rnd (2 ^ 60 - (-2 ^ 60)) = .pinf := by decide +kernel
theorem toy_quarter_le_top : (1 / 4 : Rat) ≤ toy.top := by decide +kernel
theorem toy_top_le_top : (1 - 1 / 2 ^ 53 : Rat) ≤ toy.top := by decide +kernel

theorem toy_drawsTop : DrawsTop toy [⟨.fin (1 / 4)⟩, ⟨.fin (1 - 1 / 2 ^ 53)⟩, ⟨.fin 0⟩] :=
  .cons (by norm_num) toy_quarter_le_top (.cons (by norm_num) toy_top_le_top (.cons le_rfl (by decide +kernel) .nil))

theorem toy_drawsUnit : DrawsUnit toy [⟨.fin (1 / 4)⟩, ⟨.fin 0⟩] :=
  .cons (by norm_num) (by norm_num) (.cons (by norm_num) (by norm_num) .nil)

end RoundedOps
