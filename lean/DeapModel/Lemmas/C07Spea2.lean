/-
C07 — `selSPEA2`: the non-dominated set, the fill branch, the deletion loop, and the clauses of the
property for the whole function, stated for computed distances that may have overflowed
(`selSPEA2V`; `selSPEA2 … D` is `selSPEA2V … (fun i j => .fin (D i j))` by definition).
-/
import DeapModel.Lemmas.C07Trunc
import DeapModel.Lemmas.ListFacts
import DeapModel.Lemmas.ListCore
import Mathlib.Data.List.Nodup

set_option linter.unusedSectionVars false

namespace C07L
open Spea2

section Strength
variable (dom : Nat → Nat → Bool) (N : Nat)

/-- with an asymmetric dominance the double loop registers exactly the dominance relation -/
theorem reg_eq (hasym : ∀ i j, dom i j = true → dom j i = false) (i j : Nat) :
    reg dom i j = dom i j := by
  unfold reg
  rcases Nat.lt_trichotomy i j with h | rfl | h
  · simp [h]
  · cases h : dom i i
    · simp
    · rw [hasym i i h] at h; cases h
  · cases h' : dom i j
    · simp [Nat.lt_asymm h, h]
    · simp [Nat.lt_asymm h, h, hasym i j h']

theorem rawFit_eq_zero_iff (i : Nat) (hi : i < N) :
    rawFit dom N i = 0 ↔ ∀ j, j < N → reg dom j i = false := by
  unfold rawFit dominating
  rw [List.sum_eq_zero_iff_forall_eq_nat]
  constructor
  · intro h j hj
    by_contra hc
    have hc : reg dom j i = true := by simpa using hc
    -- `j` dominates `i`, so its strength counts at least `i`
    have h0 := h (strength dom N j)
      (List.mem_map.2 ⟨j, List.mem_filter.2 ⟨List.mem_range.2 hj, hc⟩, rfl⟩)
    have : i ∈ (List.range N).filter (fun j' => reg dom j j') :=
      List.mem_filter.2 ⟨List.mem_range.2 hi, hc⟩
    rw [strength, List.length_eq_zero_iff] at h0
    rw [h0] at this; cases this
  · intro h x hx
    obtain ⟨j, hj, _⟩ := List.mem_map.1 hx
    obtain ⟨hj1, hj2⟩ := List.mem_filter.1 hj
    rw [h j (List.mem_range.1 hj1)] at hj2
    cases hj2

def NonDom (i : Nat) : Prop := ∀ j, j < N → dom j i = false

instance (i : Nat) : Decidable (NonDom dom N i) := by unfold NonDom; exact Nat.decidableBallLT _ _

theorem rawFit_lt_one_iff (hasym : ∀ i j, dom i j = true → dom j i = false) (i : Nat) (hi : i < N) :
    rawFit dom N i < 1 ↔ NonDom dom N i := by
  rw [Nat.lt_one_iff, rawFit_eq_zero_iff dom N i hi]
  exact forall₂_congr fun j _ => by rw [reg_eq dom hasym]

theorem chosen0_eq_filter (hasym : ∀ i j, dom i j = true → dom j i = false) :
    chosen0 dom N = (List.range N).filter (fun i => decide (NonDom dom N i)) :=
  List.filter_congr fun i hi =>
    decide_eq_decide.2 (rawFit_lt_one_iff dom N hasym i (List.mem_range.1 hi))

theorem mem_chosen0 (hasym : ∀ i j, dom i j = true → dom j i = false) (i : Nat) :
    i ∈ chosen0 dom N ↔ i < N ∧ NonDom dom N i := by
  rw [chosen0_eq_filter dom N hasym, List.mem_filter, List.mem_range, decide_eq_true_eq]

theorem chosen0_nodup : (chosen0 dom N).Nodup := List.Nodup.filter _ List.nodup_range

theorem chosen0_lt : ∀ i ∈ chosen0 dom N, i < N := fun _ hi =>
  List.mem_range.1 (List.mem_filter.1 hi).1

theorem chosen0_length_le : (chosen0 dom N).length ≤ N := by
  have := List.length_filter_le (fun i => decide (rawFit dom N i < 1)) (List.range N)
  simpa [chosen0] using this

end Strength

section Fill
variable {α : Type} [DecidableEq α] [LT α] [DecidableLT α]

theorem fill_spec (N : Nat) (fits : Nat → α) (k : Nat) (chosen : List Nat)
    (hnd : chosen.Nodup) (hlt : ∀ i ∈ chosen, i < N) (hk : k ≤ N) (hck : chosen.length ≤ k) :
    (fill N fits k chosen).length = k ∧ (fill N fits k chosen).Nodup ∧
    (∀ i ∈ fill N fits k chosen, i < N) ∧ (∀ i ∈ chosen, i ∈ fill N fits k chosen) := by
  unfold fill
  simp only []
  set rest := (List.range N).filter (fun i => !chosen.contains i) with hrest
  set srt := (rest.map (fun i => (fits i, i))).mergeSort (fun x y => !keyLt y x)
  have hperm : (srt.map (·.2)).Perm rest := by
    have := (List.mergeSort_perm (rest.map (fun i => (fits i, i))) (fun x y => !keyLt y x)).map (·.2)
    simpa [List.map_map, Function.comp_def] using this
  have hrest_mem : ∀ i ∈ rest, i < N ∧ i ∉ chosen := fun i hi => by
    simpa [hrest, List.mem_filter] using hi
  -- the rest has `N - |chosen|` elements: the chosen ones are a duplicate-free part of `0..N-1`
  have hlen_rest : rest.length = N - chosen.length := by
    have h1 := List.length_eq_length_filter_add (l := List.range N) (fun i => chosen.contains i)
    have h2 : ((List.range N).filter (fun i => chosen.contains i)).Perm chosen :=
      (List.perm_ext_iff_of_nodup (List.Nodup.filter _ List.nodup_range) hnd).2 fun a => by
        simp only [List.mem_filter, List.mem_range, List.contains_iff_mem]
        exact ⟨fun h => h.2, fun h => ⟨hlt a h, h⟩⟩
    have h3 := h2.length_eq
    simp only [List.length_range] at h1
    rw [hrest]; omega
  have hsl : srt.length = N - chosen.length := by
    rw [← hlen_rest, ← hperm.length_eq, List.length_map]
  have hsub : ((srt.take (k - chosen.length)).map (·.2)).Sublist (srt.map (·.2)) :=
    (List.take_sublist _ _).map _
  have hnew : ∀ i ∈ (srt.take (k - chosen.length)).map (·.2), i < N ∧ i ∉ chosen := fun i hi =>
    hrest_mem i (hperm.subset (hsub.subset hi))
  refine ⟨?_, ?_, ?_, fun i hi => List.mem_append_left _ hi⟩
  · simp only [List.length_append, List.length_map, List.length_take, hsl]; omega
  · refine List.nodup_append.2 ⟨hnd, hsub.nodup (hperm.nodup_iff.2 (List.Nodup.filter _ List.nodup_range)),
      fun a ha b hb hab => ?_⟩
    exact (hnew b hb).2 (hab ▸ ha)
  · intro i hi
    rcases List.mem_append.1 hi with h | h
    · exact hlt i h
    · exact (hnew i h).1

end Fill

/-- `del l[i]` for a descending list of positions in which only 0 may repeat: every deletion is in
range and removes one element. -/
theorem foldl_eraseIdx_length (desc : List Nat) : ∀ (l : List Nat),
    desc.Pairwise (fun a b => b < a ∨ b = 0) → (∀ i ∈ desc, i < l.length) →
    desc.length ≤ l.length →
    (desc.foldl (fun l i => l.eraseIdx i) l).length = l.length - desc.length := by
  induction desc with
  | nil => intro l _ _ _; simp
  | cons a t ih =>
    intro l hp hlt hlen
    have ha : a < l.length := hlt a (by simp)
    rw [List.pairwise_cons] at hp
    have hl : (l.eraseIdx a).length = l.length - 1 := by rw [List.length_eraseIdx, if_pos ha]
    have hlast : t.length ≤ l.length - 1 := Nat.le_sub_one_of_lt hlen
    rw [List.foldl_cons, ih (l.eraseIdx a) hp.2 (fun i hi => by
      -- a later position is smaller, or it is a repeated 0 and an element is still left for it
      rw [hl]
      rcases hp.1 i hi with h | h
      · exact Nat.lt_of_lt_of_le h (Nat.le_sub_one_of_lt ha)
      · exact h ▸ Nat.lt_of_lt_of_le (List.length_pos_of_mem hi) hlast) (hl ▸ hlast), hl,
      List.length_cons, Nat.sub_sub, Nat.add_comm 1]

theorem delDesc_spec (chosen rem : List Nat)
    (hnz : (rem.filter (fun r => decide (r ≠ 0))).Nodup) (hlt : ∀ r ∈ rem, r < chosen.length)
    (hlen : rem.length ≤ chosen.length) :
    (delDesc chosen rem).length = chosen.length - rem.length ∧ (delDesc chosen rem).Sublist chosen := by
  unfold delDesc
  set srt := rem.mergeSort (fun a b => decide (a ≤ b))
  have hperm : srt.Perm rem := List.mergeSort_perm _ _
  have hpw : srt.Pairwise (fun a b => decide (a ≤ b) = true) :=
    List.pairwise_mergeSort (by intro a b c; simp; omega) (by intro a b; simp; omega) rem
  have hnz' : srt.Pairwise (fun a b => (decide (a ≠ 0) = true → decide (b ≠ 0) = true → a ≠ b)) :=
    List.pairwise_filter.1 ((hperm.filter _).nodup_iff.2 hnz)
  have hrev : srt.reverse.Pairwise (fun a b => b < a ∨ b = 0) :=
    List.pairwise_reverse.2 ((hpw.and hnz').imp (by simp; omega))
  refine ⟨?_, List.foldl_eraseIdx_sublist _ _⟩
  rw [foldl_eraseIdx_length srt.reverse chosen hrev
    (fun i hi => hlt i (hperm.subset (List.mem_reverse.1 hi)))
    (by rw [List.length_reverse, hperm.length_eq]; exact hlen),
    List.length_reverse, hperm.length_eq]

/-- `delDesc` through the structural insertion sort, which the kernel evaluates -/
theorem delDesc_eq_isort (chosen rem : List Nat) : delDesc chosen rem =
    ((LoopsC.isort (fun a b => decide (a ≤ b)) rem).reverse).foldl (fun l i => l.eraseIdx i) chosen := by
  rw [delDesc, LoopsC.mergeSort_eq_isort (fun a b c h1 h2 => by simp at *; omega) (fun a b => by simp; omega)]

section Sel
variable {α : Type} [DecidableEq α] [LT α] [DecidableLT α]

theorem truncateV_spec (D : Nat → Nat → DVal α) (k : Nat) (chosen : List Nat) (hk : 1 ≤ k)
    (hkc : k ≤ chosen.length) :
    (truncateV D k chosen).length = k ∧ (truncateV D k chosen).Sublist chosen := by
  unfold truncateV
  obtain ⟨h1, h2, h3⟩ :=
    toRemoveV_spec (fun a b => D (chosen.getD a 0) (chosen.getD b 0)) chosen.length k hk hkc
  obtain ⟨a, b⟩ := delDesc_spec chosen _ h1 h2 (by omega)
  exact ⟨by omega, b⟩

variable (dom : Nat → Nat → Bool) (N k : Nat) (fits : Nat → α) (D : Nat → Nat → DVal α)

/-- `selSPEA2V` returns `k` pairwise distinct positions `< N`; they include `chosen0` when that has
at most `k` elements (fill branch) and are among `chosen0` when it has at least `k` (truncation). -/
theorem selSPEA2V_spec (hk : 1 ≤ k) (hkN : k ≤ N) :
    (selSPEA2V dom N k fits D).length = k ∧ (selSPEA2V dom N k fits D).Nodup ∧
    (∀ i ∈ selSPEA2V dom N k fits D, i < N) ∧
    ((chosen0 dom N).length ≤ k → ∀ i ∈ chosen0 dom N, i ∈ selSPEA2V dom N k fits D) ∧
    (k ≤ (chosen0 dom N).length → ∀ i ∈ selSPEA2V dom N k fits D, i ∈ chosen0 dom N) := by
  unfold selSPEA2V
  simp only []
  split
  · next h =>
    obtain ⟨a, b, c, d⟩ := fill_spec N fits k _ (chosen0_nodup dom N) (chosen0_lt dom N) hkN (by omega)
    exact ⟨a, b, c, fun _ => d, fun h' => by omega⟩
  · split
    · next h =>
      obtain ⟨a, b⟩ := truncateV_spec D k (chosen0 dom N) hk (by omega)
      exact ⟨a, b.nodup (chosen0_nodup dom N), fun i hi => chosen0_lt dom N i (b.subset hi),
        fun h' => by omega, fun _ => b.subset⟩
    · exact ⟨by omega, chosen0_nodup dom N, chosen0_lt dom N, fun _ _ h => h, fun _ _ h => h⟩

theorem selSPEA2V_nd (hasym : ∀ i j, dom i j = true → dom j i = false) (hk : 1 ≤ k) :
    (k ≤ N → ((List.range N).filter (fun i => decide (NonDom dom N i))).length ≤ k →
      ∀ i, i < N → NonDom dom N i → i ∈ selSPEA2V dom N k fits D) ∧
    (k ≤ ((List.range N).filter (fun i => decide (NonDom dom N i))).length →
      ∀ i ∈ selSPEA2V dom N k fits D, NonDom dom N i) := by
  rw [← chosen0_eq_filter dom N hasym]
  exact ⟨fun hkN hfew i hi hnd => (selSPEA2V_spec dom N k fits D hk hkN).2.2.2.1 hfew i
      ((mem_chosen0 dom N hasym i).2 ⟨hi, hnd⟩),
    fun hmany i hi => ((mem_chosen0 dom N hasym i).1 ((selSPEA2V_spec dom N k fits D hk
      (Nat.le_trans hmany (chosen0_length_le dom N))).2.2.2.2 hmany i hi)).2⟩

end Sel

end C07L
