import DeapModel.Lemmas.C15Gen7
import DeapModel.Lemmas.C15HvCTop
/-!
C15 — the compiled routine `_hv.c` in three and more dimensions: the INTERFACE of one level of `hv_recursive`.

`InvC … S k A` is the precondition of `hv_recursive(list, k, |A|, ref, bound)` when the lists `2 .. k` hold the node
set `A`; `PostC` is what the call guarantees on return; `LevelOKC F k` says that level `k` meets that contract on
every admissible state.  The static picture (orders `O i`, positions, restricted lists `RL`, prefixes `preSet`, the
projected hypervolumes `Hj`, the ideal cache contents `ARv` / `VOLv`) is the one of `Lemmas/C15Gen1` — instantiated
with the TRANSLATED CLAMPED cargo `stc C R` (coordinates capped at the reference, minus reference), because pyhv works on
translated points and `_hv.c` on the points as given; for a node at or below the reference in coordinate `j`,
`cg (stc C R) a j = cg C a j - rf R j` (`CCtx.cg_tr`).

New with respect to pyhv: `delete_dom` / `reinsert_dom` (no bound lowering: sound because the node is dominated by a
present node), and the cached state of the 3-D base case (`domr`, i.e. the third coordinate at which a node left the
staircase of the first two coordinates), described by `DMc`.
-/
namespace HvC
open Hypervolume
open HvSweep (GCtx Hj RL pos ARv VOLv ids Shaped)

/-- the translated cargo (specification only; the code never builds it) -/
def trC (C : Cargo) (R : List ℚ) : Cargo := C.map (fun p => List.zipWith (· - ·) p R)

/-- the CLAMPED cargo (specification only): every coordinate is capped at the reference.  The points that `filter`
removes (not strictly below the reference) are never looked at again, and a surviving ("good") node is its own clamp, so
the clamped points can serve as the specification points of the static picture — which wants every point at or below
the reference — without any assumption on the input. -/
def clC (C : Cargo) (R : List ℚ) : Cargo := C.map (fun p => List.zipWith min p R)

/-- the specification points: the clamped points -/
abbrev spt (C : Cargo) (R : List ℚ) : ℕ → Pt := ptOf (clC C R)

/-- the specification cargo: the clamped points, translated -/
abbrev stc (C : Cargo) (R : List ℚ) : Cargo := trC (clC C R) R

theorem spt_eq (C : Cargo) (R : List ℚ) (a : ℕ) (ha : a < C.length) : spt C R a = List.zipWith min (ptOf C a) R := by
  show (C.map (fun p => List.zipWith min p R)).getD a [] = List.zipWith min (C.getD a []) R
  simp only [List.getD_eq_getElem?_getD, List.getElem?_map, List.getElem?_eq_getElem ha, Option.map_some,
    Option.getD_some]

theorem spt_getD (C : Cargo) (R : List ℚ) (a j : ℕ) (hj : j < (spt C R a).length) :
    (spt C R a).getD j 0 = min (cg C a j) (rf R j) := by
  by_cases ha : a < C.length
  · rw [spt_eq C R a ha] at hj ⊢
    rw [List.length_zipWith] at hj
    exact List.getD_zipWith min _ _ _ 0 0 0 (by omega) (by omega)
  · exfalso
    have : spt C R a = [] := by
      show (C.map (fun p => List.zipWith min p R)).getD a [] = []
      rw [List.getD_eq_getElem?_getD, List.getElem?_eq_none (by simp; omega)]
      rfl
    rw [this] at hj
    exact absurd hj (by simp)

/-- the static data of one run of `fpli_hv` in `d ≥ 3` dimensions: `O i` is the order of dimension `i` built by
`setup_cdllist` (sorted by the coordinate `i`), every input point has `d` coordinates.  The specification points are the
CLAMPED points `spt C R`, so nothing is assumed about the position of the input points relative to the reference. -/
structure CCtx (C : Cargo) (R : List ℚ) (d n : ℕ) (O : ℕ → List ℕ) : Prop where
  g : GCtx (stc C R) d n O (spt C R) R
  srt : ∀ i < d, (O i).Pairwise (fun a b => cg C a i ≤ cg C b i)
  hd : 3 ≤ d

/-- the product `∏_{i < m} (ref[i] − x[i])` that l.772-775 write into `area[0..dim]` -/
def areaProdC (C : Cargo) (R : List ℚ) (q : ℕ) : ℕ → ℚ
  | 0 => 1
  | m + 1 => areaProdC C R q m * (rf R m - cg C q m)

section cctx
variable {C : Cargo} {R : List ℚ} {d n : ℕ} {O : ℕ → List ℕ}

theorem CCtx.spt_min (c : CCtx C R d n O) {a : ℕ} (ha : a ∈ ids n) {j : ℕ} (hj : j < d) :
    (spt C R a).getD j 0 = min (cg C a j) (rf R j) :=
  spt_getD C R a j (by rw [c.g.len a ha]; exact hj)

theorem CCtx.spt_good (c : CCtx C R d n O) {a : ℕ} (ha : a ∈ ids n) {j : ℕ} (hj : j < d) (h : cg C a j ≤ rf R j) :
    (spt C R a).getD j 0 = cg C a j := by
  rw [c.spt_min ha hj, min_eq_left h]

theorem CCtx.spt_mono (c : CCtx C R d n O) {a b : ℕ} (ha : a ∈ ids n) (hb : b ∈ ids n) {j : ℕ} (hj : j < d)
    (h : cg C a j ≤ cg C b j) : (spt C R a).getD j 0 ≤ (spt C R b).getD j 0 := by
  rw [c.spt_min ha hj, c.spt_min hb hj]
  exact min_le_min_right _ h

theorem CCtx.cg_tr (c : CCtx C R d n O) {a : ℕ} (ha : a ∈ ids n) {j : ℕ} (hj : j < d) (h : cg C a j ≤ rf R j) :
    HvSweep.cg (stc C R) a j = cg C a j - rf R j := by
  rw [c.g.cgv a ha j hj, c.spt_good ha hj h]; rfl

theorem CCtx.cg_tr' (c : CCtx C R d n O) {a : ℕ} (ha : a ∈ ids n) {j : ℕ} (hj : j < d) (h : cg C a j < rf R j) :
    HvSweep.cg (stc C R) a j = cg C a j - rf R j := c.cg_tr ha hj h.le

/-- the static orders in terms of the cargo of `_hv.c` -/
theorem CCtx.le_of_pos (c : CCtx C R d n O) {i : ℕ} (hi : i < d) {a b : ℕ} (ha : a ∈ ids n) (hb : b ∈ ids n)
    (h : pos O i b ≤ pos O i a) : cg C b i ≤ cg C a i :=
  HvSweep.le_of_idxOf_le (c.srt i hi) ((c.g.mem hi a).mpr ha) ((c.g.mem hi b).mpr hb) h

theorem CCtx.pos_lt_of_lt (c : CCtx C R d n O) {i : ℕ} (hi : i < d) {a b : ℕ} (ha : a ∈ ids n) (hb : b ∈ ids n)
    (h : cg C a i < cg C b i) : pos O i a < pos O i b :=
  HvSweep.idxOf_lt_of_lt (c.srt i hi) ((c.g.mem hi a).mpr ha) ((c.g.mem hi b).mpr hb) h

theorem CCtx.RL_sorted (c : CCtx C R d n O) {i : ℕ} (hi : i < d) (A : List ℕ) :
    (RL O i A).Pairwise (fun a b => cg C a i ≤ cg C b i) :=
  (c.srt i hi).sublist (HvSweep.RL_sublist O i A)

theorem areaProd_tr (c : CCtx C R d n O) (a : ℕ) (ha : a ∈ ids n) (hg : ∀ i < d, cg C a i < rf R i) : ∀ (m : ℕ), m ≤ d →
    HvSweep.areaProd (stc C R) a m = areaProdC C R a m
  | 0, _ => rfl
  | m + 1, hm => by
    show HvSweep.areaProd (stc C R) a m * -(HvSweep.cg (stc C R) a m) = areaProdC C R a m * (rf R m - cg C a m)
    rw [areaProd_tr c a ha hg m (by omega), c.cg_tr' ha (by omega) (hg m (by omega))]
    ring

/-- the hypervolume of one node in the coordinates `0 .. i` is the product the code writes -/
theorem Hj_single_eq_areaProdC (c : CCtx C R d n O) (a : ℕ) (ha : a ∈ ids n) (hg : ∀ i < d, cg C a i < rf R i)
    (i : ℕ) (hi : i < d) :
    Hj R (spt C R) i [a] = areaProdC C R a (i + 1) := by
  rw [HvSweep.Hj_single_eq_areaProd c.g a ha i hi, areaProd_tr c a ha hg (i + 1) (by omega)]

end cctx

/-- `b` weakly dominates `q` in the coordinates `0, 1` and precedes it in the static orders `2 .. m` (hence is at most
`q` in the coordinates `2 .. m` as well) — the witness of an `ignore` mark `m` -/
def DomC (C : Cargo) (O : ℕ → List ℕ) (m b q : ℕ) : Prop :=
  b ≠ q ∧ cg C b 0 ≤ cg C q 0 ∧ cg C b 1 ≤ cg C q 1 ∧ ∀ j, 2 ≤ j → j ≤ m → pos O j b < pos O j q

/-- **soundness of the ignore marks** w.r.t. the node set `A`: a mark `m ≥ 2` is witnessed by a present node -/
def IGc (C : Cargo) (O : ℕ → List ℕ) (S : St) (A : List ℕ) : Prop :=
  ∀ q ∈ A, 2 ≤ ign S q → ∃ b ∈ A, DomC C O (ign S q).toNat b q

/-- **cache validity**: at every level `2 ≤ j + 1 < K`, the `area` / `vol` caches of every node of `A` whose coordinate
is strictly below `bound[j + 1]` hold the ideal values w.r.t. the node set `A` -/
def CVc (C : Cargo) (R : List ℚ) (O : ℕ → List ℕ) (S : St) (K : ℕ) (A : List ℕ) : Prop :=
  ∀ j, 1 ≤ j → j + 1 < K → ∀ a ∈ A, ∀ b, S.bound.getD (j + 1) none = some b → cg C a (j + 1) < b →
    ar S a (j + 1) = ARv R (spt C R) O j A a ∧ vl S a (j + 1) = VOLv (stc C R) R (spt C R) O j A a

/-- `q` beats `a` in the staircase of the first two coordinates: `q` weakly dominates `a` there, and when the two
projections coincide `q` is the one processed first by the sweep along the third coordinate -/
def Beats (C : Cargo) (O : ℕ → List ℕ) (q a : ℕ) : Prop :=
  q ≠ a ∧ cg C q 0 ≤ cg C a 0 ∧ cg C q 1 ≤ cg C a 1 ∧ (item C q = item C a → pos O 2 q < pos O 2 a)

theorem beats_irrefl (C : Cargo) (O : ℕ → List ℕ) (a : ℕ) : ¬ Beats C O a a := fun h => h.1 rfl

theorem beats_trans (C : Cargo) (O : ℕ → List ℕ) (s q a : ℕ) (h1 : Beats C O s q) (h2 : Beats C O q a) : Beats C O s a := by
  obtain ⟨n1, x1, y1, p1⟩ := h1
  obtain ⟨n2, x2, y2, p2⟩ := h2
  have key : item C s = item C a → pos O 2 s < pos O 2 a := by
    intro e
    have ex : cg C s 0 = cg C a 0 := congrArg Prod.fst e
    have ey : cg C s 1 = cg C a 1 := congrArg Prod.snd e
    have e1 : item C s = item C q := by
      show (cg C s 0, cg C s 1) = (cg C q 0, cg C q 1)
      rw [le_antisymm x1 (by rw [ex]; exact x2), le_antisymm y1 (by rw [ey]; exact y2)]
    have e2 : item C q = item C a := e1.symm.trans e
    exact lt_trans (p1 e1) (p2 e2)
  refine ⟨?_, le_trans x1 x2, le_trans y1 y2, key⟩
  intro e
  subst e
  have := key rfl
  omega

/-- **validity of the cached `domr`** (3-D base case) w.r.t. the node set `A`: for a node strictly below `bound[2]`,
`domr` is the third coordinate from which on the node is beaten by a present node below the bound (its own third
coordinate if it was beaten when it arrived), and `≥ bound[2]` if there is none.  The middle clause (`domr ≤ max (a₂, q₂)`
for EVERY present beater `q` below the bound) is the one that shows two nodes of the rebuilt staircase incomparable
(`C3.incomp`) -/
def DMc (C : Cargo) (O : ℕ → List ℕ) (S : St) (A : List ℕ) : Prop :=
  ∀ a ∈ A, ∀ b, S.bound.getD 2 none = some b → cg C a 2 < b →
    cg C a 2 ≤ dr S a ∧
    (∀ q ∈ A, cg C q 2 < b → Beats C O q a → dr S a ≤ max (cg C a 2) (cg C q 2)) ∧
    (dr S a < b → ∃ q ∈ A, Beats C O q a ∧ cg C q 2 ≤ dr S a)

/-- the tables have a row per node id and a column per dimension -/
structure TSh (d n : ℕ) (S : St) : Prop where
  area : Shaped (n + 1) d S.area
  vol : Shaped (n + 1) d S.vol
  ign : S.ignore.length = n + 1
  domr : S.domr.length = n + 1
  bound : S.bound.length = d

/-- the `next` / `prev` pointers agree -/
def PtrEqC (S S' : St) : Prop := ∀ i a, nx S' i a = nx S i a ∧ pv S' i a = pv S i a

theorem gB_tsh_setAr {d n : ℕ} {S : St} (h : TSh d n S) (a i : ℕ) (v : ℚ) : TSh d n (setAr S a i v) :=
  ⟨HvSweep.shaped_tset h.area a i v, h.vol, h.ign, h.domr, h.bound⟩
theorem gB_tsh_setVl {d n : ℕ} {S : St} (h : TSh d n S) (a i : ℕ) (v : ℚ) : TSh d n (setVl S a i v) :=
  ⟨h.area, HvSweep.shaped_tset h.vol a i v, h.ign, h.domr, h.bound⟩
theorem gB_tsh_setIgn {d n : ℕ} {S : St} (h : TSh d n S) (a : ℕ) (v : ℤ) : TSh d n (setIgn S a v) :=
  ⟨h.area, h.vol, by show (S.ignore.set a v).length = _; rw [List.length_set]; exact h.ign, h.domr, h.bound⟩
theorem gB_tsh_setBound {d n : ℕ} {S : St} (h : TSh d n S) (i : ℕ) (v : ℚ) : TSh d n (setBound S i v) :=
  ⟨h.area, h.vol, h.ign, h.domr, by show (S.bound.set i (some v)).length = _; rw [List.length_set]; exact h.bound⟩
theorem gB_tsh_of_fields {d n : ℕ} {S T : St} (h : TSh d n S) (h1 : T.area = S.area) (h2 : T.vol = S.vol)
    (h3 : T.ignore.length = n + 1) (h4 : T.domr = S.domr) (h5 : T.bound.length = d) : TSh d n T :=
  ⟨by rw [h1]; exact h.area, by rw [h2]; exact h.vol, h3, by rw [h4]; exact h.domr, h5⟩

theorem PtrEqC.refl (S : St) : PtrEqC S S := fun _ _ => ⟨rfl, rfl⟩
theorem PtrEqC.trans {S T U : St} (h₁ : PtrEqC S T) (h₂ : PtrEqC T U) : PtrEqC S U :=
  fun i a => ⟨(h₂ i a).1.trans (h₁ i a).1, (h₂ i a).2.trans (h₁ i a).2⟩
theorem PtrEqC.symm {S T : St} (h : PtrEqC S T) : PtrEqC T S := fun i a => ⟨(h i a).1.symm, (h i a).2.symm⟩
theorem ptrEqC_of_fields {S T : St} (h1 : T.next = S.next) (h2 : T.prev = S.prev) : PtrEqC S T := by
  intro i a; unfold nx pv; rw [h1, h2]; exact ⟨rfl, rfl⟩

theorem dlc_ptrEqC {n : ℕ} {S T : St} {i : ℕ} {L : List ℕ} (h : PtrEqC S T) (hd : DLc n S i L) : DLc n T i L :=
  HvSweep.dl_congr (S := toSw S) (T := toSw T) (fun a => h i a) hd

theorem shapeC_of_fields {d n : ℕ} {S T : St} (h : ShapeC d n S) (h1 : T.next = S.next) (h2 : T.prev = S.prev) :
    ShapeC d n T :=
  HvSweep.shape_ptr_fields (S := toSw S) (T := toSw T) h h1 h2

/-- the precondition of `hv_recursive(list, k, |A|, ref, bound)` (`k ≥ 2`) when the lists `2 .. k` hold the node set `A` -/
structure InvC (C : Cargo) (R : List ℚ) (d n : ℕ) (O : ℕ → List ℕ) (S : St) (k : ℕ) (A : List ℕ) : Prop where
  shape : ShapeC d n S
  tsh : TSh d n S
  nodup : A.Nodup
  sub : ∀ a ∈ A, a ∈ ids n
  good : ∀ a ∈ A, ∀ j < d, cg C a j < rf R j
  lists : ∀ i, 2 ≤ i → i ≤ k → DLc n S i (RL O i A)
  cv : CVc C R O S (k + 1) A
  ig : IGc C O S A
  igd : ∀ q, 2 ≤ ign S q → dr S q = cg C q 2
  dm : DMc C O S A
  tree : S.tree = []

/-- what `hv_recursive(list, k, …)` guarantees on return -/
structure PostC (C : Cargo) (R : List ℚ) (d n : ℕ) (O : ℕ → List ℕ) (S S' : St) (k : ℕ) (A : List ℕ) (v : ℚ) : Prop where
  val : v = Hj R (spt C R) k A
  ptr : PtrEqC S S'
  inv : InvC C R d n O S' k A
  ign_out : ∀ y, y ∉ A → ign S' y = ign S y
  dr_out : ∀ y, y ∉ A → dr S' y = dr S y
  cache_hi : ∀ a i, k < i → ar S' a i = ar S a i ∧ vl S' a i = vl S a i
  bound_hi : ∀ i, k < i → S'.bound.getD i none = S.bound.getD i none

/-- `InvC` does not read `calls` -/
theorem invC_tick {C : Cargo} {R : List ℚ} {d n : ℕ} {O : ℕ → List ℕ} {S : St} {k : ℕ} {A : List ℕ}
    (inv : InvC C R d n O S k A) (m : ℕ) : InvC C R d n O (tick S m) k A :=
  { inv with tsh := ⟨inv.tsh.area, inv.tsh.vol, inv.tsh.ign, inv.tsh.domr, inv.tsh.bound⟩ }

/-- `PostC` does not read the `calls` of the initial state -/
theorem postC_tick {C : Cargo} {R : List ℚ} {d n : ℕ} {O : ℕ → List ℕ} {S S' : St} {k : ℕ} {A : List ℕ} {v : ℚ} (m : ℕ)
    (p : PostC C R d n O (tick S m) S' k A v) : PostC C R d n O S S' k A v :=
  { p with }

/-- level `k` is correct on every admissible state with at least two nodes (`fpli_hv` treats `n ≤ 1` itself, l.1474-1480,
and the general case only recurses with `c > 1`, l.756 / l.787; with a single node the C code would read the `NULL` cargo
of the list head) -/
def LevelOKC (C : Cargo) (R : List ℚ) (d n : ℕ) (O : ℕ → List ℕ) (F k : ℕ) : Prop :=
  ∀ (S : St) (A : List ℕ), InvC C R d n O S k A → 2 ≤ A.length →
    ∃ v S', hvRecursive C R F k A.length S = some (v, S') ∧ PostC C R d n O S S' k A v

/-- **the 3-D base case (`dim == 2`, l.825-992) meets the level interface** — entered with ANY `bound[2]`: with a
finite bound it re-enters on the cached `vol[2]` / `area[2]` / `domr` of the nodes below the bound and rebuilds the
staircase from the nodes whose `domr` is at or above the bound.  Fuel `n + 2` where pyhv needs `n + 1`: `skipLoop`,
`reconnectLoop` and `chainLoop` answer `none` on fuel `0` even when nothing is left to do -/
def Dim3_Statement : Prop :=
  ∀ (C : Cargo) (R : List ℚ) (d n : ℕ) (O : ℕ → List ℕ) (F : ℕ), CCtx C R d n O → n + 2 ≤ F →
    LevelOKC C R d n O F 2

/-- **the general case (`dim > 2`, l.710-819) at level `j + 1` meets the level interface, given that level `j` does** -/
def GeneralStep_Statement : Prop :=
  ∀ (C : Cargo) (R : List ℚ) (d n : ℕ) (O : ℕ → List ℕ) (F j : ℕ), CCtx C R d n O → n + 2 ≤ F → 2 ≤ j → j + 1 < d →
    LevelOKC C R d n O F j → LevelOKC C R d n O F (j + 1)

end HvC
