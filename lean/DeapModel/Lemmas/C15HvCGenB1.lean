import DeapModel.Lemmas.C15HvCGen0
/-!
C15 — the general case of `hv_recursive` in `_hv.c`, second phase (the reinsertion loop l.780-808): small facts about
the setters of `HvC.St`, and the code of `general` / `reinsLoop` cut into named pieces (`promo`, `bodyR`, `startR`).
-/
namespace HvC

theorem gB_bound_setBound_ne (S : St) (i j : ℕ) (v : ℚ) (h : j ≠ i) :
    (setBound S i v).bound.getD j none = S.bound.getD j none := by
  unfold setBound; exact List.getD_set_ne _ _ _ h

theorem gB_bound_setBound_self (S : St) (i : ℕ) (v : ℚ) (h : i < S.bound.length) :
    (setBound S i v).bound.getD i none = some v := by
  unfold setBound; exact List.getD_set_self _ _ _ _ h

theorem gB_ar_of_area {S T : St} (h : T.area = S.area) (a i : ℕ) : ar T a i = ar S a i := by unfold ar; rw [h]
theorem gB_vl_of_vol {S T : St} (h : T.vol = S.vol) (a i : ℕ) : vl T a i = vl S a i := by unfold vl; rw [h]
theorem gB_ign_of_ignore {S T : St} (h : T.ignore = S.ignore) (a : ℕ) : ign T a = ign S a := by unfold ign; rw [h]
theorem gB_dr_of_domr {S T : St} (h : T.domr = S.domr) (a : ℕ) : dr T a = dr S a := by unfold dr; rw [h]

/-- the fields other than the pointers and the bounds -/
def gA_Data (S T : St) : Prop :=
  T.ignore = S.ignore ∧ T.area = S.area ∧ T.vol = S.vol ∧ T.domr = S.domr ∧ T.tree = S.tree ∧ T.calls = S.calls

theorem gA_Data.ignore {S T : St} (h : gA_Data S T) : T.ignore = S.ignore := h.1
theorem gA_Data.area {S T : St} (h : gA_Data S T) : T.area = S.area := h.2.1
theorem gA_Data.vol {S T : St} (h : gA_Data S T) : T.vol = S.vol := h.2.2.1
theorem gA_Data.domr {S T : St} (h : gA_Data S T) : T.domr = S.domr := h.2.2.2.1
theorem gA_Data.tree {S T : St} (h : gA_Data S T) : T.tree = S.tree := h.2.2.2.2.1
theorem gA_Data.calls {S T : St} (h : gA_Data S T) : T.calls = S.calls := h.2.2.2.2.2

theorem gA_Data.refl (S : St) : gA_Data S S := ⟨rfl, rfl, rfl, rfl, rfl, rfl⟩
theorem gA_Data.trans {S T U : St} (h₁ : gA_Data S T) (h₂ : gA_Data T U) : gA_Data S U := by
  obtain ⟨a1, a2, a3, a4, a5, a6⟩ := h₁
  obtain ⟨b1, b2, b3, b4, b5, b6⟩ := h₂
  exact ⟨b1.trans a1, b2.trans a2, b3.trans a3, b4.trans a4, b5.trans a5, b6.trans a6⟩

theorem gA_Data.ign {S T : St} (h : gA_Data S T) (a : ℕ) : ign T a = ign S a := gB_ign_of_ignore h.ignore a
theorem gA_Data.ar {S T : St} (h : gA_Data S T) (a i : ℕ) : ar T a i = ar S a i := gB_ar_of_area h.area a i
theorem gA_Data.vl {S T : St} (h : gA_Data S T) (a i : ℕ) : vl T a i = vl S a i := gB_vl_of_vol h.vol a i
theorem gA_Data.dr {S T : St} (h : gA_Data S T) (a : ℕ) : dr T a = dr S a := gB_dr_of_domr h.domr a

theorem delSeq_snoc (C : Cargo) (dim : ℕ) (S : St) (rs : List ℕ) (y : ℕ) :
    delSeq C dim S (rs ++ [y]) = delStep C dim (delSeq C dim S rs) y := by
  unfold delSeq; rw [List.foldl_append]; rfl

/-- l.763-769 / l.796-798 after the recursive call returned `a`: store the area, promote the mark `dim - 1` to `dim` -/
def promo (T : St) (p dim : ℕ) (a : ℚ) : St :=
  if ign (setAr T p dim a) p = (dim : Int) - 1 then setIgn (setAr T p dim a) p dim else setAr T p dim a

/-- l.789-798: the reinsertion of `p0` and the computation of its area -/
def bodyR (rec : ℕ → St → Option (ℚ × St)) (C : Cargo) (dim p0 p1 c : ℕ) (S : St) : Option St :=
  if (dim : Int) ≤ ign S p0 then
    some (setAr (reinsertDom C S p0 dim) p0 dim (ar (reinsertDom C S p0 dim) p1 dim))
  else
    match rec c (reinsert C S p0 dim) with
    | none => none
    | some (a, S1) => some (promo S1 p0 dim a)

theorem reinsLoop_succ (rec : ℕ → St → Option (ℚ × St)) (C : Cargo) (dim f p0 p1 : ℕ) (hv : ℚ) (c : ℕ) (S : St) :
    reinsLoop rec C dim (f + 1) p0 p1 hv c S =
      if p0 = 0 then some (p1, hv, S)
      else match bodyR rec C dim p0 p1 (c + 1) S with
        | none => none
        | some S' => reinsLoop rec C dim f (nx S' dim p0) p0 (hv + ar S p1 dim * (cg C p0 dim - cg C p1 dim)) (c + 1)
            (setVl S' p0 dim (hv + ar S p1 dim * (cg C p0 dim - cg C p1 dim))) := by
  rfl

theorem reinsLoop_zero_head (rec : ℕ → St → Option (ℚ × St)) (C : Cargo) (dim f p1 : ℕ) (hv : ℚ) (c : ℕ) (S : St) :
    reinsLoop rec C dim f 0 p1 hv c S = some (p1, hv, S) := by
  cases f <;> simp [reinsLoop]

/-- l.756-775: the area of the last node that stays, and the volume up to it -/
def startR (rec : ℕ → St → Option (ℚ × St)) (C : Cargo) (R : List ℚ) (dim p1 c : ℕ) (S : St) : Option (ℚ × St) :=
  if 1 < c then
    if (dim : Int) ≤ ign S p1 then
      some (vl S (pv S dim p1) dim + ar S (pv S dim p1) dim * (cg C p1 dim - cg C (pv S dim p1) dim),
        setAr S p1 dim (ar S (pv S dim p1) dim))
    else
      match rec c S with
      | none => none
      | some (a, S1) =>
        some (vl S (pv S dim p1) dim + ar S (pv S dim p1) dim * (cg C p1 dim - cg C (pv S dim p1) dim), promo S1 p1 dim a)
  else some (0, areaInit C R S p1 dim)

theorem general_eq (rec : ℕ → St → Option (ℚ × St)) (C : Cargo) (R : List ℚ) (fuel dim c : ℕ) (S : St) :
    general rec C R fuel dim c S =
      match resetLoop dim fuel (pv S dim 0) S with
      | none => none
      | some S1 =>
        match startR rec C R dim (deleteLoop C dim c 0 (pv S dim 0) S1).2.1 (deleteLoop C dim c 0 (pv S dim 0) S1).2.2.1
            (deleteLoop C dim c 0 (pv S dim 0) S1).2.2.2 with
        | none => none
        | some (hv, S2) =>
          match reinsLoop rec C dim fuel (deleteLoop C dim c 0 (pv S dim 0) S1).1 (deleteLoop C dim c 0 (pv S dim 0) S1).2.1 hv
              (deleteLoop C dim c 0 (pv S dim 0) S1).2.2.1 (setVl S2 (deleteLoop C dim c 0 (pv S dim 0) S1).2.1 dim hv) with
          | none => none
          | some (p1, hv', S3) =>
            some (hv' + ar (setBound S3 dim (cg C p1 dim)) p1 dim * (rf R dim - cg C p1 dim), setBound S3 dim (cg C p1 dim)) := by
  rfl

end HvC
