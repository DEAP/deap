import DeapModel.Core.HvSweep
import DeapModel.Lemmas.ListFacts
import Mathlib.Tactic.Linarith
import Mathlib.Data.List.Nodup
/-!
C15 — pointer-level lemmas about the transcription `Core/HvSweep.lean` of pyhv's multi-list:
tables, the doubly linked lists built by `preProcess`, `remove` / `reinsert` are mutually inverse.
-/
namespace HvSweep

/-- a fuelled loop that has `k + 1` steps to go has fuel for the first -/
theorem exists_fuel_succ {k fuel : ℕ} (h : k + 1 ≤ fuel) : ∃ f, fuel = f + 1 ∧ k ≤ f :=
  ⟨fuel - 1, by omega, by omega⟩

theorem tget_tset_self {α : Type} (t : List (List α)) (i a : ℕ) (v d : α)
    (hi : i < t.length) (ha : a < (t.getD i []).length) : tget (tset t i a v) i a d = v := by
  unfold tget tset
  rw [List.getD_set_self _ _ _ _ hi, List.getD_set_self _ _ _ _ ha]

theorem tget_tset_ne {α : Type} (t : List (List α)) (i a j b : ℕ) (v d : α) (h : j ≠ i ∨ b ≠ a) :
    tget (tset t i a v) j b d = tget t j b d := by
  unfold tget tset
  by_cases hj : j = i
  · subst hj
    have hb : b ≠ a := by rcases h with h | h; exact absurd rfl h; exact h
    by_cases hi : j < t.length
    · rw [List.getD_set_self _ _ _ _ hi, List.getD_set_ne _ _ _ hb]
    · rw [List.set_eq_of_length_le (by omega)]
  · rw [List.getD_set_ne _ _ _ hj]

def Shaped {α : Type} (rows cols : ℕ) (t : List (List α)) : Prop :=
  t.length = rows ∧ ∀ j < rows, (t.getD j []).length = cols

theorem shaped_tset {α : Type} {rows cols : ℕ} {t : List (List α)} (h : Shaped rows cols t) (i a : ℕ) (v : α) :
    Shaped rows cols (tset t i a v) := by
  unfold tset
  refine ⟨by simp [h.1], fun j hj => ?_⟩
  by_cases hji : j = i
  · subst hji
    rw [List.getD_set_self _ _ _ _ (by rw [h.1]; exact hj), List.length_set]
    exact h.2 j hj
  · rw [List.getD_set_ne _ _ _ hji]
    exact h.2 j hj

theorem shaped_replicate {α : Type} (rows cols : ℕ) (x : α) :
    Shaped rows cols (List.replicate rows (List.replicate cols x)) := by
  refine ⟨by simp, fun j hj => ?_⟩
  rw [List.getD_eq_getElem?_getD, List.getElem?_replicate]
  simp [hj]

/-- `next` and `prev` have `dims` rows for the ids `0..n` -/
def Shape (dims n : ℕ) (S : St) : Prop := Shaped dims (n + 1) S.next ∧ Shaped dims (n + 1) S.prev

theorem nx_setNx_self {dims n : ℕ} {S : St} (h : Shape dims n S) {i a : ℕ} (hi : i < dims) (ha : a ≤ n) (v : ℕ) :
    nx (setNx S i a v) i a = v := by
  exact tget_tset_self _ _ _ _ _ (by rw [h.1.1]; exact hi) (by rw [h.1.2 i hi]; omega)

theorem nx_setNx_ne (S : St) (i a j b v : ℕ) (h : j ≠ i ∨ b ≠ a) : nx (setNx S i a v) j b = nx S j b := by
  unfold nx setNx; exact tget_tset_ne _ _ _ _ _ _ _ h

theorem pv_setPv_self {dims n : ℕ} {S : St} (h : Shape dims n S) {i a : ℕ} (hi : i < dims) (ha : a ≤ n) (v : ℕ) :
    pv (setPv S i a v) i a = v := by
  exact tget_tset_self _ _ _ _ _ (by rw [h.2.1]; exact hi) (by rw [h.2.2 i hi]; omega)

theorem pv_setPv_ne (S : St) (i a j b v : ℕ) (h : j ≠ i ∨ b ≠ a) : pv (setPv S i a v) j b = pv S j b := by
  unfold pv setPv; exact tget_tset_ne _ _ _ _ _ _ _ h

@[simp] theorem nx_setPv (S : St) (i a v j b : ℕ) : nx (setPv S i a v) j b = nx S j b := rfl
@[simp] theorem pv_setNx (S : St) (i a v j b : ℕ) : pv (setNx S i a v) j b = pv S j b := rfl
@[simp] theorem nx_setAr (S : St) (a i : ℕ) (v : ℚ) (j b : ℕ) : nx (setAr S a i v) j b = nx S j b := rfl
@[simp] theorem pv_setAr (S : St) (a i : ℕ) (v : ℚ) (j b : ℕ) : pv (setAr S a i v) j b = pv S j b := rfl
@[simp] theorem nx_setVl (S : St) (a i : ℕ) (v : ℚ) (j b : ℕ) : nx (setVl S a i v) j b = nx S j b := rfl
@[simp] theorem pv_setVl (S : St) (a i : ℕ) (v : ℚ) (j b : ℕ) : pv (setVl S a i v) j b = pv S j b := rfl
@[simp] theorem nx_setIgn (S : St) (a v j b : ℕ) : nx (setIgn S a v) j b = nx S j b := rfl
@[simp] theorem pv_setIgn (S : St) (a v j b : ℕ) : pv (setIgn S a v) j b = pv S j b := rfl
@[simp] theorem nx_setBound (S : St) (i : ℕ) (v : ℚ) (j b : ℕ) : nx (setBound S i v) j b = nx S j b := rfl
@[simp] theorem pv_setBound (S : St) (i : ℕ) (v : ℚ) (j b : ℕ) : pv (setBound S i v) j b = pv S j b := rfl
@[simp] theorem nx_tick (S : St) (i j b : ℕ) : nx (tick S i) j b = nx S j b := rfl
@[simp] theorem pv_tick (S : St) (i j b : ℕ) : pv (tick S i) j b = pv S j b := rfl

theorem nx_lowerBound (C : Cargo) (S : St) (node i j b : ℕ) : nx (lowerBound C S node i) j b = nx S j b := by
  unfold lowerBound; split <;> rfl
theorem pv_lowerBound (C : Cargo) (S : St) (node i j b : ℕ) : pv (lowerBound C S node i) j b = pv S j b := by
  unfold lowerBound; split <;> rfl

theorem shape_setNx {dims n : ℕ} {S : St} (h : Shape dims n S) (i a v : ℕ) : Shape dims n (setNx S i a v) :=
  ⟨shaped_tset h.1 i a v, h.2⟩
theorem shape_setPv {dims n : ℕ} {S : St} (h : Shape dims n S) (i a v : ℕ) : Shape dims n (setPv S i a v) :=
  ⟨h.1, shaped_tset h.2 i a v⟩
theorem shape_lowerBound {dims n : ℕ} {S : St} (h : Shape dims n S) (C : Cargo) (node i : ℕ) :
    Shape dims n (lowerBound C S node i) := by
  unfold lowerBound; split <;> exact h

def PtrEq (S T : St) : Prop := ∀ i a, nx T i a = nx S i a ∧ pv T i a = pv S i a

theorem PtrEq.refl (S : St) : PtrEq S S := fun _ _ => ⟨rfl, rfl⟩
theorem PtrEq.symm {S T : St} (h : PtrEq S T) : PtrEq T S := fun i a => ⟨(h i a).1.symm, (h i a).2.symm⟩
theorem PtrEq.trans {S T U : St} (h₁ : PtrEq S T) (h₂ : PtrEq T U) : PtrEq S U :=
  fun i a => ⟨(h₂ i a).1.trans (h₁ i a).1, (h₂ i a).2.trans (h₁ i a).2⟩

theorem ptrEq_of_fields {S T : St} (h1 : T.next = S.next) (h2 : T.prev = S.prev) : PtrEq S T := by
  intro i a
  unfold nx pv
  rw [h1, h2]
  exact ⟨rfl, rfl⟩

theorem shape_ptr_fields {dims n : ℕ} {S T : St} (h : Shape dims n S) (h1 : T.next = S.next) (h2 : T.prev = S.prev) :
    Shape dims n T := by
  unfold Shape; rw [h1, h2]; exact h

theorem ar_of_area {S T : St} (h : T.area = S.area) (a i : ℕ) : ar T a i = ar S a i := by unfold ar; rw [h]
theorem vl_of_volume {S T : St} (h : T.volume = S.volume) (a i : ℕ) : vl T a i = vl S a i := by unfold vl; rw [h]
theorem ign_of_ignore {S T : St} (h : T.ignore = S.ignore) (a : ℕ) : ign T a = ign S a := by unfold ign; rw [h]

theorem ar_setAr_ne (S : St) (a i b j : ℕ) (v : ℚ) (h : b ≠ a ∨ j ≠ i) : ar (setAr S a i v) b j = ar S b j := by
  exact tget_tset_ne _ _ _ _ _ _ _ h

theorem vl_setVl_ne (S : St) (a i b j : ℕ) (v : ℚ) (h : b ≠ a ∨ j ≠ i) : vl (setVl S a i v) b j = vl S b j := by
  exact tget_tset_ne _ _ _ _ _ _ _ h

theorem ign_setIgn_self (S : St) (a v : ℕ) (h : a < S.ignore.length) : ign (setIgn S a v) a = v := by
  unfold ign setIgn; exact List.getD_set_self _ _ _ _ h

theorem ign_setIgn_ne (S : St) (a v b : ℕ) (h : b ≠ a) : ign (setIgn S a v) b = ign S b := by
  unfold ign setIgn; exact List.getD_set_ne _ _ _ h

/-- `a` and `b` are neighbours in the list of dimension `i` -/
def Link (S : St) (i a b : ℕ) : Prop := nx S i a = b ∧ pv S i b = a

/-- the nodes `l` are linked, in this order, between `a` and `e` -/
def Seg (S : St) (i : ℕ) : ℕ → List ℕ → ℕ → Prop
  | a, [], e => Link S i a e
  | a, b :: l, e => Link S i a b ∧ Seg S i b l e

/-- the list of dimension `i` is the circular doubly linked list `sentinel, L…, sentinel` -/
def DL (n : ℕ) (S : St) (i : ℕ) (L : List ℕ) : Prop :=
  Seg S i 0 L 0 ∧ L.Nodup ∧ ∀ a ∈ L, 1 ≤ a ∧ a ≤ n

theorem seg_append (S : St) (i : ℕ) : ∀ (l₁ : List ℕ) (a b : ℕ) (l₂ : List ℕ) (e : ℕ),
    Seg S i a (l₁ ++ b :: l₂) e ↔ Seg S i a l₁ b ∧ Seg S i b l₂ e
  | [], a, b, l₂, e => by simp [Seg]
  | c :: l₁, a, b, l₂, e => by
    simp only [List.cons_append, Seg, seg_append S i l₁ c b l₂ e, and_assoc]

theorem seg_congr {S T : St} {i : ℕ} (h : ∀ a, nx T i a = nx S i a ∧ pv T i a = pv S i a) :
    ∀ (l : List ℕ) (a e : ℕ), Seg S i a l e → Seg T i a l e
  | [], a, e, hs => ⟨(h a).1.trans hs.1, (h e).2.trans hs.2⟩
  | b :: l, a, e, hs => ⟨⟨(h a).1.trans hs.1.1, (h b).2.trans hs.1.2⟩, seg_congr h l b e hs.2⟩

theorem dl_congr {n : ℕ} {S T : St} {i : ℕ} {L : List ℕ}
    (h : ∀ a, nx T i a = nx S i a ∧ pv T i a = pv S i a) (hd : DL n S i L) : DL n T i L :=
  ⟨seg_congr h L 0 0 hd.1, hd.2⟩

theorem dl_ptrEq {n : ℕ} {S T : St} {i : ℕ} {L : List ℕ} (h : PtrEq S T) (hd : DL n S i L) : DL n T i L :=
  dl_congr (fun a => h i a) hd

theorem seg_pv_end (S : St) (i : ℕ) : ∀ (l : List ℕ) (a e : ℕ), Seg S i a l e → pv S i e = (a :: l).getLast (by simp)
  | [], a, e, h => h.2
  | b :: l, a, e, h => by
    rw [List.getLast_cons (by simp)]
    exact seg_pv_end S i l b e h.2

theorem seg_nx_start (S : St) (i : ℕ) (l : List ℕ) (a e : ℕ) (h : Seg S i a l e) :
    nx S i a = (l ++ [e]).head (by simp) := by
  cases l with
  | nil => exact h.1
  | cons b l => exact h.1.1

/-- one iteration of the loop of `extend` -/
def extendStep (S : St) (index node : ℕ) : St :=
  let lastButOne := pv S index 0
  setNx (setPv (setPv (setNx S index node 0) index node lastButOne) index 0 node) index lastButOne node

theorem extend_cons (S : St) (x : ℕ) (xs : List ℕ) (i : ℕ) :
    extend S (x :: xs) i = extend (extendStep S i x) xs i := rfl

theorem shape_extendStep {dims n : ℕ} {S : St} (h : Shape dims n S) (i x : ℕ) : Shape dims n (extendStep S i x) :=
  shape_setNx (shape_setPv (shape_setPv (shape_setNx h _ _ _) _ _ _) _ _ _) _ _ _

theorem extendStep_other (S : St) (i x j a : ℕ) (hj : j ≠ i) :
    nx (extendStep S i x) j a = nx S j a ∧ pv (extendStep S i x) j a = pv S j a := by
  unfold extendStep
  refine ⟨?_, ?_⟩
  · rw [nx_setNx_ne _ _ _ _ _ _ (Or.inl hj), nx_setPv, nx_setPv, nx_setNx_ne _ _ _ _ _ _ (Or.inl hj)]
  · rw [pv_setNx, pv_setPv_ne _ _ _ _ _ _ (Or.inl hj), pv_setPv_ne _ _ _ _ _ _ (Or.inl hj), pv_setNx]

theorem extendStep_nx {dims n : ℕ} {S : St} (h : Shape dims n S) {i x : ℕ} (hi : i < dims) (hx : x ≤ n)
    (hlb : pv S i 0 ≤ n) (a : ℕ) :
    nx (extendStep S i x) i a = if a = pv S i 0 then x else if a = x then 0 else nx S i a := by
  unfold extendStep
  simp only
  by_cases h1 : a = pv S i 0
  · rw [if_pos h1, h1]
    exact nx_setNx_self (shape_setPv (shape_setPv (shape_setNx h _ _ _) _ _ _) _ _ _) hi hlb _
  · rw [if_neg h1, nx_setNx_ne _ _ _ _ _ _ (Or.inr h1)]
    simp only [nx_setPv]
    by_cases h2 : a = x
    · rw [if_pos h2, h2]; exact nx_setNx_self h hi hx _
    · rw [if_neg h2, nx_setNx_ne _ _ _ _ _ _ (Or.inr h2)]

theorem extendStep_pv {dims n : ℕ} {S : St} (h : Shape dims n S) {i x : ℕ} (hi : i < dims) (hx : x ≤ n)
    (a : ℕ) :
    pv (extendStep S i x) i a = if a = 0 then x else if a = x then pv S i 0 else pv S i a := by
  unfold extendStep
  simp only [pv_setNx]
  by_cases h1 : a = 0
  · rw [if_pos h1, h1]
    exact pv_setPv_self (shape_setPv (shape_setNx h _ _ _) _ _ _) hi (Nat.zero_le _) _
  · rw [if_neg h1, pv_setPv_ne _ _ _ _ _ _ (Or.inr h1)]
    by_cases h2 : a = x
    · rw [if_pos h2, h2]; exact pv_setPv_self (shape_setNx h _ _ _) hi hx _
    · rw [if_neg h2, pv_setPv_ne _ _ _ _ _ _ (Or.inr h2)]
      rfl

theorem seg_frame {S T : St} {i : ℕ} : ∀ (l : List ℕ) (a e : ℕ), Seg S i a l e →
    (∀ c ∈ a :: l, nx T i c = nx S i c) → (∀ c ∈ l ++ [e], pv T i c = pv S i c) → Seg T i a l e
  | [], a, e, hs, h1, h2 => ⟨(h1 a (by simp)).trans hs.1, (h2 e (by simp)).trans hs.2⟩
  | b :: l, a, e, hs, h1, h2 =>
    ⟨⟨(h1 a (by simp)).trans hs.1.1, (h2 b (by simp)).trans hs.1.2⟩,
     seg_frame l b e hs.2 (fun c hc => h1 c (List.mem_cons_of_mem _ hc)) (fun c hc => h2 c (List.mem_cons_of_mem _ hc))⟩

/-- a segment whose last node `u` gets a new successor `e'` while the other links stay -/
theorem seg_retarget {S T : St} {i u e' : ℕ} (hu : nx T i u = e') (he : pv T i e' = u) :
    ∀ (l : List ℕ) (a e : ℕ), Seg S i a l e → (a :: l).getLast (by simp) = u →
      (∀ c ∈ a :: l, c ≠ u → nx T i c = nx S i c) → (∀ c ∈ l, pv T i c = pv S i c) → (a :: l).Nodup →
      Seg T i a l e'
  | [], a, e, _, hl, _, _, _ => by
    obtain rfl : a = u := hl
    exact ⟨hu, he⟩
  | b :: l, a, e, hs, hl, h1, h2, hnd => by
    have hnd' := List.nodup_cons.mp hnd
    have hl' : (b :: l).getLast (by simp) = u := by rwa [List.getLast_cons (by simp)] at hl
    have hau : a ≠ u := fun e => hnd'.1 (e ▸ hl' ▸ List.getLast_mem _)
    exact ⟨⟨(h1 a (by simp) hau).trans hs.1.1, (h2 b (by simp)).trans hs.1.2⟩,
      seg_retarget hu he l b e hs.2 hl' (fun c hc => h1 c (List.mem_cons_of_mem _ hc))
        (fun c hc => h2 c (List.mem_cons_of_mem _ hc)) hnd'.2⟩

theorem seg_extendStep {dims n : ℕ} {S : St} (h : Shape dims n S) {i x : ℕ} (hi : i < dims) (hx : x ≤ n)
    (hx0 : x ≠ 0) (hlb : pv S i 0 ≤ n) (l : List ℕ) (a : ℕ) (hs : Seg S i a l 0) (hnd : (a :: l).Nodup)
    (hx' : x ∉ a :: l) (h0 : 0 ∉ l) : Seg (extendStep S i x) i a (l ++ [x]) 0 := by
  have hlast : (a :: l).getLast (by simp) = pv S i 0 := (seg_pv_end S i l a 0 hs).symm
  have hne : pv S i 0 ≠ x := fun e => hx' (e ▸ hlast ▸ List.getLast_mem _)
  refine (seg_append _ i l a x [] 0).mpr ⟨seg_retarget ?_ ?_ l a 0 hs hlast ?_ ?_ hnd, ?_, ?_⟩
  · rw [extendStep_nx h hi hx hlb, if_pos rfl]
  · rw [extendStep_pv h hi hx, if_neg hx0, if_pos rfl]
  · intro c hc hcu
    rw [extendStep_nx h hi hx hlb, if_neg hcu, if_neg (show c ≠ x from fun e => hx' (e ▸ hc))]
  · intro c hc
    rw [extendStep_pv h hi hx, if_neg (show c ≠ 0 from fun e => h0 (e ▸ hc)),
      if_neg (show c ≠ x from fun e => hx' (e ▸ List.mem_cons_of_mem _ hc))]
  · rw [extendStep_nx h hi hx hlb, if_neg (Ne.symm hne), if_pos rfl]
  · rw [extendStep_pv h hi hx, if_pos rfl]

theorem dl_extend {dims n : ℕ} {i : ℕ} (hi : i < dims) : ∀ (xs : List ℕ) (S : St) (L : List ℕ),
    Shape dims n S → DL n S i L → (L ++ xs).Nodup → (∀ x ∈ xs, 1 ≤ x ∧ x ≤ n) →
    Shape dims n (extend S xs i) ∧ DL n (extend S xs i) i (L ++ xs) ∧
      ∀ j a, j ≠ i → nx (extend S xs i) j a = nx S j a ∧ pv (extend S xs i) j a = pv S j a
  | [], S, L, hS, hd, _, _ => by
    simp only [List.append_nil]
    exact ⟨hS, hd, fun _ _ _ => ⟨rfl, rfl⟩⟩
  | x :: xs, S, L, hS, hd, hnd, hr => by
    rw [extend_cons]
    have hx := hr x (by simp)
    have hxL : x ∉ L := by
      intro hm
      have := List.nodup_append.mp hnd
      exact this.2.2 x hm x (by simp) rfl
    have hlb : pv S i 0 ≤ n := by
      rw [seg_pv_end S i L 0 0 hd.1]
      have := List.getLast_mem (l := 0 :: L) (by simp)
      rcases List.mem_cons.mp this with h0 | hm
      · rw [h0]; exact Nat.zero_le _
      · exact (hd.2.2 _ hm).2
    have h0L : 0 ∉ L := fun hm => by have := (hd.2.2 0 hm).1; omega
    have hseg := seg_extendStep hS hi hx.2 (by omega) hlb L 0 hd.1
      (List.nodup_cons.mpr ⟨h0L, hd.2.1⟩)
      (by intro hm; rcases List.mem_cons.mp hm with h | h; omega; exact hxL h) h0L
    have hnd1 : (L ++ [x]).Nodup := by
      have := hnd
      rw [show L ++ x :: xs = (L ++ [x]) ++ xs by simp] at this
      exact (List.nodup_append.mp this).1
    have hdl : DL n (extendStep S i x) i (L ++ [x]) := by
      refine ⟨hseg, hnd1, ?_⟩
      intro a ha
      rcases List.mem_append.mp ha with h | h
      · exact hd.2.2 a h
      · simp at h; rw [h]; exact hx
    obtain ⟨h1, h2, h3⟩ := dl_extend hi xs (extendStep S i x) (L ++ [x]) (shape_extendStep hS i x) hdl
      (by simpa using hnd) (fun y hy => hr y (by simp [hy]))
    refine ⟨h1, by simpa using h2, ?_⟩
    intro j a hj
    have := extendStep_other S i x j a hj
    exact ⟨(h3 j a hj).1.trans this.1, (h3 j a hj).2.trans this.2⟩

/-- the node orders produced by the loop of `preProcess`: dimension `i` of `is` gets the stable sort by
coordinate `i` of the order of the previous dimension -/
def cum (C : Cargo) : List ℕ → List ℕ → List (ℕ × List ℕ)
  | [], _ => []
  | i :: is, nodes => (i, sortByDimension C nodes i) :: cum C is (sortByDimension C nodes i)

theorem sortByDimension_perm (C : Cargo) (nodes : List ℕ) (i : ℕ) : (sortByDimension C nodes i).Perm nodes :=
  List.mergeSort_perm _ _

theorem cum_perm (C : Cargo) : ∀ (is nodes : List ℕ) (i : ℕ) (L : List ℕ), (i, L) ∈ cum C is nodes → L.Perm nodes
  | [], _, _, _, h => by simp [cum] at h
  | j :: is, nodes, i, L, h => by
    simp only [cum, List.mem_cons, Prod.mk.injEq] at h
    rcases h with ⟨_, rfl⟩ | h
    · exact sortByDimension_perm C nodes j
    · exact (cum_perm C is _ i L h).trans (sortByDimension_perm C nodes j)

theorem cum_fst (C : Cargo) : ∀ (is nodes : List ℕ) (i : ℕ) (L : List ℕ), (i, L) ∈ cum C is nodes → i ∈ is
  | [], _, _, _, h => by simp [cum] at h
  | j :: is, nodes, i, L, h => by
    simp only [cum, List.mem_cons, Prod.mk.injEq] at h
    rcases h with ⟨rfl, _⟩ | h
    · simp
    · exact List.mem_cons_of_mem _ (cum_fst C is _ i L h)

theorem cum_exists (C : Cargo) : ∀ (is nodes : List ℕ) (i : ℕ), i ∈ is → ∃ L, (i, L) ∈ cum C is nodes
  | j :: is, nodes, i, h => by
    rcases List.mem_cons.mp h with rfl | h
    · exact ⟨sortByDimension C nodes i, by simp [cum]⟩
    · obtain ⟨L, hL⟩ := cum_exists C is (sortByDimension C nodes j) i h
      exact ⟨L, by simp [cum, hL]⟩

theorem preLoop_spec (C : Cargo) {dims n : ℕ} : ∀ (is : List ℕ) (S : St) (nodes : List ℕ),
    is.Nodup → (∀ i ∈ is, i < dims) → Shape dims n S → nodes.Nodup → (∀ x ∈ nodes, 1 ≤ x ∧ x ≤ n) →
    (∀ i ∈ is, DL n S i []) →
    Shape dims n (preLoop C is S nodes) ∧ (∀ i L, (i, L) ∈ cum C is nodes → DL n (preLoop C is S nodes) i L) ∧
      ∀ j a, j ∉ is → nx (preLoop C is S nodes) j a = nx S j a ∧ pv (preLoop C is S nodes) j a = pv S j a
  | [], S, nodes, _, _, hS, _, _, _ => ⟨hS, by simp [cum], fun _ _ _ => ⟨rfl, rfl⟩⟩
  | i :: is, S, nodes, hnd, hlt, hS, hn, hr, hd => by
    have hnd' := List.nodup_cons.mp hnd
    have hperm := sortByDimension_perm C nodes i
    have hn' : (sortByDimension C nodes i).Nodup := hperm.nodup_iff.mpr hn
    have hr' : ∀ x ∈ sortByDimension C nodes i, 1 ≤ x ∧ x ≤ n := fun x hx => hr x (hperm.mem_iff.mp hx)
    obtain ⟨e1, e2, e3⟩ := dl_extend (hlt i (by simp)) (sortByDimension C nodes i) S [] hS (hd i (by simp))
      (by simpa using hn') hr'
    simp only [List.nil_append] at e2
    have hd' : ∀ j ∈ is, DL n (extend S (sortByDimension C nodes i) i) j [] := by
      intro j hj
      have hji : j ≠ i := fun e => hnd'.1 (e ▸ hj)
      exact dl_congr (fun a => e3 j a hji) (hd j (by simp [hj]))
    obtain ⟨f1, f2, f3⟩ := preLoop_spec C is (extend S (sortByDimension C nodes i) i) (sortByDimension C nodes i)
      hnd'.2 (fun j hj => hlt j (by simp [hj])) e1 hn' hr' hd'
    refine ⟨f1, ?_, ?_⟩
    · intro j L hjL
      simp only [cum, List.mem_cons, Prod.mk.injEq] at hjL
      rcases hjL with ⟨rfl, rfl⟩ | hjL
      · exact dl_congr (fun a => f3 j a hnd'.1) e2
      · exact f2 j L hjL
    · intro j a hj
      have hji : j ≠ i := fun e => hj (by simp [e])
      have hjs : j ∉ is := fun h => hj (by simp [h])
      exact ⟨(f3 j a hjs).1.trans (e3 j a hji).1, (f3 j a hjs).2.trans (e3 j a hji).2⟩

theorem shape_initSt (dims n : ℕ) : Shape dims n (initSt dims n) :=
  ⟨shaped_replicate dims (n + 1) 0, shaped_replicate dims (n + 1) 0⟩

theorem getD_replicate_self {α : Type} (m a : ℕ) (x : α) : (List.replicate m x).getD a x = x := by
  rw [List.getD_eq_getElem?_getD, List.getElem?_replicate]
  split <;> rfl

theorem tget_replicate_zero (dims m i a : ℕ) : tget (List.replicate dims (List.replicate m 0)) i a 0 = 0 := by
  unfold tget
  by_cases h : i < dims
  · have : (List.replicate dims (List.replicate m 0)).getD i [] = List.replicate m 0 := by
      rw [List.getD_eq_getElem?_getD, List.getElem?_replicate, if_pos h]; rfl
    rw [this, getD_replicate_self]
  · have : (List.replicate dims (List.replicate m 0)).getD i [] = [] := by
      rw [List.getD_eq_getElem?_getD, List.getElem?_replicate, if_neg h]; rfl
    rw [this]; rfl

theorem dl_initSt (dims n i : ℕ) : DL n (initSt dims n) i [] :=
  ⟨⟨tget_replicate_zero _ _ _ _, tget_replicate_zero _ _ _ _⟩, List.nodup_nil, by simp⟩

def ids (n : ℕ) : List ℕ := (List.range n).map (· + 1)

theorem ids_nodup (n : ℕ) : (ids n).Nodup :=
  List.Nodup.map (fun a b h => by simpa using h) List.nodup_range

theorem mem_ids (n x : ℕ) : x ∈ ids n ↔ 1 ≤ x ∧ x ≤ n := by
  unfold ids
  simp only [List.mem_map, List.mem_range]
  constructor
  · rintro ⟨a, ha, rfl⟩; omega
  · rintro ⟨h1, h2⟩; exact ⟨x - 1, by omega, by omega⟩

/-- **`preProcess` builds, in every dimension, the doubly linked list of the cumulative stable sort.** -/
theorem preProcess_spec (C : Cargo) (dims n : ℕ) :
    Shape dims n (preProcess C dims n) ∧
      ∀ i L, (i, L) ∈ cum C (List.range dims) (ids n) → DL n (preProcess C dims n) i L := by
  obtain ⟨h1, h2, _⟩ := preLoop_spec C (dims := dims) (n := n) (List.range dims) (initSt dims n) (ids n)
    List.nodup_range (fun i hi => List.mem_range.mp hi) (shape_initSt dims n) (ids_nodup n)
    (fun x hx => (mem_ids n x).mp hx) (fun i _ => dl_initSt dims n i)
  exact ⟨h1, h2⟩

theorem extend_field {α : Type} (f : St → α) (hn : ∀ S i a v, f (setNx S i a v) = f S)
    (hp : ∀ S i a v, f (setPv S i a v) = f S) (i : ℕ) : ∀ (nodes : List ℕ) (S : St), f (extend S nodes i) = f S
  | [], _ => rfl
  | x :: xs, S => by
    rw [extend_cons, extend_field f hn hp i xs]
    unfold extendStep
    rw [hn, hp, hp, hn]

theorem preLoop_field {α : Type} (f : St → α) (hn : ∀ S i a v, f (setNx S i a v) = f S)
    (hp : ∀ S i a v, f (setPv S i a v) = f S) (C : Cargo) :
    ∀ (is : List ℕ) (S : St) (nodes : List ℕ), f (preLoop C is S nodes) = f S
  | [], _, _ => rfl
  | i :: is, S, _ => (preLoop_field f hn hp C is _ _).trans (extend_field f hn hp i _ S)

theorem preProcess_field {α : Type} (f : St → α) (hn : ∀ S i a v, f (setNx S i a v) = f S)
    (hp : ∀ S i a v, f (setPv S i a v) = f S) (C : Cargo) (dims n : ℕ) :
    f (preProcess C dims n) = f (initSt dims n) :=
  preLoop_field f hn hp C _ _ _

structure SameAIB (S T : St) : Prop where
  area : T.area = S.area
  ignore : T.ignore = S.ignore
  bounds : T.bounds = S.bounds

theorem preProcess_fields (C : Cargo) (dims n : ℕ) : SameAIB (initSt dims n) (preProcess C dims n) :=
  ⟨preProcess_field (·.area) (fun _ _ _ _ => rfl) (fun _ _ _ _ => rfl) C dims n,
   preProcess_field (·.ignore) (fun _ _ _ _ => rfl) (fun _ _ _ _ => rfl) C dims n,
   preProcess_field (·.bounds) (fun _ _ _ _ => rfl) (fun _ _ _ _ => rfl) C dims n⟩

def DimEq (i : ℕ) (S T : St) : Prop := ∀ a, nx T i a = nx S i a ∧ pv T i a = pv S i a

theorem DimEq.refl (i : ℕ) (S : St) : DimEq i S S := fun _ => ⟨rfl, rfl⟩
theorem DimEq.symm {i : ℕ} {S T : St} (h : DimEq i S T) : DimEq i T S := fun a => ⟨(h a).1.symm, (h a).2.symm⟩
theorem DimEq.trans {i : ℕ} {S T U : St} (h₁ : DimEq i S T) (h₂ : DimEq i T U) : DimEq i S U :=
  fun a => ⟨(h₂ a).1.trans (h₁ a).1, (h₂ a).2.trans (h₁ a).2⟩
theorem PtrEq.dim {S T : St} (h : PtrEq S T) (i : ℕ) : DimEq i S T := fun a => h i a
theorem ptrEq_of_dims {S T : St} (h : ∀ i, DimEq i S T) : PtrEq S T := fun i a => h i a

/-- the pointer updates of `remove` in dimension `i` -/
def unlink (S : St) (i x : ℕ) : St := setPv (setNx S i (pv S i x) (nx S i x)) i (nx S i x) (pv S i x)

/-- the pointer updates of `reinsert` in dimension `i` -/
def relink (S : St) (i x : ℕ) : St :=
  let S₁ := setNx S i (pv S i x) x
  setPv S₁ i (nx S₁ i x) x

theorem shape_unlink {dims n : ℕ} {S : St} (h : Shape dims n S) (i x : ℕ) : Shape dims n (unlink S i x) :=
  shape_setPv (shape_setNx h _ _ _) _ _ _
theorem shape_relink {dims n : ℕ} {S : St} (h : Shape dims n S) (i x : ℕ) : Shape dims n (relink S i x) :=
  shape_setPv (shape_setNx h _ _ _) _ _ _

theorem unlink_other (S : St) (i x j : ℕ) (hj : j ≠ i) : DimEq j S (unlink S i x) := by
  intro a
  unfold unlink
  exact ⟨by rw [nx_setPv, nx_setNx_ne _ _ _ _ _ _ (Or.inl hj)], by rw [pv_setPv_ne _ _ _ _ _ _ (Or.inl hj), pv_setNx]⟩

theorem relink_other (S : St) (i x j : ℕ) (hj : j ≠ i) : DimEq j S (relink S i x) := by
  intro a
  unfold relink
  simp only
  exact ⟨by rw [nx_setPv, nx_setNx_ne _ _ _ _ _ _ (Or.inl hj)], by rw [pv_setPv_ne _ _ _ _ _ _ (Or.inl hj), pv_setNx]⟩

theorem nx_unlink {dims n : ℕ} {S : St} (h : Shape dims n S) {i x : ℕ} (hi : i < dims) (hp : pv S i x ≤ n) (a : ℕ) :
    nx (unlink S i x) i a = if a = pv S i x then nx S i x else nx S i a := by
  unfold unlink
  rw [nx_setPv]
  by_cases ha : a = pv S i x
  · rw [if_pos ha, ha]; exact nx_setNx_self h hi hp _
  · rw [if_neg ha, nx_setNx_ne _ _ _ _ _ _ (Or.inr ha)]

theorem pv_unlink {dims n : ℕ} {S : St} (h : Shape dims n S) {i x : ℕ} (hi : i < dims) (hn : nx S i x ≤ n) (a : ℕ) :
    pv (unlink S i x) i a = if a = nx S i x then pv S i x else pv S i a := by
  unfold unlink
  by_cases ha : a = nx S i x
  · rw [if_pos ha, ha]; exact pv_setPv_self (shape_setNx h _ _ _) hi hn _
  · rw [if_neg ha, pv_setPv_ne _ _ _ _ _ _ (Or.inr ha), pv_setNx]

theorem nx_relink {dims n : ℕ} {S : St} (h : Shape dims n S) {i x : ℕ} (hi : i < dims) (hp : pv S i x ≤ n) (a : ℕ) :
    nx (relink S i x) i a = if a = pv S i x then x else nx S i a := by
  unfold relink
  simp only
  rw [nx_setPv]
  by_cases ha : a = pv S i x
  · rw [if_pos ha, ha]; exact nx_setNx_self h hi hp _
  · rw [if_neg ha, nx_setNx_ne _ _ _ _ _ _ (Or.inr ha)]

theorem pv_relink {dims n : ℕ} {S : St} (h : Shape dims n S) {i x : ℕ} (hi : i < dims) (hn : nx S i x ≤ n)
    (hpx : pv S i x ≠ x) (a : ℕ) :
    pv (relink S i x) i a = if a = nx S i x then x else pv S i a := by
  unfold relink
  simp only
  have h1 : nx (setNx S i (pv S i x) x) i x = nx S i x := nx_setNx_ne _ _ _ _ _ _ (Or.inr (Ne.symm hpx))
  rw [h1]
  by_cases ha : a = nx S i x
  · rw [if_pos ha, ha]; exact pv_setPv_self (shape_setNx h _ _ _) hi hn _
  · rw [if_neg ha, pv_setPv_ne _ _ _ _ _ _ (Or.inr ha), pv_setNx]

theorem seg_node (S : St) (i : ℕ) : ∀ (l₁ : List ℕ) (s x : ℕ) (l₂ : List ℕ) (e : ℕ), Seg S i s (l₁ ++ x :: l₂) e →
    pv S i x = (s :: l₁).getLast (by simp) ∧ nx S i x = (l₂ ++ [e]).head (by simp) ∧
      nx S i (pv S i x) = x ∧ pv S i (nx S i x) = x
  | [], s, x, l₂, e, h => by
    have h1 : Link S i s x := h.1
    have h2 := seg_nx_start S i l₂ x e h.2
    refine ⟨h1.2, h2, by rw [h1.2]; exact h1.1, ?_⟩
    cases l₂ with
    | nil => have := h.2.1; rw [this]; exact h.2.2
    | cons b l => have := h.2.1.1; rw [this]; exact h.2.1.2
  | b :: l₁, s, x, l₂, e, h => by
    obtain ⟨e1, e2, e3, e4⟩ := seg_node S i l₁ b x l₂ e h.2
    exact ⟨by rw [List.getLast_cons (by simp)]; exact e1, e2, e3, e4⟩

theorem seg_unlink {dims n : ℕ} {S : St} (hS : Shape dims n S) {i x : ℕ} (hi : i < dims)
    (hp : pv S i x ≤ n) (hn : nx S i x ≤ n) (l₁ : List ℕ) (s : ℕ) (l₂ : List ℕ) (e : ℕ)
    (h : Seg S i s (l₁ ++ x :: l₂) e) (hnd : (s :: (l₁ ++ x :: l₂)).Nodup) (he : e ∉ l₁ ++ x :: l₂) :
    Seg (unlink S i x) i s (l₁ ++ l₂) e := by
  obtain ⟨h1, h2⟩ := (seg_append S i l₁ s x l₂ e).mp h
  have hu : (s :: l₁).getLast (by simp) = pv S i x := (seg_pv_end S i l₁ s x h1).symm
  have hw := seg_nx_start S i l₂ x e h2
  have hnd1 : (s :: l₁).Nodup := hnd.sublist ((List.sublist_append_left l₁ _).cons_cons s)
  have hndl := List.nodup_append.mp (List.nodup_cons.mp hnd).2
  -- the nodes before `x` (and `s`) do not occur behind it
  have hsep : ∀ c ∈ s :: l₁, c ∉ l₂ := fun c hc hc2 => by
    rcases List.mem_cons.mp hc with rfl | hc
    · exact (List.nodup_cons.mp hnd).1 (List.mem_append_right _ (List.mem_cons_of_mem _ hc2))
    · exact hndl.2.2 c hc c (List.mem_cons_of_mem _ hc2) rfl
  have first : Seg (unlink S i x) i s l₁ (nx S i x) :=
    seg_retarget (by rw [nx_unlink hS hi hp, if_pos rfl]) (by rw [pv_unlink hS hi hn, if_pos rfl]) l₁ s x h1 hu
      (fun c _ hcu => by rw [nx_unlink hS hi hp, if_neg hcu])
      (fun c hc => by
        rw [pv_unlink hS hi hn, if_neg]
        intro ecw
        have : c ∈ l₂ ++ [e] := ecw ▸ hw ▸ List.head_mem _
        rcases List.mem_append.mp this with h3 | h3
        · exact hsep c (List.mem_cons_of_mem _ hc) h3
        · exact he (List.mem_append_left _ (List.mem_singleton.mp h3 ▸ hc))) hnd1
  cases l₂ with
  | nil => rwa [List.append_nil, ← show nx S i x = e from hw]
  | cons w l₂' =>
    have hwx : nx S i x = w := hw
    rw [hwx] at first
    have hnd2 := List.nodup_cons.mp (List.nodup_cons.mp hndl.2.1).2
    refine (seg_append _ i l₁ s w l₂' e).mpr ⟨first, seg_frame l₂' w e h2.2 (fun c hc => ?_) (fun c hc => ?_)⟩
    · rw [nx_unlink hS hi hp, if_neg]
      exact fun ecu => hsep c (ecu ▸ hu ▸ List.getLast_mem _) hc
    · rw [pv_unlink hS hi hn, if_neg]
      rw [hwx]
      intro ecw
      rcases List.mem_append.mp hc with h3 | h3
      · exact hnd2.1 (ecw ▸ h3)
      · exact he (List.mem_append_right _ (List.mem_cons_of_mem _ (List.mem_singleton.mp h3 ▸ ecw ▸ List.mem_cons_self)))

/-- what a well-formed list says about one of its nodes -/
structure NodeFacts (n : ℕ) (S : St) (i x : ℕ) : Prop where
  pv_le : pv S i x ≤ n
  nx_le : nx S i x ≤ n
  pv_ne : pv S i x ≠ x
  nx_ne : nx S i x ≠ x
  nx_pv : nx S i (pv S i x) = x
  pv_nx : pv S i (nx S i x) = x

theorem dl_zero_notMem {n : ℕ} {S : St} {i : ℕ} {L : List ℕ} (hd : DL n S i L) : 0 ∉ L :=
  fun hm => by have := (hd.2.2 0 hm).1; omega

theorem dl_nodeFacts {n : ℕ} {S : St} {i : ℕ} {L : List ℕ} (hd : DL n S i L) {x : ℕ} (hx : x ∈ L) :
    NodeFacts n S i x := by
  obtain ⟨l₁, l₂, rfl⟩ := List.append_of_mem hx
  obtain ⟨e1, e2, e3, e4⟩ := seg_node S i l₁ 0 x l₂ 0 hd.1
  have hnd := List.nodup_append.mp hd.2.1
  have hnd2 := List.nodup_cons.mp hnd.2.1
  have hx0 : x ≠ 0 := fun h => dl_zero_notMem hd (h ▸ hx)
  have hpm : pv S i x ∈ 0 :: l₁ := e1 ▸ List.getLast_mem _
  have hnm : nx S i x ∈ l₂ ++ [0] := e2 ▸ List.head_mem _
  refine ⟨?_, ?_, ?_, ?_, e3, e4⟩
  · rcases List.mem_cons.mp hpm with h | h
    · rw [h]; exact Nat.zero_le _
    · exact (hd.2.2 _ (List.mem_append_left _ h)).2
  · rcases List.mem_append.mp hnm with h | h
    · exact (hd.2.2 _ (List.mem_append_right _ (List.mem_cons_of_mem _ h))).2
    · simp at h; rw [h]; exact Nat.zero_le _
  · intro h
    rw [h] at hpm
    rcases List.mem_cons.mp hpm with h' | h'
    · exact hx0 h'
    · exact hnd.2.2 x h' x (by simp) rfl
  · intro h
    rw [h] at hnm
    rcases List.mem_append.mp hnm with h' | h'
    · exact hnd2.1 h'
    · simp at h'; exact hx0 h'

/-- unlinking a node leaves its own pointers as they were -/
theorem unlink_self {dims n : ℕ} {S : St} (hS : Shape dims n S) {i x : ℕ} (hi : i < dims) (nf : NodeFacts n S i x) :
    nx (unlink S i x) i x = nx S i x ∧ pv (unlink S i x) i x = pv S i x :=
  ⟨by rw [nx_unlink hS hi nf.pv_le, if_neg (Ne.symm nf.pv_ne)], by rw [pv_unlink hS hi nf.nx_le, if_neg (Ne.symm nf.nx_ne)]⟩

theorem dl_unlink {dims n : ℕ} {S : St} (hS : Shape dims n S) {i : ℕ} (hi : i < dims) {L : List ℕ}
    (hd : DL n S i L) {x : ℕ} (hx : x ∈ L) :
    DL n (unlink S i x) i (L.erase x) ∧ nx (unlink S i x) i x = nx S i x ∧ pv (unlink S i x) i x = pv S i x := by
  have nf := dl_nodeFacts hd hx
  obtain ⟨l₁, l₂, rfl⟩ := List.append_of_mem hx
  have hnd := List.nodup_append.mp hd.2.1
  have hnd2 := List.nodup_cons.mp hnd.2.1
  have hxl1 : x ∉ l₁ := fun h => hnd.2.2 x h x (by simp) rfl
  have herase : (l₁ ++ x :: l₂).erase x = l₁ ++ l₂ := by
    rw [List.erase_append_right _ hxl1, List.erase_cons_head]
  have h0 := dl_zero_notMem hd
  refine ⟨⟨?_, ?_, ?_⟩, unlink_self hS hi nf⟩
  · rw [herase]
    exact seg_unlink hS hi nf.pv_le nf.nx_le l₁ 0 l₂ 0 hd.1 (List.nodup_cons.mpr ⟨h0, hd.2.1⟩) h0
  · rw [herase]
    exact List.nodup_append.mpr ⟨hnd.1, hnd2.2, fun a ha b hb => hnd.2.2 a ha b (List.mem_cons_of_mem _ hb)⟩
  · intro a ha
    exact hd.2.2 a (List.mem_of_mem_erase ha)

/-- relinking undoes unlinking (in the dimension concerned), whatever happened to the other fields in between -/
theorem relink_unlink {dims n : ℕ} {S T : St} (hS : Shape dims n S) (hT : Shape dims n T) {i x : ℕ} (hi : i < dims)
    (nf : NodeFacts n S i x) (h : DimEq i (unlink S i x) T) : DimEq i S (relink T i x) := by
  have hpx : pv T i x = pv S i x := (h x).2.trans (unlink_self hS hi nf).2
  have hnx : nx T i x = nx S i x := (h x).1.trans (unlink_self hS hi nf).1
  intro a
  refine ⟨?_, ?_⟩
  · rw [nx_relink hT hi (by rw [hpx]; exact nf.pv_le), hpx]
    by_cases ha : a = pv S i x
    · rw [if_pos ha, ha, nf.nx_pv]
    · rw [if_neg ha, (h a).1, nx_unlink hS hi nf.pv_le, if_neg ha]
  · rw [pv_relink hT hi (by rw [hnx]; exact nf.nx_le) (by rw [hpx]; exact nf.pv_ne), hnx]
    by_cases ha : a = nx S i x
    · rw [if_pos ha, ha, nf.pv_nx]
    · rw [if_neg ha, (h a).2, pv_unlink hS hi nf.nx_le, if_neg ha]

/-! ### loops over distinct dimensions whose body moves the pointers of the dimension of its iteration
The state may be of any type `σ`, seen through a projection `π` of its `next` / `prev` tables (`π = id` for the loops of
pyhv, `π = HvC.toSw` for those of `_hv.c`). -/

section fold
variable {σ : Type} (π : σ → St) {dims n : ℕ}

/-- a loop body that moves pointers of the dimension of its iteration only -/
structure DimStep (dims n : ℕ) (f : σ → ℕ → σ) : Prop where
  other : ∀ S i j, j ≠ i → DimEq j (π S) (π (f S i))
  shape : ∀ S i, Shape dims n (π S) → Shape dims n (π (f S i))

/-- a loop body that unlinks `x` in the dimension of its iteration, provided `x` is not its own neighbour there (the
code reads one neighbour of `x` after having written through the other) -/
structure UStep (dims n x : ℕ) (f : σ → ℕ → σ) : Prop extends DimStep π dims n f where
  self : ∀ S i, pv (π S) i x ≠ x → nx (π S) i x ≠ x → DimEq i (unlink (π S) i x) (π (f S i))

/-- a loop body that relinks `x` in the dimension of its iteration -/
structure RStep (dims n x : ℕ) (f : σ → ℕ → σ) : Prop extends DimStep π dims n f where
  self : ∀ S i, DimEq i (relink (π S) i x) (π (f S i))

variable {π} {f : σ → ℕ → σ} {x : ℕ}

theorem DimStep.fold_other (hf : DimStep π dims n f) : ∀ (ds : List ℕ) (S : σ) (j : ℕ), j ∉ ds →
    DimEq j (π S) (π (ds.foldl f S))
  | [], _, j, _ => DimEq.refl j _
  | i :: ds, S, j, h =>
    (hf.other S i j (fun e => h (by simp [e]))).trans
      (hf.fold_other ds (f S i) j (fun hm => h (List.mem_cons_of_mem _ hm)))

theorem DimStep.fold_shape (hf : DimStep π dims n f) : ∀ (ds : List ℕ) (S : σ), Shape dims n (π S) →
    Shape dims n (π (ds.foldl f S))
  | [], _, h => h
  | i :: ds, S, h => hf.fold_shape ds (f S i) (hf.shape S i h)

/-- in dimension `i ∈ ds` the fold is the body of iteration `i` applied to a state `T'` that still has the pointers of
the start in that dimension -/
theorem DimStep.fold_at (hf : DimStep π dims n f) : ∀ (ds : List ℕ) (T : σ), ds.Nodup → Shape dims n (π T) → ∀ i ∈ ds,
    ∃ T', Shape dims n (π T') ∧ DimEq i (π T) (π T') ∧ DimEq i (π (f T' i)) (π (ds.foldl f T))
  | [], _, _, _, i, hi => absurd hi List.not_mem_nil
  | j :: ds, T, hnd, hT, i, hi => by
    have hnd' := List.nodup_cons.mp hnd
    rcases List.mem_cons.mp hi with rfl | him
    · exact ⟨T, hT, DimEq.refl _ _, hf.fold_other ds (f T i) i hnd'.1⟩
    · obtain ⟨T', h1, h2, h3⟩ := hf.fold_at ds (f T j) hnd'.2 (hf.shape T j hT) i him
      exact ⟨T', h1, (hf.other T j i (fun e => hnd'.1 (e ▸ him))).trans h2, h3⟩

theorem unlink_congr {S0 U : St} (h0 : Shape dims n S0) (hU : Shape dims n U) {i x : ℕ} (hi : i < dims)
    (nf : NodeFacts n S0 i x) (h : DimEq i S0 U) : DimEq i (unlink S0 i x) (unlink U i x) := by
  have hp : pv U i x = pv S0 i x := (h x).2
  have hn : nx U i x = nx S0 i x := (h x).1
  intro a
  exact ⟨by rw [nx_unlink hU hi (by rw [hp]; exact nf.pv_le), nx_unlink h0 hi nf.pv_le, hp, hn, (h a).1],
    by rw [pv_unlink hU hi (by rw [hn]; exact nf.nx_le), pv_unlink h0 hi nf.nx_le, hp, hn, (h a).2]⟩

theorem UStep.fold_unlink (hf : UStep π dims n x f) {S0 : St} (h0 : Shape dims n S0) {ds : List ℕ} (U : σ)
    (hnd : ds.Nodup) (hlt : ∀ i ∈ ds, i < dims) (hU : Shape dims n (π U)) {i : ℕ} (hi : i ∈ ds)
    (nf : NodeFacts n S0 i x) (h : DimEq i S0 (π U)) : DimEq i (unlink S0 i x) (π (ds.foldl f U)) := by
  obtain ⟨T', hT', h1, h2⟩ := hf.toDimStep.fold_at ds U hnd hU i hi
  have h01 := h.trans h1
  exact ((unlink_congr h0 hT' (hlt i hi) nf h01).trans
    (hf.self T' i (by rw [(h01 x).2]; exact nf.pv_ne) (by rw [(h01 x).1]; exact nf.nx_ne))).trans h2

theorem RStep.fold_relink (hf : RStep π dims n x f) {S0 : St} (h0 : Shape dims n S0) {ds : List ℕ} (T : σ)
    (hnd : ds.Nodup) (hlt : ∀ i ∈ ds, i < dims) (hT : Shape dims n (π T)) {i : ℕ} (hi : i ∈ ds)
    (nf : NodeFacts n S0 i x) (h : DimEq i (unlink S0 i x) (π T)) : DimEq i S0 (π (ds.foldl f T)) := by
  obtain ⟨T', hT', h1, h2⟩ := hf.toDimStep.fold_at ds T hnd hT i hi
  exact ((relink_unlink h0 hT' (hlt i hi) nf (h.trans h1)).trans (hf.self T' i)).trans h2

/-- **unlinking `x` from the lists of the dimensions `ds`** -/
theorem UStep.fold_dl (hf : UStep π dims n x f) {ds : List ℕ} (S : σ) (hnd : ds.Nodup) (hlt : ∀ i ∈ ds, i < dims)
    (hS : Shape dims n (π S)) (Ls : ℕ → List ℕ) (hL : ∀ i ∈ ds, DL n (π S) i (Ls i) ∧ x ∈ Ls i) :
    Shape dims n (π (ds.foldl f S)) ∧ (∀ i ∈ ds, DimEq i (unlink (π S) i x) (π (ds.foldl f S))) ∧
      (∀ i ∈ ds, DL n (π (ds.foldl f S)) i ((Ls i).erase x)) ∧ ∀ i, i ∉ ds → DimEq i (π S) (π (ds.foldl f S)) := by
  have key : ∀ i ∈ ds, DimEq i (unlink (π S) i x) (π (ds.foldl f S)) := fun i hi =>
    hf.fold_unlink hS S hnd hlt hS hi (dl_nodeFacts (hL i hi).1 (hL i hi).2) (DimEq.refl _ _)
  exact ⟨hf.toDimStep.fold_shape ds S hS, key,
    fun i hi => dl_congr (key i hi) (dl_unlink hS (hlt i hi) (hL i hi).1 (hL i hi).2).1,
    fun i hi => hf.toDimStep.fold_other ds S i hi⟩

/-- **a relinking loop over `ds` undoes an unlinking loop over `ds`** on the pointers, whatever happened to the other
fields in between -/
theorem fold_undo {u r : σ → ℕ → σ} (hu : UStep π dims n x u) (hr : RStep π dims n x r) {ds : List ℕ}
    (hnd : ds.Nodup) (hlt : ∀ i ∈ ds, i < dims) (U T : σ) (hU : Shape dims n (π U)) (hT : Shape dims n (π T))
    (hnf : ∀ i ∈ ds, NodeFacts n (π U) i x) (hpe : PtrEq (π (ds.foldl u U)) (π T)) :
    PtrEq (π U) (π (ds.foldl r T)) := by
  refine ptrEq_of_dims fun i => ?_
  by_cases hi : i ∈ ds
  · exact hr.fold_relink hU T hnd hlt hT hi (hnf i hi)
      ((hu.fold_unlink hU U hnd hlt hU hi (hnf i hi) (DimEq.refl _ _)).trans (hpe.dim i))
  · exact ((hu.toDimStep.fold_other ds U i hi).trans (hpe.dim i)).trans (hr.toDimStep.fold_other ds T i hi)

end fold

/-- the body of the loop of `remove` -/
def rmStep (C : Cargo) (x : ℕ) (S : St) (i : ℕ) : St := lowerBound C (unlink S i x) x i
/-- the body of the loop of `reinsert` -/
def riStep (C : Cargo) (x : ℕ) (S : St) (i : ℕ) : St := lowerBound C (relink S i x) x i

theorem remove_eq (C : Cargo) (S : St) (x k : ℕ) : remove C S x k = (List.range k).foldl (rmStep C x) S := rfl
theorem reinsert_eq (C : Cargo) (S : St) (x k : ℕ) : reinsert C S x k = (List.range k).foldl (riStep C x) S := rfl

theorem dimEq_lowerBound (C : Cargo) (S : St) (x i j : ℕ) : DimEq j S (lowerBound C S x i) :=
  fun a => ⟨nx_lowerBound C S x i j a, pv_lowerBound C S x i j a⟩

theorem uStep_rm (C : Cargo) (dims n x : ℕ) : UStep id dims n x (rmStep C x) :=
  { other := fun S i j hj => (unlink_other S i x j hj).trans (dimEq_lowerBound C _ x i j)
    shape := fun _ i h => shape_lowerBound (shape_unlink h i x) C x i
    self := fun _ i _ _ => dimEq_lowerBound C _ x i i }

theorem rStep_ri (C : Cargo) (dims n x : ℕ) : RStep id dims n x (riStep C x) :=
  { other := fun S i j hj => (relink_other S i x j hj).trans (dimEq_lowerBound C _ x i j)
    shape := fun _ i h => shape_lowerBound (shape_relink h i x) C x i
    self := fun _ i => dimEq_lowerBound C _ x i i }

theorem shape_remove {dims n : ℕ} (C : Cargo) (x k : ℕ) (S : St) (h : Shape dims n S) : Shape dims n (remove C S x k) :=
  remove_eq C S x k ▸ (uStep_rm C dims n x).toDimStep.fold_shape (List.range k) S h

theorem shape_reinsert {dims n : ℕ} (C : Cargo) (x k : ℕ) (S : St) (h : Shape dims n S) :
    Shape dims n (reinsert C S x k) :=
  reinsert_eq C S x k ▸ (rStep_ri C dims n x).toDimStep.fold_shape (List.range k) S h

theorem remove_ge (C : Cargo) (x k : ℕ) (S : St) (j : ℕ) (h : k ≤ j) : DimEq j S (remove C S x k) :=
  remove_eq C S x k ▸ (uStep_rm C 0 0 x).toDimStep.fold_other (List.range k) S j (fun hm => by have := List.mem_range.mp hm; omega)

theorem remove_lt {dims n : ℕ} (C : Cargo) (x k : ℕ) (S : St) (hS : Shape dims n S) (hk : k ≤ dims)
    (hnf : ∀ i < k, NodeFacts n S i x) : ∀ i < k, DimEq i (unlink S i x) (remove C S x k) := fun i hi =>
  (uStep_rm C dims n x).fold_unlink hS S List.nodup_range (fun _ hj => lt_of_lt_of_le (List.mem_range.mp hj) hk) hS
    (List.mem_range.mpr hi) (hnf i hi) (DimEq.refl _ _)

/-- `reinsert` undoes `remove` on the pointers, whatever happened to the other fields in between -/
theorem reinsert_remove {dims n : ℕ} (C : Cargo) (x : ℕ) (k : ℕ) (S T : St) (hS : Shape dims n S) (hT : Shape dims n T)
    (hk : k ≤ dims) (hnf : ∀ i < k, NodeFacts n S i x) (h : PtrEq (remove C S x k) T) :
    PtrEq S (reinsert C T x k) :=
  fold_undo (uStep_rm C dims n x) (rStep_ri C dims n x) List.nodup_range
    (fun _ hj => lt_of_lt_of_le (List.mem_range.mp hj) hk) S T hS hT (fun i hi => hnf i (List.mem_range.mp hi)) h

end HvSweep
