/-
C08 at heap level — the heap-level `update` of `HallOfFame` and `ParetoFront` runs in lockstep with the pure
`update` of `Core/Archive.lean` on the individuals' views: same result up to the identities of the members
(`Rel`), same exceptions, and the invariant of the heap-level archive (`Inv`) is kept.
-/
import DeapModel.Lemmas.C08HeapInsert

set_option linter.unusedSectionVars false

namespace C08H
open Heap ArchiveHeap
open Archive (Ind HoF)
open C08L (map_insertAt)

variable {α : Type} [LinearOrder α]

/-- Lockstep of a heap-level result with a pure result: both raise, or both succeed with related states.
A pair of results in lockstep is taken apart with `Option.Rel.casesOn`. -/
def Lock (P : Params α) (base : Nat) (hs : HState) : Option HState → Option (HoF PV α) → Prop :=
  Option.Rel (fun hs' h' => Inv P base hs' ∧ Rel P hs' h' ∧ HExt hs hs')

section
variable {P : Params α} {base : Nat} {hs : HState} {h : HoF PV α}

theorem Lock.refl (hI : Inv P base hs) (hR : Rel P hs h) : Lock P base hs (some hs) (some h) :=
  .some ⟨hI, hR, HExt.refl hs⟩

theorem Lock.rebase {hs1 : HState} (hE : HExt hs hs1) {r : Option HState} {r' : Option (HoF PV α)}
    (hl : Lock P base hs1 r r') : Lock P base hs r r' :=
  hl.casesOn (fun ⟨hI, hR, hE'⟩ => .some ⟨hI, hR, hE.trans hE'⟩) .none

theorem insert_lock (hct : CTOk P.ct) (hI : Inv P base hs) (hR : Rel P hs h) {x : Oid} (hx : Subm P hs x)
    {vx : Ind PV α} (hv : viewInd P hs.objs x = some vx) :
    Lock P base hs (insertH P hs x) (some (Archive.insert h vx)) := by
  obtain ⟨_, hw, f, hf⟩ := hx
  obtain ⟨hs', f', he, hI', hE, hitems, hkeys, habs, hf', hfv⟩ := insertH_spec hct hI hw hf
  rw [viewInd_of_instFit hf] at hv
  cases hv
  have hr := hI.sameReads_ext hE
  rw [he]
  refine .some ⟨hI', ⟨by rw [hE.maxsize]; exact hR.msz, ?_, ?_⟩, hE⟩
  · rw [C08L.insert_keys, hkeys, map_insertAt, List.map_congr_left hr.key, hfv, ← hR.keys]
  · rw [C08L.insert_items, hitems, map_insertAt, map_insertAt,
      List.map_congr_left fun m hm => by rw [hr.view m hm], hR.items, ← hR.keys, hR.len]
    congr 1
    rw [viewInd_of_instFit hf']
    simp only [Option.map_some, erase, Archive.copyInd, habs, hfv]
    rfl

theorem remove_lock (hI : Inv P base hs) (hR : Rel P hs h) (index : Int) :
    Lock P base hs (removeH hs index) (Archive.remove h index) := by
  have hlen := hR.len
  by_cases hl : h.items.length = 0
  · simp only [removeH, Archive.remove, hl, hlen, ↓reduceIte]
    exact .none
  · cases hj : Archive.pyIndex h.items.length index with
    | none =>
      simp only [removeH, Archive.remove, hl, hlen, ↓reduceIte, hj]
      exact .none
    | some j =>
      obtain ⟨hjl, e⟩ := C08L.remove_spec h index j hj
      rw [e, removeH_spec hs index j (by rw [hlen]; exact hj)]
      exact .some ⟨erasedH_inv hI j (by omega), erasedH_rel hR j, erasedH_ext hs j⟩

theorem any_rel (hsim : SimErase P.sim) (objs : Oid → Option Obj) (vi : Ind PV α) {l : List Oid}
    {l' : List (Ind PV α)}
    (hv : List.Forall₂ (Denotes P objs) l l') :
    l.any (similarTo P objs vi) = l'.any (fun hofer => P.sim vi hofer) := by
  induction hv with
  | nil => rfl
  | cons hab _ ih =>
    obtain ⟨vx, hvx, e⟩ := hab
    rw [List.any_cons, List.any_cons, ih, similarTo, hvx]
    exact congrArg (· || _) (hsim _ _ _ _ rfl e)

theorem step_lock (hsim : SimErase P.sim) (hct : CTOk P.ct) (hI : Inv P base hs) (hR : Rel P hs h)
    {p0 ind : Oid} {vp0 vi : Ind PV α} (hp0 : Subm P hs p0) (hind : Subm P hs ind)
    (hv0 : viewInd P hs.objs p0 = some vp0) (hvi : viewInd P hs.objs ind = some vi) :
    Lock P base hs (stepH P p0 hs ind) (Archive.step P.sim vp0 h vi) := by
  unfold stepH Archive.step
  rw [hR.len, ← hR.msz]
  by_cases hc : h.items.length = 0 ∧ h.maxsize ≠ 0
  · rw [if_pos hc, if_pos hc]
    exact insert_lock hct hI hR hp0 hv0
  · rw [if_neg hc, if_neg hc]
    simp only [hvi]
    cases hwh : hs.items.getLast? with
    | none =>
      have : h.items.getLast? = none := by
        rw [List.getLast?_eq_none_iff] at hwh ⊢
        exact List.length_eq_zero_iff.1 (by rw [← hR.len, hwh]; rfl)
      rw [this]
      exact .none
    | some worst =>
      obtain ⟨w, hw, vw, hvw, e⟩ := hR.last hwh
      have hfit : vw.fit = w.fit := congrArg Prod.snd e
      simp only [hw, hvw, hfit, any_rel hsim hs.objs vi hR.views]
      by_cases hadm : (Fitness.gt vi.fit w.fit || decide (h.items.length < h.maxsize)) = true
      · rw [if_pos hadm, if_pos hadm]
        by_cases hs' : (h.items.any fun hofer => P.sim vi hofer) = true
        · rw [if_pos hs', if_pos hs']
          exact Lock.refl hI hR
        · rw [if_neg hs', if_neg hs']
          by_cases hfull : h.items.length ≥ h.maxsize
          · rw [if_pos hfull, if_pos hfull]
            exact (remove_lock hI hR (-1)).casesOn (fun ⟨hI1, hR1, hE1⟩ =>
              have ⟨hind1, hvi1⟩ := hind.ext hI hE1
              Lock.rebase hE1 (insert_lock hct hI1 hR1 hind1 (hvi1.trans hvi))) .none
          · rw [if_neg hfull, if_neg hfull]
            exact insert_lock hct hI hR hind hvi
      · rw [if_neg hadm, if_neg hadm]
        exact Lock.refl hI hR

end

section Loops
variable {P : Params α} {base : Nat} (hsim : SimErase P.sim) (hct : CTOk P.ct)

theorem Subm.view {hs : HState} {x : Oid} (h : Subm P hs x) : ∃ vx, viewInd P hs.objs x = some vx :=
  let ⟨_, _, _, hf⟩ := h
  ⟨_, viewInd_of_instFit hf⟩

theorem views_ext {hs hs1 : HState} (hI : Inv P base hs) (hE : HExt hs hs1) {pop : List Oid}
    (hpop : ∀ x ∈ pop, Subm P hs x) :
    (∀ x ∈ pop, Subm P hs1 x) ∧ pop.filterMap (viewInd P hs1.objs) = pop.filterMap (viewInd P hs.objs) :=
  ⟨fun x hx => ((hpop x hx).ext hI hE).1, List.filterMap_congr fun x hx => ((hpop x hx).ext hI hE).2⟩

include hsim hct

theorem updateLoop_lock {p0 : Oid} {vp0 : Ind PV α} :
    ∀ (pop : List Oid) (hs : HState) (h : HoF PV α), Inv P base hs → Rel P hs h →
      Subm P hs p0 → viewInd P hs.objs p0 = some vp0 → (∀ x ∈ pop, Subm P hs x) →
      Lock P base hs (updateLoopH P p0 hs pop)
        (Archive.updateLoop P.sim vp0 h (pop.filterMap (viewInd P hs.objs)))
  | [], _, _, hI, hR, _, _, _ => Lock.refl hI hR
  | ind :: rest, hs, h, hI, hR, hp0, hv0, hpop => by
    obtain ⟨vi, hvi⟩ := (hpop ind List.mem_cons_self).view
    simp only [updateLoopH, List.filterMap_cons, hvi, Archive.updateLoop]
    exact (step_lock hsim hct hI hR hp0 (hpop ind List.mem_cons_self) hv0 hvi).casesOn
      (fun ⟨hI1, hR1, hE1⟩ =>
        have ⟨hp01, hv01⟩ := hp0.ext hI hE1
        have ⟨hpop1, e1⟩ := views_ext hI hE1 (fun x hx => hpop x (List.mem_cons_of_mem _ hx))
        Lock.rebase hE1 (e1 ▸ updateLoop_lock rest _ _ hI1 hR1 hp01 (hv01.trans hv0) hpop1)) .none

theorem update_lock {hs : HState} {h : HoF PV α} (hI : Inv P base hs) (hR : Rel P hs h) (pop : List Oid)
    (hpop : ∀ x ∈ pop, Subm P hs x) :
    Lock P base hs (updateH P hs pop) (Archive.update P.sim h (pop.filterMap (viewInd P hs.objs))) := by
  cases pop with
  | nil => exact Lock.refl hI hR
  | cons p0 rest =>
    obtain ⟨vp0, hv0⟩ := (hpop p0 List.mem_cons_self).view
    have := updateLoop_lock hsim hct (p0 :: rest) hs h hI hR (hpop p0 List.mem_cons_self) hv0 hpop
    simp only [List.filterMap_cons, hv0] at this ⊢
    exact this

omit hsim hct

theorem viewAll_rel (objs : Oid → Option Obj) {l : List Oid} {l' : List (Ind PV α)}
    (hv : List.Forall₂ (Denotes P objs) l l') :
    ∃ vs, viewAll P objs l = some vs ∧ List.Forall₂ (fun a b => erase a = erase b) vs l' := by
  induction hv with
  | nil => exact ⟨[], rfl, .nil⟩
  | cons hab _ ih =>
    obtain ⟨vx, hvx, e⟩ := hab
    obtain ⟨vs, hvs, hm⟩ := ih
    exact ⟨vx :: vs, by simp only [viewAll, hvx, hvs], .cons e hm⟩

theorem scan_erase {sim : Ind PV α → Ind PV α → Bool} (hsim : SimErase sim) (vi : Ind PV α)
    {l l' : List (Ind PV α)} (hv : List.Forall₂ (fun a b => erase a = erase b) l l') (i : Nat)
    (s : Archive.Scan) : Archive.scan sim vi l i s = Archive.scan sim vi l' i s := by
  induction hv generalizing i s with
  | nil => rfl
  | @cons a b _ _ hab _ ih =>
    have hfit : a.fit = b.fit := congrArg Prod.snd hab
    simp only [Archive.scan, hfit, hsim _ _ _ _ rfl hab, ih]

theorem removeAll_lock :
    ∀ (js : List Nat) (hs : HState) (h : HoF PV α), Inv P base hs → Rel P hs h →
      Lock P base hs (removeAllH hs js) (Archive.removeAll h js)
  | [], _, _, hI, hR => Lock.refl hI hR
  | j :: js, hs, h, hI, hR => by
    simp only [removeAllH, Archive.removeAll]
    exact (remove_lock hI hR (j : Int)).casesOn
      (fun ⟨hI1, hR1, hE1⟩ => Lock.rebase hE1 (removeAll_lock js _ _ hI1 hR1)) .none

include hsim hct

theorem pfStep_lock {hs : HState} {h : HoF PV α} (hI : Inv P base hs) (hR : Rel P hs h) {ind : Oid}
    {vi : Ind PV α} (hind : Subm P hs ind) (hvi : viewInd P hs.objs ind = some vi) :
    Lock P base hs (pfStepH P hs ind) (Archive.pfStep P.sim h vi) := by
  obtain ⟨vs, hvs, hm⟩ := viewAll_rel hs.objs hR.views
  simp only [pfStepH, Archive.pfStep, hvi, hvs, scan_erase hsim vi hm]
  exact (removeAll_lock (Archive.scan P.sim vi h.items 0 {}).toRemove.reverse hs h hI hR).casesOn
    (fun ⟨hI1, hR1, hE1⟩ => by
      dsimp only
      split
      · obtain ⟨hind1, hvi1⟩ := hind.ext hI hE1
        exact Lock.rebase hE1 (insert_lock hct hI1 hR1 hind1 (hvi1.trans hvi))
      · exact .some ⟨hI1, hR1, hE1⟩) .none

theorem pfUpdate_lock :
    ∀ (pop : List Oid) (hs : HState) (h : HoF PV α), Inv P base hs → Rel P hs h → (∀ x ∈ pop, Subm P hs x) →
      Lock P base hs (pfUpdateH P hs pop) (Archive.pfUpdate P.sim h (pop.filterMap (viewInd P hs.objs)))
  | [], _, _, hI, hR, _ => Lock.refl hI hR
  | ind :: rest, hs, h, hI, hR, hpop => by
    obtain ⟨vi, hvi⟩ := (hpop ind List.mem_cons_self).view
    simp only [pfUpdateH, List.filterMap_cons, hvi, Archive.pfUpdate]
    exact (pfStep_lock hsim hct hI hR (hpop ind List.mem_cons_self) hvi).casesOn
      (fun ⟨hI1, hR1, hE1⟩ =>
        have ⟨hpop1, e1⟩ := views_ext hI hE1 (fun x hx => hpop x (List.mem_cons_of_mem _ hx))
        Lock.rebase hE1 (e1 ▸ pfUpdate_lock rest _ _ hI1 hR1 hpop1)) .none

end Loops

end C08H
