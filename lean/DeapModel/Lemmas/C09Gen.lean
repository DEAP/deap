/-
C09 — helper lemmas of the TRANSLATOR TIE (`harness/py2lean_c09.py`, `GenEq/C09.lean.tmpl`): the prelude of the
generated definitions (`Core/GenPrelude.lean`, `Core/GenPreludeC09.lean`) on the naturals the models of
`Core/CrossMut.lean` work with — Python's slices / indices / item and slice assignment at non-negative positions,
the tape, and the `for` loop as a fold.
-/
import DeapModel.Core.GenPreludeC09
import DeapModel.Lemmas.C09Basic
import DeapModel.Lemmas.GenNat

namespace GenCL
open CrossMut

variable {β γ ρ : Type}

@[simp] theorem randint_cons (rs : List ρ) (v : Int) (vs : List Int) (a b : Int) :
    GenC.randint ⟨rs, v :: vs⟩ a b = if a ≤ v ∧ v ≤ b then some (v, ⟨rs, vs⟩) else none := rfl

@[simp] theorem randint_nil (rs : List ρ) (a b : Int) : GenC.randint ⟨rs, []⟩ a b = none := rfl

@[simp] theorem randrange_cons (rs : List ρ) (v : Int) (vs : List Int) (n : Int) :
    GenC.randrange ⟨rs, v :: vs⟩ n = if 0 ≤ v ∧ v ≤ n - 1 then some (v, ⟨rs, vs⟩) else none := rfl

@[simp] theorem randrange_nil (rs : List ρ) (n : Int) : GenC.randrange ⟨rs, []⟩ n = none := rfl

@[simp] theorem random_cons (r : ρ) (rs : List ρ) (vs : List Int) :
    GenC.random ⟨r :: rs, vs⟩ = some (r, ⟨rs, vs⟩) := rfl

@[simp] theorem random_nil (vs : List Int) : GenC.random (⟨[], vs⟩ : GenC.Tape ρ) = none := rfl

theorem slice_some_none (l : List β) (c : Nat) : Gen.slice l (some (c : Int)) none = l.drop c :=
  GenNat.slice_drop l c

theorem slice_some_some (l : List β) (a b : Nat) :
    Gen.slice l (some (a : Int)) (some (b : Int)) = pySlice l a b :=
  GenNat.slice_take_drop l a b

theorem sliceSet_some_none (l r : List β) (c : Nat) :
    GenC.sliceSet l (some (c : Int)) none r = l.take c ++ r := by
  simp only [GenC.sliceSet, GenNat.bound_natCast]
  rw [Nat.max_eq_right (Nat.min_le_right _ _), List.drop_length, List.append_nil, List.append_cancel_right_eq,
    List.take_eq_take_iff, Nat.min_assoc, Nat.min_self]

theorem sliceSet_some_some (l r : List β) (a b : Nat) :
    GenC.sliceSet l (some (a : Int)) (some (b : Int)) r = sliceAssign l a b r := by
  simp only [GenC.sliceSet, GenNat.bound_natCast, sliceAssign]
  rw [← Nat.min_max_distrib_right]
  congr 1
  · rw [List.append_cancel_right_eq, List.take_eq_take_iff, Nat.min_assoc, Nat.min_self]
  · rw [List.drop_eq_drop_iff, Nat.min_assoc, Nat.min_self]

@[simp] theorem index_natCast (l : List β) (k : Nat) : Gen.index l (k : Int) = l[k]? :=
  GenNat.index_natCast l k

@[simp] theorem setIndex_natCast (l : List β) (k : Nat) (v : β) :
    GenC.setIndex l (k : Int) v = if k < l.length then some (l.set k v) else none :=
  GenNat.setItem_natCast l k v

theorem int_min_natCast (a b : Nat) : min (a : Int) (b : Int) = ((min a b : Nat) : Int) := by omega

theorem int_max_natCast (a b : Nat) : max (a : Int) (b : Int) = ((max a b : Nat) : Int) := by omega

/-- the rejecting half of an equality theorem: every path of the generated definition on which a draw is not a
value the `random` function can return ends in `none`; what remains are the paths the guard excludes -/
macro "gen_reject" : tactic =>
  `(tactic| (repeat' (first | rfl | (split <;> try simp only [Option.bind_some, Option.bind_none, randint_cons, randrange_cons]))))

theorem range_zero_natCast (n : Nat) : Gen.range 0 (n : Int) = (List.range n).map fun (k : Nat) => (k : Int) :=
  GenNat.range_zero_natCast n

section loops
open C09L
variable [LT ρ] [DecidableLT ρ]

/-- the loop of `cxUniform`: any body `F` that, on a state with a non-empty tape and an index inside both lists, does
what `swapAt2` does when the draw is below `indpb` (the hypothesis the committed theorem proves of the REGENERATED
body), folds like the model -/
theorem cxUniform_loop (indpb : ρ)
    (F : List γ × List γ × GenC.Tape ρ → Int → Option (List γ × List γ × GenC.Tape ρ))
    (hF : ∀ (a b : List γ) (r : ρ) (rs : List ρ) (vs : List Int) (k : Nat), k < a.length → k < b.length →
      F (a, b, ⟨r :: rs, vs⟩) (k : Int) =
        some ((if r < indpb then swapAt2 k (a, b) else (a, b)).1,
              (if r < indpb then swapAt2 k (a, b) else (a, b)).2, ⟨rs, vs⟩)) :
    ∀ (is : List Nat) (a b : List γ) (rs : List ρ) (vs : List Int),
      (∀ k ∈ is, k < a.length ∧ k < b.length) → is.length ≤ rs.length →
      GenC.forM (is.map fun (k : Nat) => (k : Int)) (a, b, (⟨rs, vs⟩ : GenC.Tape ρ)) F =
        some (((is.zip (decisions indpb rs)).foldl
                (fun p (id : Nat × Bool) => if id.2 then swapAt2 id.1 p else p) (a, b)).1,
              ((is.zip (decisions indpb rs)).foldl
                (fun p (id : Nat × Bool) => if id.2 then swapAt2 id.1 p else p) (a, b)).2,
              ⟨rs.drop is.length, vs⟩) := by
  intro is
  induction is with
  | nil => intro a b rs vs _ _; simp [GenC.forM]
  | cons k t ih =>
    intro a b rs vs hk hlen
    cases rs with
    | nil => simp at hlen
    | cons r rs =>
      have hk0 := hk k (by simp)
      simp only [List.map_cons, GenC.forM, hF a b r rs vs k hk0.1 hk0.2, Option.bind_some]
      have hl := swapAt2_length k (a, b)
      by_cases hr : r < indpb
      · simp only [if_pos hr]
        rw [ih _ _ rs vs (by
          intro j hj; have := hk j (by simp [hj]); simp only [hl.1, hl.2]; exact this) (by simpa using hlen)]
        simp [decisions, hr]
      · simp only [if_neg hr]
        rw [ih _ _ rs vs (by intro j hj; exact hk j (by simp [hj])) (by simpa using hlen)]
        simp [decisions, hr]

/-- a loop `for i in …: if random.random() < indpb: <update of one list at i>` over the index list `is`: the fold of the
model's step `g` over the indices zipped with the decisions, consuming one `random()` result per index -/
theorem rnd_loop1 (indpb : ρ) (g : List γ → Nat × Bool → List γ) (hg : ∀ a id, (g a id).length = a.length)
    (F : List γ × GenC.Tape ρ → Int → Option (List γ × GenC.Tape ρ))
    (hF : ∀ (a : List γ) (r : ρ) (rs : List ρ) (vs : List Int) (k : Nat), k < a.length →
      F (a, ⟨r :: rs, vs⟩) (k : Int) = some (g a (k, decide (r < indpb)), ⟨rs, vs⟩)) :
    ∀ (is : List Nat) (a : List γ) (rs : List ρ) (vs : List Int),
      (∀ k ∈ is, k < a.length) → is.length ≤ rs.length →
      GenC.forM (is.map fun (k : Nat) => (k : Int)) (a, (⟨rs, vs⟩ : GenC.Tape ρ)) F =
        some ((is.zip (decisions indpb rs)).foldl g a, ⟨rs.drop is.length, vs⟩) := by
  intro is
  induction is with
  | nil => intro a rs vs _ _; simp [GenC.forM]
  | cons k t ih =>
    intro a rs vs hk hlen
    cases rs with
    | nil => simp at hlen
    | cons r rs =>
      simp only [List.map_cons, GenC.forM, hF a r rs vs k (hk k (by simp)), Option.bind_some]
      rw [ih _ rs vs (by intro j hj; rw [hg]; exact hk j (by simp [hj])) (by simpa using hlen)]
      simp [decisions]

theorem shuffle_loop (size : Nat) (indpb : ρ)
    (F : List γ × GenC.Tape ρ → Int → Option (List γ × GenC.Tape ρ))
    (hskip : ∀ (a : List γ) (r : ρ) (rs : List ρ) (vs : List Int) (k : Nat), ¬ r < indpb →
      F (a, ⟨r :: rs, vs⟩) (k : Int) = some (a, ⟨rs, vs⟩))
    (hsel : ∀ (a : List γ) (r : ρ) (rs : List ρ) (s : Nat) (vs : List Int) (k : Nat), r < indpb →
      a.length = size → k < size →
      F (a, ⟨r :: rs, (s : Int) :: vs⟩) (k : Int) =
        (shuffleStep size (some a) (k, some s)).map fun out => (out, (⟨rs, vs⟩ : GenC.Tape ρ))) :
    ∀ (is : List Nat) (a : List γ) (rs : List ρ) (vs : List Nat), a.length = size → (∀ k ∈ is, k < size) →
      is.length ≤ (drawOpts indpb rs vs).length →
      (GenC.forM (is.map fun (k : Nat) => (k : Int)) (a, (⟨rs, vs.map fun (s : Nat) => (s : Int)⟩ : GenC.Tape ρ)) F).map Prod.fst =
        (is.zip (drawOpts indpb rs vs)).foldl (shuffleStep size) (some a) := by
  intro is
  induction is with
  | nil => intro a rs vs _ _ _; simp [GenC.forM]
  | cons k t ih =>
    intro a rs vs ha hk hlen
    cases rs with
    | nil => simp [drawOpts] at hlen
    | cons r rs =>
      by_cases hr : r < indpb
      · cases vs with
        | nil => simp [drawOpts, hr] at hlen
        | cons s vs =>
          simp only [drawOpts, if_pos hr, List.length_cons, Nat.add_le_add_iff_right] at hlen
          simp only [List.map_cons, GenC.forM, hsel a r rs s _ k hr ha (hk k (by simp)), drawOpts, if_pos hr,
            List.zip_cons_cons, List.foldl_cons]
          cases hst : shuffleStep size (some a) (k, some s) with
          | none => simp [C09L.foldl_shuffleStep_none]
          | some out =>
            exact ih out rs vs ((shuffleStep_length _ _ _ _ hst).trans ha) (fun j hj => hk j (by simp [hj])) hlen
      · simp only [drawOpts, if_neg hr, List.length_cons, Nat.add_le_add_iff_right] at hlen
        simp only [List.map_cons, GenC.forM, hskip a r rs _ k hr, drawOpts, if_neg hr, List.zip_cons_cons,
          List.foldl_cons, Option.bind_some]
        exact ih a rs vs ha (fun j hj => hk j (by simp [hj])) hlen

theorem bind_some_fst {A B : Type} (X : Option (A × B)) :
    (Option.bind X fun s => some (s.1, s.2)).map Prod.fst = X.map Prod.fst := by cases X <;> rfl

end loops

end GenCL
