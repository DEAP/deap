import DeapModel.Lemmas.C15HvCGenA2
/-!
C15 — the general case of `hv_recursive` in `_hv.c`, first phase: the invariant through one deletion, through the whole
deletion loop, and `AfterDeletionsC_Statement`.
-/
namespace HvC
open HvSweep (RL)

section ctx
variable {C : Cargo} {R : List ℚ} {d n : ℕ} {O : ℕ → List ℕ}

theorem gA_inv_congr {S : St} {k : ℕ} {A B : List ℕ} (h : ∀ a, a ∈ A ↔ a ∈ B) (hnd : B.Nodup)
    (inv : InvC C R d n O S k A) : InvC C R d n O S k B :=
  { inv with
    nodup := hnd
    sub := fun a ha => inv.sub a ((h a).mpr ha)
    good := fun a ha => inv.good a ((h a).mpr ha)
    lists := fun i h1 h2 => by rw [← HvSweep.RL_congr O i A B h]; exact inv.lists i h1 h2
    cv := cvc_congr_set h inv.cv
    ig := igc_congr_set h inv.ig
    dm := dmc_congr_set h inv.dm }

theorem gA_inv_lower {S : St} {k : ℕ} {A : List ℕ} (inv : InvC C R d n O S (k + 1) A) : InvC C R d n O S k A :=
  { inv with
    lists := fun i h1 h2 => inv.lists i h1 (by omega)
    cv := fun j hj1 hjK => inv.cv j hj1 (by omega) }

/-- **one deletion**: deleting the last node `x` of the list of level `j + 1` from the lists `2 .. j`
(`delete` if its mark is `0`, `delete_dom` if its mark is at least the level) leaves the level-`j` invariant for the
remaining nodes -/
theorem gA_delStep_inv (c : CCtx C R d n O) {j : ℕ} (hj2 : 2 ≤ j) (hjd : j + 1 < d) {S : St} {A : List ℕ}
    (inv : InvC C R d n O S j A) (zb : ∀ y ∈ A, ign S y = 0 ∨ ((j + 1 : ℕ) : ℤ) ≤ ign S y)
    (l : List ℕ) (x : ℕ) (hL : RL O (j + 1) A = l ++ [x]) (B : List ℕ) (hBnd : B.Nodup)
    (hB : ∀ a, a ∈ B ↔ a ∈ A ∧ a ≠ x) :
    InvC C R d n O (delStep C (j + 1) S x) j B := by
  obtain ⟨hxA, _, _⟩ := gA_last_pos c hjd inv.sub l x hL
  have hjd' : j + 1 ≤ d := hjd.le
  have h2j : 2 ≤ j + 1 := Nat.le_succ_of_le hj2
  obtain ⟨hdat, hblen, _, _⟩ := gA_delStep_frame C (j + 1) S x
  have hLs : ∀ i, 2 ≤ i → i < j + 1 → DLc n S i (RL O i A) ∧ x ∈ RL O i A := fun i h1 h2 =>
    ⟨inv.lists i h1 (Nat.le_of_lt_succ h2), (HvSweep.mem_RL_of_sub c.g (lt_trans h2 hjd) inv.sub x).mpr hxA⟩
  obtain ⟨hsh, hlists⟩ := gA_delStep_lists C (j + 1) hjd' S x (fun i => RL O i A) inv.shape hLs
  have hBA : ∀ a ∈ B, a ∈ A := fun a ha => ((hB a).mp ha).1
  have hAB : ∀ a, a ≠ x → (a ∈ A ↔ a ∈ B) := fun a hax => by rw [hB a, and_iff_left hax]
  have hcases : (¬ ((j + 1 : ℕ) : ℤ) ≤ ign S x ∧
        ∀ i, 2 ≤ i → i < j + 1 → ∀ b', (delStep C (j + 1) S x).bound.getD i none = some b' →
          ∃ b, S.bound.getD i none = some b ∧ b' ≤ b ∧ b' ≤ cg C x i) ∨
      ((delStep C (j + 1) S x).bound = S.bound ∧ ∃ w m, j + 1 ≤ m ∧ w ∈ A ∧ DomC C O m w x) := by
    by_cases hmark : ((j + 1 : ℕ) : ℤ) ≤ ign S x
    · right
      obtain ⟨_, hm, w, hwA, hdom⟩ := inv.ig.witness h2j hxA hmark
      exact ⟨gA_delStep_bound_dom C (j + 1) S x hmark, w, _, hm, hwA, hdom⟩
    · left
      exact ⟨hmark, gA_delStep_bound_delete C (j + 1) S x hmark⟩
  generalize delStep C (j + 1) S x = T at hdat hblen hsh hlists hcases ⊢
  exact
    { shape := hsh
      tsh := gB_tsh_of_fields inv.tsh hdat.area hdat.vol (hdat.ignore ▸ inv.tsh.ign) hdat.domr (hblen ▸ inv.tsh.bound)
      nodup := hBnd
      sub := fun a ha => inv.sub a (hBA a ha)
      good := fun a ha => inv.good a (hBA a ha)
      lists := fun i h1 h2 => by
        rw [← gA_RL_erase c (lt_of_le_of_lt h2 (lt_trans (Nat.lt_succ_self j) hjd)) A B x hB]
        exact hlists i h1 (Nat.lt_succ_of_le h2)
      cv := by
        rcases hcases with ⟨_, hbd⟩ | ⟨hbd, w, m, hm, hwA, hdom⟩
        · exact cvc_reinsert c (le_refl _) hjd' hdat.ar hdat.vl hbd (inv.sub x hxA) inv.sub
            (fun a ha => inv.sub a (hBA a ha)) hAB inv.cv
        · exact gA_cv_dom c hjd hm hxA hwA hdom inv.sub hB hdat hbd inv.cv
      ig := gA_ig_step c hj2 hjd inv.sub hL hB hdat zb inv.ig
      igd := by
        intro q hq
        rw [hdat.ign] at hq
        rw [hdat.dr]
        exact inv.igd q hq
      dm := by
        rcases hcases with ⟨_, hbd⟩ | ⟨hbd, w, m, hm, hwA, hdom⟩
        · exact dmc_reinsert hdat.dr (hbd 2 (le_refl _) (Nat.lt_succ_of_le hj2)) hAB inv.dm
        · exact gA_dm_dom c (le_trans h2j hm) hxA hwA hdom inv.sub hB hdat hbd inv.dm
      tree := by rw [hdat.tree]; exact inv.tree }

theorem gA_delSeq_inv (c : CCtx C R d n O) {j : ℕ} (hj2 : 2 ≤ j) (hjd : j + 1 < d) : ∀ (rs : List ℕ) (S : St) (A L0 : List ℕ),
    InvC C R d n O S j A → (∀ y ∈ A, ign S y = 0 ∨ ((j + 1 : ℕ) : ℤ) ≤ ign S y) →
    RL O (j + 1) A = L0 ++ rs.reverse →
    InvC C R d n O (delSeq C (j + 1) S rs) j (A.filter (fun a => decide (a ∉ rs)))
  | [], S, A, L0, inv, _, _ => by
    have : A.filter (fun a => decide (a ∉ ([] : List ℕ))) = A := by simp
    rw [this]
    exact inv
  | x :: rs, S, A, L0, inv, zb, hL => by
    have hL' : RL O (j + 1) A = (L0 ++ rs.reverse) ++ [x] := by rw [hL]; simp
    set B := A.filter (fun a => decide (a ≠ x)) with hBdef
    have hB : ∀ a, a ∈ B ↔ a ∈ A ∧ a ≠ x := by
      intro a; rw [hBdef, List.mem_filter]; simp
    have hBnd : B.Nodup := inv.nodup.filter _
    have inv1 := gA_delStep_inv c hj2 hjd inv zb (L0 ++ rs.reverse) x hL' B hBnd hB
    have hdat := (gA_delStep_frame C (j + 1) S x).1
    have zb1 : ∀ y ∈ B, ign (delStep C (j + 1) S x) y = 0 ∨ ((j + 1 : ℕ) : ℤ) ≤ ign (delStep C (j + 1) S x) y := by
      intro y hy
      rw [hdat.ign]
      exact zb y ((hB y).mp hy).1
    have hL1 : RL O (j + 1) B = L0 ++ rs.reverse := gA_RL_init c hjd inv.sub (L0 ++ rs.reverse) x hL' B hB
    have ih := gA_delSeq_inv c hj2 hjd rs (delStep C (j + 1) S x) B L0 inv1 zb1 hL1
    rw [gA_delSeq_cons]
    refine gA_inv_congr ?_ (inv.nodup.filter _) ih
    intro a
    simp only [List.mem_filter, List.mem_cons, decide_eq_true_eq, not_or, hB a, and_assoc]

end ctx

theorem afterDeletionsC : AfterDeletionsC_Statement := by
  intro C R d n O j A S₁ c hj2 hjd inv zb pre' q' rs hsplit
  have hsplit' : RL O (j + 1) A = (pre' ++ [q']) ++ rs.reverse := by rw [hsplit]; simp
  obtain ⟨hnd, _, hB', _⟩ := HvSweep.RL_split c.g hjd inv.sub hsplit'
  have hB : ∀ a, a ∈ pre' ++ [q'] ↔ a ∈ A ∧ a ∉ rs := fun a => by rw [hB' a, List.mem_reverse]
  have hinv := gA_delSeq_inv c hj2 hjd rs S₁ A (pre' ++ [q']) (gA_inv_lower inv) zb hsplit'
  obtain ⟨hdat, _, hbnd, hptr⟩ := gA_delSeq_frame C (j + 1) rs S₁
  refine ⟨?_, hB, hdat.ignore, hdat.area, hdat.vol, hdat.domr, hdat.tree, hdat.calls,
    fun i hi => hbnd i (Or.inr hi), fun i a hi => hptr i hi a⟩
  refine gA_inv_congr ?_ hnd hinv
  intro a
  rw [List.mem_filter, hB a]
  simp

end HvC
