import DeapModel.Lemmas.C15Gen5
/-!
C15 — assembling the general case of `hvRecursive` (level `j + 1 ≥ 2`): helpers for the single-node branch,
and the level theorem.
-/
namespace HvSweep
open Hypervolume

theorem removeSeq_fields (C : Cargo) (k : ℕ) : ∀ (rs : List ℕ) (S : St),
    SameAI k S (removeSeq C k S rs) ∧ (removeSeq C k S rs).volume = S.volume
  | [], S => ⟨⟨rfl, rfl, fun _ _ => rfl⟩, rfl⟩
  | x :: rs, S => by
    obtain ⟨h1, h2⟩ := removeSeq_fields C k rs (remove C S x k)
    have hb := remove_bframe C x k S
    exact ⟨⟨h1.area.trans hb.area, h1.ignore.trans hb.ignore, fun i hi => (h1.bounds i hi).trans (hb.bounds_ge i hi)⟩,
      h2.trans hb.volume⟩

/-- the product `∏_{i < m} (−cargo[i])` that l.164-166 writes into `area[0..dimIndex]` -/
def areaProd (C : Cargo) (q : ℕ) : ℕ → ℚ
  | 0 => 1
  | m + 1 => areaProd C q m * -(cg C q m)

/-- l.164-166 as a fold: afterwards `area[q][i] = ∏_{i' < i} (−cargo[i'])` for `i ≤ m`, nothing else changed -/
theorem foldl_setAr_spec {dims n : ℕ} (C : Cargo) (q : ℕ) (hq : q ≤ n) : ∀ (m : ℕ) (S : St), m < dims → TShape dims n S →
    let T := (List.range m).foldl (fun S i => setAr S q (i + 1) (ar S q i * -(cg C q i))) (setAr S q 0 1)
    TShape dims n T ∧ T.next = S.next ∧ T.prev = S.prev ∧ T.volume = S.volume ∧ T.ignore = S.ignore ∧ T.bounds = S.bounds ∧
      (∀ i ≤ m, ar T q i = areaProd C q i) ∧ (∀ a i, (a ≠ q ∨ m < i) → ar T a i = ar S a i)
  | 0, S, hm, hS => by
    refine ⟨tshape_setAr hS _ _ _, rfl, rfl, rfl, rfl, rfl, ?_, ?_⟩
    · intro i hi
      have : i = 0 := by omega
      subst this
      exact ar_setAr_self' hS hq (by omega) 1
    · intro a i h
      apply ar_setAr_ne
      rcases h with h | h
      · exact Or.inl h
      · exact Or.inr (by omega)
  | m + 1, S, hm, hS => by
    obtain ⟨h1, h2, h3, h4, h5, h6, h7, h8⟩ := foldl_setAr_spec C q hq m S (by omega) hS
    simp only [List.range_succ, List.foldl_append, List.foldl_cons, List.foldl_nil]
    set T := (List.range m).foldl (fun S i => setAr S q (i + 1) (ar S q i * -(cg C q i))) (setAr S q 0 1)
    refine ⟨tshape_setAr h1 _ _ _, h2, h3, h4, h5, h6, ?_, ?_⟩
    · intro i hi
      by_cases him : i = m + 1
      · subst him
        rw [ar_setAr_self' h1 hq hm, h7 m (le_refl _)]
        rfl
      · rw [ar_setAr_ne T q (m + 1) q i _ (Or.inr him)]
        exact h7 i (by omega)
    · intro a i h
      have hne : a ≠ q ∨ i ≠ m + 1 := by
        rcases h with h | h
        · exact Or.inl h
        · exact Or.inr (by omega)
      rw [ar_setAr_ne T q (m + 1) a i _ hne]
      apply h8
      rcases h with h | h
      · exact Or.inl h
      · exact Or.inr (by omega)

section ctx
variable {C : Cargo} {dims n : ℕ} {O : ℕ → List ℕ} {pt : ℕ → List ℚ} {ref : List ℚ}

/-- the hypervolume of one node in the coordinates `0 .. i` is the product the code writes -/
theorem Hj_single_eq_areaProd (g : GCtx C dims n O pt ref) (a : ℕ) (ha : a ∈ ids n) :
    ∀ (i : ℕ), i < dims → Hj ref pt i [a] = areaProd C a (i + 1)
  | 0, hi => by
    have hx := g.le a ha 0 hi
    rw [getD_zero_eq] at hx
    have href : ref.take 1 = [ref.getD 0 0] := by
      cases ref with
      | nil => rw [← g.hdims] at hi; simp at hi
      | cons r t => rfl
    unfold Hj
    rw [href, List.map_cons, List.map_nil, hvCells_single, boxVol_cons_of_le hx, boxVol, ← getD_zero_eq]
    show _ = 1 * -(cg C a 0)
    rw [g.cgv a ha 0 hi]; ring
  | i + 1, hi => by
    rw [Hj_single_succ g i hi a ha, Hj_single_eq_areaProd g a ha i (by omega)]
    show _ = areaProd C a (i + 1) * -(cg C a (i + 1))
    rw [g.cgv a ha (i + 1) hi]; ring

theorem ig_congr_set {S : St} {A B : List ℕ} (h : ∀ a, a ∈ A ↔ a ∈ B) (hig : IG C O S A) : IG C O S B := by
  intro q hq hm
  obtain ⟨b, hb, hd⟩ := hig q ((h q).mpr hq) hm
  exact ⟨b, (h b).mp hb, hd⟩

/-- what is known after the reset loop of level `j + 1` -/
structure AfterReset (C : Cargo) (dims n : ℕ) (O : ℕ → List ℕ) (pt : ℕ → List ℚ) (ref : List ℚ) (j : ℕ) (A : List ℕ)
    (S₁ : St) : Prop where
  inv : Inv C dims n O pt ref S₁ (j + 1) A
  zero_or_big : ∀ y ∈ A, ign S₁ y = 0 ∨ j + 1 ≤ ign S₁ y

/-- **the reset loop** (l.139-142) of level `j + 1`, as the fold it is: the invariant of the level survives, and the marks
of the nodes are `0` or at least the level -/
theorem after_reset {S : St} {j : ℕ} {A : List ℕ} (inv : Inv C dims n O pt ref S (j + 1) A) {l : List ℕ}
    (hl : ∀ a, a ∈ l ↔ a ∈ A) : AfterReset C dims n O pt ref j A (l.foldl (resetStep (j + 1)) S) := by
  have hfield : ∀ {α : Type} (f : St → α), (∀ S a v, f (setIgn S a v) = f S) →
      f (l.foldl (resetStep (j + 1)) S) = f S := fun f hf => foldl_resetStep_field f hf (j + 1) l S
  have hign1 : ∀ y, ign (l.foldl (resetStep (j + 1)) S) y = if y ∈ A ∧ ign S y < j + 1 then 0 else ign S y :=
    fun y => by rw [ign_foldl_resetStep]; simp only [hl y]
  exact
    { inv := inv_of_marks inv (hfield (·.next) (fun _ _ _ => rfl)) (hfield (·.prev) (fun _ _ _ => rfl))
        (hfield (·.area) (fun _ _ _ => rfl)) (hfield (·.volume) (fun _ _ _ => rfl)) (hfield (·.bounds) (fun _ _ _ => rfl))
        ((hfield (fun S => S.ignore.length) (fun _ _ _ => List.length_set)).trans inv.tshape.2.2) (by
          intro y hy hm
          rw [hign1 y] at hm ⊢
          by_cases hlt : ign S y < j + 1
          · rw [if_pos ⟨hy, hlt⟩] at hm; omega
          · rw [if_neg (fun c => hlt c.2)] at hm ⊢; exact inv.ig y hy hm)
      zero_or_big := by
        intro y hy
        rw [hign1 y]
        by_cases hlt : ign S y < j + 1
        · left; rw [if_pos ⟨hy, hlt⟩]
        · right; rw [if_neg (fun c => hlt c.2)]; omega }

/-- after the removal loop: the lists below the level hold the prefix `pre' ++ [q']`, with valid caches and sound marks -/
theorem after_removals (g : GCtx C dims n O pt ref) (j : ℕ) (hj1 : 1 ≤ j) (hj : j + 1 < dims) (A : List ℕ) (S₁ : St)
    (R : AfterReset C dims n O pt ref j A S₁) (pre' : List ℕ) (q' : ℕ) (rs : List ℕ)
    (hsplit : RL O (j + 1) A = pre' ++ q' :: rs.reverse) :
    Inv C dims n O pt ref (removeSeq C (j + 1) S₁ rs) j (pre' ++ [q']) ∧
      (∀ a, a ∈ pre' ++ [q'] ↔ a ∈ A ∧ a ∉ rs) ∧
      (∀ y ∈ rs, ign (removeSeq C (j + 1) S₁ rs) y = 0 ∨
        (j + 1 ≤ ign (removeSeq C (j + 1) S₁ rs) y ∧ ∃ b ∈ A, Dom C O (ign (removeSeq C (j + 1) S₁ rs) y) b y)) := by
  have hjd : j + 1 ≤ dims := by omega
  have hsplit' : RL O (j + 1) A = (pre' ++ [q']) ++ rs.reverse := by rw [hsplit]; simp
  obtain ⟨hBnd, hrnd, hB', hrA⟩ := RL_split g hj R.inv.sub hsplit'
  have hrs_nd : rs.Nodup := List.nodup_reverse.mp hrnd
  have hrsA : ∀ y ∈ rs, y ∈ A := fun y hy => hrA y (List.mem_reverse.mpr hy)
  have hB : ∀ a, a ∈ pre' ++ [q'] ↔ a ∈ A ∧ a ∉ rs := fun a => by rw [hB' a, List.mem_reverse]
  have hBsub : ∀ a ∈ pre' ++ [q'], a ∈ ids n := fun a ha => R.inv.sub a ((hB a).mp ha).1
  have hw := wflt_of_lists g hjd R.inv.nodup R.inv.sub (fun i hi => R.inv.lists i (by omega))
  have hS2 := shape_removeSeq C (j + 1) rs S₁ R.inv.shape
  obtain ⟨⟨fa, fi, fb⟩, fv⟩ := removeSeq_fields C (j + 1) rs S₁
  set S2 := removeSeq C (j + 1) S₁ rs
  have hign2 : ∀ y, ign S2 y = ign S₁ y := fun y => ign_of_ignore fi y
  -- marks carry witnesses (from IG) and the big ones have their witness earlier in the list of the level
  have hwit : ∀ y ∈ A, 1 ≤ ign S₁ y → j + 1 ≤ ign S₁ y ∧ ∃ b ∈ A, Dom C O (ign S₁ y) b y := by
    intro y hy hm
    rcases R.zero_or_big y hy with h0 | hbig
    · omega
    · exact ⟨hbig, R.inv.ig y hy hm⟩
  refine ⟨?_, hB, ?_⟩
  · exact
      { shape := hS2
        tshape := tshape_of_fields R.inv.tshape fa fv fi
        nodup := hBnd
        sub := hBsub
        lists := by
          intro i hi
          have hd := removeSeq_dl C hjd (by omega : i < j + 1) rs S₁ A (RL O i A) R.inv.shape hw (R.inv.lists i (by omega)) hrs_nd hrsA
          rw [RL_diff g (by omega : i < dims) A (pre' ++ [q']) rs hB] at hd
          exact hd
        cv := cv_removeSeq g hjd rs S₁ A _ R.inv.sub (fun y hy => R.inv.sub y (hrsA y hy)) hB (cv_mono_level (by omega) R.inv.cv)
        ig := by
          intro y hy hm
          rw [hign2 y] at hm ⊢
          have hyA := ((hB y).mp hy).1
          obtain ⟨hbig, b, hbA, hdom⟩ := hwit y hyA hm
          -- `b` is earlier than `y` in the list of the level, hence still present
          exact ⟨b, mem_pre_of_pos_lt g hj R.inv.sub hsplit' hy hbA (hdom.2.2 (j + 1) (by omega) hbig), hdom⟩ }
  · intro y hy
    rw [hign2 y]
    rcases Nat.eq_zero_or_pos (ign S₁ y) with h0 | hpos
    · exact Or.inl h0
    · exact Or.inr (hwit y (hrsA y hy) hpos)

/-- the start of the reinsertion loop when a single node is left (l.163-167) -/
theorem linv_start_single (g : GCtx C dims n O pt ref) (j : ℕ) (hj1 : 1 ≤ j) (hj : j + 1 < dims) (A : List ℕ) (S₁ : St)
    (R : AfterReset C dims n O pt ref j A S₁) (q' : ℕ) (rs : List ℕ)
    (hsplit : RL O (j + 1) A = [] ++ q' :: rs.reverse) :
    LInv C dims n O pt ref j A S₁
      (setVl ((List.range (j + 1)).foldl (fun S i => setAr S q' (i + 1) (ar S q' i * -(cg C q' i)))
        (setAr (removeSeq C (j + 1) S₁ rs) q' 0 1)) q' (j + 1) 0) [] q' rs.reverse 0 := by
  obtain ⟨inv2, hB, habs⟩ := after_removals g j hj1 hj A S₁ R [] q' rs hsplit
  obtain ⟨⟨fa, fi, fb⟩, fv⟩ := removeSeq_fields C (j + 1) rs S₁
  set S2 := removeSeq C (j + 1) S₁ rs
  have hq'A : q' ∈ A := ((hB q').mp (by simp)).1
  have hq'I := R.inv.sub q' hq'A
  have hq'n : q' ≤ n := ((mem_ids n q').mp hq'I).2
  obtain ⟨t1, t2, t3, t4, t5, t6, t7, t8⟩ := foldl_setAr_spec (dims := dims) (n := n) C q' hq'n (j + 1) S2 hj inv2.tshape
  set Tf := (List.range (j + 1)).foldl (fun S i => setAr S q' (i + 1) (ar S q' i * -(cg C q' i))) (setAr S2 q' 0 1)
  have hfirst := caches_of_first g j hj A R.inv.sub q' rs.reverse (by simpa using hsplit)
  have harq : ar Tf q' (j + 1) = ARv ref pt O j A q' := by
    rw [t7 (j + 1) (le_refl _), hfirst.1, Hj_single_eq_areaProd g q' hq'I j (by omega)]
  have invf : Inv C dims n O pt ref Tf j ([] ++ [q']) :=
    { inv2 with
      shape := shape_ptr_fields inv2.shape t2 t3
      tshape := t1
      lists := fun i hi => dl_ptrEq (ptrEq_of_fields t2 t3) (inv2.lists i hi)
      cv := by
        intro j' hj'1 hj'K a ha b hb hlt
        obtain rfl : a = q' := by simpa using ha
        rw [t6] at hb
        obtain ⟨_, e2⟩ := inv2.cv j' hj'1 hj'K a (by simp) b hb hlt
        constructor
        · rw [t7 (j' + 1) (by omega), ← Hj_single_eq_areaProd g a hq'I j' (by omega)]
          exact (ARv_single ref pt O j' a).symm
        · rw [vl_of_volume t4 a (j' + 1)]
          simpa using e2
      ig := ig_frame (S := S2) (fun a _ => ign_of_ignore t5 a) inv2.ig }
  exact linv_close g hj R.inv.sub hsplit (fun y hy => habs y (List.mem_reverse.mp hy)) (fun a ha => absurd ha List.not_mem_nil)
    (fun y _ _ => ign_of_ignore fi y) (fun a i _ => ⟨ar_of_area fa a i, vl_of_volume fv a i⟩) (fun i hi => fb i (by omega))
    (by rw [List.reverse_reverse]; exact (ptrEq_of_fields t2 t3).trans (fun _ _ => ⟨rfl, rfl⟩))
    (inv_setVl invf q' (j + 1) (by omega) 0) (fun y _ _ => ign_of_ignore t5 y)
    (fun a i hi hne => t8 a i (hne.imp_right fun h => by omega))
    (fun a i _ hne => (vl_setVl_ne Tf q' (j + 1) a i 0 hne).trans (vl_of_volume t4 a i))
    (fun i _ => congrArg (·.getD i none) t6) harq (vl_setVl_self' t1 hq'n hj 0) hfirst.2.symm

/-- the start of the reinsertion loop when the caches of the nodes below the bound are reused (l.152-162) -/
theorem linv_start_multi (g : GCtx C dims n O pt ref) (j : ℕ) (hj1 : 1 ≤ j) (hj : j + 1 < dims) (F : ℕ)
    (hrec : LevelOK C dims n O pt ref F j) (A : List ℕ) (S₁ : St)
    (R : AfterReset C dims n O pt ref j A S₁) (dA : List ℕ) (p0 q' : ℕ) (rs : List ℕ)
    (hsplit : RL O (j + 1) A = (dA ++ [p0]) ++ q' :: rs.reverse)
    (hstop : ∃ b, S₁.bounds.getD (j + 1) none = some b ∧ cg C q' (j + 1) ≤ b ∧ cg C p0 (j + 1) < b) :
    pv (removeSeq C (j + 1) S₁ rs) (j + 1) q' = p0 ∧
    ∃ T5, areaStep (hvRecursive C F j) (j + 1) ((dA ++ [p0]).length + 1) q' (removeSeq C (j + 1) S₁ rs) = some T5 ∧
      LInv C dims n O pt ref j A S₁
        (setVl T5 q' (j + 1) (vl (removeSeq C (j + 1) S₁ rs) p0 (j + 1) + ar (removeSeq C (j + 1) S₁ rs) p0 (j + 1) *
          (cg C q' (j + 1) - cg C p0 (j + 1)))) (dA ++ [p0]) q' rs.reverse
        (vl (removeSeq C (j + 1) S₁ rs) p0 (j + 1) + ar (removeSeq C (j + 1) S₁ rs) p0 (j + 1) *
          (cg C q' (j + 1) - cg C p0 (j + 1))) := by
  obtain ⟨inv2, _, habs⟩ := after_removals g j hj1 hj A S₁ R (dA ++ [p0]) q' rs hsplit
  obtain ⟨⟨fa, fi, fb⟩, fv⟩ := removeSeq_fields C (j + 1) rs S₁
  obtain ⟨_, _, hpre, hrestA⟩ := RL_split g hj R.inv.sub hsplit
  have hsplit3 : RL O (j + 1) A = dA ++ p0 :: q' :: rs.reverse := by rw [hsplit]; simp
  have hq'A : q' ∈ A := hrestA q' List.mem_cons_self
  have hq'n : q' ≤ n := ((mem_ids n q').mp (R.inv.sub q' hq'A)).2
  set S2 := removeSeq C (j + 1) S₁ rs
  -- the list of the level is untouched
  have hnode := seg_node S₁ (j + 1) (dA ++ [p0]) 0 q' rs.reverse 0 (hsplit ▸ (R.inv.lists (j + 1) (le_refl _)).1)
  have hpv : pv S2 (j + 1) q' = p0 := by
    rw [(removeSeq_ge C (j + 1) rs S₁ (j + 1) (le_refl _) q').2, hnode.1]; simp
  refine ⟨hpv, ?_⟩
  -- the caches of the nodes before q' are valid: they are strictly below the bound
  obtain ⟨b, hb, hqb, hp0b⟩ := hstop
  have hsorted := List.pairwise_append.mp (hsplit3 ▸ RL_sorted g hj A)
  have hvalid : ∀ a ∈ dA ++ [p0], ar S2 a (j + 1) = ARv ref pt O j A a ∧ vl S2 a (j + 1) = VOLv C ref pt O j A a := by
    intro a ha
    have haA : a ∈ A := ((hpre a).mp ha).1
    have hale : cg C a (j + 1) ≤ cg C p0 (j + 1) := by
      rcases List.mem_append.mp ha with h | h
      · exact hsorted.2.2 a h p0 List.mem_cons_self
      · rw [List.mem_singleton.mp h]
    rw [ar_of_area fa a (j + 1), vl_of_volume fv a (j + 1)]
    exact R.inv.cv j hj1 (by omega) a haA b hb (lt_of_le_of_lt hale hp0b)
  have hmark : ign S2 q' = 0 ∨ (j + 1 ≤ ign S2 q' ∧ ∃ b ∈ A, Dom C O (ign S2 q') b q') := by
    rw [ign_of_ignore fi q']
    rcases R.zero_or_big q' hq'A with h0 | hbig
    · exact Or.inl h0
    · exact Or.inr ⟨hbig, R.inv.ig q' hq'A (by omega)⟩
  obtain ⟨T5, hstep, hpe5, inv5, har5, fign5, far5, fvl5, fb5⟩ :=
    area_step_ok g j hj1 hj F hrec A R.inv.sub dA p0 q' rs.reverse hsplit3 S2 inv2 hpv (hvalid p0 (by simp)).1 hmark
  have hlen : (dA ++ [p0] ++ [q']).length = (dA ++ [p0]).length + 1 := by simp
  rw [hlen] at hstep
  refine ⟨T5, hstep, ?_⟩
  have hvol0_eq : vl S2 p0 (j + 1) + ar S2 p0 (j + 1) * (cg C q' (j + 1) - cg C p0 (j + 1)) = VOLv C ref pt O j A q' := by
    rw [(hvalid p0 (by simp)).1, (hvalid p0 (by simp)).2]
    exact (caches_step g j hj A R.inv.sub dA rs.reverse p0 q' hsplit3).symm
  exact linv_close g hj R.inv.sub hsplit (fun y hy => habs y (List.mem_reverse.mp hy)) hvalid
    (fun y _ _ => ign_of_ignore fi y) (fun a i _ => ⟨ar_of_area fa a i, vl_of_volume fv a i⟩) (fun i hi => fb i (by omega))
    (by rw [List.reverse_reverse]; exact hpe5.trans (fun _ _ => ⟨rfl, rfl⟩)) (inv_setVl inv5 q' (j + 1) (by omega) _)
    fign5 far5 (fun a i hi hne => (vl_setVl_ne T5 q' (j + 1) a i _ hne).trans (fvl5 a i hi))
    (fun i hi => fb5 i (by omega)) har5 (vl_setVl_self' inv5.tshape hq'n hj _) hvol0_eq

/-- **the general case of `hvRecursive` at level `j + 1` meets the level interface**, given that level `j` does -/
theorem general_full (g : GCtx C dims n O pt ref) (j : ℕ) (hj1 : 1 ≤ j) (hj : j + 1 < dims) (F : ℕ) (hF : n + 1 ≤ F)
    (hrec : LevelOK C dims n O pt ref F j) (S : St) (A : List ℕ) (inv : Inv C dims n O pt ref S (j + 1) A)
    (hne : A ≠ []) :
    ∃ v S', general (hvRecursive C F j) C F (j + 1) A.length S = some (v, S') ∧
      Post C dims n O pt ref S S' (j + 1) A v := by
  have hperm := RL_perm g hj A inv.nodup inv.sub
  have hLlen : (RL O (j + 1) A).length = A.length := hperm.length_eq
  have hLne : RL O (j + 1) A ≠ [] := by
    intro h; rw [h] at hLlen; exact hne (List.length_eq_zero_iff.mp hLlen.symm)
  have hLA : ∀ a, a ∈ RL O (j + 1) A ↔ a ∈ A := fun a => hperm.mem_iff
  obtain ⟨pre, q0, hL⟩ : ∃ pre q0, RL O (j + 1) A = pre ++ [q0] :=
    ⟨_, _, (List.dropLast_append_getLast hLne).symm⟩
  have hdk := inv.lists (j + 1) (le_refl _)
  have hLn : (RL O (j + 1) A).length ≤ n := dl_length_le hdk
  have hseg := hdk.1
  rw [hL] at hseg
  have hsp := (seg_append S (j + 1) pre 0 q0 [] 0).mp hseg
  have hq0 : pv S (j + 1) 0 = q0 := hsp.2.2
  unfold general
  rw [hq0]
  have hmem_q : ∀ a, a ∈ q0 :: pre.reverse ↔ a ∈ A := by
    intro a; rw [← hLA a, hL]; simp [or_comm]
  rw [resetLoop_run (j + 1) pre q0 S F hsp.1
    (by rw [hL, List.length_append, List.length_singleton] at hLn; omega)
    (fun a ha =>
      Nat.ne_of_gt ((mem_ids n a).mp (inv.sub a ((hLA a).mp (by rw [hL]; simpa [or_comm] using ha)))).1)]
  have R := after_reset inv hmem_q
  have hfield : ∀ {α : Type} (f : St → α), (∀ S a v, f (setIgn S a v) = f S) →
      f ((q0 :: pre.reverse).foldl (resetStep (j + 1)) S) = f S :=
    fun f hf => foldl_resetStep_field f hf (j + 1) _ S
  have hign1 : ∀ y, y ∉ A → ign ((q0 :: pre.reverse).foldl (resetStep (j + 1)) S) y = ign S y := fun y hy => by
    rw [ign_foldl_resetStep, if_neg (fun c => hy ((hmem_q y).mp c.1))]
  generalize (q0 :: pre.reverse).foldl (resetStep (j + 1)) S = S1 at R hfield hign1 ⊢
  have r2 : PtrEq S S1 := ptrEq_of_fields (hfield (·.next) (fun _ _ _ => rfl)) (hfield (·.prev) (fun _ _ _ => rfl))
  have r4 := hfield (·.area) (fun _ _ _ => rfl)
  have r5 := hfield (·.volume) (fun _ _ _ => rfl)
  have r6 := hfield (·.bounds) (fun _ _ _ => rfl)
  dsimp only
  have hq0' : pv S1 (j + 1) 0 = q0 := by rw [(r2 (j + 1) 0).2]; exact hq0
  rw [hq0']
  have hseg1 : Seg S1 (j + 1) 0 (pre ++ q0 :: []) 0 := by
    have := (R.inv.lists (j + 1) (le_refl _)).1; rw [hL] at this; exact this
  obtain ⟨pre', q', rs, hr2, hnodes, hstop⟩ := removeLoop_stop C (j + 1) A.length pre q0 [] 0 S1
    (by rw [← hLlen, hL]; simp) hseg1
  rw [hr2]
  have hsplit : RL O (j + 1) A = pre' ++ q' :: rs.reverse := by rw [hL, hnodes]
  have hrs_len : rs.length ≤ F := by
    have := length_split hsplit
    rw [List.length_reverse] at this
    omega
  -- loop 3 and the result, from any state at which the loop invariant holds
  have finish : ∀ (hv : ℚ) (Tm : St), LInv C dims n O pt ref j A S1 (setVl Tm q' (j + 1) hv) pre' q' rs.reverse hv →
      ∃ v S', (match reinsLoop (hvRecursive C F j) C (j + 1) F ((rs.reverse ++ [0]).headD 0) q' hv (pre'.length + 1)
          (setVl Tm q' (j + 1) hv) with
        | none => none
        | some (q, hvol, S) => some (hvol - ar S q (j + 1) * cg C q (j + 1), S)) = some (v, S') ∧
        Post C dims n O pt ref S S' (j + 1) A v := by
    intro hv Tm I0
    obtain ⟨q'', hv', T', d0', hr3, If⟩ := loop3_ok g j hj1 hj F hrec A inv.nodup inv.sub S1 R.inv.shape R.inv.lists
      rs.reverse pre' q' hv (setVl Tm q' (j + 1) hv) F I0 (by simpa using hrs_len)
    have hlen' : (pre' ++ [q']).length = pre'.length + 1 := by simp
    rw [hlen'] at hr3
    rw [hr3]
    have hfsplit : RL O (j + 1) A = d0' ++ [q''] := by have := If.split; simpa using this
    have hfmem : ∀ a, a ∈ d0' ++ [q''] ↔ a ∈ A := fun a => by rw [← hLA a, hfsplit]
    have hq''c := If.cache q'' (by simp)
    have hval : hv' - ar T' q'' (j + 1) * cg C q'' (j + 1) = Hj ref pt (j + 1) A := by
      rw [If.hvol, hq''c.1]
      exact Hj_of_last g j hj A inv.sub d0' q'' hfsplit
    have hptr : PtrEq S T' := r2.trans (by have := If.ptr; simpa [removeSeq] using this)
    refine ⟨_, T', rfl, ?_⟩
    exact
      { val := hval
        ptr := hptr
        inv :=
          { shape := If.shape
            tshape := If.tshape
            nodup := inv.nodup
            sub := inv.sub
            lists := fun i hi => dl_ptrEq hptr (inv.lists i hi)
            cv := by
              have hlow : CV C ref pt O T' (j + 1) A := cv_congr_set hfmem If.cv
              intro j' hj'1 hj'K a ha b hb hlt
              rcases Nat.lt_or_ge (j' + 1) (j + 1) with h | h
              · exact hlow j' hj'1 h a ha b hb hlt
              · have : j' = j :=
                  Nat.le_antisymm (Nat.le_of_lt_succ (Nat.lt_of_succ_lt_succ hj'K)) (Nat.le_of_succ_le_succ h)
                subst this
                exact If.cache a ((hfmem a).mpr ha)
            ig := ig_congr_set hfmem If.ig }
        ign_out := by
          intro y hy hy0
          rw [If.f_ign y hy hy0, hign1 y hy]
        cache_hi := by
          intro a i hi
          obtain ⟨e1, e2⟩ := If.f_hi a i hi
          exact ⟨e1.trans (ar_of_area r4 a i), e2.trans (vl_of_volume r5 a i)⟩
        bounds_hi := by
          intro i hi
          rw [If.f_bhi i hi, r6] }

  rcases List.eq_nil_or_concat pre' with hnil | ⟨dA, p0, hcons⟩
  · subst hnil
    rw [if_neg (by simp)]
    exact finish 0 _ (linv_start_single g j hj1 hj A S1 R q' rs hsplit)
  · rw [List.concat_eq_append] at hcons
    subst hcons
    rw [if_pos (Nat.lt_succ_of_le (List.length_pos_of_mem (List.mem_append_right dA (List.mem_singleton_self p0))))]
    obtain ⟨hpv, T5, hstep, I⟩ := linv_start_multi g j hj1 hj F hrec A S1 R dA p0 q' rs hsplit (hstop dA p0 rfl)
    rw [hpv, hstep]
    exact finish _ T5 I

end ctx

end HvSweep
