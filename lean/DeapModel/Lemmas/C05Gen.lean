/-
C04 / C05 — translator tie: helper lemmas for the committed theorems of `GenEq/C05.lean.tmpl`
(`Gen.<f> = <Model>.<f>`, the `Gen.<f>` regenerated from the source by `harness/py2lean_c05.py`).  The template is
elaborated on top of this module alone: `linarith` and ℚ, which it uses, come from the imports below.
-/
import DeapModel.Core.GenPreludeC05
import DeapModel.Lemmas.GenNat
import DeapModel.Lemmas.C05Crowd
import Mathlib.Tactic.Linarith

set_option linter.unusedSectionVars false

namespace C05G
open NDSort Crowding

section Lists
variable {β γ : Type}

theorem enum_swap (l : List β) : (Gen5.enumerate l).map (fun p => (p.2, p.1)) = l.zipIdx := by
  simp [Gen5.enumerate, Function.comp_def]

theorem setAll_aux : ∀ (d pre cd : List γ), cd.length = d.length →
    (d.zipIdx pre.length).foldl (fun st p => st.set p.2 p.1) (pre ++ cd) = pre ++ d
  | [], pre, cd, h => by
    have : cd = [] := List.length_eq_zero_iff.mp (by simpa using h)
    simp [this]
  | x :: xs, pre, c :: cs, h => by
    have ih := setAll_aux xs (pre ++ [x]) cs (by simpa using h)
    simpa using ih

theorem setAll (d cd : List γ) (h : cd.length = d.length) :
    (Gen5.enumerate d).foldl (fun st p => st.set p.1 p.2) cd = d := by
  have := setAll_aux d [] cd h
  simpa [Gen5.enumerate, List.foldl_map] using this

theorem item_last [Inhabited β] (l : List β) : Gen5.item l (-((1 : Nat) : Int)) = l.getLast?.getD default := by
  rw [Gen5.item, if_pos (by decide), List.getLast?_eq_getElem?, List.getD_eq_getElem?_getD]; rfl

theorem getD_zero_head [Inhabited β] (l : List β) : l.getD 0 default = l.head?.getD default := by
  cases l <;> simp

theorem zip_take_left : ∀ (k : Nat) (l₁ : List β) (l₂ : List γ), l₂.length ≤ k →
    List.zip (l₁.take k) l₂ = List.zip l₁ l₂
  | _, [], _, _ => by simp
  | _, _ :: _, [], _ => by simp
  | 0, _ :: _, _ :: _, h => by simp at h
  | k + 1, a :: l₁, b :: l₂, h => by
    rw [List.take_succ_cons, List.zip_cons_cons, List.zip_cons_cons, zip_take_left k l₁ l₂ (by simpa using h)]

/-- a negative slice bound counts from the end -/
theorem bound_neg (n k : Nat) (hk : 0 < k) : Gen.bound n (-(k : Int)) = n - k := by
  rw [Gen.bound, if_pos (by omega)]; omega

/-- `zip(crowd[:-2], crowd[1:-1], crowd[2:])`: the slices only cut what `zip` would drop anyway -/
theorem zip3_triples (l : List β) :
    Gen5.zip3 (Gen.slice l none (some (-((2 : Nat) : Int)))) (Gen.slice l (some ((1 : Nat) : Int)) (some (-((1 : Nat) : Int))))
      (Gen.slice l (some ((2 : Nat) : Int)) none) = triples l := by
  have hd : ∀ k, List.drop (min k l.length) l = List.drop k l := fun k => by
    rcases Nat.le_total k l.length with h | h
    · rw [Nat.min_eq_left h]
    · rw [Nat.min_eq_right h, List.drop_of_length_le h, List.drop_length]
  simp only [Gen5.zip3, Gen.slice, bound_neg _ 2 (by decide), bound_neg _ 1 (by decide), GenNat.bound_natCast,
    List.drop_zero, List.take_length,
    List.drop_take]
  rw [hd, hd, C05L.triples_eq_zip,
    zip_take_left _ _ _ (by rw [List.length_zip, List.length_drop]; exact Nat.min_le_right _ _),
    zip_take_left _ _ _ (by rw [List.length_drop]; omega)]
end Lists

section Crowd
variable {α : Type} [LT α] [LE α] [DecidableEq α] [DecidableLT α] [DecidableLE α]
  [Add α] [Sub α] [Mul α] [Div α] [Neg α] [Zero α] [NatCast α] [Inhabited α]

/-- the body of `for i in range(nobj)` of assignCrowdingDist in the shape the translator renders it -/
def genObjStep (v_nobj : Nat) (st3 : (List ((List α) × Nat)) × (List (Crowding.Dist α))) (p2 : Nat) :
    (List ((List α) × Nat)) × (List (Crowding.Dist α)) :=
  let v_crowd := (NDSort.pySortedBy (fun (l_element : (List (α)) × (Nat)) => (l_element.1.getD p2 default)) st3.1);
  let v_distances := (st3.2.set (v_crowd.getD (0 : Nat) default).2 (none : Crowding.Dist α));
  let v_distances := (v_distances.set (Gen5.item v_crowd (-((1 : Nat) : Int))).2 (none : Crowding.Dist α));
  if (((Gen5.item v_crowd (-((1 : Nat) : Int))).1.getD p2 default) = ((v_crowd.getD (0 : Nat) default).1.getD p2 default)) then (
  (v_crowd, v_distances))
  else (
  let v_norm := (((v_nobj : Nat) : α) * (((Gen5.item v_crowd (-((1 : Nat) : Int))).1.getD p2 default) - ((v_crowd.getD (0 : Nat) default).1.getD p2 default)));
  let r6 := List.foldl (fun (st5 : List (Crowding.Dist α)) (p4 : ((List (α)) × (Nat)) × ((List (α)) × (Nat)) × ((List (α)) × (Nat))) =>
  let v_distances := (st5.set p4.2.1.2 (Crowding.Dist.add (st5.getD p4.2.1.2 default) (((p4.2.2.1.getD p2 default) - (p4.1.1.getD p2 default)) / v_norm)));
  v_distances) v_distances (Gen5.zip3 (Gen.slice v_crowd none (some (-((2 : Nat) : Int)))) (Gen.slice v_crowd (some ((1 : Nat) : Int)) (some (-((1 : Nat) : Int)))) (Gen.slice v_crowd (some ((2 : Nat) : Int)) none));
  let v_distances := r6;
  (v_crowd, v_distances))

theorem sortCrowd_eq (i : Nat) (c : List (List α × Nat)) :
    NDSort.pySortedBy (fun (e : List α × Nat) => e.1.getD i default) c = sortCrowd i c := rfl

theorem genObjStep_eq (nobj : Nat) (st : List (List α × Nat) × List (Dist α)) (i : Nat) (h : st.1 ≠ []) :
    genObjStep nobj st i = objStep nobj st i := by
  unfold genObjStep objStep
  simp only [sortCrowd_eq]
  have hne : sortCrowd i st.1 ≠ [] := by
    intro h0
    have := congrArg List.length h0
    simp [sortCrowd] at this
    exact h this
  obtain ⟨first, hf⟩ : ∃ f, (sortCrowd i st.1).head? = some f := by
    cases hc : sortCrowd i st.1 with
    | nil => exact absurd hc hne
    | cons a t => exact ⟨a, rfl⟩
  obtain ⟨last, hl⟩ : ∃ f, (sortCrowd i st.1).getLast? = some f := by
    cases hc : (sortCrowd i st.1).getLast? with
    | none => exact absurd (List.getLast?_eq_none_iff.mp hc) hne
    | some x => exact ⟨x, rfl⟩
  simp only [getD_zero_head, item_last, hf, hl, Option.getD_some, zip3_triples]
  rfl

theorem objStep_lengths (nobj : Nat) (st : List (List α × Nat) × List (Dist α)) (i : Nat) :
    (objStep nobj st i).1.length = st.1.length ∧ (objStep nobj st i).2.length = st.2.length :=
  ⟨by rw [C05L.objStep_fst, sortCrowd, List.length_mergeSort], C05L.objStep_length nobj st i⟩

theorem foldl_objStep_inv (nobj : Nat) (l : List Nat) (st : List (List α × Nat) × List (Dist α)) (h : st.1 ≠ []) :
    l.foldl (genObjStep nobj) st = l.foldl (objStep nobj) st ∧
    (l.foldl (objStep nobj) st).2.length = st.2.length := by
  induction l generalizing st with
  | nil => simp
  | cons i is ih =>
    simp only [List.foldl_cons]
    rw [genObjStep_eq nobj st i h]
    have hl := objStep_lengths nobj st i
    have hne : (objStep nobj st i).1 ≠ [] := by
      intro h0; rw [h0] at hl; exact h (List.length_eq_zero_iff.mp hl.1.symm)
    have := ih (objStep nobj st i) hne
    exact ⟨this.1, this.2.trans hl.2⟩

end Crowd

theorem item_half {β : Type} [Inhabited β] (l : List β) (n : Nat) (h : l.length = n) :
    Gen5.item l ((((n : Nat) : Int) - ((1 : Nat) : Int)) / ((2 : Nat) : Int)) = l.getD ((n - 1) / 2) default := by
  cases n with
  | zero => rw [List.length_eq_zero_iff.1 h]; rfl
  | succ n =>
    have e : (((n + 1 : Nat) : Int) - ((1 : Nat) : Int)) / ((2 : Nat) : Int) = ((n / 2 : Nat) : Int) := by
      rw [Nat.cast_add, Int.add_sub_cancel, Int.natCast_ediv]
    rw [e, Gen5.item, if_neg (by omega), Int.toNat_natCast, Nat.add_sub_cancel]

/-- one pass of three-way `append`s into four lists = four order-preserving filters -/
theorem fold3 {β : Type} (g l : β → Prop) [DecidablePred g] [DecidablePred l] : ∀ (xs a b c d : List β),
    List.foldl (fun (st : List β × List β × List β × List β) (x : β) =>
      if g x then (st.1 ++ [x], st.2.1 ++ [x], st.2.2.1, st.2.2.2)
      else if l x then (st.1, st.2.1, st.2.2.1 ++ [x], st.2.2.2 ++ [x])
      else (st.1 ++ [x], st.2.1, st.2.2.1, st.2.2.2 ++ [x])) (a, b, c, d) xs =
    (a ++ xs.filter (fun x => decide (g x) || !decide (l x)), b ++ xs.filter (fun x => decide (g x)),
     c ++ xs.filter (fun x => !decide (g x) && decide (l x)), d ++ xs.filter (fun x => !decide (g x)))
  | [], a, b, c, d => by simp
  | x :: xs, a, b, c, d => by
    simp only [List.foldl_cons]
    split_ifs with h1 h2
    · rw [fold3 g l xs]; simp [h1]
    · rw [fold3 g l xs]; simp [h1, h2]
    · rw [fold3 g l xs]; simp [h1, h2]
end C05G
