/-
C16 — the invariant of `copyVal` and the building blocks of its induction step.
-/
import DeapModel.Lemmas.C16CopyBase

namespace Heap.Copy

/-- The copier's steps only allocate at or beyond `st.next` and only add memo entries. -/
structure CExt (st st' : State) : Prop where
  next : st.next ≤ st'.next
  objs : ∀ y, y < st.next → st'.objs y = st.objs y
  memo : ∀ x x', lookup x st.memo = some x' → lookup x st'.memo = some x'

theorem CExt.refl (st : State) : CExt st st := ⟨Nat.le_refl _, fun _ _ => rfl, fun _ _ h => h⟩

theorem CExt.trans {a b c : State} (h1 : CExt a b) (h2 : CExt b c) : CExt a c :=
  ⟨Nat.le_trans h1.next h2.next,
   fun y hy => by rw [h2.objs y (Nat.lt_of_lt_of_le hy h1.next), h1.objs y hy],
   fun x x' h => h2.memo x x' (h1.memo x x' h)⟩

theorem CExt.of_ext {A : Prop} {st st' : State} (h : Ext A st st') : CExt st st' :=
  ⟨h.le, h.old, fun _ _ hl => h.memo ▸ hl⟩

/-- Success AND facts for steps that succeed only under the invariant `I` (the copier's): every step, started under `I`,
succeeds, keeps `I`, extends the state (`CExt`) and establishes `R`, which is stable along `CExt`. -/
theorem mapSt_thread {α β : Type} (f : State → α → Option (State × β))
    (I : State → Prop) (R : State → α → β → Prop)
    (hR : ∀ s s' a b, I s → CExt s s' → R s a b → R s' a b) :
    ∀ (l : List α) (s : State), I s →
      (∀ a ∈ l, ∀ s, I s → ∃ s' b, f s a = some (s', b) ∧ I s' ∧ CExt s s' ∧ R s' a b) →
      ∃ s' bs, mapSt f s l = some (s', bs) ∧ I s' ∧ CExt s s' ∧ All2 (R s') l bs := by
  intro l
  induction l with
  | nil => intro s hs _; exact ⟨s, [], rfl, hs, CExt.refl s, .nil⟩
  | cons a l ih =>
    intro s hs hf
    obtain ⟨s1, b, h1, hI1, hE1, hR1⟩ := hf a List.mem_cons_self s hs
    obtain ⟨s2, bs, h2, hI2, hE2, hR2⟩ :=
      ih s1 hI1 (fun a' ha' => hf a' (List.mem_cons_of_mem _ ha'))
    exact ⟨s2, b :: bs, mapSt_cons_some h1 h2, hI2, hE1.trans hE2,
      .cons (hR s1 s2 a b hI1 hE2 hR1) hR2⟩

section Copy
variable (ct : ClassTable) (objs0 : Oid → Option Obj) (N0 : Nat)

/-- What the copier returns: an atom, or an object it has allocated and defined. -/
def NewVal (objs : Oid → Option Obj) : Val → Prop
  | .atom _ => True
  | .ref z => N0 ≤ z ∧ (objs z).isSome = true

/-- What a defined new object may refer to: atoms, immutable leaves of the old heap (shared tree
nodes), defined new objects. -/
def ChildOK (objs : Oid → Option Obj) : Val → Prop
  | .atom _ => True
  | .ref z => (z < N0 ∧ ImmLeaf objs0 (.ref z)) ∨ (N0 ≤ z ∧ (objs z).isSome = true)

/-- `v'` (in `objs`) is a faithful copy of `v` (in the old heap). -/
structure GoodVal (objs : Oid → Option Obj) (v v' : Val) : Prop where
  new : NewVal N0 objs v'
  abs : ∀ m, abs objs m v' = abs objs0 m v
  within : DictNodup ct → ∀ k, Within ct CopyOK objs0 k v → Within ct CopyOK objs k v'

/-- The invariant of a copying state; `P` = originals whose copy is reserved (and, for the kinds that memoise
early, already in the memo) but not yet defined. -/
structure CInv (st : State) (P : List Oid) : Prop where
  le : N0 ≤ st.next
  old : ∀ y, y < N0 → st.objs y = objs0 y
  bound : ∀ y, st.next ≤ y → st.objs y = none
  memo : ∀ x x', lookup x st.memo = some x' →
    x ∈ P ∨ GoodVal ct objs0 N0 st.objs (.ref x) (.ref x')
  new : ∀ y o, N0 ≤ y → st.objs y = some o → ∀ c ∈ o.children, ChildOK objs0 N0 st.objs c

variable {ct objs0 N0}

theorem NewVal.keep {objs objs' : Oid → Option Obj} (hk : Keeps objs objs') {v : Val}
    (h : NewVal N0 objs v) : NewVal N0 objs' v := by
  cases v with
  | atom a => trivial
  | ref z =>
    obtain ⟨h1, h2⟩ := h
    obtain ⟨o, ho⟩ := Option.isSome_iff_exists.1 h2
    exact ⟨h1, by rw [hk z o ho]; rfl⟩

theorem NewVal.childOK {objs : Oid → Option Obj} {v : Val} (h : NewVal N0 objs v) :
    ChildOK objs0 N0 objs v := by
  cases v with
  | atom a => trivial
  | ref z => exact Or.inr h

theorem ChildOK.keep {objs objs' : Oid → Option Obj} (hk : Keeps objs objs') {v : Val}
    (h : ChildOK objs0 N0 objs v) : ChildOK objs0 N0 objs' v := by
  cases v with
  | atom a => trivial
  | ref z => exact h.imp_right (NewVal.keep (v := .ref z) hk)

theorem NewVal.defined {objs : Oid → Option Obj} {v : Val} (h : NewVal N0 objs v) :
    ∀ x, v = .ref x → (objs x).isSome = true := by
  intro x hx
  subst hx
  exact h.2

theorem GoodVal.keep {objs objs' : Oid → Option Obj} (hr : NoDangling objs)
    (hk : Keeps objs objs') {v v' : Val} (h : GoodVal ct objs0 N0 objs v v') :
    GoodVal ct objs0 N0 objs' v v' :=
  ⟨h.new.keep hk,
   fun m => by rw [abs_ext objs objs' hr hk m v' h.new.defined]; exact h.abs m,
   fun hnd k hv => Within_ext ct objs objs' hk k v' (h.within hnd k hv)⟩

theorem GoodVal.atom (objs : Oid → Option Obj) (a : Int) :
    GoodVal ct objs0 N0 objs (.atom a) (.atom a) :=
  ⟨trivial, fun m => by rw [abs_atom, abs_atom], fun _ k _ => Within_of_isAtom objs k rfl⟩

theorem CInv.keeps {st st' : State} {P : List Oid} (hI : CInv ct objs0 N0 st P)
    (hE : CExt st st') : Keeps st.objs st'.objs :=
  fun y _ ho => (hE.objs y (Bounded.lt hI.bound ho)).trans ho

theorem CInv.keeps0 (hcl : Closed objs0 N0) {st : State} {P : List Oid}
    (hI : CInv ct objs0 N0 st P) : Keeps objs0 st.objs :=
  keeps_of_agree hcl hI.old

theorem CInv.refs (hcl : Closed objs0 N0) {st : State} {P : List Oid}
    (hI : CInv ct objs0 N0 st P) : NoDangling st.objs := by
  intro x o ho y hy
  have hold : ∀ oy, objs0 y = some oy → (st.objs y).isSome = true :=
    fun oy hoy => by rw [hI.keeps0 hcl y oy hoy]; rfl
  by_cases hx : x < N0
  · rw [hI.old x hx] at ho
    obtain ⟨oy, hoy⟩ := hcl.get ho hy
    exact hold oy hoy
  · rcases hI.new x o (Nat.le_of_not_lt hx) ho _ hy with ⟨_, oy, hoy, _⟩ | ⟨_, h⟩
    · exact hold oy hoy
    · exact h

theorem CInv.init (hcl : Closed objs0 N0) : CInv ct objs0 N0 ⟨objs0, N0, []⟩ [] :=
  ⟨Nat.le_refl _, fun _ _ => rfl, hcl.bound, fun _ _ h => (nomatch h),
   fun _ _ hy ho => absurd (lt_of_defined hcl ho) (Nat.not_lt.2 hy)⟩

theorem CInv.ext (hcl : Closed objs0 N0) {st st' : State} {P : List Oid}
    (hI : CInv ct objs0 N0 st P) (hE : Ext True st st') : CInv ct objs0 N0 st' P := by
  have hk := hI.keeps (.of_ext hE)
  refine ⟨Nat.le_trans hI.le hE.le, fun y hy => ?_, hE.bound, fun x x' h => ?_,
    fun y o hy ho c hc => ?_⟩
  · exact (hE.old y (Nat.lt_of_lt_of_le hy hI.le)).trans (hI.old y hy)
  · exact (hI.memo x x' (hE.memo ▸ h)).imp_right (GoodVal.keep (hI.refs hcl) hk)
  · by_cases hlt : y < st.next
    · rw [hE.old y hlt] at ho
      exact (hI.new y o hy ho c hc).keep hk
    · have := hE.closed y o (Nat.le_of_not_lt hlt) ho c hc
      cases c with
      | atom a => trivial
      | ref z => exact Or.inr ⟨Nat.le_trans hI.le this.1, this.2.2⟩

theorem CInv.instAttrs (hct : CTOk ct) (hcl : Closed objs0 N0) {st : State} {P : List Oid}
    (hI : CInv ct objs0 N0 st P) {c : ClsId} {ci : ClassInfo} (hci : ct[c]? = some ci) (b : Bool) :
    ∃ st' base,
      (if b = true then instAttrs ct st ci.dictInst else some (st, [])) = some (st', base) ∧
      CInv ct objs0 N0 st' P ∧ CExt st st' ∧
      AttrsIn st'.objs st.next st'.next (if b = true then ci.dictInst else []) base := by
  obtain ⟨⟨st', base⟩, h⟩ := initStep_succeeds ct hct hci b st
  obtain ⟨hE, hA⟩ := initStep_of_eq ct b hI.bound h
  exact ⟨st', base, h, hI.ext hcl hE, .of_ext hE, hA⟩

theorem _root_.Heap.AttrsIn.newVal {objs : Oid → Option Obj} {lo hi : Nat} {l : List (Name × ClsId)}
    {base : List (Name × Val)} (hA : AttrsIn objs lo hi l base) (hle : N0 ≤ lo) :
    ∀ p ∈ base, NewVal N0 objs p.2 := by
  intro p hp
  obtain ⟨y, hy, h1, _, h3⟩ := hA.childIn hp
  rw [hy]
  exact ⟨Nat.le_trans hle h1, h3⟩

theorem CInv.reserve {st : State} {P : List Oid} (hI : CInv ct objs0 N0 st P) {x : Oid}
    (hm : lookup x st.memo = none) (b : Bool) :
    CInv ct objs0 N0 ⟨st.objs, st.next + 1, if b = true then (x, st.next) :: st.memo else st.memo⟩
      (x :: P) ∧
    CExt st ⟨st.objs, st.next + 1, if b = true then (x, st.next) :: st.memo else st.memo⟩ := by
  refine ⟨⟨Nat.le_succ_of_le hI.le, hI.old, fun y hy => hI.bound y (Nat.le_of_succ_le hy),
    fun y y' h => ?_, hI.new⟩, Nat.le_succ _, fun _ _ => rfl, fun y y' h => ?_⟩
  · have h' : y = x ∨ lookup y st.memo = some y' := by
      cases b with
      | false => exact Or.inr h
      | true =>
        rw [if_pos rfl, lookup_cons] at h
        split at h
        · rename_i hxy
          exact Or.inl hxy.symm
        · exact Or.inr h
    rcases h' with rfl | h'
    · exact Or.inl List.mem_cons_self
    · exact (hI.memo y y' h').imp_left (List.mem_cons_of_mem _)
  · cases b with
    | false => exact h
    | true =>
      show lookup y ((x, st.next) :: st.memo) = some y'
      rw [lookup_cons, if_neg (fun e => by rw [← e, hm] at h; cases h)]
      exact h

theorem CInv.finish (hcl : Closed objs0 N0) {st st5 : State} {P : List Oid} {x : Oid} {o' : Obj}
    (hle : N0 ≤ st.next) (hmiss : lookup x st.memo = none) (hE : CExt st st5)
    (hlt : st.next < st5.next) (hnone : st5.objs st.next = none) (hI5 : CInv ct objs0 N0 st5 (x :: P))
    (hchild : ∀ c ∈ o'.children, ChildOK objs0 N0 (define st5.objs st.next o') c)
    (hgood : GoodVal ct objs0 N0 (define st5.objs st.next o') (.ref x) (.ref st.next)) :
    CInv ct objs0 N0 ⟨define st5.objs st.next o', st5.next, (x, st.next) :: st5.memo⟩ P ∧
    CExt st ⟨define st5.objs st.next o', st5.next, (x, st.next) :: st5.memo⟩ := by
  have hk := keeps_define hnone o'
  refine ⟨⟨hI5.le, fun y hy => ?_, fun y hy => ?_, fun y y' h => ?_, fun y o hy ho c hc => ?_⟩,
    hE.next, fun y hy => ?_, fun y y' h => ?_⟩
  · exact (define_ne _ _ _ (Nat.ne_of_lt (Nat.lt_of_lt_of_le hy hle))).trans (hI5.old y hy)
  · exact (define_ne _ _ _ (Nat.ne_of_gt (Nat.lt_of_lt_of_le hlt hy))).trans (hI5.bound y hy)
  · have h' : lookup y ((x, st.next) :: st5.memo) = some y' := h
    rw [lookup_cons] at h'
    split at h'
    · rename_i hxy
      cases h'
      exact Or.inr (hxy ▸ hgood)
    · rename_i hxy
      rcases hI5.memo y y' h' with hm | hg
      · exact Or.inl ((List.mem_cons.1 hm).resolve_left (fun e => hxy e.symm))
      · exact Or.inr (hg.keep (hI5.refs hcl) hk)
  · have ho' : define st5.objs st.next o' y = some o := ho
    by_cases hyx : y = st.next
    · rw [hyx, define_same] at ho'
      cases ho'
      exact hchild c hc
    · rw [define_ne _ _ _ hyx] at ho'
      exact (hI5.new y o hy ho' c hc).keep hk
  · exact (define_ne _ _ _ (Nat.ne_of_lt hy)).trans (hE.objs y hy)
  · show lookup y ((x, st.next) :: st5.memo) = some y'
    rw [lookup_cons, if_neg (fun e => by rw [← e, hmiss] at h; cases h)]
    exact hE.memo y y' h

theorem ImmLeaf_of_isAtom (objs : Oid → Option Obj) (c : Val) (h : c.isAtom = true) :
    ImmLeaf objs c := by
  cases c with
  | atom a => trivial
  | ref z => cases h

theorem childOK_of_immLeaf (hcl : Closed objs0 N0) (objs : Oid → Option Obj) {c : Val}
    (h : ImmLeaf objs0 c) : ChildOK objs0 N0 objs c := by
  cases c with
  | atom a => trivial
  | ref z =>
    obtain ⟨o, ho, _⟩ := id h
    exact Or.inl ⟨lt_of_defined hcl ho, h⟩

/-- Items taken over as they are (buffer copies, shared tree nodes) are immutable leaves. -/
theorem shared_items_leaf (ci : ClassInfo) (obj : Obj) (hok : CopyOK objs0 ci obj)
    (hc : ci.kind.copyItems = false) : ∀ c ∈ obj.items, ImmLeaf objs0 c := by
  obtain ⟨_, hf, hcf, harr, htree⟩ := hok
  intro c hcm
  cases hk : ci.kind with
  | fitness => exact ImmLeaf_of_isAtom _ c ((hf hk).2.2 c hcm)
  | cfitness => exact ImmLeaf_of_isAtom _ c ((hcf hk).2.2.2 c hcm)
  | tree => exact htree hk c hcm
  | pyarr => exact ImmLeaf_of_isAtom _ c (harr hk c hcm)
  | _ => rw [hk] at hc; cases hc

/-- Which part of `__dict__` the hook copies: entries of the original, and (under the side conditions)
all the original has. -/
theorem select_spec (objs : Oid → Option Obj) (ci : ClassInfo) (obj : Obj)
    (hok : CopyOK objs ci obj) :
    ∃ sel, selectAttrs ci.kind obj.attrs = some sel ∧ (∀ p ∈ sel, p ∈ obj.attrs) ∧
      ∀ k, lookup k sel = lookup k obj.attrs := by
  obtain ⟨_, hf, hcf, _, _⟩ := hok
  cases hk : ci.kind with
  | fitness => exact ⟨[], rfl, fun _ h => (nomatch h), fun k => ((hf hk).2.1 k).symm⟩
  | cfitness =>
    obtain ⟨_, hs, hn, _⟩ := hcf hk
    obtain ⟨v, hv⟩ := Option.isSome_iff_exists.1 hs
    refine ⟨[(cvName, v)], by rw [selectAttrs, hv], fun p hp => ?_, fun k => ?_⟩
    · rw [List.mem_singleton.1 hp]
      exact lookup_mem hv
    · rw [lookup_cons]
      split
      · rename_i h
        exact h ▸ hv.symm
      · rename_i h
        exact (hn k (Ne.symm h)).symm
  | _ => exact ⟨obj.attrs, rfl, fun _ h => h, fun _ => rfl⟩

/-- The `__dict__` of the copy answers every name as the original's does, with a faithful copy: the state
is written over the re-instantiated `dict_inst` attributes, all of which the original still has. -/
theorem attrs_rel {objs objs' : Oid → Option Obj} {lo hi : Nat} {obj : Obj} {ci : ClassInfo}
    {base sel as' : List (Name × Val)} (hok : CopyOK objs0 ci obj)
    (hbase : AttrsIn objs' lo hi (if ci.kind.initOnCopy = true then ci.dictInst else []) base)
    (hsell : ∀ k, lookup k sel = lookup k obj.attrs)
    (hF : All2 (fun p p' => p'.1 = p.1 ∧ GoodVal ct objs0 N0 objs p.2 p'.2) sel as') (k : Name) :
    Option.Rel (GoodVal ct objs0 N0 objs) (lookup k obj.attrs) (lookup k (dictUpdate base as')) := by
  rw [lookup_dictUpdate_cover ?_ k, ← hsell k]
  · exact hF.lookup k
  · intro k' hk'
    obtain ⟨hi, p, hp, rfl⟩ := hbase.initStep_key hk'
    rw [(hF.lookup p.1).isSome_eq, hsell]
    exact hok.1 hi p hp

theorem childOK_copy (hcl : Closed objs0 N0) {objs : Oid → Option Obj} {obj : Obj} {ci : ClassInfo}
    {base sel as' : List (Name × Val)} {is' : List Val} (hok : CopyOK objs0 ci obj)
    (hbnew : ∀ p ∈ base, NewVal N0 objs p.2)
    (hF : All2 (fun p p' => p'.1 = p.1 ∧ GoodVal ct objs0 N0 objs p.2 p'.2) sel as')
    (hit1 : ci.kind.copyItems = true → All2 (GoodVal ct objs0 N0 objs) obj.items is')
    (hit2 : ci.kind.copyItems = false → is' = obj.items) :
    ∀ c ∈ (⟨obj.cls, is', dictUpdate base as', obj.mutable⟩ : Obj).children,
      ChildOK objs0 N0 objs c := by
  intro c hc
  rcases List.mem_append.1 hc with hc | hc
  · cases hci : ci.kind.copyItems with
    | true =>
      obtain ⟨a, _, hg⟩ := (hit1 hci).mem_right c hc
      exact hg.new.childOK
    | false =>
      exact childOK_of_immLeaf hcl objs (shared_items_leaf ci obj hok hci c (hit2 hci ▸ hc))
  · obtain ⟨q, hq, rfl⟩ := List.mem_map.1 hc
    rcases mem_dictUpdate hq with hq | hq
    · exact (hbnew q hq).childOK
    · obtain ⟨p, _, _, hg⟩ := hF.mem_right q hq
      exact hg.new.childOK

/-- An object `o'` at a new oid whose items and attributes are faithful copies of those of `obj` (or the
very items, where the hook takes them over) is a faithful copy of `obj`.  `hnw` (the original is deeper than `j`) is what the
depth induction knows at this point: the `within` clause then has to be shown only for depths above `j`, where the children's
(depth `j`) suffices. -/
theorem GoodVal.node (hcl : Closed objs0 N0) {objs : Oid → Option Obj} (hk0 : Keeps objs0 objs)
    {j : Nat} {x x' : Oid} {obj o' : Obj} {ci : ClassInfo} (hobj : objs0 x = some obj)
    (hci : ct[obj.cls]? = some ci) (hok : CopyOK objs0 ci obj)
    (hch : ∀ c ∈ obj.children, Within ct CopyOK objs0 j c)
    (hnw : ¬ Within ct CopyOK objs0 j (.ref x)) (hx' : N0 ≤ x') (ho' : objs x' = some o')
    (hcls : o'.cls = obj.cls) (hmut : o'.mutable = obj.mutable)
    (hit1 : ci.kind.copyItems = true → All2 (GoodVal ct objs0 N0 objs) obj.items o'.items)
    (hit2 : ci.kind.copyItems = false → o'.items = obj.items)
    (hattrs : ∀ k, Option.Rel (GoodVal ct objs0 N0 objs) (lookup k obj.attrs) (lookup k o'.attrs))
    (hnodup : DictNodup ct → (o'.attrs.map (·.1)).Nodup) :
    GoodVal ct objs0 N0 objs (.ref x) (.ref x') := by
  refine ⟨⟨hx', by rw [ho']; rfl⟩, fun m => ?_, fun hnd k hk => ?_⟩
  · cases m with
    | zero => rfl
    | succ m =>
      rw [abs_ref m ho', abs_ref m hobj, hcls, hmut]
      refine PV.node_congr ?_ (fun k =>
        (optPV_congr ((hattrs k).mono fun v v' hg => (hg.abs m).symm)).symm)
      cases hc : ci.kind.copyItems with
      | true => exact (All2.map_eq (fun a b hg => (hg.abs m).symm) (hit1 hc)).symm
      | false =>
        rw [hit2 hc]
        exact List.map_congr_left fun c hcm => abs_ext objs0 objs hcl.refs hk0 m c
          (fun z hz => hcl.refs x obj hobj z (hz ▸ List.mem_append_left _ hcm))
  · by_cases hkj : k ≤ j
    · exact absurd (Within_le ct CopyOK objs0 hkj _ hk) hnw
    · obtain ⟨k', rfl⟩ : ∃ k', k = k' + 1 := ⟨k - 1, by omega⟩
      refine ⟨o', ci, ho', by rw [hcls]; exact hci,
        CopyOK.transfer hk0 (fun k => (hattrs k).isSome_eq) hit2 hok,
        fun c hc => Within_le ct CopyOK objs (by omega : j ≤ k') c ?_⟩
      rcases List.mem_append.1 hc with hc | hc
      · cases hci : ci.kind.copyItems with
        | true =>
          obtain ⟨a, ha, hg⟩ := (hit1 hci).mem_right c hc
          exact hg.within hnd j (hch a (List.mem_append_left _ ha))
        | false =>
          rw [hit2 hci] at hc
          exact Within_ext ct objs0 objs hk0 j c (hch c (List.mem_append_left _ hc))
      · obtain ⟨q, hq, rfl⟩ := List.mem_map.1 hc
        obtain ⟨v, h1, hg⟩ := rel_some_right (lookup_of_mem_nodup (hnodup hnd) hq ▸ hattrs q.1)
        exact hg.within hnd j (hch v (List.mem_append_right _ (lookup_mem_snd _ _ _ h1)))

end Copy

end Heap.Copy
