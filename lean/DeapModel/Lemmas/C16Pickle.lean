/-
C16 — pickling: `serialise` produces a tree that denotes what the graph denotes, `rebuild` only allocates and
rebuilds an object that denotes the tree.
-/
import DeapModel.Lemmas.C16CopyBase

namespace Heap

theorem lookup_zip_self {β : Type} (k : Nat) (l : List (Nat × β)) :
    lookup k ((l.map (·.1)).zip (l.map (·.2))) = lookup k l := by
  induction l with
  | nil => rfl
  | cons p r ih =>
    obtain ⟨k', v⟩ := p
    simp only [List.map_cons, List.zip_cons_cons, lookup_cons, ih]

theorem mapOpt_all2 {α β : Type} {f : α → Option β} {R : α → β → Prop} {l : List α}
    (h : ∀ a ∈ l, ∃ b, f a = some b ∧ R a b) : ∃ bs, mapOpt f l = some bs ∧ All2 R l bs := by
  induction l with
  | nil => exact ⟨[], rfl, .nil⟩
  | cons a as ih =>
    obtain ⟨b, hb, hr⟩ := h a List.mem_cons_self
    obtain ⟨bs, hbs, hrs⟩ := ih (fun a' ha' => h a' (List.mem_cons_of_mem _ ha'))
    exact ⟨b :: bs, by simp only [mapOpt, hb, hbs], .cons hr hrs⟩

/-- The pure value a pickle tree denotes, cut at depth `n` like `abs`. -/
def absPT : Nat → PT → PV
  | _, .atom a => .atom a
  | 0, .node .. => .bot
  | n + 1, .node c m is names vs =>
    .node c m (is.map (absPT n)) (fun k => optPV (absPT n) (lookup k (names.zip vs)))

/-- A pickle tree that can be rebuilt faithfully: every class is known, and for the kinds whose
reduce tuple calls the class, the state carries every `dict_inst` attribute. -/
inductive PTOk (ct : ClassTable) : PT → Prop
  | atom (a : Int) : PTOk ct (.atom a)
  | node (c : ClsId) (m : Bool) (is : List PT) (names : List Name) (vs : List PT)
      (ci : ClassInfo) : ct[c]? = some ci → (∀ t ∈ is, PTOk ct t) → (∀ t ∈ vs, PTOk ct t) →
      (ci.kind.initOnPickle = true → ∀ p ∈ ci.dictInst,
        (lookup p.1 (names.zip vs)).isSome = true) →
      PTOk ct (.node c m is names vs)

theorem serialise_spec (ct : ClassTable) (objs : Oid → Option Obj) :
    ∀ (n : Nat) (v : Val), Within ct PickleOK objs n v →
      ∃ t, serialise objs n v = some t ∧ PTOk ct t ∧ ∀ m, abs objs m v = absPT m t := by
  have hatom : ∀ n a, ∃ t, serialise objs n (.atom a) = some t ∧ PTOk ct t ∧
      ∀ m, abs objs m (.atom a) = absPT m t :=
    fun n a => ⟨.atom a, serialise.eq_1 _ _ _, .atom a, fun m => by rw [abs.eq_1, absPT.eq_1]⟩
  intro n
  induction n with
  | zero =>
    intro v h
    cases v with
    | atom a => exact hatom 0 a
    | ref x => exact h.elim
  | succ n ih =>
    intro v h
    cases v with
    | atom a => exact hatom _ a
    | ref x =>
      obtain ⟨o, ci, ho, hci, hok, hch⟩ := h
      obtain ⟨is, his, hI⟩ := mapOpt_all2 (f := serialise objs n) (l := o.items)
        (fun a ha => ih a (hch a (List.mem_append_left _ ha)))
      obtain ⟨vs, hvs, hV⟩ := mapOpt_all2 (f := serialise objs n) (l := o.attrs.map fun p => p.2)
        (fun a ha => ih a (hch a (List.mem_append_right _ ha)))
      -- name by name: what the object holds and what the tree holds
      have hL := hV.lookup_zip (o.attrs.map fun p => p.1)
      simp only [lookup_zip_self] at hL
      refine ⟨.node o.cls o.mutable is (o.attrs.map (·.1)) vs, ?_, ?_, fun m => ?_⟩
      · rw [serialise.eq_3, ho]
        simp only [his, hvs]
      · refine .node _ _ _ _ _ ci hci (fun t ht => ?_) (fun t ht => ?_)
          (fun hk p hp => (hL p.1).isSome_eq.trans (hok hk p hp))
        · obtain ⟨_, _, h, _⟩ := hI.mem_right t ht
          exact h
        · obtain ⟨_, _, h, _⟩ := hV.mem_right t ht
          exact h
      · cases m with
        | zero => rfl
        | succ m =>
          rw [abs_ref m ho]
          exact PV.node_congr (All2.map_eq (fun a b h => h.2 m) hI)
            (fun k => optPV_congr ((hL k).mono fun a b h => h.2 m))

theorem PT.ind2 {P : PT → Prop} {Q : List PT → Prop}
    (atom : ∀ a, P (.atom a))
    (node : ∀ c m is names vs, Q is → Q vs → P (.node c m is names vs))
    (nil : Q []) (cons : ∀ t ts, P t → Q ts → Q (t :: ts)) : (∀ t, P t) ∧ ∀ ts, Q ts := by
  have hP : ∀ t, P t := fun t => PT.rec (motive_1 := P) (motive_2 := Q) atom node nil cons t
  refine ⟨hP, ?_⟩
  intro ts
  induction ts with
  | nil => exact nil
  | cons t ts ih => exact cons t ts (hP t) ih

theorem rebuild_node_inv {ct : ClassTable} {st st' : State} {c : ClsId} {m : Bool}
    {is : List PT} {names : List Name} {vs : List PT} {v : Val}
    (h : rebuild ct st (.node c m is names vs) = some (st', v)) :
    ∃ ci s1 is' s2 base s3 vs', ct[c]? = some ci ∧
      rebuilds ct ⟨st.objs, st.next + 1, st.memo⟩ is = some (s1, is') ∧
      (if ci.kind.initOnPickle = true then instAttrs ct s1 ci.dictInst else some (s1, []))
        = some (s2, base) ∧
      rebuilds ct s2 vs = some (s3, vs') ∧
      st' = ⟨define s3.objs st.next ⟨c, is', dictUpdate base (names.zip vs'), m⟩, s3.next,
        s3.memo⟩ ∧
      v = .ref st.next := by
  rw [rebuild.eq_2] at h
  split at h
  · cases h
  · rename_i ci hci
    simp only at h
    split at h
    · cases h
    · rename_i s1 is' h1
      split at h
      · cases h
      · rename_i s2 base h2
        split at h
        · cases h
        · rename_i s3 vs' h3
          cases h
          exact ⟨ci, s1, is', s2, base, s3, vs', hci, h1, h2, h3, rfl, rfl⟩

theorem rebuilds_cons_inv {ct : ClassTable} {st st' : State} {t : PT} {ts : List PT}
    {l : List Val} (h : rebuilds ct st (t :: ts) = some (st', l)) :
    ∃ s1 v vs, rebuild ct st t = some (s1, v) ∧ rebuilds ct s1 ts = some (st', vs) ∧
      l = v :: vs := by
  rw [rebuilds.eq_2] at h
  split at h
  · cases h
  · rename_i s1 v h1
    split at h
    · cases h
    · rename_i s2 vs h2
      cases h
      exact ⟨s1, v, vs, h1, h2, rfl⟩

/-- From success alone: unpickling only allocates, and the result is an atom or a reference to a
defined object allocated by the call; it denotes a well-formed pickle tree, in every heap that agrees
with the result heap on the slots allocated by the call. -/
theorem rebuild_spec (ct : ClassTable) :
    (∀ (t : PT) (st st' : State) (v : Val), Bounded st → rebuild ct st t = some (st', v) →
      Ext True st st' ∧ ChildIn True st'.objs st.next st'.next v ∧
      (PTOk ct t → ∀ objs'' : Oid → Option Obj,
        (∀ y, st.next ≤ y → y < st'.next → objs'' y = st'.objs y) →
        ∀ m, abs objs'' m v = absPT m t)) ∧
    (∀ (ts : List PT) (st st' : State) (vs : List Val), Bounded st →
      rebuilds ct st ts = some (st', vs) →
      Ext True st st' ∧ (∀ v ∈ vs, ChildIn True st'.objs st.next st'.next v) ∧
      ((∀ t ∈ ts, PTOk ct t) → ∀ objs'' : Oid → Option Obj,
        (∀ y, st.next ≤ y → y < st'.next → objs'' y = st'.objs y) →
        All2 (fun t v => ∀ m, abs objs'' m v = absPT m t) ts vs)) := by
  apply PT.ind2
  · intro a st st' v hb h
    cases h
    exact ⟨Ext.refl hb, trivial, fun _ _ _ m => by rw [abs.eq_1, absPT.eq_1]⟩
  · intro c m is names vs ihis ihvs st st' v hb h
    obtain ⟨ci, s1, is', s2, base, s3, vs', hci, h1, h2, h3, rfl, rfl⟩ := rebuild_node_inv h
    obtain ⟨E1, I1, A1⟩ := ihis _ _ _ hb.reserve h1
    obtain ⟨E2, B2⟩ := initStep_of_eq ct _ E1.bound h2
    obtain ⟨E3, V3, A3⟩ := ihvs _ _ _ E2.bound h3
    have hle1 : st.next + 1 ≤ s1.next := E1.le
    have hle2 : s1.next ≤ s2.next := E2.le
    have hle3 : s2.next ≤ s3.next := E3.le
    refine ⟨Ext.reserve_define (E1.trans (E2.trans E3)) ?_,
      ⟨Nat.le_refl _, by show st.next < s3.next; omega, congrArg Option.isSome (define_same _ _ _)⟩, ?_⟩
    · intro c' hc'
      rcases List.mem_append.1 hc' with hc' | hc'
      · exact ((I1 c' hc').ext (E2.trans E3) (Nat.le_refl _)).toDefine _ _
          (by show st.next ≤ st.next + 1; omega) (by omega)
      · obtain ⟨p, hp, rfl⟩ := List.mem_map.1 hc'
        rcases mem_dictUpdate hp with hp | hp
        · obtain ⟨y, hy, hc⟩ := B2.childIn hp
          exact hy ▸ (hc.ext E3 (Nat.le_refl _)).toDefine _ _ (by omega) (by omega)
        · exact (V3 p.2 (List.of_mem_zip hp).2).toDefine _ _ (by omega) (Nat.le_refl _)
    · intro hok objs'' hag k
      cases hok with
      | node _ _ _ _ _ ci' hci' his hvs hdi =>
        cases hci.symm.trans hci'
        have hag' : ∀ y, st.next ≤ y → y < s3.next → objs'' y =
            define s3.objs st.next ⟨c, is', dictUpdate base (names.zip vs'), m⟩ y := hag
        cases k with
        | zero => rfl
        | succ k =>
          have hx : objs'' st.next = some ⟨c, is', dictUpdate base (names.zip vs'), m⟩ := by
            rw [hag' st.next (Nat.le_refl _) (by omega), define_same]
          have A1' := A1 his objs'' (fun y hy1 hy2 => by
            have hy1' : st.next + 1 ≤ y := hy1
            rw [hag' y (by omega) (by omega), define_ne _ st.next _ (y := y) (Nat.ne_of_gt (by omega))]
            exact (E2.trans E3).old y hy2)
          have A3' := A3 hvs objs'' (fun y hy1 hy2 => by
            rw [hag' y (by omega) hy2, define_ne _ st.next _ (y := y) (Nat.ne_of_gt (by omega))])
          -- every instantiated `dict_inst` attribute is overwritten by the pickled state
          have hL := A3'.lookup_zip names
          have hcover : ∀ key, (lookup key base).isSome = true →
              (lookup key (names.zip vs')).isSome = true := fun key hkey => by
            obtain ⟨hk, p, hp, rfl⟩ := B2.initStep_key hkey
            exact (hL p.1).isSome_eq.trans (hdi hk p hp)
          rw [abs_ref k hx]
          refine PV.node_congr (All2.map_eq (fun a b hab => (hab k).symm) A1').symm (fun key => ?_)
          rw [lookup_dictUpdate_cover hcover]
          exact (optPV_congr ((hL key).mono fun t w h => (h k).symm)).symm
  · intro st st' vs hb h
    cases h
    exact ⟨Ext.refl hb, fun v hv => (nomatch hv), fun _ _ _ => .nil⟩
  · intro t ts iht ihts st st' l hb h
    obtain ⟨s1, v, vs, h1, h2, rfl⟩ := rebuilds_cons_inv h
    obtain ⟨E1, C1, A1⟩ := iht _ _ _ hb h1
    obtain ⟨E2, C2, A2⟩ := ihts _ _ _ E1.bound h2
    have hle1 : st.next ≤ s1.next := E1.le
    have hle2 : s1.next ≤ st'.next := E2.le
    refine ⟨E1.trans E2, fun w hw => ?_, fun hok objs'' hag => .cons ?_ ?_⟩
    · rcases List.mem_cons.1 hw with rfl | hw
      · exact (C1.ext E2 (Nat.le_refl _)).mono (Nat.le_refl _) E2.le (fun _ _ _ hs => hs)
      · exact (C2 w hw).mono E1.le (Nat.le_refl _) (fun _ _ _ hs => hs)
    · exact A1 (hok t List.mem_cons_self) objs'' (fun y hy1 hy2 => by
        rw [hag y hy1 (by omega)]
        exact E2.old y hy2)
    · exact A2 (fun t' ht' => hok t' (List.mem_cons_of_mem _ ht')) objs''
        (fun y hy1 hy2 => hag y (by omega) hy2)

theorem rebuild_succeeds (ct : ClassTable) (hct : CTOk ct) :
    (∀ (t : PT), PTOk ct t → ∀ st, ∃ r, rebuild ct st t = some r) ∧
    (∀ (ts : List PT), (∀ t ∈ ts, PTOk ct t) → ∀ st, ∃ r, rebuilds ct st ts = some r) := by
  apply PT.ind2
  · intro a _ st
    exact ⟨_, rebuild.eq_1 _ _ _⟩
  · intro c m is names vs ihis ihvs hok st
    cases hok with
    | node _ _ _ _ _ ci hci his hvs _ =>
      obtain ⟨⟨s1, is'⟩, h1⟩ := ihis his ⟨st.objs, st.next + 1, st.memo⟩
      obtain ⟨⟨s2, base⟩, h2⟩ := initStep_succeeds ct hct hci ci.kind.initOnPickle s1
      obtain ⟨⟨s3, vs'⟩, h3⟩ := ihvs hvs s2
      rw [rebuild.eq_2, hci]
      simp only [h1, h2, h3]
      exact ⟨_, rfl⟩
  · intro _ st
    exact ⟨_, rebuilds.eq_1 _ _⟩
  · intro t ts iht ihts hok st
    obtain ⟨⟨s1, v⟩, h1⟩ := iht (hok t List.mem_cons_self) st
    obtain ⟨⟨s2, vs⟩, h2⟩ := ihts (fun t' ht' => hok t' (List.mem_cons_of_mem _ ht')) s1
    rw [rebuilds.eq_2]
    simp only [h1, h2]
    exact ⟨_, rfl⟩

theorem pickleRoundTrip_inv {ct : ClassTable} {n : Nat} {objs objs0 objs' : Oid → Option Obj}
    {v v' : Val} {next0 next' : Nat}
    (h : pickleRoundTrip ct n objs v objs0 next0 = some (objs', next', v')) :
    ∃ t st, serialise objs n v = some t ∧ rebuild ct ⟨objs0, next0, []⟩ t = some (st, v') ∧
      objs' = st.objs ∧ next' = st.next := by
  unfold pickleRoundTrip at h
  split at h
  · cases h
  · rename_i t ht
    split at h
    · cases h
    · rename_i st w hr
      cases h
      exact ⟨t, st, ht, hr, rfl, rfl⟩

end Heap
