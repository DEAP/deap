/-
Helper lemmas for C12: the Python expression model reads the printed tree back.
`lex (render t) = treeToks t`, `pExpr (treeToks t) = exprOfTree t`, `evalPy (exprOfTree t) = evalTree t`.
-/
import DeapModel.Core.GpCompile
import DeapModel.Lemmas.C11Basic
import DeapModel.Lemmas.C12Py
import DeapModel.Lemmas.C12Sem

namespace GpCompile
open GpTree PyLang

def atomToks (s : Str) : List Tok := (lex s).getD []

/-- `", ".join` at token level -/
def joinToks : List (List Tok) → List Tok
  | [] => []
  | [a] => a
  | a :: b :: rest => a ++ Tok.comma :: joinToks (b :: rest)

mutual
def treeToks : Tree → List Tok
  | .node p as =>
    if p.kind = .prim then Tok.name p.name.toList :: Tok.lpar :: (joinToks (treeToksF as) ++ [Tok.rpar])
    else atomToks p.text.toList
def treeToksF : List Tree → List (List Tok)
  | [] => []
  | t :: ts => treeToks t :: treeToksF ts
end

theorem lex_char {c : Char} {em : List Tok} (h : startChar c = some (.idle, em)) (X : Str) :
    lex (c :: X) = (lex X).map (fun r => em ++ r) := by
  simp only [lex, lexGo, h]

theorem lex_lpar (X : Str) : lex ('(' :: X) = (lex X).map (fun r => Tok.lpar :: r) := lex_char (em := [.lpar]) rfl X
theorem lex_rpar (X : Str) : lex (')' :: X) = (lex X).map (fun r => Tok.rpar :: r) := lex_char (em := [.rpar]) rfl X
theorem lex_comma (X : Str) : lex (',' :: X) = (lex X).map (fun r => Tok.comma :: r) := lex_char (em := [.comma]) rfl X
theorem lex_colon (X : Str) : lex (':' :: X) = (lex X).map (fun r => Tok.colon :: r) := lex_char (em := [.colon]) rfl X
theorem lex_space (X : Str) : lex (' ' :: X) = lex X := by
  have := lex_char (c := ' ') (em := []) rfl X
  simpa using this

theorem srcOK_prim {p : Prim} (h : SrcOK p = true) (hk : p.kind = .prim) : isIdent p.name.toList = true := by
  simpa [SrcOK, hk] using h

theorem srcOK_term {p : Prim} (h : SrcOK p = true) (hk : ¬ p.kind = .prim) :
    ∃ e, atomOf p.text.toList = some e := by
  simp only [SrcOK, hk, if_false, isAtomText, Option.isSome_iff_exists] at h
  exact h

theorem atomToks_eq {s : Str} {toks : List Tok} (h : lex s = some toks) : atomToks s = toks := by
  simp [atomToks, h]

mutual
theorem lex_render : ∀ (t : Tree) (rest : Str), (∀ p ∈ flatten t, SrcOK p = true) → Break rest →
    lex (render t ++ rest) = (lex rest).map (fun r => treeToks t ++ r)
  | .node p as, rest, h, hb => by
    obtain ⟨hp, has⟩ := forall_flatten_node.1 h
    by_cases hk : p.kind = .prim
    · have hid := srcOK_prim hp hk
      simp only [render, fmt, treeToks, hk, if_true, List.append_assoc, List.cons_append, List.nil_append]
      rw [lex_append (lex_ident hid) (Or.inr ⟨'(', _, rfl, by decide⟩), lex_lpar, lex_joinArgs as rest has]
      simp [Option.map_map, Function.comp_def]
    · obtain ⟨e, he⟩ := srcOK_term hp hk
      obtain ⟨toks, hl, _, _⟩ := atom_parse he
      simp only [render, fmt, treeToks, hk, if_false]
      rw [lex_append hl hb, atomToks_eq hl]
theorem lex_joinArgs : ∀ (as : List Tree) (rest : Str), (∀ p ∈ flattenF as, SrcOK p = true) →
    lex (joinArgs (renderF as) ++ ')' :: rest) =
      (lex rest).map (fun r => joinToks (treeToksF as) ++ Tok.rpar :: r)
  | [], rest, _ => by simp [renderF, joinArgs, treeToksF, joinToks, lex_rpar]
  | a :: as, rest, h => by
    obtain ⟨ha, has⟩ := forall_flattenF_cons.1 h
    cases as with
    | nil =>
      simp only [renderF, joinArgs, treeToksF, joinToks]
      rw [lex_render a (')' :: rest) ha (Or.inr ⟨')', _, rfl, by decide⟩), lex_rpar]
      simp [Option.map_map, Function.comp_def]
    | cons b bs =>
      simp only [renderF, joinArgs, treeToksF, joinToks, List.append_assoc, List.cons_append, List.nil_append]
      rw [lex_render a _ ha (Or.inr ⟨',', _, rfl, by decide⟩), lex_comma, lex_space]
      have := lex_joinArgs (b :: bs) rest has
      simp only [renderF, treeToksF] at this
      rw [this]
      simp [Option.map_map, Function.comp_def]
end

mutual
theorem pExpr_tree : ∀ (t : Tree) (n : Nat) (r : List Tok), (∀ p ∈ flatten t, SrcOK p = true) → Follow r →
    2 * (treeToks t).length ≤ n → pExpr n (treeToks t ++ r) = some (exprOfTree t, r)
  | .node p as, n, r, h, hr, hn => by
    obtain ⟨hp, has⟩ := forall_flatten_node.1 h
    by_cases hk : p.kind = .prim
    · have hid := srcOK_prim hp hk
      simp only [treeToks, hk, if_true, List.length_cons, List.length_append, List.length_nil] at hn
      obtain ⟨m, rfl⟩ : ∃ m, n = m + 1 := ⟨n - 1, by omega⟩
      simp only [treeToks, exprOfTree, hk, if_true, List.cons_append, List.append_assoc, List.nil_append, pExpr, hid]
      rw [pArgs_trees as m r has (by omega)]
    · obtain ⟨e, he⟩ := srcOK_term hp hk
      obtain ⟨toks, hl, _, hparse⟩ := atom_parse he
      simp only [treeToks, hk, if_false, atomToks_eq hl] at hn
      simp only [treeToks, exprOfTree, hk, if_false, atomToks_eq hl, he, Option.getD_some]
      exact hparse n r hr hn
theorem pArgs_trees : ∀ (as : List Tree) (n : Nat) (r : List Tok), (∀ p ∈ flattenF as, SrcOK p = true) →
    2 * (joinToks (treeToksF as)).length + 1 ≤ n →
    pArgs n (joinToks (treeToksF as) ++ Tok.rpar :: r) = some (exprOfF as, r)
  | [], n, r, _, hn => by
    obtain ⟨m, rfl⟩ : ∃ m, n = m + 1 := ⟨n - 1, by omega⟩
    cases m <;> simp [treeToksF, joinToks, exprOfF, pArgs, pExpr]
  | a :: as, n, r, h, hn => by
    obtain ⟨ha, has⟩ := forall_flattenF_cons.1 h
    obtain ⟨m, rfl⟩ : ∃ m, n = m + 1 := ⟨n - 1, by omega⟩
    cases as with
    | nil =>
      simp only [treeToksF, joinToks] at hn
      simp only [treeToksF, joinToks, exprOfF, pArgs]
      rw [pExpr_tree a m (Tok.rpar :: r) ha (Or.inr (Or.inr ⟨r, rfl⟩)) (by omega)]
    | cons b bs =>
      simp only [treeToksF, joinToks, List.length_append, List.length_cons] at hn
      simp only [treeToksF, joinToks, exprOfF, pArgs, List.append_assoc, List.cons_append]
      rw [pExpr_tree a m _ ha (Or.inr (Or.inl ⟨_, rfl⟩)) (by omega)]
      have := pArgs_trees (b :: bs) m r has (by simp only [treeToksF]; omega)
      simp only [treeToksF, exprOfF] at this
      simp only [this]
end

def paramToks : List Str → List Tok
  | [] => []
  | [a] => [Tok.name a]
  | a :: b :: rest => Tok.name a :: Tok.comma :: paramToks (b :: rest)

theorem lex_joinComma : ∀ (args : List Str) (Y : Str), (∀ a ∈ args, isIdent a = true) →
    lex (joinComma args ++ ':' :: Y) = (lex Y).map (fun r => paramToks args ++ Tok.colon :: r)
  | [], Y, _ => lex_colon Y
  | [a], Y, h => by
    simp only [joinComma, paramToks]
    rw [lex_append (lex_ident (h a (by simp))) (Or.inr ⟨':', _, rfl, by decide⟩), lex_colon]
    simp [Option.map_map, Function.comp_def]
  | a :: b :: rest, Y, h => by
    simp only [joinComma, paramToks, List.append_assoc, List.cons_append, List.nil_append]
    rw [lex_append (lex_ident (h a (by simp))) (Or.inr ⟨',', _, rfl, by decide⟩), lex_comma,
      lex_joinComma (b :: rest) Y (fun x hx => h x (by simp [hx]))]
    simp [Option.map_map, Function.comp_def]

theorem pParams_ok : ∀ (args : List Str) (body : List Tok), (∀ a ∈ args, isIdent a = true) →
    pParams (paramToks args ++ Tok.colon :: body) = some (args, body)
  | [], _, _ => rfl
  | [a], body, h => by simp [paramToks, pParams, h a (by simp)]
  | a :: b :: rest, body, h => by
    have := pParams_ok (b :: rest) body (fun x hx => h x (by simp [hx]))
    simp only [paramToks, List.cons_append, pParams, h a (by simp), if_true]
    rw [this]

/-- the namespace inside the lambda body -/
def bodyEnv (P : PyEnv) (args : List Str) (vals : List Val) : PyEnv := { P with locals := args.zip vals }

theorem find_zip_ident {args : List Str} {vals : List Val} (ha : ∀ a ∈ args, isIdent a = true) {x : Str}
    {nv : Str × Val} (h : (args.zip vals).find? (fun nv => nv.1 == x) = some nv) : isIdent x = true := by
  have hm := List.mem_of_find?_eq_some h
  have hx := List.find?_some h
  have : nv.1 = x := by simpa using hx
  rw [← this]
  exact ha _ (List.of_mem_zip hm).1

mutual
theorem evalPy_tree (P : PyEnv) (args : List Str) (vals : List Val) (ha : ∀ a ∈ args, isIdent a = true) :
    ∀ (t : Tree), (∀ p ∈ flatten t, SrcOK p = true) →
      evalPy (bodyEnv P args vals) (exprOfTree t) = evalTree (bodyTreeEnv (envOfPy P) args vals) t
  | .node p as, h => by
    obtain ⟨hp, has⟩ := forall_flatten_node.1 h
    by_cases hk : p.kind = .prim
    · have hid := srcOK_prim hp hk
      simp only [exprOfTree, evalTree, hk, if_true, evalPy, evalArgs_trees P args vals ha as has]
      simp only [bodyEnv, PyEnv.lookup, bodyTreeEnv, shadowFuns, envOfPy, hid, if_true]
      cases (args.zip vals).find? (fun nv => nv.1 == p.name.toList) with
      | some nv => simp
      | none =>
        cases P.globals p.name.toList with
        | none => simp
        | some o =>
          cases o with
          | val v => simp
          | fn g =>
            generalize evalF _ as = ef
            cases ef <;> rfl
    · obtain ⟨e, he⟩ := srcOK_term hp hk
      simp only [exprOfTree, evalTree, hk, if_false, he, Option.getD_some]
      rcases atom_eval he (bodyEnv P args vals) with ⟨hid, rfl⟩ | ⟨hid, hev⟩
      · simp only [evalPy, bodyEnv, PyEnv.lookup, bodyTreeEnv, bindArgs, envOfPy, hid, if_true]
        cases (args.zip vals).find? (fun nv => nv.1 == p.text.toList) with
        | some nv => simp
        | none =>
          have hl : litOf p.text.toList = none := by simp [litOf, he, evalConst]
          cases P.globals p.text.toList with
          | none => simp [hl]
          | some o => cases o <;> simp [hl]
      · rw [hev]
        have hfind : (args.zip vals).find? (fun nv => nv.1 == p.text.toList) = none := by
          cases hf : (args.zip vals).find? (fun nv => nv.1 == p.text.toList) with
          | none => rfl
          | some nv => rw [find_zip_ident ha hf] at hid; cases hid
        simp [bodyTreeEnv, bindArgs, hfind, envOfPy, hid, litOf, he]
theorem evalArgs_trees (P : PyEnv) (args : List Str) (vals : List Val) (ha : ∀ a ∈ args, isIdent a = true) :
    ∀ (as : List Tree), (∀ p ∈ flattenF as, SrcOK p = true) →
      evalArgs (bodyEnv P args vals) (exprOfF as) = evalF (bodyTreeEnv (envOfPy P) args vals) as
  | [], _ => by simp [exprOfF, evalArgs, evalF]
  | a :: as, h => by
    obtain ⟨h1, h2⟩ := forall_flattenF_cons.1 h
    simp only [exprOfF, evalArgs, evalF, evalPy_tree P args vals ha a h1, evalArgs_trees P args vals ha as h2]
    generalize evalTree _ a = x
    generalize evalF _ as = y
    cases x <;> cases y <;> rfl
end

theorem pTop_keyword {x : Str} (hk : isKeyword x = true) (hc : constName x = none) (ts : List Tok) :
    pTop (Tok.name x :: ts) = none := by
  have h1 := isIdent_of_keyword hk
  have h2 : nameExpr x = none := by simp [nameExpr, hc, hk]
  unfold pTop
  cases ts with
  | nil => simp [pExpr, h2]
  | cons t ts => cases t <;> simp [pExpr, h1, h2]

theorem pTop_lambda (ts : List Tok) : pTop (Tok.name "lambda".toList :: ts) = none :=
  pTop_keyword keyword_facts.2.2.2.1 keyword_facts.2.2.2.2 ts

theorem pTop_tree (t : Tree) (h : ∀ p ∈ flatten t, SrcOK p = true) : pTop (treeToks t) = some (exprOfTree t) := by
  have := pExpr_tree t (2 * (treeToks t).length + 2) [] h (Or.inl rfl) (by omega)
  simp only [List.append_nil] at this
  simp [pTop, this]

theorem lex_tree (t : Tree) (h : ∀ p ∈ flatten t, SrcOK p = true) : lex (render t) = some (treeToks t) := by
  have := lex_render t [] h (Or.inl rfl)
  simpa [lex, lexGo] using this

theorem argsOK_ident {args : List Str} (h : ArgsOK args = true) : ∀ a ∈ args, isIdent a = true := by
  simp only [ArgsOK, Bool.and_eq_true, List.all_eq_true] at h
  exact h.1

theorem argsOK_nodup {args : List Str} (h : ArgsOK args = true) : nodupStr args = true := by
  simp only [ArgsOK, Bool.and_eq_true] at h
  exact h.2

theorem lex_lambda (args : List Str) (t : Tree) (ha : ∀ a ∈ args, isIdent a = true)
    (h : ∀ p ∈ flatten t, SrcOK p = true) :
    lex ("lambda ".toList ++ joinComma args ++ ": ".toList ++ render t) =
      some (Tok.name "lambda".toList :: (paramToks args ++ Tok.colon :: treeToks t)) := by
  have e1 : "lambda ".toList ++ joinComma args ++ ": ".toList ++ render t =
      "lambda".toList ++ (' ' :: (joinComma args ++ ':' :: (' ' :: render t))) := by
    simp [List.append_assoc]
  have hl : lex "lambda".toList = some [Tok.name "lambda".toList] := by decide +kernel
  rw [e1, lex_append hl (Or.inr ⟨' ', _, rfl, by decide⟩), lex_space, lex_joinComma args _ ha, lex_space,
    lex_tree t h]
  simp

theorem envOfPy_withAdfs (P : PyEnv) (d : List (Str × (List Val → Option Val)))
    (hd : ∀ e ∈ d, isIdent e.1 = true) : envOfPy (withAdfsPy P d) = withAdfs (envOfPy P) d := by
  unfold envOfPy withAdfs withAdfsPy
  simp only
  congr 1 <;> funext x <;> cases h : d.find? (fun e => e.1 == x) with
  | none => simp
  | some e =>
    have hx : e.1 = x := by simpa using List.find?_some h
    have := hd e (List.mem_of_find?_eq_some h)
    rw [hx] at this
    simp [this]

end GpCompile
