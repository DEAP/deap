import DeapModel.Lemmas.C15HvCGen0
/-!
C15 — the general case of `hv_recursive` in `_hv.c`, both phases (deletions and reinsertions): pure-logic lemmas about
the invariant parts `CVc` / `DMc` / `IGc` when the node set or the bounds change (no code in this file).
-/
namespace HvC
open HvSweep (Hj RL preSet pos ARv VOLv ids)

section ctx
variable {C : Cargo} {R : List ℚ} {d n : ℕ} {O : ℕ → List ℕ}

theorem domC_cg_le (c : CCtx C R d n O) {m b q : ℕ} (hb : b ∈ ids n) (hq : q ∈ ids n) (hd : DomC C O m b q) :
    ∀ i, i ≤ m → i < d → cg C b i ≤ cg C q i := by
  intro i him hid
  rcases Nat.lt_or_ge i 2 with h2 | h2
  · rcases Nat.eq_zero_or_pos i with rfl | hpos
    · exact hd.2.1
    · have : i = 1 := by omega
      subst this
      exact hd.2.2.1
  · exact c.le_of_pos hid hq hb (le_of_lt (hd.2.2.2 i h2 him))

theorem domC_mono {m m' b q : ℕ} (h : m' ≤ m) (hd : DomC C O m b q) : DomC C O m' b q :=
  ⟨hd.1, hd.2.1, hd.2.2.1, fun j hj1 hjm => hd.2.2.2 j hj1 (by omega)⟩

theorem domC_succ {m b q : ℕ} (hd : DomC C O m b q) (h : pos O (m + 1) b < pos O (m + 1) q) : DomC C O (m + 1) b q :=
  ⟨hd.1, hd.2.1, hd.2.2.1, fun i hi1 hi2 => (Nat.lt_or_ge i (m + 1)).elim
    (fun hlt => hd.2.2.2 i hi1 (Nat.le_of_lt_succ hlt)) (fun hge => Nat.le_antisymm hi2 hge ▸ h)⟩

/-- the mark `dim - 1` (l.768 / l.797) at level `dim = j + 1`, as a natural number -/
theorem mark_pred {x : ℤ} {j : ℕ} (hj2 : 2 ≤ j) (h : x = ((j + 1 : ℕ) : ℤ) - 1) : (2 : ℤ) ≤ x ∧ x.toNat = j := by
  omega

theorem cvc_frame {S T : St} {K : ℕ} {A : List ℕ}
    (h1 : ∀ a i, i < K → ar T a i = ar S a i) (h2 : ∀ a i, i < K → vl T a i = vl S a i)
    (h3 : ∀ i, i < K → T.bound.getD i none = S.bound.getD i none) (hcv : CVc C R O S K A) :
    CVc C R O T K A := by
  intro j hj1 hjK a ha b hb hlt
  rw [h3 (j + 1) hjK] at hb
  rw [h1 a (j + 1) hjK, h2 a (j + 1) hjK]
  exact hcv j hj1 hjK a ha b hb hlt

theorem cvc_mono_level {S : St} {K K' : ℕ} {A : List ℕ} (h : K' ≤ K) (hcv : CVc C R O S K A) :
    CVc C R O S K' A :=
  fun j hj1 hjK => hcv j hj1 (by omega)

theorem cvc_congr_set {S : St} {K : ℕ} {A B : List ℕ} (h : ∀ a, a ∈ A ↔ a ∈ B) (hcv : CVc C R O S K A) :
    CVc C R O S K B := by
  intro j hj1 hjK a ha b hb hlt
  obtain ⟨e1, e2⟩ := hcv j hj1 hjK a ((h a).mpr ha) b hb hlt
  rw [e1, e2]
  exact ⟨HvSweep.ARv_congr O j A B a (fun b0 _ => h b0), HvSweep.VOLv_congr O j A B a (fun b0 _ => h b0)⟩

theorem igc_congr_set {S : St} {A B : List ℕ} (h : ∀ a, a ∈ A ↔ a ∈ B) (hig : IGc C O S A) : IGc C O S B := by
  intro q hq hm
  obtain ⟨b, hb, hd⟩ := hig q ((h q).mpr hq) hm
  exact ⟨b, (h b).mp hb, hd⟩

theorem igc_frame {S T : St} {A : List ℕ} (h : ∀ a ∈ A, ign T a = ign S a) (hig : IGc C O S A) : IGc C O T A := by
  intro q hq hm
  rw [h q hq] at hm ⊢
  exact hig q hq hm

/-- the witness of a mark at or above level `k ≥ 2`, with the mark as a natural number -/
theorem IGc.witness {S : St} {A : List ℕ} (hig : IGc C O S A) {k : ℕ} (hk : 2 ≤ k) {q : ℕ} (hq : q ∈ A)
    (hm : (k : ℤ) ≤ ign S q) :
    (2 : ℤ) ≤ ign S q ∧ k ≤ (ign S q).toNat ∧ ∃ w ∈ A, DomC C O (ign S q).toNat w q := by
  have h2 : (2 : ℤ) ≤ ign S q := le_trans (by exact_mod_cast hk) hm
  exact ⟨h2, by omega, hig q hq h2⟩

/-- a present node that another present node precedes in the order of dimension `i` has a predecessor in the list of
that dimension, and its `prev` pointer shows it -/
theorem pred_of_precedes (c : CCtx C R d n O) {i : ℕ} (hi : i < d) {B : List ℕ} (hB : ∀ a ∈ B, a ∈ ids n) {U : St}
    (hd : DLc n U i (RL O i B)) {p w : ℕ} (hp : p ∈ B) (hw : w ∈ B) (hne : w ≠ p) (hpos : pos O i w < pos O i p) :
    ∃ pr l₁ l₂, RL O i B = l₁ ++ pr :: p :: l₂ ∧ pv U i p = pr := by
  obtain ⟨l₁, l₂, hL⟩ := List.append_of_mem ((HvSweep.mem_RL_of_sub c.g hi hB p).mpr hp)
  have hwl : w ∈ l₁ := by
    have : w ∈ preSet O i B p := (HvSweep.mem_preSet O i B p w).mpr ⟨hw, le_of_lt hpos⟩
    rcases List.mem_append.mp ((HvSweep.mem_preSet_of_split c.g hi B hB l₁ l₂ p hL w).mp this) with h | h
    · exact h
    · exact absurd (List.mem_singleton.mp h) hne
  obtain ⟨l₁', pr, rfl⟩ : ∃ l₁' pr, l₁ = l₁' ++ [pr] :=
    ⟨l₁.dropLast, l₁.getLast (List.ne_nil_of_mem hwl), (List.dropLast_append_getLast _).symm⟩
  have hseg := hd.1
  rw [hL] at hseg
  refine ⟨pr, l₁', l₂, by rw [hL]; simp, ?_⟩
  rw [(seg_pv_nx U i (l₁' ++ [pr]) p l₂ hseg).1]; simp

theorem dmc_congr_set {S : St} {A B : List ℕ} (h : ∀ a, a ∈ A ↔ a ∈ B) (hdm : DMc C O S A) : DMc C O S B := by
  intro a ha b hb hlt
  obtain ⟨e1, e2, e3⟩ := hdm a ((h a).mpr ha) b hb hlt
  refine ⟨e1, fun q hq => e2 q ((h q).mpr hq), fun hd => ?_⟩
  obtain ⟨q, hq, hq2⟩ := e3 hd
  exact ⟨q, (h q).mp hq, hq2⟩

theorem dmc_frame {S T : St} {A : List ℕ} (hdr : ∀ a, dr T a = dr S a)
    (hb : T.bound.getD 2 none = S.bound.getD 2 none) (hdm : DMc C O S A) : DMc C O T A := by
  intro a ha b hb' hlt
  rw [hb] at hb'
  rw [hdr a]
  exact hdm a ha b hb' hlt

set_option linter.unusedVariables false in
theorem cvc_reinsert (c : CCtx C R d n O) {S T : St} {x dim K : ℕ} (hK : K ≤ dim) (hdim : dim ≤ d)
    (har : ∀ a i, ar T a i = ar S a i) (hvl : ∀ a i, vl T a i = vl S a i)
    (hb : ∀ i, 2 ≤ i → i < dim → ∀ b', T.bound.getD i none = some b' →
      ∃ b, S.bound.getD i none = some b ∧ b' ≤ b ∧ b' ≤ cg C x i)
    {A B : List ℕ} (hx : x ∈ ids n) (hA : ∀ a ∈ A, a ∈ ids n) (hB : ∀ a ∈ B, a ∈ ids n)
    (hAB : ∀ a, a ≠ x → (a ∈ A ↔ a ∈ B)) (hcv : CVc C R O S K A) : CVc C R O T K B := by
  intro j hj1 hjK a ha b' hb' hlt
  have hjk : j + 1 < dim := by omega
  have hjd : j + 1 < d := by omega
  obtain ⟨b, hb0, hb'b, hb'x⟩ := hb (j + 1) (by omega) hjk b' hb'
  have hax : a ≠ x := by
    intro e; rw [e] at hlt; linarith
  have haA : a ∈ A := (hAB a hax).mpr ha
  obtain ⟨e1, e2⟩ := hcv j hj1 hjK a haA b hb0 (lt_of_lt_of_le hlt hb'b)
  have hpos : pos O (j + 1) a < pos O (j + 1) x :=
    c.pos_lt_of_lt hjd (hB a ha) hx (lt_of_lt_of_le hlt hb'x)
  have hsame : ∀ b0, pos O (j + 1) b0 ≤ pos O (j + 1) a → (b0 ∈ A ↔ b0 ∈ B) := by
    intro b0 hb0
    apply hAB
    intro e; rw [e] at hb0; omega
  rw [har, hvl, e1, e2]
  exact ⟨HvSweep.ARv_congr O j A B a hsame, HvSweep.VOLv_congr O j A B a hsame⟩

theorem dmc_reinsert {S T : St} {x : ℕ} (hdr : ∀ a, dr T a = dr S a)
    (hb : ∀ b', T.bound.getD 2 none = some b' → ∃ b, S.bound.getD 2 none = some b ∧ b' ≤ b ∧ b' ≤ cg C x 2)
    {A B : List ℕ} (hAB : ∀ a, a ≠ x → (a ∈ A ↔ a ∈ B)) (hdm : DMc C O S A) : DMc C O T B := by
  intro a ha b' hb' hlt
  obtain ⟨b, hb0, hb'b, hb'x⟩ := hb b' hb'
  have hax : a ≠ x := by
    intro e; rw [e] at hlt; linarith
  have haA : a ∈ A := (hAB a hax).mpr ha
  obtain ⟨e1, e2, e3⟩ := hdm a haA b hb0 (lt_of_lt_of_le hlt hb'b)
  rw [hdr a]
  refine ⟨e1, ?_, ?_⟩
  · intro q hq hqb hbt
    have hqx : q ≠ x := by
      intro e; rw [e] at hqb; linarith
    exact e2 q ((hAB q hqx).mpr hq) (lt_of_lt_of_le hqb hb'b) hbt
  · intro hlt2
    obtain ⟨q, hq, hbt, hq2⟩ := e3 (lt_of_lt_of_le hlt2 hb'b)
    have hqx : q ≠ x := by
      intro e; rw [e] at hq2; linarith
    exact ⟨q, (hAB q hqx).mp hq, hbt, hq2⟩

/-- a dominated top node adds nothing to the area of its level: `AR(q) = AR(prev)` -/
theorem ARv_of_domC (c : CCtx C R d n O) (j : ℕ) (hj1 : 1 ≤ j) (hj : j + 1 < d) (A : List ℕ)
    (hA : ∀ a ∈ A, a ∈ ids n) (l₁ l₂ : List ℕ) (a q : ℕ) (hL : RL O (j + 1) A = l₁ ++ a :: q :: l₂)
    (b m : ℕ) (hbA : b ∈ A) (hm : j + 1 ≤ m) (hd : DomC C O m b q) :
    ARv R (spt C R) O j A q = ARv R (spt C R) O j A a := by
  have hqA : q ∈ A := ((HvSweep.mem_RL O (j + 1) A q).mp (by rw [hL]; simp)).2
  exact HvSweep.ARv_of_dominated_le c.g j hj A hA l₁ l₂ a q hL b hbA hd.1 (hd.2.2.2 (j + 1) (by omega) hm)
    (fun i hi => c.spt_mono (hA b hbA) (hA q hqA) (by omega) (domC_cg_le c (hA b hbA) (hA q hqA) hd i (by omega) (by omega)))

/-- inserting a node `p` dominated (coordinates `0 .. jj+1`, preceded in `O (jj+1)`) by `w ∈ cur` changes no ideal cache value -/
theorem caches_insert_dom (c : CCtx C R d n O) (jj : ℕ) (hjj : jj + 1 < d) (cur B : List ℕ) (p w : ℕ)
    (hB : ∀ a, a ∈ B ↔ a = p ∨ a ∈ cur) (hcur : ∀ a ∈ cur, a ∈ ids n) (hp : p ∈ ids n) (hw : w ∈ cur)
    (hle : ∀ i, i ≤ jj + 1 → cg C w i ≤ cg C p i) (hpos : pos O (jj + 1) w < pos O (jj + 1) p) (a : ℕ) :
    ARv R (spt C R) O jj B a = ARv R (spt C R) O jj cur a ∧
      VOLv (stc C R) R (spt C R) O jj B a = VOLv (stc C R) R (spt C R) O jj cur a := by
  have key : Hj R (spt C R) jj (preSet O (jj + 1) B a) = Hj R (spt C R) jj (preSet O (jj + 1) cur a) ∧
      Hj R (spt C R) (jj + 1) (preSet O (jj + 1) B a) = Hj R (spt C R) (jj + 1) (preSet O (jj + 1) cur a) := by
    rcases Nat.lt_or_ge (pos O (jj + 1) a) (pos O (jj + 1) p) with hpa | hpa
    · have hmem : ∀ b, b ∈ preSet O (jj + 1) B a ↔ b ∈ preSet O (jj + 1) cur a := by
        intro b
        rw [HvSweep.mem_preSet, HvSweep.mem_preSet, hB b]
        exact ⟨fun ⟨h1, h2⟩ => ⟨h1.resolve_left (fun e => by rw [e] at h2; omega), h2⟩, fun ⟨h1, h2⟩ => ⟨Or.inr h1, h2⟩⟩
      exact ⟨HvSweep.Hj_congr R (spt C R) jj _ _ hmem, HvSweep.Hj_congr R (spt C R) (jj + 1) _ _ hmem⟩
    · have hmem : ∀ b, b ∈ preSet O (jj + 1) B a ↔ b ∈ p :: preSet O (jj + 1) cur a := by
        intro b
        rw [List.mem_cons, HvSweep.mem_preSet, HvSweep.mem_preSet, hB b]
        exact ⟨fun ⟨h1, h2⟩ => h1.imp_right (⟨·, h2⟩),
          fun h => h.elim (fun e => ⟨Or.inl e, e ▸ hpa⟩) (fun ⟨h1, h2⟩ => ⟨Or.inr h1, h2⟩)⟩
      have hwpre : w ∈ preSet O (jj + 1) cur a :=
        (HvSweep.mem_preSet O (jj + 1) cur a w).mpr ⟨hw, by omega⟩
      rw [HvSweep.Hj_congr R (spt C R) jj _ _ hmem, HvSweep.Hj_congr R (spt C R) (jj + 1) _ _ hmem]
      exact ⟨HvSweep.Hj_dominated R (spt C R) jj _ w p hwpre
          (fun i hi => c.spt_mono (hcur w hw) hp (by omega) (hle i (by omega))),
        HvSweep.Hj_dominated R (spt C R) (jj + 1) _ w p hwpre
          (fun i hi => c.spt_mono (hcur w hw) hp (by omega) (hle i hi))⟩
  unfold HvSweep.VOLv HvSweep.ARv
  rw [key.1, key.2]
  exact ⟨rfl, rfl⟩

set_option linter.unusedVariables false in
/-- cache validity after `reinsert_dom` of `p` (witness `w ∈ cur` of its mark `m`): the caches of the other nodes are
untouched and stay ideal, the caches of `p` at the levels `2 .. K-1` are computed from those of its predecessor -/
theorem cvc_insert_dom (c : CCtx C R d n O) {S T : St} {K m : ℕ} (hKd : K ≤ d) (hKm : K ≤ m + 1) (cur B : List ℕ) (p w : ℕ)
    (hB : ∀ a, a ∈ B ↔ a = p ∨ a ∈ cur) (hpc : p ∉ cur) (hcur : ∀ a ∈ cur, a ∈ ids n) (hp : p ∈ ids n) (hpg : ∀ i < d, cg C p i < rf R i) (hw : w ∈ cur)
    (hdom : DomC C O m w p)
    (hbd : ∀ i, i < K → T.bound.getD i none = S.bound.getD i none)
    (hold : ∀ a i, a ≠ p → i < K → ar T a i = ar S a i ∧ vl T a i = vl S a i)
    (hnew : ∀ i, 2 ≤ i → i < K → ∃ pr l₁ l₂, RL O i B = l₁ ++ pr :: p :: l₂ ∧ ar T p i = ar S pr i ∧
      vl T p i = vl S pr i + ar S pr i * (cg C p i - cg C pr i))
    (hcv : CVc C R O S K cur) : CVc C R O T K B := by
  intro j hj1 hjK a ha b hb hlt
  have hjd : j + 1 < d := lt_of_lt_of_le hjK hKd
  have hjm : j + 1 ≤ m := Nat.le_of_lt_succ (lt_of_lt_of_le hjK hKm)
  have h2j : 2 ≤ j + 1 := Nat.succ_le_succ hj1
  have hwI : w ∈ ids n := hcur w hw
  have hwB : w ∈ B := (hB w).mpr (Or.inr hw)
  have hBI : ∀ a ∈ B, a ∈ ids n := by
    intro a0 ha0
    rcases (hB a0).mp ha0 with h | h
    · rw [h]; exact hp
    · exact hcur a0 h
  have hle : ∀ i, i ≤ j + 1 → cg C w i ≤ cg C p i :=
    fun i hi => domC_cg_le c hwI hp hdom i (le_trans hi hjm) (lt_of_le_of_lt hi hjd)
  have hpos : pos O (j + 1) w < pos O (j + 1) p := hdom.2.2.2 (j + 1) h2j hjm
  have hci := fun a0 => caches_insert_dom c j hjd cur B p w hB hcur hp hw hle hpos a0
  rw [hbd (j + 1) hjK] at hb
  by_cases hap : a = p
  · rw [hap] at hlt ⊢
    obtain ⟨pr, l₁, l₂, hL, ea, ev⟩ := hnew (j + 1) h2j hjK
    have hL' : RL O (j + 1) B = (l₁ ++ [pr]) ++ p :: l₂ := by rw [hL]; simp
    obtain ⟨hp1, _⟩ := HvSweep.pos_lt_of_split O (j + 1) (c.g.nodup hjd) (RL O (j + 1) B) (l₁ ++ [pr]) l₂ p
      (HvSweep.RL_sublist O (j + 1) B) hL'
    have hprpos : pos O (j + 1) pr < pos O (j + 1) p := hp1 pr (by simp)
    have hprL : pr ∈ RL O (j + 1) B := by rw [hL]; simp
    have hprB : pr ∈ B := ((HvSweep.mem_RL O (j + 1) B pr).mp hprL).2
    have hprp : pr ≠ p := by
      intro e; rw [e] at hprpos; exact lt_irrefl _ hprpos
    have hprcur : pr ∈ cur := ((hB pr).mp hprB).resolve_left hprp
    have hprI : pr ∈ ids n := hcur pr hprcur
    have hcgle : cg C pr (j + 1) ≤ cg C p (j + 1) := c.le_of_pos hjd hp hprI (le_of_lt hprpos)
    obtain ⟨e1, e2⟩ := hcv j hj1 hjK pr hprcur b hb (lt_of_le_of_lt hcgle hlt)
    have hA := ARv_of_domC c j hj1 hjd B hBI l₁ l₂ pr p hL w m hwB hjm hdom
    have hV := HvSweep.caches_step c.g j hjd B hBI l₁ l₂ pr p hL
    rw [c.cg_tr hp hjd (hpg _ hjd).le, c.cg_tr hprI hjd (hcgle.trans (hpg _ hjd).le)] at hV
    rw [ea, ev, e1, e2, ← (hci pr).1, ← (hci pr).2, hA, hV]
    refine ⟨rfl, ?_⟩
    ring
  · have hacur : a ∈ cur := ((hB a).mp ha).resolve_left hap
    obtain ⟨o1, o2⟩ := hold a (j + 1) hap hjK
    obtain ⟨e1, e2⟩ := hcv j hj1 hjK a hacur b hb hlt
    rw [o1, o2, e1, e2]
    exact ⟨(hci a).1.symm, (hci a).2.symm⟩

theorem dmc_insert_dom (c : CCtx C R d n O) {S T : St} {m : ℕ} (hm : 2 ≤ m) (cur B : List ℕ) (p w : ℕ)
    (hB : ∀ a, a ∈ B ↔ a = p ∨ a ∈ cur) (hcur : ∀ a ∈ cur, a ∈ ids n) (hp : p ∈ ids n) (hw : w ∈ cur)
    (hdom : DomC C O m w p) (hdr : ∀ a, dr T a = dr S a) (hbd : T.bound.getD 2 none = S.bound.getD 2 none)
    (hpdr : dr S p = cg C p 2) (hdm : DMc C O S cur) : DMc C O T B := by
  intro a ha b hb hlt
  rw [hbd] at hb
  rw [hdr a]
  have hd2 : 2 < d := c.hd
  have hwI : w ∈ ids n := hcur w hw
  have hwB : w ∈ B := (hB w).mpr (Or.inr hw)
  have hposwp : pos O 2 w < pos O 2 p := hdom.2.2.2 2 le_rfl hm
  have hw2 : cg C w 2 ≤ cg C p 2 := domC_cg_le c hwI hp hdom 2 hm hd2
  have hwp0 : cg C w 0 ≤ cg C p 0 := hdom.2.1
  have hwp1 : cg C w 1 ≤ cg C p 1 := hdom.2.2.1
  by_cases hap : a = p
  · rw [hap, hpdr]
    refine ⟨le_refl _, fun q _ _ _ => le_max_left _ _, fun _ => ?_⟩
    exact ⟨w, hwB, ⟨hdom.1, hwp0, hwp1, fun _ => hposwp⟩, hw2⟩
  · have hacur : a ∈ cur := ((hB a).mp ha).resolve_left hap
    obtain ⟨e1, e2, e3⟩ := hdm a hacur b hb hlt
    refine ⟨e1, ?_, ?_⟩
    · intro q hq hqb hbt
      rcases (hB q).mp hq with h | h
      · rw [h] at hqb hbt ⊢
        have hbw := beats_trans C O w p a ⟨hdom.1, hwp0, hwp1, fun _ => hposwp⟩ hbt
        exact le_trans (e2 w hw (lt_of_le_of_lt hw2 hqb) hbw) (max_le_max (le_refl _) hw2)
      · exact e2 q h hqb hbt
    · intro hlt2
      obtain ⟨q, hq, hbt, hq2⟩ := e3 hlt2
      exact ⟨q, (hB q).mpr (Or.inr hq), hbt, hq2⟩

end ctx

end HvC
