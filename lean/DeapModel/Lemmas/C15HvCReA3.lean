import DeapModel.Lemmas.C15HvCReA2
/-!
C15 — the re-entered 3-D base case of `_hv.c`: the three branches of the body of the main loop l.899-989 deliver
`StepOut`, and the loop keeps `SLInv` (`SweepBodyRe_Statement` of `C15HvCReA1` is `sweepBody_re` of `C15HvC3d`).
-/
namespace HvC
open HvSweep (pos)

variable {C : Cargo} {R : List ℚ} {d n : ℕ} {O : ℕ → List ℕ}

theorem tables_step {d n : ℕ} {S S' : St} {p : ℕ} {x y : ℚ} (hT : TSh d n S) (hp : p ≤ n) (h2d : 2 < d)
    (hvol : S'.vol = HvSweep.tset S.vol p 2 y) (harea : S'.area = HvSweep.tset S.area p 2 x)
    (hig : S'.ignore.length = S.ignore.length) (hdr : S'.domr.length = S.domr.length) (hb : S'.bound = S.bound) :
    TSh d n S' ∧ ar S' p 2 = x ∧ vl S' p 2 = y ∧
      ∀ a i, (a ≠ p ∨ i ≠ 2) → ar S' a i = ar S a i ∧ vl S' a i = vl S a i := by
  refine ⟨⟨by rw [harea]; exact HvSweep.shaped_tset hT.area _ _ _, by rw [hvol]; exact HvSweep.shaped_tset hT.vol _ _ _,
    by rw [hig]; exact hT.ign, by rw [hdr]; exact hT.domr, by rw [hb]; exact hT.bound⟩, ?_, ?_, ?_⟩
  · unfold ar; rw [harea]
    exact HvSweep.tget_tset_self _ _ _ _ _ (by rw [hT.area.1]; omega) (by rw [hT.area.2 p (by omega)]; exact h2d)
  · unfold vl; rw [hvol]
    exact HvSweep.tget_tset_self _ _ _ _ _ (by rw [hT.vol.1]; omega) (by rw [hT.vol.2 p (by omega)]; exact h2d)
  · intro a i hne
    constructor
    · unfold ar; rw [harea]; exact HvSweep.tget_tset_ne _ _ _ _ _ _ _ hne
    · unfold vl; rw [hvol]; exact HvSweep.tget_tset_ne _ _ _ _ _ _ _ hne

theorem pairwise_or {α : Type} {r : α → α → Prop} (l : List α) (h : l.Pairwise r) :
    ∀ a ∈ l, ∀ b ∈ l, a ≠ b → r a b ∨ r b a := fun _ ha _ hb =>
  List.Pairwise.forall_of_forall_of_flip (R := fun x y => x ≠ y → r x y ∨ r y x) (fun _ _ hx => absurd rfl hx)
    (h.imp fun h _ => Or.inl h) (h.imp fun h _ => Or.inr h) ha hb

theorem stair_cases (C : Cargo) (T : List ℕ) (hst : Stair (T.map (item C))) (a b : ℕ) (ha : a ∈ T) (hb : b ∈ T) (hab : a ≠ b) :
    ((item C a).1 < (item C b).1 ∧ (item C b).2 < (item C a).2) ∨
      ((item C b).1 < (item C a).1 ∧ (item C a).2 < (item C b).2) := by
  have hpw := List.pairwise_map.mp hst
  exact pairwise_or T hpw a ha b hb hab

/-- a swept node weakly dominated by a tree member beats no tree member -/
theorem no_beat_tree {A : List ℕ} {S : St} {pre rest : List ℕ} {p : ℕ}
    {hyperv hypera : ℚ} (I : SLInv C R d n O A S pre (p :: rest) hyperv hypera) (F : SplitFacts C O A pre p rest)
    (t : ℕ) (ht : t ∈ S.tree) (htx : (item C t).1 ≤ (item C p).1) (hty : (item C t).2 ≤ (item C p).2) :
    ∀ a ∈ S.tree, ¬ Beats C O p a := by
  intro a ha hb
  obtain ⟨_, hx, hy, hpos⟩ := hb
  have hx' : (item C p).1 ≤ (item C a).1 := hx
  have hy' : (item C p).2 ≤ (item C a).2 := hy
  have hta : t = a := by
    by_contra hne
    rcases stair_cases C S.tree I.stair t a ht ha hne with h | h
    · exact absurd h.2 (not_lt.mpr (hty.trans hy'))
    · exact absurd h.1 (not_lt.mpr (htx.trans hx'))
  subst hta
  have hitem : item C p = item C t := Prod.ext (le_antisymm hx' htx) (le_antisymm hy' hty)
  have h1 := hpos hitem
  have h2 := F.pos1 t (I.tsub t ht)
  omega

theorem step_static {A : List ℕ} {S : St} {pre rest : List ℕ} {p : ℕ}
    {hyperv hypera : ℚ} (c : CCtx C R d n O) (I : SLInv C R d n O A S pre (p :: rest) hyperv hypera) :
    SplitFacts C O A pre p rest ∧ p ∈ A ∧ p ≤ n ∧ 2 < d ∧ p ∉ S.tree ∧ p ≠ 0 ∧ 0 ≤ hgt C R S p ∧
      p < S.domr.length ∧ p < S.ignore.length ∧ 0 ∉ S.tree ∧ S.tree.length ≤ n := by
  have h2d : 2 < d := by have := c.hd; omega
  have F := splitFacts c I.asub I.split
  have hpA : p ∈ A := F.memA p (by simp)
  have hpn : p ≤ n := ((HvSweep.mem_ids n p).mp (I.asub p hpA)).2
  have hD : DLc n S 2 (pre ++ p :: rest) := by have := I.dl; rw [I.split] at this; exact this
  obtain ⟨hhgt, hnx, hp0⟩ := hgt_eq C R n S pre rest p hD
  have hh : 0 ≤ hgt C R S p := by
    rw [hhgt]
    exact sub_nonneg.mpr (zOf_ge C (I.agood p hpA 2 h2d).le F.zrest)
  have h0T : 0 ∉ S.tree := by
    intro hm
    have := (HvSweep.mem_ids n 0).mp (I.asub 0 (F.memA 0 (List.mem_append_left _ (I.tsub 0 hm))))
    omega
  have htlen : S.tree.length ≤ n :=
    I.treeInv.length_le.trans
      ((List.sublist_append_left pre _).length_le.trans (HvSweep.dl_length_le hD))
  exact ⟨F, hpA, hpn, h2d, fun hm => F.ppre (I.tsub p hm), hp0, hh, by rw [I.tsh.domr]; omega, by rw [I.tsh.ign]; omega,
    h0T, htlen⟩

/-- **branch 1** (l.911-916): the node carries a mark `≥ 2` -/
theorem step_marked {A : List ℕ} {S : St} {pre rest : List ℕ} {p : ℕ}
    {hyperv hypera : ℚ} (c : CCtx C R d n O) (I : SLInv C R d n O A S pre (p :: rest) hyperv hypera) (tfuel : ℕ)
    (hm : (2 : ℤ) ≤ ign S p) :
    ∃ v' hypera' S', sweepBody C R tfuel p hyperv hypera S = some (v', hypera', S') ∧
      StepOut C R d n O A S pre p hyperv hypera S' v' hypera' := by
  obtain ⟨F, hpA, hpn, h2d, hpT, hp0, hh, hpd, hpi, h0T, htlen⟩ := step_static c I
  refine ⟨hyperv + hypera * hgt C R S p, hypera, setAr (setVl S p 2 hyperv) p 2 hypera, ?_, ?_⟩
  · unfold sweepBody sweepBodyWith
    simp only
    have hm' : (2 : ℤ) ≤ ign (setVl S p 2 hyperv) p := hm
    rw [if_pos hm']
    rfl
  · obtain ⟨t1, t2, t3, t4⟩ := tables_step (S' := setAr (setVl S p 2 hyperv) p 2 hypera) I.tsh hpn h2d rfl rfl rfl rfl rfl
    obtain ⟨w, hwA, hwne, hwx, hwy, hwpos⟩ := I.ig p hpA hm
    have hwp : pos O 2 w < pos O 2 p := hwpos 2 (le_refl _) (by omega)
    have hwpre : w ∈ pre := by
      rcases List.mem_append.mp (F.ofA w hwA) with h | h
      · exact h
      · rcases List.mem_cons.mp h with h | h
        · exact absurd h hwne
        · have := F.pos2 w h; omega
    obtain ⟨t, ht, htd⟩ := I.cover w hwpre
    have htx : (item C t).1 ≤ (item C p).1 := le_trans htd.1 hwx
    have hty : (item C t).2 ≤ (item C p).2 := le_trans htd.2 hwy
    exact
      { ptr := ⟨rfl, rfl, rfl, rfl⟩
        tsh := t1
        arp := t2
        vlp := t3
        cfr := t4
        val := rfl
        ignfr := fun y _ => rfl
        tne := I.tne
        tnd := I.tnd
        tsub := fun t ht => Or.inr ht
        stair := I.stair
        area := I.area
        cover := by
          intro q hq
          rcases hq with rfl | hq
          · exact ⟨t, ht, htx, hty⟩
          · exact ⟨q, hq, le_refl _, le_refl _⟩
        d1 := fun y _ _ => rfl
        d2 := fun hin => absurd hin hpT
        d3 := fun _ => ⟨I.igd p hm, w, hwpre, hwne, hwx, hwy, fun _ => hwp⟩
        d4 := fun a h1 h2 => absurd h1 h2
        d5 := fun a ha _ => no_beat_tree I F t ht htx hty a ha
        i1 := Or.inl rfl }

/-- **branches 2 and 3** (l.919-987): the node is not marked -/
theorem step_unmarked {A : List ℕ} {S : St} {pre rest : List ℕ} {p : ℕ}
    {hyperv hypera : ℚ} (c : CCtx C R d n O) (I : SLInv C R d n O A S pre (p :: rest) hyperv hypera) (tfuel : ℕ)
    (htf : n < tfuel) (hm : ¬ (2 : ℤ) ≤ ign S p) :
    ∃ v' hypera' S', sweepBody C R tfuel p hyperv hypera S = some (v', hypera', S') ∧
      StepOut C R d n O A S pre p hyperv hypera S' v' hypera' := by
  obtain ⟨F, hpA, hpn, h2d, hpT, hp0, hh, hpd, hpi, h0T, htlen⟩ := step_static c I
  obtain ⟨r, hrun, hr1, hr2, hrF, hrne, hrnd, hrsub, hrst, hrcov, hrvol, hrarea, hbr⟩ :=
    sweepBody_re C R tfuel p hyperv hypera S I.tne I.tnd h0T hpT hp0 I.stair (I.agood p hpA 0 (lt_trans Nat.zero_lt_two h2d)) hm I.area
      (lt_of_le_of_lt htlen htf) hh
  obtain ⟨v', hypera', S'⟩ := r
  simp only at hrun hr1 hr2 hrF hrne hrnd hrsub hrst hrcov hrvol hrarea hbr
  refine ⟨v', hypera', S', hrun, ?_⟩
  have hTn : ∀ a ∈ S.tree, a < S.domr.length := by
    intro a ha
    have := ((HvSweep.mem_ids n a).mp (I.asub a (F.memA a (List.mem_append_left _ (I.tsub a ha))))).2
    rw [I.tsh.domr]; omega
  rcases hbr with ⟨⟨b, hbT, hbx, hby⟩, hT', hig', hdr'⟩ | ⟨hig', hpT', hdrl, hnod, hdrp, hdrfr, hdrD⟩
  · -- branch 2: dominated by the tree successor
    obtain ⟨t1, t2, t3, t4⟩ := tables_step (S' := S') I.tsh hpn h2d hrvol hrarea (by rw [hig']; simp) (by rw [hdr']; simp)
      hrF.bound
    have hbpre : b ∈ pre := I.tsub b hbT
    have hbne : b ≠ p := fun e => F.ppre (e ▸ hbpre)
    have hbpos := F.pos1 b hbpre
    have hpT' : p ∉ S'.tree := by rw [hT']; exact hpT
    have hignp : ign S' p = 2 := by
      unfold ign; rw [hig']; exact List.getD_set_self _ _ _ _ hpi
    have hdrp : dr S' p = cg C p 2 := by
      unfold dr; rw [hdr']; exact List.getD_set_self _ _ _ _ hpd
    exact
      { ptr := hrF
        tsh := t1
        arp := t2
        vlp := t3
        cfr := t4
        val := hr1
        ignfr := by
          intro y hy
          unfold ign; rw [hig']; exact List.getD_set_ne _ _ _ hy
        tne := hrne
        tnd := hrnd
        tsub := hrsub
        stair := hrst
        area := hr2
        cover := hrcov
        d1 := by
          intro y hy _
          unfold dr; rw [hdr']; exact List.getD_set_ne _ _ _ hy
        d2 := fun hin => absurd hin hpT'
        d3 := fun _ => ⟨hdrp, b, hbpre, hbne, hbx, hby, fun _ => hbpos⟩
        d4 := by
          intro a h1 h2
          rw [hT'] at h2
          exact absurd h1 h2
        d5 := by
          intro a ha _
          rw [hT'] at ha
          exact no_beat_tree I F b hbT hbx hby a ha
        i1 := Or.inr ⟨hignp, b, F.memA b (List.mem_append_left _ hbpre), hbne, hbx, hby, fun j h1 h2 => by
          have : j = 2 := by omega
          rw [this]; exact hbpos⟩ }
  · -- branch 3: inserted
    obtain ⟨t1, t2, t3, t4⟩ := tables_step (S' := S') I.tsh hpn h2d hrvol hrarea (by rw [hig']) hdrl hrF.bound
    exact
      { ptr := hrF
        tsh := t1
        arp := t2
        vlp := t3
        cfr := t4
        val := hr1
        ignfr := by
          intro y hy
          unfold ign; rw [hig']
        tne := hrne
        tnd := hrnd
        tsub := hrsub
        stair := hrst
        area := hr2
        cover := hrcov
        d1 := hdrfr
        d2 := by
          intro _
          refine ⟨hdrp hpd, by unfold ign; rw [hig']; exact hm, ?_⟩
          intro q hq hb
          obtain ⟨t, ht, htd⟩ := I.cover q hq
          exact hnod t ht ⟨le_trans htd.1 hb.2.1, le_trans htd.2 hb.2.2.1⟩
        d3 := fun hnin => absurd hpT' hnin
        d4 := by
          intro a h1 h2
          obtain ⟨e1, e2, e3, e4⟩ := hdrD a h1 h2
          exact ⟨e1 (hTn a h1), e2, e3, e4⟩
        d5 := by
          intro a ha hne hb
          rcases stair_cases C S'.tree hrst a p ha hpT' hne with h | h
          · exact absurd h.1 (not_lt.mpr hb.2.1)
          · exact absurd h.2 (not_lt.mpr hb.2.2.1)
        i1 := Or.inl (by unfold ign; rw [hig']) }

theorem sweepLoopRe : SweepLoopRe_Statement := by
  intro C R d n O A tfuel fuel pre rest
  induction rest generalizing pre fuel with
  | nil =>
    intro hyperv hypera S c I hf htf
    refine ⟨hyperv, hypera, S, ?_, by rw [List.append_nil]; exact I, rfl, rfl, rfl, rfl, fun _ _ => rfl, fun _ _ => rfl,
      fun _ _ _ => ⟨rfl, rfl⟩⟩
    cases fuel <;> simp [sweepLoop]
  | cons p rest ih =>
    intro hyperv hypera S c I hf htf
    obtain ⟨f, rfl, hf'⟩ := HvSweep.exists_fuel_succ hf
    obtain ⟨F, hpA, hpn, h2d, hpT, hp0, hh, hpd, hpi, h0T, htlen⟩ := step_static c I
    have hD : DLc n S 2 (pre ++ p :: rest) := by have := I.dl; rw [I.split] at this; exact this
    obtain ⟨hhgt, hnx, _⟩ := hgt_eq C R n S pre rest p hD
    obtain ⟨v1, a1, S1, hrun, hstep⟩ : ∃ v' hypera' S', sweepBody C R tfuel p hyperv hypera S = some (v', hypera', S') ∧
        StepOut C R d n O A S pre p hyperv hypera S' v' hypera' := by
      by_cases hm : (2 : ℤ) ≤ ign S p
      · exact step_marked c I tfuel hm
      · exact step_unmarked c I tfuel htf hm
    have I1 := slinv_step c I hstep
    obtain ⟨v, a', S', hfin, I', e1, e2, e3, e4, e5, e6, e7⟩ := ih f (pre ++ [p]) v1 a1 S1 c I1 hf' htf
    have hnx1 : nx S1 2 p = rest.headD 0 := by
      have : nx S1 2 p = nx S 2 p := by unfold nx; rw [hstep.ptr.next]
      rw [this, hnx]
    refine ⟨v, a', S', ?_, ?_, e1.trans hstep.ptr.next, e2.trans hstep.ptr.prev, e3.trans hstep.ptr.bound,
      e4.trans hstep.ptr.calls, ?_, ?_, ?_⟩
    · unfold sweepLoop
      simp only [List.headD_cons, if_neg hp0, hrun]
      rw [hnx1, hfin]
    · have : pre ++ [p] ++ rest = pre ++ p :: rest := by simp
      rw [this] at I'
      exact I'
    · intro y hy
      have h1 : y ∉ rest := fun h => hy (List.mem_cons_of_mem _ h)
      have h2 : y ≠ p := fun h => hy (by rw [h]; simp)
      rw [e5 y h1, hstep.ignfr y h2]
    · intro y hy
      have h1 : y ∉ pre ++ [p] ++ rest := fun h => hy (by simpa using h)
      have h2 : y ≠ p := fun h => hy (by rw [h]; simp)
      have h3 : y ∉ S.tree := fun h => hy (List.mem_append_left _ (I.tsub y h))
      rw [e6 y h1, hstep.d1 y h2 (Or.inl h3)]
    · intro a i hai
      have h1 : i ≠ 2 ∨ a ∉ rest := hai.imp_right fun h hr => h (List.mem_cons_of_mem _ hr)
      have h2 : a ≠ p ∨ i ≠ 2 := hai.symm.imp_left fun h e => h (by rw [e]; simp)
      rw [(e7 a i h1).1, (e7 a i h1).2]
      exact hstep.cfr a i h2

end HvC
