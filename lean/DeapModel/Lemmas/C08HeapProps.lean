/-
C08 — the heap-level archive (`Core/ArchiveHeap.lean`) after a whole history: the invariant `Inv` and the refinement of
the pure archive follow from a successful run, members reach only the archive's own copies, and `keys` mirror the
members' fitness values whatever the caller does to his objects.  `Ex` is a concrete admissible history over the class
table of `C16.Ex`.
-/
import DeapModel.Lemmas.C08HeapRun
import DeapModel.Lemmas.C16Examples

namespace C08H
open Heap ArchiveHeap
open Archive (Ind HoF)

variable {α : Type} [LinearOrder α]

section Run
variable {P : Params α} (hsim : SimErase P.sim) (hct : CTOk P.ct) (pf : Bool)
include hsim hct

section
variable {objs0 : Oid → Option Obj} {next0 : Nat} (hcl : Closed objs0 next0) (m b : Nat) (evs : List Ev)
  (hv : Valid P pf (emptyH m objs0 next0) evs)
include hcl hv

theorem inv_of_run {hs : HState} (hr : runH P pf (emptyH m objs0 next0) evs = some hs) :
    ∃ h, pureRun P pf (Archive.empty m b) (histOf P pf (emptyH m objs0 next0) evs) = some h ∧
      Inv P next0 hs ∧ Rel P hs h ∧ ∀ s ∈ submittedOf evs, ¬ InLog hs.log s := by
  obtain ⟨h, e, F⟩ := rel_some_left
    (hr ▸ run_facts hsim hct pf evs _ _ (inv_empty P m hcl) (rel_empty P m b objs0 next0) hv)
  exact ⟨h, e, F.inv, F.rel, F.subm⟩

theorem refines_of_run :
    (∀ st, runH P pf (emptyH m objs0 next0) evs = some st →
      ∃ hp, pureRun P pf (Archive.empty m b) (histOf P pf (emptyH m objs0 next0) evs) = some hp ∧ Rel P st hp) ∧
    (∀ hp, pureRun P pf (Archive.empty m b) (histOf P pf (emptyH m objs0 next0) evs) = some hp →
      ∃ st, runH P pf (emptyH m objs0 next0) evs = some st ∧ Rel P st hp) := by
  constructor
  · intro st hr
    obtain ⟨hp, e, _, hR, _⟩ := inv_of_run hsim hct pf hcl m b evs hv hr
    exact ⟨hp, e, hR⟩
  · intro hp hq
    obtain ⟨st, e, F⟩ := rel_some_right
      (hq ▸ run_facts hsim hct pf evs _ _ (inv_empty P m hcl) (rel_empty P m b objs0 next0) hv)
    exact ⟨st, e, F.rel⟩

end

theorem continuation_facts {base : Nat} {st st₂ : HState} {hp : HoF PV α} (hI : Inv P base st)
    (hR : Rel P st hp) {evs₂ : List Ev} (hv : Valid P pf st evs₂) (hr : runH P pf st evs₂ = some st₂) :
    Inv P base st₂ ∧ Stable st st₂ ∧ (CallerOnly evs₂ → st₂.items = st.items ∧ st₂.keys = st.keys ∧ Rel P st₂ hp) := by
  obtain ⟨h2, _, F⟩ := rel_some_left (hr ▸ run_facts hsim hct pf evs₂ st hp hI hR hv)
  refine ⟨F.inv, F.stable, fun hc => ?_⟩
  obtain ⟨rfl, e2, e3⟩ := F.caller hc
  exact ⟨e2, e3, F.rel⟩

end Run

set_option linter.unusedSectionVars false in
theorem Inv.ranges_disjoint {P : Params α} {base : Nat} {hs : HState} (hI : Inv P base hs) {r s : Nat × Nat}
    (hr : r ∈ hs.log) (hs' : s ∈ hs.log) (hne : r.1 ≠ s.1) (y : Nat) :
    ¬ ((r.1 ≤ y ∧ y < r.2) ∧ (s.1 ≤ y ∧ y < s.2)) := by
  have := List.Pairwise.forall_of_forall_of_flip
    (R := fun r s : Nat × Nat => r.1 = s.1 ∨ r.2 ≤ s.1 ∨ s.2 ≤ r.1) (fun _ _ => Or.inl rfl)
    (hI.logord.imp fun h => Or.inr (Or.inl h)) (hI.logord.imp fun h => Or.inr (Or.inr h)) hr hs'
  omega

theorem members_fresh_of_inv {P : Params α} {base : Nat} {hs : HState} (hI : Inv P base hs)
    (subm : List Oid) (hsub : ∀ s ∈ subm, ¬ InLog hs.log s) :
    (∀ s ∈ subm, ∀ y, Reach hs.objs (.ref s) y → ¬ InLog hs.log y) ∧
    (∀ x ∈ hs.items, ∀ s ∈ subm, ∀ y o, Reach hs.objs (.ref x) y → Reach hs.objs (.ref s) y →
      hs.objs y = some o → o.mutable = false) ∧
    (∀ i j : Nat, i < j → ∀ xi xj, hs.items[i]? = some xi → hs.items[j]? = some xj →
      ∀ y o, Reach hs.objs (.ref xi) y → Reach hs.objs (.ref xj) y → hs.objs y = some o →
        o.mutable = false) := by
  have h5 : ∀ s ∈ subm, ∀ y, Reach hs.objs (.ref s) y → ¬ InLog hs.log y :=
    fun s hs' y hr => reach_closed (fun z => ¬ InLog hs.log z) (fun x o hx ho z hz => hI.outside x o ho hx z hz) hr
      (fun x hx => by cases hx; exact hsub s hs')
  refine ⟨h5, ?_, ?_⟩
  · -- a mutable object a member reaches is in the member's range, where a submitted individual reaches nothing
    intro x hx s hs' y o hr1 hr2 ho
    refine Bool.eq_false_iff.2 fun hm => ?_
    obtain ⟨hi, hmem, h⟩ := hI.member_range hx hr1 ho hm
    exact h5 s hs' y hr2 ⟨(x, hi), hmem, h⟩
  · -- … and the ranges of two members are disjoint
    intro i j hij xi xj hi hj y o hr1 hr2 ho
    refine Bool.eq_false_iff.2 fun hm => ?_
    obtain ⟨hil, ei⟩ := List.getElem?_eq_some_iff.1 hi
    obtain ⟨hjl, ej⟩ := List.getElem?_eq_some_iff.1 hj
    have hne : xi ≠ xj := ei ▸ ej ▸ List.pairwise_iff_getElem.1 hI.nodup i j hil hjl hij
    obtain ⟨hi1, hm1, h1⟩ := hI.member_range (List.mem_of_getElem? hi) hr1 ho hm
    obtain ⟨hi2, hm2, h2⟩ := hI.member_range (List.mem_of_getElem? hj) hr2 ho hm
    exact hI.ranges_disjoint hm1 hm2 hne y ⟨h1, h2⟩

/-- `keys[j].wvalues` is `items[n-1-j].fitness.wvalues`, whatever the heap holds now. -/
theorem value_mirror_of_inv {P : Params α} {base : Nat} {hs : HState} (hI : Inv P base hs) :
    hs.keys.map (fun k => some (fitAt P hs.objs k))
      = (hs.items.map (fun x => (viewInd P hs.objs x).map (·.fit))).reverse := by
  have h1 : hs.items.map (fun x => (viewInd P hs.objs x).map (·.fit))
      = (hs.items.map (instFit P hs.objs)).map (Option.map (fitAt P hs.objs)) := by
    rw [List.map_map]
    apply List.map_congr_left
    intro x hx
    obtain ⟨k, hk⟩ := hI.member_fit hx
    simp only [Function.comp, viewInd_of_instFit hk, hk, Option.map_some]
  rw [h1, ← List.map_reverse, ← hI.keyof, List.map_map]
  rfl

namespace Ex

/-- The class table of `C16.Ex` (fitness class 0, list-based individual class 1 with `fitness` = attribute 1);
atoms denote themselves; similarity = equal fitness. -/
def P : Params Int := ⟨C16.Ex.ct, 3, 1, id, 3, fun a b => Fitness.eq a.fit b.fit⟩

/-- The individual at oid 1 (genome `[5, 6]`, fitness object 2 with `wvalues = [2]`) is shown; then it is
re-evaluated in place (`fitness.values` → `wvalues = [9]`), its genome is edited in place (`[7]`), and it is
shown again. -/
def evs : List Ev :=
  [.upd [1], .write 2 ⟨0, [.atom 9], [], true⟩, .write 1 ⟨1, [.atom 7], [(1, .ref 2)], true⟩, .upd [1]]

theorem simHyp (U : List (Ind PV Int)) : C08L.SimHyp P.sim U where
  symm x y h := (C08L.eq_iff _ _).2 ((C08L.eq_iff _ _).1 h).symm
  same x x' y y' h1 h2 := by
    show Fitness.eq x.fit y.fit = Fitness.eq x'.fit y'.fit
    rw [h1.2, h2.2]
  refl x := (C08L.eq_iff _ _).2 rfl
  fit x _ y _ h := (C08L.eq_iff _ _).1 h

theorem simErase : SimErase P.sim := simErase_of_same (simHyp []).same

theorem copyOK_fit (objs : Oid → Option Obj) (w : Int) :
    CopyOK objs ⟨.fitness, [], [(7, .atom (-1))]⟩ ⟨0, [.atom w], [], true⟩ := by
  refine ⟨(fun _ p hp => by cases hp), (fun _ => ⟨rfl, fun _ => rfl, ?_⟩),
    (fun h => by cases h), (fun h => by cases h), (fun h => by cases h)⟩
  intro c hc
  simp at hc; subst hc; rfl

theorem copyOK_ind (objs : Oid → Option Obj) (items : List Val) :
    CopyOK objs ⟨.plain, [(1, 0)], [(9, .atom 3)]⟩ ⟨1, items, [(1, .ref 2)], true⟩ :=
  ⟨(fun h => by cases h), (fun h => by cases h), (fun h => by cases h), (fun h => by cases h),
    (fun h => by cases h)⟩

/-- An individual `⟨1, [atom g…], fitness ↦ 2⟩` at oid 1 with a fitness `⟨0, [atom w]⟩` at oid 2 can be
shown to an archive that has allocated nothing below 3. -/
theorem subm (hs : HState) (g : List Int) (w : Int)
    (h1 : hs.objs 1 = some ⟨1, g.map Val.atom, [(1, .ref 2)], true⟩)
    (h2 : hs.objs 2 = some ⟨0, [.atom w], [], true⟩) (hl : ∀ y, InLog hs.log y → 3 ≤ y) : Subm P hs 1 := by
  refine ⟨fun h => by have := hl 1 h; omega, ?_, 2, by simp only [instFit, h1]; rfl⟩
  refine ⟨_, _, h1, rfl, copyOK_ind _ _, ?_⟩
  intro c hc
  simp only [Obj.children, List.mem_append, List.mem_map, List.map_cons, List.map_nil,
    List.mem_singleton] at hc
  rcases hc with ⟨a, _, rfl⟩ | rfl
  · trivial
  · refine ⟨_, _, h2, rfl, copyOK_fit _ w, ?_⟩
    intro c hc
    simp [Obj.children] at hc
    subst hc
    trivial

theorem valid (pf : Bool) : Valid P pf (emptyH 2 C16.Ex.heap 3) evs := by
  have hs0 : ∀ x ∈ [1], Subm P (emptyH 2 C16.Ex.heap 3) x := fun x hx =>
    List.mem_singleton.1 hx ▸ subm _ [5, 6] 2 rfl rfl (fun y ⟨r, hr, _⟩ => nomatch hr)
  refine ⟨hs0, fun hs1 he1 => ?_⟩
  -- the state after the first update extends the initial one
  obtain ⟨_, _, hI1, _, hE1⟩ := rel_some_left (he1 ▸ upd_lock simErase C16.Ex.ct_ok pf
    (inv_empty P 2 C16.Ex.heap_closed) (rel_empty P 2 0 C16.Ex.heap 3) [1] hs0)
  have ho1 : hs1.objs 1 = some ⟨1, [.atom 5, .atom 6], [(1, .ref 2)], true⟩ := hE1.objs 1 (by decide)
  have ho2 : hs1.objs 2 = some ⟨0, [.atom 2], [], true⟩ := hE1.objs 2 (by decide)
  have hlog1 : ∀ y, InLog hs1.log y → 3 ≤ y := fun y hy => (hI1.inlog_lt hy).1
  have hn1 : ¬ InLog hs1.log 1 := fun h => by have := hlog1 1 h; omega
  have hn2 : ¬ InLog hs1.log 2 := fun h => by have := hlog1 2 h; omega
  refine ⟨⟨⟨_, ho2, rfl⟩, hn2, fun z hz => (by simp [Obj.children] at hz)⟩, fun hs2 he2 => ?_⟩
  cases he2
  have ho1' : write hs1.objs 2 ⟨0, [.atom 9], [], true⟩ 1
      = some ⟨1, [.atom 5, .atom 6], [(1, .ref 2)], true⟩ := (define_ne _ _ _ (by decide)).trans ho1
  have ho2' : write hs1.objs 2 ⟨0, [.atom 9], [], true⟩ 2 = some ⟨0, [.atom 9], [], true⟩ := define_same _ _ _
  refine ⟨⟨⟨_, ho1', rfl⟩, hn1, fun z hz => ?_⟩, fun hs3 he3 => ?_⟩
  · simp [Obj.children] at hz
    subst hz
    exact ⟨by show (write hs1.objs 2 _ 2).isSome = true; rw [ho2']; rfl, hn2⟩
  cases he3
  refine ⟨fun x hx => ?_, fun _ _ => trivial⟩
  cases List.mem_singleton.1 hx
  have ho1'' : write (write hs1.objs 2 ⟨0, [.atom 9], [], true⟩) 1 ⟨1, [.atom 7], [(1, .ref 2)], true⟩ 1
      = some ⟨1, [.atom 7], [(1, .ref 2)], true⟩ := define_same _ _ _
  have ho2'' : write (write hs1.objs 2 ⟨0, [.atom 9], [], true⟩) 1 ⟨1, [.atom 7], [(1, .ref 2)], true⟩ 2
      = some ⟨0, [.atom 9], [], true⟩ := (define_ne _ _ _ (by decide)).trans ho2'
  exact subm _ [7] 9 ho1'' ho2'' hlog1

theorem pfHyp (pf : Bool) : C08L.PfHyp P.sim 1 (histOf P pf (emptyH 2 C16.Ex.heap 3) evs).flatten where
  toSimBase := (simHyp []).toSimBase
  len := by cases pf <;> decide

end Ex

end C08H
