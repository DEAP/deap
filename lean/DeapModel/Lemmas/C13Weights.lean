/-
C13 helper lemmas: the three recombination-weight schemes of `computeParams` (cma.py:183-194).
-/
import DeapModel.Lemmas.C13Basic

open Cma

namespace C13L

/-- the raw weight of rank `i+1` as a real function -/
noncomputable def rawW (sch : Scheme) (mu : Nat) (i : Nat) : ℝ :=
  match sch with
  | .superlinear => Real.log ((mu : ℝ) + 1 / 2) - Real.log ((i : ℝ) + 1)
  | .linear => (mu : ℝ) + 1 / 2 - ((i : ℝ) + 1)
  | .equal => 1

theorem rawWeights_eq (sch : Scheme) (mu : Nat) : (rawWeights sch mu : List ℝ) = tab mu (rawW sch mu) := by
  cases sch <;> simp only [rawWeights] <;> apply tab_congr <;> intro i <;> simp only [real_bridge] <;> push_cast <;> rfl

theorem rawW_pos (sch : Scheme) (mu : Nat) (i : Fin mu) : 0 < rawW sch mu i.val := by
  have hi : ((i.val : ℝ) + 1) ≤ (mu : ℝ) := by exact_mod_cast i.isLt
  cases sch <;> simp only [rawW]
  · have : Real.log ((i.val : ℝ) + 1) < Real.log ((mu : ℝ) + 1 / 2) :=
      Real.log_lt_log (by linarith) (by linarith)
    linarith
  · linarith
  · exact one_pos

theorem rawW_antitone (sch : Scheme) (mu : Nat) {i j : Nat} (h : i ≤ j) : rawW sch mu j ≤ rawW sch mu i := by
  have hij : (i : ℝ) ≤ (j : ℝ) := by exact_mod_cast h
  cases sch <;> simp only [rawW]
  · have : Real.log ((i : ℝ) + 1) ≤ Real.log ((j : ℝ) + 1) := Real.log_le_log (by linarith) (by linarith)
    linarith
  · linarith
  · exact le_refl _

theorem normalise_tab (n : Nat) (f : Nat → ℝ) :
    normalise (tab n f) = tab n (fun i => f i / ∑ k : Fin n, f k.val) := by
  have : RealLike.sum (tab n f) = ∑ k : Fin n, f k.val := by rw [← sumTo_real]; rfl
  simp only [normalise, this]
  simp only [tab, List.map_map]
  rfl

theorem sum_rawW_pos (sch : Scheme) {mu : Nat} (hmu : 1 ≤ mu) : 0 < ∑ k : Fin mu, rawW sch mu k.val := by
  have : Nonempty (Fin mu) := ⟨⟨0, hmu⟩⟩
  exact Finset.sum_pos (fun k _ => rawW_pos sch mu k) Finset.univ_nonempty

theorem weights_eq (sch : Scheme) (mu : Nat) :
    (normalise (rawWeights sch mu) : List ℝ) = tab mu (fun i => rawW sch mu i / ∑ k : Fin mu, rawW sch mu k.val) := by
  rw [rawWeights_eq, normalise_tab]

theorem weights_facts (sch : Scheme) {mu : Nat} (hmu : 1 ≤ mu) :
    let W : List ℝ := normalise (rawWeights sch mu)
    W.length = mu ∧ (∀ i : Fin mu, 0 < vget W i.val) ∧
    (∀ i j : Fin mu, i ≤ j → vget W j.val ≤ vget W i.val) ∧ ∑ i : Fin mu, vget W i.val = 1 := by
  intro W
  have hS := sum_rawW_pos sch hmu
  have hW : W = tab mu (fun i => rawW sch mu i / ∑ k : Fin mu, rawW sch mu k.val) := weights_eq sch mu
  refine ⟨by rw [hW]; simp, ?_, ?_, ?_⟩
  · intro i; rw [hW, vget_tab_fin]; exact div_pos (rawW_pos sch mu i) hS
  · intro i j hij; rw [hW, vget_tab_fin, vget_tab_fin]
    exact div_le_div_of_nonneg_right (rawW_antitone sch mu hij) hS.le
  · rw [hW]; simp only [vget_tab_fin]
    rw [← Finset.sum_div, div_self hS.ne']

end C13L
