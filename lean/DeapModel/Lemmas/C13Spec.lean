/-
C13 helper lemmas: every assignment of the code form of `Strategy.update` equals the corresponding
published equation (over ℝ).
-/
import DeapModel.Lemmas.C13Basic

open Cma

namespace C13L

theorem cdiff_eq_sigma_yw (s : State ℝ) (xs : List (List ℝ)) (hσ : s.sigma ≠ 0)
    (hw : ∑ i : Fin s.par.mu, vget s.par.weights i.val = 1) (j : Fin s.dim) :
    vget (cDiff s (newCentroid s xs)) j.val = s.sigma * vget (specYw s xs) j.val := by
  simp only [cDiff, newCentroid, specYw, specY, vget_tab_fin, sumTo_real, RealLike.real_sub,
    RealLike.real_mul, RealLike.real_div]
  rw [Finset.mul_sum]
  have : ∀ i : Fin s.par.mu, s.sigma * (vget s.par.weights i.val * ((mget xs i.val j.val - vget s.centroid j.val) / s.sigma))
      = vget s.par.weights i.val * mget xs i.val j.val - vget s.par.weights i.val * vget s.centroid j.val := by
    intro i; field_simp
  simp only [this, Finset.sum_sub_distrib, ← Finset.sum_mul, hw, one_mul]

theorem newPs_eq_spec (s : State ℝ) (cdiff yw : List ℝ) (hσ : s.sigma ≠ 0)
    (h : ∀ j : Fin s.dim, vget cdiff j.val = s.sigma * vget yw j.val) :
    newPs s cdiff = specPs s yw := by
  apply tab_congr
  intro a
  simp only [specInvSqrtC]
  simp only [real_bridge]
  simp only [h]
  congr 1
  rw [div_mul_eq_mul_div, mul_div_assoc]
  congr 1
  simp only [Finset.mul_sum, Finset.sum_mul, Finset.sum_div]
  rw [Finset.sum_comm]
  refine Finset.sum_congr rfl (fun b _ => Finset.sum_congr rfl (fun k _ => ?_))
  -- the `σ` of `c_diff = σ·y_w` against the division by `σ`
  rw [show mget s.B a k * (1 / vget s.diagD k * (mget s.B b k * (s.sigma * vget yw b)))
      = s.sigma * (mget s.B a k * (1 / vget s.diagD k) * mget s.B b k * vget yw b) by ring,
    mul_div_cancel_left₀ _ hσ]

theorem hsig_eq_spec (s : State ℝ) (ps : List ℝ) (hchi : 0 < s.chiN) : hsigOf s ps = specHsig s ps := by
  unfold hsigOf specHsig
  have hp : ((2 : ℝ) * ((s.updateCount : ℝ) + 1)) = ((2 * (s.updateCount + 1) : ℕ) : ℝ) := by push_cast; ring
  simp only [real_bridge]
  simp only [hp, div_lt_iff₀ hchi]

theorem newPc_eq_spec (s : State ℝ) (hsig : ℝ) (cdiff yw : List ℝ) (hσ : s.sigma ≠ 0)
    (h : ∀ j : Fin s.dim, vget cdiff j.val = s.sigma * vget yw j.val) :
    newPc s hsig cdiff = specPc s hsig yw := by
  apply tab_congr
  intro a
  simp only [real_bridge]
  simp only [h]
  rw [div_mul_eq_mul_div, mul_left_comm, mul_div_cancel_left₀ _ hσ]

theorem newC_eq_spec (s : State ℝ) (hsig : ℝ) (pc : List ℝ) (xs : List (List ℝ)) :
    newC s hsig pc (artmpOf s xs) = specC s hsig pc xs := by
  unfold newC specC artmpOf
  apply tab2_congr
  intro a b
  simp only [specY]
  simp only [real_bridge]
  rw [mul_div_assoc, Finset.sum_div]
  have : ∀ i : Fin s.par.mu,
      vget s.par.weights i.val * (mget xs i.val a.val - vget s.centroid a.val) * (mget xs i.val b.val - vget s.centroid b.val) / s.sigma ^ 2
      = vget s.par.weights i.val * ((mget xs i.val a.val - vget s.centroid a.val) / s.sigma * ((mget xs i.val b.val - vget s.centroid b.val) / s.sigma)) := by
    intro i; ring
  simp only [this]
  ring

theorem newSigma_eq_spec (s : State ℝ) (ps : List ℝ) : newSigma s ps = specSigma s ps := by
  unfold newSigma specSigma
  simp only [real_bridge]
  congr 2
  ring

theorem updateCore_eq_spec (s : State ℝ) (xs : List (List ℝ)) (hσ : s.sigma ≠ 0) (hchi : 0 < s.chiN)
    (hw : ∑ i : Fin s.par.mu, vget s.par.weights i.val = 1) :
    updateCore s xs = updateSpec s xs := by
  have hcd := cdiff_eq_sigma_yw s xs hσ hw
  unfold updateCore updateSpec
  simp only [newPs_eq_spec s _ _ hσ hcd, newPc_eq_spec s _ _ _ hσ hcd, hsig_eq_spec s _ hchi, newC_eq_spec,
    newSigma_eq_spec]
  rfl

end C13L
