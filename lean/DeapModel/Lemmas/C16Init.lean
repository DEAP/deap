/-
C16 — helper lemmas for `Core/Init.lean` (the generator expressions of `tools.initRepeat` / `initCycle` as call sequences).
Core Lean only.
-/
import DeapModel.Core.Init

namespace Init

theorem runCalls_append {σ α : Type} (a b : List (Func σ α)) (s : σ) :
    runCalls (a ++ b) s = ((runCalls b (runCalls a s).1).1, (runCalls a s).2 ++ (runCalls b (runCalls a s).1).2) := by
  induction a generalizing s with
  | nil => simp [runCalls]
  | cons f fs ih => simp [runCalls, ih]

theorem runCalls_length {σ α : Type} (fs : List (Func σ α)) (s : σ) : (runCalls fs s).2.length = fs.length := by
  induction fs generalizing s with
  | nil => rfl
  | cons f fs ih => simp [runCalls, ih]

theorem runCalls_get {σ α : Type} (fs : List (Func σ α)) (s : σ) (i : Nat) :
    (runCalls fs s).2[i]? = (fs[i]?).map (fun f => (f (runCalls (fs.take i) s).1).2) := by
  induction fs generalizing s i with
  | nil => simp [runCalls]
  | cons f fs ih =>
    cases i with
    | zero => simp [runCalls]
    | succ j => simp [runCalls, ih]

theorem repeatCalls_eq {σ α : Type} (func : Func σ α) (n : Nat) (s : σ) :
    repeatCalls func n s = runCalls (List.replicate n func) s := by
  induction n generalizing s with
  | zero => rfl
  | succ n ih => simp [repeatCalls, runCalls, List.replicate_succ, ih]

theorem cycleCalls_eq {σ α : Type} (fs : List (Func σ α)) (n : Nat) (s : σ) :
    cycleCalls fs n s = runCalls (List.replicate n fs).flatten s := by
  induction n generalizing s with
  | zero => rfl
  | succ n ih => simp [cycleCalls, List.replicate_succ, runCalls_append, ih]

theorem initRepeatCls_of_eq {τ : Type} {ct : Heap.ClassTable} {c : Heap.ClsId} {func : Func τ Heap.Val}
    {n : Nat} {t t1 : τ} {st st1 : Heap.State} {x1 : Heap.Oid}
    (h : initRepeatCls ct c func n t st = some (t1, st1, x1)) :
    t1 = (runCalls (List.replicate n func) t).1 ∧
      Heap.create ct st c (runCalls (List.replicate n func) t).2 = some (st1, x1) := by
  simp only [initRepeatCls, Option.map_eq_some_iff] at h
  obtain ⟨⟨s, x⟩, hc, he⟩ := h
  cases he
  rw [← repeatCalls_eq]
  exact ⟨rfl, hc⟩

end Init
