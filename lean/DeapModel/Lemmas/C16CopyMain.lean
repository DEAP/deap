/-
C16 — the induction over `copyVal`.
-/
import DeapModel.Lemmas.C16CopyInv

namespace Heap.Copy

/-- Unfolding of `copyVal` on a memo miss, one named intermediate state per phase. -/
theorem copyVal_ref_miss (ct : ClassTable) (f : Nat) (st : State) (x : Oid) (obj : Obj)
    (ci : ClassInfo) (hm : lookup x st.memo = none) (ho : st.objs x = some obj)
    (hc : ct[obj.cls]? = some ci)
    (st3 : State) (base : List (Name × Val))
    (h3 : (if ci.kind.initOnCopy = true
        then instAttrs ct ⟨st.objs, st.next + 1,
          if ci.kind.memoEarly = true then (x, st.next) :: st.memo else st.memo⟩ ci.dictInst
        else some (⟨st.objs, st.next + 1,
          if ci.kind.memoEarly = true then (x, st.next) :: st.memo else st.memo⟩, []))
      = some (st3, base))
    (sel : List (Name × Val)) (hsel : selectAttrs ci.kind obj.attrs = some sel)
    (st4 : State) (as' : List (Name × Val))
    (h4 : mapSt (fun s (p : Name × Val) =>
        match copyVal ct f s p.2 with
        | none => none
        | some (s', v') => some (s', (p.1, v'))) st3 sel = some (st4, as'))
    (st5 : State) (is' : List Val)
    (h5 : (if ci.kind.copyItems = true then mapSt (copyVal ct f) st4 obj.items
      else some (st4, obj.items)) = some (st5, is')) :
    copyVal ct (f + 1) st (.ref x) =
      some ({ objs := define st5.objs st.next
                { cls := obj.cls, items := is', attrs := dictUpdate base as',
                  mutable := obj.mutable },
              next := st5.next, memo := (x, st.next) :: st5.memo }, .ref st.next) := by
  have hst2 : (if ci.kind.memoEarly = true
      then ({ objs := st.objs, next := st.next + 1, memo := (x, st.next) :: st.memo } : State)
      else { objs := st.objs, next := st.next + 1, memo := st.memo })
      = ⟨st.objs, st.next + 1, if ci.kind.memoEarly = true then (x, st.next) :: st.memo else st.memo⟩ := by
    split <;> rfl
  rw [copyVal]
  simp only [hm, ho, hc, hst2]
  rw [h3]
  simp only [hsel]
  generalize hr : mapSt _ st3 sel = r
  have hr' : r = some (st4, as') := hr.symm.trans h4
  subst hr'
  simp only []
  rw [h5]

section Main
variable {ct : ClassTable} {objs0 : Oid → Option Obj} {N0 : Nat}

/-- The statement proved by induction on the depth `k`: a value of depth ≤ `k` is copied
faithfully in every state satisfying the invariant whose in-progress originals are all deeper
than `k` (so that none of them can be met again below); the copy of an object not yet in the memo
is the next object allocated. -/
def Spec (ct : ClassTable) (objs0 : Oid → Option Obj) (N0 : Nat) (k : Nat) : Prop :=
  ∀ (fuel : Nat) (st : State) (P : List Oid) (v : Val), k ≤ fuel →
    Within ct CopyOK objs0 k v → (∀ p ∈ P, ¬ Within ct CopyOK objs0 k (.ref p)) →
    CInv ct objs0 N0 st P →
    ∃ st' v', copyVal ct fuel st v = some (st', v') ∧ CInv ct objs0 N0 st' P ∧ CExt st st' ∧
      GoodVal ct objs0 N0 st'.objs v v' ∧ ∀ x, v = .ref x → lookup x st.memo = none → v' = .ref st.next

theorem copyVal_atom (ct : ClassTable) (fuel : Nat) (st : State) (a : Int) :
    copyVal ct fuel st (.atom a) = some (st, .atom a) := by
  cases fuel <;> rfl

theorem spec_atom (fuel : Nat) (st : State) (P : List Oid) (a : Int)
    (hI : CInv ct objs0 N0 st P) :
    ∃ st' v', copyVal ct fuel st (.atom a) = some (st', v') ∧ CInv ct objs0 N0 st' P ∧
      CExt st st' ∧ GoodVal ct objs0 N0 st'.objs (.atom a) v' ∧
      ∀ x, Val.atom a = .ref x → lookup x st.memo = none → v' = .ref st.next :=
  ⟨st, .atom a, copyVal_atom ct fuel st a, hI, CExt.refl st, GoodVal.atom _ a, nofun⟩

theorem spec_succ (hct : CTOk ct) (hcl : Closed objs0 N0) (j : Nat)
    (ih : Spec ct objs0 N0 j) : Spec ct objs0 N0 (j + 1) := by
  intro fuel st P v hfuel hv hP hI
  cases v with
  | atom a => exact spec_atom fuel st P a hI
  | ref x =>
    by_cases hw : Within ct CopyOK objs0 j (.ref x)
    · exact ih fuel st P (.ref x) (by omega) hw
        (fun p hp h => hP p hp (Within_le _ _ _ (Nat.le_succ _) _ h)) hI
    · obtain ⟨f, rfl⟩ : ∃ f, fuel = f + 1 := ⟨fuel - 1, by omega⟩
      have hjf : j ≤ f := by omega
      cases hm : lookup x st.memo with
      | some x' =>
        refine ⟨st, .ref x', by rw [copyVal]; simp only [hm], hI, CExt.refl st,
          (hI.memo x x' hm).resolve_left (fun h => hP x h hv), fun _ e hn => ?_⟩
        cases e
        rw [hm] at hn
        cases hn
      | none =>
        obtain ⟨obj, ci, hobj, hci, hok, hch⟩ := hv
        have hso : st.objs x = some obj := hI.keeps0 hcl x obj hobj
        have hP1 : ∀ p ∈ x :: P, ¬ Within ct CopyOK objs0 j (.ref p) := by
          intro p hp
          rcases List.mem_cons.1 hp with rfl | hp
          · exact hw
          · exact fun h => hP p hp (Within_le _ _ _ (Nat.le_succ _) _ h)
        obtain ⟨hI2, hE2⟩ := hI.reserve hm ci.kind.memoEarly
        obtain ⟨st3, base, h3, hI3, hE3, hbase⟩ :=
          hI2.instAttrs hct hcl hci ci.kind.initOnCopy
        obtain ⟨sel, hsel, hselm, hsell⟩ := select_spec objs0 ci obj hok
        have hR : ∀ (s s' : State) (v v' : Val), CInv ct objs0 N0 s (x :: P) → CExt s s' →
            GoodVal ct objs0 N0 s.objs v v' → GoodVal ct objs0 N0 s'.objs v v' :=
          fun s s' v v' hs hE hg => hg.keep (hs.refs hcl) (hs.keeps hE)
        obtain ⟨st4, as', h4, hI4, hE4, hF4⟩ :=
          mapSt_thread
            (fun s (p : Name × Val) =>
              match copyVal ct f s p.2 with
              | none => none
              | some (s', v') => some (s', (p.1, v')))
            (fun s => CInv ct objs0 N0 s (x :: P))
            (fun s p p' => p'.1 = p.1 ∧ GoodVal ct objs0 N0 s.objs p.2 p'.2)
            (fun s s' p p' hs hE h => ⟨h.1, hR s s' _ _ hs hE h.2⟩)
            sel st3 hI3
            (fun p hp s hs => by
              obtain ⟨s', v', h, hs', hE', hg, _⟩ := ih f s (x :: P) p.2 hjf
                (hch p.2 (List.mem_append_right _ (List.mem_map.2 ⟨p, hselm p hp, rfl⟩))) hP1 hs
              exact ⟨s', (p.1, v'), by simp only [h], hs', hE', rfl, hg⟩)
        have h5 : ∃ st5 is',
            (if ci.kind.copyItems = true then mapSt (copyVal ct f) st4 obj.items
              else some (st4, obj.items)) = some (st5, is') ∧
            CInv ct objs0 N0 st5 (x :: P) ∧ CExt st4 st5 ∧
            (ci.kind.copyItems = true → All2 (GoodVal ct objs0 N0 st5.objs) obj.items is') ∧
            (ci.kind.copyItems = false → is' = obj.items) := by
          by_cases hc : ci.kind.copyItems = true
          · obtain ⟨st5, is', h5, hI5, hE5, hF5⟩ :=
              mapSt_thread (copyVal ct f) (fun s => CInv ct objs0 N0 s (x :: P))
                (fun s v v' => GoodVal ct objs0 N0 s.objs v v') hR obj.items st4 hI4
                (fun c hcm s hs =>
                  let ⟨s', v', h, hs', hE', hg, _⟩ :=
                    ih f s (x :: P) c hjf (hch c (List.mem_append_left _ hcm)) hP1 hs
                  ⟨s', v', h, hs', hE', hg⟩)
            exact ⟨st5, is', by rw [if_pos hc]; exact h5, hI5, hE5, fun _ => hF5,
              fun h => by rw [hc] at h; cases h⟩
          · exact ⟨st4, obj.items, by rw [if_neg hc], hI4, CExt.refl st4,
              fun h => absurd h hc, fun _ => rfl⟩
        obtain ⟨st5, is', h5, hI5, hE5, hit1, hit2⟩ := h5
        -- define the copy: everything found so far holds in the final heap as well
        have hE25 := hE3.trans (hE4.trans hE5)
        have hnone : st5.objs st.next = none :=
          (hE25.objs st.next (Nat.lt_succ_self _)).trans (hI.bound _ (Nat.le_refl _))
        have hk := keeps_define hnone ⟨obj.cls, is', dictUpdate base as', obj.mutable⟩
        have hr5 := hI5.refs hcl
        have hF : All2 (fun p p' => p'.1 = p.1 ∧ GoodVal ct objs0 N0 (define st5.objs st.next _) p.2 p'.2)
            sel as' :=
          hF4.mono fun p p' h => ⟨h.1, (hR st4 st5 _ _ hI4 hE5 h.2).keep hr5 hk⟩
        have hit1' : ci.kind.copyItems = true →
            All2 (GoodVal ct objs0 N0 (define st5.objs st.next _)) obj.items is' :=
          fun h => (hit1 h).mono fun a b hg => hg.keep hr5 hk
        have hgood := GoodVal.node hcl (fun y o ho => hk y o (hI5.keeps0 hcl y o ho)) hobj hci hok hch hw
          hI.le (define_same _ _ _) rfl rfl hit1' hit2 (attrs_rel hok hbase hsell hF)
          (fun hnd => nodup_dictUpdate (by
            rw [hbase.names]
            split
            · exact hnd _ ci hci
            · exact List.nodup_nil))
        obtain ⟨hI6, hE6⟩ := CInv.finish hcl hI.le hm (hE2.trans hE25) hE25.next hnone hI5
          (childOK_copy hcl hok
            (fun p hp => ((hbase.newVal hI2.le p hp).keep (hI3.keeps (hE4.trans hE5))).keep hk) hF hit1' hit2)
          hgood
        exact ⟨_, _, copyVal_ref_miss ct f st x obj ci hm hso hci st3 base h3 sel hsel
          st4 as' h4 st5 is' h5, hI6, hE6, hgood, fun _ _ _ => rfl⟩

theorem copyVal_spec (hct : CTOk ct) (hcl : Closed objs0 N0) (k : Nat) : Spec ct objs0 N0 k := by
  induction k with
  | zero =>
    intro fuel st P v _ hv _ hI
    cases v with
    | atom a => exact spec_atom fuel st P a hI
    | ref x => exact hv.elim
  | succ j ih => exact spec_succ hct hcl j ih

end Main

end Heap.Copy
