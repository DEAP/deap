/-
C18 helper lemmas: the logbook as the image of the list of surviving records (`Rep`), for records
whose dictionaries hold scalars only.  Structurally such a logbook is one aligned with respect to the chapter tree
of height one (`flatShape`), so `record`, `pop`, `del` keep `Rep` by the lemmas of `C18Shape` plus what they
do to the rows of each chapter.
-/
import DeapModel.Lemmas.C18Shape

namespace C18L
open Logbook

/-- the rows of the chapter named `c` (none yet = no rows) -/
def chRows (c : Name) (lb : LB) : List Row := ((getChapter c lb.chapters).map LB.rows).getD []

/-- what chapter `c` receives from a record: the dictionary's scalar entries updated with the
record's scalar fields -/
def chapterRow (c : Name) (e : Entry) : Option Row :=
  (e.dicts.lookup c).map fun sub => dictUpdate sub.scalars e.scalars

/-- `lb` is the image of the list `es` of surviving records, for records whose dict-valued keys
are exactly `C`: rows are the records' scalar parts in order, chapter `c` holds, in the same
order, what each record contributes to it, there are no other chapters. -/
structure Rep (C : List Name) (lb : LB) (es : List Entry) : Prop where
  rows : lb.rows = es.map Entry.scalars
  chapters : ∀ c ∈ C, (chRows c lb).map some = es.map (chapterRow c)
  keys : ∀ c ∈ lb.chapters.map (·.1), c ∈ C
  nodup : (lb.chapters.map (·.1)).Nodup
  buff : lb.buffindex ≤ lb.rows.length
  /-- the chapters have no sub-chapters (records of depth one) and their own stream position is in range -/
  flat : ∀ q ∈ lb.chapters, q.2.chapters = [] ∧ q.2.buffindex ≤ q.2.rows.length

/-- the premise on a record: its dict-valued keys are distinct and are exactly `C` -/
def EntryOk (C : List Name) (e : Entry) : Prop :=
  ((e.dicts.map (·.1)).Nodup ∧ ∀ c, c ∈ e.dicts.map (·.1) ↔ c ∈ C) ∧ ∀ q ∈ e.dicts, q.2.dicts = []

theorem Rep.length {C : List Name} {lb : LB} {es : List Entry} (h : Rep C lb es) : lb.rows.length = es.length := by
  rw [h.rows, List.length_map]

theorem chRows_eq (c : Name) (lb : LB) : chRows c lb = ((getChapter c lb.chapters).getD LB.empty).rows := by
  unfold chRows; cases getChapter c lb.chapters <;> rfl

theorem chRows_record (c : Name) (e sub : Entry) (lb : LB) (hn : (e.dicts.map (·.1)).Nodup)
    (hc : (lb.chapters.map (·.1)).Nodup) (hsub : e.dicts.lookup c = some sub) :
    chRows c (record e lb) = chRows c lb ++ [dictUpdate sub.scalars e.scalars] := by
  rw [chRows_eq, chRows_eq, record, recordAux_chapters, dictUpdate_nil,
    (recordDicts_top e.scalars e.dicts lb.chapters hn hc).1 c, hsub]
  exact recordAux_rows _ _ _

theorem chRows_eraseDeep (p : Nat) (c : Name) (lb : LB) :
    chRows c (eraseDeep p lb) = (chRows c lb).eraseIdx p := by
  simp only [chRows, eraseDeep_chapters, getChapter_map]
  cases getChapter c lb.chapters <;> simp [eraseDeep_rows]

theorem chRows_streamAt (path : List Name) (c : Name) (lb : LB) :
    chRows c (modifyAt (fun l => (stream l).2) path lb) = chRows c lb := by
  cases path with
  | nil => rw [chRows, modifyAt, (stream_state lb).2.1]; rfl
  | cons n rest =>
    rw [chRows, chRows, (modifyAt_cons_state _ n rest lb).2.2.2.2, getChapter_mapChapter]
    split
    · next h => subst h; cases getChapter c lb.chapters <;> simp [modifyAt_stream_rows]
    · rfl

/-- the chapter tree of records whose dictionaries hold scalars only: the chapters `C`, no sub-chapters -/
def flatShape (C : List Name) : Shape := .mk (C.map fun c => (c, Shape.mk []))

theorem flatShape_keys (C : List Name) : (flatShape C).kids.map (·.1) = C := by
  simp [flatShape, Shape.kids, Function.comp_def]

theorem fits_flatShape (C : List Name) (e : Entry) (he : EntryOk C e) : Fits [] (flatShape C) e := by
  have hf : ∀ l : List (Name × Entry), effDicts [] l = l := fun l => List.filter_eq_self.2 fun _ _ => rfl
  rw [fits_iff, hf]
  refine ⟨he.1.1, fun c => by rw [he.1.2 c, flatShape_keys], (fitsAll_iff _ _ _ _).2 fun q hq _ shk hk => ?_⟩
  obtain ⟨c, _, hc⟩ := List.mem_map.1 hk
  obtain rfl : Shape.mk [] = shk := congrArg Prod.snd hc
  rw [fits_iff, he.2 q hq]
  exact ⟨.nil, fun _ => Iff.rfl, trivial⟩

theorem shapedAligned_leaf (ch : LB) :
    ShapedAligned (.mk []) ch ↔ ch.chapters = [] ∧ ch.buffindex ≤ ch.rows.length := by
  rw [shapedAligned_iff]
  constructor
  · rintro ⟨hb, -, hk, -⟩
    exact ⟨List.map_eq_nil_iff.1 (List.eq_nil_iff_forall_not_mem.2 fun c hc => nomatch hk c hc), hb⟩
  · rintro ⟨hc, hb⟩
    rw [hc]; exact ⟨hb, .nil, fun _ h => (nomatch h), trivial⟩

theorem Rep.shaped {C : List Name} {lb : LB} {es : List Entry} (h : Rep C lb es) : ShapedAligned (flatShape C) lb := by
  refine (shapedAligned_iff _ _).2 ⟨h.buff, h.nodup, (flatShape_keys C).symm ▸ h.keys, (kidsAligned_iff _ _ _).2 ?_⟩
  intro q hq
  obtain ⟨c, hc, rfl⟩ := List.mem_map.1 hq
  have hl := congrArg List.length (h.chapters c hc)
  rw [List.length_map, List.length_map, ← h.length, chRows] at hl
  cases hg : getChapter c lb.chapters with
  | none => rw [hg] at hl; exact hl.symm
  | some ch => rw [hg] at hl; exact ⟨hl, (shapedAligned_leaf ch).2 (h.flat (c, ch) (Dict.mem_of_lookup hg))⟩

theorem Rep.of_shaped {C : List Name} {lb : LB} {es : List Entry} (hs : ShapedAligned (flatShape C) lb)
    (hr : lb.rows = es.map Entry.scalars) (hc : ∀ c ∈ C, (chRows c lb).map some = es.map (chapterRow c)) :
    Rep C lb es := by
  obtain ⟨hb, hn, hk, ha⟩ := (shapedAligned_iff _ _).1 hs
  rw [flatShape_keys] at hk
  refine ⟨hr, hc, hk, hn, hb, fun q hq => ?_⟩
  have := (kidsAligned_iff _ _ _).1 ha (q.1, .mk [])
    (List.mem_map.2 ⟨q.1, hk q.1 (List.mem_map_of_mem hq), rfl⟩)
  rw [show getChapter q.1 lb.chapters = some q.2 from Dict.lookup_of_mem hn hq] at this
  exact (shapedAligned_leaf q.2).1 this.2

theorem Rep.deep {C : List Name} {lb : LB} {es : List Entry} (h : Rep C lb es) : DeepAligned lb :=
  shaped_deep _ _ h.shaped

theorem Rep.aligned {C : List Name} {lb : LB} {es : List Entry} (h : Rep C lb es) :
    ∀ q ∈ lb.chapters, q.2.rows.length = lb.rows.length :=
  fun q hq => (((deepAligned_iff lb).1 h.deep).2 q hq).1

theorem Rep.empty (C : List Name) : Rep C LB.empty [] :=
  .of_shaped (shaped_empty _) rfl fun _ _ => rfl

theorem Rep.congr {C : List Name} {lb lb' : LB} {es : List Entry} (h : Rep C lb es)
    (hr : lb'.rows = lb.rows) (hc : lb'.chapters = lb.chapters)
    (hb : lb'.buffindex ≤ lb'.rows.length) : Rep C lb' es :=
  ⟨hr ▸ h.rows, fun c hcC => by rw [chRows, hc]; exact h.chapters c hcC, hc ▸ h.keys, hc ▸ h.nodup, hb,
    hc ▸ h.flat⟩

theorem Rep.record {C : List Name} {lb : LB} {es : List Entry} (h : Rep C lb es) (e : Entry)
    (he : EntryOk C e) : Rep C (Logbook.record e lb) (es ++ [e]) := by
  refine .of_shaped (record_shaped (flatShape C) e [] lb (fits_flatShape C e he) h.shaped) ?_ fun c hc => ?_
  · rw [record_rows, h.rows, List.map_append]; rfl
  · obtain ⟨sub, hsub⟩ := Dict.lookup_isSome_of_mem_keys ((he.1.2 c).2 hc)
    rw [chRows_record c e sub lb he.1.1 h.nodup hsub, List.map_append, h.chapters c hc, List.map_append,
      List.map_singleton, List.map_singleton, chapterRow, hsub]
    rfl

theorem Rep.erase {C : List Name} {lb : LB} {es : List Entry} (h : Rep C lb es) (p : Nat) :
    Rep C (eraseDeep p lb) (es.eraseIdx p) :=
  .of_shaped (erase_shaped _ lb p h.shaped) (by rw [eraseDeep_rows, h.rows, List.eraseIdx_map])
    fun c hc => by rw [chRows_eraseDeep, ← List.eraseIdx_map, h.chapters c hc, List.eraseIdx_map]

theorem Rep.delIndex {C : List Name} {lb : LB} {es : List Entry} (h : Rep C lb es) (key : Int)
    (p : Nat) (hp : pos? es.length key = some p) :
    Rep C (Logbook.delIndex key lb).1 (es.eraseIdx p) ∧ (Logbook.delIndex key lb).2 = false ∧
    Logbook.pop key lb = (lb.rows[p]?, eraseDeep p lb) := by
  have hp' : pos? lb.rows.length key = some p := h.length ▸ hp
  rw [delIndex_deep lb key p h.deep hp']
  exact ⟨h.erase p, rfl, pop_deep key p lb h.deep hp'⟩

theorem Rep.eraseEach {C : List Name} (ds : List Nat) {lb : LB} {es : List Entry} (h : Rep C lb es) :
    Rep C (eraseAllDeep ds lb) (eraseAll ds es) := by
  induction ds generalizing lb es with
  | nil => exact h
  | cons i is ih => exact ih (h.erase i)

theorem Rep.delSlice {C : List Name} {lb : LB} {es : List Entry} (h : Rep C lb es) (idx : List Nat)
    (hn : idx.Nodup) (hr : ∀ i ∈ idx, i < es.length) :
    Rep C (Logbook.delSlice idx lb).1 (removeIdx idx es) ∧ (Logbook.delSlice idx lb).2 = false := by
  rw [(delSlice_deep idx hn lb h.deep (h.length ▸ hr)).1, ← eraseAll_sortDesc idx hn]
  exact ⟨h.eraseEach _, rfl⟩

end C18L
