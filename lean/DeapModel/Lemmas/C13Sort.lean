/-
C13 helper lemmas: `population.sort(key=fitness, reverse=True)` (cma.py:133).
-/
import DeapModel.Core.Cma
import DeapModel.Lemmas.ListFacts
import DeapModel.RealInst

open Cma

namespace C13L

theorem sortDesc_perm {K V : Type} [LT K] [DecidableLT K] (pop : List (K × V)) : (sortDesc pop).Perm pop :=
  List.mergeSort_perm _ _

variable {K V : Type} [LinearOrder K]

theorem sortDesc_sorted (pop : List (K × V)) : (sortDesc pop).Pairwise (fun a b => b.1 ≤ a.1) :=
  List.pairwise_mergeSort_key (fun a : K × V => OrderDual.toDual a.1) (fun a b => decide (b.1 < a.1))
    (fun _ _ => decide_eq_true_iff) pop

theorem sortDesc_eq_of_perm {p q : List (K × V)} (h : p.Perm q) (hd : (p.map Prod.fst).Nodup) :
    sortDesc p = sortDesc q := by
  have hpq : (sortDesc p).Perm (sortDesc q) := (sortDesc_perm p).trans (h.trans (sortDesc_perm q).symm)
  refine List.Perm.eq_of_pairwise (le := fun a b => b.1 ≤ a.1) ?_ (sortDesc_sorted p) (sortDesc_sorted q) hpq
  intro a b ha hb h1 h2
  have ha' : a ∈ p := (sortDesc_perm p).subset ha
  have hb' : b ∈ p := h.symm.subset ((sortDesc_perm q).subset hb)
  exact List.inj_on_of_nodup_map hd ha' hb' (le_antisymm h2 h1)

theorem lexLt_iff (a b : List ℝ) : lexLt a b = true ↔ a < b := by
  induction a generalizing b with
  | nil => cases b <;> simp [lexLt]
  | cons x xs ih =>
    cases b with
    | nil => simp [lexLt]
    | cons y ys =>
      simp only [lexLt, List.cons_lt_cons_iff, RealLike.real_lt]
      by_cases h1 : x < y
      · simp [h1]
      · by_cases h2 : y < x
        · have : x ≠ y := fun e => by subst e; exact lt_irrefl _ h2
          simp [h1, h2, this]
        · have : x = y := le_antisymm (not_lt.mp h2) (not_lt.mp h1)
          subst this
          simp [ih]

theorem FitKey.ext' {a b : FitKey ℝ} (h : a.wvalues = b.wvalues) : a = b := by
  cases a; cases b; simp_all

/-- `FitKey ℝ` with **the model's own `<`** (`lexLt` on the weighted values) is a linear order. -/
noncomputable instance fitKeyLinearOrder : LinearOrder (FitKey ℝ) where
  lt a b := lexLt a.wvalues b.wvalues = true
  le a b := a.wvalues ≤ b.wvalues
  le_refl a := le_refl a.wvalues
  le_trans a b c := le_trans (a := a.wvalues)
  le_antisymm a b h1 h2 := FitKey.ext' (le_antisymm h1 h2)
  le_total a b := le_total a.wvalues b.wvalues
  lt_iff_le_not_ge a b := by
    show lexLt a.wvalues b.wvalues = true ↔ _
    rw [lexLt_iff]; exact lt_iff_le_not_ge
  toDecidableLE := fun _ _ => Classical.dec _
  toDecidableEq := fun _ _ => Classical.dec _
  toDecidableLT := fun a b => inferInstanceAs (Decidable (lexLt a.wvalues b.wvalues = true))

/-- the order structure is the model's own: same `<`, same decision procedure (both by `rfl`) -/
theorem fitKeyLinearOrder_lt : (fitKeyLinearOrder.toLT : LT (FitKey ℝ)) = Cma.fitKeyLT := rfl
theorem fitKeyLinearOrder_decLt : (fitKeyLinearOrder.toDecidableLT : DecidableLT (FitKey ℝ)) = Cma.fitKeyDecLT := rfl

end C13L
