/-
C10 — what the operator loops of `Core/RealOps.lean` do at every locus, for every scalar type (core Lean only).
The `*_spec` and `*_total` proofs follow the recursion of the loop: the branches that return `none` contradict the run, the
others add one locus.
-/
import DeapModel.Core.RealOps

set_option linter.unusedSectionVars false

namespace RealOps
variable {α : Type} [RealLike α]

theorem pop_eq_some {rs : List α} {r : α} {t : List α} (h : pop rs = some (r, t)) : rs = r :: t := by
  cases rs with
  | nil => cases h
  | cons x xs => cases h; rfl

theorem pop_of_pos {rs : List α} (h : 0 < rs.length) : ∃ r t, pop rs = some (r, t) ∧ rs = r :: t := by
  cases rs with
  | nil => cases h
  | cons x xs => exact ⟨x, xs, rfl, rfl⟩

theorem pop_ne_none {rs : List α} (h : 0 < rs.length) : pop rs ≠ none := by
  obtain ⟨r, t, e, _⟩ := pop_of_pos h
  rw [e]; nofun

theorem getElem?_of_length_eq {l l' : List α} (h : l'.length = l.length) {i : Nat} {y : α} (hy : l'[i]? = some y) :
    ∃ x, l[i]? = some x :=
  ⟨_, List.getElem?_eq_getElem (h ▸ (List.getElem?_eq_some_iff.1 hy).1)⟩

theorem cons_of_getElem? {l : List α} {i : Nat} {x : α} (h : l[i]? = some x) : ∃ y t, l = y :: t := by
  cases l with
  | nil => cases h
  | cons y t => exact ⟨y, t, rfl⟩

theorem pairLoop_spec {f : α → α → α → α × α} {a b rs c1 c2 rest : List α}
    (h : pairLoop f a b rs = some (c1, c2, rest)) :
    c1.length = a.length ∧ c2.length = b.length ∧
    (∀ {i : Nat} {x1 x2 y1 y2}, a[i]? = some x1 → b[i]? = some x2 → c1[i]? = some y1 → c2[i]? = some y2 →
      ∃ r ∈ rs, y1 = (f x1 x2 r).1 ∧ y2 = (f x1 x2 r).2) := by
  fun_induction pairLoop f a b rs generalizing c1 c2 rest with
  | case3 x1 a x2 b rs r rs' hp d1 d2 rest' hl ih =>
    -- a common locus, its draw there, the remaining loci ran
    cases h
    cases pop_eq_some hp
    obtain ⟨h1, h2, h3⟩ := ih hl
    refine ⟨congrArg (· + 1) h1, congrArg (· + 1) h2, ?_⟩
    rintro (_ | i) u1 u2 y1 y2 ha hb hc hd
    · cases ha; cases hb; cases hc; cases hd
      exact ⟨r, List.mem_cons_self, rfl, rfl⟩
    · obtain ⟨r', hr', e⟩ := h3 ha hb hc hd
      exact ⟨r', List.mem_cons_of_mem _ hr', e⟩
  | case4 a b rs hne =>
    -- one parent exhausted: nothing is touched
    cases h
    refine ⟨rfl, rfl, ?_⟩
    rintro i x1 x2 y1 y2 ha hb
    obtain ⟨_, _, rfl⟩ := cons_of_getElem? ha
    obtain ⟨_, _, rfl⟩ := cons_of_getElem? hb
    exact (hne _ _ _ _ rfl rfl).elim
  | _ => cases h

theorem pairLoop_total (f : α → α → α → α × α) (a b rs : List α) (h : min a.length b.length ≤ rs.length) :
    ∃ out, pairLoop f a b rs = some out := by
  fun_induction pairLoop f a b rs with
  | case1 x1 a x2 b rs hp => exact absurd hp (pop_ne_none (by grind))
  | case2 x1 a x2 b rs r rs' hp hl ih =>
    -- the remaining loci failed: against the induction hypothesis
    cases pop_eq_some hp
    obtain ⟨out, ho⟩ := ih (by grind)
    rw [hl] at ho; cases ho
  | case3 | case4 => exact ⟨_, rfl⟩

theorem cxESBlendLoop_spec {alpha : α} {a sa b sb rs c1 t1 c2 t2 rest : List α}
    (h : cxESBlendLoop alpha a sa b sb rs = some (c1, t1, c2, t2, rest)) :
    (c1.length = a.length ∧ t1.length = sa.length ∧ c2.length = b.length ∧ t2.length = sb.length) ∧
    (∀ {i : Nat} {x1 s1 x2 s2 y1 u1 y2 u2}, a[i]? = some x1 → sa[i]? = some s1 → b[i]? = some x2 →
      sb[i]? = some s2 → c1[i]? = some y1 → t1[i]? = some u1 → c2[i]? = some y2 → t2[i]? = some u2 →
      ∃ r ∈ rs, ∃ q ∈ rs, y1 = (blendPair alpha x1 x2 r).1 ∧ y2 = (blendPair alpha x1 x2 r).2 ∧
        u1 = (blendPair alpha s1 s2 q).1 ∧ u2 = (blendPair alpha s1 s2 q).2) := by
  fun_induction cxESBlendLoop alpha a sa b sb rs generalizing c1 t1 c2 t2 rest with
  | case4 x1 a s1 sa x2 b s2 sb rs r rs' hp q rs'' hp2 d1 e1 d2 e2 rest' hl ih =>
    -- a common locus with both draws, the remaining loci ran
    cases h
    cases pop_eq_some hp
    cases pop_eq_some hp2
    obtain ⟨⟨h1, h2, h3, h4⟩, h5⟩ := ih hl
    refine ⟨⟨congrArg (· + 1) h1, congrArg (· + 1) h2, congrArg (· + 1) h3, congrArg (· + 1) h4⟩, ?_⟩
    rintro (_ | i) v1 w1 v2 w2 y1 u1 y2 u2 ha hsa hb hsb hc1 ht1 hc2 ht2
    · cases ha; cases hsa; cases hb; cases hsb; cases hc1; cases ht1; cases hc2; cases ht2
      exact ⟨r, List.mem_cons_self, q, List.mem_cons_of_mem _ List.mem_cons_self, rfl, rfl, rfl, rfl⟩
    · obtain ⟨r', hr', q', hq', e⟩ := h5 ha hsa hb hsb hc1 ht1 hc2 ht2
      exact ⟨r', List.mem_cons_of_mem _ (List.mem_cons_of_mem _ hr'), q',
        List.mem_cons_of_mem _ (List.mem_cons_of_mem _ hq'), e⟩
  | case5 a sa b sb rs hne =>
    -- one of the four lists exhausted: nothing is touched
    cases h
    refine ⟨⟨rfl, rfl, rfl, rfl⟩, ?_⟩
    rintro i x1 s1 x2 s2 y1 u1 y2 u2 ha hsa hb hsb
    obtain ⟨_, _, rfl⟩ := cons_of_getElem? ha
    obtain ⟨_, _, rfl⟩ := cons_of_getElem? hsa
    obtain ⟨_, _, rfl⟩ := cons_of_getElem? hb
    obtain ⟨_, _, rfl⟩ := cons_of_getElem? hsb
    exact (hne _ _ _ _ _ _ _ _ rfl rfl rfl rfl).elim
  | _ => cases h

theorem cxESBlendLoop_total (alpha : α) (a sa b sb rs : List α)
    (h : 2 * min (min a.length sa.length) (min b.length sb.length) ≤ rs.length) :
    ∃ out, cxESBlendLoop alpha a sa b sb rs = some out := by
  induction a generalizing sa b sb rs with
  | nil => exact ⟨_, rfl⟩
  | cons x1 a ih =>
    rcases sa with _ | ⟨s1, sa⟩
    · exact ⟨_, rfl⟩
    rcases b with _ | ⟨x2, b⟩
    · exact ⟨_, rfl⟩
    rcases sb with _ | ⟨s2, sb⟩
    · exact ⟨_, rfl⟩
    -- four heads: the bound gives the two draws of this locus and leaves two per remaining locus
    simp only [List.length_cons, Nat.add_min_add_right] at h
    obtain ⟨r, rs, _, rfl⟩ := pop_of_pos (rs := rs) (by omega)
    rw [List.length_cons] at h
    obtain ⟨q, rs, _, rfl⟩ := pop_of_pos (rs := rs) (by omega)
    rw [List.length_cons] at h
    obtain ⟨out, e⟩ := ih sa b sb rs (by omega)
    simp only [cxESBlendLoop, pop, e]
    exact ⟨_, rfl⟩

theorem sbxbGene_spec {eta x1 x2 xl xu : α} {rs : List α} {y1 y2 : α} {rest : List α} :
    sbxbGene eta x1 x2 xl xu rs = some (y1, y2, rest) →
    (∀ r ∈ rest, r ∈ rs) ∧
    ((y1 = x1 ∧ y2 = x2) ∨
    (eps < RealLike.abs (x1 - x2) ∧ ∃ rand ∈ rs,
      (y1 = (sbxbChildren eta (RealLike.pmin x1 x2) (RealLike.pmax x1 x2) xl xu rand).1 ∧
       y2 = (sbxbChildren eta (RealLike.pmin x1 x2) (RealLike.pmax x1 x2) xl xu rand).2) ∨
      (y1 = (sbxbChildren eta (RealLike.pmin x1 x2) (RealLike.pmax x1 x2) xl xu rand).2 ∧
       y2 = (sbxbChildren eta (RealLike.pmin x1 x2) (RealLike.pmax x1 x2) xl xu rand).1))) := by
  fun_cases sbxbGene eta x1 x2 xl xu rs with
  | case4 g rs1 hp hg hguard rand rs2 hp2 s rs3 hp3 hs =>
    -- gate and guard passed, children swapped
    rintro ⟨⟩
    cases pop_eq_some hp; cases pop_eq_some hp2; cases pop_eq_some hp3
    exact ⟨fun r hr => List.mem_cons_of_mem _ (List.mem_cons_of_mem _ (List.mem_cons_of_mem _ hr)),
      Or.inr ⟨hguard, rand, List.mem_cons_of_mem _ List.mem_cons_self, Or.inr ⟨rfl, rfl⟩⟩⟩
  | case5 g rs1 hp hg hguard rand rs2 hp2 s rs3 hp3 hs =>
    -- gate and guard passed, children kept in order
    rintro ⟨⟩
    cases pop_eq_some hp; cases pop_eq_some hp2; cases pop_eq_some hp3
    exact ⟨fun r hr => List.mem_cons_of_mem _ (List.mem_cons_of_mem _ (List.mem_cons_of_mem _ hr)),
      Or.inr ⟨hguard, rand, List.mem_cons_of_mem _ List.mem_cons_self, Or.inl ⟨rfl, rfl⟩⟩⟩
  | case6 g rs1 hp | case7 g rs1 hp =>
    -- guard or gate failed: the parents stay, one draw used
    rintro ⟨⟩
    cases pop_eq_some hp
    exact ⟨fun r hr => List.mem_cons_of_mem _ hr, Or.inl ⟨rfl, rfl⟩⟩
  | _ => nofun

theorem sbxbGene_total (eta x1 x2 xl xu : α) (rs : List α) (h : 3 ≤ rs.length) :
    ∃ y1 y2 rest, sbxbGene eta x1 x2 xl xu rs = some (y1, y2, rest) ∧ rs.length ≤ rest.length + 3 := by
  fun_cases sbxbGene eta x1 x2 xl xu rs with
  | case1 hp => exact absurd hp (pop_ne_none (by omega))
  | case2 g rs1 hp hg hguard hp2 =>
    -- gate and guard passed, no shaping draw
    cases pop_eq_some hp
    exact absurd hp2 (pop_ne_none (by rw [List.length_cons] at h; omega))
  | case3 g rs1 hp hg hguard rand rs2 hp2 hp3 =>
    -- gate and guard passed, no swap draw
    cases pop_eq_some hp; cases pop_eq_some hp2
    exact absurd hp3 (pop_ne_none (by simp only [List.length_cons] at h; omega))
  | case4 g rs1 hp hg hguard rand rs2 hp2 s rs3 hp3 hs | case5 g rs1 hp hg hguard rand rs2 hp2 s rs3 hp3 hs =>
    -- all three draws used
    cases pop_eq_some hp; cases pop_eq_some hp2; cases pop_eq_some hp3
    exact ⟨_, _, _, rfl, Nat.le_refl _⟩
  | case6 g rs1 hp | case7 g rs1 hp =>
    -- guard or gate failed: one draw used
    cases pop_eq_some hp
    exact ⟨_, _, _, rfl, Nat.le_add_right _ 2⟩

theorem cxSBXBLoop_spec {eta : α} {a b lo up rs c1 c2 rest : List α}
    (h : cxSBXBLoop eta a b lo up rs = some (c1, c2, rest)) :
    c1.length = a.length ∧ c2.length = b.length ∧
    (∀ {i : Nat} {x1 x2 xl xu y1 y2}, a[i]? = some x1 → b[i]? = some x2 → lo[i]? = some xl → up[i]? = some xu →
      c1[i]? = some y1 → c2[i]? = some y2 →
      ∃ rs' rest', (∀ r ∈ rs', r ∈ rs) ∧ sbxbGene eta x1 x2 xl xu rs' = some (y1, y2, rest')) ∧
    (∀ i : Nat, b.length ≤ i → c1[i]? = a[i]?) ∧ (∀ i : Nat, a.length ≤ i → c2[i]? = b[i]?) := by
  fun_induction cxSBXBLoop eta a b lo up rs generalizing c1 c2 rest with
  | case3 x1 a x2 b xl lo xu up rs z1 z2 rs' hg d1 d2 rest' hl ih =>
    -- a common locus with its bounds, `sbxbGene` returned, the remaining loci ran
    cases h
    have hsub := (sbxbGene_spec hg).1
    obtain ⟨h1, h2, h3, h4, h5⟩ := ih hl
    refine ⟨congrArg (· + 1) h1, congrArg (· + 1) h2, ?_, ?_, ?_⟩
    · rintro (_ | i) u1 u2 ul uu y1 y2 ha hb hlo hup hc hd
      · cases ha; cases hb; cases hlo; cases hup; cases hc; cases hd
        exact ⟨rs, rs', fun r hr => hr, hg⟩
      · obtain ⟨q, q', hq, e⟩ := h3 ha hb hlo hup hc hd
        exact ⟨q, q', fun r hr => hsub r (hq r hr), e⟩
    · rintro (_ | i) hi
      · cases hi
      · exact h4 i (Nat.le_of_succ_le_succ hi)
    · rintro (_ | i) hi
      · cases hi
      · exact h5 i (Nat.le_of_succ_le_succ hi)
  | case4 a b lo up rs hne =>
    -- a parent or a bound list exhausted: nothing is touched
    cases h
    refine ⟨rfl, rfl, ?_, fun _ _ => rfl, fun _ _ => rfl⟩
    rintro i x1 x2 xl xu y1 y2 ha hb hlo hup
    obtain ⟨_, _, rfl⟩ := cons_of_getElem? ha
    obtain ⟨_, _, rfl⟩ := cons_of_getElem? hb
    obtain ⟨_, _, rfl⟩ := cons_of_getElem? hlo
    obtain ⟨_, _, rfl⟩ := cons_of_getElem? hup
    exact (hne _ _ _ _ _ _ _ _ rfl rfl rfl rfl).elim
  | _ => cases h

theorem cxSBXBLoop_total (eta : α) (a b lo up rs : List α) (h : 3 * min a.length b.length ≤ rs.length) :
    ∃ out, cxSBXBLoop eta a b lo up rs = some out := by
  fun_induction cxSBXBLoop eta a b lo up rs with
  | case1 x1 a x2 b xl lo xu up rs hg =>
    -- `sbxbGene` failed at this locus
    obtain ⟨_, _, _, e, _⟩ := sbxbGene_total eta x1 x2 xl xu rs (by grind)
    rw [hg] at e; cases e
  | case2 x1 a x2 b xl lo xu up rs y1 y2 rs' hg hl ih =>
    -- the remaining loci failed: against the induction hypothesis
    obtain ⟨_, _, _, e, hlen⟩ := sbxbGene_total eta x1 x2 xl xu rs (by grind)
    rw [hg] at e; cases e
    obtain ⟨out, ho⟩ := ih (by grind)
    rw [hl] at ho; cases ho
  | case3 | case4 => exact ⟨_, rfl⟩

/-- one locus of `polyLoop` -/
def _root_.GenL10.polyStep (eta indpb x xl xu : α) (rs : List α) : Option (α × List α) :=
  match pop rs with
  | none => none
  | some (g, rs) =>
    if g ≤ indpb then
      match pop rs with
      | none => none
      | some (rand, rs) => some (polyGene eta x xl xu rand, rs)
    else some (x, rs)

theorem _root_.GenL10.polyLoop_cons (eta indpb x xl xu : α) (xs lo up rs : List α) :
    polyLoop eta indpb (x :: xs) (xl :: lo) (xu :: up) rs =
      (GenL10.polyStep eta indpb x xl xu rs).bind fun p => (polyLoop eta indpb xs lo up p.2).map fun r => (p.1 :: r.1, r.2) := by
  cases rs with
  | nil => simp [polyLoop, GenL10.polyStep, pop]
  | cons g rs =>
    simp only [polyLoop, GenL10.polyStep, pop]
    split
    · cases rs with
      | nil => simp
      | cons rand rs => simp only [Option.bind_some]; cases polyLoop eta indpb xs lo up rs <;> simp
    · simp only [Option.bind_some]; cases polyLoop eta indpb xs lo up rs <;> simp

theorem polyLoop_spec {eta indpb : α} {xs lo up rs ys rest : List α}
    (h : polyLoop eta indpb xs lo up rs = some (ys, rest)) :
    ys.length = xs.length ∧
    (∀ {i : Nat} {x xl xu y}, xs[i]? = some x → lo[i]? = some xl → up[i]? = some xu → ys[i]? = some y →
      y = x ∨ ∃ rand ∈ rs, y = polyGene eta x xl xu rand) := by
  fun_induction polyLoop eta indpb xs lo up rs generalizing ys rest with
  | case4 x xs xl lo xu up rs g rs1 hp hg rand rs2 hp2 zs rest' hl ih =>
    -- locus selected (`g ≤ indpb`), shaping draw there, the remaining loci ran
    cases h
    cases pop_eq_some hp; cases pop_eq_some hp2
    obtain ⟨h1, h2⟩ := ih hl
    refine ⟨congrArg (· + 1) h1, ?_⟩
    rintro (_ | i) u ul uu y hx hlo hup hy
    · cases hx; cases hlo; cases hup; cases hy
      exact Or.inr ⟨rand, List.mem_cons_of_mem _ List.mem_cons_self, rfl⟩
    · exact (h2 hx hlo hup hy).imp_right fun ⟨q, hq, e⟩ =>
        ⟨q, List.mem_cons_of_mem _ (List.mem_cons_of_mem _ hq), e⟩
  | case6 x xs xl lo xu up rs g rs1 hp hg zs rest' hl ih =>
    -- locus not selected, the remaining loci ran
    cases h
    cases pop_eq_some hp
    obtain ⟨h1, h2⟩ := ih hl
    refine ⟨congrArg (· + 1) h1, ?_⟩
    rintro (_ | i) u ul uu y hx hlo hup hy
    · cases hx; cases hy
      exact Or.inl rfl
    · exact (h2 hx hlo hup hy).imp_right fun ⟨q, hq, e⟩ => ⟨q, List.mem_cons_of_mem _ hq, e⟩
  | case7 xs lo up rs hne =>
    -- individual or a bound list exhausted: nothing is touched
    cases h
    exact ⟨rfl, fun hx _ _ hy => Or.inl (Option.some.inj (hy.symm.trans hx))⟩
  | _ => cases h

theorem polyLoop_total (eta indpb : α) (xs lo up rs : List α) (h : 2 * xs.length ≤ rs.length) :
    ∃ out, polyLoop eta indpb xs lo up rs = some out := by
  fun_induction polyLoop eta indpb xs lo up rs with
  | case1 x xs xl lo xu up rs hp => exact absurd hp (pop_ne_none (by grind))
  | case2 x xs xl lo xu up rs g rs1 hp hg hp2 =>
    -- locus selected, no shaping draw
    cases pop_eq_some hp
    exact absurd hp2 (pop_ne_none (by grind))
  | case3 x xs xl lo xu up rs g rs1 hp hg rand rs2 hp2 hl ih =>
    -- locus selected, the remaining loci failed
    cases pop_eq_some hp; cases pop_eq_some hp2
    obtain ⟨out, ho⟩ := ih (by grind)
    rw [hl] at ho; cases ho
  | case5 x xs xl lo xu up rs g rs1 hp hg hl ih =>
    -- locus not selected, the remaining loci failed
    cases pop_eq_some hp
    obtain ⟨out, ho⟩ := ih (by grind)
    rw [hl] at ho; cases ho
  | case4 | case6 | case7 => exact ⟨_, rfl⟩

/-- one locus of `gaussLoop` -/
def _root_.GenL10.gaussStep (indpb x : α) (rs gs : List α) : Option (α × List α × List α) :=
  match pop rs with
  | none => none
  | some (g, rs) =>
    if g < indpb then
      match pop gs with
      | none => none
      | some (z, gs) => some (x + z, rs, gs)
    else some (x, rs, gs)

theorem _root_.GenL10.gaussLoop_cons (indpb x m s : α) (xs mu sigma rs gs : List α) :
    gaussLoop indpb (x :: xs) (m :: mu) (s :: sigma) rs gs =
      (GenL10.gaussStep indpb x rs gs).bind fun p =>
        (gaussLoop indpb xs mu sigma p.2.1 p.2.2).map fun r => (p.1 :: r.1, r.2.1, r.2.2) := by
  cases rs with
  | nil => simp [gaussLoop, GenL10.gaussStep, pop]
  | cons g rs =>
    simp only [gaussLoop, GenL10.gaussStep, pop]
    split
    · cases gs with
      | nil => simp
      | cons z gs => simp only [Option.bind_some]; cases gaussLoop indpb xs mu sigma rs gs <;> simp
    · simp only [Option.bind_some]; cases gaussLoop indpb xs mu sigma rs gs <;> simp

theorem gaussLoop_spec {indpb : α} {xs mu sigma rs gs ys rrest grest : List α}
    (h : gaussLoop indpb xs mu sigma rs gs = some (ys, rrest, grest)) :
    ys.length = xs.length ∧
    ∀ i : Nat, ys[i]? = xs[i]? ∨ ∃ x, xs[i]? = some x ∧ ∃ g ∈ rs, g < indpb ∧ ∃ z ∈ gs, ys[i]? = some (x + z) := by
  fun_induction gaussLoop indpb xs mu sigma rs gs generalizing ys rrest grest with
  | case4 x xs m mu s sigma rs gs g rs1 hp hg z gs1 hp2 zs rr gr hl ih =>
    -- locus selected (`g < indpb`), gauss value there, the remaining loci ran
    cases h
    cases pop_eq_some hp; cases pop_eq_some hp2
    obtain ⟨h1, h2⟩ := ih hl
    refine ⟨congrArg (· + 1) h1, ?_⟩
    rintro (_ | i)
    · exact Or.inr ⟨x, rfl, g, List.mem_cons_self, hg, z, List.mem_cons_self, rfl⟩
    · exact (h2 i).imp_right fun ⟨x', hx, g', hg', hlt, z', hz', e⟩ =>
        ⟨x', hx, g', List.mem_cons_of_mem _ hg', hlt, z', List.mem_cons_of_mem _ hz', e⟩
  | case6 x xs m mu s sigma rs gs g rs1 hp hg zs rr gr hl ih =>
    -- locus not selected, the remaining loci ran
    cases h
    cases pop_eq_some hp
    obtain ⟨h1, h2⟩ := ih hl
    refine ⟨congrArg (· + 1) h1, ?_⟩
    rintro (_ | i)
    · exact Or.inl rfl
    · exact (h2 i).imp_right fun ⟨x', hx, g', hg', r⟩ => ⟨x', hx, g', List.mem_cons_of_mem _ hg', r⟩
  | case7 xs mu sigma rs gs hne =>
    -- individual, `mu` or `sigma` exhausted: nothing is touched
    cases h
    exact ⟨rfl, fun _ => Or.inl rfl⟩
  | _ => cases h

theorem gaussLoop_total (indpb : α) (xs mu sigma rs gs : List α) (h1 : xs.length ≤ rs.length)
    (h2 : xs.length ≤ gs.length) : ∃ out, gaussLoop indpb xs mu sigma rs gs = some out := by
  fun_induction gaussLoop indpb xs mu sigma rs gs with
  | case1 x xs m mu s sigma rs gs hp => exact absurd hp (pop_ne_none (by grind))
  | case2 x xs m mu s sigma rs gs g rs1 hp hg hp2 =>
    -- locus selected, no gauss value
    exact absurd hp2 (pop_ne_none (by grind))
  | case3 x xs m mu s sigma rs gs g rs1 hp hg z gs1 hp2 hl ih =>
    -- locus selected, the remaining loci failed
    cases pop_eq_some hp; cases pop_eq_some hp2
    obtain ⟨out, ho⟩ := ih (by grind) (by grind)
    rw [hl] at ho; cases ho
  | case5 x xs m mu s sigma rs gs g rs1 hp hg hl ih =>
    -- locus not selected, the remaining loci failed
    cases pop_eq_some hp
    obtain ⟨out, ho⟩ := ih (by grind) (by grind)
    rw [hl] at ho; cases ho
  | case4 | case6 | case7 => exact ⟨_, rfl⟩

theorem gaussLoop_id {indpb : α} {xs mu sigma rs gs ys rrest grest : List α}
    (hno : ∀ g ∈ rs, ¬ g < indpb) (h : gaussLoop indpb xs mu sigma rs gs = some (ys, rrest, grest)) : ys = xs :=
  List.ext_getElem? fun i => ((gaussLoop_spec h).2 i).resolve_right fun ⟨_, _, g, hg, hlt, _⟩ => hno g hg hlt

theorem lognLoop_spec {indpb t0n t : α} {xs ss rs gs ys ts rrest grest : List α}
    (h : lognLoop indpb t0n t xs ss rs gs = .ok (ys, ts, rrest, grest)) :
    ys.length = xs.length ∧ ts.length = ss.length ∧
    ∀ i : Nat, (ys[i]? = xs[i]? ∧ ts[i]? = ss[i]?) ∨
      ∃ x s, xs[i]? = some x ∧ ss[i]? = some s ∧ ∃ g ∈ rs, g < indpb ∧ ∃ z1 ∈ gs, ∃ z2,
        ts[i]? = some (lognSigma s t0n t z1) ∧ ys[i]? = some (lognGene x (lognSigma s t0n t z1) z2) := by
  fun_induction lognLoop indpb t0n t xs ss rs gs generalizing ys ts rrest grest with
  | case4 x xs s ss rs gs g rs1 hp hg z1 gs1 hp1 z2 gs2 hp2 zs us rr gr hl ih =>
    -- strategy entry there, locus selected, both gauss values there, the remaining loci ran
    cases h
    cases pop_eq_some hp; cases pop_eq_some hp1; cases pop_eq_some hp2
    obtain ⟨h1, h2, h3⟩ := ih hl
    refine ⟨congrArg (· + 1) h1, congrArg (· + 1) h2, ?_⟩
    rintro (_ | i)
    · exact Or.inr ⟨x, s, rfl, rfl, g, List.mem_cons_self, hg, z1, List.mem_cons_self, z2, rfl, rfl⟩
    · exact (h3 i).imp_right fun ⟨x', s', hx, hs, g', hg', hlt, z, hz, r⟩ =>
        ⟨x', s', hx, hs, g', List.mem_cons_of_mem _ hg', hlt, z, List.mem_cons_of_mem _ (List.mem_cons_of_mem _ hz), r⟩
  | case8 x xs s ss rs gs g rs1 hp hg zs us rr gr hl ih =>
    -- strategy entry there, locus not selected, the remaining loci ran
    cases h
    cases pop_eq_some hp
    obtain ⟨h1, h2, h3⟩ := ih hl
    refine ⟨congrArg (· + 1) h1, congrArg (· + 1) h2, ?_⟩
    rintro (_ | i)
    · exact Or.inl ⟨rfl, rfl⟩
    · exact (h3 i).imp_right fun ⟨x', s', hx, hs, g', hg', r⟩ => ⟨x', s', hx, hs, g', List.mem_cons_of_mem _ hg', r⟩
  | case14 x xs rs gs g rs1 hp hg zs us rr gr hl ih =>
    -- strategy exhausted, locus not selected, the remaining loci ran
    cases h
    obtain ⟨h1, h2, h3⟩ := ih hl
    cases List.eq_nil_of_length_eq_zero h2
    refine ⟨congrArg (· + 1) h1, rfl, ?_⟩
    rintro (_ | i)
    · exact Or.inl ⟨rfl, rfl⟩
    · exact (h3 i).elim (fun e => Or.inl ⟨e.1, rfl⟩) fun ⟨_, _, _, hs, _⟩ => by cases hs
  | case18 ss rs gs =>
    -- individual exhausted
    cases h
    exact ⟨rfl, rfl, fun _ => Or.inl ⟨rfl, rfl⟩⟩
  | _ => cases h

theorem lognLoop_total (indpb t0n t : α) (xs ss rs gs : List α) (h0 : xs.length ≤ ss.length)
    (h1 : xs.length ≤ rs.length) (h2 : 2 * xs.length ≤ gs.length) :
    ∃ out, lognLoop indpb t0n t xs ss rs gs = .ok out := by
  induction xs generalizing ss rs gs with
  | nil => exact ⟨_, rfl⟩
  | cons x xs ih =>
    -- the bounds give a strategy entry, a draw and two gauss values; either branch then goes on with the tails
    rw [List.length_cons] at h0 h1 h2
    obtain ⟨s, ss, _, rfl⟩ := pop_of_pos (rs := ss) (by omega)
    obtain ⟨g, rs, _, rfl⟩ := pop_of_pos (rs := rs) (by omega)
    obtain ⟨z1, gs1, _, rfl⟩ := pop_of_pos (rs := gs) (by omega)
    rw [List.length_cons] at h0 h1 h2
    obtain ⟨z2, gs2, _, rfl⟩ := pop_of_pos (rs := gs1) (by omega)
    rw [List.length_cons] at h2
    obtain ⟨o1, e1⟩ := ih ss rs gs2 (by omega) (by omega) (by omega)
    obtain ⟨o2, e2⟩ := ih ss rs (z1 :: z2 :: gs2) (by omega) (by omega) (by simp only [List.length_cons]; omega)
    simp only [lognLoop, pop, e1, e2]
    split <;> exact ⟨_, rfl⟩

theorem lognLoop_id {indpb t0n t : α} {xs ss rs gs ys ts rrest grest : List α}
    (hno : ∀ g ∈ rs, ¬ g < indpb) (h : lognLoop indpb t0n t xs ss rs gs = .ok (ys, ts, rrest, grest)) :
    ys = xs ∧ ts = ss := by
  have key := fun i => ((lognLoop_spec h).2.2 i).resolve_right fun ⟨_, _, _, _, g, hg, hlt, _⟩ => hno g hg hlt
  exact ⟨List.ext_getElem? fun i => (key i).1, List.ext_getElem? fun i => (key i).2⟩

theorem lognLoop_strategy_mem {indpb t0n t : α} {xs ss rs gs ys ts rrest grest : List α}
    (h : lognLoop indpb t0n t xs ss rs gs = .ok (ys, ts, rrest, grest)) :
    ∀ u ∈ ts, u ∈ ss ∨ ∃ s ∈ ss, ∃ z ∈ gs, u = lognSigma s t0n t z := by
  intro u hu
  obtain ⟨i, hi⟩ := List.getElem?_of_mem hu
  rcases (lognLoop_spec h).2.2 i with ⟨_, e⟩ | ⟨_, s, _, hs, _, _, _, z, hz, _, e, _⟩
  · exact Or.inl (List.mem_of_getElem? (e ▸ hi))
  · exact Or.inr ⟨s, List.mem_of_getElem? hs, z, hz, Option.some.inj (hi.symm.trans e)⟩

theorem expand_scalar_get (v : α) (n i : Nat) (x : α) (h : (List.replicate n v)[i]? = some x) : x = v := by
  rw [List.getElem?_replicate] at h
  split at h
  · exact (Option.some.inj h).symm
  · cases h

theorem expand_get {b : Bound α} {n : Nat} {l : List α} (h : b.expand n = some l) {i : Nat} (hi : i < n) :
    l[i]? = b.get? i := by
  cases b with
  | scalar v => cases h; exact List.getElem?_replicate.trans (if_pos hi)
  | seq s =>
    simp only [Bound.expand] at h
    split at h <;> cases h
    rfl

theorem expand_of_len (b : Bound α) {n : Nat} (h : ∀ l, b = .seq l → n ≤ l.length) : ∃ l, b.expand n = some l := by
  cases b with
  | scalar v => exact ⟨_, rfl⟩
  | seq l => exact ⟨l, if_neg (Nat.not_lt.2 (h l rfl))⟩

/-- the operator that rewrites every common locus of two parents with `f` and one draw: `cxBlend` is `pairOp (blendPair alpha)`,
`cxSimulatedBinary` is `pairOp (sbxPair eta)` -/
def pairOp (f : α → α → α → α × α) (ind1 ind2 : Ind α) (rs : List α) : Outcome (Ind α × Ind α × List α) :=
  match pairLoop f ind1.genes ind2.genes rs with
  | none => .badTape
  | some (c1, c2, rest) => .ok ({ ind1 with genes := c1 }, { ind2 with genes := c2 }, rest)

theorem cxBlend_eq (ind1 ind2 : Ind α) (alpha : α) (rs : List α) :
    cxBlend ind1 ind2 alpha rs = pairOp (blendPair alpha) ind1 ind2 rs := rfl

theorem cxSimulatedBinary_eq (ind1 ind2 : Ind α) (eta : α) (rs : List α) :
    cxSimulatedBinary ind1 ind2 eta rs = pairOp (sbxPair eta) ind1 ind2 rs := rfl

theorem pairOp_ok {f : α → α → α → α × α} {ind1 ind2 o1 o2 : Ind α} {rs rest : List α}
    (h : pairOp f ind1 ind2 rs = .ok (o1, o2, rest)) :
    ∃ c1 c2, pairLoop f ind1.genes ind2.genes rs = some (c1, c2, rest) ∧
      o1 = { ind1 with genes := c1 } ∧ o2 = { ind2 with genes := c2 } := by
  unfold pairOp at h
  split at h <;> cases h
  exact ⟨_, _, ‹_›, rfl, rfl⟩

/-- what holds of the children `f x1 x2 r` of every draw at every common locus holds at every common locus of every run -/
theorem pairOp_locus {f : α → α → α → α × α} {ind1 ind2 o1 o2 : Ind α} {rs rest : List α}
    {P : Nat → α → α → α → α → Prop} (hrun : pairOp f ind1 ind2 rs = .ok (o1, o2, rest))
    (hP : ∀ r ∈ rs, ∀ i x1 x2, ind1.genes[i]? = some x1 → ind2.genes[i]? = some x2 →
      P i x1 x2 (f x1 x2 r).1 (f x1 x2 r).2) :
    ∀ (i : Nat) x1 x2 y1 y2, ind1.genes[i]? = some x1 → ind2.genes[i]? = some x2 →
      o1.genes[i]? = some y1 → o2.genes[i]? = some y2 → P i x1 x2 y1 y2 := by
  obtain ⟨c1, c2, hl, rfl, rfl⟩ := pairOp_ok hrun
  intro i x1 x2 y1 y2 ha hb hc hd
  obtain ⟨r, hr, rfl, rfl⟩ := (pairLoop_spec hl).2.2 ha hb hc hd
  exact hP r hr i x1 x2 ha hb

theorem cxESBlend_ok {ind1 ind2 : Ind α} {alpha : α} {rs : List α} {o1 o2 : Ind α} {rest : List α}
    (h : cxESBlend ind1 ind2 alpha rs = .ok (o1, o2, rest)) :
    ∃ c1 t1 c2 t2, cxESBlendLoop alpha ind1.genes ind1.strategy ind2.genes ind2.strategy rs
        = some (c1, t1, c2, t2, rest) ∧
      o1 = { ind1 with genes := c1, strategy := t1 } ∧ o2 = { ind2 with genes := c2, strategy := t2 } := by
  unfold cxESBlend at h
  split at h <;> cases h
  exact ⟨_, _, _, _, ‹_›, rfl, rfl⟩

/-- `pairOp_locus` for `cxESBlend`: `P` for the genes, `Q` for the strategies -/
theorem cxESBlend_locus {alpha : α} {ind1 ind2 o1 o2 : Ind α} {rs rest : List α} {P Q : α → α → α → α → Prop}
    (hrun : cxESBlend ind1 ind2 alpha rs = .ok (o1, o2, rest))
    (hP : ∀ r ∈ rs, ∀ x1 x2, P x1 x2 (blendPair alpha x1 x2 r).1 (blendPair alpha x1 x2 r).2)
    (hQ : ∀ r ∈ rs, ∀ s1 s2, Q s1 s2 (blendPair alpha s1 s2 r).1 (blendPair alpha s1 s2 r).2) :
    ∀ (i : Nat) x1 s1 x2 s2 y1 u1 y2 u2, ind1.genes[i]? = some x1 → ind1.strategy[i]? = some s1 →
      ind2.genes[i]? = some x2 → ind2.strategy[i]? = some s2 →
      o1.genes[i]? = some y1 → o1.strategy[i]? = some u1 → o2.genes[i]? = some y2 → o2.strategy[i]? = some u2 →
      P x1 x2 y1 y2 ∧ Q s1 s2 u1 u2 := by
  obtain ⟨c1, t1, c2, t2, hl, rfl, rfl⟩ := cxESBlend_ok hrun
  intro i x1 s1 x2 s2 y1 u1 y2 u2 a1 a2 a3 a4 a5 a6 a7 a8
  obtain ⟨r, hr, q, hq, rfl, rfl, rfl, rfl⟩ := (cxESBlendLoop_spec hl).2 a1 a2 a3 a4 a5 a6 a7 a8
  exact ⟨hP r hr x1 x2, hQ q hq s1 s2⟩

theorem cxSBXB_ok {ind1 ind2 : Ind α} {eta : α} {low up : Bound α} {rs : List α} {o1 o2 : Ind α}
    {rest : List α} (h : cxSimulatedBinaryBounded ind1 ind2 eta low up rs = .ok (o1, o2, rest)) :
    ∃ lo hi c1 c2, low.expand (min ind1.genes.length ind2.genes.length) = some lo ∧
      up.expand (min ind1.genes.length ind2.genes.length) = some hi ∧
      cxSBXBLoop eta ind1.genes ind2.genes lo hi rs = some (c1, c2, rest) ∧
      o1 = { ind1 with genes := c1 } ∧ o2 = { ind2 with genes := c2 } := by
  simp only [cxSimulatedBinaryBounded] at h
  split at h
  · cases h
  split at h
  · cases h
  split at h <;> cases h
  exact ⟨_, _, _, _, ‹_›, ‹_›, ‹_›, rfl, rfl⟩

theorem mutPoly_ok {ind : Ind α} {eta : α} {low up : Bound α} {indpb : α} {rs : List α} {o : Ind α}
    {rest : List α} (h : mutPolynomialBounded ind eta low up indpb rs = .ok (o, rest)) :
    ∃ lo hi ys, low.expand ind.genes.length = some lo ∧ up.expand ind.genes.length = some hi ∧
      polyLoop eta indpb ind.genes lo hi rs = some (ys, rest) ∧ o = { ind with genes := ys } := by
  simp only [mutPolynomialBounded] at h
  split at h
  · cases h
  split at h
  · cases h
  split at h <;> cases h
  exact ⟨_, _, _, ‹_›, ‹_›, ‹_›, rfl⟩

theorem mutGaussian_ok {ind : Ind α} {mu sigma : Bound α} {indpb : α} {rs gs : List α} {o : Ind α}
    {rrest grest : List α} (h : mutGaussian ind mu sigma indpb rs gs = .ok (o, rrest, grest)) :
    ∃ m s ys, mu.expand ind.genes.length = some m ∧ sigma.expand ind.genes.length = some s ∧
      gaussLoop indpb ind.genes m s rs gs = some (ys, rrest, grest) ∧ o = { ind with genes := ys } := by
  simp only [mutGaussian] at h
  split at h
  · cases h
  split at h
  · cases h
  split at h <;> cases h
  exact ⟨_, _, _, ‹_›, ‹_›, ‹_›, rfl⟩

theorem mutGaussian_len {ind : Ind α} {mu sigma : Bound α} {indpb : α} {rs gs : List α} {o : Ind α}
    {rrest grest : List α} (h : mutGaussian ind mu sigma indpb rs gs = .ok (o, rrest, grest)) :
    o.genes.length = ind.genes.length := by
  obtain ⟨m, s, ys, _, _, hl, rfl⟩ := mutGaussian_ok h
  exact (gaussLoop_spec hl).1

theorem mutGaussian_id {ind : Ind α} {mu sigma : Bound α} {indpb : α} {rs gs : List α} {o : Ind α}
    {rrest grest : List α} (hno : ∀ g ∈ rs, ¬ g < indpb) (h : mutGaussian ind mu sigma indpb rs gs = .ok (o, rrest, grest)) :
    o = ind := by
  obtain ⟨m, s, ys, _, _, hl, rfl⟩ := mutGaussian_ok h
  rw [gaussLoop_id hno hl]

theorem mutESLogNormal_ok {ind : Ind α} {c indpb : α} {rs gs : List α} {o : Ind α}
    {rrest grest : List α} (h : mutESLogNormal ind c indpb rs gs = .ok (o, rrest, grest)) :
    ind.genes.length ≠ 0 ∧ ∃ n gs' ys ts, pop gs = some (n, gs') ∧
      lognLoop indpb (lognT0 c ind.genes.length * n) (lognT c ind.genes.length) ind.genes ind.strategy rs gs'
        = .ok (ys, ts, rrest, grest) ∧ o = { ind with genes := ys, strategy := ts } := by
  simp only [mutESLogNormal] at h
  split at h
  · cases h
  split at h
  · cases h
  split at h <;> cases h
  exact ⟨‹_›, _, _, _, _, ‹_›, ‹_›, rfl⟩

theorem mutESLogNormal_len {ind : Ind α} {c indpb : α} {rs gs : List α} {o : Ind α} {rrest grest : List α}
    (h : mutESLogNormal ind c indpb rs gs = .ok (o, rrest, grest)) :
    o.genes.length = ind.genes.length ∧ o.strategy.length = ind.strategy.length := by
  obtain ⟨_, n, gs', ys, ts, _, hl, rfl⟩ := mutESLogNormal_ok h
  exact ⟨(lognLoop_spec hl).1, (lognLoop_spec hl).2.1⟩

theorem mutESLogNormal_id {ind : Ind α} {c indpb : α} {rs gs : List α} {o : Ind α} {rrest grest : List α}
    (hno : ∀ g ∈ rs, ¬ g < indpb) (h : mutESLogNormal ind c indpb rs gs = .ok (o, rrest, grest)) : o = ind := by
  obtain ⟨_, n, gs', ys, ts, _, hl, rfl⟩ := mutESLogNormal_ok h
  obtain ⟨e1, e2⟩ := lognLoop_id hno hl
  rw [e1, e2]

theorem cxSBXB_spec {ind1 ind2 : Ind α} {eta : α} {low up : Bound α} {rs : List α} {o1 o2 : Ind α}
    {rest : List α} (h : cxSimulatedBinaryBounded ind1 ind2 eta low up rs = .ok (o1, o2, rest)) :
    (o1.genes.length = ind1.genes.length ∧ o2.genes.length = ind2.genes.length) ∧
    (∀ {i : Nat} {x1 x2 l u y1 y2}, ind1.genes[i]? = some x1 → ind2.genes[i]? = some x2 → low.get? i = some l →
      up.get? i = some u → o1.genes[i]? = some y1 → o2.genes[i]? = some y2 →
      ∃ rs' rest', (∀ r ∈ rs', r ∈ rs) ∧ sbxbGene eta x1 x2 l u rs' = some (y1, y2, rest')) ∧
    (∀ i : Nat, ind2.genes.length ≤ i → o1.genes[i]? = ind1.genes[i]?) ∧
    (∀ i : Nat, ind1.genes.length ≤ i → o2.genes[i]? = ind2.genes[i]?) := by
  obtain ⟨lo, hi, c1, c2, hlo, hhi, hl, rfl, rfl⟩ := cxSBXB_ok h
  obtain ⟨l1, l2, h3, h4, h5⟩ := cxSBXBLoop_spec hl
  refine ⟨⟨l1, l2⟩, ?_, h4, h5⟩
  intro i x1 x2 l u y1 y2 hx1 hx2 hlg hug hy1 hy2
  have hsz : i < min ind1.genes.length ind2.genes.length :=
    Nat.lt_min.2 ⟨(List.getElem?_eq_some_iff.1 hx1).1, (List.getElem?_eq_some_iff.1 hx2).1⟩
  exact h3 hx1 hx2 ((expand_get hlo hsz).trans hlg) ((expand_get hhi hsz).trans hug) hy1 hy2

theorem mutPoly_spec {ind : Ind α} {eta : α} {low up : Bound α} {indpb : α} {rs : List α} {o : Ind α}
    {rest : List α} (h : mutPolynomialBounded ind eta low up indpb rs = .ok (o, rest)) :
    o.genes.length = ind.genes.length ∧
    ∀ {i : Nat} {x l u y}, ind.genes[i]? = some x → low.get? i = some l → up.get? i = some u →
      o.genes[i]? = some y → y = x ∨ ∃ rand ∈ rs, y = polyGene eta x l u rand := by
  obtain ⟨lo, hi, ys, hlo, hhi, hl, rfl⟩ := mutPoly_ok h
  obtain ⟨l1, h2⟩ := polyLoop_spec hl
  refine ⟨l1, fun hx hlg hug hy => ?_⟩
  have hi' := (List.getElem?_eq_some_iff.1 hx).1
  exact h2 hx ((expand_get hlo hi').trans hlg) ((expand_get hhi hi').trans hug) hy

theorem pairOp_total (f : α → α → α → α × α) (ind1 ind2 : Ind α) (rs : List α)
    (h : min ind1.genes.length ind2.genes.length ≤ rs.length) : ∃ out, pairOp f ind1 ind2 rs = .ok out := by
  obtain ⟨⟨c1, c2, rest⟩, ho⟩ := pairLoop_total f ind1.genes ind2.genes rs h
  exact ⟨_, by simp only [pairOp, ho]; rfl⟩

theorem cxESBlend_total (ind1 ind2 : Ind α) (alpha : α) (rs : List α)
    (h : 2 * min (min ind1.genes.length ind1.strategy.length) (min ind2.genes.length ind2.strategy.length)
          ≤ rs.length) : ∃ out, cxESBlend ind1 ind2 alpha rs = .ok out := by
  obtain ⟨⟨c1, t1, c2, t2, rest⟩, ho⟩ :=
    cxESBlendLoop_total alpha ind1.genes ind1.strategy ind2.genes ind2.strategy rs h
  exact ⟨_, by simp only [cxESBlend, ho]; rfl⟩

theorem cxSBXB_total (ind1 ind2 : Ind α) (eta : α) (low up : Bound α) (rs : List α)
    (hlow : ∀ l, low = .seq l → min ind1.genes.length ind2.genes.length ≤ l.length)
    (hup : ∀ l, up = .seq l → min ind1.genes.length ind2.genes.length ≤ l.length)
    (h : 3 * min ind1.genes.length ind2.genes.length ≤ rs.length) :
    ∃ out, cxSimulatedBinaryBounded ind1 ind2 eta low up rs = .ok out := by
  obtain ⟨lo, hlo⟩ := expand_of_len low hlow
  obtain ⟨hi, hhi⟩ := expand_of_len up hup
  obtain ⟨⟨c1, c2, rest⟩, ho⟩ := cxSBXBLoop_total eta ind1.genes ind2.genes lo hi rs h
  exact ⟨_, by simp only [cxSimulatedBinaryBounded, hlo, hhi, ho]; rfl⟩

theorem mutPoly_total (ind : Ind α) (eta : α) (low up : Bound α) (indpb : α) (rs : List α)
    (hlow : ∀ l, low = .seq l → ind.genes.length ≤ l.length) (hup : ∀ l, up = .seq l → ind.genes.length ≤ l.length)
    (h : 2 * ind.genes.length ≤ rs.length) : ∃ out, mutPolynomialBounded ind eta low up indpb rs = .ok out := by
  obtain ⟨lo, hlo⟩ := expand_of_len low hlow
  obtain ⟨hi, hhi⟩ := expand_of_len up hup
  obtain ⟨⟨ys, rest⟩, ho⟩ := polyLoop_total eta indpb ind.genes lo hi rs h
  exact ⟨_, by simp only [mutPolynomialBounded, hlo, hhi, ho]; rfl⟩

theorem mutGaussian_total (ind : Ind α) (mu sigma : Bound α) (indpb : α) (rs gs : List α)
    (hmu : ∀ l, mu = .seq l → ind.genes.length ≤ l.length) (hsigma : ∀ l, sigma = .seq l → ind.genes.length ≤ l.length)
    (hr : ind.genes.length ≤ rs.length) (hg : ind.genes.length ≤ gs.length) :
    ∃ out, mutGaussian ind mu sigma indpb rs gs = .ok out := by
  obtain ⟨m, hm⟩ := expand_of_len mu hmu
  obtain ⟨s, hs⟩ := expand_of_len sigma hsigma
  obtain ⟨⟨ys, rr, gr⟩, ho⟩ := gaussLoop_total indpb ind.genes m s rs gs hr hg
  exact ⟨_, by simp only [mutGaussian, hm, hs, ho]; rfl⟩

theorem mutESLogNormal_total (ind : Ind α) (c indpb : α) (rs gs : List α) (hne : 0 < ind.genes.length)
    (hs : ind.genes.length ≤ ind.strategy.length) (hr : ind.genes.length ≤ rs.length)
    (hg : 2 * ind.genes.length + 1 ≤ gs.length) : ∃ out, mutESLogNormal ind c indpb rs gs = .ok out := by
  obtain ⟨n, gs', hp, rfl⟩ := pop_of_pos (rs := gs) (by omega)
  obtain ⟨⟨ys, ts, rr, gr⟩, ho⟩ := lognLoop_total indpb (lognT0 c ind.genes.length * n)
    (lognT c ind.genes.length) ind.genes ind.strategy rs gs' hs hr (by grind)
  exact ⟨_, by simp only [mutESLogNormal, Nat.ne_of_gt hne, if_false, pop, ho]; rfl⟩

end RealOps
