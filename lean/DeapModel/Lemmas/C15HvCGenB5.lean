import DeapModel.Lemmas.C15HvCGenB4
/-!
C15 — the general case of `hv_recursive` in `_hv.c`, second phase: the start of the reinsertion loop — a single node is
left (l.772-775, `areaInit`), or the caches of the nodes below `bound[dim]` are reused (l.756-769).
-/
namespace HvC
open HvSweep (RL ARv VOLv)

/-- l.772-775 as a fold: afterwards `area[q][i] = ∏_{i' < i} (ref[i'] − x[i'])` for `i ≤ m`, nothing else changed -/
theorem areaInit_spec {d n : ℕ} (C : Cargo) (R : List ℚ) (q : ℕ) (hq : q ≤ n) : ∀ (m : ℕ) (S : St), m < d → TSh d n S →
    TSh d n (areaInit C R S q m) ∧ (areaInit C R S q m).next = S.next ∧ (areaInit C R S q m).prev = S.prev ∧
      (areaInit C R S q m).vol = S.vol ∧ (areaInit C R S q m).ignore = S.ignore ∧ (areaInit C R S q m).bound = S.bound ∧
      (areaInit C R S q m).domr = S.domr ∧ (areaInit C R S q m).tree = S.tree ∧ (areaInit C R S q m).calls = S.calls ∧
      (∀ i ≤ m, ar (areaInit C R S q m) q i = areaProdC C R q i) ∧
      (∀ a i, (a ≠ q ∨ m < i) → ar (areaInit C R S q m) a i = ar S a i)
  | 0, S, hm, hS => by
    have e : areaInit C R S q 0 = setAr S q 0 1 := rfl
    rw [e]
    refine ⟨gB_tsh_setAr hS _ _ _, rfl, rfl, rfl, rfl, rfl, rfl, rfl, rfl, ?_, ?_⟩
    · intro i hi
      have : i = 0 := Nat.le_zero.mp hi
      subst this
      exact ar_setAr_self hS.area hq hm 1
    · intro a i h
      exact ar_setAr_ne _ _ _ _ _ _ (h.imp_right Nat.ne_of_gt)
  | m + 1, S, hm, hS => by
    obtain ⟨h1, h2, h3, h4, h5, h6, h6a, h6b, h6c, h7, h8⟩ := areaInit_spec C R q hq m S (Nat.lt_of_succ_lt hm) hS
    have e : areaInit C R S q (m + 1) =
        setAr (areaInit C R S q m) q (m + 1) (ar (areaInit C R S q m) q m * (rf R m - cg C q m)) := by
      unfold areaInit
      rw [List.range_succ, List.foldl_append]
      rfl
    rw [e]
    generalize areaInit C R S q m = T at h1 h2 h3 h4 h5 h6 h6a h6b h6c h7 h8 ⊢
    refine ⟨gB_tsh_setAr h1 _ _ _, h2, h3, h4, h5, h6, h6a, h6b, h6c, ?_, ?_⟩
    · intro i hi
      by_cases him : i = m + 1
      · subst him
        rw [ar_setAr_self h1.area hq hm, h7 m (le_refl _)]
        rfl
      · rw [ar_setAr_ne T q (m + 1) q i _ (Or.inr him)]
        exact h7 i (Nat.le_of_lt_succ (Nat.lt_of_le_of_ne hi him))
    · intro a i h
      rw [ar_setAr_ne T q (m + 1) a i _ (h.imp_right Nat.ne_of_gt)]
      exact h8 a i (h.imp_right Nat.lt_of_succ_lt)

section ctx
variable {C : Cargo} {R : List ℚ} {d n : ℕ} {O : ℕ → List ℕ}

/-- the start of the reinsertion loop when a single node is left (l.772-777) -/
theorem linvC_start_single (c : CCtx C R d n O) (j : ℕ) (hj2 : 2 ≤ j) (hj : j + 1 < d)
    (A : List ℕ) (S₁ : St) (Rr : AfterResetC C R d n O j A S₁) (q' : ℕ) (rs : List ℕ)
    (hsplit : RL O (j + 1) A = [] ++ q' :: rs.reverse) :
    LInvC C R d n O j A S₁ (setVl (areaInit C R (delSeq C (j + 1) S₁ rs) q' (j + 1)) q' (j + 1) 0) [] q' rs.reverse 0 := by
  have hA := Rr.inv.sub
  obtain ⟨inv2, hB, fign, far, fvl, fdr, ftree, fcalls, fbnd, fptr⟩ :=
    afterDeletionsC C R d n O j A S₁ c hj2 hj Rr.inv Rr.zero_or_big [] q' rs hsplit
  set S2 := delSeq C (j + 1) S₁ rs
  have hq'A : q' ∈ A := ((hB q').mp (by simp)).1
  have hq'I := hA q' hq'A
  have hq'n : q' ≤ n := ((HvSweep.mem_ids n q').mp hq'I).2
  obtain ⟨t1, t2, t3, t4, t5, t6, t6a, t6b, t6c, t7, t8⟩ := areaInit_spec (d := d) (n := n) C R q' hq'n (j + 1) S2 hj inv2.tsh
  set Tf := areaInit C R S2 q' (j + 1)
  have hfirst := HvSweep.caches_of_first c.g j hj A hA q' rs.reverse (by simpa using hsplit)
  have harq : ar Tf q' (j + 1) = ARv R (spt C R) O j A q' := by
    rw [t7 (j + 1) (le_refl _), hfirst.1, Hj_single_eq_areaProdC c q' hq'I (Rr.inv.good q' hq'A) j (by omega)]
  have hignT : ∀ y, ign Tf y = ign S2 y := gB_ign_of_ignore t5
  have hdrT : ∀ y, dr Tf y = dr S2 y := gB_dr_of_domr t6a
  have invT : InvC C R d n O Tf j ([] ++ [q']) :=
    { inv2 with
      shape := shapeC_of_fields inv2.shape t2 t3
      tsh := t1
      lists := fun i h1 h2 => dlc_ptrEqC (ptrEqC_of_fields t2 t3) (inv2.lists i h1 h2)
      cv := by
        intro j' hj'1 hj'K a ha b hb hlt
        obtain rfl : a = q' := by simpa using ha
        rw [t6] at hb
        obtain ⟨_, e2⟩ := inv2.cv j' hj'1 hj'K a (by simp) b hb hlt
        constructor
        · rw [t7 (j' + 1) (by omega), ← Hj_single_eq_areaProdC c a hq'I (Rr.inv.good a hq'A) j' (by omega)]
          exact (HvSweep.ARv_single R (spt C R) O j' a).symm
        · rw [gB_vl_of_vol t4 a (j' + 1)]
          simpa using e2
      ig := igc_frame (S := S2) (fun a _ => hignT a) inv2.ig
      igd := by
        intro y hm
        rw [hignT y] at hm
        rw [hdrT y]; exact inv2.igd y hm
      dm := dmc_frame (S := S2) hdrT (by rw [t6]) inv2.dm
      tree := by rw [t6b]; exact inv2.tree }
  exact linvC_close c hj hA hsplit (fun y _ => gB_ign_of_ignore fign y) (fun a ha => absurd ha List.not_mem_nil)
    (fun y _ => gB_ign_of_ignore fign y) (fun y _ => gB_dr_of_domr fdr y)
    (fun a i _ => ⟨gB_ar_of_area far a i, gB_vl_of_vol fvl a i⟩) fbnd
    (by rw [List.reverse_reverse]; exact ptrEqC_of_fields t2 t3) invT (fun y _ => hignT y) (fun y _ => hdrT y)
    (fun a i hi hne => t8 a i (hne.imp_right fun h => by omega)) (fun a i _ => gB_vl_of_vol t4 a i)
    (fun i _ => congrArg (·.getD i none) t6) harq hfirst.2.symm

/-- the start of the reinsertion loop when the caches of the nodes below the bound are reused (l.756-769, l.777) -/
theorem linvC_start_multi (c : CCtx C R d n O) (j : ℕ) (hj2 : 2 ≤ j) (hj : j + 1 < d) (F : ℕ)
    (hrec : LevelOKC C R d n O F j) (A : List ℕ) (S₁ : St) (Rr : AfterResetC C R d n O j A S₁)
    (dA : List ℕ) (p0 q' : ℕ) (rs : List ℕ)
    (hsplit : RL O (j + 1) A = (dA ++ [p0]) ++ q' :: rs.reverse)
    (hstop : ∃ b, S₁.bound.getD (j + 1) none = some b ∧ cg C q' (j + 1) ≤ b ∧ cg C p0 (j + 1) < b) :
    ∃ hv T5, startR (hvRecursive C R F j) C R (j + 1) q' ((dA ++ [p0]).length + 1) (delSeq C (j + 1) S₁ rs) = some (hv, T5) ∧
      LInvC C R d n O j A S₁ (setVl T5 q' (j + 1) hv) (dA ++ [p0]) q' rs.reverse hv := by
  have hA := Rr.inv.sub
  obtain ⟨inv2, _, fign, far, fvl, fdr, _, _, fbnd, fptr⟩ :=
    afterDeletionsC C R d n O j A S₁ c hj2 hj Rr.inv Rr.zero_or_big (dA ++ [p0]) q' rs hsplit
  set S2 := delSeq C (j + 1) S₁ rs
  have hsplit3 : RL O (j + 1) A = dA ++ p0 :: q' :: rs.reverse := by rw [hsplit]; simp
  obtain ⟨_, _, hpre, hptA⟩ := HvSweep.RL_split c.g hj hA hsplit
  have hq'A : q' ∈ A := hptA q' (by simp)
  have hq'I := hA q' hq'A
  have hq'n : q' ≤ n := ((HvSweep.mem_ids n q').mp hq'I).2
  have hp0A : p0 ∈ A := ((hpre p0).mp (by simp)).1
  have hsegL : HvSweep.Seg (toSw S₁) (j + 1) 0 ((dA ++ [p0]) ++ q' :: rs.reverse) 0 := by
    have := (Rr.inv.lists (j + 1) (Nat.le_succ_of_le hj2) (le_refl _)).1
    rw [hsplit] at this; exact this
  have hpv : pv S2 (j + 1) q' = p0 := by
    rw [(fptr (j + 1) q' (Or.inr (le_refl _))).2, (seg_pv_nx S₁ (j + 1) (dA ++ [p0]) q' rs.reverse hsegL).1]
    simp
  -- the caches of the nodes before q' are valid: they are strictly below the bound
  obtain ⟨b, hb, hqb, hp0b⟩ := hstop
  obtain ⟨hp1, _⟩ := HvSweep.pos_lt_of_split O (j + 1) (c.g.nodup hj) (RL O (j + 1) A) dA (q' :: rs.reverse) p0
    (HvSweep.RL_sublist O (j + 1) A) hsplit3
  have hvalid : ∀ a ∈ dA ++ [p0], ar S2 a (j + 1) = ARv R (spt C R) O j A a ∧
      vl S2 a (j + 1) = VOLv (stc C R) R (spt C R) O j A a := by
    intro a ha
    have haA : a ∈ A := ((hpre a).mp ha).1
    have hale : cg C a (j + 1) ≤ cg C p0 (j + 1) := by
      rcases List.mem_append.mp ha with h | h
      · exact c.le_of_pos hj (hA p0 hp0A) (hA a haA) (le_of_lt (hp1 a h))
      · simp at h; rw [h]
    rw [gB_ar_of_area far a (j + 1), gB_vl_of_vol fvl a (j + 1)]
    exact Rr.inv.cv j (le_trans one_le_two hj2) (Nat.lt_succ_self _) a haA b hb (lt_of_le_of_lt hale hp0b)
  set hvol0 := vl S2 p0 (j + 1) + ar S2 p0 (j + 1) * (cg C q' (j + 1) - cg C p0 (j + 1)) with hhv0
  have hvol0_eq : hvol0 = VOLv (stc C R) R (spt C R) O j A q' := by
    rw [hhv0, (hvalid p0 (by simp)).1, (hvalid p0 (by simp)).2]
    have hst := HvSweep.caches_step c.g j hj A hA dA rs.reverse p0 q' hsplit3
    rw [hst, c.cg_tr' hq'I hj (Rr.inv.good q' hq'A _ hj), c.cg_tr' (hA p0 hp0A) hj (Rr.inv.good p0 hp0A _ hj)]
    ring
  have hignS2 : ∀ y, ign S2 y = ign S₁ y := fun y => gB_ign_of_ignore fign y
  have close := fun {T5 : St} => linvC_close c hj hA (T := S2) (T5 := T5) (hv := hvol0) hsplit (fun y _ => hignS2 y) hvalid
    (fun y _ => hignS2 y) (fun y _ => gB_dr_of_domr fdr y) (fun a i _ => ⟨gB_ar_of_area far a i, gB_vl_of_vol fvl a i⟩) fbnd
  unfold startR
  rw [if_pos (by simp), hpv]
  by_cases hmark : ((j + 1 : ℕ) : ℤ) ≤ ign S2 q'
  · -- marked: the area is copied
    rw [if_pos hmark]
    obtain ⟨_, hmt, w, hwA, hdom⟩ := Rr.inv.ig.witness (Nat.le_succ_of_le hj2) hq'A (hignS2 q' ▸ hmark)
    refine ⟨hvol0, _, rfl, close (by rw [List.reverse_reverse]; exact PtrEqC.refl S2)
      (invC_setAr_hi inv2 q' (j + 1) _ (Nat.lt_succ_self j)) (fun _ _ => rfl) (fun _ _ => rfl)
      (fun a i _ hne => ar_setAr_ne S2 q' (j + 1) a i _ hne) (fun _ _ _ => rfl) (fun _ _ => rfl) ?_ hvol0_eq⟩
    rw [ar_setAr_self inv2.tsh.area hq'n hj, (hvalid p0 (by simp)).1]
    exact (ARv_of_domC c j (le_trans one_le_two hj2) hj A hA dA rs.reverse p0 q' hsplit3 w _ hwA hmt hdom).symm
  · rw [if_neg hmark]
    obtain ⟨a, T1, hrun, hpe5, inv5, har5, fign5, fdr5, far5, fvl5, fb5⟩ :=
      area_rec_ok c j hj2 hj F hrec A hA dA p0 q' rs.reverse hsplit3 S2 inv2
    rw [hrun]
    exact ⟨hvol0, _, rfl, close (by rw [List.reverse_reverse]; exact hpe5) inv5 fign5 fdr5 far5 fvl5
      (fun i hi => fb5 i hi) har5 hvol0_eq⟩

end ctx

end HvC
