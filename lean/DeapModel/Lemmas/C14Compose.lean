/-
C14 helper lemmas for the COMPOSITION theorem `C14.mo_select_library`: `_select` instantiated with
the C04 model of `sortLogNondominated` and the C15 model of the hypervolume indicator
(`Core/CmaSelectLib.lean`).  Uses the property theorems of C04 (`sortLog_eq_peel`,
`sortLog_front_iff_depth`) and C15 (`indicator_least`); nothing about the two components is assumed.
-/
import DeapModel.Core.CmaSelectLib
import DeapModel.Lemmas.C14Select
import DeapModel.Props.C04
import DeapModel.Props.C15

namespace C14Compose
open CmaElitist CmaElitist.MO CmaElitist.MOLib NDSort Hypervolume C14Select

theorem zipWith_mul_ones : ∀ (v : List ℚ) (m : Nat), v.length ≤ m →
    List.zipWith (· * ·) v (List.replicate m (1 : ℚ)) = v
  | [], _, _ => by simp
  | _ :: _, 0, h => by simp at h
  | x :: v, m + 1, h => by
    simp only [List.replicate_succ, List.zipWith_cons_cons, mul_one]
    rw [zipWith_mul_ones v m (by simpa using h)]

theorem wobj_ones (m : Nat) (l : List Cand) (h : ∀ c ∈ l, c.w.length = m) :
    wobj (List.replicate m 1) (l.map (fun c => c.w)) = negW l := by
  unfold wobj negW wvalues
  rw [List.map_map]
  apply List.map_congr_left
  intro c hc
  simp only [Function.comp]
  rw [zipWith_mul_ones c.w m (by rw [h c hc])]

theorem negW_eraseIdx (l : List Cand) (i : Nat) : negW (l.eraseIdx i) = (negW l).eraseIdx i := by
  unfold negW
  induction l generalizing i with
  | nil => simp
  | cons a l ih =>
    cases i with
    | zero => simp
    | succ i =>
      simp only [List.eraseIdx_cons_succ, List.map_cons]
      rw [ih]

theorem negW_length (l : List Cand) : (negW l).length = l.length := by simp [negW]

theorem indicator_lt (m : Nat) (ref : List ℚ) (front : List Cand) (hne : front ≠ []) :
    indicator m ref front < front.length := by
  have h := (C15.indicator_least (List.replicate m 1) (front.map (fun c => c.w)) (some ref)
    (by simpa using hne)).1
  simpa [indicator] using h

/-- **C15 inside `_select`.**  On a non-empty front of fitnesses with `m` objectives the index the
indicator answers (an index of the front: `indicator_lt`) (i) minimises the hypervolume lost by removing
one individual — hypervolume = `hvCells`, the measure of the region dominated w.r.t. `ref`
(`C15.hvCells_eq_volume`) — and (ii) is the first such index. -/
theorem indicator_spec (m : Nat) (ref : List ℚ) (front : List Cand) (hne : front ≠ [])
    (hlen : ∀ c ∈ front, c.w.length = m) :
    (∀ k, k < front.length →
      hvCells ref (negW front) - hvCells ref (negW (front.eraseIdx (indicator m ref front)))
        ≤ hvCells ref (negW front) - hvCells ref (negW (front.eraseIdx k))) ∧
    (∀ k, k < indicator m ref front →
      hvCells ref (negW (front.eraseIdx k)) < hvCells ref (negW (front.eraseIdx (indicator m ref front)))) := by
  have h := C15.indicator_least (List.replicate m 1) (front.map (fun c => c.w)) (some ref)
    (by simpa using hne)
  simp only [Option.getD_some, List.length_map] at h
  rw [wobj_ones m front hlen] at h
  obtain ⟨_, h2, h3, _⟩ := h
  simp only [negW_eraseIdx]
  exact ⟨h2, h3⟩

/-- `LeastDrops ref cnt mid mid' removed`: `mid'` is what is left of `mid` after `cnt` successive
removals, `removed` lists the removed individuals in the order of their removal, and EVERY removal
takes out an individual whose removal loses the least hypervolume (w.r.t. `ref`) among the
individuals still present — the first such individual (`numpy.argmax`). -/
inductive LeastDrops (ref : List ℚ) : Nat → List Cand → List Cand → List Cand → Prop
  | done (mid : List Cand) : LeastDrops ref 0 mid mid []
  | step (cnt : Nat) (mid mid' removed : List Cand) (i : Nat) (hi : i < mid.length)
      (hleast : ∀ k, k < mid.length →
        hvCells ref (negW mid) - hvCells ref (negW (mid.eraseIdx i))
          ≤ hvCells ref (negW mid) - hvCells ref (negW (mid.eraseIdx k)))
      (hfirst : ∀ k, k < i → hvCells ref (negW (mid.eraseIdx k)) < hvCells ref (negW (mid.eraseIdx i)))
      (hrest : LeastDrops ref cnt (mid.eraseIdx i) mid' removed) :
      LeastDrops ref (cnt + 1) mid mid' (mid[i] :: removed)

theorem LeastDrops.perm {ref : List ℚ} {cnt : Nat} {mid mid' removed : List Cand}
    (h : LeastDrops ref cnt mid mid' removed) :
    (mid' ++ removed).Perm mid ∧ removed.length = cnt ∧ mid'.length + cnt = mid.length := by
  induction h with
  | done mid => simp
  | step cnt mid mid' removed i hi _ _ _ ih => exact drop_step_perm hi ih

/-- One step of the loop of cma.py:466-468 with the library indicator is a least-contributor removal; with
`LeastDrops.done` these are the two cases of `C14Select.dropLeast_induction` for the motive
`(∀ c ∈ mid, c.w.length = m) → LeastDrops ref cnt mid mid' removed`. -/
theorem leastDrops_step (m : Nat) (ref : List ℚ) (cnt : Nat) (mid mid' removed : List Cand)
    (hi : indicator m ref mid < mid.length)
    (ih : (∀ c ∈ mid.eraseIdx (indicator m ref mid), c.w.length = m) →
      LeastDrops ref cnt (mid.eraseIdx (indicator m ref mid)) mid' removed)
    (hl : ∀ c ∈ mid, c.w.length = m) :
    LeastDrops ref (cnt + 1) mid mid' (mid[indicator m ref mid] :: removed) := by
  obtain ⟨hleast, hfirst⟩ := indicator_spec m ref mid (List.ne_nil_of_length_pos (Nat.zero_lt_of_lt hi)) hl
  exact LeastDrops.step cnt mid mid' removed _ hi hleast hfirst
    (ih fun c hc => hl c (List.mem_of_mem_eraseIdx hc))

theorem wholeCount_congr {ι : Type} (mu : Nat) :
    ∀ (F P : List (List ι)) (c : Nat), List.Forall₂ List.Perm F P → wholeCount mu F c = wholeCount mu P c
  | _, _, _, List.Forall₂.nil => rfl
  | _, _, c, List.Forall₂.cons (a := f) (b := p) (l₁ := F) (l₂ := P) hp hrest => by
    simp only [wholeCount, hp.length_eq]
    rw [wholeCount_congr mu F P _ hrest]

/-- **C04 inside `_select`.**  `sortLogNondominated(candidates, len(candidates))` on more than zero
candidates with `m ≥ 2` objectives returns, front by front, the complete ranking by peeling: front
`i` holds exactly the candidates of dominance depth `i` (with their multiplicity), no front is
empty, nobody is lost. -/
theorem sort_all (mu m : Nat) (cands : List Cand) (hm : 2 ≤ m) (hc : mu < cands.length)
    (hlen : ∀ c ∈ cands, c.w.length = m) :
    ∃ F, sortLog cands cands.length = some F ∧ List.Forall₂ List.Perm F (peel domI cands) ∧
      F.flatten.Perm cands ∧
      (∀ i f, F[i]? = some f → ∀ c, c ∈ f ↔ c ∈ cands ∧ depth domI cands c = i) ∧
      MOLib.select mu m cands = selectFronts mu F (indicator m (refPoint cands)) cands := by
  have hne : cands ≠ [] := by intro e; subst e; simp at hc
  obtain ⟨F, h1, h2⟩ := C04.sortLog_eq_peel cands m hm hne hlen cands.length
  have hS := C04L.spo_domI m cands hlen
  have hall : leading (peel domI cands) cands.length = peel domI cands :=
    C04L.leading_all _ _ (C04L.peel_fronts_ne_nil cands hS)
      (by rw [(C04L.peel_flatten_perm cands hS).length_eq])
  rw [hall] at h2
  refine ⟨F, h1, h2, (List.Perm.flatten_congr h2).trans (C04L.peel_flatten_perm cands hS),
    fun i f hf c => C04.sortLog_front_iff_depth cands m hm hne hlen cands.length F h1 i f hf c, ?_⟩
  unfold MOLib.select; rw [if_neg (by omega), h1]

theorem rank_lt_of_mem_take {ι : Type} {F : List (List ι)} {d : ι → Nat}
    (hd : ∀ i f, F[i]? = some f → ∀ c ∈ f, d c = i) {j : Nat} {c : ι} (h : c ∈ (F.take j).flatten) : d c < j := by
  obtain ⟨f, hf, hc⟩ := List.mem_flatten.1 h
  obtain ⟨i, hi⟩ := List.mem_iff_getElem?.1 hf
  rw [List.getElem?_take] at hi
  by_cases hij : i < j
  · rw [if_pos hij] at hi; exact hd i f hi c hc ▸ hij
  · rw [if_neg hij] at hi; cases hi

theorem le_rank_of_mem_drop {ι : Type} {F : List (List ι)} {d : ι → Nat}
    (hd : ∀ i f, F[i]? = some f → ∀ c ∈ f, d c = i) {j : Nat} {c : ι} (h : c ∈ (F.drop j).flatten) : j ≤ d c := by
  obtain ⟨f, hf, hc⟩ := List.mem_flatten.1 h
  obtain ⟨i, hi⟩ := List.mem_iff_getElem?.1 hf
  rw [List.getElem?_drop] at hi
  exact hd _ f hi c hc ▸ Nat.le_add_right j i

theorem drop_cons_getElem? {ι : Type} (F : List (List ι)) (j : Nat) (mid : List ι) (rest : List (List ι))
    (h : F.drop j = mid :: rest) : F[j]? = some mid ∧ F.drop (j + 1) = rest := by
  constructor
  · have := List.getElem?_drop (xs := F) (i := j) (j := 0)
    rw [h] at this; simpa using this.symm
  · have : F.drop (j + 1) = (F.drop j).drop 1 := by rw [List.drop_drop]
    rw [this, h]; rfl

end C14Compose
