import Mathlib.Order.Defs.LinearOrder

/-!
Facts about core `List` operations (`getD`/`set`, `range`, `foldl`, `mergeSort`) that several clusters need and that
neither core nor Mathlib states in this form.
-/
namespace List
universe u v w
variable {α : Type u} {β : Type v} {γ : Type w}

theorem getD_set_self (l : List α) (i : Nat) (a d : α) (h : i < l.length) : (l.set i a).getD i d = a := by
  simp [getElem?_set_self h]

theorem getD_set_ne (l : List α) {i j : Nat} (a d : α) (h : j ≠ i) : (l.set i a).getD j d = l.getD j d := by
  simp [getElem?_set_ne (Ne.symm h)]

theorem getD_zipWith (f : α → β → γ) (a : List α) (b : List β) (j : Nat) (da : α) (db : β) (dc : γ)
    (ha : j < a.length) (hb : j < b.length) : (zipWith f a b).getD j dc = f (a.getD j da) (b.getD j db) := by
  simp only [getD_eq_getElem?_getD, getElem?_zipWith, getElem?_eq_getElem ha, getElem?_eq_getElem hb, Option.getD_some]

theorem map_getD_range (l : List α) (d : α) : (range l.length).map (fun k => l.getD k d) = l := by
  apply ext_getElem
  · simp
  · intro k _ h2
    simp [getElem?_eq_getElem h2]

theorem foldl_eraseIdx_sublist (js : List Nat) (l : List α) : (js.foldl eraseIdx l).Sublist l := by
  induction js generalizing l with
  | nil => exact Sublist.refl _
  | cons j js ih => exact (ih _).trans (eraseIdx_sublist _ _)

theorem foldl_ite_mem (r : α → α → Prop) [DecidableRel r] : ∀ (xs : List α) (x : α),
    xs.foldl (fun best y => if r best y then y else best) x ∈ x :: xs
  | [], x => by simp
  | a :: xs, x => by
    rcases mem_cons.1 (foldl_ite_mem r xs (if r x a then a else x)) with h | h
    · rw [foldl_cons, h]; split <;> simp
    · exact mem_cons_of_mem _ (mem_cons_of_mem _ h)

/-- The scan of Python's `max(seq, key=…)` / `min(seq, key=…)`: keep `best` unless the next element
beats it.  When "beats" is a strict weak order, the result is a member that no member beats. -/
theorem foldl_pick (r : α → α → Prop) [DecidableRel r] (hirr : ∀ a, ¬ r a a)
    (htr : ∀ a b c, r a b → r b c → r a c) (hneg : ∀ a b c, ¬ r a b → ¬ r b c → ¬ r a c) :
    ∀ (xs : List α) (x : α),
    xs.foldl (fun best y => if r best y then y else best) x ∈ x :: xs ∧
    ∀ y ∈ x :: xs, ¬ r (xs.foldl (fun best y => if r best y then y else best) x) y
  | [], x => by simpa using hirr x
  | a :: xs, x => by
    obtain ⟨-, hmax⟩ := foldl_pick r hirr htr hneg xs (if r x a then a else x)
    refine ⟨foldl_ite_mem r _ x, ?_⟩
    rw [foldl_cons]
    have hb := hmax _ (mem_cons_self ..)
    have hrest : ∀ y ∈ xs, _ := fun y hy => hmax y (mem_cons_of_mem _ hy)
    by_cases h : r x a
    · rw [if_pos h] at hb hrest ⊢
      exact forall_mem_cons.2 ⟨fun hc => hb (htr _ _ _ hc h), forall_mem_cons.2 ⟨hb, hrest⟩⟩
    · rw [if_neg h] at hb hrest ⊢
      exact forall_mem_cons.2 ⟨hb, forall_mem_cons.2 ⟨hneg _ _ _ hb h, hrest⟩⟩

/-- A stable sort by a Boolean "less than" that reflects a linear order on keys (Python's
`sorted(l, key=key)`, `l.sort()`) is ascending in the key. -/
theorem pairwise_mergeSort_key [LinearOrder β] (key : α → β) (lt : α → α → Bool)
    (hlt : ∀ a b, lt a b = true ↔ key a < key b) (l : List α) :
    (l.mergeSort (fun a b => !lt b a)).Pairwise (fun a b => key a ≤ key b) := by
  have hle : ∀ a b, (!lt b a) = true ↔ key a ≤ key b := fun a b => by
    rw [Bool.not_eq_true', ← Bool.not_eq_true, hlt, not_lt]
  exact (pairwise_mergeSort (le := fun a b => !lt b a)
    (fun a b c h1 h2 => (hle a c).2 (le_trans ((hle a b).1 h1) ((hle b c).1 h2)))
    (fun a b => by rw [Bool.or_eq_true, hle, hle]; exact le_total _ _) l).imp fun h => (hle _ _).1 h

theorem zipWith_ofFn {n : Nat} (g : α → β → γ) (a : Fin n → α) (b : Fin n → β) :
    zipWith g (ofFn a) (ofFn b) = ofFn fun i => g (a i) (b i) :=
  ext_getElem (by simp) fun i _ _ => by simp

end List
