/-
C14 helper lemmas: `StrategyMultiObjective._select` (front filling, mid front, least-contributor
loop) in closed form.  Core Lean only: the one fact about permutations it needs (`perm_eraseIdx`) is proved here.
-/
import DeapModel.Core.CmaElitist

namespace C14Select
open CmaElitist CmaElitist.MO

variable {ι : Type}

/-- The number of leading fronts that are taken whole when `c` places are already used. -/
def wholeCount (mu : Nat) : List (List ι) → Nat → Nat
  | [], _ => 0
  | f :: fs, c => if c + f.length ≤ mu then wholeCount mu fs (c + f.length) + 1 else 0

theorem wholeCount_le (mu : Nat) (fs : List (List ι)) (c : Nat) : wholeCount mu fs c ≤ fs.length := by
  induction fs generalizing c with
  | nil => simp [wholeCount]
  | cons f fs ih =>
    simp only [wholeCount]; split
    · exact Nat.succ_le_succ (ih _)
    · exact Nat.zero_le _

theorem whole_fit (mu : Nat) (fs : List (List ι)) (c : Nat) (hc : c ≤ mu) :
    c + ((fs.take (wholeCount mu fs c)).flatten).length ≤ mu := by
  induction fs generalizing c with
  | nil => simpa [wholeCount] using hc
  | cons f fs ih =>
    simp only [wholeCount]; split
    · next h =>
      have := ih (c + f.length) h
      simp only [List.take_succ_cons, List.flatten_cons, List.length_append]
      omega
    · simpa using hc

theorem whole_next (mu : Nat) (fs : List (List ι)) (c : Nat) (f : List ι) (rest : List (List ι))
    (h : fs.drop (wholeCount mu fs c) = f :: rest) :
    mu < c + ((fs.take (wholeCount mu fs c)).flatten).length + f.length := by
  induction fs generalizing c with
  | nil => simp at h
  | cons g fs ih =>
    simp only [wholeCount] at h ⊢; split
    · next hg =>
      rw [if_pos hg] at h
      have := ih (c + g.length) (by simpa using h)
      simp only [List.take_succ_cons, List.flatten_cons, List.length_append]
      omega
    · next hg =>
      rw [if_neg hg] at h
      simp only [List.drop_zero, List.cons.injEq] at h
      obtain ⟨rfl, _⟩ := h
      simp only [List.take_zero, List.flatten_nil, List.length_nil]; omega

theorem fill_full (mu : Nat) (fs : List (List ι)) (c m nc : List ι) :
    fillFronts mu fs c (some m) nc true = (c, some m, nc ++ fs.flatten) := by
  induction fs generalizing nc with
  | nil => simp [fillFronts]
  | cons f fs ih => simp [fillFronts, ih, List.append_assoc]

/-- With exactly `mu` chosen and no mid front every further front is not chosen (an empty one is appended to `chosen`,
which changes nothing). -/
theorem fill_sat (mu : Nat) (fs : List (List ι)) (c nc : List ι) (hc : c.length = mu) :
    fillFronts mu fs c none nc false = (c, none, nc ++ fs.flatten) := by
  induction fs generalizing nc with
  | nil => simp [fillFronts]
  | cons f fs ih =>
    by_cases hf : f = []
    · subst hf; simp [fillFronts, hc, ih]
    · have hpos : 0 < f.length := List.length_pos_iff.2 hf
      have h1 : ¬ (c.length + f.length ≤ mu) := by omega
      have h2 : ¬ (c.length < mu) := by omega
      simp [fillFronts, h1, h2, ih, List.append_assoc]

theorem fill_spec (mu : Nat) (fs : List (List ι)) (c nc : List ι) (hc : c.length ≤ mu) :
    fillFronts mu fs c none nc false =
      (match fs.drop (wholeCount mu fs c.length) with
       | [] => (c ++ (fs.take (wholeCount mu fs c.length)).flatten, none, nc)
       | f :: rest =>
         if (c ++ (fs.take (wholeCount mu fs c.length)).flatten).length < mu then
           (c ++ (fs.take (wholeCount mu fs c.length)).flatten, some f, nc ++ rest.flatten)
         else (c ++ (fs.take (wholeCount mu fs c.length)).flatten, none, nc ++ (f :: rest).flatten)) := by
  induction fs generalizing c nc with
  | nil => simp [fillFronts, wholeCount]
  | cons f fs ih =>
    by_cases hfit : c.length + f.length ≤ mu
    · have := ih (c ++ f) nc (by simpa using hfit)
      simp only [List.length_append] at this
      simp [fillFronts, wholeCount, hfit, this, List.append_assoc, Nat.add_assoc]
    · by_cases hlt : c.length < mu
      · simp [fillFronts, wholeCount, hfit, hlt, fill_full]
      · have := fill_sat mu fs c (nc ++ f) (by omega)
        simp [fillFronts, wholeCount, hfit, hlt, this, List.append_assoc]

/-- The front loop from the empty state: the whole fronts, then the next front as mid front iff places are left. -/
theorem fill_start (mu : Nat) (fs : List (List ι)) :
    fillFronts mu fs [] none [] false =
      ((fs.take (wholeCount mu fs 0)).flatten,
       if ((fs.take (wholeCount mu fs 0)).flatten).length < mu then (fs.drop (wholeCount mu fs 0)).head? else none,
       if ((fs.take (wholeCount mu fs 0)).flatten).length < mu then (fs.drop (wholeCount mu fs 0 + 1)).flatten
       else (fs.drop (wholeCount mu fs 0)).flatten) := by
  rw [fill_spec mu fs [] [] (Nat.zero_le _), ← List.drop_drop]
  cases fs.drop (wholeCount mu fs ([] : List ι).length) with
  | nil => simp
  | cons f rest => simp only [List.nil_append, List.length_nil, List.head?_cons, List.drop_one, List.tail_cons]; split <;> rfl

theorem perm_eraseIdx : ∀ (l : List ι) (i : Nat) (h : i < l.length), (l[i] :: l.eraseIdx i).Perm l
  | a :: l, 0, _ => by simp
  | a :: l, i + 1, h => by
    exact (List.Perm.swap _ _ _).trans ((perm_eraseIdx l i (by simpa using h)).cons a)

/-- The least-contributor loop (cma.py:466-468) by induction on the count: for an indicator that answers an index of its
argument it never raises, and whatever holds of no removal and survives one removal of the indicator's pick holds of
the result (`mid'` = what is left, `removed` = the removed ones in the order of their removal). -/
theorem dropLeast_induction (indicator : List ι → Nat) (hind : ∀ l, l ≠ [] → indicator l < l.length)
    (motive : Nat → List ι → List ι → List ι → Prop) (done : ∀ mid, motive 0 mid mid [])
    (step : ∀ cnt mid mid' removed (hi : indicator mid < mid.length),
      motive cnt (mid.eraseIdx (indicator mid)) mid' removed →
      motive (cnt + 1) mid mid' (mid[indicator mid] :: removed)) :
    ∀ (cnt : Nat) (mid nc : List ι), cnt ≤ mid.length →
      ∃ mid' removed, dropLeast indicator cnt mid nc = some (mid', nc ++ removed) ∧ motive cnt mid mid' removed
  | 0, mid, nc, _ => ⟨mid, [], by simp [dropLeast], done mid⟩
  | cnt + 1, mid, nc, h => by
    have hne : mid ≠ [] := by intro e; subst e; simp at h
    have hi := hind mid hne
    have hlen : (mid.eraseIdx (indicator mid)).length = mid.length - 1 := by
      rw [List.length_eraseIdx, if_pos hi]
    obtain ⟨mid', removed, h1, h2⟩ :=
      dropLeast_induction indicator hind motive done step cnt (mid.eraseIdx (indicator mid))
        (nc ++ [mid[indicator mid]]) (hlen ▸ Nat.le_sub_one_of_lt h)
    exact ⟨mid', mid[indicator mid] :: removed,
      by simp [dropLeast, List.getElem?_eq_getElem hi, h1, List.append_assoc], step cnt mid mid' removed hi h2⟩

theorem drop_step_perm {cnt : Nat} {mid mid' removed : List ι} {i : Nat} (hi : i < mid.length)
    (h : (mid' ++ removed).Perm (mid.eraseIdx i) ∧ removed.length = cnt ∧ mid'.length + cnt = (mid.eraseIdx i).length) :
    (mid' ++ mid[i] :: removed).Perm mid ∧ (mid[i] :: removed).length = cnt + 1 ∧
      mid'.length + (cnt + 1) = mid.length := by
  obtain ⟨h1, h2, h3⟩ := h
  rw [List.length_eraseIdx, if_pos hi] at h3
  exact ⟨(List.perm_middle).trans ((h1.cons _).trans (perm_eraseIdx mid i hi)), by simp [h2], by omega⟩

/-- `_select` (cma.py:447-470) when the fronts that fit entirely leave places free: the next front is the mid front, it is
longer than the free places, the loop runs on it without raising, and the chosen individuals are the whole fronts followed
by what the loop leaves — with whatever `motive` the loop establishes (`dropLeast_induction`). -/
theorem selectFronts_mid (mu : Nat) (fronts : List (List ι)) (indicator : List ι → Nat) (cands : List ι)
    (hc : mu < cands.length) (hind : ∀ l, l ≠ [] → indicator l < l.length)
    (motive : Nat → List ι → List ι → List ι → Prop) (done : ∀ mid, motive 0 mid mid [])
    (step : ∀ cnt mid mid' removed (hi : indicator mid < mid.length),
      motive cnt (mid.eraseIdx (indicator mid)) mid' removed →
      motive (cnt + 1) mid mid' (mid[indicator mid] :: removed))
    (hf : mu < fronts.flatten.length) (hlt : ((fronts.take (wholeCount mu fronts 0)).flatten).length < mu) :
    ∃ mid rest mid' removed, fronts.drop (wholeCount mu fronts 0) = mid :: rest ∧
      mu - ((fronts.take (wholeCount mu fronts 0)).flatten).length < mid.length ∧
      dropLeast indicator (mid.length - (mu - ((fronts.take (wholeCount mu fronts 0)).flatten).length)) mid rest.flatten
        = some (mid', rest.flatten ++ removed) ∧
      motive (mid.length - (mu - ((fronts.take (wholeCount mu fronts 0)).flatten).length)) mid mid' removed ∧
      selectFronts mu fronts indicator cands
        = some ((fronts.take (wholeCount mu fronts 0)).flatten ++ mid', rest.flatten ++ removed) := by
  have hfit := whole_fit mu fronts 0 (Nat.zero_le _)
  rw [Nat.zero_add] at hfit
  cases hd : fronts.drop (wholeCount mu fronts 0) with
  | nil =>
    rw [← List.take_append_drop (wholeCount mu fronts 0) fronts, hd, List.append_nil] at hf
    exact absurd hf (Nat.not_lt.2 hfit)
  | cons mid rest =>
    have hnext := whole_next mu fronts 0 mid rest hd
    rw [Nat.zero_add] at hnext
    obtain ⟨mid', removed, d1, d2⟩ := dropLeast_induction indicator hind motive done step
      (mid.length - (mu - ((fronts.take (wholeCount mu fronts 0)).flatten).length)) mid rest.flatten
      (Nat.sub_le _ _)
    refine ⟨mid, rest, mid', removed, rfl, Nat.sub_lt_left_of_lt_add hfit hnext, d1, d2, ?_⟩
    unfold selectFronts
    rw [if_neg (Nat.not_le.2 hc), fill_start]
    simp only [hlt, if_true, hd, List.head?_cons, ← List.drop_drop, List.drop_one, List.tail_cons,
      Nat.sub_pos_of_lt hlt, d1]

end C14Select
