/-
The translator prelude `Gen` (`Core/GenPrelude.lean`) where the Python ints are casts of naturals, which is how the models
index: `l[a:b]`, `l[i]`, `l[i] = v`, `range(0, n)`.  For every tie file whose rendering is written against `Gen`
(C05Gen, C09Gen, C20Gen).  Core Lean only.  Not in namespace `Gen`: the tie templates live there and open their cluster's names.
-/
import DeapModel.Core.GenPrelude

namespace GenNat
open Gen
variable {β : Type}

theorem bound_natCast (n c : Nat) : bound n (c : Int) = min c n := by
  rw [bound, if_neg (by omega), Int.toNat_natCast]

theorem slice_drop (l : List β) (c : Nat) : slice l (some (c : Int)) none = l.drop c := by
  simp only [slice, bound_natCast, List.take_length]
  exact List.drop_eq_drop_iff.2 (by omega)

theorem slice_take (l : List β) (c : Nat) : slice l none (some (c : Int)) = l.take c := by
  simp only [slice, bound_natCast, List.drop_zero]
  exact List.take_eq_take_iff.2 (by omega)

theorem slice_take_drop (l : List β) (a b : Nat) :
    slice l (some (a : Int)) (some (b : Int)) = (l.take b).drop a := by
  simp only [slice, bound_natCast]
  rw [List.take_eq_take_iff.2 (show min (min b l.length) l.length = min b l.length by omega)]
  exact List.drop_eq_drop_iff.2 (by rw [List.length_take]; omega)

theorem index_natCast (l : List β) (k : Nat) : index l (k : Int) = l[k]? := by
  rw [index, if_neg (by omega), Int.toNat_natCast]

theorem setItem_natCast (l : List β) (k : Nat) (v : β) :
    setItem l (k : Int) v = if k < l.length then some (l.set k v) else none := by
  rw [setItem, if_neg (by omega), Int.toNat_natCast]

theorem range_zero_natCast (n : Nat) : range 0 (n : Int) = (List.range n).map Int.ofNat := by
  simp [range]

end GenNat
