/-
C13 helper lemmas: the list/`tab`/`sumTo` layer of `Core/Cma.lean`, and its reading at `ℝ`
(`sumTo n f = ∑ i : Fin n, f i`); `natFloor` (the `int(·)` of cma.py:110) is `min ⌊x⌋₊ bound`.
-/
import DeapModel.Core.Cma
import DeapModel.RealInst
import Mathlib.Algebra.BigOperators.Field  -- `Finset.sum_div`, for C13Spec, C13Weights, C13Psd

-- `tab`, `tab2`, `vget` … are declared under `[RealLike α]` in the model and most do not take the instance
set_option linter.unusedSectionVars false

open Cma

namespace C13L

section generic
variable {α : Type} [RealLike α]

@[simp] theorem length_tab (n : Nat) (f : Nat → α) : (tab n f).length = n := by simp [tab]

@[simp] theorem length_tab2 (n m : Nat) (f : Nat → Nat → α) : (tab2 n m f).length = n := by simp [tab2]

@[simp, real_bridge] theorem vget_tab_fin {n : Nat} (f : Nat → α) (i : Fin n) : vget (tab n f) i.val = f i.val := by
  simp [vget, tab, List.getD_eq_getElem?_getD, i.isLt]

@[simp] theorem vget_cons_zero (a : α) (l : List α) : vget (a :: l) 0 = a := rfl
@[simp] theorem vget_cons_succ (a : α) (l : List α) (i : Nat) : vget (a :: l) (i + 1) = vget l i := rfl
@[simp] theorem mget_cons_zero (r : List α) (M : List (List α)) (j : Nat) : mget (r :: M) 0 j = vget r j := rfl
@[simp] theorem mget_cons_succ (r : List α) (M : List (List α)) (i j : Nat) :
    mget (r :: M) (i + 1) j = mget M i j := rfl

theorem vget_tab_lt {n : Nat} (f : Nat → α) {i : Nat} (h : i < n) : vget (tab n f) i = f i :=
  vget_tab_fin f ⟨i, h⟩

@[simp, real_bridge] theorem mget_tab2_fin {n m : Nat} (f : Nat → Nat → α) (i : Fin n) (j : Fin m) :
    mget (tab2 n m f) i.val j.val = f i.val j.val := by
  simp [mget, tab2, List.getD_eq_getElem?_getD, i.isLt]

theorem mget_tab2_lt {n m : Nat} (f : Nat → Nat → α) {i j : Nat} (hi : i < n) (hj : j < m) :
    mget (tab2 n m f) i j = f i j := mget_tab2_fin f ⟨i, hi⟩ ⟨j, hj⟩

theorem tab_congr {n : Nat} {f g : Nat → α} (h : ∀ i : Fin n, f i.val = g i.val) : tab n f = tab n g := by
  apply List.map_congr_left
  intro a ha
  exact h ⟨a, List.mem_range.mp ha⟩

theorem tab2_congr {n m : Nat} {f g : Nat → Nat → α}
    (h : ∀ (i : Fin n) (j : Fin m), f i.val j.val = g i.val j.val) : tab2 n m f = tab2 n m g := by
  apply List.map_congr_left
  intro a ha
  exact tab_congr (fun j => h ⟨a, List.mem_range.mp ha⟩ j)

theorem mem_tab2_length {n m : Nat} (f : Nat → Nat → α) {r : List α} (h : r ∈ tab2 n m f) :
    r.length = m := by
  simp only [tab2, List.mem_map] at h
  obtain ⟨i, _, rfl⟩ := h
  simp

theorem tab_vget {n : Nat} (v : List α) (h : v.length = n) : tab n (vget v) = v := by
  subst h
  apply List.ext_getElem
  · simp
  · intro i h1 h2
    simp [tab, vget, List.getD_eq_getElem?_getD, h2]

end generic

@[simp, real_bridge] theorem sumTo_real (n : Nat) (f : Nat → ℝ) : sumTo n f = ∑ i : Fin n, f i.val := by
  unfold sumTo tab
  rw [RealLike.real_sum, ← Finset.sum_range (f := f)]
  induction n with
  | zero => simp
  | succ k ih => rw [List.range_succ, List.map_append, List.sum_append, ih, Finset.sum_range_succ]; simp

@[simp, real_bridge] theorem norm_real (n : Nat) (v : List ℝ) :
    Cma.norm n v = Real.sqrt (∑ i : Fin n, vget v i.val * vget v i.val) := by
  simp [Cma.norm]

theorem natFloor_succ (x : ℝ) (b : Nat) :
    natFloor x (b + 1) = if ((b + 1 : ℕ) : ℝ) ≤ x then b + 1 else natFloor x b := by
  unfold natFloor
  rw [List.range_succ, List.foldl_append]
  simp only [List.foldl_cons, List.foldl_nil]
  simp only [real_bridge]

theorem natFloor_eq_min (x : ℝ) (hx : 0 ≤ x) (b : Nat) : natFloor x b = min ⌊x⌋₊ b := by
  induction b with
  | zero => simp [natFloor]
  | succ b ih =>
    rw [natFloor_succ, ih]
    by_cases h : ((b + 1 : ℕ) : ℝ) ≤ x
    · have : b + 1 ≤ ⌊x⌋₊ := (Nat.le_floor_iff hx).mpr h
      simp only [h, if_true]; omega
    · have : ¬ (b + 1 ≤ ⌊x⌋₊) := fun h' => h ((Nat.le_floor_iff hx).mp h')
      simp only [h, if_false]; omega

theorem natFloor_eq_floor {x : ℝ} (hx : 0 ≤ x) {b : Nat} (hb : x ≤ b) : natFloor x b = ⌊x⌋₊ := by
  rw [natFloor_eq_min x hx]; exact min_eq_left (Nat.floor_le_of_le hb)

attribute [real_bridge] Real.rpow_two

end C13L
