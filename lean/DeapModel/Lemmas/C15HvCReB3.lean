import DeapModel.Lemmas.C15HvCReB2
/-!
C15 — the 3-D base case of `_hv.c` re-entered, Case 3 (some nodes below `bound[2]`, some at or above): the static
facts.  The list of dimension 2 splits at the bound into `P ++ Q`; the nodes `M = {a ∈ P | bound ≤ domr a}` (those that
are reconnected) are pairwise incomparable in the first two coordinates, cover `P`, and carry no mark `≥ 2`.
-/
namespace HvC
open HvSweep (RL pos)

theorem split_at_bound (C : Cargo) (b : ℚ) : ∀ (L : List ℕ), L.Pairwise (fun a c => cg C a 2 ≤ cg C c 2) →
    ∃ P Q, L = P ++ Q ∧ (∀ a ∈ P, cg C a 2 < b) ∧ (∀ a ∈ Q, b ≤ cg C a 2)
  | [], _ => ⟨[], [], rfl, by simp, by simp⟩
  | x :: L, hs => by
    have hs' := List.pairwise_cons.mp hs
    by_cases hx : cg C x 2 < b
    · obtain ⟨P, Q, hL, hP, hQ⟩ := split_at_bound C b L hs'.2
      refine ⟨x :: P, Q, by rw [hL]; rfl, ?_, hQ⟩
      intro a ha
      rcases List.mem_cons.mp ha with rfl | ha
      · exact hx
      · exact hP a ha
    · refine ⟨[], x :: L, rfl, by simp, ?_⟩
      intro a ha
      rcases List.mem_cons.mp ha with rfl | ha
      · exact not_lt.mp hx
      · exact le_trans (not_lt.mp hx) (hs'.1 a ha)

/-- a minimal element below `x` in a finite list, for a strict partial order -/
theorem exists_min_below {α : Type} (r : α → α → Prop) (htr : ∀ a b c, r a b → r b c → r a c) (hirr : ∀ a, ¬ r a a) :
    ∀ (l : List α) (x : α), (∃ s ∈ l, r s x) → ∃ t ∈ l, r t x ∧ ∀ s ∈ l, ¬ r s t
  | [], x, h => by obtain ⟨s, hs, _⟩ := h; exact absurd hs (List.not_mem_nil)
  | y :: l, x, h => by
    by_cases hy : r y x
    · by_cases h2 : ∃ s ∈ l, r s y
      · obtain ⟨t, ht, hty, hmin⟩ := exists_min_below r htr hirr l y h2
        refine ⟨t, List.mem_cons_of_mem _ ht, htr _ _ _ hty hy, ?_⟩
        intro s hs
        rcases List.mem_cons.mp hs with rfl | hs
        · intro hst; exact hirr _ (htr _ _ _ hst hty)
        · exact hmin s hs
      · refine ⟨y, by simp, hy, ?_⟩
        intro s hs
        rcases List.mem_cons.mp hs with rfl | hs
        · exact hirr _
        · intro hsy; exact h2 ⟨s, hs, hsy⟩
    · have h1 : ∃ s ∈ l, r s x := by
        obtain ⟨s, hs, hsx⟩ := h
        rcases List.mem_cons.mp hs with rfl | hs
        · exact absurd hsx hy
        · exact ⟨s, hs, hsx⟩
      obtain ⟨t, ht, htx, hmin⟩ := exists_min_below r htr hirr l x h1
      refine ⟨t, List.mem_cons_of_mem _ ht, htx, ?_⟩
      intro s hs
      rcases List.mem_cons.mp hs with rfl | hs
      · intro hst; exact hy (htr _ _ _ hst htx)
      · exact hmin s hs

/-- the static picture of Case 3 -/
structure C3 (C : Cargo) (R : List ℚ) (d n : ℕ) (O : ℕ → List ℕ) (S : St) (A : List ℕ) (b : ℚ) (P Q : List ℕ) : Prop where
  hb : S.bound.getD 2 none = some b
  split : RL O 2 A = P ++ Q
  pne : P ≠ []
  qne : Q ≠ []
  plt : ∀ a ∈ P, cg C a 2 < b
  qge : ∀ a ∈ Q, b ≤ cg C a 2

section c3
variable {C : Cargo} {R : List ℚ} {d n : ℕ} {O : ℕ → List ℕ} {S : St} {A : List ℕ} {b : ℚ} {P Q : List ℕ}

theorem C3.pA (h : C3 C R d n O S A b P Q) (l2 : L2 C R d n O S A) {a : ℕ} (ha : a ∈ P) : a ∈ A :=
  (l2.mem a).mp (by rw [h.split]; exact List.mem_append_left _ ha)

theorem C3.qA (h : C3 C R d n O S A b P Q) (l2 : L2 C R d n O S A) {a : ℕ} (ha : a ∈ Q) : a ∈ A :=
  (l2.mem a).mp (by rw [h.split]; exact List.mem_append_right _ ha)

theorem C3.inP (h : C3 C R d n O S A b P Q) (l2 : L2 C R d n O S A) {a : ℕ} (ha : a ∈ A) (hlt : cg C a 2 < b) : a ∈ P := by
  have := (l2.mem a).mpr ha
  rw [h.split] at this
  rcases List.mem_append.mp this with h1 | h1
  · exact h1
  · exact absurd hlt (not_lt.mpr (h.qge a h1))

/-- (i) the reconnected nodes are pairwise incomparable in the first two coordinates -/
theorem C3.incomp (h : C3 C R d n O S A b P Q) (c : CCtx C R d n O) (inv : InvC C R d n O S 2 A)
    {q a : ℕ} (hq : q ∈ P) (ha : a ∈ P) (hdq : b ≤ dr S q) (hda : b ≤ dr S a) (hne : q ≠ a) :
    ¬ ((item C q).1 ≤ (item C a).1 ∧ (item C q).2 ≤ (item C a).2) := by
  have l2 := l2_of_inv c inv
  have hqA := h.pA l2 hq
  have haA := h.pA l2 ha
  intro hle
  have hbeat : Beats C O q a ∨ Beats C O a q := by
    by_cases he : item C q = item C a
    · have hqO : q ∈ O 2 := (c.g.mem l2.hd q).mpr (inv.sub q hqA)
      have haO : a ∈ O 2 := (c.g.mem l2.hd a).mpr (inv.sub a haA)
      rcases Nat.lt_trichotomy (pos O 2 q) (pos O 2 a) with h1 | h1 | h1
      · exact Or.inl ⟨hne, hle.1, hle.2, fun _ => h1⟩
      · exact absurd (HvSweep.pos_inj O 2 q a hqO haO h1) hne
      · refine Or.inr ⟨Ne.symm hne, ?_, ?_, fun _ => h1⟩
        · exact le_of_eq (congrArg Prod.fst he).symm
        · exact le_of_eq (congrArg Prod.snd he).symm
    · exact Or.inl ⟨hne, hle.1, hle.2, fun e => absurd e he⟩
  rcases hbeat with hbt | hbt
  · have := (inv.dm a haA b h.hb (h.plt a ha)).2.1 q hqA (h.plt q hq) hbt
    exact absurd (max_lt (h.plt a ha) (h.plt q hq)) (not_lt.mpr (hda.trans this))
  · have := (inv.dm q hqA b h.hb (h.plt q hq)).2.1 a haA (h.plt a ha) hbt
    exact absurd (max_lt (h.plt q hq) (h.plt a ha)) (not_lt.mpr (hdq.trans this))

/-- (ii) the reconnected nodes cover `P` -/
theorem C3.cover (h : C3 C R d n O S A b P Q) (c : CCtx C R d n O) (inv : InvC C R d n O S 2 A)
    {q : ℕ} (hq : q ∈ P) :
    ∃ t ∈ P, b ≤ dr S t ∧ (item C t).1 ≤ (item C q).1 ∧ (item C t).2 ≤ (item C q).2 := by
  have l2 := l2_of_inv c inv
  -- a node of `P` that nobody in `P` beats is reconnected
  have hminM : ∀ t ∈ P, (∀ s ∈ P, ¬ Beats C O s t) → b ≤ dr S t := by
    intro t ht hmin
    by_contra hlt
    obtain ⟨q', hq'A, hbt, hz⟩ := (inv.dm t (h.pA l2 ht) b h.hb (h.plt t ht)).2.2 (not_le.mp hlt)
    exact hmin q' (h.inP l2 hq'A (lt_of_le_of_lt hz (not_le.mp hlt))) hbt
  by_cases hex : ∃ s ∈ P, Beats C O s q
  · obtain ⟨t, ht, htq, hmin⟩ := exists_min_below (Beats C O) (beats_trans C O) (beats_irrefl C O) P q hex
    exact ⟨t, ht, hminM t ht hmin, htq.2.1, htq.2.2.1⟩
  · exact ⟨q, hq, hminM q hq (fun s hs hbt => hex ⟨s, hs, hbt⟩), le_refl _, le_refl _⟩

/-- (iii) a reconnected node carries no mark `≥ 2` -/
theorem C3.noMark (h : C3 C R d n O S A b P Q) (inv : InvC C R d n O S 2 A) {t : ℕ} (ht : t ∈ P) (hd : b ≤ dr S t) :
    ¬ (2 : ℤ) ≤ ign S t := by
  intro hm
  have := inv.igd t hm
  have hlt := h.plt t ht
  rw [this] at hd
  exact absurd hlt (not_lt.mpr hd)

end c3

end HvC
