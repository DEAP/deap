/-
C19 — helper lemmas of the TRANSLATOR TIE (`harness/props/c19_translate.py`, `GenEq/C19.lean.tmpl`): the shapes the
translator renders (`List.map` over `Gen01.zip3`) against those of the hand-written model `Core/Penalty.lean`
(`zip3With`).
-/
import DeapModel.Core.GenPreludeC01
import DeapModel.Core.Penalty

namespace Gen19L

/-- the model's `zip3With g` is the generator expression `tuple(g(x, y, z) for x, y, z in zip(a, b, c))` -/
theorem zip3With_eq_map {α β γ δ : Type} (g : α → β → γ → δ) :
    ∀ (a : List α) (b : List β) (c : List γ),
      Penalty.zip3With g a b c = List.map (fun p => g p.1 p.2.1 p.2.2) (Gen01.zip3 a b c) := by
  intro a
  induction a with
  | nil => intro b c; rfl
  | cons x xs ih =>
    intro b c
    cases b with
    | nil => rfl
    | cons y ys =>
      cases c with
      | nil => rfl
      | cons z zs => exact congrArg (g x y z :: ·) (ih ys zs)

theorem int_len_ne (m n : Nat) : ((m : Int) ≠ (n : Int)) ↔ m ≠ n := by omega

end Gen19L
