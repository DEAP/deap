/-
C18 translator tie: helper lemmas of `lean/DeapModel/GenEq/C18.lean.tmpl` (the theorems
`Gen.<Class>_<method> … = <model> …` about the definitions regenerated from `deap/tools/support.py`).
Bridges between the Python notions of `Core/GenPreludeC18.lean` and the hand-written model `Core/Logbook.lean`.
-/
import DeapModel.Core.GenPreludeC18
import DeapModel.Lemmas.C18Ops
import DeapModel.Lemmas.ListCore

open Logbook

namespace Gen18

theorem dictSet_eq_upsert {β : Type} (d : List (Name × β)) (k : Name) (v : β) :
    dictSet d k v = Dict.upsert (fun _ => v) k d := by
  induction d with
  | nil => rfl
  | cons p ps ih => obtain ⟨k', v'⟩ := p; simp only [dictSet, Dict.upsert, ih]; split <;> simp_all

theorem dictSet_eq_setFn {κ φ ρ : Type} (name : Name) (v : φ × (φ → List κ → ρ)) :
    ∀ l : List (Name × (φ × (φ → List κ → ρ))), dictSet l name v = Stats.setFn name v l :=
  fun l => (dictSet_eq_upsert l name v).trans (C18L.setFn_eq_upsert name v l).symm

theorem dictSet_fresh {β : Type} (k : Name) (v : β) (d : List (Name × β)) (h : k ∉ d.map (·.1)) :
    dictSet d k v = d ++ [(k, v)] := by
  rw [dictSet_eq_upsert]; exact Dict.upsert_fresh _ k d h

/-- a loop `for p in l: d[p.key] = f p` over distinct keys appends one entry per element, in order -/
theorem forIn_dictSet {τ β : Type} (key : τ → Name) (f : τ → β) (body : τ → List (Name × β) → List (Name × β))
    (hb : ∀ p d, body p d = dictSet d (key p) (f p)) :
    ∀ (l : List τ) (acc : List (Name × β)), (l.map key).Nodup → (∀ p ∈ l, key p ∉ acc.map (·.1)) →
      forIn l acc body = acc ++ l.map (fun p => (key p, f p))
  | [], acc, _, _ => (List.append_nil acc).symm
  | p :: rest, acc, hn, hd => by
    rw [List.map_cons, List.nodup_cons] at hn
    have ih := forIn_dictSet key f body hb rest (acc ++ [(key p, f p)]) hn.2 fun q hq => by
      simp only [List.map_append, List.mem_append, List.map_cons, List.map_nil, List.mem_singleton, not_or]
      exact ⟨hd q (List.mem_cons_of_mem _ hq), fun e => hn.1 (e ▸ List.mem_map_of_mem hq)⟩
    simp only [forIn, List.foldl_cons] at ih ⊢
    rw [hb, dictSet_fresh _ _ _ (hd p (List.mem_cons_self ..)), ih, List.append_assoc]; rfl

theorem forIn_dictSet_nil {τ β : Type} (key : τ → Name) (f : τ → β) (body : τ → List (Name × β) → List (Name × β))
    (hb : ∀ p d, body p d = dictSet d (key p) (f p)) (l : List τ) (hn : (l.map key).Nodup) :
    forIn l [] body = l.map (fun p => (key p, f p)) := by
  simpa using forIn_dictSet key f body hb l [] hn (by simp)

/-- a loop `for x in l: acc.append(f x)` -/
theorem forIn_append {τ β : Type} (f : τ → β) : ∀ (l : List τ) (acc : List β),
    forIn l acc (fun x st => st ++ [f x]) = acc ++ l.map f
  | [], acc => by simp [forIn]
  | x :: l, acc => by
    have ih := forIn_append f l (acc ++ [f x])
    simp only [forIn, List.foldl_cons] at ih ⊢
    rw [ih]; simp

theorem mapM_some' {α β : Type} (g : α → β) (f : α → Option β) (hf : ∀ a, f a = some (g a)) :
    ∀ l : List α, l.mapM f = some (l.map g) :=
  fun l => List.mapM_eq_some f g l fun a _ => hf a

theorem insertDesc_eq (x : Nat) : ∀ l, insertDesc x l = Logbook.insertDesc x l
  | [] => rfl
  | y :: ys => by simp [insertDesc, Logbook.insertDesc, insertDesc_eq x ys]

theorem sortedRev_eq : ∀ l, sortedRev l = Logbook.sortDesc l
  | [] => rfl
  | x :: xs => by simp [sortedRev, Logbook.sortDesc, sortedRev_eq xs, insertDesc_eq]

/-! ### nesting depth of the chapters = the fuel the recursive methods need -/

mutual
def depth : LB → Nat
  | .mk _ chs _ _ _ _ => depthAll chs + 1
def depthAll : List (Name × LB) → Nat
  | [] => 0
  | (_, ch) :: rest => max (depth ch) (depthAll rest)
end

theorem depth_le_depthAll : ∀ (chs : List (Name × LB)) (p : Name × LB), p ∈ chs → depth p.2 ≤ depthAll chs
  | [], _, h => by simp at h
  | (k, ch) :: rest, p, h => by
    simp only [depthAll]
    rcases List.mem_cons.1 h with rfl | h'
    · exact Nat.le_max_left _ _
    · exact Nat.le_trans (depth_le_depthAll rest p h') (Nat.le_max_right _ _)

mutual
theorem depth_pop (index : Int) : ∀ lb : LB, depth (pop index lb).2 = depth lb
  | .mk rows chs b h lh hs => by
    have hc := depthAll_popChapters index chs
    simp only [pop]
    rcases hp : popChapters index chs with ⟨chs', _ | _⟩ <;> rw [hp] at hc <;> simp only at hc ⊢
    · split <;> simp [depth, hc]
    · simp [depth, hc]
theorem depthAll_popChapters (index : Int) : ∀ chs : List (Name × LB), depthAll (popChapters index chs).1 = depthAll chs
  | [] => rfl
  | (k, ch) :: rest => by
    have h1 := depth_pop index ch
    have h2 := depthAll_popChapters index rest
    simp only [popChapters]
    rcases hp : pop index ch with ⟨_ | r, ch'⟩ <;> rw [hp] at h1 <;> simp only at h1 ⊢
    · simp [depthAll, h1]
    · simp [depthAll, h1, h2]
end

/-- the model's `Option Row × LB` (value or IndexError, and the logbook as it was left) as a `Res` -/
def ofPop : Option Row × LB → Res LB Row
  | (some r, lb) => .ok lb r
  | (none, lb) => .raise lb

/-- the model's `LB × Bool` (`true` = IndexError) as a `Res` -/
def ofDel : LB × Bool → Res LB Unit
  | (lb, false) => .ok lb ()
  | (lb, true) => .raise lb

theorem listPop_eq {α : Type} (l : List α) (index : Int) :
    listPop l index =
      (if 0 ≤ position l.length index ∧ position l.length index < (l.length : Int)
       then (l[(position l.length index).toNat]?).map (fun x => (x, l.eraseIdx (position l.length index).toNat)) else none) := rfl

theorem pop_eq_listPop (index : Int) (rows : List Row) (chs : List (Name × LB)) (b : Nat) (h lh hs) :
    Logbook.pop index (.mk rows chs b h lh hs) =
      (match popChapters index chs with
       | (chs', true) => (none, .mk rows chs' (if 0 ≤ position rows.length index ∧ position rows.length index < (b : Int) then b - 1 else b) h lh hs)
       | (chs', false) =>
          match listPop rows index with
          | none => (none, .mk rows chs' (if 0 ≤ position rows.length index ∧ position rows.length index < (b : Int) then b - 1 else b) h lh hs)
          | some (r, rows') => (some r, .mk rows' chs' (if 0 ≤ position rows.length index ∧ position rows.length index < (b : Int) then b - 1 else b) h lh hs)) := by
  simp only [Logbook.pop, listPop_eq]
  rcases popChapters index chs with ⟨chs', _ | _⟩
  · by_cases h3 : 0 ≤ position rows.length index ∧ position rows.length index < (rows.length : Int)
    · simp [h3]
    · simp [h3]
  · rfl

/-- the loop `for chapter in self.chapters.values(): chapter.pop(index)` is `popChapters` -/
theorem forValuesE_pop (g : LB → Res LB Row) (index : Int) (body : LB → Res LB Unit)
    (hb : ∀ ch, body ch = match g ch with
          | .ok chapter _ => .ok chapter ()
          | .raise chapter => .raise chapter
          | .nofuel => .nofuel)
    : ∀ (chs : List (Name × LB)), (∀ p ∈ chs, g p.2 = ofPop (pop index p.2)) →
    forValuesE chs body
      = (match popChapters index chs with
         | (chs', true) => .raise chs'
         | (chs', false) => .ok chs' ())
  | [], _ => by simp [forValuesE, popChapters]
  | (k, ch) :: rest, h => by
    have h1 := h (k, ch) (by simp)
    have h2 := forValuesE_pop g index body hb rest (fun p hp => h p (by simp [hp]))
    simp only [forValuesE, popChapters]
    rw [h2, hb, h1]
    rcases hp : pop index ch with ⟨_ | r, ch'⟩
    · simp [ofPop]
    · simp only [ofPop]
      rcases popChapters index rest with ⟨r', _ | _⟩ <;> simp

/-- the loop `for i in sorted(.., reverse=True): self.pop(i)` is `delEach` -/
theorem forInE_pop (fuel : Nat) (body : Nat → LB → Res LB Unit)
    (hb : ∀ i lb, depth lb ≤ fuel → body i lb = ofDel (delIndex (i : Int) lb)) :
    ∀ (is : List Nat) (lb : LB), depth lb ≤ fuel → forInE is lb body = ofDel (delEach is lb)
  | [], lb, _ => by simp [forInE, delEach, ofDel]
  | i :: is, lb, hd => by
    have hdep : depth (delIndex (i : Int) lb).1 ≤ fuel := by
      have := depth_pop (i : Int) lb
      simp only [delIndex]
      rcases hp : pop (i : Int) lb with ⟨_ | r, lb'⟩ <;> rw [hp] at this <;> simp only at this ⊢ <;> omega
    have ih := forInE_pop fuel body hb is (delIndex (i : Int) lb).1 hdep
    simp only [forInE, delEach, hb i lb hd]
    rcases hdel : delIndex (i : Int) lb with ⟨lb', _ | _⟩ <;> rw [hdel] at ih <;> simp only [ofDel] at ih ⊢
    exact ih

theorem ofDel_delIndex (i : Int) (lb : LB) :
    ofDel (delIndex i lb) = (match ofPop (pop i lb) with | .ok s _ => .ok s () | .raise s => .raise s | .nofuel => .nofuel) := by
  simp only [delIndex]
  rcases pop i lb with ⟨_ | r, lb'⟩ <;> simp [ofDel, ofPop]

end Gen18
