import DeapModel.Lemmas.C15HvCGenB5
/-!
C15 — the general case of `hv_recursive` in `_hv.c` (`dim > 2`, l.710-819): the reinsertion loop l.780-808 as a
whole, and the level theorem `GeneralStep_Statement`.
-/
namespace HvC
open HvSweep (Hj RL)

section ctx
variable {C : Cargo} {R : List ℚ} {d n : ℕ} {O : ℕ → List ℕ}

theorem loopC_ok (c : CCtx C R d n O) (j : ℕ) (hj2 : 2 ≤ j) (hj : j + 1 < d) (F : ℕ)
    (hrec : LevelOKC C R d n O F j) (A : List ℕ) (S₁ : St) (Rr : AfterResetC C R d n O j A S₁) :
    ∀ (todo d0 : List ℕ) (q : ℕ) (hvol : ℚ) (T : St) (fl : ℕ),
      LInvC C R d n O j A S₁ T d0 q todo hvol → todo.length ≤ fl →
      ∃ q' hv' T' d0', reinsLoop (hvRecursive C R F j) C (j + 1) fl ((todo ++ [0]).headD 0) q hvol (d0 ++ [q]).length T
          = some (q', hv', T') ∧ LInvC C R d n O j A S₁ T' d0' q' [] hv' := by
  intro todo
  induction todo with
  | nil =>
    intro d0 q hvol T fl I _
    refine ⟨q, hvol, T, d0, ?_, I⟩
    exact reinsLoop_zero_head _ C (j + 1) fl q hvol _ T
  | cons p todo ih =>
    intro d0 q hvol T fl I hfl
    obtain ⟨f, rfl, hf'⟩ := HvSweep.exists_fuel_succ hfl
    have hpL : p ∈ RL O (j + 1) A := by rw [I.split]; simp
    have hp0 : p ≠ 0 := by
      have := ((HvSweep.mem_ids n p).mp (Rr.inv.sub p ((HvSweep.mem_RL O (j + 1) A p).mp hpL).2)).1; omega
    obtain ⟨T5, hstep, I5, hnext⟩ := linvC_step c j hj2 hj F hrec A S₁ Rr T d0 q p todo hvol I
    have hhead : ((p :: todo) ++ [0]).headD 0 = p := rfl
    rw [hhead, reinsLoop_succ, if_neg hp0, hstep]
    dsimp only
    rw [hnext]
    have hlen : (d0 ++ [q]).length + 1 = ((d0 ++ [q]) ++ [p]).length := by simp
    rw [hlen]
    exact ih (d0 ++ [q]) p _ _ f I5 hf'

theorem generalC_full (c : CCtx C R d n O) (j : ℕ) (hj2 : 2 ≤ j) (hj : j + 1 < d) (F : ℕ) (hF : n + 2 ≤ F)
    (hrec : LevelOKC C R d n O F j) (S : St) (A : List ℕ) (inv : InvC C R d n O S (j + 1) A) (hlenA : 2 ≤ A.length) :
    ∃ v S', general (hvRecursive C R F j) C R F (j + 1) A.length S = some (v, S') ∧
      PostC C R d n O S S' (j + 1) A v := by
  have hperm := HvSweep.RL_perm c.g hj A inv.nodup inv.sub
  have hLlen : (RL O (j + 1) A).length = A.length := hperm.length_eq
  have hLne : RL O (j + 1) A ≠ [] := by
    intro h; rw [h] at hLlen; simp at hLlen; omega
  have hLA : ∀ a, a ∈ RL O (j + 1) A ↔ a ∈ A := fun a => hperm.mem_iff
  have hLnd : (RL O (j + 1) A).Nodup := HvSweep.RL_nodup c.g hj A
  obtain ⟨pre, q0, hL⟩ : ∃ pre q0, RL O (j + 1) A = pre ++ [q0] :=
    ⟨_, _, (List.dropLast_append_getLast hLne).symm⟩
  have hdk := inv.lists (j + 1) (Nat.le_succ_of_le hj2) (le_refl _)
  have hLn : (RL O (j + 1) A).length ≤ n := HvSweep.dl_length_le hdk
  have hseg := hdk.1
  rw [hL] at hseg
  have hsp := (HvSweep.seg_append (toSw S) (j + 1) pre 0 q0 [] 0).mp hseg
  have hq0 : pv S (j + 1) 0 = q0 := hsp.2.2
  rw [general_eq, hq0]
  have hnd_q : (q0 :: pre).Nodup := by
    have := hLnd; rw [hL] at this
    exact (List.perm_append_comm (l₁ := pre) (l₂ := [q0])).nodup_iff.mp this
  have hmem_q : ∀ a, a ∈ q0 :: pre ↔ a ∈ A := by
    intro a; rw [← hLA a, hL]; simp [or_comm]
  obtain ⟨S1, r1, rnx, rpv, rar, rvl, rbd, rdr, rtr, rcl, rilen, riout, riin⟩ :=
    resetLoopC d n (j + 1) pre q0 S F hsp.1
      (by have := HvSweep.length_split hL; rw [List.length_nil] at this; omega)
      inv.shape inv.tsh.ign hnd_q
      (fun a ha => by
        have := (HvSweep.mem_ids n a).mp (inv.sub a ((hmem_q a).mp ha))
        exact ⟨Nat.ne_of_gt this.1, this.2⟩)
  rw [r1]
  dsimp only
  have hsw1 : toSw S1 = toSw S := toSw_eq_of rnx rpv
  have hign1 : ∀ y, ign S1 y = ign S y ∨ (y ∈ A ∧ ign S y < ((j + 1 : ℕ) : ℤ) ∧ ign S1 y = 0) := by
    intro y
    by_cases hy : y ∈ q0 :: pre
    · obtain ⟨e1, e2⟩ := riin y hy
      rcases lt_or_ge (ign S y) ((j + 1 : ℕ) : ℤ) with hlt | hge
      · exact Or.inr ⟨(hmem_q y).mp hy, hlt, e1 hlt⟩
      · exact Or.inl (e2 hge)
    · exact Or.inl (riout y hy)
  have Rr : AfterResetC C R d n O j A S1 :=
    { inv :=
        { inv with
          shape := shapeC_of_fields inv.shape rnx rpv
          tsh := gB_tsh_of_fields inv.tsh rar rvl rilen rdr (by rw [rbd]; exact inv.tsh.bound)
          lists := fun i hi1 hi2 => dlc_ptrEqC (ptrEqC_of_fields rnx rpv) (inv.lists i hi1 hi2)
          cv := cvc_frame (S := S) (fun a i _ => gB_ar_of_area rar a i) (fun a i _ => gB_vl_of_vol rvl a i)
            (fun i _ => by rw [rbd]) inv.cv
          ig := by
            intro y hy hm
            rcases hign1 y with e | ⟨_, _, e0⟩
            · rw [e] at hm ⊢; exact inv.ig y hy hm
            · rw [e0] at hm; exact absurd hm (by decide)
          igd := by
            intro y hm
            rw [gB_dr_of_domr rdr y]
            rcases hign1 y with e | ⟨_, _, e0⟩
            · rw [e] at hm; exact inv.igd y hm
            · rw [e0] at hm; exact absurd hm (by decide)
          dm := dmc_frame (S := S) (fun a => gB_dr_of_domr rdr a) (by rw [rbd]) inv.dm
          tree := by rw [rtr]; exact inv.tree }
      zero_or_big := by
        intro y hy
        obtain ⟨e1, e2⟩ := riin y ((hmem_q y).mpr hy)
        rcases lt_or_ge (ign S y) ((j + 1 : ℕ) : ℤ) with hlt | hge
        · exact Or.inl (e1 hlt)
        · right; rw [e2 hge]; exact hge }
  have hseg1 : HvSweep.Seg (toSw S1) (j + 1) 0 (pre ++ q0 :: []) 0 := by rw [hsw1]; exact hseg
  obtain ⟨pre', q', rs, hr2, hnodes, hstop⟩ := deleteLoopC C (j + 1) A.length pre q0 [] 0 S1
    (by rw [← hLlen, hL]; simp) hseg1
  rw [hr2]
  have hsplit : RL O (j + 1) A = pre' ++ q' :: rs.reverse := by rw [hL, hnodes]
  have hrs_len : rs.length ≤ F := by
    have := HvSweep.length_split hsplit
    rw [List.length_reverse] at this
    omega
  -- the middle part: in both cases the loop invariant holds at the start of the reinsertion loop
  have hmid : ∃ (hv : ℚ) (Tm : St),
      startR (hvRecursive C R F j) C R (j + 1) q' (pre'.length + 1) (delSeq C (j + 1) S1 rs) = some (hv, Tm) ∧
        LInvC C R d n O j A S1 (setVl Tm q' (j + 1) hv) pre' q' rs.reverse hv := by
    rcases eq_nil_or_snoc pre' with rfl | ⟨dA, p0, rfl⟩
    · refine ⟨0, areaInit C R (delSeq C (j + 1) S1 rs) q' (j + 1), ?_, linvC_start_single c j hj2 hj A S1 Rr q' rs hsplit⟩
      unfold startR
      rw [if_neg (by simp)]
    · exact linvC_start_multi c j hj2 hj F hrec A S1 Rr dA p0 q' rs hsplit (hstop dA p0 rfl)
  obtain ⟨hv, Tm, hm1, I0⟩ := hmid
  rw [hm1]
  dsimp only
  obtain ⟨q'', hv', T', d0', hr3, If⟩ := loopC_ok c j hj2 hj F hrec A S1 Rr
    rs.reverse pre' q' hv (setVl Tm q' (j + 1) hv) F I0 (by simpa using hrs_len)
  have hlen' : (pre' ++ [q']).length = pre'.length + 1 := by simp
  rw [hlen'] at hr3
  rw [hr3]
  have hfsplit : RL O (j + 1) A = d0' ++ [q''] := by have := If.split; simpa using this
  have hfmem : ∀ a, a ∈ d0' ++ [q''] ↔ a ∈ A := fun a => by rw [← hLA a, hfsplit]
  have hq''A : q'' ∈ A := (hfmem q'').mp (by simp)
  have hq''I := inv.sub q'' hq''A
  have hq''c := If.cache q'' (by simp)
  have harf : ∀ a i, ar (setBound T' (j + 1) (cg C q'' (j + 1))) a i = ar T' a i := fun _ _ => rfl
  have hvlf : ∀ a i, vl (setBound T' (j + 1) (cg C q'' (j + 1))) a i = vl T' a i := fun _ _ => rfl
  have hval : hv' + ar (setBound T' (j + 1) (cg C q'' (j + 1))) q'' (j + 1) * (rf R (j + 1) - cg C q'' (j + 1)) =
      Hj R (spt C R) (j + 1) A := by
    rw [harf, If.hvol, hq''c.1]
    have := HvSweep.Hj_of_last c.g j hj A inv.sub d0' q'' hfsplit
    rw [c.cg_tr' hq''I hj (inv.good q'' hq''A _ hj)] at this
    rw [← this]; ring
  have hptr : PtrEqC S T' := by
    have := If.ptr
    simp only [List.reverse_nil, delSeq, List.foldl_nil] at this
    exact (ptrEqC_of_fields rnx rpv).trans this
  have hptrf : PtrEqC S (setBound T' (j + 1) (cg C q'' (j + 1))) := hptr.trans (fun _ _ => ⟨rfl, rfl⟩)
  refine ⟨_, _, rfl, ?_⟩
  exact
    { val := hval
      ptr := hptrf
      inv :=
        { inv with
          shape := If.inv.shape
          tsh := gB_tsh_setBound If.inv.tsh _ _
          lists := fun i hi1 hi2 => dlc_ptrEqC hptrf (inv.lists i hi1 hi2)
          cv := by
            have hlow : CVc C R O T' (j + 1) A := cvc_congr_set hfmem If.inv.cv
            intro j' hj'1 hj'K a ha b hb hlt
            rw [harf, hvlf]
            rcases Nat.lt_or_ge (j' + 1) (j + 1) with h | h
            · rw [gB_bound_setBound_ne T' (j + 1) (j' + 1) _ (Nat.ne_of_lt h)] at hb
              exact hlow j' hj'1 h a ha b hb hlt
            · have : j' = j :=
                Nat.le_antisymm (Nat.le_of_lt_succ (Nat.lt_of_succ_lt_succ hj'K)) (Nat.le_of_succ_le_succ h)
              subst this
              exact If.cache a ((hfmem a).mpr ha)
          ig := igc_congr_set hfmem (igc_frame (S := T') (fun _ _ => rfl) If.inv.ig)
          igd := If.inv.igd
          dm := dmc_congr_set hfmem (dmc_frame (S := T') (fun _ => rfl)
            (gB_bound_setBound_ne T' (j + 1) 2 _ (Nat.ne_of_lt (Nat.lt_succ_of_le hj2))) If.inv.dm)
          tree := If.inv.tree }
      ign_out := by
        intro y hy
        show ign T' y = _
        rw [If.f_ign y hy]
        exact riout y (fun h => hy ((hmem_q y).mp h))
      dr_out := by
        intro y hy
        show dr T' y = _
        rw [If.f_dr y hy]
        exact gB_dr_of_domr rdr y
      cache_hi := by
        intro a i hi
        obtain ⟨e1, e2⟩ := If.f_hi a i hi
        rw [harf, hvlf]
        exact ⟨e1.trans (gB_ar_of_area rar a i), e2.trans (gB_vl_of_vol rvl a i)⟩
      bound_hi := by
        intro i hi
        rw [gB_bound_setBound_ne T' (j + 1) i _ (Nat.ne_of_gt hi), If.f_bhi i hi.le, rbd] }

end ctx

theorem generalStep_ok : GeneralStep_Statement := by
  intro C R d n O F j c hF hj2 hj hrec S A inv hlenA
  obtain ⟨k, rfl⟩ : ∃ k, j = k + 2 := ⟨j - 2, by omega⟩
  rw [hvRecursive_general]
  obtain ⟨v, S', hrun, post⟩ := generalC_full c (k + 2) hj2 hj F hF hrec (tick S (k + 2 + 1)) A
    (invC_tick inv _) hlenA
  exact ⟨v, S', hrun, postC_tick _ post⟩

end HvC
