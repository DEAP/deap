import DeapModel.Lemmas.C15Gen3
/-!
C15 — the general case of `hvRecursive` (level `j + 1 ≥ 2`): the area step.
-/
namespace HvSweep

theorem tshape_setAr {dims n : ℕ} {S : St} (h : TShape dims n S) (a i : ℕ) (v : ℚ) : TShape dims n (setAr S a i v) :=
  ⟨shaped_tset h.1 a i v, h.2.1, h.2.2⟩
theorem tshape_setVl {dims n : ℕ} {S : St} (h : TShape dims n S) (a i : ℕ) (v : ℚ) : TShape dims n (setVl S a i v) :=
  ⟨h.1, shaped_tset h.2.1 a i v, h.2.2⟩
theorem tshape_setIgn {dims n : ℕ} {S : St} (h : TShape dims n S) (a v : ℕ) : TShape dims n (setIgn S a v) :=
  ⟨h.1, h.2.1, by show (S.ignore.set a v).length = _; rw [List.length_set]; exact h.2.2⟩
theorem tshape_of_fields {dims n : ℕ} {S T : St} (h : TShape dims n S) (h1 : T.area = S.area) (h2 : T.volume = S.volume)
    (h3 : T.ignore = S.ignore) : TShape dims n T := by
  unfold TShape; rw [h1, h2, h3]; exact h

theorem ar_setAr_self' {dims n : ℕ} {S : St} (h : TShape dims n S) {a i : ℕ} (ha : a ≤ n) (hi : i < dims) (v : ℚ) :
    ar (setAr S a i v) a i = v := by
  exact tget_tset_self _ _ _ _ _ (by rw [h.1.1]; omega) (by rw [h.1.2 a (by omega)]; exact hi)

theorem vl_setVl_self' {dims n : ℕ} {S : St} (h : TShape dims n S) {a i : ℕ} (ha : a ≤ n) (hi : i < dims) (v : ℚ) :
    vl (setVl S a i v) a i = v := by
  exact tget_tset_self _ _ _ _ _ (by rw [h.2.1.1]; omega) (by rw [h.2.1.2 a (by omega)]; exact hi)

section ctx
variable {C : Cargo} {dims n : ℕ} {O : ℕ → List ℕ} {pt : ℕ → List ℚ} {ref : List ℚ}

theorem inv_setAr {S : St} {k : ℕ} {A : List ℕ} (inv : Inv C dims n O pt ref S k A) (a i : ℕ) (hi : k < i) (v : ℚ) :
    Inv C dims n O pt ref (setAr S a i v) k A :=
  { inv with
    tshape := tshape_setAr inv.tshape _ _ _
    lists := fun i' hi' => dl_ptrEq (S := S) (fun _ _ => ⟨rfl, rfl⟩) (inv.lists i' hi')
    cv := cv_frame (S := S) (fun b i' hi' => ar_setAr_ne S a i b i' _ (Or.inr (by omega)))
      (fun _ _ _ => rfl) (fun _ _ => rfl) inv.cv }

theorem inv_setVl {S : St} {k : ℕ} {A : List ℕ} (inv : Inv C dims n O pt ref S k A) (a i : ℕ) (hi : k < i) (v : ℚ) :
    Inv C dims n O pt ref (setVl S a i v) k A :=
  { inv with
    tshape := tshape_setVl inv.tshape _ _ _
    lists := fun i' hi' => dl_ptrEq (S := S) (fun _ _ => ⟨rfl, rfl⟩) (inv.lists i' hi')
    cv := cv_frame (S := S) (fun _ _ _ => rfl)
      (fun b i' hi' => vl_setVl_ne S a i b i' _ (Or.inr (by omega))) (fun _ _ => rfl) inv.cv }

/-- **the area step** (l.154-162 / l.177-182) for the node `p` just (re)inserted after `q`: its area cache gets the
ideal value — copied from `q` when `p` is marked dominated, computed by the level below otherwise -/
theorem area_step_ok (g : GCtx C dims n O pt ref) (j : ℕ) (hj1 : 1 ≤ j) (hj : j + 1 < dims) (F : ℕ)
    (hrec : LevelOK C dims n O pt ref F j) (A : List ℕ) (hA : ∀ a ∈ A, a ∈ ids n)
    (d0 : List ℕ) (q p : ℕ) (todo : List ℕ) (hsplit : RL O (j + 1) A = d0 ++ q :: p :: todo)
    (T : St) (inv : Inv C dims n O pt ref T j (d0 ++ [q] ++ [p]))
    (hpv : pv T (j + 1) p = q) (hq : ar T q (j + 1) = ARv ref pt O j A q)
    (hmark : ign T p = 0 ∨ (j + 1 ≤ ign T p ∧ ∃ b ∈ A, Dom C O (ign T p) b p)) :
    ∃ T', areaStep (hvRecursive C F j) (j + 1) (d0 ++ [q] ++ [p]).length p T = some T' ∧ PtrEq T T' ∧
      Inv C dims n O pt ref T' j (d0 ++ [q] ++ [p]) ∧ ar T' p (j + 1) = ARv ref pt O j A p ∧
      (∀ y, y ∉ d0 ++ [q] ++ [p] → y ≠ 0 → ign T' y = ign T y) ∧
      (∀ a i, j < i → (a ≠ p ∨ i ≠ j + 1) → ar T' a i = ar T a i) ∧
      (∀ a i, j < i → vl T' a i = vl T a i) ∧
      (∀ i, j < i → T'.bounds.getD i none = T.bounds.getD i none) := by
  have hpL : p ∈ RL O (j + 1) A := by rw [hsplit]; simp
  have hpA : p ∈ A := ((mem_RL O (j + 1) A p).mp hpL).2
  have hpn : p ≤ n := ((mem_ids n p).mp (hA p hpA)).2
  have hsplit' : RL O (j + 1) A = (d0 ++ [q]) ++ p :: todo := by rw [hsplit]; simp
  obtain ⟨hp1, _⟩ := pos_lt_of_split O (j + 1) (g.nodup hj) (RL O (j + 1) A) (d0 ++ [q]) todo p
    (RL_sublist O (j + 1) A) hsplit'
  unfold areaStep
  by_cases hign : j + 1 ≤ ign T p
  · -- p is marked: copy the area of q
    rw [if_pos hign, hpv, hq]
    obtain ⟨b, hbA, hdom⟩ : ∃ b ∈ A, Dom C O (ign T p) b p := by
      rcases hmark with h0 | ⟨_, h⟩
      · rw [h0] at hign; exact absurd hign (Nat.not_succ_le_zero j)
      · exact h
    have hAR : ARv ref pt O j A p = ARv ref pt O j A q :=
      ARv_of_dominated g j hj A hA d0 todo q p hsplit b (ign T p) hbA hign hdom
    refine ⟨_, rfl, fun _ _ => ⟨rfl, rfl⟩, ?_, ?_, fun _ _ _ => rfl, ?_, fun _ _ _ => rfl, fun _ _ => rfl⟩
    · exact inv_setAr inv p (j + 1) (Nat.lt_succ_self j) _
    · rw [ar_setAr_self' inv.tshape hpn hj, hAR]
    · intro a i hi hne
      exact ar_setAr_ne T p (j + 1) a i _ hne
  · -- p is not marked: the level below computes the area of the nodes present
    rw [if_neg hign]
    obtain ⟨v, T1, hrun, post⟩ := hrec T (d0 ++ [q] ++ [p]) inv (by simp)
    rw [hrun]
    dsimp only
    have hv : v = ARv ref pt O j A p := post.val.trans (ARv_of_split g hj hA hsplit').symm
    have inv2 := inv_setAr post.inv p (j + 1) (Nat.lt_succ_self j) v
    have har2 : ar (setAr T1 p (j + 1) v) p (j + 1) = ARv ref pt O j A p := by
      rw [ar_setAr_self' post.inv.tshape hpn hj, hv]
    have hpe2 : PtrEq T (setAr T1 p (j + 1) v) := post.ptr.trans (fun _ _ => ⟨rfl, rfl⟩)
    have far2 : ∀ a i, j < i → (a ≠ p ∨ i ≠ j + 1) → ar (setAr T1 p (j + 1) v) a i = ar T a i :=
      fun a i hi hne => (ar_setAr_ne T1 p (j + 1) a i _ hne).trans (post.cache_hi a i hi).1
    rw [Nat.add_sub_cancel]
    by_cases hprom : ign (setAr T1 p (j + 1) v) p = j
    · -- promotion: dominated in the coordinates below, and last in this one
      rw [if_pos hprom]
      have e1 : ign T1 p = j := hprom
      obtain ⟨b, hbB, hdom⟩ := post.inv.ig p (List.mem_append_right _ (List.mem_singleton_self p)) (e1.symm ▸ hj1)
      rw [e1] at hdom
      have hbpos : pos O (j + 1) b < pos O (j + 1) p :=
        hp1 b ((List.mem_append.mp hbB).resolve_right (fun h => hdom.1 (List.mem_singleton.mp h)))
      refine ⟨_, rfl, hpe2.trans (fun _ _ => ⟨rfl, rfl⟩), ?_, har2, fun y hy hy0 => ?_, far2,
        fun a i hi => (post.cache_hi a i hi).2, post.bounds_hi⟩
      · exact
          { inv2 with
            tshape := tshape_setIgn inv2.tshape _ _
            lists := fun i hi => dl_ptrEq (S := setAr T1 p (j + 1) v) (fun _ _ => ⟨rfl, rfl⟩) (inv2.lists i hi)
            ig := by
              intro y hy hm
              by_cases hyp : y = p
              · subst hyp
                rw [ign_setIgn_self _ y (j + 1) (by rw [inv2.tshape.2.2]; exact Nat.lt_succ_of_le hpn)]
                exact ⟨b, hbB, dom_succ hdom hbpos⟩
              · rw [ign_setIgn_ne _ p (j + 1) y hyp] at hm ⊢
                exact inv2.ig y hy hm }
      · rw [ign_setIgn_ne _ p (j + 1) y (fun e => hy (by simp [e]))]
        exact post.ign_out y hy hy0
    · rw [if_neg hprom]
      exact ⟨_, rfl, hpe2, inv2, har2, post.ign_out, far2, fun a i hi => (post.cache_hi a i hi).2, post.bounds_hi⟩

end ctx

end HvSweep
