/-
C08 — what holds of the archive model `Core/Archive.lean` for every scalar type, with no order on it: the loops are
option folds (`foldOpt`, with the invariant rule `foldOpt_inv` every history theorem rests on), the list primitives and
`pyIndex`, the bounds of `bisect_right`'s loop, and `Len` (`len(keys) = len(items)`), which every operation keeps.
Mathlib-free.  The namespace is `Gen08L` because the translator tie (`C08Gen.lean`, `GenEq/C08.lean.tmpl`) states its
theorems with these names.
-/
import DeapModel.Core.Archive
import DeapModel.Lemmas.ListCore

set_option linter.unusedSectionVars false

namespace Gen08L
open Archive Fitness

variable {G α : Type} [LT α] [LE α] [DecidableEq α] [DecidableLT α] [DecidableLE α]
variable {β σ : Type}

def Len (h : HoF G α) : Prop := h.keys.length = h.items.length

/-- The shape of every loop of `Core/Archive.lean` (`updateLoop_eq`, `pfUpdate_eq`, `removeAll_eq`): an iteration that
may raise, folded over a list. -/
def foldOpt (f : σ → β → Option σ) : σ → List β → Option σ
  | s, [] => some s
  | s, x :: xs =>
    match f s x with
    | none => none
    | some s' => foldOpt f s' xs

theorem foldOpt_append (f : σ → β → Option σ) (s : σ) (xs ys : List β) :
    foldOpt f s (xs ++ ys) = (foldOpt f s xs).bind (fun s' => foldOpt f s' ys) := by
  induction xs generalizing s with
  | nil => rfl
  | cons x xs ih =>
    simp only [List.cons_append, foldOpt]
    cases f s x with
    | none => rfl
    | some s' => exact ih s'

/-- Invariants indexed by the elements consumed so far: `S` makes every iteration succeed, `P` is kept by the
iterations that succeed. -/
theorem foldOpt_inv {f : σ → β → Option σ} {S P : List β → σ → Prop}
    (hS : ∀ seen s x, S seen s → ∃ s', f s x = some s' ∧ S (seen ++ [x]) s')
    (hP : ∀ seen s x s', S seen s → P seen s → f s x = some s' → P (seen ++ [x]) s') :
    ∀ (l seen : List β) (s : σ), S seen s → P seen s →
      ∃ s', foldOpt f s l = some s' ∧ S (seen ++ l) s' ∧ P (seen ++ l) s' := by
  intro l
  induction l with
  | nil => intro seen s hs hp; exact ⟨s, rfl, by simpa using hs, by simpa using hp⟩
  | cons x xs ih =>
    intro seen s hs hp
    obtain ⟨s1, e1, hs1⟩ := hS seen s x hs
    obtain ⟨s2, e2, h2⟩ := ih (seen ++ [x]) s1 hs1 (hP seen s x s1 hs hp e1)
    refine ⟨s2, by simp only [foldOpt, e1, e2], ?_⟩
    simpa using h2

theorem foldOpt_inv_some {f : σ → β → Option σ} {S P : List β → σ → Prop}
    (hS : ∀ seen s x, S seen s → ∃ s', f s x = some s' ∧ S (seen ++ [x]) s')
    (hP : ∀ seen s x s', S seen s → P seen s → f s x = some s' → P (seen ++ [x]) s')
    {l seen : List β} {s s' : σ} (hs : S seen s) (hp : P seen s) (e : foldOpt f s l = some s') :
    S (seen ++ l) s' ∧ P (seen ++ l) s' := by
  obtain ⟨s1, e1, h⟩ := foldOpt_inv hS hP l seen s hs hp
  cases e1.symm.trans e
  exact h

theorem updateLoop_eq (sim : Ind G α → Ind G α → Bool) (p0 : Ind G α) :
    ∀ (l : List (Ind G α)) (h : HoF G α), updateLoop sim p0 h l = foldOpt (Archive.step sim p0) h l := by
  intro l
  induction l with
  | nil => intro h; rfl
  | cons x xs ih =>
    intro h
    simp only [updateLoop, foldOpt]
    cases Archive.step sim p0 h x <;> simp [ih]

theorem pfUpdate_eq (sim : Ind G α → Ind G α → Bool) :
    ∀ (l : List (Ind G α)) (h : HoF G α), pfUpdate sim h l = foldOpt (pfStep sim) h l := by
  intro l
  induction l with
  | nil => intro h; rfl
  | cons x xs ih =>
    intro h
    simp only [pfUpdate, foldOpt]
    cases pfStep sim h x <;> simp [ih]

theorem removeAll_eq : ∀ (l : List Nat) (h : HoF G α),
    removeAll h l = foldOpt (fun h i => remove h (Int.ofNat i)) h l := by
  intro l
  induction l with
  | nil => intro h; rfl
  | cons x xs ih =>
    intro h
    simp only [removeAll, foldOpt]
    cases remove h (x : Int) <;> simp [ih]

theorem length_insertAt (l : List β) (i : Nat) (a : β) : (Py.insertAt l i a).length = l.length + 1 := by
  rw [Py.insertAt, List.length_append, List.length_cons, List.length_take, List.length_drop]; omega

theorem length_removeAt (l : List β) (k : Nat) (hk : k < l.length) : (Py.removeAt l k).length = l.length - 1 := by
  rw [Py.removeAt, List.length_append, List.length_take, List.length_drop]; omega

theorem pyIndex_lt {len : Nat} {i : Int} {j : Nat} (h : pyIndex len i = some j) : j < len := by
  unfold pyIndex at h
  split at h <;> split at h <;> simp at h <;> omega

theorem pyIndex_nat {len k : Nat} (hk : k < len) : pyIndex len (k : Int) = some k := by
  simp [pyIndex]; omega

theorem pyIndex_neg_one {len : Nat} (hl : 0 < len) : pyIndex len (-1) = some (len - 1) := by
  simp [pyIndex]; omega

theorem key_pos (len : Nat) (hl : len ≠ 0) (index : Int) :
    Int.ofNat len - (index % (len : Int) + 1) = Int.ofNat (len - ((index % (len : Int)).toNat + 1))
    ∧ len - ((index % (len : Int)).toNat + 1) < len := by
  have hpos : (0 : Int) < (len : Int) := by omega
  have h0 := Int.emod_nonneg index (Int.ne_of_gt hpos)
  have h1 := Int.emod_lt_of_pos index hpos
  constructor
  · simp only [Int.ofNat_eq_natCast]; omega
  · omega

theorem mid_fuel {lo hi fuel : Nat} (h : lo < hi) (hf : hi < lo + (fuel + 1)) :
    (lo + hi) / 2 < lo + fuel ∧ hi < (lo + hi) / 2 + 1 + fuel := by omega

theorem bisectLoop_le (a : List (Fit α)) (x : Fit α) :
    ∀ fuel lo hi, lo ≤ hi → bisectLoop a x fuel lo hi ≤ hi := by
  intro fuel
  induction fuel with
  | zero => intro lo hi h; exact h
  | succ n ih =>
    intro lo hi h
    unfold bisectLoop
    by_cases hlt : lo < hi
    · rw [if_pos hlt]
      obtain ⟨hm1, hm2⟩ := Nat.mid_bounds hlt
      dsimp only
      cases a[(lo + hi) / 2]? with
      | none => exact h
      | some y =>
        dsimp only
        by_cases hx : x < y
        · rw [if_pos hx]; exact Nat.le_trans (ih lo _ hm1) (Nat.le_of_lt hm2)
        · rw [if_neg hx]; exact ih _ hi hm2
    · rw [if_neg hlt]; exact h

theorem bisectRight_le (a : List (Fit α)) (x : Fit α) : Archive.bisectRight a x ≤ a.length :=
  bisectLoop_le a x _ 0 a.length (Nat.zero_le _)

theorem Len_insert {h : HoF G α} (hl : Len h) (x : Ind G α) : Len (Archive.insert h x) := by
  simp only [Len, Archive.insert, length_insertAt] at *
  omega

theorem Len_remove {h h' : HoF G α} {i : Int} (hl : Len h) (hr : remove h i = some h') : Len h' := by
  unfold remove at hr
  by_cases hne : h.items.length = 0
  · rw [if_pos hne] at hr; cases hr
  · rw [if_neg hne] at hr
    cases hj : pyIndex h.items.length i with
    | none => rw [hj] at hr; cases hr
    | some j =>
      rw [hj] at hr
      cases hr
      have hj' := pyIndex_lt hj
      have hk := (key_pos h.items.length hne i).2
      simp only [Len] at *
      rw [length_removeAt _ _ (by omega), length_removeAt _ _ hj']
      omega

theorem step_result {sim : Ind G α → Ind G α → Bool} {p0 x : Ind G α} {h h' : HoF G α}
    (hs : Archive.step sim p0 h x = some h') :
    (h' = h ∧ h.items ≠ []) ∨
      ∃ h1, (h1 = h ∨ remove h (-1) = some h1) ∧ ∃ y, h' = Archive.insert h1 y := by
  unfold Archive.step at hs
  by_cases hc : h.items.length = 0 ∧ h.maxsize ≠ 0
  · rw [if_pos hc] at hs
    exact Or.inr ⟨h, Or.inl rfl, p0, (Option.some.inj hs).symm⟩
  · rw [if_neg hc] at hs
    cases hw : h.items.getLast? with
    | none => rw [hw] at hs; cases hs
    | some worst =>
      have hne : h.items ≠ [] := fun e => by rw [e] at hw; cases hw
      have keep : some h = some h' → (h' = h ∧ h.items ≠ []) ∨
          ∃ h1, (h1 = h ∨ remove h (-1) = some h1) ∧ ∃ y, h' = Archive.insert h1 y :=
        fun e => Or.inl ⟨(Option.some.inj e).symm, hne⟩
      rw [hw] at hs
      dsimp only at hs
      by_cases ha : (Fitness.gt x.fit worst.fit || decide (h.items.length < h.maxsize)) = true
      · rw [if_pos ha] at hs
        by_cases hs' : (h.items.any fun hofer => sim x hofer) = true
        · rw [if_pos hs'] at hs; exact keep hs
        · rw [if_neg hs'] at hs
          by_cases hf : h.items.length ≥ h.maxsize
          · rw [if_pos hf] at hs
            cases hr : remove h (-1) with
            | none => rw [hr] at hs; cases hs
            | some h1 =>
              rw [hr] at hs
              exact Or.inr ⟨h1, Or.inr rfl, x, (Option.some.inj hs).symm⟩
          · rw [if_neg hf] at hs
            exact Or.inr ⟨h, Or.inl rfl, x, (Option.some.inj hs).symm⟩
      · rw [if_neg ha] at hs; exact keep hs

theorem Len_step {sim : Ind G α → Ind G α → Bool} {p0 : Ind G α} {h h' : HoF G α} {x : Ind G α}
    (hl : Len h) (hs : Archive.step sim p0 h x = some h') : Len h' := by
  rcases step_result hs with ⟨rfl, _⟩ | ⟨h1, rfl | hr, y, rfl⟩
  · exact hl
  · exact Len_insert hl y
  · exact Len_insert (Len_remove hl hr) y

theorem Len_removeAll : ∀ {l : List Nat} {h h' : HoF G α}, Len h → removeAll h l = some h' → Len h'
  | [], _, _, hl, hr => Option.some.inj hr ▸ hl
  | i :: l, h, h', hl, hr => by
    rw [removeAll] at hr
    cases hx : remove h (i : Int) with
    | none => rw [hx] at hr; cases hr
    | some h1 => rw [hx] at hr; exact Len_removeAll (Len_remove hl hx) hr

theorem Len_pfStep {sim : Ind G α → Ind G α → Bool} {h h' : HoF G α} {x : Ind G α}
    (hl : Len h) (hs : pfStep sim h x = some h') : Len h' := by
  unfold pfStep at hs
  dsimp only at hs
  cases hr : removeAll h (scan sim x h.items 0 {}).toRemove.reverse with
  | none => rw [hr] at hs; cases hs
  | some h1 =>
    rw [hr] at hs
    cases hs
    have := Len_removeAll hl hr
    by_cases hc : (!(scan sim x h.items 0 {}).isDominated && !(scan sim x h.items 0 {}).hasTwin) = true
    · rw [if_pos hc]; exact Len_insert this _
    · rw [if_neg hc]; exact this

end Gen08L
