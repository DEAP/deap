import DeapModel.Lemmas.C15Gen2
/-!
C15 — level 1 of the sweep (the 2-D staircase) satisfies the level interface: value, ignore marks, frames.
-/
namespace HvSweep
open Hypervolume

section ctx
variable {C : Cargo} {dims n : ℕ} {O : ℕ → List ℕ} {pt : ℕ → List ℚ} {ref : List ℚ}

/-- the 2-D loop keeps the ignore marks sound: a node is marked only when an earlier node of the list has a
smaller or equal first coordinate -/
theorem markNodes_ig (g : GCtx C dims n O pt ref) (h1d : 1 < dims) (A : List ℕ) (hA : ∀ a ∈ A, a ∈ ids n) :
    ∀ (l : List ℕ) (h : ℚ) (S : St) (done : List ℕ), RL O 1 A = done ++ l → (∃ w ∈ done, cg C w 0 = h) →
      S.ignore.length = n + 1 → IG C O S A → IG C O (markNodes C l h S) A
  | [], _, _, _, _, _, _, hig => hig
  | p :: l, h, S, done, hL, hw, hlen, hig => by
    have hL' : RL O 1 A = (done ++ [p]) ++ l := by rw [hL]; simp
    unfold markNodes
    by_cases hlt : cg C p 0 < h
    · rw [if_pos hlt]
      exact markNodes_ig g h1d A hA l _ S (done ++ [p]) hL' ⟨p, by simp, rfl⟩ hlen hig
    · rw [if_neg hlt]
      obtain ⟨w, hwd, hwh⟩ := hw
      refine markNodes_ig g h1d A hA l h _ (done ++ [p]) hL' ⟨w, List.mem_append_left _ hwd, hwh⟩ ?_ ?_
      · split
        · show (S.ignore.set p 1).length = _
          rw [List.length_set]; exact hlen
        · exact hlen
      · by_cases h0 : ign S p = 0
        · -- `p` gets the mark 1: the node `w` that set the running minimum is its witness
          rw [if_pos h0]
          have hpA : p ∈ A := ((mem_RL O 1 A p).mp (by rw [hL]; simp)).2
          have hpn : p ≤ n := ((mem_ids n p).mp (hA p hpA)).2
          have hwL : w ∈ RL O 1 A := by rw [hL]; exact List.mem_append_left _ hwd
          obtain ⟨hp1, _⟩ := pos_lt_of_split O 1 (g.nodup h1d) (RL O 1 A) done l p (RL_sublist O 1 A) hL
          intro y hy hm
          by_cases hyp : y = p
          · subst hyp
            rw [ign_setIgn_self S y 1 (by rw [hlen]; omega)]
            refine ⟨w, ((mem_RL O 1 A w).mp hwL).2, fun e => ?_, by rw [hwh]; exact not_lt.mp hlt, fun j hj1 hj2 => ?_⟩
            · have := hp1 w hwd
              rw [e] at this; omega
            · obtain rfl : j = 1 := by omega
              exact hp1 w hwd
          · rw [ign_setIgn_ne S p 1 y hyp] at hm ⊢
            exact hig y hy hm
        · rw [if_neg h0]; exact hig

theorem take2_pt (p : List ℚ) (h : 2 ≤ p.length) : p.take 2 = toPt (p.getD 0 0, p.getD 1 0) := by
  match p, h with
  | a :: b :: t, _ => rfl

theorem take2_ref (r : List ℚ) (h : 2 ≤ r.length) : r.take 2 = [r.getD 0 0, r.getD 1 0] := by
  match r, h with
  | a :: b :: t, _ => rfl

/-- **The 2-D base case on any well-formed state**: `hvRecursive(1, len, ·)` returns the area dominated by the
nodes of the list of dimension 1 (sorted by the second coordinate) and leaves the state `markNodes` describes. -/
theorem level1_value {n : ℕ} (C : Cargo) (r₁ r₂ : ℚ) (XY : ℕ → ℚ × ℚ) (fuel : ℕ) (S : St) (a : ℕ) (l : List ℕ)
    (len : ℕ) (hlen : len ≠ 0) (hd : DL n S 1 (a :: l)) (hf : l.length ≤ fuel)
    (hcg : ∀ k ∈ a :: l, cg C k 0 = (XY k).1 - r₁ ∧ cg C k 1 = (XY k).2 - r₂)
    (hsorted : (a :: l).Pairwise (fun a b => cg C a 1 ≤ cg C b 1))
    (hle : ∀ k ∈ a :: l, (XY k).1 ≤ r₁ ∧ (XY k).2 ≤ r₂) :
    hvRecursive C fuel 1 len S
      = some (hvCells [r₁, r₂] (((a :: l).map XY).map toPt), markNodes C l (cg C a 0) (tick S 1)) := by
  have hdT : DL n (tick S 1) 1 (a :: l) := dl_ptrEq (S := S) (fun _ _ => ⟨rfl, rfl⟩) hd
  have hnx0 : nx (tick S 1) 1 0 = a := hdT.1.1.1
  rw [hvRecursive_one C fuel hlen S, hnx0, loop2d_run C l fuel a (cg C a 0) 0 (tick S 1) hf hdT.1.2
    (fun p hp h0 => dl_zero_notMem hd (h0 ▸ List.mem_cons_of_mem _ hp))]
  dsimp only
  rw [stairNodes_XY C r₁ r₂ XY l a (cg C a 0) 0 hcg, (hcg a (by simp)).1,
    stairXY_eq_hvCells r₁ r₂ (XY a) (l.map XY) ?_ (hle a (by simp)).1 ?_]
  · rfl
  · rw [← List.map_cons, List.pairwise_map]
    refine List.Pairwise.imp_of_mem ?_ hsorted
    intro x y hx hy hxy
    rw [(hcg x hx).2, (hcg y hy).2] at hxy
    linarith
  · rw [← List.map_cons]
    intro q hq
    obtain ⟨k, hk, rfl⟩ := List.mem_map.mp hq
    exact (hle k hk).2

theorem level1_ok (g : GCtx C dims n O pt ref) (h2 : 2 ≤ dims) (F : ℕ) (hF : n + 1 ≤ F) :
    LevelOK C dims n O pt ref F 1 := by
  intro S A inv hne
  have h1d : 1 < dims := by omega
  have hperm := RL_perm g h1d A inv.nodup inv.sub
  have hlenA : A.length ≠ 0 := fun h => hne (List.length_eq_zero_iff.mp h)
  have hd1 := inv.lists 1 (le_refl _)
  have hLI : ∀ a ∈ RL O 1 A, a ∈ ids n := fun a ha => inv.sub a ((mem_RL O 1 A a).mp ha).2
  have hsorted := RL_sorted g h1d A
  cases hLc : RL O 1 A with
  | nil => rw [hLc] at hperm; exact absurd hperm.symm.eq_nil hne
  | cons a l =>
    rw [hLc] at hd1 hLI hsorted
    let XY : ℕ → ℚ × ℚ := fun a => ((pt a).getD 0 0, (pt a).getD 1 0)
    have hrun := level1_value C (ref.getD 0 0) (ref.getD 1 0) XY F S a l A.length hlenA hd1
      (by have := dl_length_le hd1; simp at this; omega)
      (fun k hk => ⟨g.cgv k (hLI k hk) 0 (by omega), g.cgv k (hLI k hk) 1 h1d⟩) hsorted
      (fun k hk => ⟨g.le k (hLI k hk) 0 (by omega), g.le k (hLI k hk) 1 h1d⟩)
    have hfield : ∀ {α : Type} (f : St → α), (∀ S a v, f (setIgn S a v) = f S) → (∀ S m, f (tick S m) = f S) →
        f (markNodes C l (cg C a 0) (tick S 1)) = f S :=
      fun f hf ht => (markNodes_field f hf C l _ _).trans (ht S 1)
    have hpe : PtrEq S (markNodes C l (cg C a 0) (tick S 1)) :=
      (show PtrEq S (tick S 1) from fun _ _ => ⟨rfl, rfl⟩).trans (markNodes_ptrEq C l _ _)
    have hAr := hfield (·.area) (fun _ _ _ => rfl) (fun _ _ => rfl)
    have hVo := hfield (·.volume) (fun _ _ _ => rfl) (fun _ _ => rfl)
    have hBo := hfield (·.bounds) (fun _ _ _ => rfl) (fun _ _ => rfl)
    refine ⟨_, _, hrun, ?_⟩
    have hval : hvCells [ref.getD 0 0, ref.getD 1 0] (((a :: l).map XY).map toPt) = Hj ref pt 1 A := by
      unfold Hj
      have hrl : 2 ≤ ref.length := by rw [g.hdims]; exact h2
      rw [← hvCells_take (ref.take (1 + 1)) (A.map pt), take2_ref ref hrl, List.map_map, List.map_map, ← hLc]
      refine (hvCells_of_perm _ (hperm.map _)).trans (congrArg _ (List.map_congr_left fun k hk => ?_))
      have : (pt k).length = dims := g.len k (inv.sub k hk)
      exact (take2_pt (pt k) (by omega)).symm
    exact
      { val := hval
        ptr := hpe
        inv := inv_of_marks inv (hfield (·.next) (fun _ _ _ => rfl) (fun _ _ => rfl))
          (hfield (·.prev) (fun _ _ _ => rfl) (fun _ _ => rfl)) hAr hVo hBo
          ((hfield (fun S => S.ignore.length) (fun S a v => List.length_set) (fun _ _ => rfl)).trans inv.tshape.2.2)
          (markNodes_ig g h1d A inv.sub l _ _ [a] (by rw [hLc]; rfl) ⟨a, by simp, rfl⟩ inv.tshape.2.2
            (ig_frame (S := S) (fun _ _ => rfl) inv.ig))
        ign_out := fun y hy _ => ign_markNodes_of_notMem C l _ _ y
          (fun h => hy ((mem_RL O 1 A y).mp (by rw [hLc]; exact List.mem_cons_of_mem _ h)).2)
        cache_hi := fun a i _ => ⟨ar_of_area hAr a i, vl_of_volume hVo a i⟩
        bounds_hi := fun i _ => by rw [hBo] }

end ctx

end HvSweep
