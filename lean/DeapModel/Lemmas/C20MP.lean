/-
C20 — the moving-peaks model (`Core/MovingPeaks.lean`) on its tape of random draws: the requests a computation makes
to the random source (`Req`, `Serves`), the statement "started on `t` it reads exactly `reqs` and yields a value with
`Q`" (`Run`) proved once for each function of `changePeaks`, and what follows from it: the number of peaks, their
functions and dimensions after a change, totality on tapes that serve the requests, the number of draws consumed.
The vocabulary of the property statements (`DimOK`, `Serves`, `changeReqs`, `newLen`, `ServesTimes`) is defined here.
At the end, over ℝ: `max(possible_values)`, `min`, the distance of a peak to itself, `globalMaximum`, the sorted
`maximums`, and the centroid of equal individuals (`diversity(population)`).
-/
import DeapModel.Lemmas.C20Real
import DeapModel.Core.MovingPeaks

-- `Serves`, `Run`, the request lists … are declared under `[RealLike α]` and do not use the instance
set_option linter.unusedSectionVars false

namespace C20L
open MovingPeaks

variable {α : Type} [RealLike α]

def FromPool (pool : List PFunc) (peaks : List (Peak α)) : Prop := ∀ p ∈ peaks, p.fn ∈ pool

/-- a request `changePeaks` makes to its random source -/
inductive Req where
  | random | uniform | gauss
  | randrange (n : Nat)     -- `randrange(n)`: any index below `n`
  | choice (n : Nat)        -- `choice(seq)` with `len(seq) = n`
  deriving DecidableEq, Repr

/-- the draw answers the request: right kind, index in range -/
def kindOK : Req → Draw α → Prop
  | .random, .random _ => True
  | .uniform, .uniform _ => True
  | .gauss, .gauss _ => True
  | .randrange n, .randrange i => i < n
  | .choice n, .choice i => i < n
  | _, _ => False

/-- the tape answers the requests in order (it may be longer) -/
def Serves : List Req → Tape α → Prop
  | [], _ => True
  | _ :: _, [] => False
  | r :: rs, d :: t => kindOK r d ∧ Serves rs t

theorem serves_append (a b : List Req) (t : Tape α) :
    Serves (a ++ b) t ↔ Serves a t ∧ Serves b (t.drop a.length) := by
  induction a generalizing t with
  | nil => simp [Serves]
  | cons r rs ih =>
    cases t with
    | nil => simp [Serves]
    | cons d t => simp only [List.cons_append, Serves, List.length_cons, List.drop_succ_cons, ih, and_assoc]

theorem serves_length (a : List Req) (t : Tape α) (h : Serves a t) : a.length ≤ t.length := by
  induction a generalizing t with
  | nil => simp
  | cons r rs ih =>
    cases t with
    | nil => simp [Serves] at h
    | cons d t => simp only [List.length_cons]; have := ih t h.2; omega

/-- the per-peak invariant of the class: position and last change vector have `dim` coordinates -/
def DimOK (dim : Nat) (peaks : List (Peak α)) : Prop := ∀ p ∈ peaks, p.pos.length = dim ∧ p.last.length = dim

def removeReqs (len n : Nat) : List Req := (List.range n).map fun j => Req.randrange (len - j)

theorem removeReqs_succ (len n : Nat) :
    removeReqs len (n + 1) = Req.randrange len :: removeReqs (len - 1) n := by
  simp only [removeReqs, List.range_succ_eq_map, List.map_cons, List.map_map, Nat.sub_zero]
  congr 1
  apply List.map_congr_left
  intro j _
  simp only [Function.comp]; congr 1; omega

theorem removeReqs_length (len n : Nat) : (removeReqs len n).length = n := by simp [removeReqs]

/-- the requests of one iteration of the addition loop -/
def addBlock (cfg : Config α) : List Req :=
  Req.choice cfg.pool.length :: (List.replicate cfg.dim Req.uniform ++
    (Req.uniform :: Req.uniform :: List.replicate cfg.dim Req.random))

theorem addBlock_length (cfg : Config α) : (addBlock cfg).length = 2 * cfg.dim + 3 := by
  simp [addBlock]; omega

def addReqs (cfg : Config α) (n : Nat) : List Req := (List.replicate n (addBlock cfg)).flatten

theorem addReqs_length (cfg : Config α) (n : Nat) : (addReqs cfg n).length = n * (2 * cfg.dim + 3) := by
  simp [addReqs, List.length_flatten, addBlock_length]

theorem addReqs_succ (cfg : Config α) (m : Nat) : addReqs cfg (m + 1) = Req.choice cfg.pool.length ::
    (List.replicate cfg.dim Req.uniform ++ ([Req.uniform] ++ ([Req.uniform] ++
      (List.replicate cfg.dim Req.random ++ addReqs cfg m)))) := by
  simp [addReqs, addBlock, List.replicate_succ]

def peakReqs (dim : Nat) : List Req := List.replicate dim Req.random ++ [Req.gauss, Req.gauss]

theorem peakReqs_length (dim : Nat) : (peakReqs dim).length = dim + 2 := by simp [peakReqs]

def allReqs (dim m : Nat) : List Req := (List.replicate m (peakReqs dim)).flatten

theorem allReqs_length (dim m : Nat) : (allReqs dim m).length = m * (dim + 2) := by
  simp [allReqs, List.length_flatten, peakReqs_length]

/-- what the number step will do, read off the first two draws: `none` without limits, else
(remove?, how many).  On a tape that does not start with two `random` draws the answer `(true, 0)` is a dummy: it makes
`numberReqs` the two `random` requests, which such a tape does not serve (so `run_changeNumber` has nothing to prove there). -/
def plan (cfg : Config α) (len : Nat) (t : Tape α) : Option (Bool × Nat) :=
  match cfg.limits with
  | none => none
  | some (mn, mx) =>
    match t with
    | Draw.random u :: Draw.random u2 :: _ =>
      let k := cfg.roundInt (RealLike.ofRatio (mx - mn) 1 * u2 * cfg.numberSeverity)
      if u < half then some (true, (imin ((len : Int) - mn) k).toNat)
      else some (false, (imin (mx - (len : Int)) k).toNat)
    | _ => some (true, 0)

def numberReqs (cfg : Config α) (len : Nat) (t : Tape α) : List Req :=
  match plan cfg len t with
  | none => []
  | some (true, n) => Req.random :: Req.random :: removeReqs len n
  | some (false, n) => Req.random :: Req.random :: addReqs cfg n

/-- the number of peaks after the change -/
def newLen (cfg : Config α) (len : Nat) (t : Tape α) : Nat :=
  match plan cfg len t with
  | none => len
  | some (true, n) => len - n
  | some (false, n) => len + n

/-- every request one call of `changePeaks` makes, in order; it is a function of the tape that is to serve it, because
the second draw decides how many peaks come or go -/
def changeReqs (cfg : Config α) (len : Nat) (t : Tape α) : List Req :=
  numberReqs cfg len t ++ allReqs cfg.dim (newLen cfg len t)

/-- the tape answers `k` successive calls -/
def ServesTimes (cfg : Config α) : Nat → Nat → Tape α → Prop
  | 0, _, _ => True
  | k + 1, len, t => Serves (changeReqs cfg len t) t ∧
      ServesTimes cfg k (newLen cfg len t) (t.drop (changeReqs cfg len t).length)

/-- the result `x` of a computation started on tape `t`: it is `some` when the tape serves the requests `reqs`, and
whenever it is `some (b, t')` the value satisfies `Q` and `t'` is `t` without its first `reqs.length` draws -/
def Run (x : Option (β × Tape α)) (t : Tape α) (reqs : List Req) (Q : β → Prop) : Prop :=
  (Serves reqs t → x.isSome) ∧ ∀ b t', x = some (b, t') → Q b ∧ t' = t.drop reqs.length

theorem Run.fail {t : Tape α} {reqs : List Req} {Q : β → Prop} (h : ¬ Serves reqs t) : Run none t reqs Q :=
  ⟨fun s => absurd s h, fun _ _ e => nomatch e⟩

theorem Run.ret {b : β} {t : Tape α} {Q : β → Prop} (h : Q b) : Run (some (b, t)) t [] Q :=
  ⟨fun _ => rfl, fun _ _ e => by cases e; exact ⟨h, rfl⟩⟩

/-- sequencing: `y` is `none` when `x` is, and otherwise goes on from the value and the tape `x` left.  The two cases
are hypotheses (discharged by `rw [e]` after `unfold`) because a conclusion about `match x with …` would not unify with
the `match` of a model function: two stuck matchers are different constants. -/
theorem Run.bind {x : Option (β × Tape α)} {y : Option (γ × Tape α)} {t : Tape α} {r1 r2 : List Req}
    {Q1 : β → Prop} {Q2 : γ → Prop} (h1 : Run x t r1 Q1) (hn : x = none → y = none)
    (hs : ∀ b, Q1 b → x = some (b, t.drop r1.length) → Run y (t.drop r1.length) r2 Q2) :
    Run y t (r1 ++ r2) Q2 := by
  cases hx : x with
  | none =>
    refine hn hx ▸ Run.fail fun s => ?_
    have := h1.1 ((serves_append r1 r2 t).1 s).1
    rw [hx] at this; cases this
  | some p =>
    obtain ⟨b, t1⟩ := p
    obtain ⟨q, rfl⟩ := h1.2 b t1 hx
    obtain ⟨a1, a2⟩ := hs b q hx
    exact ⟨fun s => a1 ((serves_append r1 r2 t).1 s).2, fun c t'' e => by
      obtain ⟨q2, e2⟩ := a2 c t'' e
      exact ⟨q2, by rw [e2, List.drop_drop, List.length_append]⟩⟩

/-- one draw: `x` is `none` unless the draw answers the request -/
theorem Run.cons {x : Option (β × Tape α)} {d : Draw α} {t : Tape α} {r : Req} {rs : List Req} {Q : β → Prop}
    (hx : ¬ kindOK r d → x = none) (h : kindOK r d → Run x t rs Q) : Run x (d :: t) (r :: rs) Q := by
  by_cases hk : kindOK r d
  · exact ⟨fun s => (h hk).1 s.2, fun b t' e => (h hk).2 b t' e⟩
  · exact hx hk ▸ Run.fail fun s => hk s.1

/-- a last step that reads nothing -/
theorem Run.map {x : Option (β × Tape α)} {y : Option (γ × Tape α)} {t : Tape α} {r : List Req}
    {Q1 : β → Prop} {Q2 : γ → Prop} (h1 : Run x t r Q1) (hn : x = none → y = none)
    (hs : ∀ b, Q1 b → x = some (b, t.drop r.length) → ∃ c, y = some (c, t.drop r.length) ∧ Q2 c) : Run y t r Q2 := by
  have := h1.bind (r2 := []) hn fun b q e => by
    obtain ⟨c, rfl, q2⟩ := hs b q e
    exact Run.ret q2
  rwa [List.append_nil] at this

theorem Run.exists {x : Option (β × Tape α)} {t : Tape α} {r : List Req} {Q : β → Prop} (h : Run x t r Q)
    (hs : Serves r t) : ∃ b, x = some (b, t.drop r.length) ∧ Q b := by
  obtain ⟨⟨b, t'⟩, e⟩ := Option.isSome_iff_exists.1 (h.1 hs)
  obtain ⟨q, rfl⟩ := h.2 b t' e
  exact ⟨b, e, q⟩

theorem Run.post {x : Option (β × Tape α)} {t t' : Tape α} {r : List Req} {Q : β → Prop} {b : β} (h : Run x t r Q)
    (e : x = some (b, t')) : Q b :=
  (h.2 b t' e).1

theorem Run.mono {x : Option (β × Tape α)} {t : Tape α} {r : List Req} {Q Q' : β → Prop} (h : Run x t r Q)
    (hq : ∀ b, Q b → Q' b) : Run x t r Q' :=
  ⟨h.1, fun b t' e => ⟨hq b (h.2 b t' e).1, (h.2 b t' e).2⟩⟩

theorem run_popRandom (t : Tape α) : Run (popRandom t) t [Req.random] fun _ => True := by
  rcases t with _ | ⟨d, t⟩
  · exact Run.fail id
  · cases d <;> first | exact Run.cons (fun h => absurd trivial h) fun _ => Run.ret trivial | exact Run.cons (fun _ => rfl) fun h => h.elim

theorem run_popUniform (t : Tape α) : Run (popUniform t) t [Req.uniform] fun _ => True := by
  rcases t with _ | ⟨d, t⟩
  · exact Run.fail id
  · cases d <;> first | exact Run.cons (fun h => absurd trivial h) fun _ => Run.ret trivial | exact Run.cons (fun _ => rfl) fun h => h.elim

theorem run_popGauss (t : Tape α) : Run (popGauss t) t [Req.gauss] fun _ => True := by
  rcases t with _ | ⟨d, t⟩
  · exact Run.fail id
  · cases d <;> first | exact Run.cons (fun h => absurd trivial h) fun _ => Run.ret trivial | exact Run.cons (fun _ => rfl) fun h => h.elim

theorem run_popMany {pop : Tape α → Option (α × Tape α)} {r : Req} (hpop : ∀ t, Run (pop t) t [r] fun _ => True)
    (n : Nat) (t : Tape α) : Run (popMany pop n t) t (List.replicate n r) fun xs => xs.length = n := by
  induction n generalizing t with
  | zero => exact Run.ret rfl
  | succ m ih =>
    unfold popMany
    refine (hpop t).bind (r2 := List.replicate m r) (fun e => by rw [e]) fun x _ e => ?_
    simp only [e]
    exact (ih _).map (fun e => by rw [e]) fun xs q e => ⟨_, by rw [e], congrArg (· + 1) q⟩

theorem run_removePeaks (n : Nat) (peaks : List (Peak α)) (t : Tape α) :
    Run (removePeaks n peaks t) t (removeReqs peaks.length n)
      fun p' => p'.length + n = peaks.length ∧ ∀ p ∈ p', p ∈ peaks := by
  induction n generalizing peaks t with
  | zero => exact Run.ret ⟨rfl, fun _ h => h⟩
  | succ m ih =>
    rw [removeReqs_succ]
    rcases t with _ | ⟨d, t⟩
    · exact Run.fail id
    · cases d <;> try exact Run.cons (fun _ => rfl) fun h => h.elim
      next idx =>
      refine Run.cons (fun h => if_neg h) fun (h : idx < peaks.length) => ?_
      rw [removePeaks, if_pos h, ← List.length_eraseIdx_of_lt h]
      refine (ih _ _).mono fun p' q => ?_
      rw [List.length_eraseIdx_of_lt h] at q
      exact ⟨by omega, fun p hp => List.mem_of_mem_eraseIdx (q.2 p hp)⟩

/-- a peak as the addition loop makes it -/
def Fresh (cfg : Config α) (p : Peak α) : Prop := p.fn ∈ cfg.pool ∧ p.pos.length = cfg.dim ∧ p.last.length = cfg.dim

theorem run_addPeaks (cfg : Config α) (n : Nat) (peaks : List (Peak α)) (t : Tape α) :
    Run (addPeaks cfg n peaks t) t (addReqs cfg n)
      fun p' => p'.length = peaks.length + n ∧ ∀ p ∈ p', p ∈ peaks ∨ Fresh cfg p := by
  induction n generalizing peaks t with
  | zero => exact Run.ret ⟨rfl, fun _ h => Or.inl h⟩
  | succ m ih =>
    rw [addReqs_succ]
    rcases t with _ | ⟨d, t⟩
    · exact Run.fail id
    · cases d <;> try exact Run.cons (fun _ => rfl) fun h => h.elim
      next i =>
      unfold addPeaks
      refine Run.cons (fun h => by simp only [List.getElem?_eq_none (Nat.le_of_not_lt h)]) fun (h : i < cfg.pool.length) => ?_
      simp only [List.getElem?_eq_getElem h]
      refine (run_popMany run_popUniform cfg.dim t).bind (fun e => by rw [e]) fun pos hpos e => ?_
      simp only [e]
      refine (run_popUniform _).bind (fun e => by rw [e]) fun hv _ e => ?_
      simp only [e]
      refine (run_popUniform _).bind (fun e => by rw [e]) fun wv _ e => ?_
      simp only [e]
      refine (run_popMany run_popRandom cfg.dim _).bind (fun e => by rw [e]) fun rs hrs e => ?_
      simp only [e]
      refine (ih _ _).mono fun p' q => ⟨by rw [q.1, List.length_append, List.length_singleton, Nat.add_assoc, Nat.add_comm 1], fun p hp => ?_⟩
      rcases q.2 p hp with hq | hq
      · rcases List.mem_append.1 hq with hq | hq
        · exact Or.inl hq
        · rw [List.mem_singleton.1 hq]
          exact Or.inr ⟨List.getElem_mem h, hpos, (List.length_map _).trans hrs⟩
      · exact Or.inr hq

theorem run_changePeak (cfg : Config α) (pk : Peak α) (t : Tape α) :
    Run (changePeak cfg pk t) t (peakReqs pk.pos.length) fun pk' => pk'.fn = pk.fn ∧
      (pk.last.length = pk.pos.length → pk'.pos.length = pk.pos.length ∧ pk'.last.length = pk.pos.length) := by
  unfold changePeak peakReqs
  refine (run_popMany run_popRandom _ t).bind (r2 := [Req.gauss] ++ [Req.gauss]) (fun e => by rw [e]) fun rs hrs e => ?_
  simp only [e]
  refine (run_popGauss _).bind (fun e => by rw [e]) fun gh _ e => ?_
  simp only [e]
  refine (run_popGauss _).map (fun e => by rw [e]) fun gw _ e => ⟨_, by rw [e], ?_⟩
  exact ⟨rfl, fun hl => by simp only [List.length_map, List.length_zip, hrs, hl, Nat.min_self, and_self]⟩

/-- the requests of the loop over the peaks, whatever their dimensions -/
def peaksReqs (peaks : List (Peak α)) : List Req := (peaks.map fun pk => peakReqs pk.pos.length).flatten

theorem peaksReqs_of_dimOK {dim : Nat} {peaks : List (Peak α)} (hd : DimOK dim peaks) :
    peaksReqs peaks = allReqs dim peaks.length := by
  rw [peaksReqs, allReqs, ← List.map_const', List.map_congr_left fun pk hp => by rw [(hd pk hp).1]]

theorem run_changeAll (cfg : Config α) (peaks : List (Peak α)) (t : Tape α) :
    Run (changeAll cfg peaks t) t (peaksReqs peaks) fun p' => p'.map (·.fn) = peaks.map (·.fn) ∧
      ∀ dim, DimOK dim peaks → DimOK dim p' := by
  induction peaks generalizing t with
  | nil => exact Run.ret ⟨rfl, fun _ h => h⟩
  | cons pk rest ih =>
    unfold changeAll
    refine (run_changePeak cfg pk t).bind (r2 := peaksReqs rest) (fun e => by rw [e]) fun pk' hpk e => ?_
    simp only [e]
    refine (ih _).map (fun e => by rw [e]) fun r' hr e => ⟨_, by rw [e], ?_, fun dim hd => ?_⟩
    · rw [List.map_cons, List.map_cons, hr.1, hpk.1]
    · have h0 := hd pk List.mem_cons_self
      have h1 := hpk.2 (h0.2.trans h0.1.symm)
      exact List.forall_mem_cons.2 ⟨⟨h1.1.trans h0.1, h1.2.trans h0.1⟩,
        hr.2 dim fun p hp => hd p (List.mem_cons_of_mem _ hp)⟩

theorem run_changeNumber (cfg : Config α) (peaks : List (Peak α)) (t : Tape α) :
    Run (changeNumber cfg peaks t) t (numberReqs cfg peaks.length t)
      fun p1 => p1.length = newLen cfg peaks.length t ∧ ∀ p ∈ p1, p ∈ peaks ∨ Fresh cfg p := by
  cases hl : cfg.limits with
  | none =>
    simp only [changeNumber, numberReqs, newLen, plan, hl]
    exact Run.ret ⟨rfl, fun _ h => Or.inl h⟩
  | some lim =>
    -- whatever the plan, the first two requests are `random`
    obtain ⟨X, hX⟩ : ∃ X, numberReqs cfg peaks.length t = Req.random :: Req.random :: X := by
      obtain ⟨b, n, hp⟩ : ∃ b n, plan cfg peaks.length t = some (b, n) := by
        simp only [plan, hl]; split
        · split <;> exact ⟨_, _, rfl⟩
        · exact ⟨_, _, rfl⟩
      simp only [numberReqs, hp]; cases b <;> exact ⟨_, rfl⟩
    rw [hX]
    simp only [changeNumber, hl]
    rcases t with _ | ⟨d, t⟩
    · exact Run.fail id
    cases d <;> try exact Run.cons (fun _ => rfl) fun h => h.elim
    next u =>
    refine Run.cons (fun h => (h trivial).elim) fun _ => ?_
    rcases t with _ | ⟨d, t⟩
    · exact Run.fail id
    cases d <;> try exact Run.cons (fun _ => rfl) fun h => h.elim
    refine Run.cons (fun h => (h trivial).elim) fun _ => ?_
    by_cases hu : u < half <;> simp only [numberReqs, newLen, plan, hl, popRandom, hu, if_true, if_false] at hX ⊢ <;>
      cases hX
    · exact (run_removePeaks _ peaks t).mono fun p' q => ⟨by omega, fun p hp => Or.inl (q.2 p hp)⟩
    · exact run_addPeaks cfg _ peaks t

theorem imin_le_left (a b : Int) : imin a b ≤ a := by
  unfold imin; split <;> omega

theorem plan_bounds (cfg : Config α) (len : Nat) (t : Tape α) (mn mx : Int)
    (hl : cfg.limits = some (mn, mx)) (h1 : mn ≤ (len : Int)) (h2 : (len : Int) ≤ mx) :
    ∃ b n, plan cfg len t = some (b, n) ∧ n ≤ (mx - mn).toNat ∧
      mn ≤ (newLen cfg len t : Int) ∧ (newLen cfg len t : Int) ≤ mx := by
  obtain ⟨k, hp⟩ : ∃ k, plan cfg len t = some (true, (imin ((len : Int) - mn) k).toNat) ∨
      plan cfg len t = some (false, (imin (mx - (len : Int)) k).toNat) ∨ plan cfg len t = some (true, 0) := by
    simp only [plan, hl]
    split
    · split
      · exact ⟨_, Or.inl rfl⟩
      · exact ⟨_, Or.inr (Or.inl rfl)⟩
    · exact ⟨0, Or.inr (Or.inr rfl)⟩
  have hr := imin_le_left ((len : Int) - mn) k
  have ha := imin_le_left (mx - (len : Int)) k
  rcases hp with hp | hp | hp <;> refine ⟨_, _, hp, ?_⟩ <;> simp only [newLen, hp] <;> omega

theorem newLen_bounds (cfg : Config α) (len : Nat) (t : Tape α) :
    (cfg.limits = none → newLen cfg len t = len) ∧
    ∀ mn mx, cfg.limits = some (mn, mx) → mn ≤ (len : Int) → (len : Int) ≤ mx →
      mn ≤ (newLen cfg len t : Int) ∧ (newLen cfg len t : Int) ≤ mx :=
  ⟨fun hl => by simp only [newLen, plan, hl], fun mn mx hl h1 h2 => by
    obtain ⟨_, _, _, _, b⟩ := plan_bounds cfg len t mn mx hl h1 h2
    exact b⟩

theorem changeReqs_length_le (cfg : Config α) (len : Nat) (t : Tape α) (mn mx : Int)
    (hl : cfg.limits = some (mn, mx)) (h1 : mn ≤ (len : Int)) (h2 : (len : Int) ≤ mx) :
    (changeReqs cfg len t).length ≤
      2 + (mx - mn).toNat * (2 * cfg.dim + 3) + mx.toNat * (cfg.dim + 2) := by
  obtain ⟨b, n, hp, k1, _, k2⟩ := plan_bounds cfg len t mn mx hl h1 h2
  have a1 := Nat.mul_le_mul_right (2 * cfg.dim + 3) k1
  have a2 := Nat.mul_le_mul_right (cfg.dim + 2) (show newLen cfg len t ≤ mx.toNat by omega)
  unfold changeReqs numberReqs
  rw [hp]
  cases b
  · simp only [List.length_append, List.length_cons, addReqs_length, allReqs_length]
    exact Nat.add_le_add (by omega) a2
  · have : n ≤ (mx - mn).toNat * (2 * cfg.dim + 3) := k1.trans (Nat.le_mul_of_pos_right _ (by omega))
    simp only [List.length_append, List.length_cons, removeReqs_length, allReqs_length]
    exact Nat.add_le_add (by omega) a2

theorem changeReqs_length_nolimits (cfg : Config α) (len : Nat) (t : Tape α) (hl : cfg.limits = none) :
    (changeReqs cfg len t).length = len * (cfg.dim + 2) := by
  simp [changeReqs, numberReqs, newLen, plan, hl, allReqs_length]

theorem run_changePeaks (cfg : Config α) (peaks : List (Peak α)) (t : Tape α) (hd : DimOK cfg.dim peaks) :
    Run (changePeaks cfg peaks t) t (changeReqs cfg peaks.length t)
      fun p' => p'.length = newLen cfg peaks.length t ∧ DimOK cfg.dim p' := by
  unfold changePeaks changeReqs
  refine (run_changeNumber cfg peaks t).bind (fun e => by rw [e]) fun p1 q e => ?_
  simp only [e]
  have hd1 : DimOK cfg.dim p1 := fun p hp => (q.2 p hp).elim (hd p) fun f => f.2
  rw [← q.1, ← peaksReqs_of_dimOK hd1]
  exact (run_changeAll cfg p1 _).mono fun p' r => ⟨by simpa using congrArg List.length r.1, r.2 _ hd1⟩

theorem changePeaks_spec (cfg : Config α) (peaks : List (Peak α)) (t : Tape α) (p' : List (Peak α)) (t' : Tape α)
    (h : changePeaks cfg peaks t = some (p', t')) :
    p'.length = newLen cfg peaks.length t ∧ (FromPool cfg.pool peaks → FromPool cfg.pool p') := by
  unfold changePeaks at h
  split at h; · cases h
  next p1 t1 h1 =>
  have q := (run_changeNumber cfg peaks t).post h1
  have r := (run_changeAll cfg p1 t1).post h
  refine ⟨by simpa [q.1] using congrArg List.length r.1, fun hp p hm => ?_⟩
  obtain ⟨p0, h0, e⟩ := List.mem_map.1 (r.1 ▸ List.mem_map_of_mem (f := Peak.fn) hm)
  exact e ▸ (q.2 p0 h0).elim (hp p0) fun f => f.1

theorem changeTimes_count (cfg : Config α) (k : Nat) (peaks : List (Peak α)) (t : Tape α)
    (p' : List (Peak α)) (t' : Tape α) (h : changeTimes cfg k peaks t = some (p', t')) :
    (cfg.limits = none → p'.length = peaks.length) ∧
    (∀ mn mx, cfg.limits = some (mn, mx) → mn ≤ (peaks.length : Int) → (peaks.length : Int) ≤ mx →
      mn ≤ (p'.length : Int) ∧ (p'.length : Int) ≤ mx) := by
  induction k generalizing peaks t with
  | zero => cases h; exact ⟨fun _ => rfl, fun _ _ _ h1 h2 => ⟨h1, h2⟩⟩
  | succ j ih =>
    unfold changeTimes at h
    split at h; · cases h
    next p1 t1 h1 =>
    obtain ⟨c1, c2⟩ := newLen_bounds cfg peaks.length t
    rw [← (changePeaks_spec _ _ _ _ _ h1).1] at c1 c2
    obtain ⟨i1, i2⟩ := ih _ _ h
    exact ⟨fun hl => (i1 hl).trans (c1 hl), fun mn mx hl a b => (c2 mn mx hl a b).elim (i2 mn mx hl)⟩

theorem changeTimes_total (cfg : Config α) (k : Nat) (peaks : List (Peak α)) (t : Tape α)
    (hd : DimOK cfg.dim peaks) (h : ServesTimes cfg k peaks.length t) :
    ∃ p' t', changeTimes cfg k peaks t = some (p', t') ∧ DimOK cfg.dim p' := by
  induction k generalizing peaks t with
  | zero => exact ⟨peaks, t, rfl, hd⟩
  | succ j ih =>
    obtain ⟨p1, e1, q⟩ := (run_changePeaks cfg peaks t hd).exists h.1
    obtain ⟨p2, t2, f1, f2⟩ := ih p1 _ q.2 (q.1 ▸ h.2)
    exact ⟨p2, t2, by simp only [changeTimes, e1, f1], f2⟩

theorem popMany_length (pop : Tape α → Option (α × Tape α)) (n : Nat) (t : Tape α) (xs : List α) (t' : Tape α)
    (h : popMany pop n t = some (xs, t')) : xs.length = n := by
  induction n generalizing t xs t' with
  | zero => simp only [popMany, Option.some.injEq, Prod.mk.injEq] at h; rw [← h.1]; rfl
  | succ m ih =>
    simp only [popMany] at h
    split at h
    · simp at h
    · split at h
      · simp at h
      · next ys t2 hy =>
        simp only [Option.some.injEq, Prod.mk.injEq] at h
        rw [← h.1, List.length_cons, ih _ _ _ hy]

theorem popGroups_spec (pop : Tape α → Option (α × Tape α)) (dim n : Nat) (t : Tape α) (gs : List (List α))
    (t' : Tape α) (h : popGroups pop dim n t = some (gs, t')) : gs.length = n ∧ ∀ g ∈ gs, g.length = dim := by
  induction n generalizing t gs t' with
  | zero => simp only [popGroups, Option.some.injEq, Prod.mk.injEq] at h; rw [← h.1]; simp
  | succ m ih =>
    simp only [popGroups] at h
    split at h
    · simp at h
    · next g t1 hg =>
      split at h
      · simp at h
      · next gs2 t2 h2 =>
        simp only [Option.some.injEq, Prod.mk.injEq] at h
        obtain ⟨a, b⟩ := ih _ _ _ h2
        rw [← h.1]
        refine ⟨by simp [a], ?_⟩
        intro g' hg'
        simp only [List.mem_cons] at hg'
        rcases hg' with rfl | hg'
        · exact popMany_length _ _ _ _ _ hg
        · exact b g' hg'

theorem initScalars_length (u : α) (n : Nat) (t : Tape α) (xs : List α) (t' : Tape α)
    (h : initScalars u n t = some (xs, t')) : xs.length = n := by
  unfold initScalars at h
  by_cases hc : u < RealLike.ofNat 0 ∨ RealLike.ofNat 0 < u
  · simp only [hc, if_true, Option.some.injEq, Prod.mk.injEq] at h; rw [← h.1]; simp
  · simp only [hc, if_false] at h; exact popMany_length _ _ _ _ _ h

open RealLike

/-- `MovingPeaks.fmin` is the scalar class's Python `min` -/
@[real_bridge] theorem real_fmin (a b : ℝ) : fmin a b = min a b := real_pmin a b

theorem pyMax_spec (l : List ℝ) (v : ℝ) (h : pyMax l = some v) : v ∈ l ∧ ∀ w ∈ l, w ≤ v := by
  cases l with
  | nil => cases h
  | cons a t =>
    cases h
    refine foldl_select _ (· ≤ ·) le_refl (fun _ _ _ => le_trans) (fun m v => ?_) t a
    simp only [real_lt]
    split_ifs with hc
    exacts [⟨Or.inr rfl, hc.le, le_refl _⟩, ⟨Or.inl rfl, le_refl _, not_lt.1 hc⟩]

theorem dist2_eq_d2 (x p : List ℝ) : dist2 x p = d2 x p := by
  unfold dist2
  simp only [real_ofNat, Nat.cast_zero, real_add, real_sub, real_mul]
  exact foldl_sq_eq_d2 x p

theorem dist2_self (p : List ℝ) : dist2 p p = 0 := by rw [dist2_eq_d2, d2_self]

theorem pairLt_false (m v : ℝ × List ℝ) (h : pairLt m v = false) : v.1 ≤ m.1 := by
  unfold pairLt at h
  simp only [real_lt] at h
  by_cases h1 : m.1 < v.1
  · simp [h1] at h
  · linarith

theorem pairLt_true (m v : ℝ × List ℝ) (h : pairLt m v = true) : m.1 ≤ v.1 := by
  unfold pairLt at h
  simp only [real_lt] at h
  by_cases h1 : m.1 < v.1
  · linarith
  · by_cases h2 : v.1 < m.1
    · simp [h1, h2] at h
    · linarith

theorem globalMaximum_spec (peaks : List (Peak ℝ)) (g : ℝ × List ℝ) (h : globalMaximum peaks = some g) :
    g ∈ potentialMax peaks ∧ ∀ q ∈ potentialMax peaks, q.1 ≤ g.1 := by
  unfold globalMaximum at h
  split at h
  · cases h
  · next a t hpm =>
    cases h
    rw [hpm]
    refine foldl_select _ (fun w r => w.1 ≤ r.1) (fun _ => le_refl _) (fun _ _ _ => le_trans) (fun m v => ?_) t a
    by_cases hc : pairLt m v = true
    · rw [if_pos hc]; exact ⟨Or.inr rfl, pairLt_true _ _ hc, le_refl _⟩
    · rw [if_neg hc]; exact ⟨Or.inl rfl, le_refl _, pairLt_false _ _ (by simpa using hc)⟩

theorem mem_insertDesc (x : ℝ × List ℝ) (l : List (ℝ × List ℝ)) (y : ℝ × List ℝ) :
    y ∈ insertDesc x l ↔ y = x ∨ y ∈ l := by
  induction l with
  | nil => simp [insertDesc]
  | cons z t ih =>
    simp only [insertDesc]
    split
    · simp
    · simp only [List.mem_cons, ih, or_left_comm]

theorem mem_sortDesc (l : List (ℝ × List ℝ)) (y : ℝ × List ℝ) : y ∈ sortDesc l ↔ y ∈ l := by
  unfold sortDesc
  have : ∀ acc : List (ℝ × List ℝ), y ∈ l.foldl (fun acc x => insertDesc x acc) acc ↔ y ∈ acc ∨ y ∈ l := by
    induction l with
    | nil => simp
    | cons a t ih => intro acc; simp only [List.foldl_cons, ih, mem_insertDesc, List.mem_cons, or_assoc, or_left_comm]
  simpa using this []

theorem zipadd_scaled (x : List ℝ) (c : ℝ) :
    ((x.map fun xi => c * xi).zip x).map (fun p => p.1 + p.2) = x.map fun xi => (c + 1) * xi := by
  induction x with
  | nil => simp
  | cons a t ih => simp only [List.map_cons, List.zip_cons_cons, ih]; congr 1; ring

theorem fold_replicate (x : List ℝ) (k : Nat) (c : ℝ) :
    (List.replicate k x).foldl (fun d y => (d.zip y).map fun p => p.1 + p.2) (x.map fun xi => c * xi)
      = x.map fun xi => (c + k) * xi := by
  induction k generalizing c with
  | zero => simp
  | succ j ih =>
    simp only [List.replicate_succ, List.foldl_cons]
    rw [zipadd_scaled, ih]
    apply List.map_congr_left; intro a _; push_cast; ring

theorem zeros_as_map (x : List ℝ) : List.replicate x.length (0 : ℝ) = x.map fun xi => 0 * xi := by
  induction x with
  | nil => simp
  | cons a t ih => simp only [List.length_cons, List.replicate_succ, List.map_cons, ih]; congr 1; ring

/-- the centroid `diversity(population)` measures from: the coordinate-wise sum over the first `len` coordinates,
divided by the population size -/
noncomputable def centroid (pop : List (List ℝ)) (len : Nat) : List ℝ :=
  (pop.foldl (fun d x => (d.zip x).map fun p => p.1 + p.2) (List.replicate len 0)).map fun di => di / (pop.length : ℝ)

theorem popDiversity_cons (x0 : List ℝ) (rest : List (List ℝ)) :
    popDiversity (x0 :: rest) = some (Real.sqrt (((x0 :: rest).map fun x =>
      ((centroid (x0 :: rest) x0.length).zip x).map fun p => (p.1 - p.2) * (p.1 - p.2)).flatten.sum)) := by
  simp only [popDiversity, centroid, real_bridge]

theorem centroid_replicate (x : List ℝ) (n : Nat) : centroid (List.replicate (n + 1) x) x.length = x := by
  rw [centroid, zeros_as_map, fold_replicate, List.map_map, List.length_replicate]
  conv_rhs => rw [← List.map_id x]
  refine List.map_congr_left fun a _ => ?_
  have : ((n + 1 : Nat) : ℝ) ≠ 0 := Nat.cast_ne_zero.2 (Nat.succ_ne_zero n)
  simp only [Function.comp, id, zero_add]
  exact mul_div_cancel_left₀ a this

end C20L
