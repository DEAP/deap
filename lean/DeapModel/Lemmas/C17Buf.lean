/-
C17 — helper lemmas about `DeapModel/Core/Resume.lean`: the result buffer of `Resume.pmap` (what a slot holds
after a completion schedule, when `collect` succeeds) and runs with hidden state (`Resume.HRun`); under `namespace C17`
the equations of `Resume.run` and `Resume.evalStep`.
-/
import DeapModel.Core.Resume

namespace Resume

section PMap
variable {α β : Type}

theorem length_complete (f : α → β) (xs : List α) (buf : List (Option β)) (i : Nat) :
    (complete f xs buf i).length = buf.length := by
  unfold complete; split
  · exact List.length_set ..
  · rfl

theorem length_foldl_complete (f : α → β) (xs : List α) (sched : List Nat)
    (buf : List (Option β)) : (sched.foldl (complete f xs) buf).length = buf.length := by
  induction sched generalizing buf with
  | nil => rfl
  | cons k ks ih => rw [List.foldl_cons, ih, length_complete]

theorem length_pmapBuf (f : α → β) (xs : List α) (sched : List Nat) :
    (pmapBuf f xs sched).length = xs.length :=
  (length_foldl_complete f xs sched _).trans List.length_replicate

theorem getElem?_complete (f : α → β) (xs : List α) (buf : List (Option β))
    (hl : buf.length = xs.length) (k i : Nat) :
    (complete f xs buf k)[i]? =
      if i = k then xs[i]?.map (fun x => some (f x)) else buf[i]? := by
  unfold complete
  split
  · next x hx =>
    rw [List.getElem?_set]
    split
    · next h => subst h; rw [if_pos rfl, if_pos (hl ▸ (List.getElem?_eq_some_iff.1 hx).1), hx]; rfl
    · next h => rw [if_neg (Ne.symm h)]
  · next hx =>
    split
    · next h => subst h; rw [hx, List.getElem?_eq_none_iff.2 (hl ▸ List.getElem?_eq_none_iff.1 hx)]; rfl
    · rfl

theorem getElem?_foldl_complete (f : α → β) (xs : List α) (sched : List Nat)
    (buf : List (Option β)) (hl : buf.length = xs.length) (i : Nat) :
    (sched.foldl (complete f xs) buf)[i]? =
      if i ∈ sched then xs[i]?.map (fun x => some (f x)) else buf[i]? := by
  induction sched generalizing buf with
  | nil => rfl
  | cons k ks ih =>
    rw [List.foldl_cons, ih _ (by rw [length_complete, hl]), getElem?_complete f xs buf hl]
    by_cases h1 : i ∈ ks <;> by_cases h2 : i = k <;> simp [h1, h2]

theorem getElem?_pmapBuf (f : α → β) (xs : List α) (sched : List Nat) (i : Nat) :
    (pmapBuf f xs sched)[i]? =
      if i ∈ sched then xs[i]?.map (fun x => some (f x))
      else if i < xs.length then some none else none := by
  rw [pmapBuf, getElem?_foldl_complete f xs sched _ List.length_replicate, List.getElem?_replicate]

theorem collect_map_some (ys : List β) : collect (ys.map some) = some ys := by
  induction ys with
  | nil => rfl
  | cons y ys ih => rw [List.map_cons, collect, ih]; rfl

theorem collect_eq_none_of_mem (buf : List (Option β)) (h : none ∈ buf) : collect buf = none := by
  induction buf with
  | nil => cases h
  | cons b bs ih =>
    cases b with
    | none => rfl
    | some b => rw [collect, ih ((List.mem_cons.1 h).resolve_left nofun)]; rfl

end PMap

section HRun
variable {V H B : Type}

theorem hrun_zero (r : HRun V H B) (s : V × H) : hrun r 0 s = s := rfl

theorem hrun_succ (r : HRun V H B) (n : Nat) (s : V × H) : hrun r (n + 1) s = hrun r n (r.step s) := rfl

theorem hrun_add (r : HRun V H B) (a b : Nat) (s : V × H) : hrun r (a + b) s = hrun r b (hrun r a s) := by
  induction a generalizing s with
  | zero => rw [Nat.zero_add]; rfl
  | succ a ih => rw [Nat.succ_add, hrun_succ, ih, hrun_succ]

theorem hrun_succ' (r : HRun V H B) (n : Nat) (s : V × H) : hrun r (n + 1) s = r.step (hrun r n s) :=
  hrun_add r n 1 s

theorem hrun_fst_of_nonInterfering (r : HRun V H B) (hni : NonInterfering r) (n : Nat) (v : V) (h h' : H) :
    (hrun r n (v, h)).1 = (hrun r n (v, h')).1 := by
  induction n generalizing v h h' with
  | zero => rfl
  | succ n ih =>
    show (hrun r n ((r.step (v, h)).1, (r.step (v, h)).2)).1 = (hrun r n ((r.step (v, h')).1, (r.step (v, h')).2)).1
    rw [hni v h h']; exact ih _ _ _

theorem hrun_snd_of_hiddenConstant (r : HRun V H B) (hc : HiddenConstant r) (n : Nat) (s : V × H) :
    (hrun r n s).2 = s.2 := by
  induction n generalizing s with
  | zero => rfl
  | succ n ih => rw [hrun_succ, ih, hc]

end HRun

end Resume

namespace C17
open Resume

theorem run_zero {S B : Type} (r : Run S B) (s : S) : run r 0 s = s := rfl

theorem run_succ {S B : Type} (r : Run S B) (n : Nat) (s : S) : run r (n + 1) s = run r n (r.step s) := rfl

theorem deterministic_state {S B : Type} (r : Run S B) (n : Nat) (s₁ s₂ : S) (h : s₁ = s₂) :
    run r n s₁ = run r n s₂ := by rw [h]

theorem evalStep_eq {α β : Type} (mapper : (α → β) → List α → List β) (f : α → β) (pop : List α)
    (h : mapper f pop = pop.map f) : evalStep mapper f pop = pop.map (fun x => (x, f x)) := by
  rw [evalStep, h]
  clear h
  induction pop with
  | nil => rfl
  | cons x xs ih => rw [List.map_cons, List.zip_cons_cons, ih]; rfl

end C17
