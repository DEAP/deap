/-
C04 lemmas: the abstract theory of ranking by peeling over a decidable relation that is a strict
partial order on the members of the list: existence of a maximal element, `peel` unfolds, the
fronts partition the list, the two local ranking conditions hold for `depth` and determine it
(certificate, soundness of `checkRanking`), and what follows for any list of fronts that is, front
by front, `leading (peel dom S) k`.
-/
import DeapModel.Core.NDSort
import Mathlib.Data.List.Perm.Basic

set_option linter.unusedSectionVars false

namespace C04L
open NDSort

variable {β : Type}

structure SPO (dom : β → β → Bool) (S : List β) : Prop where
  irrefl : ∀ x ∈ S, dom x x = false
  trans : ∀ x ∈ S, ∀ y ∈ S, ∀ z ∈ S, dom x y = true → dom y z = true → dom x z = true

theorem SPO.mono {dom : β → β → Bool} {S S' : List β} (h : SPO dom S) (hs : ∀ x ∈ S', x ∈ S) :
    SPO dom S' :=
  ⟨fun x hx => h.irrefl x (hs x hx),
   fun x hx y hy z hz => h.trans x (hs x hx) y (hs y hy) z (hs z hz)⟩

theorem SPO.asymm {dom : β → β → Bool} {S : List β} (h : SPO dom S) {x y : β} (hx : x ∈ S) (hy : y ∈ S)
    (hxy : dom x y = true) : dom y x = false := by
  by_contra hc
  have hc' : dom y x = true := by simpa using hc
  have := h.trans x hx y hy x hx hxy hc'
  rw [h.irrefl x hx] at this; exact Bool.noConfusion this

theorem exists_maximal (dom : β → β → Bool) : ∀ (S : List β), S ≠ [] → SPO dom S →
    ∃ x ∈ S, ∀ y ∈ S, dom y x = false
  | [], h, _ => absurd rfl h
  | [x], _, hS => ⟨x, by simp, by intro y hy; simp at hy; subst hy; exact hS.irrefl y (by simp)⟩
  | x :: x' :: S', _, hS => by
    have hS' : SPO dom (x' :: S') := hS.mono (by intro y hy; exact List.mem_cons_of_mem _ hy)
    obtain ⟨m, hm, hmax⟩ := exists_maximal dom (x' :: S') (by simp) hS'
    have hmS : m ∈ x :: x' :: S' := List.mem_cons_of_mem _ hm
    cases hxm : dom x m with
    | false =>
      refine ⟨m, hmS, ?_⟩
      intro y hy
      rcases List.mem_cons.1 hy with rfl | hy
      · exact hxm
      · exact hmax y hy
    | true =>
      refine ⟨x, by simp, ?_⟩
      intro y hy
      rcases List.mem_cons.1 hy with rfl | hy'
      · exact hS.irrefl y (by simp)
      · by_contra hc
        have hc' : dom y x = true := by simpa using hc
        have := hS.trans y hy x (by simp) m hmS hc' hxm
        rw [hmax y hy'] at this; exact Bool.noConfusion this

theorem mem_nondom {dom : β → β → Bool} {S : List β} {x : β} :
    x ∈ nondom dom S ↔ x ∈ S ∧ ∀ y ∈ S, dom y x = false := by
  simp [nondom]

theorem mem_dominatedPart {dom : β → β → Bool} {S : List β} {x : β} :
    x ∈ dominatedPart dom S ↔ x ∈ S ∧ ∃ y ∈ S, dom y x = true := by
  simp [dominatedPart]

theorem dominatedPart_subset {dom : β → β → Bool} {S : List β} : ∀ x ∈ dominatedPart dom S, x ∈ S :=
  fun _ hx => (mem_dominatedPart.1 hx).1

theorem mem_dominatedPart_iff {dom : β → β → Bool} {S : List β} {x : β} (hx : x ∈ S) :
    x ∈ dominatedPart dom S ↔ x ∉ nondom dom S := by
  simp [mem_nondom, mem_dominatedPart, hx]

theorem nondom_perm (dom : β → β → Bool) (S : List β) :
    (nondom dom S ++ dominatedPart dom S).Perm S := by
  have := List.filter_append_perm (fun x => S.any (fun y => dom y x)) S
  exact (List.perm_append_comm).trans this

theorem length_nondom_add (dom : β → β → Bool) (S : List β) :
    (nondom dom S).length + (dominatedPart dom S).length = S.length := by
  have := (nondom_perm dom S).length_eq
  simpa using this

theorem nondom_ne_nil {dom : β → β → Bool} {S : List β} (hne : S ≠ []) (hS : SPO dom S) :
    nondom dom S ≠ [] := by
  obtain ⟨x, hx, hmax⟩ := exists_maximal dom S hne hS
  intro h
  have : x ∈ nondom dom S := mem_nondom.2 ⟨hx, hmax⟩
  rw [h] at this; exact absurd this (List.not_mem_nil)

/-- Removing the non-dominated elements of a non-empty strict partial order makes it shorter:
this is why `S.length` rounds of peeling suffice. -/
theorem length_dominatedPart_lt {dom : β → β → Bool} {S : List β} (hne : S ≠ []) (hS : SPO dom S) :
    (dominatedPart dom S).length < S.length := by
  have h1 := length_nondom_add dom S
  have h2 : 0 < (nondom dom S).length := List.length_pos_iff.2 (nondom_ne_nil hne hS)
  omega

theorem SPO.dominatedPart {dom : β → β → Bool} {S : List β} (hS : SPO dom S) :
    SPO dom (dominatedPart dom S) := hS.mono dominatedPart_subset

theorem peelAux_succ (dom : β → β → Bool) : ∀ (n : Nat) (S : List β), SPO dom S → S.length ≤ n →
    peelAux dom (n + 1) S = peelAux dom n S
  | 0, S, _, h => by
    have : S = [] := List.eq_nil_of_length_eq_zero (by omega)
    subst this; simp [peelAux]
  | n + 1, S, hS, h => by
    by_cases hne : S = []
    · subst hne; simp [peelAux]
    · have hlt := length_dominatedPart_lt hne hS
      rw [peelAux, peelAux.eq_def dom (n + 1) S]
      rw [peelAux_succ dom n _ hS.dominatedPart (by omega)]

theorem peelAux_add (dom : β → β → Bool) (S : List β) (hS : SPO dom S) :
    ∀ d, peelAux dom (S.length + d) S = peelAux dom S.length S
  | 0 => rfl
  | d + 1 => by
    rw [← Nat.add_assoc, peelAux_succ dom _ S hS (by omega)]; exact peelAux_add dom S hS d

theorem peel_nil (dom : β → β → Bool) : peel dom ([] : List β) = [] := by simp [peel, peelAux]

/-- `peel` unfolds: the first front is the non-dominated set, the rest is the peeling of the
dominated part.  (The definition runs `S.length` rounds; this shows no round is wasted.) -/
theorem peel_eq {dom : β → β → Bool} {S : List β} (hne : S ≠ []) (hS : SPO dom S) :
    peel dom S = nondom dom S :: peel dom (dominatedPart dom S) := by
  have hlt := length_dominatedPart_lt hne hS
  have hemp : S.isEmpty = false := by simpa using hne
  obtain ⟨l, hl⟩ : ∃ l, S.length = l + 1 := ⟨S.length - 1, by omega⟩
  unfold peel
  rw [hl, peelAux]
  simp only [hemp, Bool.false_eq_true, ↓reduceIte, List.cons.injEq, true_and]
  obtain ⟨d, hd⟩ : ∃ d, l = (dominatedPart dom S).length + d := ⟨l - (dominatedPart dom S).length, by omega⟩
  rw [hd]; exact peelAux_add dom _ hS.dominatedPart d

theorem peel_induction {dom : β → β → Bool} {P : List β → Prop} (hnil : P [])
    (hstep : ∀ S, S ≠ [] → SPO dom S → P (dominatedPart dom S) → P S) :
    ∀ S, SPO dom S → P S := by
  intro S
  induction hn : S.length using Nat.strongRecOn generalizing S with
  | _ n ih =>
    intro hS
    by_cases hne : S = []
    · subst hne; exact hnil
    · exact hstep S hne hS (ih _ (by rw [← hn]; exact length_dominatedPart_lt hne hS) _ rfl hS.dominatedPart)

theorem peel_flatten_perm {dom : β → β → Bool} : ∀ S, SPO dom S → (peel dom S).flatten.Perm S := by
  apply peel_induction
  · simp [peel_nil]
  · intro S hne hS ih
    rw [peel_eq hne hS, List.flatten_cons]
    exact (List.Perm.append_left _ ih).trans (nondom_perm dom S)

theorem peel_fronts_ne_nil {dom : β → β → Bool} : ∀ S, SPO dom S → ∀ f ∈ peel dom S, f ≠ [] := by
  apply peel_induction
  · simp [peel_nil]
  · intro S hne hS ih f hf
    rw [peel_eq hne hS] at hf
    rcases List.mem_cons.1 hf with rfl | hf
    · exact nondom_ne_nil hne hS
    · exact ih f hf

section Depth
variable [DecidableEq β]

theorem depth_eq {dom : β → β → Bool} {S : List β} (hne : S ≠ []) (hS : SPO dom S) (x : β) :
    depth dom S x = if x ∈ nondom dom S then 0 else depth dom (dominatedPart dom S) x + 1 := by
  simp only [depth, peel_eq hne hS, frontIdx]

theorem depth_zero_iff {dom : β → β → Bool} {S : List β} (hne : S ≠ []) (hS : SPO dom S) (x : β) :
    depth dom S x = 0 ↔ x ∈ nondom dom S := by
  rw [depth_eq hne hS]; split <;> simp_all

theorem depth_lt_of_dom {dom : β → β → Bool} : ∀ S, SPO dom S →
    ∀ x ∈ S, ∀ y ∈ S, dom y x = true → depth dom S y < depth dom S x := by
  apply peel_induction
  · simp
  · intro S hne hS ih x hx y hy hd
    have hxn : x ∉ nondom dom S := by
      rw [mem_nondom]; rintro ⟨_, h⟩; rw [h y hy] at hd; exact Bool.noConfusion hd
    rw [depth_eq hne hS x, depth_eq hne hS y, if_neg hxn]
    by_cases hyn : y ∈ nondom dom S
    · rw [if_pos hyn]; omega
    · rw [if_neg hyn]
      have := ih x ((mem_dominatedPart_iff hx).2 hxn) y ((mem_dominatedPart_iff hy).2 hyn) hd
      omega

theorem depth_pred {dom : β → β → Bool} : ∀ S, SPO dom S →
    ∀ x ∈ S, 0 < depth dom S x → ∃ y ∈ S, dom y x = true ∧ depth dom S y + 1 = depth dom S x := by
  apply peel_induction
  · simp
  · intro S hne hS ih x hx hpos
    have hxn : x ∉ nondom dom S := by
      intro h; rw [(depth_zero_iff hne hS x).2 h] at hpos; omega
    have hxd := (mem_dominatedPart_iff hx).2 hxn
    have hne' : dominatedPart dom S ≠ [] := List.ne_nil_of_mem hxd
    rw [depth_eq hne hS x, if_neg hxn]
    by_cases h0 : depth dom (dominatedPart dom S) x = 0
    · obtain ⟨_, y, hy, hd⟩ := mem_dominatedPart.1 hxd
      refine ⟨y, hy, hd, ?_⟩
      have hyn : y ∈ nondom dom S := by
        by_contra hyn
        have hyd := (mem_dominatedPart_iff hy).2 hyn
        have := (depth_zero_iff hne' hS.dominatedPart x).1 h0
        rw [mem_nondom] at this
        rw [this.2 y hyd] at hd; exact Bool.noConfusion hd
      rw [(depth_zero_iff hne hS y).2 hyn, h0]
    · obtain ⟨y, hy, hd, he⟩ := ih x hxd (by omega)
      refine ⟨y, dominatedPart_subset y hy, hd, ?_⟩
      rw [depth_eq hne hS y, if_neg ((mem_dominatedPart_iff (dominatedPart_subset _ hy)).1 hy)]; omega

theorem rank_le {dom : β → β → Bool} {S : List β} (r d : β → Nat)
    (r2 : ∀ x ∈ S, 0 < r x → ∃ y ∈ S, dom y x = true ∧ r y + 1 = r x)
    (d1 : ∀ x ∈ S, ∀ y ∈ S, dom y x = true → d y < d x) : ∀ x ∈ S, r x ≤ d x := by
  intro x
  induction h : r x using Nat.strongRecOn generalizing x with
  | _ n ih =>
    intro hx
    rcases Nat.eq_zero_or_pos n with rfl | hn
    · exact Nat.zero_le _
    · obtain ⟨y, hy, hd, he⟩ := r2 x hx (h ▸ hn)
      have := ih (r y) (by omega) y rfl hy
      have := d1 x hx y hy hd
      omega

theorem cert_unique {dom : β → β → Bool} {S : List β} (r d : β → Nat)
    (r1 : ∀ x ∈ S, ∀ y ∈ S, dom y x = true → r y < r x)
    (r2 : ∀ x ∈ S, 0 < r x → ∃ y ∈ S, dom y x = true ∧ r y + 1 = r x)
    (d1 : ∀ x ∈ S, ∀ y ∈ S, dom y x = true → d y < d x)
    (d2 : ∀ x ∈ S, 0 < d x → ∃ y ∈ S, dom y x = true ∧ d y + 1 = d x) :
    ∀ x ∈ S, r x = d x :=
  fun x hx => Nat.le_antisymm (rank_le r d r2 d1 x hx) (rank_le d r d2 r1 x hx)

theorem checkCert_iff (dom : β → β → Bool) (S : List β) (r : β → Nat) :
    checkCert dom S r = true ↔
      (∀ x ∈ S, ∀ y ∈ S, dom y x = true → r y < r x) ∧
      (∀ x ∈ S, 0 < r x → ∃ y ∈ S, dom y x = true ∧ r y + 1 = r x) := by
  simp only [checkCert, Bool.and_eq_true, List.all_eq_true, Bool.or_eq_true, Bool.not_eq_true',
    decide_eq_true_eq, List.any_eq_true, Bool.eq_false_iff, Nat.pos_iff_ne_zero, ← or_iff_not_imp_left,
    ← imp_iff_not_or]

theorem mem_peel_iff {dom : β → β → Bool} : ∀ S, SPO dom S → ∀ (i : Nat) (f : List β),
    (peel dom S)[i]? = some f → ∀ x, (x ∈ f ↔ x ∈ S ∧ depth dom S x = i) := by
  apply peel_induction
  · intro i f h; simp [peel_nil] at h
  · intro S hne hS ih i f h x
    rw [peel_eq hne hS] at h
    rw [depth_eq hne hS x]
    cases i with
    | zero =>
      simp only [List.getElem?_cons_zero, Option.some.injEq] at h; subst h
      constructor
      · intro hx; exact ⟨(mem_nondom.1 hx).1, by rw [if_pos hx]⟩
      · rintro ⟨_, h0⟩; by_contra hc; rw [if_neg hc] at h0; omega
    | succ j =>
      simp only [List.getElem?_cons_succ] at h
      rw [ih j f h x]
      constructor
      · rintro ⟨hx, hd⟩
        exact ⟨dominatedPart_subset x hx, by rw [if_neg ((mem_dominatedPart_iff (dominatedPart_subset _ hx)).1 hx), hd]⟩
      · rintro ⟨hx, hd⟩
        by_cases hc : x ∈ nondom dom S
        · rw [if_pos hc] at hd; omega
        · rw [if_neg hc] at hd
          exact ⟨(mem_dominatedPart_iff hx).2 hc, by omega⟩

theorem depth_congr {dom : β → β → Bool} : ∀ S, SPO dom S → ∀ x ∈ S, ∀ y ∈ S,
    (∀ z, dom z x = dom z y) → depth dom S x = depth dom S y := by
  apply peel_induction
  · simp
  · intro S hne hS ih x hx y hy h
    rw [depth_eq hne hS x, depth_eq hne hS y]
    have hiff : x ∈ nondom dom S ↔ y ∈ nondom dom S := by
      simp only [mem_nondom, hx, hy, h]
    by_cases hc : x ∈ nondom dom S
    · rw [if_pos hc, if_pos (hiff.1 hc)]
    · rw [if_neg hc, if_neg (fun h' => hc (hiff.2 h'))]
      rw [ih x ((mem_dominatedPart_iff hx).2 hc) y
        ((mem_dominatedPart_iff hy).2 (fun h' => hc (hiff.2 h'))) h]

end Depth

theorem forall₂_getElem? {γ δ : Type} {R : γ → δ → Prop} : ∀ {l₁ : List γ} {l₂ : List δ},
    List.Forall₂ R l₁ l₂ → ∀ (i : Nat) (a : γ), l₁[i]? = some a → ∃ b, l₂[i]? = some b ∧ R a b
  | _, _, .nil, i, a, h => by simp at h
  | _, _, .cons hr t, 0, a, h => by
    simp only [List.getElem?_cons_zero, Option.some.injEq] at h; subst h; exact ⟨_, by simp, hr⟩
  | _, _, .cons hr t, i + 1, a, h => by
    simp only [List.getElem?_cons_succ] at h ⊢; exact forall₂_getElem? t i a h

theorem prefix_flatten_sublist {γ : Type} {l₁ l₂ : List (List γ)} (h : l₁ <+: l₂) :
    l₁.flatten.Sublist l₂.flatten := by
  obtain ⟨t, rfl⟩ := h
  rw [List.flatten_append]; exact List.sublist_append_left _ _

theorem prefix_getElem? {γ : Type} {l₁ l₂ : List γ} (h : l₁ <+: l₂) (i : Nat) (a : γ)
    (ha : l₁[i]? = some a) : l₂[i]? = some a := by
  obtain ⟨t, rfl⟩ := h
  have hi : i < l₁.length := by
    by_contra hc; rw [List.getElem?_eq_none (by omega)] at ha; simp at ha
  rw [List.getElem?_append_left hi]; exact ha

theorem leading_zero (fs : List (List β)) : leading fs 0 = [] := by
  cases fs <;> simp [leading]

theorem leading_prefix : ∀ (fs : List (List β)) (k : Nat), leading fs k <+: fs
  | [], _ => by simp [leading]
  | f :: fs, k => by
    rw [leading]; split
    · exact List.nil_prefix
    · exact (List.prefix_cons_inj f).2 (leading_prefix fs _)

theorem leading_enough : ∀ (fs : List (List β)) (k : Nat),
    min k fs.flatten.length ≤ (leading fs k).flatten.length
  | [], _ => by simp [leading]
  | f :: fs, k => by
    rw [leading]; split
    · next h => subst h; simp
    · have := leading_enough fs (k - f.length)
      simp only [List.flatten_cons, List.length_append] at this ⊢
      omega

theorem leading_minimal : ∀ (fs : List (List β)) (k : Nat), leading fs k ≠ [] →
    (leading fs k).dropLast.flatten.length < k
  | [], _, h => by simp [leading] at h
  | f :: fs, k, h => by
    rw [leading] at h ⊢
    split
    · next hk => simp [hk] at h
    · next hk =>
      by_cases hr : leading fs (k - f.length) = []
      · rw [hr]; simp; omega
      · have := leading_minimal fs (k - f.length) hr
        rw [List.dropLast_cons_of_ne_nil hr]
        simp only [List.flatten_cons, List.length_append]
        omega

theorem leading_all (fs : List (List β)) (k : Nat) (hne : ∀ f ∈ fs, f ≠ [])
    (hk : fs.flatten.length ≤ k) : leading fs k = fs := by
  induction fs generalizing k with
  | nil => simp [leading]
  | cons f fs ih =>
    have hf : 0 < f.length := List.length_pos_iff.2 (hne f (by simp))
    simp only [List.flatten_cons, List.length_append] at hk
    rw [leading, if_neg (by omega), ih _ (fun g hg => hne g (by simp [hg])) (by omega)]

section Answer
variable {dom : β → β → Bool} {S : List β} {k : Nat} {fronts : List (List β)}

theorem leading_peel_subperm (hS : SPO dom S) (h : List.Forall₂ List.Perm fronts (leading (peel dom S) k)) :
    fronts.flatten.Subperm S :=
  (List.Perm.flatten_congr h).subperm.trans
    ((prefix_flatten_sublist (leading_prefix _ k)).subperm.trans (peel_flatten_perm S hS).subperm)

theorem leading_peel_enough (hS : SPO dom S) (h : List.Forall₂ List.Perm fronts (leading (peel dom S) k)) :
    min k S.length ≤ fronts.flatten.length := by
  rw [(List.Perm.flatten_congr h).length_eq, ← (peel_flatten_perm S hS).length_eq]
  exact leading_enough _ k

theorem leading_peel_minimal (h : List.Forall₂ List.Perm fronts (leading (peel dom S) k)) (hne : fronts ≠ []) :
    fronts.dropLast.flatten.length < k := by
  have hl := h.length_eq
  have hd : List.Forall₂ List.Perm fronts.dropLast (leading (peel dom S) k).dropLast := by
    rw [List.dropLast_eq_take, List.dropLast_eq_take, hl]; exact List.forall₂_take _ h
  rw [(List.Perm.flatten_congr hd).length_eq]
  exact leading_minimal _ k fun e => hne (List.length_eq_zero_iff.1 (by rw [hl, e]; rfl))

theorem leading_peel_all (hS : SPO dom S) (h : List.Forall₂ List.Perm fronts (leading (peel dom S) k))
    (hk : S.length ≤ k) : fronts.flatten.Perm S ∧ List.Forall₂ List.Perm fronts (peel dom S) := by
  rw [leading_all _ k (peel_fronts_ne_nil S hS) (by rw [(peel_flatten_perm S hS).length_eq]; exact hk)] at h
  exact ⟨(List.Perm.flatten_congr h).trans (peel_flatten_perm S hS), h⟩

theorem leading_peel_mem_iff [DecidableEq β] (hS : SPO dom S)
    (h : List.Forall₂ List.Perm fronts (leading (peel dom S) k)) {i : Nat} {f : List β}
    (hf : fronts[i]? = some f) (x : β) : x ∈ f ↔ x ∈ S ∧ depth dom S x = i := by
  obtain ⟨b, hb, hperm⟩ := forall₂_getElem? h i f hf
  rw [hperm.mem_iff]
  exact mem_peel_iff S hS i b (prefix_getElem? (leading_prefix _ _) i b hb) x

end Answer

section Cert
variable [DecidableEq β]

theorem fronts_unique : ∀ (A B : List (List β)), A.flatten.Nodup → A.flatten.Perm B.flatten →
    (∀ f ∈ A, f ≠ []) → (∀ f ∈ B, f ≠ []) → (∀ x ∈ A.flatten, frontIdx A x = frontIdx B x) →
    List.Forall₂ List.Perm A B
  | [], [], _, _, _, _, _ => .nil
  | [], b :: B, _, hp, _, hB, _ => by
    have := hp.symm.eq_nil; rw [List.flatten_cons, List.append_eq_nil_iff] at this
    exact absurd this.1 (hB b (by simp))
  | a :: A, [], _, hp, hA, _, _ => by
    have := hp.eq_nil; rw [List.flatten_cons, List.append_eq_nil_iff] at this
    exact absurd this.1 (hA a (by simp))
  | a :: A, b :: B, hnd, hp, hA, hB, hidx => by
    simp only [List.flatten_cons] at hnd hp hidx
    have hndB := hp.nodup_iff.1 hnd
    -- the first fronts hold the elements of index 0
    have h0 : ∀ (c : List β) (C : List (List β)) (x : β), frontIdx (c :: C) x = 0 ↔ x ∈ c := fun c C x => by
      rw [frontIdx]; split <;> simp [*]
    have hab : ∀ x, x ∈ a ↔ x ∈ b := fun x =>
      ⟨fun hx => (h0 b B x).1 (by rw [← hidx x (List.mem_append_left _ hx)]; exact (h0 a A x).2 hx),
       fun hx => (h0 a A x).1 (by rw [hidx x (hp.mem_iff.2 (List.mem_append_left _ hx))]; exact (h0 b B x).2 hx)⟩
    have hpab : a.Perm b :=
      (List.perm_ext_iff_of_nodup (List.nodup_append.1 hnd).1 (List.nodup_append.1 hndB).1).2 hab
    have hp' : A.flatten.Perm B.flatten :=
      (List.perm_append_left_iff a).1 (hp.trans (List.Perm.append_right _ hpab.symm))
    refine .cons hpab (fronts_unique A B (List.nodup_append.1 hnd).2.1 hp' (fun f hf => hA f (by simp [hf]))
      (fun f hf => hB f (by simp [hf])) fun x hx => ?_)
    have hxa : x ∉ a := fun h => (List.nodup_append.1 hnd).2.2 x h x hx rfl
    have := hidx x (List.mem_append_right _ hx)
    simp only [frontIdx, hxa, mt (hab x).2 hxa, ↓reduceIte] at this
    omega

theorem checkRanking_sound_aux (dom : β → β → Bool) (S : List β) (hnd : S.Nodup) (hS : SPO dom S)
    (fronts : List (List β)) (h : checkRanking dom S fronts = true) :
    List.Forall₂ List.Perm fronts (peel dom S) := by
  simp only [checkRanking, Bool.and_eq_true, List.all_eq_true, Bool.not_eq_true', List.isEmpty_eq_false_iff,
    List.isPerm_iff, checkCert_iff] at h
  obtain ⟨⟨hne, hperm⟩, h1, h2⟩ := h
  refine fronts_unique fronts (peel dom S) (hperm.nodup_iff.2 hnd) (hperm.trans (peel_flatten_perm S hS).symm)
    hne (peel_fronts_ne_nil S hS) fun x hx => ?_
  exact cert_unique (frontIdx fronts) (depth dom S) h1 h2 (depth_lt_of_dom S hS) (depth_pred S hS) x
    (hperm.mem_iff.1 hx)

end Cert

end C04L
