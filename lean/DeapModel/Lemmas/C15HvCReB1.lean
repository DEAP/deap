import DeapModel.Lemmas.C15HvCReA3
/-!
C15 — the 3-D base case of `_hv.c` re-entered with a finite `bound[2]`: the facts about the list of dimension 2 read
off `InvC`, the contract of the ENTRY phase l.838-898 (`EntryRes`), the EXIT (from the invariant of the main loop at the
end of the list to `PostC`), and Case 1 (the last node is below the bound: the value is read off the caches).
-/
namespace HvC
open HvSweep (Hj RL)

variable {C : Cargo} {R : List ℚ} {d n : ℕ} {O : ℕ → List ℕ}

/-- what `InvC … S 2 A` says about the list of dimension 2 -/
structure L2 (C : Cargo) (R : List ℚ) (d n : ℕ) (O : ℕ → List ℕ) (S : St) (A : List ℕ) : Prop where
  hd : 2 < d
  dl : DLc n S 2 (RL O 2 A)
  mem : ∀ a, a ∈ RL O 2 A ↔ a ∈ A
  sorted : (RL O 2 A).Pairwise (fun a b => cg C a 2 ≤ cg C b 2)
  len : (RL O 2 A).length = A.length
  nd : (RL O 2 A).Nodup

theorem l2_of_inv {S : St} {A : List ℕ}
    (c : CCtx C R d n O) (inv : InvC C R d n O S 2 A) : L2 C R d n O S A := by
  have hd2 : 2 < d := c.hd
  have hperm := HvSweep.RL_perm c.g hd2 A inv.nodup inv.sub
  refine ⟨hd2, inv.lists 2 (le_refl _) (le_refl _), fun a => hperm.mem_iff, ?_, hperm.length_eq,
    HvSweep.RL_nodup c.g hd2 A⟩
  exact c.RL_sorted hd2 A

theorem L2.ne {S : St} {A : List ℕ} (l2 : L2 C R d n O S A)
    (hA : 2 ≤ A.length) : RL O 2 A ≠ [] := fun h => by
  have := l2.len
  rw [h] at this
  simp at this
  omega

theorem pv0_last {n : ℕ} {S : St} {L : List ℕ} (h : DLc n S 2 L) (hne : L ≠ []) : pv S 2 0 = L.getLast hne := by
  have := HvSweep.seg_pv_end (toSw S) 2 L 0 0 h.1
  rw [show HvSweep.pv (toSw S) 2 0 = pv S 2 0 from rfl] at this
  rw [this, List.getLast_cons hne]

theorem L2.last_mem {S : St} {A : List ℕ} (l2 : L2 C R d n O S A)
    (hA : 2 ≤ A.length) : pv S 2 0 ∈ RL O 2 A := by
  rw [pv0_last l2.dl (l2.ne hA)]
  exact List.getLast_mem _

/-- the entry phase clears the mark of ONE node `m` (l.848 / l.860) and leaves `domr` of every marked node alone: the
marks stay sound and a marked node still has `domr = x[2]` -/
theorem marks_cleared {S T : St} {A : List ℕ} {m : ℕ} (hm : ign T m = 0) (hne : ∀ q, q ≠ m → ign T q = ign S q)
    (hdr : ∀ q, q ≠ m → 2 ≤ ign S q → dr T q = dr S q)
    (hig : IGc C O S A) (higd : ∀ q, 2 ≤ ign S q → dr S q = cg C q 2) :
    IGc C O T A ∧ ∀ q, 2 ≤ ign T q → dr T q = cg C q 2 := by
  have key : ∀ q, 2 ≤ ign T q → q ≠ m := fun q h e => by rw [e, hm] at h; exact absurd h (by decide)
  refine ⟨fun q hq h => ?_, fun q h => ?_⟩
  · have e := hne q (key q h)
    rw [e] at h ⊢
    exact hig q hq h
  · have hq := key q h
    rw [hne q hq] at h
    rw [hdr q hq h]
    exact higd q h

/-- what the entry phase hands to the main loop: the loop invariant for the nodes `P` taken from the caches, and what it
wrote (`bound[2]`, and `tree`, `domr`, `ignore`, `area[·][2]`, `vol[·][2]` of nodes of `A`).

The cases of the entry phase (`dim3_ok` makes the split), by where the nodes of the list of dimension 2 lie relative
to `bound[2]`: **Case 0** `bound[2] = -DBL_MAX`, and **Case 2** every node at or above the bound — the same code path
l.844-848, one lemma for both (`dim3_caseA`, `caseA_entry`, state `entryA`); **Case 1** every node below the bound —
l.838-839 return at once, no main loop, no `EntryRes` (`case1_post`); **Case 3** some below, some at or above —
`skipLoop`, `reconnectLoop` (`case3_entry`). -/
structure EntryRes (C : Cargo) (R : List ℚ) (d n : ℕ) (O : ℕ → List ℕ) (A : List ℕ) (S S3 : St) (P Q : List ℕ)
    (hv ha : ℚ) : Prop where
  sl : SLInv C R d n O A S3 P Q hv ha
  next : S3.next = S.next
  prev : S3.prev = S.prev
  bound : S3.bound = S.bound.set 2 (some (cg C (pv S 2 0) 2))
  ign_out : ∀ y, y ∉ A → ign S3 y = ign S y
  dr_out : ∀ y, y ∉ A → dr S3 y = dr S y
  cache_hi : ∀ a i, i ≠ 2 → ar S3 a i = ar S a i ∧ vl S3 a i = vl S a i

/-- **the exit**: the main loop run from the state prepared by the entry phase, and `avl_clear_tree`, establish `PostC` -/
theorem exit_post {F : ℕ}
    (c : CCtx C R d n O) (hF : n + 2 ≤ F) {S : St} {A : List ℕ} (inv : InvC C R d n O S 2 A) (hA : 2 ≤ A.length)
    {S3 : St} {P Q : List ℕ} {hv ha : ℚ} (hE : EntryRes C R d n O A S S3 P Q hv ha)
    (hrun : ∀ v S', sweepLoop C R F F (Q.headD 0) hv ha S3 = some (v, S') → dim3 C R F S = some (v, avlClearTree S')) :
    ∃ v S', dim3 C R F S = some (v, S') ∧ PostC C R d n O S S' 2 A v := by
  have l2 := l2_of_inv c inv
  have hsplit := hE.sl.split
  have hLn : (RL O 2 A).length ≤ n := HvSweep.dl_length_le l2.dl
  have hQlen : Q.length ≤ F := by
    have : (RL O 2 A).length = P.length + Q.length := by rw [hsplit]; simp
    omega
  obtain ⟨v, ha', S', hsw, hSL, hnx, hpv, hbd, hcl, hig, hdr, hcache⟩ :=
    sweepLoopRe C R d n O A F F P Q hv ha S3 c hE.sl hQlen (by omega)
  refine ⟨v, avlClearTree S', hrun v S' hsw, ?_⟩
  have hmemPQ : ∀ a, a ∈ P ++ Q ↔ a ∈ A := by
    intro a
    rw [← hsplit]
    exact l2.mem a
  have hQA : ∀ y, y ∉ A → y ∉ Q := fun y hy hq => hy ((hmemPQ y).mp (List.mem_append_right _ hq))
  have hPQA : ∀ y, y ∉ A → y ∉ P ++ Q := fun y hy hq => hy ((hmemPQ y).mp hq)
  have hlast : pv S 2 0 ∈ A := (l2.mem _).mp (l2.last_mem hA)
  have hbl : 2 < S.bound.length := by rw [inv.tsh.bound]; exact l2.hd
  have hb2 : S'.bound.getD 2 none = some (cg C (pv S 2 0) 2) := by
    rw [hbd, hE.bound]
    exact List.getD_set_self _ _ _ _ hbl
  have hval : v = Hj R (spt C R) 2 A := by
    have h1 := hSL.val
    simp only [zOf, sub_self, mul_zero, add_zero] at h1
    rw [h1]
    exact HvSweep.Hj_congr R (spt C R) 2 _ _ hmemPQ
  have hptr : PtrEqC S (avlClearTree S') := fun i a =>
    ⟨congrArg (HvSweep.tget · i a 0) (hnx.trans hE.next), congrArg (HvSweep.tget · i a 0) (hpv.trans hE.prev)⟩
  exact
    { val := hval
      ptr := hptr
      inv :=
        { inv with
          shape := hSL.shape
          tsh := ⟨hSL.tsh.area, hSL.tsh.vol, hSL.tsh.ign, hSL.tsh.domr, hSL.tsh.bound⟩
          lists := by
            intro i hi1 hi2
            have : i = 2 := by omega
            subst this
            exact hSL.dl
          cv := by
            intro j hj1 hjK a haA b hb hlt
            have : j = 1 := by omega
            subst this
            exact hSL.cache a ((hmemPQ a).mpr haA)
          ig := hSL.ig
          igd := hSL.igd
          dm := by
            intro a haA b hb hlt
            have hb' : S'.bound.getD 2 none = some b := hb
            rw [hb2] at hb'
            have hbe : b = cg C (pv S 2 0) 2 := (Option.some.inj hb').symm
            have haP : a ∈ P ++ Q := (hmemPQ a).mpr haA
            refine ⟨hSL.drge a haP, ?_, ?_⟩
            · intro q hq _ hbt
              exact hSL.drL a haP q ((hmemPQ q).mpr hq) hbt
            · intro hdlt
              have hnt : a ∉ S'.tree := by
                intro ht
                have h1 : dr S' a = rf R 2 := hSL.drT a ht
                have h2 : dr S' a < b := hdlt
                have h3 := inv.good (pv S 2 0) hlast 2 l2.hd
                rw [h1, hbe] at h2
                exact lt_asymm h2 h3
              obtain ⟨_, q, hq, hbt, hle⟩ := hSL.drout a haP hnt
              exact ⟨q, (hmemPQ q).mp hq, hbt, hle⟩
          tree := rfl }
      ign_out := by
        intro y hy
        show ign S' y = ign S y
        rw [hig y (hQA y hy), hE.ign_out y hy]
      dr_out := by
        intro y hy
        show dr S' y = dr S y
        rw [hdr y (hPQA y hy), hE.dr_out y hy]
      cache_hi := by
        intro a i hi
        have h1 := hcache a i (Or.inl (by omega))
        have h2 := hE.cache_hi a i (by omega)
        exact ⟨h1.1.trans h2.1, h1.2.trans h2.2⟩
      bound_hi := by
        intro i hi
        show S'.bound.getD i none = S.bound.getD i none
        rw [hbd, hE.bound]
        exact List.getD_set_ne _ _ _ (by omega) }

theorem ltBound_some {S : St} {b x : ℚ} (h : S.bound.getD 2 none = some b) : ltBound S 2 x = decide (x < b) := by
  unfold ltBound geBound
  rw [h]
  by_cases hx : x < b
  · simp [hx, not_le.mpr hx]
  · simp [hx, not_lt.mp hx]

theorem geBound_some {S : St} {b x : ℚ} (h : S.bound.getD 2 none = some b) : geBound S 2 x = decide (b ≤ x) := by
  unfold geBound
  rw [h]

theorem case1_post {F : ℕ}
    (c : CCtx C R d n O) {S : St} {A : List ℕ} (inv : InvC C R d n O S 2 A) (hA : 2 ≤ A.length)
    {b : ℚ} (hb : S.bound.getD 2 none = some b) (hlt : cg C (pv S 2 0) 2 < b) :
    ∃ v S', dim3 C R F S = some (v, S') ∧ PostC C R d n O S S' 2 A v := by
  have l2 := l2_of_inv c inv
  have hLne := l2.ne hA
  have hlastE := pv0_last l2.dl hLne
  have hlast : pv S 2 0 ∈ A := (l2.mem _).mp (l2.last_mem hA)
  refine ⟨vl S (pv S 2 0) 2 + ar S (pv S 2 0) 2 * (rf R 2 - cg C (pv S 2 0) 2), S, ?_, ?_⟩
  · unfold dim3
    simp only
    rw [ltBound_some hb, decide_eq_true hlt]
    simp only [if_true]
  · obtain ⟨h1, h2⟩ := inv.cv 1 (le_refl _) (by omega) (pv S 2 0) hlast b hb hlt
    have hL : RL O (1 + 1) A = (RL O 2 A).dropLast ++ [pv S 2 0] := by
      rw [hlastE]
      exact (List.dropLast_append_getLast hLne).symm
    have hH := HvSweep.Hj_of_last c.g 1 l2.hd A inv.sub _ _ hL
    rw [c.cg_tr' (inv.sub _ hlast) l2.hd (inv.good _ hlast _ l2.hd)] at hH
    exact
      { val := by
          rw [h1, h2, ← hH]
          ring
        ptr := fun _ _ => ⟨rfl, rfl⟩
        inv := inv
        ign_out := fun _ _ => rfl
        dr_out := fun _ _ => rfl
        cache_hi := fun _ _ _ => ⟨rfl, rfl⟩
        bound_hi := fun _ _ => rfl }

end HvC
