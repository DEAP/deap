/-
C01 — helper lemmas of the TRANSLATOR TIE (`harness/py2lean_c01.py`, `GenEq/C01.lean.tmpl`): the prelude of the
generated definitions (`Core/GenPreludeC01.lean`) against the shapes the hand-written model of `Core/Fitness.lean` uses.
The committed equality theorems `Gen01.<Class>_<method> = <model>` are proved with these.
The template is elaborated on top of this module alone; `Core/FitClass.lean` is imported for the definitions
`init`, `cinit` and `hashWith` that the template's theorems are about.
-/
import DeapModel.Core.GenPreludeC01
import DeapModel.Core.FitClass
import DeapModel.Lemmas.PyLemmas

set_option linter.unusedSectionVars false

namespace Gen01L
open Fitness

variable {α : Type} [LT α] [LE α] [DecidableEq α] [DecidableLT α] [DecidableLE α]

/-! ### `len(x)` is a Python int: the generated conditions compare `Int` casts of list lengths -/

theorem int_len_eq (m n : Nat) : ((m : Int) = (n : Int)) ↔ m = n := by omega
theorem int_len_pos (n : Nat) : ((0 : Int) < (n : Int)) ↔ 0 < n := by omega
theorem int_len_ne_zero (n : Nat) : ((n : Int) ≠ (0 : Int)) ↔ n ≠ 0 := by omega

theorem decide_len_ne_zero (n : Nat) : decide ((n : Int) ≠ (0 : Int)) = (n != 0) := by
  cases n with
  | zero => rfl
  | succ k =>
    have h : ((k + 1 : Nat) : Int) ≠ 0 := by omega
    rw [decide_eq_true h]; simp

/-- the loop of `Fitness.dominates` as the translator renders it (`forRet` over the zipped tuples, state = the flag
`not_equal`, `return False` = `Sum.inl false`) is the model's structural recursion `dominatesLoop` -/
theorem forRet_dominatesLoop (body : Bool → α × α → Sum Bool Bool)
    (hb : ∀ s p, body s p = if p.2 < p.1 then Sum.inr true else if p.1 < p.2 then Sum.inl false else Sum.inr s) :
    ∀ (a b : List α) (s : Bool),
      Sum.elim (fun r => r) (fun s' => s') (Gen01.forRet body (List.zip a b) s) = dominatesLoop a b s := by
  intro a
  induction a with
  | nil => intro b s; simp [Gen01.forRet, dominatesLoop]
  | cons x xs ih =>
    intro b s
    cases b with
    | nil => simp [Gen01.forRet, dominatesLoop]
    | cons y ys =>
      simp only [List.zip_cons_cons, Gen01.forRet, dominatesLoop, hb]
      by_cases h1 : y < x
      · simp only [h1, if_true]; exact ih ys true
      · by_cases h2 : x < y
        · simp [h1, h2]
        · simp only [h1, h2, if_false]; exact ih ys s

theorem pySlice_range {β : Type} (l : List β) : Py.slice (List.range l.length) l = l := Py.slice_range l

/-- `seq[slice(None)]` is the whole sequence -/
theorem sliceIdx_all (n : Nat) : Gen01.sliceIdx Gen01.PySlice.all n = List.range n := by
  unfold Gen01.sliceIdx Gen01.PySlice.all
  by_cases hn : n = 0
  · subst hn; simp
  · simp
    have h3 : (if 0 < n then n - 1 + 1 else 0) = n := by split <;> omega
    rw [h3]

theorem sliceObj_all {β : Type} (l : List β) : Gen01.sliceObj Gen01.PySlice.all l = l := by
  unfold Gen01.sliceObj
  rw [sliceIdx_all, pySlice_range]

end Gen01L
