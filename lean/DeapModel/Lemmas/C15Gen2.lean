import DeapModel.Lemmas.C15Gen1
/-!
C15 — the dynamic invariant of the sweep: cache validity below the bounds (`CV`), soundness of the `ignore`
marks (`IG`), their preservation by `remove` / `reinsert`, and the interface of one level (`Inv`, `Post`, `LevelOK`).
-/
namespace HvSweep

/-- area and volume tables have a row per node id and a column per dimension -/
def TShape (dims n : ℕ) (S : St) : Prop :=
  Shaped (n + 1) dims S.area ∧ Shaped (n + 1) dims S.volume ∧ S.ignore.length = n + 1

/-- **cache validity**: at every level `j + 1 ≥ 2` below `K`, the caches of every node of `A` whose coordinate is
strictly below the bound of that level hold the ideal values w.r.t. the node set `A` -/
def CV (C : Cargo) (ref : List ℚ) (pt : ℕ → List ℚ) (O : ℕ → List ℕ) (S : St) (K : ℕ) (A : List ℕ) : Prop :=
  ∀ j, 1 ≤ j → j + 1 < K → ∀ a ∈ A, ∀ b, S.bounds.getD (j + 1) none = some b → cg C a (j + 1) < b →
    ar S a (j + 1) = ARv ref pt O j A a ∧ vl S a (j + 1) = VOLv C ref pt O j A a

/-- `b` dominates `q` in the coordinates `0 .. m` and precedes it in the static orders `1 .. m` -/
def Dom (C : Cargo) (O : ℕ → List ℕ) (m b q : ℕ) : Prop :=
  b ≠ q ∧ cg C b 0 ≤ cg C q 0 ∧ ∀ j, 1 ≤ j → j ≤ m → pos O j b < pos O j q

/-- **soundness of the ignore marks** w.r.t. the node set `A` -/
def IG (C : Cargo) (O : ℕ → List ℕ) (S : St) (A : List ℕ) : Prop :=
  ∀ q ∈ A, 1 ≤ ign S q → ∃ b ∈ A, Dom C O (ign S q) b q

section ctx
variable {C : Cargo} {dims n : ℕ} {O : ℕ → List ℕ} {pt : ℕ → List ℚ} {ref : List ℚ}

/-- removing (or inserting) a node `x` changes the set; the caches that stay claimed are those of nodes strictly
before `x`, whose prefixes do not contain `x` -/
theorem cv_change (g : GCtx C dims n O pt ref) {S T : St} {x k K : ℕ} (hK : K ≤ k) (hkd : k ≤ dims)
    (hf : BFrame C x k S T) {A B : List ℕ} (hx : x ∈ ids n) (hB : ∀ a ∈ B, a ∈ ids n)
    (hAB : ∀ a, a ≠ x → (a ∈ A ↔ a ∈ B)) (hcv : CV C ref pt O S K A) : CV C ref pt O T K B := by
  intro j hj1 hjK a ha b' hb' hlt
  have hjk : j + 1 < k := by omega
  have hjd : j + 1 < dims := by omega
  obtain ⟨b, hb, hb'b, hb'x⟩ := hf.bounds_lt (j + 1) hjk b' hb'
  have hax : a ≠ x := by
    intro e; rw [e] at hlt; linarith
  have haA : a ∈ A := (hAB a hax).mpr ha
  obtain ⟨e1, e2⟩ := hcv j hj1 hjK a haA b hb (lt_of_lt_of_le hlt hb'b)
  have hpos : pos O (j + 1) a < pos O (j + 1) x :=
    g.pos_lt_of_cg_lt hjd ((g.mem hjd a).mpr (hB a ha)) ((g.mem hjd x).mpr hx) (lt_of_lt_of_le hlt hb'x)
  have hsame : ∀ b0, pos O (j + 1) b0 ≤ pos O (j + 1) a → (b0 ∈ A ↔ b0 ∈ B) := by
    intro b0 hb0
    apply hAB
    intro e; rw [e] at hb0; omega
  rw [ar_of_area hf.area, vl_of_volume hf.volume, e1, e2]
  exact ⟨ARv_congr O j A B a hsame, VOLv_congr O j A B a hsame⟩

theorem cv_frame {S T : St} {K : ℕ} {A : List ℕ}
    (h1 : ∀ a i, i < K → ar T a i = ar S a i) (h2 : ∀ a i, i < K → vl T a i = vl S a i)
    (h3 : ∀ i, i < K → T.bounds.getD i none = S.bounds.getD i none) (hcv : CV C ref pt O S K A) :
    CV C ref pt O T K A := by
  intro j hj1 hjK a ha b hb hlt
  rw [h3 (j + 1) hjK] at hb
  rw [h1 a (j + 1) hjK, h2 a (j + 1) hjK]
  exact hcv j hj1 hjK a ha b hb hlt

theorem cv_mono_level {S : St} {K K' : ℕ} {A : List ℕ} (h : K' ≤ K) (hcv : CV C ref pt O S K A) :
    CV C ref pt O S K' A :=
  fun j hj1 hjK => hcv j hj1 (by omega)

theorem cv_congr_set {S : St} {K : ℕ} {A B : List ℕ} (h : ∀ a, a ∈ A ↔ a ∈ B) (hcv : CV C ref pt O S K A) :
    CV C ref pt O S K B := by
  intro j hj1 hjK a ha b hb hlt
  obtain ⟨e1, e2⟩ := hcv j hj1 hjK a ((h a).mpr ha) b hb hlt
  rw [e1, e2]
  exact ⟨ARv_congr O j A B a (fun b0 _ => h b0), VOLv_congr O j A B a (fun b0 _ => h b0)⟩

theorem cv_removeSeq (g : GCtx C dims n O pt ref) {k : ℕ} (hkd : k ≤ dims) : ∀ (rs : List ℕ) (S : St) (A B : List ℕ),
    (∀ a ∈ A, a ∈ ids n) → (∀ y ∈ rs, y ∈ ids n) → (∀ a, a ∈ B ↔ a ∈ A ∧ a ∉ rs) → CV C ref pt O S k A →
    CV C ref pt O (removeSeq C k S rs) k B
  | [], S, A, B, _, _, hB, hcv => cv_congr_set (fun a => by rw [hB a]; simp) hcv
  | x :: rs, S, A, B, hA, hrs, hB, hcv =>
    cv_removeSeq g hkd rs (remove C S x k) (A.filter (fun a => decide (a ≠ x))) B
      (fun a ha => hA a (List.mem_filter.mp ha).1) (fun y hy => hrs y (List.mem_cons_of_mem _ hy))
      (fun a => by rw [hB a, List.mem_filter, List.mem_cons, not_or]; simp [and_assoc])
      (cv_change g (le_refl _) hkd (remove_bframe C x k S) (hrs x List.mem_cons_self)
        (fun a ha => hA a (List.mem_filter.mp ha).1) (fun a hax => by simp [hax]) hcv)

theorem ig_mono {S : St} {A B : List ℕ} (hAB : ∀ a ∈ A, a ∈ B) (hig : IG C O S A)
    (hnew : ∀ q ∈ B, q ∉ A → 1 ≤ ign S q → ∃ b ∈ B, Dom C O (ign S q) b q) : IG C O S B := by
  intro q hq hm
  by_cases hqA : q ∈ A
  · obtain ⟨b, hb, hd⟩ := hig q hqA hm
    exact ⟨b, hAB b hb, hd⟩
  · exact hnew q hq hqA hm

theorem ig_frame {S T : St} {A : List ℕ} (h : ∀ a ∈ A, ign T a = ign S a) (hig : IG C O S A) : IG C O T A := by
  intro q hq hm
  rw [h q hq] at hm ⊢
  exact hig q hq hm

theorem dom_mono {m m' b q : ℕ} (h : m' ≤ m) (hd : Dom C O m b q) : Dom C O m' b q :=
  ⟨hd.1, hd.2.1, fun j hj1 hjm => hd.2.2 j hj1 (by omega)⟩

theorem dom_succ {m b q : ℕ} (hd : Dom C O m b q) (h : pos O (m + 1) b < pos O (m + 1) q) : Dom C O (m + 1) b q :=
  ⟨hd.1, hd.2.1, fun i hi1 hi2 => (Nat.lt_or_ge i (m + 1)).elim (fun hlt => hd.2.2 i hi1 (Nat.le_of_lt_succ hlt))
    (fun hge => Nat.le_antisymm hi2 hge ▸ h)⟩

/-- a top node that a present earlier node dominates in the coordinates `0 .. j` adds nothing to the area of its
level: `AR(q) = AR(prev)` -/
theorem ARv_of_dominated_le (g : GCtx C dims n O pt ref) (j : ℕ) (hj : j + 1 < dims) (A : List ℕ)
    (hA : ∀ a ∈ A, a ∈ ids n) (l₁ l₂ : List ℕ) (a q : ℕ) (hL : RL O (j + 1) A = l₁ ++ a :: q :: l₂)
    (b : ℕ) (hbA : b ∈ A) (hne : b ≠ q) (hpos : pos O (j + 1) b < pos O (j + 1) q)
    (hle : ∀ i ≤ j, (pt b).getD i 0 ≤ (pt q).getD i 0) :
    ARv ref pt O j A q = ARv ref pt O j A a := by
  have hmem := mem_preSet_succ g hj A hA l₁ l₂ a q hL
  -- `b` precedes `q` in the order of the level, so it is at or before `a`
  have hbpre : b ∈ preSet O (j + 1) A a := by
    rcases List.mem_cons.mp ((hmem b).mp ((mem_preSet O (j + 1) A q b).mpr ⟨hbA, le_of_lt hpos⟩)) with h | h
    · exact absurd h hne
    · exact h
  unfold ARv
  rw [Hj_congr ref pt j _ _ hmem]
  exact Hj_dominated ref pt j _ b q hbpre hle

theorem ARv_of_dominated (g : GCtx C dims n O pt ref) (j : ℕ) (hj : j + 1 < dims) (A : List ℕ)
    (hA : ∀ a ∈ A, a ∈ ids n) (l₁ l₂ : List ℕ) (a q : ℕ) (hL : RL O (j + 1) A = l₁ ++ a :: q :: l₂)
    (b m : ℕ) (hbA : b ∈ A) (hm : j + 1 ≤ m) (hd : Dom C O m b q) :
    ARv ref pt O j A q = ARv ref pt O j A a := by
  refine ARv_of_dominated_le g j hj A hA l₁ l₂ a q hL b hbA hd.1 (hd.2.2 (j + 1) (by omega) hm) (fun i hi => ?_)
  have hqI := hA q ((mem_RL O (j + 1) A q).mp (by rw [hL]; simp)).2
  have hbI := hA b hbA
  have hid : i < dims := by omega
  have : cg C b i ≤ cg C q i := by
    rcases Nat.eq_zero_or_pos i with rfl | hpos
    · exact hd.2.1
    · exact g.cg_le_of_pos hid ((g.mem hid q).mpr hqI) ((g.mem hid b).mpr hbI) (le_of_lt (hd.2.2 i hpos (by omega)))
  rw [g.cgv b hbI i hid, g.cgv q hqI i hid] at this
  linarith

theorem RL_nodup (g : GCtx C dims n O pt ref) {i : ℕ} (hi : i < dims) (A : List ℕ) : (RL O i A).Nodup :=
  (g.nodup hi).sublist (RL_sublist O i A)

theorem mem_RL_of_sub (g : GCtx C dims n O pt ref) {i : ℕ} (hi : i < dims) {A : List ℕ} (hA : ∀ a ∈ A, a ∈ ids n)
    (a : ℕ) : a ∈ RL O i A ↔ a ∈ A := by
  rw [mem_RL]
  exact ⟨fun h => h.2, fun h => ⟨(g.mem hi a).mpr (hA a h), h⟩⟩

theorem RL_perm (g : GCtx C dims n O pt ref) {i : ℕ} (hi : i < dims) (A : List ℕ) (hnd : A.Nodup)
    (hA : ∀ a ∈ A, a ∈ ids n) : (RL O i A).Perm A :=
  (List.perm_ext_iff_of_nodup (RL_nodup g hi A) hnd).mpr (mem_RL_of_sub g hi hA)

/-- a split of the restricted list: the nodes before the cut are those of `A` that are not behind it -/
theorem RL_split (g : GCtx C dims n O pt ref) {i : ℕ} (hi : i < dims) {A : List ℕ} (hA : ∀ a ∈ A, a ∈ ids n)
    {pre rest : List ℕ} (h : RL O i A = pre ++ rest) :
    pre.Nodup ∧ rest.Nodup ∧ (∀ a, a ∈ pre ↔ a ∈ A ∧ a ∉ rest) ∧ ∀ y ∈ rest, y ∈ A := by
  have hnd := List.nodup_append.mp (h ▸ RL_nodup g hi A)
  have hLA : ∀ a, a ∈ pre ++ rest ↔ a ∈ A := fun a => h ▸ mem_RL_of_sub g hi hA a
  exact ⟨hnd.1, hnd.2.1,
    fun a => ⟨fun ha => ⟨(hLA a).mp (List.mem_append_left _ ha), fun hr => hnd.2.2 a ha a hr rfl⟩,
      fun ⟨ha, hr⟩ => (List.mem_append.mp ((hLA a).mpr ha)).resolve_right hr⟩,
    fun y hy => (hLA y).mp (List.mem_append_right _ hy)⟩

/-- a present node that precedes a node of the front part lies in the front part itself -/
theorem mem_pre_of_pos_lt (g : GCtx C dims n O pt ref) {i : ℕ} (hi : i < dims) {A : List ℕ} (hA : ∀ a ∈ A, a ∈ ids n)
    {pre rest : List ℕ} (h : RL O i A = pre ++ rest) {b y : ℕ} (hy : y ∈ pre) (hb : b ∈ A)
    (hpos : pos O i b < pos O i y) : b ∈ pre := by
  rcases List.mem_append.mp (h ▸ (mem_RL_of_sub g hi hA b).mpr hb) with hbp | hbr
  · exact hbp
  · have hsub : [y, b].Sublist (O i) :=
      ((List.singleton_sublist.mpr hy).append (List.singleton_sublist.mpr hbr)).trans (h ▸ RL_sublist O i A)
    have := idxOf_lt_of_sublist_pair (O i) y b (g.nodup hi) hsub
    unfold pos at hpos
    omega

theorem RL_sorted (g : GCtx C dims n O pt ref) {i : ℕ} (hi : i < dims) (A : List ℕ) :
    (RL O i A).Pairwise (fun a b => cg C a i ≤ cg C b i) :=
  (g.sorted i hi).sublist (RL_sublist O i A)

theorem RL_diff (g : GCtx C dims n O pt ref) {i : ℕ} (hi : i < dims) (A B rs : List ℕ)
    (hB : ∀ a, a ∈ B ↔ a ∈ A ∧ a ∉ rs) : (RL O i A).diff rs = RL O i B := by
  rw [(RL_nodup g hi A).sdiff_eq_filter]
  unfold RL
  rw [List.filter_filter]
  apply List.filter_congr
  intro a _
  by_cases h1 : a ∈ A <;> by_cases h2 : a ∈ rs <;> simp_all

end ctx

/-- the precondition of `hvRecursive(k, ·)` when the lists `0 .. k` hold the node set `A` -/
structure Inv (C : Cargo) (dims n : ℕ) (O : ℕ → List ℕ) (pt : ℕ → List ℚ) (ref : List ℚ)
    (S : St) (k : ℕ) (A : List ℕ) : Prop where
  shape : Shape dims n S
  tshape : TShape dims n S
  nodup : A.Nodup
  sub : ∀ a ∈ A, a ∈ ids n
  lists : ∀ i ≤ k, DL n S i (RL O i A)
  cv : CV C ref pt O S (k + 1) A
  ig : IG C O S A

/-- what `hvRecursive(k, ·)` guarantees on return -/
structure Post (C : Cargo) (dims n : ℕ) (O : ℕ → List ℕ) (pt : ℕ → List ℚ) (ref : List ℚ)
    (S S' : St) (k : ℕ) (A : List ℕ) (v : ℚ) : Prop where
  val : v = Hj ref pt k A
  ptr : PtrEq S S'
  inv : Inv C dims n O pt ref S' k A
  ign_out : ∀ y, y ∉ A → y ≠ 0 → ign S' y = ign S y
  cache_hi : ∀ a i, k < i → ar S' a i = ar S a i ∧ vl S' a i = vl S a i
  bounds_hi : ∀ i, k < i → S'.bounds.getD i none = S.bounds.getD i none

/-- level `k` is correct on every admissible state -/
def LevelOK (C : Cargo) (dims n : ℕ) (O : ℕ → List ℕ) (pt : ℕ → List ℚ) (ref : List ℚ) (F k : ℕ) : Prop :=
  ∀ (S : St) (A : List ℕ), Inv C dims n O pt ref S k A → A ≠ [] →
    ∃ v S', hvRecursive C F k A.length S = some (v, S') ∧ Post C dims n O pt ref S S' k A v

/-- the invariant reads the pointers, the caches, the bounds and the marks only: a state that differs in the marks (and
in `calls`) satisfies it as soon as its marks are sound -/
theorem inv_of_marks {C : Cargo} {dims n : ℕ} {O : ℕ → List ℕ} {pt : ℕ → List ℚ} {ref : List ℚ} {S T : St} {k : ℕ}
    {A : List ℕ} (inv : Inv C dims n O pt ref S k A) (hnx : T.next = S.next) (hpv : T.prev = S.prev)
    (har : T.area = S.area) (hvl : T.volume = S.volume) (hbd : T.bounds = S.bounds) (hlen : T.ignore.length = n + 1)
    (hig : IG C O T A) : Inv C dims n O pt ref T k A :=
  { inv with
    shape := shape_ptr_fields inv.shape hnx hpv
    tshape := ⟨har ▸ inv.tshape.1, hvl ▸ inv.tshape.2.1, hlen⟩
    lists := fun i hi => dl_ptrEq (ptrEq_of_fields hnx hpv) (inv.lists i hi)
    cv := cv_frame (S := S) (fun a i _ => ar_of_area har a i) (fun a i _ => vl_of_volume hvl a i)
      (fun i _ => by rw [hbd]) inv.cv
    ig := hig }

end HvSweep
