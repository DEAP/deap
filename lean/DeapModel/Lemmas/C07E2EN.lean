/-
C07 — NSGA-III with the non-dominated sort of C04 (`selNSGA3E`): either back-end (the C04 models of
`sortNondominated` / `sortLogNondominated` on the weighted values) terminates and hands `selNSGA3Full`
the ids of the depth classes `x ∈ fronts[i] ↔ x ∈ pop ∧ depth domI pop x = i`, each position at most
once, at most `k` before the last front.
-/
import DeapModel.Lemmas.C07Nsga3
import DeapModel.Props.C04

set_option linter.unusedSectionVars false

namespace C07L
open Nsga3 NDSort

theorem id_inj_of_nodup {α : Type} (pop : List (Ind α)) (hid : (pop.map (·.id)).Nodup) :
    ∀ x ∈ pop, ∀ y ∈ pop, x.id = y.id → x = y :=
  fun _ hx _ hy he => List.inj_on_of_nodup_map hid hx hy he

/-- population for the examples: depths 0, 1, 1, 2 -/
abbrev exPopD : List (Ind Int) := [⟨0, [2, 2]⟩, ⟨1, [1, 0]⟩, ⟨2, [0, 1]⟩, ⟨3, [0, 0]⟩]

section E2EN
variable {𝕜 : Type} [Field 𝕜] [LinearOrder 𝕜] [IsStrictOrderedRing 𝕜] [Inhabited 𝕜]

theorem mkPop_ids (wv : List (List 𝕜)) : (mkPop wv).map (·.id) = List.range wv.length := by
  unfold mkPop
  rw [List.map_zipWith]
  apply List.ext_getElem?
  intro t
  simp [List.getElem?_zipWith]
  by_cases h : t < wv.length <;> simp [h]

theorem mkPop_w (wv : List (List 𝕜)) : ∀ x ∈ mkPop wv, x.w ∈ wv := by
  have e : (mkPop wv).map (·.w) = wv := by
    unfold mkPop
    rw [List.map_zipWith]
    apply List.ext_getElem?
    intro t
    simp [List.getElem?_zipWith]
    by_cases h : t < wv.length <;> simp [h]
  intro x hx
  rw [← e]
  exact List.mem_map.2 ⟨x, hx, rfl⟩

theorem mkPop_ne (wv : List (List 𝕜)) (hne : wv ≠ []) : mkPop wv ≠ [] := by
  intro h
  have := congrArg List.length (mkPop_ids wv)
  rw [h] at this
  simp at this
  exact hne (List.length_eq_zero_iff.1 this.symm)

/-- either sort terminates (C04) and returns the ids of fronts that are, front by front,
permutations of the leading fronts of the peeling, hence the depth classes -/
theorem sortBy_some (logSort : Bool) (wv : List (List 𝕜)) (k : Nat) (hne : wv ≠ []) (m : Nat)
    (hlen : ∀ x ∈ wv, x.length = m) (hm : logSort = true → 2 ≤ m) :
    ∃ fr : List (List (Ind 𝕜)), sortBy logSort wv k = some (fr.map (·.map (·.id))) ∧
      List.Forall₂ List.Perm fr (leading (peel domI (mkPop wv)) k) ∧
      ∀ i f, fr[i]? = some f → ∀ x, x ∈ f ↔ x ∈ mkPop wv ∧ depth domI (mkPop wv) x = i := by
  have hl : ∀ x ∈ mkPop wv, x.w.length = m := fun x hx => hlen _ (mkPop_w wv x hx)
  unfold sortBy
  cases logSort with
  | true =>
    obtain ⟨fr, h1, h2⟩ := C04.sortLog_eq_peel (mkPop wv) m (hm rfl) (mkPop_ne wv hne) hl k
    exact ⟨fr, by rw [if_pos rfl, h1]; rfl, h2,
      C04.sortLog_front_iff_depth (mkPop wv) m (hm rfl) (mkPop_ne wv hne) hl k fr h1⟩
  | false =>
    obtain ⟨fr, h1, h2⟩ := C04.sortStd_eq_peel (mkPop wv) (mkPop_ne wv hne) m hl k
    exact ⟨fr, by rw [if_neg Bool.false_ne_true, h1]; rfl, h2,
      C04.sortStd_front_iff_depth (mkPop wv) (mkPop_ne wv hne) m hl k fr h1⟩

theorem sortBy_shape (wv : List (List 𝕜)) (k m : Nat) (hlen : ∀ x ∈ wv, x.length = m)
    (fr : List (List (Ind 𝕜)))
    (h2 : List.Forall₂ List.Perm fr (leading (peel domI (mkPop wv)) k)) :
    (fr.map (·.map (·.id))).flatten.Nodup ∧ (∀ i ∈ (fr.map (·.map (·.id))).flatten, i < wv.length) ∧
    (fr.map (·.map (·.id))).dropLast.flatten.length ≤ k ∧
    min k wv.length ≤ (fr.map (·.map (·.id))).flatten.length := by
  have hpl : (mkPop wv).length = wv.length := by
    have := congrArg List.length (mkPop_ids wv); simpa using this
  have hS := C04L.spo_domI m (mkPop wv) fun x hx => hlen _ (mkPop_w wv x hx)
  obtain ⟨l, hlp, hls⟩ := C04L.leading_peel_subperm hS h2
  have hls' : (l.map (·.id)).Sublist (List.range wv.length) := by
    rw [← mkPop_ids]; exact hls.map _
  have hlp' : (l.map (·.id)).Perm (fr.flatten.map (·.id)) := hlp.map _
  rw [show (fr.map (·.map (·.id))).flatten = fr.flatten.map (·.id) by rw [List.map_flatten]]
  refine ⟨hlp'.nodup_iff.1 (hls'.nodup List.nodup_range),
    fun i hi => List.mem_range.1 (hls'.subset (hlp'.symm.subset hi)), ?_, ?_⟩
  · by_cases hfrne : fr = []
    · subst hfrne; simp
    rw [← List.map_dropLast, ← List.map_flatten, List.length_map]
    exact (C04L.leading_peel_minimal h2 hfrne).le
  · rw [List.length_map, ← hpl]
    exact C04L.leading_peel_enough hS h2

end E2EN

end C07L
