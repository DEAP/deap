/-
Helper lemmas for C11: trees vs. prefix lists — sizes, the typing checks `wt` (on trees) and `typed` (on prefix lists),
and that a typed prefix list is the prefix form of a well-typed tree (`typed_iff_tree`).
-/
import DeapModel.Core.GpTree

namespace GpTree

mutual
theorem flatten_length : ∀ t : Tree, (flatten t).length = t.size
  | .node p as => by simp [flatten, Tree.size, flattenF_length as]; omega
theorem flattenF_length : ∀ ts : List Tree, (flattenF ts).length = sizeF ts
  | [] => by simp [flattenF, sizeF]
  | t :: ts => by simp [flattenF, sizeF, flatten_length t, flattenF_length ts]
end

theorem size_pos (t : Tree) : 0 < t.size := by cases t; simp [Tree.size]; omega

theorem flattenF_append (a b : List Tree) : flattenF (a ++ b) = flattenF a ++ flattenF b := by
  induction a with
  | nil => simp [flattenF]
  | cons t ts ih => simp [flattenF, ih]

theorem sizeF_append (a b : List Tree) : sizeF (a ++ b) = sizeF a + sizeF b := by
  induction a with
  | nil => simp [sizeF]
  | cons t ts ih => simp [sizeF, ih]; omega

theorem forall_flatten_node {P : Prim → Prop} {p : Prim} {as : List Tree} :
    (∀ q ∈ flatten (.node p as), P q) ↔ P p ∧ ∀ q ∈ flattenF as, P q := by
  simp [flatten]

theorem forall_flattenF_cons {P : Prim → Prop} {a : Tree} {as : List Tree} :
    (∀ q ∈ flattenF (a :: as), P q) ↔ (∀ q ∈ flatten a, P q) ∧ ∀ q ∈ flattenF as, P q := by
  simp [flattenF, or_imp, forall_and]

theorem flatten_root (t : Tree) : (flatten t)[0]? = some t.root := by
  cases t; simp [flatten, Tree.root]

theorem wtF_length {sub} : ∀ {ss : List Nat} {ts : List Tree}, wtF sub ss ts = true → ts.length = ss.length
  | [], [], _ => rfl
  | _ :: ss, _ :: ts, h => by
    simp [wtF] at h; simp [wtF_length h.2]
  | [], _ :: _, h => by simp [wtF] at h
  | _ :: _, [], h => by simp [wtF] at h

theorem wtF_append {sub} : ∀ {a b : List Nat} {ta tb : List Tree},
    wtF sub a ta = true → wtF sub b tb = true → wtF sub (a ++ b) (ta ++ tb) = true
  | [], _, [], _, _, hb => by simpa using hb
  | _ :: a, b, _ :: ta, tb, ha, hb => by
    simp [wtF] at ha ⊢; exact ⟨ha.1, wtF_append ha.2 hb⟩
  | [], _, _ :: _, _, ha, _ => by simp [wtF] at ha
  | _ :: _, _, [], _, ha, _ => by simp [wtF] at ha

theorem wtF_split {sub} : ∀ (a : List Nat) {b : List Nat} {ts : List Tree},
    wtF sub (a ++ b) ts = true →
    ∃ ta tb, ts = ta ++ tb ∧ wtF sub a ta = true ∧ wtF sub b tb = true
  | [], b, ts, h => ⟨[], ts, rfl, by simp [wtF], by simpa using h⟩
  | s :: a, b, [], h => by simp [wtF] at h
  | s :: a, b, t :: ts, h => by
    simp [wtF] at h
    obtain ⟨ta, tb, e, h1, h2⟩ := wtF_split a h.2
    exact ⟨t :: ta, tb, by simp [e], by simp [wtF, h.1, h1], h2⟩

theorem wtF_get {sub} : ∀ (ss : List Nat) (ts : List Tree) (k a : Nat), wtF sub ss ts = true → ss[k]? = some a →
    ∃ c, ts[k]? = some c ∧ wt sub a c = true
  | [], _, _, _, _, hk => by simp at hk
  | _ :: _, [], _, _, h, _ => by simp [wtF] at h
  | s :: ss, t :: ts, 0, a, h, hk => by
    simp [wtF] at h; simp at hk; subst hk; exact ⟨t, by simp, h.1⟩
  | s :: ss, t :: ts, k + 1, a, h, hk => by
    simp [wtF] at h
    obtain ⟨c, hc, hw⟩ := wtF_get ss ts k a h.2 (by simpa using hk)
    exact ⟨c, by simpa using hc, hw⟩

theorem size_le_sizeF : ∀ (ts : List Tree) (k : Nat) (c : Tree), ts[k]? = some c → c.size ≤ sizeF ts
  | [], _, _, h => by simp at h
  | t :: ts, 0, c, h => by simp at h; subst h; simp [sizeF]
  | t :: ts, k + 1, c, h => by
    have := size_le_sizeF ts k c (by simpa using h)
    simp [sizeF]; omega

theorem wt_mono {sub} {σ σ' : Nat} {t : Tree} (h : wt sub σ t = true) (hs : sub t.root.ret σ' = true) : wt sub σ' t = true := by
  cases t with
  | node p as => simp [wt, Tree.root] at h hs ⊢; exact ⟨hs, h.2⟩

theorem wt_root {sub} {σ : Nat} {t : Tree} (h : wt sub σ t = true) : sub t.root.ret σ = true := by
  cases t with
  | node p as => simp [wt, Tree.root] at h ⊢; exact h.1

mutual
theorem wf_of_wt {sub} : ∀ {σ : Nat} {t : Tree}, wt sub σ t = true → wf t = true
  | _, .node p as, h => by
    simp [wt] at h; simp [wf, wfF_of_wtF h.2, Prim.arity, wtF_length h.2]
theorem wfF_of_wtF {sub} : ∀ {ss : List Nat} {ts : List Tree}, wtF sub ss ts = true → wfF ts = true
  | [], [], _ => rfl
  | _ :: _, t :: ts, h => by
    simp [wtF] at h; simp [wfF, wf_of_wt h.1, wfF_of_wtF h.2]
  | [], _ :: _, h => by simp [wtF] at h
  | _ :: _, [], h => by simp [wtF] at h
end

mutual
theorem typed_flatten {sub} : ∀ {σ : Nat} {t : Tree} (rest : List Nat) (l : List Prim),
    wt sub σ t = true → typed sub (σ :: rest) (flatten t ++ l) = typed sub rest l
  | σ, .node p as, rest, l, h => by
    simp [wt] at h
    simp [flatten, typed, h.1]
    have := typed_flattenF (sub := sub) rest l h.2
    simpa using this
theorem typed_flattenF {sub} : ∀ {ss : List Nat} {ts : List Tree} (rest : List Nat) (l : List Prim),
    wtF sub ss ts = true → typed sub (ss ++ rest) (flattenF ts ++ l) = typed sub rest l
  | [], [], rest, l, _ => by simp [flattenF]
  | s :: ss, t :: ts, rest, l, h => by
    simp [wtF] at h
    simp [flattenF]
    rw [typed_flatten (ss ++ rest) (flattenF ts ++ l) h.1]
    exact typed_flattenF rest l h.2
  | [], _ :: _, _, _, h => by simp [wtF] at h
  | _ :: _, [], _, _, h => by simp [wtF] at h
end

theorem typed_nil_iff {sub} {ss : List Nat} : typed sub ss [] = true ↔ ss = [] := by
  cases ss <;> simp [typed]

theorem typed_parse {sub} : ∀ (l : List Prim) (ss : List Nat), typed sub ss l = true →
    ∃ ts, wtF sub ss ts = true ∧ flattenF ts = l
  | [], ss, h => by
    have := typed_nil_iff.1 h; subst this; exact ⟨[], by simp [wtF], by simp [flattenF]⟩
  | p :: l, [], h => by simp [typed] at h
  | p :: l, s :: ss, h => by
    simp [typed] at h
    obtain ⟨ts, hw, hf⟩ := typed_parse l (p.args ++ ss) h.2
    obtain ⟨ta, tb, e, h1, h2⟩ := wtF_split p.args hw
    refine ⟨.node p ta :: tb, ?_, ?_⟩
    · simp [wtF, wt, h.1, h1, h2]
    · subst e; simp [flattenF, flatten, flattenF_append] at hf ⊢; exact hf

theorem typed_parse_one {sub} {σ : Nat} {rest : List Nat} {y : List Prim}
    (h : typed sub (σ :: rest) y = true) :
    ∃ s y', wt sub σ s = true ∧ y = flatten s ++ y' ∧ typed sub rest y' = true := by
  obtain ⟨ts, hw, hf⟩ := typed_parse y (σ :: rest) h
  cases ts with
  | nil => simp [wtF] at hw
  | cons s ts' =>
    simp [wtF] at hw
    refine ⟨s, flattenF ts', hw.1, by simp [← hf, flattenF], ?_⟩
    have := typed_flattenF (sub := sub) [] [] hw.2
    simpa [typed] using this

theorem typed_iff_tree {sub} {σ : Nat} {l : List Prim} :
    typed sub [σ] l = true ↔ ∃ t, wt sub σ t = true ∧ flatten t = l := by
  constructor
  · intro h
    obtain ⟨s, y', hw, e, hr⟩ := typed_parse_one h
    cases y' with
    | nil => exact ⟨s, hw, by simp [e]⟩
    | cons a b => simp [typed] at hr
  · rintro ⟨t, hw, rfl⟩
    have := typed_flatten (sub := sub) [] [] hw
    simpa [typed] using this

end GpTree
