/-
Vocabulary for C09, histories: on the machine `OpHistory` (`Core/CrossMutBuf.lean`), whose state is nothing but the
heaps of sequence objects, `Valid` reads the hypotheses of the statement on the contents the arguments have NOW and
`Post` says that they are left holding what the list model `Core/CrossMut.lean` computes from those contents
(`C09.call_determined`).
-/
import DeapModel.Lemmas.C09Buffer

namespace C09H
open Buffer OpHistory C09B
open CrossMut hiding Heap

variable {α : Type}

/-- the caller's other objects (those that existed before the call) keep their contents -/
def Kept2 (i1 i2 : Nat) (h h' : Heap α) : Prop := ∀ o, o < h.next → o ≠ i1 → o ≠ i2 → h'.cell o = h.cell o

def Kept1 (i : Nat) (h h' : Heap α) : Prop := ∀ o, o < h.next → o ≠ i → h'.cell o = h.cell o

theorem Frame2.kept {i1 i2 : Nat} {h h' : Heap α} (f : Frame2 i1 i2 h h') : Kept2 i1 i2 h h' := fun o _ a b => f.1 o a b
theorem Frame2A.kept {i1 i2 : Nat} {h h' : Heap α} (f : Frame2A i1 i2 h h') : Kept2 i1 i2 h h' := f.1
theorem Frame1.kept {i : Nat} {h h' : Heap α} (f : Frame1 i h h') : Kept1 i h h' := fun o _ a => f.1 o a

/-- the hypotheses of the statement for a generic operator, read on the contents the objects have NOW
(the slice-swapping crossovers: list / array.array individuals, i.e. discipline `copy`) -/
def GenValid (d : Disc) (h : Heap α) : Gen → Prop
  | .onepoint i1 i2 _ => d = .copy ∧ i1 ≠ i2 ∧ i1 < h.next ∧ i2 < h.next
  | .twopoint i1 i2 _ _ => d = .copy ∧ i1 ≠ i2 ∧ i1 < h.next ∧ i2 < h.next
  | .twopoints i1 i2 _ _ => d = .copy ∧ i1 ≠ i2 ∧ i1 < h.next ∧ i2 < h.next
  | .messy i1 i2 _ _ => d = .copy ∧ i1 ≠ i2 ∧ i1 < h.next ∧ i2 < h.next
  | .uniform i1 i2 _ => i1 ≠ i2
  | .shuffle i ds => mutShuffleIndexesOk (h.cell i) ds
  | .flip _ _ => True
  | .inversion i i1 i2 => i < h.next ∧ mutInversionOk (h.cell i) i1 i2

/-- the list model applied to the contents the arguments had when the call was made -/
def GenPost [PyNot α] (h h' : Heap α) (ret : List Nat) : Gen → Prop
  | .onepoint i1 i2 cx => ret = [i1, i2] ∧ (h'.cell i1, h'.cell i2) = cxOnePoint (h.cell i1) (h.cell i2) cx ∧ Kept2 i1 i2 h h'
  | .twopoint i1 i2 c1 c2 =>
    ret = [i1, i2] ∧ (h'.cell i1, h'.cell i2) = cxTwoPoint (h.cell i1) (h.cell i2) c1 c2 ∧ Kept2 i1 i2 h h'
  | .twopoints i1 i2 c1 c2 =>
    ret = [i1, i2] ∧ (h'.cell i1, h'.cell i2) = cxTwoPoints (h.cell i1) (h.cell i2) c1 c2 ∧ Kept2 i1 i2 h h'
  | .messy i1 i2 c1 c2 =>
    ret = [i1, i2] ∧ (h'.cell i1, h'.cell i2) = cxMessyOnePoint (h.cell i1) (h.cell i2) c1 c2 ∧ Kept2 i1 i2 h h'
  | .uniform i1 i2 ds => ret = [i1, i2] ∧ (h'.cell i1, h'.cell i2) = cxUniform (h.cell i1) (h.cell i2) ds ∧ Kept2 i1 i2 h h'
  | .shuffle i ds => ret = [i] ∧ mutShuffleIndexes (h.cell i) ds = some (h'.cell i) ∧ Kept1 i h h'
  | .flip i ds => ret = [i] ∧ h'.cell i = mutFlipBit (h.cell i) ds ∧ Kept1 i h h'
  | .inversion i i1 i2 => ret = [i] ∧ h'.cell i = mutInversion (h.cell i) i1 i2 ∧ Kept1 i h h'

theorem pair_ok {m : M α (Nat × Nat)} {h h' : Heap α} {r : Nat × Nat} (e : m h = .ok r h') :
    pair m h = .ok [r.1, r.2] h' := by
  unfold pair; rw [e]

theorem single_ok {m : M α Nat} {h h' : Heap α} {r : Nat} (e : m h = .ok r h') : single m h = .ok [r] h' := by
  unfold single; rw [e]

/-- a refinement statement with its frame clause `F`, read as what the caller of the wrapped operator sees -/
theorem pair_sim {m : M α (Nat × Nat)} {h : Heap α} {i1 i2 : Nat} {P F : Heap α → Prop}
    (hs : ∃ h', m h = .ok (i1, i2) h' ∧ P h' ∧ F h') (hF : ∀ h', F h' → Kept2 i1 i2 h h') :
    ∃ ret h', pair m h = .ok ret h' ∧ ret = [i1, i2] ∧ P h' ∧ Kept2 i1 i2 h h' := by
  obtain ⟨h', e, p, f⟩ := hs
  exact ⟨_, h', pair_ok e, rfl, p, hF h' f⟩

theorem single_sim {m : M α Nat} {h : Heap α} {i : Nat} {P F : Heap α → Prop}
    (hs : ∃ h', m h = .ok i h' ∧ P h' ∧ F h') (hF : ∀ h', F h' → Kept1 i h h') :
    ∃ ret h', single m h = .ok ret h' ∧ ret = [i] ∧ P h' ∧ Kept1 i h h' := by
  obtain ⟨h', e, p, f⟩ := hs
  exact ⟨_, h', single_ok e, rfl, p, hF h' f⟩

/-- the hypotheses of the statement for a call, read on the contents the objects have NOW (`False` for the
events that are not calls of an operator) -/
def Valid (st : State) : Event → Prop
  | .permOp d g => GenValid d st.perm g
  | .geneOp d g => GenValid d st.gene g
  | .pmx _ i1 i2 c1 c2 => i1 ≠ i2 ∧ cxPartialyMatchedOk (st.perm.cell i1) (st.perm.cell i2) c1 c2
  | .upmx _ i1 i2 _ => i1 ≠ i2 ∧ pmGenesOk (st.perm.cell i1) (st.perm.cell i2)
  | .ox _ i1 i2 a b => i1 ≠ i2 ∧ cxOrderedOk (st.perm.cell i1) (st.perm.cell i2) a b
  | .uniformint _ i low up ds => ∃ out, mutUniformInt (st.gene.cell i) (low.now st) (up.now st) ds = some out
  | .es dg ds i1 i2 s1 s2 _ _ =>
    dg = .copy ∧ ds = .copy ∧ i1 ≠ i2 ∧ s1 ≠ s2 ∧ i1 < st.gene.next ∧ i2 < st.gene.next ∧ s1 < st.strat.next ∧ s2 < st.strat.next
  | .ess dg ds i1 i2 s1 s2 _ _ =>
    dg = .copy ∧ ds = .copy ∧ i1 ≠ i2 ∧ s1 ≠ s2 ∧ i1 < st.gene.next ∧ i2 < st.gene.next ∧ s1 < st.strat.next ∧ s2 < st.strat.next
  | _ => False

/-- what the call leaves: the list model applied to the contents the arguments (and the bound objects) had
when the call was made; every other object of the caller as it was -/
def Post (st : State) (ret : List Nat) (st' : State) : Event → Prop
  | .permOp _ g => GenPost st.perm st'.perm ret g ∧ st'.gene = st.gene ∧ st'.strat = st.strat
  | .geneOp _ g => GenPost st.gene st'.gene ret g ∧ st'.perm = st.perm ∧ st'.strat = st.strat
  | .pmx _ i1 i2 c1 c2 =>
    ret = [i1, i2] ∧ (st'.perm.cell i1, st'.perm.cell i2) = cxPartialyMatched (st.perm.cell i1) (st.perm.cell i2) c1 c2 ∧
      Kept2 i1 i2 st.perm st'.perm ∧ st'.gene = st.gene ∧ st'.strat = st.strat
  | .upmx _ i1 i2 ds =>
    ret = [i1, i2] ∧ (st'.perm.cell i1, st'.perm.cell i2) = cxUniformPartialyMatched (st.perm.cell i1) (st.perm.cell i2) ds ∧
      Kept2 i1 i2 st.perm st'.perm ∧ st'.gene = st.gene ∧ st'.strat = st.strat
  | .ox _ i1 i2 a b =>
    ret = [i1, i2] ∧ (st'.perm.cell i1, st'.perm.cell i2) = cxOrdered (st.perm.cell i1) (st.perm.cell i2) a b ∧
      Kept2 i1 i2 st.perm st'.perm ∧ st'.gene = st.gene ∧ st'.strat = st.strat
  | .uniformint _ i low up ds =>
    ret = [i] ∧ mutUniformInt (st.gene.cell i) (low.now st) (up.now st) ds = some (st'.gene.cell i) ∧
      Kept1 i st.gene st'.gene ∧ st'.perm = st.perm ∧ st'.strat = st.strat
  | .es _ _ i1 i2 s1 s2 p1 p2 =>
    ret = [i1, i2] ∧
      ((⟨st'.gene.cell i1, st'.strat.cell s1⟩ : ESInd Int Int), (⟨st'.gene.cell i2, st'.strat.cell s2⟩ : ESInd Int Int))
        = cxESTwoPoint ⟨st.gene.cell i1, st.strat.cell s1⟩ ⟨st.gene.cell i2, st.strat.cell s2⟩ p1 p2 ∧
      Kept2 i1 i2 st.gene st'.gene ∧ Kept2 s1 s2 st.strat st'.strat ∧ st'.perm = st.perm
  | .ess _ _ i1 i2 s1 s2 p1 p2 =>
    ret = [i1, i2] ∧
      ((⟨st'.gene.cell i1, st'.strat.cell s1⟩ : ESInd Int Int), (⟨st'.gene.cell i2, st'.strat.cell s2⟩ : ESInd Int Int))
        = cxESTwoPoints ⟨st.gene.cell i1, st.strat.cell s1⟩ ⟨st.gene.cell i2, st.strat.cell s2⟩ p1 p2 ∧
      Kept2 i1 i2 st.gene st'.gene ∧ Kept2 s1 s2 st.strat st'.strat ∧ st'.perm = st.perm
  | _ => False

theorem onPerm_ok {m : M Nat (List Nat)} {st : State} {v : List Nat} {h : Heap Nat} (e : m st.perm = .ok v h) :
    onPerm m st = (.ok v, { st with perm := h }) := by
  unfold onPerm; rw [e]

theorem onGene_ok {m : M Int (List Nat)} {st : State} {v : List Nat} {h : Heap Int} (e : m st.gene = .ok v h) :
    onGene m st = (.ok v, { st with gene := h }) := by
  unfold onGene; rw [e]

theorem onES_ok {m : Heap Int × Heap Int → Res (Heap Int × Heap Int) (Nat × Nat)} {st : State} {v : Nat × Nat}
    {h : Heap Int × Heap Int} (e : m (st.gene, st.strat) = .ok v h) :
    onES m st = (.ok [v.1, v.2], { st with gene := h.1, strat := h.2 }) := by
  unfold onES; rw [e]

theorem run_append (h1 h2 : List Event) (st : State) : run (h1 ++ h2) st = run h2 (run h1 st) := by
  unfold run; rw [List.foldl_append]

end C09H
