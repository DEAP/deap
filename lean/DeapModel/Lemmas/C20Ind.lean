/-
C20 — lemmas over ℝ about the quality indicators (`Core/BenchIndicators.lean`): `igd` and `convergence` as means of
least distances (`Least`, `mean_least`), the spread `diversity` with its consecutive distances `gaps`.
-/
import DeapModel.Lemmas.C20Real
import DeapModel.Core.BenchIndicators

namespace C20L
open RealLike BenchInd

theorem mean_eq_zero_iff {ds : List ℝ} (h : ∀ d ∈ ds, 0 ≤ d) (hne : ds ≠ []) :
    ds.sum / (ds.length : ℝ) = 0 ↔ ∀ d ∈ ds, d = 0 := by
  rw [div_eq_zero_iff, or_iff_left (Nat.cast_ne_zero.2 (List.length_pos_iff.2 hne).ne')]
  exact ⟨fun hs _ hd => List.all_zero_of_le_zero_le_of_sum_eq_zero h hs hd, List.sum_eq_zero⟩

theorem minFirst_spec (l : List ℝ) (m : ℝ) (h : minFirst l = some m) : m ∈ l ∧ ∀ d ∈ l, m ≤ d := by
  cases l with
  | nil => cases h
  | cons a t =>
    cases h
    refine foldl_select _ (fun w r => r ≤ w) le_refl (fun _ _ _ h1 h2 => le_trans h2 h1) (fun m v => ?_) t a
    simp only [real_lt]
    split_ifs with hc
    exacts [⟨Or.inr rfl, hc.le, le_refl _⟩, ⟨Or.inl rfl, le_refl _, not_lt.1 hc⟩]

theorem sqDist_eq (a o : List ℝ) (v : ℝ) (h : sqDist a o = some v) : o.length ≤ a.length ∧ v = d2 a o := by
  unfold sqDist at h
  by_cases hl : a.length < o.length
  · simp [hl] at h
  · simp only [hl, if_false, Option.some.injEq] at h
    refine ⟨by omega, ?_⟩
    rw [← h]
    simp only [real_ofNat, Nat.cast_zero, real_add, real_sub, real_mul]
    exact foldl_sq_eq_d2 a o

theorem euclid_eq (a z : List ℝ) (v : ℝ) (h : euclid a z = some v) : a.length = z.length ∧ v = Real.sqrt (d2 a z) := by
  unfold euclid at h
  by_cases hl : a.length = z.length
  · simp only [hl, if_true, Option.some.injEq] at h
    refine ⟨hl, ?_⟩
    rw [← h]
    simp only [real_bridge]
    congr 2
    apply List.map_congr_left; intro p _; ring
  · simp [hl] at h

/-- `m` is the least of the values `ρ s`, `s ∈ S`, and one of them -/
def Least {β : Type} (ρ : β → ℝ) (S : List β) (m : ℝ) : Prop := (∃ s ∈ S, m = ρ s) ∧ ∀ s ∈ S, m ≤ ρ s

/-- Python's `min` loop over a comprehension whose elements may raise -/
theorem least_of_mapM {β : Type} {f : β → Option ℝ} {ρ : β → ℝ} {S : List β} {es : List ℝ} {m : ℝ}
    (hes : S.mapM f = some es) (hmin : minFirst es = some m) (hf : ∀ s e, f s = some e → e = ρ s) :
    Least ρ S m := by
  have g2 := mapM_forall2 _ _ _ hes
  obtain ⟨hm, hle⟩ := minFirst_spec _ _ hmin
  constructor
  · obtain ⟨s, hs, hr⟩ := forall2_mem_right g2 m hm
    exact ⟨s, hs, hf s m hr⟩
  · intro s hs
    obtain ⟨e, he, hr⟩ := forall2_mem_left g2 s hs
    exact hf s e hr ▸ hle e he

theorem mean_least {β γ : Type} {ρ : β → γ → ℝ} {S : List γ} {X : List β} {ds : List ℝ}
    (h : List.Forall₂ (fun x d => Least (ρ x) S d) X ds) (hρ : ∀ x s, 0 ≤ ρ x s) :
    0 ≤ ds.sum / (ds.length : ℝ) ∧
      (ds ≠ [] → (ds.sum / (ds.length : ℝ) = 0 ↔ ∀ x ∈ X, ∃ s ∈ S, ρ x s = 0)) := by
  have hnn : ∀ d ∈ ds, 0 ≤ d := fun d hd => by
    obtain ⟨x, _, ⟨s, _, e⟩, _⟩ := forall2_mem_right h d hd
    exact e ▸ hρ x s
  refine ⟨div_nonneg (List.sum_nonneg hnn) (Nat.cast_nonneg _), fun hne => ?_⟩
  rw [mean_eq_zero_iff hnn hne]
  constructor
  · intro hall x hx
    obtain ⟨d, hd, ⟨s, hs, e⟩, _⟩ := forall2_mem_left h x hx
    exact ⟨s, hs, e ▸ hall d hd⟩
  · intro hsub d hd
    obtain ⟨x, hx, ⟨s0, _, e0⟩, hle⟩ := forall2_mem_right h d hd
    obtain ⟨s, hs, e⟩ := hsub x hx
    exact le_antisymm (e ▸ hle s hs) (e0 ▸ hρ x s0)

/-- `igd`: every point of `A` has the length of every reference point, and the value is the mean over `Z` of the
distance to the nearest point of `A` -/
theorem igd_spec (A Z : List (List ℝ)) (v : ℝ) (h : igd A Z = some v) :
    ∃ ds : List ℝ, List.Forall₂ (fun z d => (∀ a ∈ A, a.length = z.length) ∧
      Least (fun a => Real.sqrt (d2 a z)) A d) Z ds ∧ ds ≠ [] ∧ v = ds.sum / (ds.length : ℝ) := by
  unfold igd at h
  by_cases he : A.isEmpty = true ∨ Z.isEmpty = true
  · rw [if_pos he] at h; simp at h
  · rw [if_neg he] at h
    have hZ : Z ≠ [] := by intro hz; apply he; right; simp [hz]
    split at h
    · simp at h
    · next ds hds =>
      simp only [Option.some.injEq] at h
      have f2 := mapM_forall2 _ _ _ hds
      refine ⟨ds, f2.imp fun z d hzd => ?_, fun e => hZ (List.forall₂_nil_right_iff.1 (e ▸ f2)), ?_⟩
      · obtain ⟨es, hes, hmin⟩ := Option.bind_eq_some_iff.1 hzd
        refine ⟨fun a ha => ?_, least_of_mapM hes hmin fun a e hr => (euclid_eq a z e hr).2⟩
        obtain ⟨e, _, hr⟩ := forall2_mem_left (mapM_forall2 _ _ _ hes) a ha
        exact (euclid_eq a z e hr).1
      · rw [← h]; simp only [real_bridge]

/-- `convergence`: the mean over the front of the distance to the nearest point of `opt` -/
theorem convergence_spec (front opt : List (List ℝ)) (v : ℝ) (h : convergence front opt = some v) :
    ∃ ds : List ℝ, List.Forall₂ (fun p d => Least (fun o => Real.sqrt (d2 p o)) opt d) front ds ∧ ds ≠ [] ∧
      v = ds.sum / (ds.length : ℝ) := by
  unfold convergence at h
  by_cases he : front.isEmpty = true
  · simp [he] at h
  · simp only [he, Bool.false_eq_true, if_false] at h
    have hF : front ≠ [] := by intro hz; apply he; simp [hz]
    split at h
    · simp at h
    · next ds hds =>
      simp only [Option.some.injEq] at h
      have f2 := mapM_forall2 _ _ _ hds
      refine ⟨ds, f2.imp fun p d hpd => ?_, fun e => hF (List.forall₂_nil_right_iff.1 (e ▸ f2)), ?_⟩
      · unfold nearest at hpd
        split at hpd
        · simp at hpd
        · next es hes =>
          obtain ⟨m, hmin, rfl⟩ := Option.map_eq_some_iff.1 hpd
          -- the root of the least squared distance is the least distance
          obtain ⟨⟨o, ho, e⟩, hle⟩ := least_of_mapM (ρ := fun o => d2 p o) hes hmin fun o e hr => (sqDist_eq p o e hr).2
          exact ⟨⟨o, ho, congrArg Real.sqrt e⟩, fun o' ho' => Real.sqrt_le_sqrt (hle o' ho')⟩
      · rw [← h]; simp only [real_bridge]

theorem hyp_eq (a b : ℝ × ℝ) : hyp a b = Real.sqrt ((a.1 - b.1) ^ 2 + (a.2 - b.2) ^ 2) := by
  unfold hyp; simp only [real_bridge]; congr 1; ring

theorem hyp_nonneg (a b : ℝ × ℝ) : 0 ≤ hyp a b := by rw [hyp_eq]; exact Real.sqrt_nonneg _

theorem gaps_length (front : List (ℝ × ℝ)) : (gaps front).length = front.length - 1 := by
  rw [gaps, List.length_map, List.length_zip, List.length_tail, Nat.min_eq_right (Nat.sub_le _ _)]

theorem gaps_nonneg (front : List (ℝ × ℝ)) : ∀ d ∈ gaps front, 0 ≤ d := by
  intro d hd
  simp only [gaps, List.mem_map] at hd
  obtain ⟨p, _, rfl⟩ := hd
  exact hyp_nonneg _ _

/-- `diversity` of a front of two or more points, over ℝ: `(d_f + d_l + Σ|dᵢ − d̄|) / (d_f + d_l + (N−1)·d̄)` with the
consecutive distances `dᵢ = gaps front`; `none` when the denominator is 0 -/
theorem diversity_cons_cons (p0 p1 : ℝ × ℝ) (rest : List (ℝ × ℝ)) (first last : ℝ × ℝ) :
    diversity (p0 :: p1 :: rest) first last =
      if hyp p0 first + hyp (lastOr p0 (p0 :: p1 :: rest)) last + ((gaps (p0 :: p1 :: rest)).length : ℝ) *
            ((gaps (p0 :: p1 :: rest)).sum / ((gaps (p0 :: p1 :: rest)).length : ℝ)) < 0 ∨
          0 < hyp p0 first + hyp (lastOr p0 (p0 :: p1 :: rest)) last + ((gaps (p0 :: p1 :: rest)).length : ℝ) *
            ((gaps (p0 :: p1 :: rest)).sum / ((gaps (p0 :: p1 :: rest)).length : ℝ)) then
        some ((hyp p0 first + hyp (lastOr p0 (p0 :: p1 :: rest)) last +
            ((gaps (p0 :: p1 :: rest)).map fun d =>
              |d - (gaps (p0 :: p1 :: rest)).sum / ((gaps (p0 :: p1 :: rest)).length : ℝ)|).sum) /
          (hyp p0 first + hyp (lastOr p0 (p0 :: p1 :: rest)) last + ((gaps (p0 :: p1 :: rest)).length : ℝ) *
            ((gaps (p0 :: p1 :: rest)).sum / ((gaps (p0 :: p1 :: rest)).length : ℝ))))
      else none := by
  simp only [diversity, List.isEmpty_cons, Bool.false_eq_true, if_false, real_bridge]

end C20L
