/-
C03 composed with C08 (hall of fame): helper lemmas.  (List objects and the ask/tell protocol: `C03ComposeList.lean`.)

* `best_ge_seen`, `best_monotone`: consequences of the C08 theorems alone (`best_of_seen`, `sorted_desc`,
  `members_shown`) — the best (first) member of a hall of fame is at least as good as everything ever shown,
  and never gets worse.
* `CInv`: the invariant of the composed machine of `Core/LoopsCompose.lean` (the C03 run invariant, "the
  archive is the C08 model run on the batches the loop showed", "the members of the population are listed in
  the feed with their current content", "the variable `population` refers to a list object holding the
  population"), established by generation 0 and kept by every generation.
-/
import DeapModel.Lemmas.C03
import DeapModel.Props.C08
import DeapModel.Core.LoopsCompose

namespace LoopsC
open Variation Loops Archive C08L

/-- Not `Iff.rfl`: `keyLe` is core's order on lists (`List.instLE`, the one the model file can name), the `≤` on the right is the one
of Mathlib's linear order on `List Int`, in which the C08 theorems are stated; both are "not `b < a`". -/
theorem keyLe_iff_le (a b : List Int) : keyLe a b ↔ a ≤ b := by
  rw [keyLe_iff_not_lt, not_lt]

section C08only
variable {G α : Type} [LinearOrder α] {sim : Ind G α → Ind G α → Bool} {m base : Nat}
  {hist more : List (List (Ind G α))} {h h₂ : HoF G α}

theorem head_ge_member (hm : 1 ≤ m) (hr : run sim (empty m base) hist = some h) :
    ∀ it ∈ h.items, ∃ b, h.items.head? = some b ∧ it.fit.wvalues ≤ b.fit.wvalues := by
  intro it hit
  have hsorted := C08.sorted_desc sim hm hr
  cases hi : h.items with
  | nil => rw [hi] at hit; simp at hit
  | cons b rest =>
    refine ⟨b, rfl, ?_⟩
    rw [hi] at hit hsorted
    rcases List.mem_cons.1 hit with e | e
    · subst e; exact le_refl _
    · exact (List.pairwise_cons.1 hsorted).1 it e

/-- `SimHyp`: the similarity is reflexive, symmetric, blind to object identity, and similar shown individuals carry
equal fitness. -/
theorem best_ge_seen (hm : 1 ≤ m) (hh : SimHyp sim hist.flatten)
    (hr : run sim (empty m base) hist = some h) :
    ∀ x ∈ hist.flatten, ∃ b, h.items.head? = some b ∧ x.fit.wvalues ≤ b.fit.wvalues := by
  intro x hx
  rcases C08.best_of_seen hm hh hr x hx with ⟨it, hit, hs⟩ | ⟨hlen, hw⟩
  · obtain ⟨x', hx', hg, hf⟩ := C08.members_shown sim hm hr it hit
    have hsx : sim x x' = true := by
      rw [← hh.same x x it x' (same_refl x) ⟨hg, hf⟩]; exact hs
    have hfx := hh.fit x hx x' hx' hsx
    obtain ⟨b, hb, hle⟩ := head_ge_member hm hr it hit
    exact ⟨b, hb, by rw [hfx, ← hf]; exact hle⟩
  · have hne : h.items ≠ [] := by
      intro e; rw [e] at hlen; simp at hlen; omega
    obtain ⟨w, hw'⟩ : ∃ w, h.items.getLast? = some w := by
      cases hq : h.items.getLast? with
      | none => exact absurd (List.getLast?_eq_none_iff.1 hq) hne
      | some w => exact ⟨w, rfl⟩
    have hnlt := hw w hw'
    obtain ⟨b, hb, hle⟩ := head_ge_member hm hr w (List.mem_of_getLast? hw')
    exact ⟨b, hb, le_trans (not_lt.1 hnlt) hle⟩

/-- **The best member never gets worse** along further updates. -/
theorem best_monotone (hm : 1 ≤ m) (hh : SimHyp sim (hist ++ more).flatten)
    (hr : run sim (empty m base) hist = some h) (hr₂ : run sim (empty m base) (hist ++ more) = some h₂)
    (b : Ind G α) (hb : h.items.head? = some b) :
    ∃ b₂, h₂.items.head? = some b₂ ∧ b.fit.wvalues ≤ b₂.fit.wvalues := by
  have hbm : b ∈ h.items := List.mem_of_head? hb
  obtain ⟨x, hx, _, hf⟩ := C08.members_shown sim hm hr b hbm
  have hx2 : x ∈ (hist ++ more).flatten := by
    rw [List.flatten_append]; exact List.mem_append_left _ hx
  obtain ⟨b₂, hb₂, hle⟩ := best_ge_seen hm hh hr₂ x hx2
  exact ⟨b₂, hb₂, by rw [hf]; exact hle⟩

theorem update_total (hm : 1 ≤ m) (hr : run sim (empty m base) hist = some h) (batch : List (Ind G α)) :
    ∃ h', update sim h batch = some h' := by
  obtain ⟨h', e, _⟩ := update_str sim hm batch hist.flatten h (hof_hstr sim hm hr)
  exact ⟨h', e⟩

theorem run_snoc (hr : run sim (empty m base) hist = some h) (batch : List (Ind G α)) (h' : HoF G α)
    (hu : update sim h batch = some h') : run sim (empty m base) (hist ++ [batch]) = some h' := by
  rw [run_append, hr]
  simp [run, hu]

end C08only

theorem simBase_simEq : SimBase simEq where
  refl := by simp [simEq]
  symm := by simp only [simEq, decide_eq_true_eq]; exact fun _ _ e => e.symm
  same := by
    intro x x' y y' h1 h2
    simp only [simEq, h1.1, h2.1]

theorem simHyp_simEq (ev : List Int → List Int) (U : List HInd)
    (hU : ∀ x ∈ U, x.fit = ⟨ev x.genome⟩) : SimHyp simEq U where
  toSimBase := simBase_simEq
  fit := by
    intro x hx y hy hs
    have hg : x.genome = y.genome := by simpa [simEq] using hs
    rw [hU x hx, hU y hy, hg]

theorem gen0_shownObj (ev : List Int → List Int) (s : LState) :
    (gen0 ev s).shownObj = s.shownObj ++ s.pop.map (fun o => (o, (gen0 ev s).st.heap o)) := rfl

theorem newShown_append (s s' : LState) (x : List (Nat × Obj)) (h : s'.shownObj = s.shownObj ++ x) :
    newShown s s' = x.map toInd := by
  simp [newShown, h]

/-- every member of the population is listed in the hall-of-fame feed with the content it has now -/
def PopCur (s : LState) : Prop := ∀ p ∈ s.pop, (p, s.st.heap p) ∈ s.shownObj

theorem generation_popCur {σ : Type} {ev : List Int → List Int} {stp : Step σ} (hc : StepContract stp)
    {g : Nat} {t t' : σ} {s s' : LState} (hinv : Inv ev g s) (hcur : PopCur s)
    (h : generation ev stp g t s = some (t', s')) : PopCur s' := by
  obtain ⟨r, u⟩ := generation_unfold h
  intro p hp
  rw [u.shownObj]
  rcases generation_pop_cases hc hinv u.produce u.replace p hp with h1 | h1
  · exact List.mem_append_right _ (List.mem_map.2 ⟨p, h1, rfl⟩)
  · rw [u.heap, h1.2]; exact List.mem_append_left _ (hcur p h1.1)

theorem gen0_popCur (ev : List Int → List Int) (s : LState) : PopCur (gen0 ev s) := by
  intro p hp
  rw [gen0_shownObj]
  exact List.mem_append_right _ (List.mem_map.2 ⟨p, hp, rfl⟩)

/-- Invariant of the composed machine at the boundary before generation `g`, for a hall of fame of capacity
`m` whose copies are numbered from `base`. -/
structure CInv (ev : List Int → List Int) (m base g : Nat) (c : CState) : Prop where
  inv : Inv ev g c.ls
  shownOk : ShownOk ev c.ls
  hofRun : Archive.run simEq (Archive.empty m base) c.hist = some c.hof
  flat : c.hist.flatten = c.ls.shownObj.map toInd
  popCur : PopCur c.ls
  refLt : c.popRef < c.nextL
  listPop : c.lists c.popRef = c.ls.pop

theorem hofUpdate_spec {c c' : CState} {ls' : LState} (h : hofUpdate c ls' = some c') :
    ∃ h', Archive.update simEq c.hof (newShown c.ls ls') = some h' ∧
      c' = { c with ls := ls', hof := h', hist := c.hist ++ [newShown c.ls ls'] } := by
  simp only [hofUpdate] at h
  split at h
  · cases h
  next h' hu => exact ⟨h', hu, (Option.some.inj h).symm⟩

theorem hofUpdate_total {ev : List Int → List Int} {m base g : Nat} {c : CState} (hm : 1 ≤ m)
    (hi : CInv ev m base g c) (ls' : LState) : ∃ c', hofUpdate c ls' = some c' := by
  obtain ⟨h', hu⟩ := update_total hm hi.hofRun (newShown c.ls ls')
  exact ⟨_, by simp only [hofUpdate, hu]; rfl⟩

theorem hof_step {m base : Nat} {c : CState} {ls' : LState} {h' : Hof}
    (hrun : Archive.run simEq (Archive.empty m base) c.hist = some c.hof)
    (hflat : c.hist.flatten = c.ls.shownObj.map toInd)
    (hu : Archive.update simEq c.hof (newShown c.ls ls') = some h') (x : List (Nat × Obj))
    (hx : ls'.shownObj = c.ls.shownObj ++ x) :
    Archive.run simEq (Archive.empty m base) (c.hist ++ [newShown c.ls ls']) = some h' ∧
    (c.hist ++ [newShown c.ls ls']).flatten = ls'.shownObj.map toInd :=
  ⟨run_snoc hrun _ _ hu, by rw [List.flatten_append, hflat, newShown_append _ _ x hx, hx]; simp⟩

theorem cgeneration_unfold {σ : Type} {ev : List Int → List Int} {stp : Step σ} {asg : Assign} {g : Nat}
    {t t' : σ} {c c' : CState} (h : cgeneration ev stp asg g t c = some (t', c')) :
    ∃ ls' h', generation ev stp g t c.ls = some (t', ls') ∧
      Archive.update simEq c.hof (newShown c.ls ls') = some h' ∧
      c' = assignPop asg { c with ls := ls', hof := h', hist := c.hist ++ [newShown c.ls ls'] } := by
  simp only [cgeneration] at h
  split at h
  · simp at h
  next t1 ls' hg =>
    split at h
    · simp at h
    next c1 hu =>
      obtain ⟨rfl, rfl⟩ := h
      obtain ⟨h', hupd, rfl⟩ := hofUpdate_spec hu
      exact ⟨ls', h', hg, hupd, rfl⟩

theorem cgeneration_inv {σ : Type} {ev : List Int → List Int} {stp : Step σ} (hc : StepContract stp)
    {asg : Assign} {m base g : Nat} {t t' : σ} {c c' : CState} (hi : CInv ev m base g c)
    (h : cgeneration ev stp asg g t c = some (t', c')) : CInv ev m base (g + 1) c' := by
  obtain ⟨ls', h', hg, hu, rfl⟩ := cgeneration_unfold h
  obtain ⟨r, u⟩ := generation_unfold hg
  obtain ⟨h1, h2⟩ := hof_step hi.hofRun hi.flat hu _ u.shownObj
  have hlt := hi.refLt
  cases asg <;>
    exact ⟨generation_inv hc hi.inv hg, generation_shown hc hi.inv hi.shownOk hg, h1, h2,
      generation_popCur hc hi.inv hi.popCur hg, by simp only [assignPop]; omega, by simp [assignPop]⟩

/-- the composed generation succeeds exactly when the plain generation does (capacity ≥ 1) -/
theorem cgeneration_isSome {σ : Type} {ev : List Int → List Int} (stp : Step σ) (asg : Assign)
    {m base g : Nat} (hm : 1 ≤ m) (t : σ) {c : CState} (hi : CInv ev m base g c) :
    (cgeneration ev stp asg g t c).isSome = (generation ev stp g t c.ls).isSome := by
  simp only [cgeneration]
  cases hg : generation ev stp g t c.ls with
  | none => rfl
  | some x =>
    obtain ⟨c1, hu⟩ := hofUpdate_total hm hi x.2
    simp [hu]

theorem cgen0_total (ev : List Int → List Int) (m base : Nat) (hm : 1 ≤ m) (c : CState)
    (hhof : c.hof = Archive.empty m base) : ∃ c0, cgen0 ev c = some c0 := by
  obtain ⟨h', hu⟩ := update_total (sim := simEq) (hist := []) hm (by rfl : Archive.run simEq (Archive.empty m base) [] = some _)
    (newShown c.ls (gen0 ev c.ls))
  exact ⟨_, by simp only [cgen0, hofUpdate, hhof, hu]; rfl⟩

theorem crunPop_eq {σ : Type} (ev : List Int → List Int) (steps : List (Step σ × Assign)) (t : σ) (c : CState) :
    crunPop ev steps t c = (cgen0 ev c).bind fun c0 => crunGens ev steps 1 t c0 := by
  unfold crunPop; cases cgen0 ev c <;> rfl

theorem crunGens_iterates {σ : Type} (ev : List Int → List Int) :
    Iterates (crunGens (σ := σ) ev) (fun x => cgeneration ev x.1 x.2) :=
  ⟨fun _ _ _ => rfl, fun x rest g t c => by simp only [crunGens]; split <;> simp [*]⟩

theorem crunGens_inv {σ : Type} {ev : List Int → List Int} {m base : Nat} (steps : List (Step σ × Assign)) (g : Nat)
    (t t' : σ) (c c' : CState) (hc : ∀ x ∈ steps, StepContract x.1) (hi : CInv ev m base g c)
    (h : crunGens ev steps g t c = some (t', c')) : CInv ev m base (g + steps.length) c' :=
  (crunGens_iterates ev).induct steps g t t' c c' (fun x hx _ _ _ _ _ hi hg => cgeneration_inv (hc x hx) hi hg) hi h

theorem crunGens_append {σ : Type} (ev : List Int → List Int) :
    ∀ (a b : List (Step σ × Assign)) (g : Nat) (t : σ) (c : CState),
      crunGens ev (a ++ b) g t c =
        match crunGens ev a g t c with
        | none => none
        | some (t1, c1) => crunGens ev b (g + a.length) t1 c1 := fun a b g t c => by
  rw [(crunGens_iterates ev).append]
  cases crunGens ev a g t c <;> rfl

theorem cgeneration_shown_mono {σ : Type} {ev : List Int → List Int} {stp : Step σ} {asg : Assign} {g : Nat}
    {t t' : σ} {c c' : CState} (h : cgeneration ev stp asg g t c = some (t', c')) :
    ∀ e ∈ c.ls.shownObj, e ∈ c'.ls.shownObj := by
  obtain ⟨ls', h', hg, _, rfl⟩ := cgeneration_unfold h
  obtain ⟨r, u⟩ := generation_unfold hg
  intro e he
  cases asg <;> exact u.shownObj ▸ List.mem_append_left _ he

theorem crunGens_shown_mono {σ : Type} {ev : List Int → List Int} (steps : List (Step σ × Assign)) (g : Nat)
    (t t' : σ) (c c' : CState) (h : crunGens ev steps g t c = some (t', c')) :
    ∀ e ∈ c.ls.shownObj, e ∈ c'.ls.shownObj :=
  (crunGens_iterates ev).induct (P := fun _ c1 => ∀ e ∈ c.ls.shownObj, e ∈ c1.ls.shownObj) steps g t t' c c'
    (fun _ _ _ _ _ _ _ hP hg e he => cgeneration_shown_mono hg e (hP e he)) (fun _ he => he) h

theorem cgeneration_hist {σ : Type} {ev : List Int → List Int} {stp : Step σ} {asg : Assign} {g : Nat}
    {t t' : σ} {c c' : CState} (h : cgeneration ev stp asg g t c = some (t', c')) :
    ∃ batch, c'.hist = c.hist ++ [batch] := by
  obtain ⟨ls', h', _, _, rfl⟩ := cgeneration_unfold h
  cases asg <;> exact ⟨_, rfl⟩

theorem crunGens_hist {σ : Type} {ev : List Int → List Int} (steps : List (Step σ × Assign)) (g : Nat)
    (t t' : σ) (c c' : CState) (h : crunGens ev steps g t c = some (t', c')) : ∃ more, c'.hist = c.hist ++ more :=
  (crunGens_iterates ev).induct (P := fun _ c1 => ∃ more, c1.hist = c.hist ++ more) steps g t t' c c'
    (fun _ _ _ _ _ _ _ ⟨more, hP⟩ hg => by
      obtain ⟨batch, hb⟩ := cgeneration_hist hg
      exact ⟨more ++ [batch], by rw [hb, hP, List.append_assoc]⟩) ⟨[], (List.append_nil _).symm⟩ h

/-- what C08 asks of the similarity, discharged from the invariant: everything shown carries `evaluate` of its genotype, so equal
genotypes carry equal fitness -/
theorem CInv.simHyp {ev : List Int → List Int} {m base g : Nat} {c : CState} (hi : CInv ev m base g c) :
    SimHyp simEq c.hist.flatten :=
  simHyp_simEq ev _ fun x hx => by
    rw [hi.flat] at hx
    obtain ⟨e', he', rfl⟩ := List.mem_map.1 hx
    simp only [toInd, hi.shownOk.1 e' he', Option.getD_some]

theorem cinv_best_ge_shown {ev : List Int → List Int} {m base g : Nat} {c : CState} (hm : 1 ≤ m)
    (hi : CInv ev m base g c) :
    ∀ e ∈ c.ls.shownObj, ∃ b, c.hof.items.head? = some b ∧ keyLe (e.2.fit.getD []) b.fit.wvalues := by
  intro e he
  have hmem : toInd e ∈ c.hist.flatten := by
    rw [hi.flat]; exact List.mem_map.2 ⟨e, he, rfl⟩
  obtain ⟨b, hb, hle⟩ := best_ge_seen hm hi.simHyp hi.hofRun (toInd e) hmem
  exact ⟨b, hb, (keyLe_iff_le _ _).2 hle⟩

theorem cgeneration_ls {σ : Type} {ev : List Int → List Int} {stp : Step σ} {asg : Assign} {g : Nat} {t t' : σ}
    {c c' : CState} (h : cgeneration ev stp asg g t c = some (t', c')) :
    generation ev stp g t c.ls = some (t', c'.ls) := by
  obtain ⟨ls', h', hg, _, rfl⟩ := cgeneration_unfold h
  cases asg <;> exact hg

theorem crunGens_ls {σ : Type} {ev : List Int → List Int} (steps : List (Step σ × Assign)) (g : Nat) (t t' : σ)
    (c c' : CState) (h : crunGens ev steps g t c = some (t', c')) :
    runGens ev (steps.map (·.1)) g t c.ls = some (t', c'.ls) :=
  (crunGens_iterates ev).proj (runGens_iterates ev) (·.1) (·.ls) (fun _ _ _ _ _ _ => cgeneration_ls) steps g t t' c c' h

theorem crunGens_isSome {σ : Type} {ev : List Int → List Int} {m base : Nat} (hm : 1 ≤ m) :
    ∀ (steps : List (Step σ × Assign)) (g : Nat) (t : σ) (c : CState),
      (∀ x ∈ steps, StepContract x.1) → CInv ev m base g c →
      (crunGens ev steps g t c).isSome = (runGens ev (steps.map (·.1)) g t c.ls).isSome
  | [], g, t, c, _, _ => rfl
  | x :: rest, g, t, c, hc, hi => by
    have hs := cgeneration_isSome x.1 x.2 hm t hi
    simp only [crunGens, List.map_cons, runGens]
    cases hcg : cgeneration ev x.1 x.2 g t c with
    | none =>
      rw [hcg] at hs
      cases hg : generation ev x.1 g t c.ls
      · rfl
      · rw [hg] at hs; cases hs
    | some y =>
      rw [cgeneration_ls hcg]
      exact crunGens_isSome hm rest (g + 1) y.1 y.2 (fun z hz => hc z (List.mem_cons_of_mem _ hz))
        (cgeneration_inv (hc x (List.mem_cons_self ..)) hi hcg)

end LoopsC
