/-
C08 at heap level — histories: `update` calls interleaved with in-place modifications of the caller's
objects and with allocations.
-/
import DeapModel.Lemmas.C08HeapSim

namespace C08H
open Heap Heap.Copy ArchiveHeap
open Archive (Ind HoF)

variable {α : Type} [LinearOrder α]

/-- An event is admissible in the state `hs`:
* `update` is shown individuals that are not the archive's own objects, that `deepcopy` can copy, and that
  have a `fitness` (`Subm`);
* an in-place modification replaces the content of an existing mutable object outside the archive's ranges
  by anything that refers to existing objects outside the archive's ranges (the caller holds no reference to
  the archive's private copies) — in-place genome edits, attribute edits, `fitness.values = …`,
  `del fitness.values`, `ind.fitness = other` are all instances;
* an allocation creates an object that refers to such objects. -/
def EvOK (P : Params α) (hs : HState) : Ev → Prop
  | .upd pop => ∀ x ∈ pop, Subm P hs x
  | .write x o => (∃ o0, hs.objs x = some o0 ∧ o0.mutable = true) ∧ ¬ InLog hs.log x ∧
      ∀ z, Val.ref z ∈ o.children → (hs.objs z).isSome = true ∧ ¬ InLog hs.log z
  | .alloc o => ∀ z, Val.ref z ∈ o.children → (hs.objs z).isSome = true ∧ ¬ InLog hs.log z

/-- Every event of the history is admissible in the state it is applied to. -/
def Valid (P : Params α) (pf : Bool) : HState → List Ev → Prop
  | _, [] => True
  | hs, e :: es => EvOK P hs e ∧ ∀ hs', execEv P pf hs e = some hs' → Valid P pf hs' es

def submittedOf : List Ev → List Oid
  | [] => []
  | .upd pop :: es => pop ++ submittedOf es
  | _ :: es => submittedOf es

/-- Only the caller acts: no `update`. -/
def CallerOnly : List Ev → Prop
  | [] => True
  | .upd _ :: _ => False
  | _ :: es => CallerOnly es

/-- `hs'` is a later state of the archive `hs`. -/
structure Mono (hs hs' : HState) : Prop where
  next : hs.next ≤ hs'.next
  logNew : ∀ y, InLog hs'.log y → InLog hs.log y ∨ hs.next ≤ y
  items : ∀ x ∈ hs'.items, x ∈ hs.items ∨ hs.next ≤ x
  maxsize : hs'.maxsize = hs.maxsize

theorem HExt.mono {hs hs' : HState} (h : HExt hs hs') : Mono hs hs' := ⟨h.next, h.logNew, h.items, h.maxsize⟩

theorem Mono.refl (hs : HState) : Mono hs hs := (HExt.refl hs).mono

theorem Mono.trans {a b c : HState} (h1 : Mono a b) (h2 : Mono b c) : Mono a c where
  next := Nat.le_trans h1.next h2.next
  logNew := fun y hy => (h2.logNew y hy).elim (h1.logNew y) (fun h => Or.inr (Nat.le_trans h1.next h))
  items := fun x hx => (h2.items x hx).elim (h1.items x) (fun h => Or.inr (Nat.le_trans h1.next h))
  maxsize := by rw [h2.maxsize, h1.maxsize]

/-- Members that are still members denote what they denoted. -/
def Stable (hs hs' : HState) : Prop :=
  ∀ x ∈ hs.items, x ∈ hs'.items → ∀ m, Heap.abs hs'.objs m (.ref x) = Heap.abs hs.objs m (.ref x)

theorem runH_append (P : Params α) (pf : Bool) (a b : List Ev) (hs : HState) :
    runH P pf hs (a ++ b) = match runH P pf hs a with
      | none => none
      | some hs' => runH P pf hs' b := by
  induction a generalizing hs with
  | nil => rfl
  | cons e es ih =>
    simp only [List.cons_append, runH]
    cases execEv P pf hs e with
    | none => rfl
    | some hs1 => exact ih hs1

theorem Valid.left {P : Params α} {pf : Bool} {a b : List Ev} {hs : HState} (h : Valid P pf hs (a ++ b)) :
    Valid P pf hs a := by
  induction a generalizing hs with
  | nil => trivial
  | cons e es ih => exact ⟨h.1, fun hs' he => ih (h.2 hs' he)⟩

theorem Valid.right {P : Params α} {pf : Bool} {a b : List Ev} {hs st : HState}
    (h : Valid P pf hs (a ++ b)) (hr : runH P pf hs a = some st) : Valid P pf st b := by
  induction a generalizing hs with
  | nil => cases hr; exact h
  | cons e es ih =>
    simp only [runH] at hr
    cases he : execEv P pf hs e with
    | none => rw [he] at hr; cases hr
    | some hs1 =>
      rw [he] at hr
      exact ih (h.2 hs1 he) hr

section Define
variable {P : Params α} {base : Nat} {hs : HState}

theorem define_cases {objs : Oid → Option Obj} {x y : Oid} {o oy : Obj} (h : define objs x o y = some oy) :
    (y = x ∧ oy = o) ∨ (y ≠ x ∧ objs y = some oy) := by
  by_cases hyx : y = x
  · subst hyx
    rw [define_same] at h
    exact Or.inl ⟨rfl, (Option.some.inj h).symm⟩
  · rw [define_ne _ _ _ hyx] at h
    exact Or.inr ⟨hyx, h⟩

/-- In-place modification (`x` exists, `n = next`) and allocation (`x = next`, `n = next + 1`) at once: no member
reaches `x`, so the invariant is kept and the archive reads from its members and keys what it read before. -/
theorem define_facts (hI : Inv P base hs) {x : Oid} {o : Obj} {n : Nat} (hn : hs.next ≤ n) (hx : x < n)
    (hnl : ¬ InLog hs.log x) (hmut : ∀ o0, hs.objs x = some o0 → o0.mutable = true)
    (hch : ∀ z, Val.ref z ∈ o.children → (hs.objs z).isSome = true ∧ ¬ InLog hs.log z) :
    Inv P base { hs with objs := define hs.objs x o, next := n } ∧ SameReads P hs (define hs.objs x o) := by
  have hno : ∀ m ∈ hs.items, ¬ Reach hs.objs (.ref m) x := fun m hm hr => by
    obtain ⟨hi, hmem, hreach⟩ := hI.members m hm
    rcases hreach x hr with h | ⟨o0, ho0, hm0⟩
    · exact hnl ⟨_, hmem, h⟩
    · rw [hmut o0 ho0] at hm0
      cases hm0
  have hr : SameReads P hs (define hs.objs x o) :=
    hI.sameReads fun m hm _ hk => view_write (P := P) o hk (hno m hm)
  refine ⟨⟨⟨fun y hy => ?_, fun y oy hy z hz => define_isSome _ _ _ ?_⟩, Nat.le_trans hI.base_le hn,
    fun r hr => ?_, hI.logord, fun y oy hy hl z hz => ?_, fun m hm => ?_, hI.nodup, hr.keyof hI⟩, hr⟩
  · have hy' : n ≤ y := hy
    show define hs.objs x o y = none
    rw [define_ne _ _ _ (by oomega)]
    exact hI.closed.bound y (Nat.le_trans hn hy')
  · rcases define_cases hy with ⟨_, rfl⟩ | ⟨_, hy'⟩
    · exact (hch z hz).1
    · exact hI.closed.refs y oy hy' z hz
  · obtain ⟨a, b, c⟩ := hI.logwf r hr
    exact ⟨a, b, Nat.le_trans c hn⟩
  · rcases define_cases hy with ⟨_, rfl⟩ | ⟨_, hy'⟩
    · exact (hch z hz).2
    · exact hI.outside y oy hy' hl z hz
  · obtain ⟨hi, hmem', hreach⟩ := hI.members m hm
    refine ⟨hi, hmem', fun y hr => (hreach y (Reach_congr hr fun _ hr' => define_ne _ _ _ fun e => hno m hm (e ▸ hr'))).imp_right ?_⟩
    rintro ⟨oy, hoy, hmy⟩
    have hyx : y ≠ x := fun e => by rw [hmut oy (e ▸ hoy)] at hmy; cases hmy
    exact ⟨oy, (define_ne _ _ _ hyx).trans hoy, hmy⟩

theorem mono_define (hs : HState) (x : Oid) (o : Obj) {n : Nat} (hn : hs.next ≤ n) :
    Mono hs { hs with objs := define hs.objs x o, next := n } :=
  ⟨hn, fun _ hl => Or.inl hl, fun _ hx => Or.inl hx, rfl⟩

end Define

def pureRun (P : Params α) (pf : Bool) (h : HoF PV α) (hist : List (List (Ind PV α))) : Option (HoF PV α) :=
  if pf then Archive.pfRun P.sim h hist else Archive.run P.sim h hist

theorem pureRun_nil (P : Params α) (pf : Bool) (h : HoF PV α) : pureRun P pf h [] = some h := by
  cases pf <;> rfl

/-- What the pure archive does at an event: an `update` on the individuals as they are now, or nothing. -/
def pureStep (P : Params α) (pf : Bool) (hs : HState) (h : HoF PV α) : Ev → Option (HoF PV α)
  | .upd pop =>
    if pf then Archive.pfUpdate P.sim h (pop.filterMap (viewInd P hs.objs))
    else Archive.update P.sim h (pop.filterMap (viewInd P hs.objs))
  | _ => some h

theorem pureRun_histOf_cons (P : Params α) (pf : Bool) (hs : HState) (h : HoF PV α) (e : Ev) (es : List Ev) :
    pureRun P pf h (histOf P pf hs (e :: es)) =
      match pureStep P pf hs h e with
      | none => none
      | some h1 => pureRun P pf h1 (match execEv P pf hs e with
        | none => []
        | some hs1 => histOf P pf hs1 es) := by
  cases e with
  | upd pop =>
    cases pf
    · show Archive.run P.sim h (_ :: _) = match Archive.update P.sim h _ with | none => none | some h1 => _
      rw [Archive.run]
      cases Archive.update P.sim h (pop.filterMap (viewInd P hs.objs)) <;> rfl
    · show Archive.pfRun P.sim h (_ :: _) = match Archive.pfUpdate P.sim h _ with | none => none | some h1 => _
      rw [Archive.pfRun]
      cases Archive.pfUpdate P.sim h (pop.filterMap (viewInd P hs.objs)) <;> rfl
  | write x o => rfl
  | alloc o => rfl

section Run
variable {P : Params α} {base : Nat} (hsim : SimErase P.sim) (hct : CTOk P.ct) (pf : Bool)
include hsim hct

theorem upd_lock {hs : HState} {h : HoF PV α} (hI : Inv P base hs) (hR : Rel P hs h) (pop : List Oid)
    (hpop : ∀ x ∈ pop, Subm P hs x) :
    Lock P base hs (execEv P pf hs (.upd pop)) (pureStep P pf hs h (.upd pop)) := by
  cases pf with
  | true => exact pfUpdate_lock hsim hct pop hs h hI hR hpop
  | false => exact update_lock hsim hct hI hR pop hpop

/-- One admissible event; the members of `hs` keep their pure value whether or not they stay members. -/
theorem exec_facts {hs : HState} {h : HoF PV α} (hI : Inv P base hs) (hR : Rel P hs h) (e : Ev) (es : List Ev)
    (hok : EvOK P hs e) :
    Option.Rel (fun hs1 h1 => Inv P base hs1 ∧ Rel P hs1 h1 ∧ Mono hs hs1 ∧
        (∀ m ∈ hs.items, ∀ d, Heap.abs hs1.objs d (.ref m) = Heap.abs hs.objs d (.ref m)) ∧
        (∀ s ∈ submittedOf (e :: es), s ∈ submittedOf es ∨ (s < hs.next ∧ ¬ InLog hs.log s)) ∧
        (CallerOnly (e :: es) → CallerOnly es ∧ h1 = h ∧ hs1.items = hs.items ∧ hs1.keys = hs.keys))
      (execEv P pf hs e) (pureStep P pf hs h e) := by
  cases e with
  | upd pop =>
    refine (upd_lock hsim hct pf hI hR pop hok).casesOn (fun ⟨hI1, hR1, hE1⟩ => .some
      ⟨hI1, hR1, hE1.mono, (hI.sameReads_ext hE1).abs, fun s hs' => ?_, fun hc => hc.elim⟩) .none
    rcases List.mem_append.1 hs' with hs' | hs'
    · obtain ⟨hnl, _, f, hf⟩ := hok s hs'
      obtain ⟨o, ho, _, _⟩ := instFit_spec hf
      exact Or.inr ⟨lt_of_defined hI.closed ho, hnl⟩
    · exact Or.inl hs'
  | write x o =>
    obtain ⟨⟨o0, ho0, hm0⟩, hnl, hch⟩ := hok
    obtain ⟨hI1, hr⟩ := define_facts hI (Nat.le_refl _) (lt_of_defined hI.closed ho0) hnl
      (fun o' ho' => by rw [ho0] at ho'; cases ho'; exact hm0) hch
    exact .some ⟨hI1, hr.rel hR _, mono_define hs x o (Nat.le_refl _), hr.abs, fun s hs' => Or.inl hs',
      fun hc => ⟨hc, rfl, rfl, rfl⟩⟩
  | alloc o =>
    obtain ⟨hI1, hr⟩ := define_facts hI (Nat.le_succ _) (Nat.lt_succ_self _)
      (fun hl => Nat.lt_irrefl _ (hI.inlog_lt hl).2)
      (fun o' ho' => by rw [hI.closed.bound _ (Nat.le_refl _)] at ho'; cases ho') hok
    exact .some ⟨hI1, hr.rel hR _, mono_define hs _ o (Nat.le_succ _), hr.abs, fun s hs' => Or.inl hs',
      fun hc => ⟨hc, rfl, rfl, rfl⟩⟩

/-- What a history leaves of the archive `hs` (denoting `h`) it started from. -/
structure RunFacts (P : Params α) (base : Nat) (hs : HState) (h : HoF PV α) (evs : List Ev) (hs' : HState)
    (h' : HoF PV α) : Prop where
  inv : Inv P base hs'
  rel : Rel P hs' h'
  mono : Mono hs hs'
  stable : Stable hs hs'
  subm : ∀ s ∈ submittedOf evs, ¬ InLog hs'.log s
  caller : CallerOnly evs → h' = h ∧ hs'.items = hs.items ∧ hs'.keys = hs.keys

/-- Everything about a history, in lockstep with the pure archive on the populations as the archive saw them. -/
theorem run_facts (evs : List Ev) :
    ∀ (hs : HState) (h : HoF PV α), Inv P base hs → Rel P hs h → Valid P pf hs evs →
      Option.Rel (RunFacts P base hs h evs) (runH P pf hs evs) (pureRun P pf h (histOf P pf hs evs)) := by
  induction evs with
  | nil =>
    intro hs h hI hR _
    rw [runH, histOf, pureRun_nil]
    exact .some ⟨hI, hR, Mono.refl hs, fun _ _ _ _ => rfl, fun _ hs' => (nomatch hs'), fun _ => ⟨rfl, rfl, rfl⟩⟩
  | cons e es ih =>
    intro hs h hI hR ⟨hok, hV⟩
    rw [runH, pureRun_histOf_cons]
    refine rel_cases (exec_facts hsim hct pf hI hR e es hok) .none
      fun hs1 h1 e1 _ ⟨hI1, hR1, hM1, hK1, hsub1, hco1⟩ => ?_
    dsimp only
    refine (ih hs1 h1 hI1 hR1 (hV hs1 e1)).casesOn
      (fun ⟨hI2, hR2, hM2, hS2, hsub2, hco2⟩ => .some ⟨hI2, hR2, hM1.trans hM2, fun x hx hx2 d => ?_,
        fun s hs' hl => ?_, fun hc => ?_⟩) .none
    · -- a member never comes back: `x` was a member all along
      have hx1 : x ∈ hs1.items := (hM2.items x hx2).resolve_right fun hge =>
        Nat.lt_irrefl x (Nat.lt_of_lt_of_le (hI.member_lt hx) (Nat.le_trans hM1.next hge))
      rw [hS2 x hx1 hx2 d, hK1 x hx d]
    · rcases hsub1 s hs' with h' | ⟨hlt, hnl⟩
      · exact hsub2 s h' hl
      · exact ((hM1.trans hM2).logNew s hl).elim hnl fun h' => Nat.lt_irrefl s (Nat.lt_of_lt_of_le hlt h')
    · obtain ⟨hc', e1, e2, e3⟩ := hco1 hc
      obtain ⟨e1', e2', e3'⟩ := hco2 hc'
      exact ⟨e1'.trans e1, e2'.trans e2, e3'.trans e3⟩

end Run

set_option linter.unusedSectionVars false in
theorem inv_empty (P : Params α) (m : Nat) {objs : Oid → Option Obj} {next : Nat} (hcl : Closed objs next) :
    Inv P next (emptyH m objs next) :=
  ⟨hcl, Nat.le_refl _, fun r hr => (by cases hr), List.Pairwise.nil, fun y o _ _ z _ h => (by
      obtain ⟨r, hr, _⟩ := h
      cases hr),
    fun x hx => (by cases hx), List.Pairwise.nil, rfl⟩

set_option linter.unusedSectionVars false in
theorem rel_empty (P : Params α) (m b : Nat) (objs : Oid → Option Obj) (next : Nat) :
    Rel P (emptyH m objs next) (Archive.empty m b : HoF PV α) := ⟨rfl, rfl, rfl⟩

end C08H
