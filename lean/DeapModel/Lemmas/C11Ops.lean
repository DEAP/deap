/-
Helper lemmas for C11: splicing, and the loops and list-level steps of the variation operators — what they return and
that they return.
-/
import DeapModel.Lemmas.C11Span
import DeapModel.Lemmas.C11Gen

namespace GpTree

theorem mem_idxGo {α : Type} {f : α → Bool} : ∀ {l : List α} {i j : Nat}, j ∈ idxGo f l i →
    ∃ k x, j = i + k ∧ l[k]? = some x ∧ f x = true
  | [], _, _, h => by simp [idxGo] at h
  | a :: l, i, j, h => by
    simp only [idxGo] at h
    split at h
    · rcases List.mem_cons.1 h with rfl | h
      · exact ⟨0, a, by simp, by simp, by assumption⟩
      · obtain ⟨k, x, e, hx, hf⟩ := mem_idxGo h
        exact ⟨k + 1, x, by omega, by simpa using hx, hf⟩
    · obtain ⟨k, x, e, hx, hf⟩ := mem_idxGo h
      exact ⟨k + 1, x, by omega, by simpa using hx, hf⟩

theorem mem_idxFrom1 {f : Prim → Bool} {l : List Prim} {j : Nat} (h : j ∈ idxFrom1 f l) :
    1 ≤ j ∧ ∃ x, l[j]? = some x ∧ f x = true := by
  obtain ⟨k, x, e, hx, hf⟩ := mem_idxGo h
  refine ⟨by omega, x, ?_, hf⟩
  rw [List.getElem?_drop] at hx
  rw [e]; exact hx

theorem idxFrom1_ret {f : Prim → Bool} (τ : Nat) (hf : ∀ p, f p = true → p.ret = τ) {l : List Prim} :
    ∀ i ∈ idxFrom1 f l, ∃ p, l[i]? = some p ∧ p.ret = τ := fun _ hi =>
  let ⟨_, p, hp, hfp⟩ := mem_idxFrom1 hi
  ⟨p, hp, hf p hfp⟩

theorem idxGo_lt {α : Type} {f : α → Bool} {l : List α} {i j : Nat} (h : j ∈ idxGo f l i) : j < i + l.length := by
  obtain ⟨k, x, rfl, hx, _⟩ := mem_idxGo h
  have := (List.getElem?_eq_some_iff.1 hx).1
  omega

/-- a position `mutInsert` / `mutShrink` may pick among the arguments of type `τ` holds `τ` -/
theorem getElem?_of_mem_idxGo {τ : Nat} {args : List Nat} {k : Nat} (h : k ∈ idxGo (fun a => a == τ) args 0) :
    args[k]? = some τ := by
  obtain ⟨k', a, hk, ha, hfa⟩ := mem_idxGo h
  rw [hk, Nat.zero_add, ha, beq_iff_eq.1 hfa]

theorem idxGo_length_le {α : Type} (f : α → Bool) : ∀ (l : List α) (i : Nat), (idxGo f l i).length ≤ l.length
  | [], _ => Nat.le_refl _
  | a :: l, i => by
    have := idxGo_length_le f l (i + 1)
    simp only [idxGo]
    split <;> simp only [List.length_cons] <;> omega

theorem idxGo_ne_nil {α : Type} {f : α → Bool} : ∀ {l : List α} {i : Nat}, (∃ x ∈ l, f x = true) → idxGo f l i ≠ []
  | [], _, h => by simp at h
  | a :: l, i, h => by
    simp only [idxGo]
    by_cases ha : f a = true
    · simp [ha]
    · simp only [ha]
      obtain ⟨x, hx, hfx⟩ := h
      rcases List.mem_cons.1 hx with rfl | hx
      · exact absurd hfx ha
      · exact idxGo_ne_nil ⟨x, hx, hfx⟩

theorem mem_keysOf {f : Prim → Bool} {l : List Prim} {τ : Nat} (h : τ ∈ keysOf f l) :
    ∃ p ∈ l.drop 1, f p = true ∧ p.ret = τ := by
  unfold keysOf at h
  rw [List.mem_eraseDups] at h
  obtain ⟨p, hp, rfl⟩ := List.mem_map.1 h
  obtain ⟨hp1, hp2⟩ := List.mem_filter.1 hp
  exact ⟨p, hp1, hp2, rfl⟩

theorem cands_ne_nil {f1 f2 : Prim → Bool} {l1 l2 : List Prim} {τ : Nat} (h : τ ∈ commonTypes f1 f2 l1 l2) :
    idxFrom1 (fun p => f1 p && p.ret == τ) l1 ≠ [] ∧ idxFrom1 (fun p => f2 p && p.ret == τ) l2 ≠ [] := by
  obtain ⟨h1, h2⟩ := List.mem_filter.1 h
  have h2' : τ ∈ keysOf f2 l2 := by simpa using h2
  obtain ⟨p1, hp1, hf1, hr1⟩ := mem_keysOf h1
  obtain ⟨p2, hp2, hf2, hr2⟩ := mem_keysOf h2'
  exact ⟨idxGo_ne_nil ⟨p1, hp1, by simp [hf1, hr1]⟩, idxGo_ne_nil ⟨p2, hp2, by simp [hf2, hr2]⟩⟩

theorem setSlice_ok {l v : List Prim} {b e : Nat} (hb : b < l.length) (hv : guardTotal v = some 0) :
    setSlice l b e v = some (l.take b ++ v ++ l.drop e) := by
  simp [setSlice, hv]; omega

theorem length_splice {α : Type} (l v : List α) {i e : Nat} (hie : i ≤ e) (he : e ≤ l.length) :
    (l.take i ++ v ++ l.drop e).length + (e - i) = l.length + v.length := by
  simp only [List.length_append, List.length_take, List.length_drop, Nat.min_eq_left (Nat.le_trans hie he)]
  omega

/-- Splicing at a decomposition (`subtree_at`): `searchSubtree` finds exactly the span of `s`, and assigning to it a list
typed for the return type of the root of `s` passes the `__setitem__` guard and gives `pre ++ v ++ post`, typed like the
whole. -/
theorem splice_at {sub} (trans : ∀ a b c, sub a b = true → sub b c = true → sub a c = true)
    {ss rest : List Nat} {σ : Nat} {pre post : List Prim} {s : Tree}
    (hw : wt sub σ s = true) (hr : typed sub rest post = true)
    (hx : ∀ x, typed sub ss (pre ++ x) = typed sub (σ :: rest) x) :
    searchSubtree (pre ++ flatten s ++ post) pre.length = some (pre.length, pre.length + s.size) ∧
    getSlice (pre ++ flatten s ++ post) pre.length (pre.length + s.size) = flatten s ∧
    ∀ v, typed sub [s.root.ret] v = true →
      setSlice (pre ++ flatten s ++ post) pre.length (pre.length + s.size) v = some (pre ++ v ++ post) ∧
      typed sub ss (pre ++ v ++ post) = true := by
  have hg := getSlice_at pre post (flatten s)
  rw [flatten_length] at hg
  refine ⟨searchSubtree_at pre post s (wf_of_wt hw), hg, fun v hv => ⟨?_, ?_⟩⟩
  · have htake : (pre ++ flatten s ++ post).take pre.length = pre := by simp [List.append_assoc]
    have hdrop : (pre ++ flatten s ++ post).drop (pre.length + s.size) = post := by
      rw [← flatten_length s, ← List.length_append]; simp
    rw [setSlice_ok (by have := size_pos s; simp [flatten_length]; omega) (guardTotal_of_typed hv), htake, hdrop]
  · rw [List.append_assoc, hx]
    obtain ⟨u, hu, rfl⟩ := typed_iff_tree.1 hv
    rw [typed_flatten rest post (wt_mono hu (trans _ _ _ (wt_root hu) (wt_root hw)))]; exact hr

/-- Splicing: replacing the span found by `searchSubtree` at `i` by a list that is typed for the
return type of the node at `i` (`subtree_at` and `splice_at` in the terms of the list itself). -/
theorem splice {sub} (trans : ∀ a b c, sub a b = true → sub b c = true → sub a c = true)
    (refl : ∀ a, sub a a = true)
    {ss : List Nat} {l : List Prim} {i : Nat} {p : Prim}
    (h : typed sub ss l = true) (hp : l[i]? = some p) :
    ∃ e, searchSubtree l i = some (i, e) ∧ i < e ∧ e ≤ l.length ∧
      typed sub [p.ret] (getSlice l i e) = true ∧ (getSlice l i e).length = e - i ∧
      ∀ v, typed sub [p.ret] v = true →
        setSlice l i e v = some (l.take i ++ v ++ l.drop e) ∧
        typed sub ss (l.take i ++ v ++ l.drop e) = true := by
  obtain ⟨pre, s, post, σ, rest, rfl, rfl, rfl, hw, hr, hx⟩ := subtree_at i l ss p h hp
  obtain ⟨hs, hg, hset⟩ := splice_at trans hw hr hx
  have hsz := size_pos s
  have htake : (pre ++ flatten s ++ post).take pre.length = pre := by simp [List.append_assoc]
  have hdrop : (pre ++ flatten s ++ post).drop (pre.length + s.size) = post := by
    rw [← flatten_length s, ← List.length_append]; simp
  refine ⟨pre.length + s.size, hs, by omega, by simp [flatten_length], ?_, by rw [hg, flatten_length]; omega, ?_⟩
  · rw [hg]; exact typed_iff_tree.2 ⟨s, wt_mono hw (refl _), rfl⟩
  · rw [htake, hdrop]; exact hset

theorem typed_set {sub} : ∀ (l : List Prim) (ss : List Nat) (i : Nat) (p p' : Prim),
    typed sub ss l = true → l[i]? = some p → p'.args = p.args →
    (∀ σ, sub p.ret σ = true → sub p'.ret σ = true) → typed sub ss (l.set i p') = true
  | [], _, _, _, _, _, hp, _, _ => by simp at hp
  | _ :: _, [], _, _, _, h, _, _, _ => by simp [typed] at h
  | q :: l, σ :: ss, 0, p, p', h, hp, ha, hs => by
    simp at hp; subst hp
    simp [typed] at h ⊢
    exact ⟨hs _ h.1, by rw [ha]; exact h.2⟩
  | q :: l, σ :: ss, i + 1, p, p', h, hp, ha, hs => by
    simp [typed] at h ⊢
    exact ⟨h.1, typed_set l _ i p p' h.2 (by simpa using hp) ha hs⟩

theorem setItem_ok {l : List Prim} {i : Nat} {p p' : Prim} (hp : l[i]? = some p) (ha : p'.args = p.args) :
    setItem l i p' = some (l.set i p') := by
  simp [setItem, hp, Prim.arity, ha]

theorem typed_length_pos {sub} {σ : Nat} {v : List Prim} (h : typed sub [σ] v = true) : 0 < v.length := by
  cases v with
  | nil => simp [typed] at h
  | cons a b => simp

/-- what the crossovers claim of their offspring -/
def CxOK (sub : Nat → Nat → Bool) (r1 r2 : Nat) (ind1 ind2 : List Prim) (o : List Prim × List Prim × Tape) : Prop :=
  typed sub [r1] o.1 = true ∧ typed sub [r2] o.2.1 = true ∧ o.1.length + o.2.1.length = ind1.length + ind2.length

theorem swapAt_run {sub} (trans : ∀ a b c, sub a b = true → sub b c = true → sub a c = true)
    (refl : ∀ a, sub a a = true) {r1 r2 τ : Nat} {ind1 ind2 : List Prim} {c1 c2 : List Nat} (tp : Tape)
    (h1 : typed sub [r1] ind1 = true) (h2 : typed sub [r2] ind2 = true)
    (hc1 : ∀ i ∈ c1, ∃ p, ind1[i]? = some p ∧ p.ret = τ) (hc2 : ∀ i ∈ c2, ∃ p, ind2[i]? = some p ∧ p.ret = τ) :
    Ran (c1 ≠ [] ∧ c2 ≠ []) 2 tp (CxOK sub r1 r2 ind1 ind2) (swapAt ind1 ind2 c1 c2 tp) := by
  unfold swapAt
  refine .seq (popChoice_draws c1 tp) And.left fun i1 tp1 hch1 hm1 => ?_
  simp only [hch1]
  refine .seq (popChoice_draws c2 tp1) And.right fun i2 tp2 hch2 hm2 => ?_
  obtain ⟨p1, hp1, hr1⟩ := hc1 i1 hm1
  obtain ⟨p2, hp2, hr2⟩ := hc2 i2 hm2
  obtain ⟨e1, hs1, hlt1, hle1, ht1, hl1, hset1⟩ := splice trans refl h1 hp1
  obtain ⟨e2, hs2, hlt2, hle2, ht2, hl2, hset2⟩ := splice trans refl h2 hp2
  -- both slices are typed for `[τ]`, so each fits where the other was
  rw [hr1] at ht1 hset1
  rw [hr2] at ht2 hset2
  obtain ⟨hres1, hty1⟩ := hset1 _ ht2
  obtain ⟨hres2, hty2⟩ := hset2 _ ht1
  simp only [hch2, hs1, hs2, hres1, hres2]
  have a1 := length_splice ind1 (getSlice ind2 i2 e2) (Nat.le_of_lt hlt1) hle1
  have a2 := length_splice ind2 (getSlice ind1 i1 e1) (Nat.le_of_lt hlt2) hle2
  rw [hl2] at a1
  rw [hl1] at a2
  refine .ok ⟨hty1, hty2, ?_⟩
  dsimp only
  omega

/-- the argument loop of `mutInsert` from argument `i` on; `subl` goes to `position`, whose type `τ` it has -/
theorem insertArgs_run {ps : Pset} (ok : PsetOK ps) {subl : List Prim} {τ : Nat}
    (hsub : typed ps.sub [τ] subl = true) {position : Nat} :
    ∀ (args : List Nat) (i : Nat) (tp : Tape), (∀ k, i + k = position → k < args.length → args[k]? = some τ) →
      Ran (∀ a ∈ args, ps.terms a ≠ []) (2 * args.length + 1) tp
        (fun o => (∀ rest x, typed ps.sub (args ++ rest) (o.1 ++ x) = typed ps.sub rest x) ∧
          (position < i → o.1.length = args.length) ∧
          (i ≤ position → position < i + args.length → o.1.length + 1 = args.length + subl.length))
        (insertArgs ps subl position i args tp)
  | [], i, tp, _ =>
    .ok ⟨fun _ _ => rfl, fun _ => rfl, fun h1 h2 => by simp at h2; omega⟩
  | a :: as, i, tp, hpos => by
    have ih := fun tp' => insertArgs_run ok hsub (position := position) as (i + 1) tp' (fun k hk hlt => by
      have := hpos (k + 1) (by omega) (by simp; omega); simpa using this)
    refine Ran.mono (n := 2 * as.length + 1 + 1 + 1) ?_ (by simp only [List.length_cons]; omega)
    rw [insertArgs]
    split
    · have ha : a = τ := by simpa using hpos 0 (by omega) (by simp)
      subst ha
      obtain ⟨u, hu, rfl⟩ := typed_iff_tree.1 hsub
      refine .last (ih tp) (fun hH b hb => hH b (by simp [hb])) (fun r' tp'' hrec ⟨ih1, ih2, _⟩ => ?_) fun _ => by omega
      dsimp only at ih2
      simp only [hrec]
      refine .ok ⟨fun rest x => ?_, fun h => by omega, fun _ _ => ?_⟩
      · simp only [List.cons_append, List.append_assoc]
        rw [typed_flatten (as ++ rest) (r' ++ x) hu]; exact ih1 rest x
      · have := ih2 (by omega)
        simp only [List.length_append, List.length_cons]; omega
    · refine .seq (popChoice_draws (ps.terms a) tp) (fun hH => hH a (by simp)) fun term tp1 hch hmem => ?_
      simp only [hch]
      refine .seq (instantiate_draws term tp1) (fun _ => trivial) fun term' tp2 hin ⟨e1, e2, _, _⟩ => ?_
      simp only [hin]
      refine .last (ih tp2) (fun hH b hb => hH b (by simp [hb])) fun r' tp'' hrec ⟨ih1, ih2, ih3⟩ => ?_
      dsimp only at ih2 ih3
      simp only [hrec]
      obtain ⟨hs, hargs⟩ := ok.terms_ok a term hmem
      refine .ok ⟨fun rest x => ?_, fun h => ?_, fun h1 h2 => ?_⟩
      · simp [typed, e1, e2, hs, hargs]; exact ih1 rest x
      · have := ih2 (by omega)
        simp only [List.length_cons]; omega
      · have := ih3 (by omega) (by simp only [List.length_cons] at h2; omega)
        simp only [List.length_cons]; omega

theorem insert_step {ps : Pset} (ok : PsetOK ps) {τ : Nat} {subl : List Prim} (hsub : typed ps.sub [τ] subl = true)
    {newNode : Prim} (hnew : newNode ∈ ps.prims τ) {position : Nat}
    (hpos : position ∈ idxGo (fun a => a == τ) newNode.args 0) (tp : Tape) :
    Ran (∀ a ∈ newNode.args, ps.terms a ≠ []) (2 * newNode.args.length + 1) tp
      (fun o => typed ps.sub [τ] (newNode :: o.1) = true ∧ o.1.length + 1 = newNode.args.length + subl.length)
      (insertArgs ps subl position 0 newNode.args tp) := by
  have ha := getElem?_of_mem_idxGo hpos
  refine (insertArgs_run ok hsub newNode.args 0 tp (by intro k hk _; rw [Nat.zero_add] at hk; exact hk ▸ ha)).post
    fun o ⟨ht, _, hl⟩ => ⟨?_, hl (Nat.zero_le _) (by have := (List.getElem?_eq_some_iff.1 ha).1; omega)⟩
  have := ht [] []
  simpa [typed, (ok.prims_ok _ _ hnew).1] using this

theorem getSlice_length_le (l : List Prim) (b e : Nat) : (getSlice l b e).length ≤ e - b := by
  simp [getSlice]; omega

theorem reinstAll_run {sub} {ss : List Nat} : ∀ (is : List Nat) (ind : List Prim) (tp : Tape),
    Ran (∀ i ∈ is, i < ind.length) (is.length + 1) tp
      (fun o => (typed sub ss ind = true → typed sub ss o.1 = true) ∧ o.1.length = ind.length) (reinstAll ind is tp)
  | [], ind, tp => .ok ⟨id, rfl⟩
  | i :: is, ind, tp => by
    rw [reinstAll]
    cases hi : ind[i]? with
    | none => exact .raised fun hH => by simpa [hi] using List.getElem?_eq_getElem (hH i (by simp))
    | some node =>
      refine .seq (instantiate_draws node tp) (fun _ => trivial) fun n' tp1 hin ⟨e1, e2, _, _⟩ => ?_
      simp only [hin, setItem_ok hi e2]
      refine ((reinstAll_run (sub := sub) (ss := ss) is (ind.set i n') tp1).imp fun hH j hj => ?_).post fun o ho => ?_
      · simpa using hH j (by simp [hj])
      · exact ⟨fun h => ho.1 (typed_set ind ss i node n' h hi e2 (fun σ hσ => e1 ▸ hσ)), by simpa using ho.2⟩

/-- the pool of kept parents has to be non-empty only when there is a child at all -/
theorem staticLimitLoop_run {key : List Prim → Option Nat} {maxv : Nat} {keep : List (List Prim)} :
    ∀ (new : List (List Prim)) (tp : Tape),
      Ran ((new ≠ [] → keep ≠ []) ∧ ∀ n ∈ new, ∃ k, key n = some k) new.length tp
        (fun o => o.1.length = new.length ∧
          (∀ x ∈ o.1, x ∈ keep ∨ (x ∈ new ∧ ∃ k, key x = some k ∧ k ≤ maxv)) ∧
          o.2.length ≤ tp.length ∧ tp.length ≤ o.2.length + new.length)
        (staticLimitLoop key maxv keep new tp)
  | [], tp => .ok ⟨rfl, by simp, Nat.le_refl _, Nat.le_refl _⟩
  | ind :: rest, tp => by
    have ih := fun tp1 => staticLimitLoop_run (key := key) (maxv := maxv) (keep := keep) rest tp1
    have hH : ((ind :: rest ≠ [] → keep ≠ []) ∧ ∀ n ∈ ind :: rest, ∃ k, key n = some k) →
        (rest ≠ [] → keep ≠ []) ∧ ∀ n ∈ rest, ∃ k, key n = some k :=
      fun h => ⟨fun _ => h.1 (by simp), fun n hn => h.2 n (by simp [hn])⟩
    rw [staticLimitLoop]
    cases hk : key ind with
    | none => exact .raised fun h => by obtain ⟨k, hk'⟩ := h.2 ind (by simp); rw [hk] at hk'; cases hk'
    | some k =>
      simp only
      split
      · refine .seq (popChoice_draws keep tp) (fun h => h.1 (by simp)) fun r tp1 hch hmem => ?_
        simp only [hch]
        have hl := (popChoice_ok hch).2
        refine .last (ih tp1) hH fun o tp2 hrec ⟨h1, h2, h3, h4⟩ => ?_
        dsimp only at h3 h4
        simp only [hrec]
        refine .ok ⟨by simp [h1], fun x hx => ?_, by dsimp only; omega, by simp only [List.length_cons]; omega⟩
        rcases List.mem_cons.1 hx with rfl | hx
        · exact Or.inl hmem
        · exact (h2 x hx).imp_right fun h => ⟨List.mem_cons_of_mem _ h.1, h.2⟩
      · refine .last (ih tp) hH (fun o tp2 hrec ⟨h1, h2, h3, h4⟩ => ?_) fun _ => Nat.le_succ _
        dsimp only at h4
        simp only [hrec]
        refine .ok ⟨by simp [h1], fun x hx => ?_, h3, by simp only [List.length_cons]; omega⟩
        rcases List.mem_cons.1 hx with rfl | hx
        · exact Or.inr ⟨by simp, k, hk, by omega⟩
        · exact (h2 x hx).imp_right fun h => ⟨List.mem_cons_of_mem _ h.1, h.2⟩

theorem staticLimit_of_ok {key : List Prim → Option Nat} {maxv npos : Nat}
    {op : List (List Prim) → Tape → R (List (List Prim) × Tape)} {args new : List (List Prim)} {tp tp1 : Tape}
    (hop : op args tp = .ok (new, tp1)) :
    staticLimit key maxv npos op args tp = staticLimitLoop key maxv ((args.take npos).take new.length) new tp1 := by
  unfold staticLimit; rw [hop]

theorem staticLimit_ok {key : List Prim → Option Nat} {maxv npos : Nat}
    {op : List (List Prim) → Tape → R (List (List Prim) × Tape)} {args outs : List (List Prim)} {tp tp' : Tape}
    (h : staticLimit key maxv npos op args tp = .ok (outs, tp')) :
    ∃ new tp1, op args tp = .ok (new, tp1) ∧
      staticLimitLoop key maxv ((args.take npos).take new.length) new tp1 = .ok (outs, tp') := by
  cases hop : op args tp with
  | error e => unfold staticLimit at h; rw [hop] at h; cases h
  | ok v => exact ⟨v.1, v.2, rfl, staticLimit_of_ok hop ▸ h⟩

theorem nthArgSpan_spec : ∀ (k : Nat) (A : List Prim) (cs : List Tree) (B : List Prim) (c : Tree),
    wfF cs = true → cs[k]? = some c →
    ∃ rb, nthArgSpan (A ++ flattenF cs ++ B) k A.length = some (rb, rb + c.size) ∧
      getSlice (A ++ flattenF cs ++ B) rb (rb + c.size) = flatten c
  | _, _, [], _, _, _, hk => by simp at hk
  | k, A, c0 :: cs, B, c, hw, hk => by
    simp only [wfF, Bool.and_eq_true] at hw
    have e : A ++ flattenF (c0 :: cs) ++ B = A ++ flatten c0 ++ (flattenF cs ++ B) := by simp [flattenF]
    have hs := searchSubtree_at A (flattenF cs ++ B) c0 hw.1
    have hg := getSlice_at A (flattenF cs ++ B) (flatten c0)
    rw [flatten_length] at hg
    cases k with
    | zero =>
      cases Option.some.inj hk
      exact ⟨A.length, by rw [nthArgSpan, e, hs], by rw [e, hg]⟩
    | succ k =>
      obtain ⟨rb, h1, h2⟩ := nthArgSpan_spec k (A ++ flatten c0) cs B c hw.2 (by simpa using hk)
      have e2 : A ++ flatten c0 ++ flattenF cs ++ B = A ++ flattenF (c0 :: cs) ++ B := by simp [flattenF]
      rw [List.length_append, flatten_length, e2] at h1
      rw [e2] at h2
      refine ⟨rb, ?_, h2⟩
      rw [nthArgSpan, e, hs]
      simp only
      rw [hg, flatten_length, ← e]
      exact h1

theorem shrink_step {sub} (trans : ∀ a b c, sub a b = true → sub b c = true → sub a c = true)
    {r : Nat} {ind : List Prim} {index argIdx : Nat} {prim : Prim}
    (h1 : typed sub [r] ind = true) (hp : ind[index]? = some prim)
    (hpos : argIdx ∈ idxGo (fun a => a == prim.ret) prim.args 0) :
    ∃ rb re b e out, nthArgSpan ind argIdx (index + 1) = some (rb, re) ∧ searchSubtree ind index = some (b, e) ∧
      setSlice ind b e (getSlice ind rb re) = some out ∧ typed sub [r] out = true ∧ out.length ≤ ind.length := by
  have ha := getElem?_of_mem_idxGo hpos
  obtain ⟨pre, s, post, σ, rest, rfl, rfl, rfl, hw, hr, hx⟩ := subtree_at index ind [r] prim h1 hp
  obtain ⟨hsp, _, hset⟩ := splice_at trans hw hr hx
  cases s with
  | node q cs =>
    simp only [wt, Bool.and_eq_true] at hw
    obtain ⟨c, hc, hwc⟩ := wtF_get _ _ _ _ hw.2 ha
    obtain ⟨rb, hn1, hn2⟩ := nthArgSpan_spec argIdx (pre ++ [q]) cs post c (wfF_of_wtF hw.2) hc
    have el : pre ++ flatten (.node q cs) ++ post = pre ++ [q] ++ flattenF cs ++ post := by
      simp [flatten]
    rw [← el, List.length_append, List.length_singleton] at hn1
    rw [← el] at hn2
    obtain ⟨hres, hty⟩ := hset (flatten c) (typed_iff_tree.2 ⟨c, hwc, rfl⟩)
    refine ⟨rb, rb + c.size, pre.length, _, _, hn1, hsp, by rw [hn2]; exact hres, hty, ?_⟩
    -- the argument's subtree is no larger than all the arguments together
    have hsz := size_le_sizeF cs argIdx c hc
    simp only [List.length_append, flatten_length, Tree.size]
    omega

end GpTree
