/-
C14 helper lemmas: the selection logic of the (1+λ) strategies (sort, success count, parent
replacement, what each step of the active strategy leaves alone) over an abstract fitness order.  Core Lean only.
-/
import DeapModel.Core.CmaElitist

namespace C14Elitist
open CmaElitist

/-- The fitness comparison is a total preorder and `<` is the strict part of `≤`
(true of `Fitness.__le__`/`__lt__`: lexicographic order of the weighted values, no NaN). -/
structure TotalPre {φ : Type} (ord : FitOrd φ) : Prop where
  total : ∀ a b, ord.le a b = true ∨ ord.le b a = true
  trans : ∀ a b c, ord.le a b = true → ord.le b c = true → ord.le a c = true
  lt_iff : ∀ a b, ord.lt a b = !ord.le b a

variable {φ α : Type}

theorem TotalPre.refl {ord : FitOrd φ} (h : TotalPre ord) (a : φ) : ord.le a a = true := by
  rcases h.total a a with h | h <;> exact h

theorem mergeSort_head {β : Type} (key : β → φ) {ord : FitOrd φ} (h : TotalPre ord) (l : List β)
    (best : β) (rest : List β)
    (hs : l.mergeSort (fun a b => !ord.lt (key a) (key b)) = best :: rest) :
    best ∈ l ∧ ∀ i ∈ l, ord.le (key i) (key best) = true := by
  have hperm := List.mergeSort_perm l (fun a b => !ord.lt (key a) (key b))
  have hpw := List.pairwise_mergeSort (le := fun a b => !ord.lt (key a) (key b))
    (by intro a b c h1 h2
        simp only [h.lt_iff, Bool.not_not] at h1 h2 ⊢
        exact h.trans _ _ _ h2 h1)
    (by intro a b
        simp only [h.lt_iff, Bool.not_not, Bool.or_eq_true]
        exact (h.total (key b) (key a)))
    l
  rw [hs] at hperm hpw
  refine ⟨hperm.subset (List.mem_cons_self), ?_⟩
  intro i hi
  have hi' : i ∈ best :: rest := hperm.symm.subset hi
  rcases List.mem_cons.1 hi' with rfl | hi'
  · exact h.refl _
  · have := (List.pairwise_cons.1 hpw).1 i hi'
    simpa [h.lt_iff] using this

theorem sortDesc_head {ord : FitOrd φ} (h : TotalPre ord) (pop : List (Ind φ α)) (best : Ind φ α)
    (rest : List (Ind φ α)) (hs : sortDesc ord pop = best :: rest) :
    best ∈ pop ∧ ∀ i ∈ pop, ord.le i.fit best.fit = true :=
  mergeSort_head (fun i : Ind φ α => i.fit) h pop best rest hs

theorem sortDesc_ne_nil (ord : FitOrd φ) (pop : List (Ind φ α)) (hne : pop ≠ []) :
    sortDesc ord pop ≠ [] := by
  intro h
  have := (List.mergeSort_perm pop (fun a b => !ord.lt a.fit b.fit)).length_eq
  unfold sortDesc at h
  rw [h] at this
  exact hne (List.length_eq_zero_iff.1 this.symm)

theorem sortDesc_length (ord : FitOrd φ) (pop : List (Ind φ α)) :
    (sortDesc ord pop).length = pop.length :=
  (List.mergeSort_perm pop _).length_eq

theorem countSucc_le (ord : FitOrd φ) (pf : φ) (pop : List (Ind φ α)) :
    countSucc ord pf pop ≤ pop.length := by
  exact List.length_filter_le _ _

section OnePlus
variable [RealLike α]
open OnePlus

/-- cma.py:294-328; the only place where `update` is unfolded. -/
theorem update_cases (ord : FitOrd φ) (chol : List (List α) → List (List α)) (s : State φ α) (pop : List (Ind φ α)) :
    (sortDesc ord pop = [] ∧ update ord chol s pop = none) ∨
    ∃ best rest o, sortDesc ord pop = best :: rest ∧ update ord chol s pop = some o ∧
      o.lambdaSucc ≤ pop.length ∧ o.st.psucc = psuccUpdate s.prm s.psucc o.lambdaSucc ∧
      o.st.sigma = sigmaUpdate s.prm s.sigma o.st.psucc ∧ o.st.prm = s.prm ∧ o.st.A = chol o.st.C ∧
      o.replaced = ord.le s.parent.fit best.fit ∧
      (o.replaced = true → o.st.parent = best ∧
        (o.st.pc, o.st.C) = covUpdate s.prm o.st.psucc s.pc s.C (LA.vdivs (LA.vsub best.x s.parent.x) s.sigma)) ∧
      (o.replaced = false → o.st.parent = s.parent ∧ o.st.pc = s.pc ∧ o.st.C = s.C) := by
  unfold update
  cases hs : sortDesc ord pop with
  | nil => exact Or.inl ⟨rfl, rfl⟩
  | cons best rest =>
    have hcnt : countSucc ord s.parent.fit (best :: rest) ≤ pop.length :=
      hs ▸ Nat.le_trans (countSucc_le _ _ _) (Nat.le_of_eq (sortDesc_length ord pop))
    refine Or.inr ⟨best, rest, ?_⟩
    dsimp only
    cases ord.le s.parent.fit best.fit
    · rw [if_neg Bool.false_ne_true]
      exact ⟨_, rfl, rfl, hcnt, rfl, rfl, rfl, rfl, rfl, fun hc => by simp at hc, fun _ => ⟨rfl, rfl, rfl⟩⟩
    · rw [if_pos rfl]
      exact ⟨_, rfl, rfl, hcnt, rfl, rfl, rfl, rfl, rfl, fun _ => ⟨rfl, rfl⟩, fun hc => by simp at hc⟩

theorem update_some (ord : FitOrd φ) (chol : List (List α) → List (List α))
    (s : State φ α) (pop : List (Ind φ α)) (o : UpdOut φ α) (h : update ord chol s pop = some o) :
    o.st.psucc = psuccUpdate s.prm s.psucc o.lambdaSucc ∧
    o.st.sigma = sigmaUpdate s.prm s.sigma o.st.psucc ∧
    o.lambdaSucc ≤ pop.length ∧ o.st.prm = s.prm ∧ pop ≠ [] ∧ (o.st.parent = s.parent ∨ o.st.parent ∈ pop) ∧
    o.st.A = chol o.st.C ∧
    (o.replaced = true → (o.st.pc, o.st.C)
      = covUpdate s.prm o.st.psucc s.pc s.C (LA.vdivs (LA.vsub o.st.parent.x s.parent.x) s.sigma)) ∧
    (o.replaced = false → o.st.pc = s.pc ∧ o.st.C = s.C) := by
  rcases update_cases ord chol s pop with ⟨_, e⟩ | ⟨best, rest, o', hs, e, a1, a2, a3, a4, a5, _, h1, h2⟩
  · rw [e] at h; cases h
  obtain rfl := Option.some.inj (e.symm.trans h)
  have hmem : best ∈ pop := (List.mergeSort_perm pop _).subset (hs ▸ List.mem_cons_self)
  refine ⟨a2, a3, a1, a4, List.ne_nil_of_mem hmem, ?_, a5, fun hr => (h1 hr).1 ▸ (h1 hr).2, fun hr => (h2 hr).2⟩
  cases hr : o'.replaced with
  | true => exact Or.inr ((h1 hr).1 ▸ hmem)
  | false => exact Or.inl (h2 hr).1

end OnePlus

section Act
variable [RealLike α]
open Active

/-- The parent as an evaluated individual: id, genome, fitness. -/
def triple (s : State φ α) : Nat × List α × Option φ := (s.parentId, s.parentX, s.parentFit)

omit [RealLike α] in
theorem triple_parentFit (s : State φ α) : (triple s).2.2 = s.parentFit := rfl

omit [RealLike α] in
theorem parentFit_of_triple {s : State φ α} {t : Nat × List α × Option φ} (h : triple s = t) :
    s.parentFit = t.2.2 := congrArg (·.2.2) h

/-- What the constraint updates and the refresh of `i_I_R` leave alone. -/
def kept (s : State φ α) := (triple s, s.psucc, s.sigma, s.prm, s.dim)

/-- cma.py:802-836, the three outcomes of a constraint update. -/
theorem infeasibleUpdate_cases (inv : List (List α) → Option (List (List α))) (s : State φ α) (ind : AInd φ α) :
    infeasibleUpdate inv s ind = s ∨
    infeasibleUpdate inv s ind = { s with constraintVecs := some (constraintVecsUpdate s ind) } ∨
    ∃ A' iA, aPrime s.prm.beta s.A s.invA (constraintVecsUpdate s ind) ind.cv = some A' ∧ inv A' = some iA ∧
      infeasibleUpdate inv s ind
        = { s with constraintVecs := some (constraintVecsUpdate s ind), A := A', invA := iA } := by
  unfold infeasibleUpdate
  dsimp only
  split
  · exact Or.inl rfl
  cases aPrime s.prm.beta s.A s.invA (constraintVecsUpdate s ind) ind.cv with
  | none => exact Or.inr (Or.inl rfl)
  | some A' =>
    dsimp only
    cases h2 : inv A' with
    | none => exact Or.inr (Or.inl rfl)
    | some iA => exact Or.inr (Or.inr ⟨A', iA, rfl, h2, rfl⟩)

theorem infeasible_keeps (inv : List (List α) → Option (List (List α))) (s : State φ α) (ind : AInd φ α) :
    kept (infeasibleUpdate inv s ind) = kept s := by
  rcases infeasibleUpdate_cases inv s ind with e | e | ⟨_, _, _, _, e⟩ <;> rw [e] <;> rfl

theorem infeasible_fold_keeps (inv : Nat → List (List α) → Option (List (List α)))
    (l : List (AInd φ α × Nat)) (s : State φ α) :
    kept (l.foldl (fun st ik => infeasibleUpdate (inv ik.2) st ik.1) s) = kept s := by
  induction l generalizing s with
  | nil => rfl
  | cons x xs ih => exact (ih _).trans (infeasible_keeps (inv x.2) s x.1)

omit [RealLike α] in
theorem kept_iIR (s : State φ α) (x : List Nat) : kept { s with iIR := x } = kept s := rfl

/-- cma.py:858-868: the state after `update` is the rank step followed by the constraint updates, with `i_I_R`
refreshed. -/
theorem update_st (ord : FitOrd φ) (inv : Nat → List (List α) → Option (List (List α)))
    (s : State φ α) (pop : List (AInd φ α)) :
    ∃ x, (update ord inv s pop).st =
      { (List.zipIdx (pop.filter (fun i => i.fit.isNone))).foldl
          (fun st ik => infeasibleUpdate (inv ik.2) st ik.1) (rankStep ord s pop).1 with iIR := x } :=
  ⟨_, rfl⟩

theorem update_keeps (ord : FitOrd φ) (inv : Nat → List (List α) → Option (List (List α)))
    (s : State φ α) (pop : List (AInd φ α)) :
    triple (update ord inv s pop).st = triple (rankStep ord s pop).1 ∧
    (update ord inv s pop).st.psucc = (rankStep ord s pop).1.psucc ∧
    (update ord inv s pop).st.sigma = (rankStep ord s pop).1.sigma ∧
    (update ord inv s pop).st.prm = (rankStep ord s pop).1.prm := by
  -- stated through `kept_iIR` so that `update` is unfolded once, not once per component
  obtain ⟨h1, h⟩ := Prod.mk.inj ((kept_iIR _ _).trans (infeasible_fold_keeps inv _ (rankStep ord s pop).1))
  obtain ⟨h2, h⟩ := Prod.mk.inj h
  obtain ⟨h3, h⟩ := Prod.mk.inj h
  exact ⟨h1, h2, h3, (Prod.mk.inj h).1⟩

omit [RealLike α] in
theorem mem_validOf {pop : List (AInd φ α)} {i : AInd φ α} {f : φ} :
    (i, f) ∈ validOf pop ↔ i ∈ pop ∧ i.fit = some f := by
  unfold validOf
  simp only [List.mem_filterMap, Option.map_eq_some_iff, Prod.mk.injEq]
  constructor
  · rintro ⟨j, hj, g, hg, rfl, rfl⟩; exact ⟨hj, hg⟩
  · rintro ⟨hi, hf⟩; exact ⟨i, hi, f, hf, rfl, rfl⟩

/-- `_rank1update` in every branch: `psucc` and `sigma` follow cma.py:740, 797-799, the parameters, the dimension
and the constraint vectors stay, and the parent is replaced exactly on success. -/
theorem rank1update_frame (ord : FitOrd φ) (s : State φ α) (ind : AInd φ α) (fit : φ) (pSucc : α) :
    (rank1update ord s ind fit pSucc).psucc = (1 - s.prm.cp) * s.psucc + s.prm.cp * pSucc ∧
    (rank1update ord s ind fit pSucc).sigma
      = s.sigma * RealLike.exp (1 / s.prm.d
          * (((1 - s.prm.cp) * s.psucc + s.prm.cp * pSucc - s.prm.ptarg) / (1 - s.prm.ptarg))) ∧
    (rank1update ord s ind fit pSucc).prm = s.prm ∧ (rank1update ord s ind fit pSucc).dim = s.dim ∧
    (rank1update ord s ind fit pSucc).constraintVecs = s.constraintVecs ∧
    triple (rank1update ord s ind fit pSucc) =
      if (match s.parentFit with | none => true | some pf => ord.le pf fit) = true
      then (ind.id, ind.x, some fit) else triple s := by
  unfold rank1update triple
  cases s.parentFit with
  | none => simp
  | some pf =>
    cases hle : ord.le pf fit with
    | true => simp [hle]
    | false =>
      simp only [hle, Bool.false_eq_true, ↓reduceIte]
      split
      · simp
      · split <;> simp

theorem rank1update_factors (ord : FitOrd φ) (s : State φ α) (ind : AInd φ α) (fit : φ) (pSucc : α) :
    let s' := rank1update ord s ind fit pSucc
    let r := positiveABW s.prm ((1 - s.prm.cp) * s.psucc + s.prm.cp * pSucc) s.pc s.invA ind.y
    let q := negativeABW s.prm ind.z
    (s'.A, s'.invA, s'.pc) = ((applyAB s.dim s.A s.invA r.2.a r.2.b r.2.nrm r.2.w).1,
        (applyAB s.dim s.A s.invA r.2.a r.2.b r.2.nrm r.2.w).2, r.1) ∨
    (s'.A, s'.invA, s'.pc) = ((applyAB s.dim s.A s.invA q.a q.b q.nrm q.w).1,
        (applyAB s.dim s.A s.invA q.a q.b q.nrm q.w).2, s.pc) ∨
    (s'.A, s'.invA, s'.pc) = (s.A, s.invA, s.pc) := by
  unfold rank1update
  cases s.parentFit with
  | none => simp
  | some pf =>
    cases hle : ord.le pf fit with
    | true => simp [hle]
    | false =>
      simp only [hle, Bool.false_eq_true, ↓reduceIte]
      split
      · simp
      · split <;> simp
/-- The rank step (cma.py:846-856): nothing happens without valid individuals; otherwise `_rank1update` runs
with the head of the sorted valid individuals and the success ratio `lambda_succ / len(valid)`. -/
theorem rankStep_cases (ord : FitOrd φ) (s : State φ α) (pop : List (AInd φ α)) :
    (validOf pop = [] ∧ (rankStep ord s pop).1 = s) ∨
    ∃ best rest k, (validOf pop).mergeSort (fun a b => !ord.lt a.2 b.2) = best :: rest ∧ best ∈ validOf pop ∧
      k ≤ rest.length + 1 ∧
      (rankStep ord s pop).1
        = rank1update ord s best.1 best.2 (RealLike.ofNat k / RealLike.ofNat (rest.length + 1)) := by
  have hperm := List.mergeSort_perm (validOf pop) (fun a b => !ord.lt a.2 b.2)
  unfold rankStep
  cases hs : (validOf pop).mergeSort (fun a b => !ord.lt a.2 b.2) with
  | nil => exact Or.inl ⟨List.length_eq_zero_iff.1 (by rw [← hperm.length_eq, hs]; rfl), rfl⟩
  | cons best rest =>
    refine Or.inr ⟨best, rest, _, rfl, hperm.subset (hs ▸ List.mem_cons_self), ?_, rfl⟩
    cases s.parentFit with
    | none => exact Nat.le_refl _
    | some pf => exact List.length_filter_le _ _

theorem rankStep_prm (ord : FitOrd φ) (s : State φ α) (pop : List (AInd φ α)) :
    (rankStep ord s pop).1.prm = s.prm := by
  rcases rankStep_cases ord s pop with ⟨_, e⟩ | ⟨best, _, _, _, _, _, e⟩ <;> rw [e]
  exact (rank1update_frame ord s best.1 best.2 _).2.2.1

/-- `a ≤ b` on optional fitnesses, with `none` (a bare parent, an invalid offspring) below everything. -/
def leO (ord : FitOrd φ) : Option φ → Option φ → Prop
  | none, _ => True
  | some a, b => ∃ f, b = some f ∧ ord.le a f = true

omit [RealLike α] in
theorem leO_refl {ord : FitOrd φ} (h : TotalPre ord) : ∀ a, leO ord a a
  | none => trivial
  | some a => ⟨a, rfl, h.refl a⟩

omit [RealLike α] in
theorem leO_trans {ord : FitOrd φ} (h : TotalPre ord) : ∀ {a b c}, leO ord a b → leO ord b c → leO ord a c
  | none, _, _, _, _ => trivial
  | some _, _, _, ⟨_, rfl, l⟩, ⟨g, e, l'⟩ => ⟨g, e, h.trans _ _ _ l l'⟩

omit [RealLike α] in
theorem leO_of_eq {ord : FitOrd φ} {a b : Option φ} {x : φ} (e : a = some x) (l : leO ord a b) :
    ∃ f, b = some f ∧ ord.le x f = true := by subst e; exact l

/-- One `update` of the active strategy (cma.py:838-868): the parent's fitness does not decrease, it is at least every
offspring's, and the parent — id, genome, fitness together — is the old one or a valid offspring. -/
theorem active_step {ord : FitOrd φ} (h : TotalPre ord) (inv : Nat → List (List α) → Option (List (List α)))
    (s : State φ α) (pop : List (AInd φ α)) :
    leO ord s.parentFit (update ord inv s pop).st.parentFit ∧
    (∀ i ∈ pop, leO ord i.fit (update ord inv s pop).st.parentFit) ∧
    (triple (update ord inv s pop).st = triple s ∨
      ∃ i ∈ pop, i.fit.isSome = true ∧ triple (update ord inv s pop).st = (i.id, i.x, i.fit)) := by
  obtain ⟨k1, -⟩ := update_keeps ord inv s pop
  rw [parentFit_of_triple k1, k1]
  rcases rankStep_cases ord s pop with ⟨hv, e⟩ | ⟨best, rest, k, hs, hmem, -, e⟩ <;> rw [e]
  · refine ⟨leO_refl h _, fun i hi => ?_, Or.inl rfl⟩
    cases hf : i.fit with
    | none => trivial
    | some f => exact absurd (mem_validOf.2 ⟨hi, hf⟩) (hv ▸ List.not_mem_nil)
  · obtain ⟨-, hmax⟩ := mergeSort_head (fun p : AInd φ α × φ => p.2) h _ best rest hs
    obtain ⟨hb1, hb2⟩ := mem_validOf.1 hmem
    -- whatever is at least the best valid offspring dominates every offspring
    have all : ∀ f, ord.le best.2 f = true → ∀ i ∈ pop, leO ord i.fit (some f) := fun f hf i hi => by
      cases hfi : i.fit with
      | none => trivial
      | some fi => exact ⟨f, rfl, h.trans _ _ _ (hmax (i, fi) (mem_validOf.2 ⟨hi, hfi⟩)) hf⟩
    rw [(rank1update_frame ord s best.1 best.2 _).2.2.2.2.2]
    cases hp : s.parentFit with
    | none => exact ⟨trivial, all _ (h.refl _), Or.inr ⟨best.1, hb1, by rw [hb2]; rfl, by rw [hb2]; rfl⟩⟩
    | some pf =>
      cases hle : ord.le pf best.2 with
      | true =>
        simp only [hle, ↓reduceIte]
        exact ⟨⟨_, rfl, hle⟩, all _ (h.refl _), Or.inr ⟨best.1, hb1, by rw [hb2]; rfl, by rw [hb2]⟩⟩
      | false =>
        simp only [hle, Bool.false_eq_true, ↓reduceIte]
        have hbp := (h.total best.2 pf).resolve_right (by rw [hle]; exact Bool.false_ne_true)
        exact ⟨⟨pf, hp, h.refl _⟩, by rw [triple_parentFit, hp]; exact all pf hbp, Or.inl trivial⟩

theorem active_run {ord : FitOrd φ} (h : TotalPre ord) (inv : Nat → List (List α) → Option (List (List α)))
    (s : State φ α) (rounds : List (List (AInd φ α))) :
    leO ord s.parentFit (run ord inv s rounds).parentFit ∧
    (∀ p ∈ rounds, ∀ i ∈ p, leO ord i.fit (run ord inv s rounds).parentFit) ∧
    (triple (run ord inv s rounds) = triple s ∨
      ∃ p ∈ rounds, ∃ i ∈ p, i.fit.isSome = true ∧ triple (run ord inv s rounds) = (i.id, i.x, i.fit)) := by
  induction rounds generalizing s with
  | nil => exact ⟨leO_refl h _, nofun, Or.inl rfl⟩
  | cons pop rest ih =>
    obtain ⟨t1, t2, t3⟩ := active_step h inv s pop
    obtain ⟨g1, g2, g3⟩ := ih (update ord inv s pop).st
    refine ⟨leO_trans h t1 g1, fun p hp i hi => ?_, ?_⟩
    · rcases List.mem_cons.1 hp with rfl | hp
      · exact leO_trans h (t2 i hi) g1
      · exact g2 p hp i hi
    · rcases g3 with g3 | ⟨p, hp, i, hi, hs, g3⟩
      · exact t3.elim (fun t => Or.inl (g3.trans t)) fun ⟨i, hi, hs, t⟩ =>
          Or.inr ⟨pop, List.mem_cons_self, i, hi, hs, g3.trans t⟩
      · exact Or.inr ⟨p, List.mem_cons_of_mem _ hp, i, hi, hs, g3⟩

end Act

end C14Elitist
