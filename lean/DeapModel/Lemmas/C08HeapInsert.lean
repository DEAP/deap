/-
C08 at heap level — `insert` (= `deepcopy` + list bookkeeping) and `remove`: each keeps the invariant of
the heap-level archive and commutes with the abstraction to the pure archive.

The copy mechanism itself is C16's: everything about `Heap.clone` used at heap level is `Heap.Copy.clone_facts`.
-/
import DeapModel.Lemmas.C08HeapBase

set_option linter.unusedSectionVars false

namespace C08H
open Heap Heap.Copy ArchiveHeap
open Archive (Ind HoF)
open C08L (mem_insertAt map_insertAt mirror_insertAt pairwise_insertAt_of_forall
  mirror_eraseIdx removeAt_eq_eraseIdx)

variable {α : Type} [LinearOrder α]

section
variable {P : Params α} {base : Nat} {hs : HState}

theorem Inv.member_fit (hI : Inv P base hs) {x : Oid} (hx : x ∈ hs.items) :
    ∃ k, instFit P hs.objs x = some k := by
  have h1 : instFit P hs.objs x ∈ (hs.items.map (instFit P hs.objs)).reverse :=
    List.mem_reverse.2 (List.mem_map.2 ⟨x, hx, rfl⟩)
  rw [← hI.keyof] at h1
  obtain ⟨k, _, e⟩ := List.mem_map.1 h1
  exact ⟨k, e.symm⟩

theorem Inv.key_member (hI : Inv P base hs) {k : Oid} (hk : k ∈ hs.keys) :
    ∃ x ∈ hs.items, instFit P hs.objs x = some k := by
  have h1 : some k ∈ hs.keys.map some := List.mem_map.2 ⟨k, hk, rfl⟩
  rw [hI.keyof] at h1
  exact List.mem_map.1 (List.mem_reverse.1 h1)

theorem Inv.member_lt (hI : Inv P base hs) {x : Oid} (hx : x ∈ hs.items) : x < hs.next := by
  obtain ⟨hi, hm, _⟩ := hI.members x hx
  obtain ⟨_, h2, h3⟩ := hI.logwf _ hm
  exact Nat.lt_of_lt_of_le h2 h3

theorem Inv.member_range (hI : Inv P base hs) {x y : Oid} {o : Obj} (hx : x ∈ hs.items)
    (hr : Reach hs.objs (.ref x) y) (hy : hs.objs y = some o) (hm : o.mutable = true) :
    ∃ hi, (x, hi) ∈ hs.log ∧ x ≤ y ∧ y < hi := by
  obtain ⟨hi, hmem, hreach⟩ := hI.members x hx
  refine ⟨hi, hmem, (hreach y hr).resolve_right ?_⟩
  rintro ⟨o', ho', hm'⟩
  rw [hy] at ho'
  cases ho'
  rw [hm] at hm'
  cases hm'

/-- What the archive reads from its members and keys is the same in the heap `objs'`. -/
structure SameReads (P : Params α) (hs : HState) (objs' : Oid → Option Obj) : Prop where
  abs : ∀ m ∈ hs.items, ∀ d, Heap.abs objs' d (.ref m) = Heap.abs hs.objs d (.ref m)
  fit : ∀ m ∈ hs.items, instFit P objs' m = instFit P hs.objs m
  view : ∀ m ∈ hs.items, viewInd P objs' m = viewInd P hs.objs m
  key : ∀ k ∈ hs.keys, fitAt P objs' k = fitAt P hs.objs k

theorem Inv.sameReads (hI : Inv P base hs) {objs' : Oid → Option Obj}
    (hv : ∀ m ∈ hs.items, ∀ k, instFit P hs.objs m = some k → SameView P hs.objs objs' m k) :
    SameReads P hs objs' := by
  refine ⟨fun m hm => ?_, fun m hm => ?_, fun m hm => ?_, fun k hk => ?_⟩
  · obtain ⟨k, hk⟩ := hI.member_fit hm
    exact (hv m hm k hk).abs
  · obtain ⟨k, hk⟩ := hI.member_fit hm
    rw [hk]; exact (hv m hm k hk).fit
  · obtain ⟨k, hk⟩ := hI.member_fit hm
    exact (hv m hm k hk).view
  · obtain ⟨m, hm, hmk⟩ := hI.key_member hk
    exact (hv m hm k hmk).key

theorem Inv.sameReads_ext (hI : Inv P base hs) {hs' : HState} (hE : HExt hs hs') : SameReads P hs hs'.objs :=
  hI.sameReads fun _ _ _ hk => view_ext hI.closed hE hk

theorem SameReads.keyof {objs' : Oid → Option Obj} (hr : SameReads P hs objs') (hI : Inv P base hs) :
    hs.keys.map some = (hs.items.map (instFit P objs')).reverse :=
  hI.keyof.trans (congrArg _ (List.map_congr_left fun m hm => (hr.fit m hm).symm))

theorem SameReads.rel {objs' : Oid → Option Obj} (hr : SameReads P hs objs') {h : HoF PV α} (hR : Rel P hs h)
    (n : Nat) : Rel P { hs with objs := objs', next := n } h :=
  ⟨hR.msz, hR.keys.trans (List.map_congr_left fun k hk => (hr.key k hk).symm),
    (List.map_congr_left fun m hm => by rw [hr.view m hm]).trans hR.items⟩

end

/-- An individual the archive can be shown: it is not one of the archive's own objects, `deepcopy` can copy
it (finite depth within the recursion bound, the side conditions of the copy hooks of C16 hold), and it has
a `fitness`. -/
def Subm (P : Params α) (hs : HState) (x : Oid) : Prop :=
  ¬ InLog hs.log x ∧ Within P.ct CopyOK hs.objs P.fuel (.ref x) ∧ ∃ f, instFit P hs.objs x = some f

theorem Subm.ext {P : Params α} {base : Nat} {hs hs' : HState} (hI : Inv P base hs) (hE : HExt hs hs')
    {x : Oid} (h : Subm P hs x) :
    Subm P hs' x ∧ viewInd P hs'.objs x = viewInd P hs.objs x := by
  obtain ⟨h1, h2, f, hf⟩ := h
  obtain ⟨o, ho, _, _⟩ := instFit_spec hf
  have hx : x < hs.next := lt_of_defined hI.closed ho
  have hv := view_ext hI.closed hE hf
  refine ⟨⟨fun hl => ?_, Within_ext P.ct hs.objs hs'.objs (keeps_of_agree hI.closed hE.objs) _ _ h2,
    f, hv.fit⟩, hv.view⟩
  rcases hE.logNew x hl with h | h
  · exact h1 h
  · exact absurd hx (Nat.not_lt.2 h)

theorem insertH_spec {P : Params α} {base : Nat} {hs : HState} (hct : CTOk P.ct) (hI : Inv P base hs)
    {x f : Oid} (hw : Within P.ct CopyOK hs.objs P.fuel (.ref x))
    (hf : instFit P hs.objs x = some f) :
    ∃ hs' f', insertH P hs x = some hs' ∧ Inv P base hs' ∧ HExt hs hs' ∧
      hs'.items = Py.insertAt hs.items (hs.items.length -
        Archive.bisectRight (hs.keys.map (fitAt P hs.objs)) (fitAt P hs.objs f)) hs.next ∧
      hs'.keys = Py.insertAt hs.keys
        (Archive.bisectRight (hs.keys.map (fitAt P hs.objs)) (fitAt P hs.objs f)) f' ∧
      (∀ m, Heap.abs hs'.objs m (.ref hs.next) = Heap.abs hs.objs m (.ref x)) ∧
      instFit P hs'.objs hs.next = some f' ∧ fitAt P hs'.objs f' = fitAt P hs.objs f := by
  obtain ⟨objs', next', v', hcl, habs, _, hcl', hle, hold, _, hnew, hroot⟩ :=
    clone_facts hct hI.closed P.fuel (.ref x) hw
  cases hroot x rfl
  obtain ⟨o, ho, hl, hc⟩ := instFit_spec hf
  obtain ⟨fo, hfo⟩ := hI.closed.get ho hc
  obtain ⟨f', hf', hf'v⟩ := copy_fit (P := P) habs hf hfo
  obtain ⟨oN, hoN, _, _⟩ := instFit_spec hf'
  have hNlt : hs.next < next' := lt_of_defined hcl' hoN
  -- the state after the copy, before the bookkeeping
  have hE0 : HExt hs { hs with objs := objs', next := next', log := hs.log ++ [(hs.next, next')] } :=
    ⟨hle, hold, fun y hy => ((InLog_append _ _ _).1 hy).imp_right (·.1),
      fun y hy => (InLog_append _ _ _).2 (Or.inl hy), rfl, fun _ h => Or.inl h⟩
  have hr := hI.sameReads_ext hE0
  have hkv := List.map_congr_left hr.key
  have hi := Gen08L.bisectRight_le (hs.keys.map (fitAt P hs.objs)) (fitAt P hs.objs f)
  refine ⟨{ hs with objs := objs', next := next'
                    items := Py.insertAt hs.items (hs.items.length -
                      Archive.bisectRight (hs.keys.map (fitAt P hs.objs)) (fitAt P hs.objs f)) hs.next
                    keys := Py.insertAt hs.keys
                      (Archive.bisectRight (hs.keys.map (fitAt P hs.objs)) (fitAt P hs.objs f)) f'
                    log := hs.log ++ [(hs.next, next')] }, f',
    by simp only [insertH, hcl, fitRef_of_instFit hf', hkv, hf'v], ?_,
    ⟨hle, hold, hE0.logNew, hE0.logOld, rfl, fun x' hx' =>
      ((mem_insertAt _ _ _ _).1 hx').symm.imp_right fun e => Nat.le_of_eq e.symm⟩,
    rfl, rfl, habs, hf', hf'v⟩
  refine ⟨hcl', Nat.le_trans hI.base_le hle, fun r hr => ?_, ?_, fun y oy hy hnl z hz hzl => ?_,
    fun x' hx' => ?_, ?_, ?_⟩
  · rcases List.mem_append.1 hr with hr | hr
    · obtain ⟨a, b, c⟩ := hI.logwf r hr
      exact ⟨a, b, Nat.le_trans c hle⟩
    · cases List.mem_singleton.1 hr
      exact ⟨hI.base_le, hNlt, Nat.le_refl _⟩
  · exact List.pairwise_append.2 ⟨hI.logord, List.pairwise_singleton _ _,
      fun r hr s hs' => List.mem_singleton.1 hs' ▸ (hI.logwf r hr).2.2⟩
  · -- `y` is an old object, so `z` is one
    have hyN : y < hs.next := by
      have := lt_of_defined hcl' hy
      have : ¬ (hs.next ≤ y ∧ y < next') := fun h => hnl ((InLog_append _ _ _).2 (Or.inr h))
      oomega
    have hy' : hs.objs y = some oy := (hold y hyN).symm.trans hy
    obtain ⟨oz, hoz⟩ := hI.closed.get hy' hz
    rcases (InLog_append _ _ _).1 hzl with h | h
    · exact hI.outside y oy hy' (fun h => hnl ((InLog_append _ _ _).2 (Or.inl h))) z hz h
    · have := lt_of_defined hI.closed hoz
      oomega
  · rcases (mem_insertAt _ _ _ _).1 hx' with rfl | hx'
    · refine ⟨next', List.mem_append_right _ (List.mem_singleton.2 rfl), fun y hr => (hnew y hr).imp ?_ ?_⟩
      · exact fun h => ⟨h, hcl'.reach_lt hr fun z hz => by cases hz; exact hNlt⟩
      · rintro ⟨oy, hoy, hm⟩
        exact ⟨oy, (hold y (lt_of_defined hI.closed hoy)).trans hoy, hm⟩
    · obtain ⟨hi', hmem, hreach⟩ := hI.members x' hx'
      refine ⟨hi', List.mem_append_left _ hmem, fun y hr => ?_⟩
      obtain ⟨hyN, hr0⟩ := Reach_old hs.objs objs' hs.next hI.closed hold (.ref x') y hr
        (fun z hz => by cases hz; exact hI.member_lt hx')
      exact (hreach y hr0).imp_right fun ⟨oy, hoy, hm⟩ => ⟨oy, (hold y hyN).trans hoy, hm⟩
  · have hne : ∀ x' ∈ hs.items, x' ≠ hs.next := fun x' hx' => Nat.ne_of_lt (hI.member_lt hx')
    exact pairwise_insertAt_of_forall _ hI.nodup hne fun x' hx' => (hne x' hx').symm
  · rw [map_insertAt, ← hf']
    exact mirror_insertAt (instFit P objs') (hr.keyof hI) (by simpa using hi) hs.next

/-- The result of `remove` on an in-range position (heap level). -/
def erasedH (hs : HState) (j : Nat) : HState :=
  { hs with keys := hs.keys.eraseIdx (hs.items.length - 1 - j), items := hs.items.eraseIdx j }

theorem removeH_spec (hs : HState) (index : Int) (j : Nat)
    (hj : Archive.pyIndex hs.items.length index = some j) : removeH hs index = some (erasedH hs j) := by
  obtain ⟨h1, h2⟩ := C08L.pyIndex_spec _ _ _ hj
  have : hs.items.length ≠ 0 := by omega
  simp only [removeH, erasedH, this, ↓reduceIte, hj, h2, removeAt_eq_eraseIdx]

theorem erasedH_inv {P : Params α} {base : Nat} {hs : HState} (hI : Inv P base hs) (j : Nat)
    (hj : j < hs.items.length) : Inv P base (erasedH hs j) := by
  have sub : (hs.items.eraseIdx j).Sublist hs.items := List.eraseIdx_sublist _ _
  refine ⟨hI.closed, hI.base_le, hI.logwf, hI.logord, hI.outside,
    fun x hx => hI.members x (sub.mem hx), List.Pairwise.sublist sub hI.nodup, ?_⟩
  exact (List.eraseIdx_map _ _ _).symm.trans (mirror_eraseIdx (instFit P hs.objs) hI.keyof hj)

theorem erasedH_rel {P : Params α} {hs : HState} {h : HoF PV α} (hR : Rel P hs h) (j : Nat) :
    Rel P (erasedH hs j) (C08L.erased h j) := by
  refine ⟨hR.msz, ?_, ?_⟩
  · show h.keys.eraseIdx _ = (hs.keys.eraseIdx _).map (fitAt P hs.objs)
    rw [← List.eraseIdx_map, ← hR.keys, hR.len]
  · show (hs.items.eraseIdx j).map (fun x => (viewInd P hs.objs x).map erase)
      = (h.items.eraseIdx j).map (fun it => some (erase it))
    rw [← List.eraseIdx_map, ← List.eraseIdx_map, hR.items]

theorem erasedH_ext (hs : HState) (j : Nat) : HExt hs (erasedH hs j) :=
  ⟨Nat.le_refl _, fun _ _ => rfl, fun _ h => Or.inl h, fun _ h => h, rfl,
    fun _ hx => Or.inl ((List.eraseIdx_sublist _ _).mem hx)⟩

end C08H
