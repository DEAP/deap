/-
Helper lemmas for C07: `forRange`, `tab`/`look` of the SPEA2 model, `upd` (the copy of either model), the scan of
`Nsga3.argminIdx`, and a pigeonhole fact on lists.
-/
import DeapModel.Core.Spea2
import DeapModel.Core.Nsga3
import Mathlib.Data.List.Perm.Subperm
import Mathlib.Data.List.GetD

namespace C07L
open Spea2

theorem forRange_inv {σ : Type} (P : Nat → σ → Prop) (f : Nat → σ → σ) :
    ∀ (n start : Nat) (s : σ), P start s →
      (∀ i s, start ≤ i → i < start + n → P i s → P (i + 1) (f i s)) →
      P (start + n) (forRange start n f s) := by
  intro n
  induction n with
  | zero => intro start s h _; simpa [forRange] using h
  | succ n ih =>
    intro start s h hstep
    have h1 : P (start + 1) (f start s) := hstep start s (Nat.le_refl _) (by omega) h
    have := ih (start + 1) (f start s) h1 (fun i s hi hlt hp => hstep i s (by omega) (by omega) hp)
    simpa [forRange, Nat.add_assoc, Nat.add_comm 1 n] using this

@[simp] theorem upd_same {β : Type} (f : Nat → β) (i : Nat) (v : β) : upd f i v i = v := by
  simp [upd]

theorem upd_ne {β : Type} (f : Nat → β) (i x : Nat) (v : β) (h : x ≠ i) : upd f i v x = f x := by
  simp [upd, h]

theorem upd_apply {β : Type} (f : Nat → β) (i x : Nat) (v : β) :
    upd f i v x = if x = i then v else f x := rfl

/-! `Nsga3.upd` is a second copy of `Spea2.upd`: the same three lemmas for it. -/

theorem nupd_same {β : Type} (f : Nat → β) (i : Nat) (v : β) : Nsga3.upd f i v i = v := upd_same f i v

theorem nupd_ne {β : Type} (f : Nat → β) (i x : Nat) (v : β) (h : x ≠ i) : Nsga3.upd f i v x = f x :=
  upd_ne f i x v h

theorem nupd_apply {β : Type} (f : Nat → β) (i x : Nat) (v : β) :
    Nsga3.upd f i v x = if x = i then v else f x := rfl

@[simp] theorem tab_length {β : Type} (N : Nat) (f : Nat → β) : (tab N f).length = N := by
  simp [tab]

theorem getD_tab {β : Type} (N : Nat) (f : Nat → β) (i : Nat) (h : i < N) (d : β) :
    (tab N f).getD i d = f i := by
  simp [tab, List.getD_eq_getElem?_getD, h]

theorem look_tab {β : Type} [Inhabited β] (N : Nat) (f : Nat → β) (i : Nat) (h : i < N) :
    look (tab N f) i = f i := getD_tab N f i h default

theorem look_tab_ge {β : Type} [Inhabited β] (N : Nat) (f : Nat → β) (i : Nat) (h : N ≤ i) :
    look (tab N f) i = default :=
  List.getD_eq_default _ _ (by rw [tab_length]; exact h)

theorem look2_tab {γ : Type} [Inhabited γ] (N : Nat) (f : Nat → List γ) (i j : Nat) (h : i < N) :
    look2 (tab N f) i j = look (f i) j := by
  unfold look2; rw [getD_tab N f i h]

theorem look2_tab2 {β : Type} [Inhabited β] (N : Nat) (f : Nat → Nat → β) (i j : Nat)
    (hi : i < N) (hj : j < N) : look2 (tab2 N f) i j = f i j := by
  unfold tab2; rw [look2_tab N _ i j hi, look_tab N _ j hj]

theorem exists_not_mem (N : Nat) (R : List Nat) (h : R.length < N) : ∃ x, x < N ∧ x ∉ R := by
  by_contra hc
  have hsub : List.range N ⊆ R := fun x hx => by
    by_contra hx'
    exact hc ⟨x, List.mem_range.1 hx, hx'⟩
  have := ((List.nodup_range (n := N)).subperm hsub).length_le
  simp at this; omega

section Argmin
variable {α : Type} [RealLike α]

/-- the laws of `<` under which the scan of `numpy.argmin` finds the first minimum (a strict weak
order) -/
structure LtLaws (α : Type) [LT α] : Prop where
  irrefl : ∀ a : α, ¬ a < a
  trans : ∀ a b c : α, a < b → b < c → a < c
  ntrans : ∀ a b c : α, a < b → ¬ c < b → a < c

/-- state `(i, m, n)` of the scan of `Nsga3.argminIdx` after the prefix `l`: `n` is its length and
`m = l[i]`; under the laws of `<`, `m` is minimal and `i` is the first index that holds it. -/
def AmInv (l : List α) (s : Nat × α × Nat) : Prop :=
  s.2.2 = l.length ∧ l[s.1]? = some s.2.1 ∧
    (LtLaws α → (∀ y ∈ l, ¬ y < s.2.1) ∧ ∀ j y, j < s.1 → l[j]? = some y → s.2.1 < y)

theorem amInv_foldl (ys : List α) : ∀ (l : List α) (s : Nat × α × Nat), AmInv l s →
    AmInv (l ++ ys) (ys.foldl (fun (acc : Nat × α × Nat) y =>
      if y < acc.2.1 then (acc.2.2, y, acc.2.2 + 1) else (acc.1, acc.2.1, acc.2.2 + 1)) s) := by
  induction ys with
  | nil => intro l s h; simpa using h
  | cons y ys ih =>
    intro l s h
    rw [List.foldl_cons, List.append_cons]
    refine ih _ _ ?_
    obtain ⟨i, m, n⟩ := s
    obtain ⟨rfl, hm, hord⟩ := h
    have hi : i < l.length := (List.getElem?_eq_some_iff.1 hm).1
    have hold : ∀ j, j < l.length → (l ++ [y])[j]? = l[j]? := fun j hj => List.getElem?_append_left hj
    split
    · next hy =>
      -- `y` is the new minimum: below the old one, hence strictly below everything before it
      refine ⟨by simp, by simp, fun L => ?_⟩
      obtain ⟨hmin, -⟩ := hord L
      refine ⟨fun y' hy' hlt => ?_, fun j y' hj he => ?_⟩
      · rcases List.mem_append.1 hy' with h | h
        · exact hmin y' h (L.trans _ _ _ hlt hy)
        · exact L.irrefl _ (List.mem_singleton.1 h ▸ hlt)
      · rw [hold j hj] at he
        exact L.ntrans _ _ _ hy (hmin y' (List.mem_of_getElem? he))
    · next hy =>
      refine ⟨by simp, by rw [hold i hi]; exact hm, fun L => ?_⟩
      obtain ⟨hmin, hfirst⟩ := hord L
      refine ⟨fun y' hy' => ?_, fun j y' hj he => ?_⟩
      · rcases List.mem_append.1 hy' with h | h
        · exact hmin y' h
        · exact List.mem_singleton.1 h ▸ hy
      · rw [hold j (Nat.lt_trans hj hi)] at he
        exact hfirst j y' hj he

/-- `numpy.argmin`: a valid index for every scalar type; the first index of a minimal value when
`<` is a strict weak order. -/
theorem argminIdx_spec (l : List α) (hne : l ≠ []) :
    ∃ m, l[Nsga3.argminIdx l]? = some m ∧
      (LtLaws α → (∀ y ∈ l, ¬ y < m) ∧ ∀ j y, j < Nsga3.argminIdx l → l[j]? = some y → m < y) := by
  cases l with
  | nil => exact absurd rfl hne
  | cons x xs =>
    have h := amInv_foldl xs [x] (0, x, 1) ⟨rfl, rfl, fun L =>
      ⟨fun y hy => List.mem_singleton.1 hy ▸ L.irrefl x, fun j _ hj => absurd hj (Nat.not_lt_zero j)⟩⟩
    exact ⟨_, h.2⟩

theorem argminIdx_lt (l : List α) (hne : l ≠ []) : Nsga3.argminIdx l < l.length :=
  let ⟨_, h, _⟩ := argminIdx_spec l hne
  (List.getElem?_eq_some_iff.1 h).1

end Argmin

end C07L
