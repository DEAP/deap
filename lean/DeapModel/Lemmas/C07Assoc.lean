/-
C07 (NSGA-III association and memory): lemmas over `ℝ` about the model of `associate_to_niche`
(`Nsga3.perpDist`, `Nsga3.argminIdx`, `Nsga3.associate1`) and, over any linear order, about the
memory update `Nsga3.colMin` / `Nsga3.colMax`.
-/
import DeapModel.Lemmas.C07Common
import DeapModel.RealInst
import Mathlib.Analysis.Real.Sqrt

namespace C07L

/-- the plain dot product of two real lists (truncated to the shorter one) -/
def sdot (a b : List ℝ) : ℝ := (List.zipWith (· * ·) a b).sum

theorem norm_eq (r : List ℝ) : Nsga3.norm r = Real.sqrt ((r.map (fun x => x * x)).sum) := by
  unfold Nsga3.norm
  rw [RealLike.real_sqrt, RealLike.real_sum]

theorem dot_eq (a b : List ℝ) : Nsga3.dot a b = sdot a b := by
  unfold Nsga3.dot sdot
  rw [RealLike.real_sum]

theorem sdot_self (r : List ℝ) : sdot r r = (r.map (fun x => x * x)).sum := by
  unfold sdot
  rw [List.zipWith_self]

theorem sdot_self_nonneg (r : List ℝ) : 0 ≤ sdot r r := by
  rw [sdot_self]
  exact List.sum_nonneg (by simp [mul_self_nonneg])

theorem sdot_self_pos (r : List ℝ) (hr : ∃ x ∈ r, x ≠ 0) : 0 < sdot r r := by
  obtain ⟨x, hx, hx0⟩ := hr
  induction r with
  | nil => simp at hx
  | cons y ys ih =>
    rcases List.mem_cons.1 hx with h | h
    · exact add_pos_of_pos_of_nonneg (mul_self_pos.2 (h ▸ hx0)) (sdot_self_nonneg ys)
    · exact add_pos_of_nonneg_of_pos (mul_self_nonneg y) (ih h)

theorem comp_sq (P S f x : ℝ) (hS : 0 < S) :
    (P / Real.sqrt S * x / Real.sqrt S - f) * (P / Real.sqrt S * x / Real.sqrt S - f)
      = (f - P / S * x) ^ 2 := by
  have hs : Real.sqrt S * Real.sqrt S = S := Real.mul_self_sqrt hS.le
  have h : P / Real.sqrt S * x / Real.sqrt S = P / (Real.sqrt S * Real.sqrt S) * x := by
    field_simp
  rw [hs] at h
  rw [h]
  ring

theorem perpDist_eq (fn r : List ℝ) (hr : ∃ x ∈ r, x ≠ 0) :
    Nsga3.perpDist fn r
      = Real.sqrt ((List.zipWith (fun f x => (f - (sdot fn r / sdot r r) * x) ^ 2) fn r).sum) := by
  have hS : 0 < sdot r r := sdot_self_pos r hr
  unfold Nsga3.perpDist
  simp only [norm_eq, dot_eq]
  rw [← sdot_self r]
  simp only [RealLike.real_mul, RealLike.real_div, RealLike.real_sub]
  rw [List.map_zipWith, List.zipWith_comm]
  have hfun : (fun (b a : ℝ) =>
        (sdot fn r / Real.sqrt (sdot r r) * a / Real.sqrt (sdot r r) - b)
          * (sdot fn r / Real.sqrt (sdot r r) * a / Real.sqrt (sdot r r) - b))
      = (fun f x => (f - sdot fn r / sdot r r * x) ^ 2) := by
    funext f x
    exact comp_sq (sdot fn r) (sdot r r) f x hS
  rw [hfun]

example : ([(3 : ℝ), 4].length = [(1 : ℝ), 0].length) ∧ ∃ x ∈ [(1 : ℝ), 0], x ≠ 0 :=
  ⟨rfl, 1, by simp, by norm_num⟩

theorem sum_sq_expand (t : ℝ) (fn r : List ℝ) :
    (List.zipWith (fun f x => (f - t * x) ^ 2) fn r).sum
      = (List.zipWith (fun f _ => f ^ 2) fn r).sum - 2 * t * sdot fn r
        + t ^ 2 * (List.zipWith (fun _ x => x ^ 2) fn r).sum := by
  unfold sdot
  induction fn generalizing r with
  | nil => simp only [List.zipWith_nil_left, List.sum_nil]; ring
  | cons f fs ih =>
    cases r with
    | nil => simp only [List.zipWith_nil_right, List.sum_nil]; ring
    | cons x xs =>
      simp only [List.zipWith_cons_cons, List.sum_cons]
      rw [ih xs]
      ring

theorem zip_snd_sq (fn r : List ℝ) (hlen : fn.length = r.length) :
    (List.zipWith (fun _ x => x ^ 2) fn r).sum = sdot r r := by
  unfold sdot
  induction fn generalizing r with
  | nil =>
    cases r with
    | nil => simp
    | cons x xs => simp at hlen
  | cons f fs ih =>
    cases r with
    | nil => simp at hlen
    | cons x xs =>
      simp only [List.zipWith_cons_cons, List.sum_cons]
      rw [ih xs (by simpa using hlen)]
      ring

theorem sum_sq_diff (fn r : List ℝ) (hlen : fn.length = r.length) (hS : 0 < sdot r r) (t : ℝ) :
    (List.zipWith (fun f x => (f - t * x) ^ 2) fn r).sum
      - (List.zipWith (fun f x => (f - (sdot fn r / sdot r r) * x) ^ 2) fn r).sum
      = (t - sdot fn r / sdot r r) ^ 2 * sdot r r := by
  rw [sum_sq_expand t, sum_sq_expand (sdot fn r / sdot r r), zip_snd_sq fn r hlen]
  have hS0 : sdot r r ≠ 0 := hS.ne'
  field_simp
  ring

section
open Nsga3

theorem normalise_length (M : Nat) (best intercepts f : List ℝ) (hb : best.length = M)
    (hi : intercepts.length = M) (hf : f.length = M) :
    (normalise best intercepts f).length = M := by
  unfold normalise
  simp only [List.length_zipWith, hb, hi, hf, Nat.min_self]

theorem normalise_getElem (best intercepts f : List ℝ) (m : Nat)
    (h1 : m < (normalise best intercepts f).length) (h2 : m < f.length) (h3 : m < best.length)
    (h4 : m < intercepts.length) :
    (normalise best intercepts f)[m] = (f[m] - best[m]) / (intercepts[m] - best[m] + eps) := by
  simp only [normalise, List.getElem_zipWith]

example : (1 : Nat) < (normalise [(0 : ℝ), 0] [1, 2] [1 / 2, 1]).length := by
  rw [normalise_length 2 _ _ _ rfl rfl rfl]
  exact Nat.one_lt_two

end

theorem ltLaws_real : LtLaws ℝ :=
  ⟨lt_irrefl, fun _ _ _ => lt_trans, fun _ _ _ h1 h2 => lt_of_lt_of_le h1 (not_lt.1 h2)⟩

/-- `numpy.argmin` over the values `g r` of the rows: a valid index, a minimum, the first one. -/
theorem argminIdx_map (g : List ℝ → ℝ) (rows : List (List ℝ)) (hne : rows ≠ []) :
    Nsga3.argminIdx (rows.map g) < rows.length ∧
    (∀ r ∈ rows, g (rows.getD (Nsga3.argminIdx (rows.map g)) []) ≤ g r) ∧
    ∀ i', i' < Nsga3.argminIdx (rows.map g) →
      g (rows.getD (Nsga3.argminIdx (rows.map g)) []) < g (rows.getD i' []) := by
  obtain ⟨m, hm, hord⟩ := argminIdx_spec (rows.map g) fun h => hne (List.map_eq_nil_iff.1 h)
  obtain ⟨hmin, hfirst⟩ := hord ltLaws_real
  obtain ⟨r0, hr0, rfl⟩ : ∃ r0, rows[Nsga3.argminIdx (rows.map g)]? = some r0 ∧ g r0 = m := by
    simpa [List.getElem?_map] using hm
  have hlt := (List.getElem?_eq_some_iff.1 hr0).1
  have e : rows.getD (Nsga3.argminIdx (rows.map g)) [] = r0 := by
    rw [List.getD_eq_getElem?_getD, hr0]; rfl
  rw [e]
  refine ⟨hlt, fun r hr => not_lt.1 (hmin _ (List.mem_map.2 ⟨r, hr, rfl⟩)), fun i' hi' => ?_⟩
  have hi'l : i' < rows.length := hi'.trans hlt
  refine hfirst i' _ hi' ?_
  rw [List.getElem?_map, List.getD_eq_getElem _ _ hi'l, List.getElem?_eq_getElem hi'l]; rfl

example : [(2 : ℝ), 1, 1] ≠ [] := List.cons_ne_nil _ _

example : [[(1 : ℝ), 0], [0, 1]] ≠ [] := List.cons_ne_nil _ _

/-! ### the memory update: column-wise minimum / maximum

Both `colMin` and `colMax` are the fold of a *selector* `f` (`f a b ∈ {a, b}`, `f a b` below both
for an order `R`); the lemmas are proved once for such a fold and instantiated with
`(if b < a then b else a, ≤)` and `(if a < b then b else a, ≥)`. -/

section Generic
variable {α : Type}

/-- the common shape of `Nsga3.colMin` and `Nsga3.colMax` -/
def colF (f : α → α → α) (rows : List (List α)) (mem : List α) : List α :=
  (rows ++ [mem]).tail.foldl (fun acc r => List.zipWith f acc r) ((rows ++ [mem]).headD mem)

/-- `f` selects one of its arguments, and the selected one is `R`-below both; `R` is an order -/
structure Sel (f : α → α → α) (R : α → α → Prop) : Prop where
  refl : ∀ a, R a a
  trans : ∀ a b c, R a b → R b c → R a c
  antisymm : ∀ a b, R a b → R b a → a = b
  left : ∀ a b, R (f a b) a
  right : ∀ a b, R (f a b) b
  sel : ∀ a b, f a b = a ∨ f a b = b

/-- `b` has `M` coordinates, and coordinate `j` of `b` is `R`-below coordinate `j` of every row
and equal to coordinate `j` of one of the rows (`R = ≤`: minimum, `R = ≥`: maximum). -/
def Ext (R : α → α → Prop) (M : Nat) (rows : List (List α)) (b : List α) : Prop :=
  b.length = M ∧ ∀ j (hb : j < b.length),
    (∀ r ∈ rows, ∀ hr : j < r.length, R b[j] r[j]) ∧
    (∃ r ∈ rows, ∃ hr : j < r.length, b[j] = r[j])

variable {f : α → α → α} {R : α → α → Prop} {M : Nat} {rows rows' : List (List α)} {b b' m : List α}

theorem Ext.of_mem_iff (h : Ext R M rows b) (hm : ∀ r, r ∈ rows' ↔ r ∈ rows) : Ext R M rows' b :=
  ⟨h.1, fun j hb => ⟨fun r hr => (h.2 j hb).1 r ((hm r).1 hr),
    let ⟨r, hr, x⟩ := (h.2 j hb).2; ⟨r, (hm r).2 hr, x⟩⟩⟩

theorem Ext.split (h : Ext R M (rows ++ [m]) b) (j : Nat) (hj : j < m.length) (hb : j < b.length) :
    R b[j] m[j] ∧ (∀ r ∈ rows, ∀ hr : j < r.length, R b[j] r[j]) ∧
    (b[j] = m[j] ∨ ∃ r ∈ rows, ∃ hr : j < r.length, b[j] = r[j]) := by
  obtain ⟨h1, r, hr, hjr, e⟩ := h.2 j hb
  refine ⟨h1 m (List.mem_append_right _ (List.mem_singleton_self m)) hj,
    fun r hr => h1 r (List.mem_append_left _ hr), ?_⟩
  rcases List.mem_append.1 hr with hr | hr
  · exact Or.inr ⟨r, hr, hjr, e⟩
  · cases List.mem_singleton.1 hr; exact Or.inl e

theorem Ext.le_of_subset (h : Ext R M rows b) (h' : Ext R M rows' b') (hsub : ∀ r ∈ rows', r ∈ rows)
    (j : Nat) (hb : j < b.length) (hb' : j < b'.length) : R b[j] b'[j] := by
  obtain ⟨r, hr, hjr, e⟩ := (h'.2 j hb').2
  rw [e]; exact (h.2 j hb).1 r (hsub r hr) hjr

theorem foldF_ext (S : Sel f R) (rs : List (List α)) (acc : List α)
    (hrect : ∀ r ∈ rs, r.length = acc.length) :
    Ext R acc.length (acc :: rs) (rs.foldl (fun acc r => List.zipWith f acc r) acc) := by
  induction rs generalizing acc with
  | nil =>
    exact ⟨rfl, fun j hb => ⟨fun r hr _ => by cases List.mem_singleton.1 hr; exact S.refl _,
      acc, List.mem_singleton_self _, hb, rfl⟩⟩
  | cons r rs ih =>
    have hr : r.length = acc.length := hrect r List.mem_cons_self
    have hlen : (List.zipWith f acc r).length = acc.length := by
      rw [List.length_zipWith, hr, Nat.min_self]
    obtain ⟨hl, hj⟩ := ih (List.zipWith f acc r) fun r' hr' => by
      rw [hlen]; exact hrect r' (List.mem_cons_of_mem _ hr')
    refine ⟨hl.trans hlen, fun j hb => ?_⟩
    have hz : j < (List.zipWith f acc r).length := hl ▸ hb
    have ha : j < acc.length := hlen ▸ hz
    have hjr : j < r.length := hr ▸ ha
    obtain ⟨i1, r', hr', hjr', e⟩ := hj j hb
    -- the new accumulator entry `f acc[j] r[j]` is below both and is one of them
    have i0 := i1 _ List.mem_cons_self hz
    rw [List.getElem_zipWith] at i0
    refine ⟨fun r'' hr'' hjr'' => ?_, ?_⟩
    · rcases List.mem_cons.1 hr'' with rfl | h
      · exact S.trans _ _ _ i0 (S.left _ _)
      · rcases List.mem_cons.1 h with rfl | h
        · exact S.trans _ _ _ i0 (S.right _ _)
        · exact i1 r'' (List.mem_cons_of_mem _ h) hjr''
    · rcases List.mem_cons.1 hr' with rfl | h
      · rw [List.getElem_zipWith] at e
        rcases S.sel acc[j] r[j] with e' | e'
        · exact ⟨acc, List.mem_cons_self, ha, e.trans e'⟩
        · exact ⟨r, List.mem_cons_of_mem _ List.mem_cons_self, hjr, e.trans e'⟩
      · exact ⟨r', List.mem_cons_of_mem _ (List.mem_cons_of_mem _ h), hjr', e⟩

theorem colF_nil (f : α → α → α) (mem : List α) : colF f [] mem = mem := rfl

theorem colF_cons (f : α → α → α) (r0 : List α) (rs : List (List α)) (mem : List α) :
    colF f (r0 :: rs) mem = (rs ++ [mem]).foldl (fun acc r => List.zipWith f acc r) r0 := rfl

theorem colF_ext (S : Sel f R) (rows : List (List α)) (mem : List α)
    (hrect : ∀ r ∈ rows, r.length = mem.length) :
    Ext R mem.length (rows ++ [mem]) (colF f rows mem) := by
  cases rows with
  | nil => exact foldF_ext S [] mem fun _ h => absurd h List.not_mem_nil
  | cons r0 rs =>
    have h0 : r0.length = mem.length := hrect r0 List.mem_cons_self
    rw [← h0]
    refine foldF_ext S (rs ++ [mem]) r0 fun r hr => ?_
    rcases List.mem_append.1 hr with hr | hr
    · rw [h0]; exact hrect r (List.mem_cons_of_mem _ hr)
    · rw [List.mem_singleton.1 hr, h0]

theorem colF_perm (S : Sel f R)
    (rows rows' : List (List α)) (mem : List α) (hrect : ∀ r ∈ rows, r.length = mem.length)
    (hp : rows.Perm rows') : colF f rows mem = colF f rows' mem := by
  have h := colF_ext S rows mem hrect
  have h' := colF_ext S rows' mem fun r hr => hrect r (hp.mem_iff.2 hr)
  exact List.ext_getElem (h.1.trans h'.1.symm) fun j hb hb' => S.antisymm _ _
    (h.le_of_subset h' (fun r hr => (hp.append_right _).mem_iff.2 hr) j hb hb')
    (h'.le_of_subset h (fun r hr => (hp.append_right _).mem_iff.1 hr) j hb' hb)

end Generic

section Memory
variable {α : Type} [LinearOrder α]

theorem selMin : Sel (fun a b : α => if b < a then b else a) (· ≤ ·) where
  refl := le_refl
  trans := fun _ _ _ => le_trans
  antisymm := fun _ _ => le_antisymm
  left := fun a b => by split <;> [exact le_of_lt ‹_›; exact le_refl a]
  right := fun a b => by split <;> [exact le_refl b; exact not_lt.1 ‹_›]
  sel := fun a b => by split <;> [exact Or.inr rfl; exact Or.inl rfl]

theorem selMax : Sel (fun a b : α => if a < b then b else a) (· ≥ ·) :=
  selMin (α := αᵒᵈ)

theorem colMin_length (rows : List (List α)) (mem : List α)
    (hrect : ∀ r ∈ rows, r.length = mem.length) :
    (Nsga3.colMin rows mem).length = mem.length :=
  (colF_ext selMin rows mem hrect).1

theorem colMin_getElem (rows : List (List α)) (mem : List α)
    (hrect : ∀ r ∈ rows, r.length = mem.length) (j : Nat) (hj : j < mem.length) :
    have h : j < (Nsga3.colMin rows mem).length := by rw [colMin_length rows mem hrect]; exact hj
    (Nsga3.colMin rows mem)[j] ≤ mem[j] ∧
    (∀ r ∈ rows, ∀ hr : j < r.length, (Nsga3.colMin rows mem)[j] ≤ r[j]) ∧
    ((Nsga3.colMin rows mem)[j] = mem[j] ∨
      ∃ r ∈ rows, ∃ hr : j < r.length, (Nsga3.colMin rows mem)[j] = r[j]) :=
  (colF_ext selMin rows mem hrect).split j hj _

/-- the remembered best point never gets worse -/
theorem colMin_le_mem (rows : List (List α)) (mem : List α)
    (hrect : ∀ r ∈ rows, r.length = mem.length) (j : Nat) (hj : j < mem.length) :
    have h : j < (Nsga3.colMin rows mem).length := by rw [colMin_length rows mem hrect]; exact hj
    (Nsga3.colMin rows mem)[j] ≤ mem[j] :=
  (colMin_getElem rows mem hrect j hj).1

theorem colMax_length (rows : List (List α)) (mem : List α)
    (hrect : ∀ r ∈ rows, r.length = mem.length) :
    (Nsga3.colMax rows mem).length = mem.length :=
  (colF_ext selMax rows mem hrect).1

theorem colMax_getElem (rows : List (List α)) (mem : List α)
    (hrect : ∀ r ∈ rows, r.length = mem.length) (j : Nat) (hj : j < mem.length) :
    have h : j < (Nsga3.colMax rows mem).length := by rw [colMax_length rows mem hrect]; exact hj
    mem[j] ≤ (Nsga3.colMax rows mem)[j] ∧
    (∀ r ∈ rows, ∀ hr : j < r.length, r[j] ≤ (Nsga3.colMax rows mem)[j]) ∧
    ((Nsga3.colMax rows mem)[j] = mem[j] ∨
      ∃ r ∈ rows, ∃ hr : j < r.length, (Nsga3.colMax rows mem)[j] = r[j]) :=
  (colF_ext selMax rows mem hrect).split j hj _

/-- the remembered worst point never decreases -/
theorem colMax_ge_mem (rows : List (List α)) (mem : List α)
    (hrect : ∀ r ∈ rows, r.length = mem.length) (j : Nat) (hj : j < mem.length) :
    have h : j < (Nsga3.colMax rows mem).length := by rw [colMax_length rows mem hrect]; exact hj
    mem[j] ≤ (Nsga3.colMax rows mem)[j] :=
  (colMax_getElem rows mem hrect j hj).1

example : (∀ r ∈ [[3, 1], [2, 5]], r.length = [(4 : Nat), 0].length) ∧ 1 < [(4 : Nat), 0].length ∧
    [[(3 : Nat), 1], [2, 5]].Perm [[2, 5], [3, 1]] :=
  ⟨by decide, by decide, List.Perm.swap _ _ _⟩

example : Nsga3.colMin [[3, 1], [2, 5]] [(4 : Nat), 0] = [2, 0] ∧
    Nsga3.colMax [[3, 1], [2, 5]] [(4 : Nat), 0] = [4, 5] := by decide +kernel

end Memory

end C07L
