/-
C04 lemmas: `sortNDHelperB` and `sortNDHelperA` (Fortin et al.) finish and do to the `front`
dictionary what `Upd` says, by one induction each along the recursion of the model.
-/
import DeapModel.Lemmas.C04Sweep

set_option linter.unusedSectionVars false

namespace C04L
open NDSort

variable {α : Type} [Field α] [LinearOrder α] [IsStrictOrderedRing α] [Inhabited α]

theorem splitA_facts (fits : List (List α)) (obj : Nat) : ∃ best worst, splitA fits obj = (best, worst) ∧
    best.Sublist fits ∧ worst.Sublist fits ∧ (∀ x ∈ fits, x ∈ best ∨ x ∈ worst) ∧
    ∀ b ∈ best, ∀ w ∈ worst, nth w obj < nth b obj :=
  ⟨_, _, (splitA_eq fits obj).trans Prod.mk.eta.symm, cutAt_sublist.1, cutAt_sublist.2, fun _ hx => cutAt_cover hx,
    fun _ hb _ hw => cutAt_lt hb hw⟩

theorem splitB_facts (best worst : List (List α)) (obj : Nat) : ∃ b1 b2 w1 w2,
    splitB best worst obj = (b1, b2, w1, w2) ∧ b1.Sublist best ∧ b2.Sublist best ∧ w1.Sublist worst ∧
    w2.Sublist worst ∧ (∀ x ∈ best, x ∈ b1 ∨ x ∈ b2) ∧ (∀ x ∈ worst, x ∈ w1 ∨ x ∈ w2) ∧
    ∀ x, x ∈ b1 ∨ x ∈ w1 → ∀ y, y ∈ b2 ∨ y ∈ w2 → nth y obj < nth x obj :=
  ⟨_, _, _, _, splitB_eq best worst obj _ _ rfl rfl, cutAt_sublist.1, cutAt_sublist.2, cutAt_sublist.1,
    cutAt_sublist.2, fun _ hx => cutAt_cover hx, fun _ hx => cutAt_cover hx,
    fun _ hx _ hy => hx.elim (fun hx => hy.elim (cutAt_lt hx) (cutAt_lt hx))
      (fun hx => hy.elim (cutAt_lt hx) (cutAt_lt hx))⟩

theorem helperBDirect_upd (m obj : Nat) (hobj : obj < m) (best worst : List (List α)) (front : FrontDict α)
    (hlb : ∀ b ∈ best, b.length = m) (hlw : ∀ w ∈ worst, w.length = m) (hnd : worst.Nodup)
    (hdisj : ∀ b ∈ best, b ∉ worst) :
    Upd (geOn (obj + 1)) best worst front (helperBDirect best worst obj front) :=
  Upd.foldl_tgt best _ worst front (fun fr hi hw hhi =>
    Upd.foldl_src hi _ best fr (fun fr li hb hne => Upd.bump_if li hi fr _
      (dominated_or_equal_iff (obj + 1) hi li (by rw [hlw hi hw]; omega) (by rw [hlb li hb]; omega)) hne) hhi)
    hnd hdisj

theorem mem_iff_of_cover {γ : Type} {l l₁ l₂ : List γ} (s₁ : l₁.Sublist l) (s₂ : l₂.Sublist l)
    (c : ∀ x ∈ l, x ∈ l₁ ∨ x ∈ l₂) (x : γ) : x ∈ l ↔ x ∈ l₁ ++ l₂ :=
  ⟨fun h => List.mem_append.2 (c x h), fun h => (List.mem_append.1 h).elim (fun h => s₁.subset h) fun h => s₂.subset h⟩

/-- `sortNDHelperB` finishes and raises `worst` by `best` (on objectives `0..obj`). -/
theorem helperB_total (m : Nat) (best worst : List (List α)) (obj : Nat) (front : FrontDict α) :
    (∀ b ∈ best, b.length = m) → (∀ w ∈ worst, w.length = m) → obj < m → 1 ≤ obj →
    best.Pairwise lexDesc → worst.Pairwise lexDesc → (∀ b ∈ best, b ∉ worst) →
    ∃ front', helperB best worst obj front = some front' ∧ Upd (geOn (obj + 1)) best worst front front' := by
  fun_induction helperB best worst obj front
  case case1 best worst obj front h =>
    intro _ _ _ _ _ _ _
    refine ⟨_, rfl, Upd.refl fun w hw b hb => ?_⟩
    rcases h with h | h
    · rw [List.eq_nil_of_length_eq_zero h] at hw; simp at hw
    · rw [List.eq_nil_of_length_eq_zero h] at hb; simp at hb
  case case2 best worst obj front _ _ =>
    intro hlb hlw hobj _ _ hw hdisj
    exact ⟨_, rfl, helperBDirect_upd m obj hobj best worst front hlb hlw (nodup_of_lexDesc hw) hdisj⟩
  case case3 best worst front _ _ =>
    intro hlb hlw hobj _ hb hw hdisj
    exact ⟨_, rfl, sweepB_upd best worst front
      (hb.imp_of_mem fun {a b} ha hb' h => ge2_of_lexDesc m a b (hlb a ha) (hlb b hb') h)
      (hw.imp_of_mem fun {a b} ha hb' h => ge2_of_lexDesc m a b (hlw a ha) (hlw b hb') h)
      (nodup_of_lexDesc hw) (fun b hb'' => by rw [hlb b hb'']; omega) (fun w hw'' => by rw [hlw w hw'']; omega) hdisj⟩
  case case4 => intro _ _ _ h; omega
  case case5 best worst obj front h1 _ h3 h4 hge ih =>
    intro hlb hlw hobj ho hb hw hdisj
    have hbne : best ≠ [] := by intro e; apply h1; right; simp [e]
    have hwne : worst ≠ [] := by intro e; apply h1; left; simp [e]
    have hcoord := (optGe_minKey_maxKey best worst obj hbne hwne).1 hge
    obtain ⟨f', e, u⟩ := ih hlb hlw (by omega) (by omega) hb hw hdisj
    refine ⟨f', e, u.congr (fun _ => Iff.rfl) fun w hw' b => and_congr_right fun hb' => ?_⟩
    rw [Nat.sub_add_cancel ho]
    exact ⟨fun hg => ((geOn_succ obj b w).1 hg).1,
      fun hg => (geOn_succ obj b w).2 ⟨hg, hcoord b hb' w hw'⟩⟩
  case case6 best worst obj front h1 _ h3 h4 _ _ b1 b2 w1 w2 hs _ ih3 ih2 ih1 =>
    intro hlb hlw hobj ho hb hw hdisj
    obtain ⟨_, _, _, _, e, sb1, sb2, sw1, sw2, cb, cw, hord⟩ := splitB_facts best worst obj
    rw [hs] at e; cases e
    obtain ⟨f1, e1, u1⟩ := ih3 (fun b hb' => hlb b (sb1.subset hb')) (fun w hw' => hlw w (sw1.subset hw')) hobj ho
      (hb.sublist sb1) (hw.sublist sw1) (fun b hb' hc => hdisj b (sb1.subset hb') (sw1.subset hc))
    obtain ⟨f2, e2, u2⟩ := ih2 f1 (fun b hb' => hlb b (sb1.subset hb')) (fun w hw' => hlw w (sw2.subset hw'))
      (by omega) (by omega) (hb.sublist sb1) (hw.sublist sw2)
      (fun b hb' hc => hdisj b (sb1.subset hb') (sw2.subset hc))
    obtain ⟨f3, e3, u3⟩ := ih1 f2 (fun b hb' => hlb b (sb2.subset hb')) (fun w hw' => hlw w (sw2.subset hw')) hobj ho
      (hb.sublist sb2) (hw.sublist sw2) (fun b hb' hc => hdisj b (sb2.subset hb') (sw2.subset hc))
    refine ⟨f3, by rw [e1, Option.bind_some, e2, Option.bind_some, e3], ?_⟩
    rw [Nat.sub_add_cancel ho] at u2
    -- upper parts on objective `obj` lie strictly above the lower parts
    refine (u1.dc u2 u3 (fun b hb' w hw' => ?_) (fun b hb' w hw' hg => ?_) (fun w h1' h2' => ?_)
      (fun b hb' hc => hdisj b (sb1.subset hb') (sw2.subset hc))).congr (mem_iff_of_cover sw1 sw2 cw)
      fun _ _ b => and_congr_left fun _ => mem_iff_of_cover sb1 sb2 cb b
    · exact ⟨fun hg => (geOn_succ obj b w).2 ⟨hg, le_of_lt (hord b (Or.inl hb') w (Or.inr hw'))⟩,
        fun hg => ((geOn_succ obj b w).1 hg).1⟩
    · exact absurd (hord w (Or.inr hw') b (Or.inl hb')) (not_lt.2 ((geOn_succ obj b w).1 hg).2)
    · exact lt_irrefl _ (hord w (Or.inr h1') w (Or.inr h2'))
  case case7 best worst obj front h1 h2 h3 h4 h5 h6 b1 b2 w1 w2 hs hg =>
    have hb : best ≠ [] := by intro e; apply h1; right; simp [e]
    have hw : worst ≠ [] := by intro e; apply h1; left; simp [e]
    have := splitB_progress best worst obj hb hw h5
    rw [hs] at this
    exact absurd this hg
  case case8 best worst obj front h1 _ h3 h4 _ hnge =>
    intro hlb hlw hobj ho hb hw hdisj
    have hbne : best ≠ [] := by intro e; apply h1; right; simp [e]
    have hwne : worst ≠ [] := by intro e; apply h1; left; simp [e]
    exact ⟨_, rfl, Upd.refl fun w hw' b hb' hg => hnge
      ((optGe_maxKey_minKey best worst obj hbne hwne).2 ⟨b, hb', w, hw', ((geOn_succ obj b w).1 hg).2⟩)⟩

theorem all_eq_of_objConstant (fits : List (List α)) (obj : Nat) (h : objConstant fits obj = true) :
    ∀ a ∈ fits, ∀ b ∈ fits, nth a obj = nth b obj := by
  simp only [objConstant, beq_iff_eq] at h
  obtain ⟨c, hc⟩ := List.length_eq_one_iff.1 h
  have : ∀ a ∈ fits, nth a obj = c := by
    intro a ha
    have : nth a obj ∈ (fits.map (fun f => nth f obj)).eraseDups :=
      List.mem_eraseDups.2 (List.mem_map_of_mem ha)
    rw [hc] at this; simpa using this
  intro a ha b hb; rw [this a ha, this b hb]

/-- the two-element case of `sortNDHelperA`: only the first can dominate the second -/
theorem helperA_two_upd (m obj : Nat) (a b : List α) (front : FrontDict α) (hl : ∀ f ∈ [a, b], f.length = m)
    (hobj : obj < m) (hs : [a, b].Pairwise lexDesc)
    (hagree : ∀ x ∈ [a, b], ∀ y ∈ [a, b], ∀ i, obj < i → i < m → nth x i = nth y i) :
    Upd (domOn (obj + 1)) [a, b] [a, b] front
      (if isDominated (b.take (obj + 1)) (a.take (obj + 1)) then bump front b a else front) := by
  have hab : lexDesc a b := (List.pairwise_cons.1 hs).1 b (by simp)
  have hne : a ≠ b := fun e => lexDesc_irrefl b (e ▸ hab)
  have hnba : ¬ domOn (obj + 1) b a := fun hc =>
    not_geOn_of_lexDesc m (obj + 1) a b (hl a (by simp)) (hl b (by simp)) hab
      (fun i hi him => hagree a (by simp) b (by simp) i (by omega) him) hc.1
  have hd := isDominated_take_iff (obj + 1) b a (by rw [hl b (by simp)]; omega) (by rw [hl a (by simp)]; omega)
  -- nothing precedes `a`; `b` is preceded by `a` at most
  refine (Upd.refl (T := [a]) fun t ht x hx hdx => ?_).seq
    ((Upd.bump_if a b front _ hd hne).congr (fun _ => Iff.rfl) fun t ht x => and_congr_left fun hdx => ?_)
    (by simpa using hne) (fun t ht x hx hdx => ?_)
  · simp only [List.mem_cons, List.not_mem_nil, or_false] at ht hx
    subst ht
    rcases hx with rfl | rfl
    exacts [domOn_irrefl _ _ hdx, hnba hdx]
  · simp only [List.mem_cons, List.not_mem_nil, or_false] at ht ⊢
    subst ht
    exact ⟨fun h => h.resolve_right fun e => domOn_irrefl _ _ (e ▸ hdx), Or.inl⟩
  · simp only [List.mem_cons, List.not_mem_nil, or_false] at ht hx
    subst ht
    rcases hx with rfl | rfl
    exacts [absurd hdx (domOn_irrefl _ _), absurd hdx hnba]

/-- `sortNDHelperA` finishes and raises every fitness by its dominators in the list (objectives `0..obj`). -/
theorem helperA_total (m : Nat) (fits : List (List α)) (obj : Nat) (front : FrontDict α) :
    (∀ f ∈ fits, f.length = m) → obj < m → 1 ≤ obj → fits.Pairwise lexDesc →
    (∀ a ∈ fits, ∀ b ∈ fits, ∀ i, obj < i → i < m → nth a i = nth b i) →
    ∃ front', helperA fits obj front = some front' ∧ Upd (domOn (obj + 1)) fits fits front front' := by
  fun_induction helperA fits obj front
  case case1 fits obj front h =>
    intro _ _ _ _ _
    refine ⟨_, rfl, Upd.refl fun x hx y hy => ?_⟩
    have : x = y := by
      match fits, h with
      | [], _ => simp at hx
      | [a], _ => simp at hx hy; rw [hx, hy]
    subst this; exact domOn_irrefl _ _
  case case2 fits obj front h1 h2 s1 s2 hd =>
    intro hl hobj _ hs hagree
    obtain ⟨a, b, rfl⟩ := List.length_eq_two.1 h2
    have := helperA_two_upd m obj a b front hl hobj hs hagree
    rw [if_pos (show isDominated (b.take (obj + 1)) (a.take (obj + 1)) = true from hd)] at this
    exact ⟨_, rfl, this⟩
  case case3 fits obj front h1 h2 s1 s2 hd =>
    intro hl hobj _ hs hagree
    obtain ⟨a, b, rfl⟩ := List.length_eq_two.1 h2
    have := helperA_two_upd m obj a b front hl hobj hs hagree
    rw [if_neg (show ¬ isDominated (b.take (obj + 1)) (a.take (obj + 1)) = true from hd)] at this
    exact ⟨_, rfl, this⟩
  case case4 fits front _ _ =>
    intro hl hobj _ hs hagree
    have hs' : fits.Pairwise lex2 := hs.imp_of_mem (fun {a b} ha hb h =>
      lex2_of_lexDesc m a b (hl a ha) (hl b hb) h (fun i hi him => hagree a ha b hb i (by omega) him))
    exact ⟨_, rfl, keys_sweepA fits front, (sweepA_spec fits front hs').1, (sweepA_spec fits front hs').2⟩
  case case5 => intro _ _ h; omega
  case case6 fits obj front _ _ h3 h4 hconst ih =>
    intro hl hobj ho hs hagree
    have heq := all_eq_of_objConstant fits obj hconst
    obtain ⟨f', e, u⟩ := ih hl (by omega) (by omega) hs (by
      intro a ha b hb i hi him
      by_cases e : i = obj
      · subst e; exact heq a ha b hb
      · exact hagree a ha b hb i (by omega) him)
    refine ⟨f', e, u.congr (fun _ => Iff.rfl) fun x hx g => and_congr_right fun hg => ?_⟩
    rw [Nat.sub_add_cancel ho]; exact domOn_succ_of_eq obj g x (heq g hg x hx)
  case case7 fits obj front _ _ h3 h4 _ best worst hs' _ ih2 ih1 =>
    intro hl hobj ho hs hagree
    obtain ⟨_, _, e, sb, sw, cov, hord⟩ := splitA_facts fits obj
    rw [hs'] at e; cases e
    have hdisj : ∀ b ∈ best, b ∉ worst := fun b hb hc => lt_irrefl _ (hord b hb b hc)
    obtain ⟨f1, e1, u1⟩ := ih2 (fun x hx => hl x (sb.subset hx)) hobj ho (hs.sublist sb)
      (fun a ha b hb => hagree a (sb.subset ha) b (sb.subset hb))
    obtain ⟨f2, e2, u2⟩ := helperB_total m best worst (obj - 1) f1 (fun x hx => hl x (sb.subset hx))
      (fun x hx => hl x (sw.subset hx)) (by omega) (by omega) (hs.sublist sb) (hs.sublist sw) hdisj
    obtain ⟨f3, e3, u3⟩ := ih1 f2 (fun x hx => hl x (sw.subset hx)) hobj ho (hs.sublist sw)
      (fun a ha b hb => hagree a (sw.subset ha) b (sw.subset hb))
    refine ⟨f3, by rw [e1, Option.bind_some, e2, Option.bind_some, e3], ?_⟩
    rw [Nat.sub_add_cancel ho] at u2
    -- a fitness of `worst` never dominates one of `best`; one of `best` dominates one of `worst`
    -- exactly when it is at least as good on the objectives below `obj`
    refine (u1.dc u2 u3 (fun b hb w hw => ?_) (fun w hw b hb hd => ?_) hdisj hdisj).congr
      (mem_iff_of_cover sb sw cov) fun _ _ g => and_congr_left fun _ => mem_iff_of_cover sb sw cov g
    · exact ⟨fun hg => ⟨(geOn_succ obj b w).2 ⟨hg, le_of_lt (hord b hb w hw)⟩, obj, by omega, hord b hb w hw⟩,
        fun hd => ((geOn_succ obj b w).1 hd.1).1⟩
    · exact absurd (hord b hb w hw) (not_lt.2 ((geOn_succ obj w b).1 hd.1).2)
  case case8 fits obj front h1 h2 h3 h4 h5 best worst hs hg =>
    have hne : fits ≠ [] := by intro e; apply h1; simp [e]
    have := splitA_progress fits obj hne (off_median_of_not_constant fits obj hne (by simpa using h5))
    rw [hs] at this
    exact absurd this hg

end C04L
