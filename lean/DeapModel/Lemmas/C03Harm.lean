/-
Helper lemmas for C03: the HARM-GP acceptance arithmetic of `Core/Loops.lean` over ℝ.
-/
import DeapModel.Core.Loops
import DeapModel.RealInst

namespace Loops
open RealLike

def AllNonneg (l : List ℝ) : Prop := ∀ x ∈ l, 0 ≤ x

theorem bump_nonneg (h : List ℝ) (i : Nat) (v : ℝ) (hh : AllNonneg h) (hv : 0 ≤ v) : AllNonneg (bump h i v) := by
  intro x hx
  simp only [bump, List.mem_mapIdx] at hx
  obtain ⟨j, hj, rfl⟩ := hx
  have := hh h[j] (List.getElem_mem hj)
  split
  · simp only [real_add]; linarith
  · exact this

theorem bumpSize_nonneg (h : List ℝ) (s : Nat) (hh : AllNonneg h) : AllNonneg (bumpSize h s) := by
  have h25 : (0 : ℝ) ≤ RealLike.ofRatio 2 5 := by norm_num [real_ofRatio]
  have h15 : (0 : ℝ) ≤ RealLike.ofRatio 1 5 := by norm_num [real_ofRatio]
  have h110 : (0 : ℝ) ≤ RealLike.ofRatio 1 10 := by norm_num [real_ofRatio]
  simp only [bumpSize]
  have h4 := bump_nonneg _ (s + 2) _ (bump_nonneg _ (s + 1) _ (bump_nonneg _ (s - 1) _
    (bump_nonneg h s _ hh h25) h15) h15) h110
  split
  · exact bump_nonneg _ _ _ h4 h110
  · exact h4

theorem foldl_bumpSize_nonneg (sizes : List Nat) (h : List ℝ) (hh : AllNonneg h) :
    AllNonneg (sizes.foldl bumpSize h) := by
  induction sizes generalizing h with
  | nil => exact hh
  | cons s ss ih => exact ih _ (bumpSize_nonneg h s hh)

theorem naturalHist_nonneg (sizes : List Nat) (npop nbr : Nat) (nat : List ℝ)
    (h : naturalHist sizes npop nbr = some nat) : AllNonneg nat := by
  simp only [naturalHist] at h
  split at h
  · simp at h
  next m _ =>
    split at h
    · simp only [Option.some.injEq] at h
      subst h
      intro x hx
      simp only [List.mem_map] at hx
      obtain ⟨v, hv, rfl⟩ := hx
      have h0 : AllNonneg (List.replicate (m + 3) (RealLike.ofNat 0 : ℝ)) := by
        intro y hy
        rw [List.mem_replicate] at hy
        rw [hy.2]; simp
      have hv0 := foldl_bumpSize_nonneg sizes _ h0 v hv
      simp only [real_mul, real_div, real_ofNat]
      positivity
    · simp at h

theorem targetFunc_nonneg (p : HarmParams ℝ) (npop cutoff x : Nat) (hg : 0 ≤ p.gamma)
    (hl : 0 < halflife p x) : 0 ≤ targetFunc p npop cutoff x := by
  simp only [targetFunc, real_mul, real_div, real_ofNat, real_log, real_exp]
  exact mul_nonneg (div_nonneg (mul_nonneg (mul_nonneg hg (Nat.cast_nonneg _)) (Real.log_nonneg (by norm_num))) hl.le)
    (Real.exp_pos _).le

theorem probHist_nonneg (p : HarmParams ℝ) (npop cutoff : Nat) (nat : List ℝ) (hnat : AllNonneg nat)
    (hg : 0 ≤ p.gamma) (hl : ∀ x, 0 < halflife p x) : AllNonneg (probHist p npop cutoff nat) := by
  intro v hv
  simp only [probHist, List.mem_mapIdx] at hv
  obtain ⟨b, hb, rfl⟩ := hv
  have hn := hnat nat[b] (List.getElem_mem hb)
  have ht : 0 ≤ (if b ≤ cutoff then nat[b] else targetFunc p npop cutoff b) := by
    split
    · exact hn
    · exact targetFunc_nonneg p npop cutoff b hg (hl b)
  split
  · simp only [real_div]; exact div_nonneg ht hn
  · exact ht

theorem probFunc_nonneg (p : HarmParams ℝ) (npop cutoff : Nat) (nat : List ℝ) (hnat : AllNonneg nat)
    (hg : 0 ≤ p.gamma) (hl : ∀ x, 0 < halflife p x) (s : Nat) :
    0 ≤ probFunc p npop cutoff (probHist p npop cutoff nat) s := by
  simp only [probFunc]
  split
  next v hv => exact probHist_nonneg p npop cutoff nat hnat hg hl v (List.mem_of_getElem? hv)
  · exact targetFunc_nonneg p npop cutoff s hg (hl s)

/-- Up to the cutoff size the target histogram is the natural one: the threshold is exactly 1 where the
natural histogram is positive and 0 where it is empty. -/
theorem probFunc_below_cutoff (p : HarmParams ℝ) (npop cutoff : Nat) (nat : List ℝ) (hnat : AllNonneg nat)
    (s : Nat) (hs : s ≤ cutoff) (hlen : s < nat.length) :
    probFunc p npop cutoff (probHist p npop cutoff nat) s = 0 ∨
    probFunc p npop cutoff (probHist p npop cutoff nat) s = 1 := by
  have hn := hnat nat[s] (List.getElem_mem hlen)
  have hget : (probHist p npop cutoff nat)[s]? =
      some (if (RealLike.ofNat 0 : ℝ) < nat[s] then nat[s] / nat[s] else nat[s]) := by
    simp [probHist, hlen, hs]
  simp only [probFunc, hget]
  split
  next hpos =>
    right
    have : nat[s] ≠ 0 := by
      have : (0 : ℝ) < nat[s] := by simpa using hpos
      exact ne_of_gt this
    exact div_self this
  next hnp =>
    left
    have : ¬ (0 : ℝ) < nat[s] := by simpa using hnp
    linarith [not_lt.1 this]

end Loops
