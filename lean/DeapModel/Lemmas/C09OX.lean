/-
Helper lemmas for C09: ordered crossover (OX).

The hole-filling loop reads `temp[(i+b+1) % size]` and writes `ind[k % size]` on the *same* list.
Seen through the rotation by `r = b+1` it is an in-place compaction
`for i in range(n): if keep(x[i]): x[c] = x[i]; c += 1`, whose write index never overtakes the
read index; so it leaves `filter keep x ++ drop c x`.
-/
import DeapModel.Lemmas.C09PMX
import Mathlib.Data.List.Rotate

namespace C09L
open CrossMut

theorem add_mod_inj (n r c j : Nat) (hc : c < n) (hj : j < n) (h : (r + c) % n = (j + r) % n) : c = j := by
  -- equal residues: `n` divides the difference either way round, and that is below `n`
  have h1 := Nat.sub_mod_eq_zero_of_mod_eq h
  have h2 := Nat.sub_mod_eq_zero_of_mod_eq h.symm
  rw [Nat.mod_eq_of_lt (by omega)] at h1 h2
  omega

theorem rotate_set (l : List Nat) (n r c v : Nat) (hl : l.length = n) (hc : c < n) :
    (l.set ((r + c) % n) v).rotate r = (l.rotate r).set c v := by
  apply List.ext_getElem?
  intro j
  rcases Nat.lt_or_ge j n with hj | hj
  · rw [List.getElem?_rotate (by rw [List.length_set, hl]; exact hj), List.getElem?_set, List.getElem?_set,
      List.getElem?_rotate (by rw [hl]; exact hj), List.length_set, List.length_rotate, hl, if_pos hc,
      if_pos (Nat.mod_lt _ (by omega))]
    by_cases hcj : c = j
    · subst hcj; rw [if_pos rfl, if_pos (by rw [Nat.add_comm])]
    · rw [if_neg hcj, if_neg (fun h => hcj (add_mod_inj n r c j hc hj h))]
  · rw [List.getElem?_eq_none (by rw [List.length_rotate, List.length_set, hl]; exact hj),
      List.getElem?_eq_none (by rw [List.length_set, List.length_rotate, hl]; exact hj)]

def fillState (n b : Nat) (holes : List Bool) (ind : List Nat) (k : Nat) : List Nat × Nat :=
  (List.range k).foldl (oxFillStep n b holes) (ind, b + 1)

/-- `not holes[v]` -/
def keepOf (holes : List Bool) (v : Nat) : Bool := !(holes[v]?.getD true)

theorem fillState_succ (n b : Nat) (holes : List Bool) (ind : List Nat) (k : Nat) :
    fillState n b holes ind (k + 1) = oxFillStep n b holes (fillState n b holes ind k) k := by
  unfold fillState
  rw [List.range_succ, List.foldl_append]
  rfl

theorem fill_inv (n b : Nat) (holes : List Bool) (ind : List Nat) (hl : ind.length = n) (k : Nat) (hk : k ≤ n) :
    (fillState n b holes ind k).1.length = n ∧
    (fillState n b holes ind k).1.rotate (b + 1)
      = ((ind.rotate (b + 1)).take k).filter (keepOf holes)
          ++ (ind.rotate (b + 1)).drop ((((ind.rotate (b + 1)).take k).filter (keepOf holes)).length) ∧
    (fillState n b holes ind k).2 = (b + 1) + (((ind.rotate (b + 1)).take k).filter (keepOf holes)).length := by
  induction k with
  | zero => exact ⟨hl, rfl, rfl⟩
  | succ k ih =>
    obtain ⟨h1, h2, h3⟩ := ih (Nat.le_of_succ_le hk)
    rw [fillState_succ]
    generalize fillState n b holes ind k = st at h1 h2 h3
    obtain ⟨l, c⟩ := st
    have hXl : (ind.rotate (b + 1)).length = n := by rw [List.length_rotate, hl]
    generalize ind.rotate (b + 1) = X at h2 h3 hXl ⊢
    have hkX : k < X.length := by omega
    rw [List.take_succ_eq_append_getElem hkX, List.filter_append]
    have hFk : ((X.take k).filter (keepOf holes)).length ≤ k :=
      (List.length_filter_le _ _).trans (List.length_take_le _ _)
    generalize (X.take k).filter (keepOf holes) = F at h2 h3 hFk ⊢
    dsimp only at h1 h2 h3
    -- the write index `c` has not overtaken the read index: the value read is still `X[k]`
    have hread : l[(k + b + 1) % n]?.getD 0 = X[k] := by
      rw [Nat.add_assoc, ← h1, ← List.getElem?_rotate (by omega), h2, List.getElem?_append_right hFk, List.getElem?_drop,
        Nat.add_sub_cancel' hFk, List.getElem?_eq_getElem hkX]
      rfl
    have hstep : oxFillStep n b holes (l, c) k = if keepOf holes X[k] = true then (l.set (c % n) X[k], c + 1) else (l, c) := by
      unfold oxFillStep keepOf
      simp only [hread]
    rw [hstep]
    cases hkeep : keepOf holes X[k]
    · rw [if_neg Bool.false_ne_true, List.filter_singleton, hkeep, cond_false]
      exact ⟨h1, by rw [List.append_nil]; exact h2, by rw [List.append_nil]; exact h3⟩
    · rw [if_pos rfl, List.filter_singleton, hkeep, cond_true]
      refine ⟨by rw [List.length_set]; exact h1, ?_, by rw [h3, List.length_append]; rfl⟩
      have hFn : F.length < X.length := by omega
      rw [h3, rotate_set l n (b + 1) F.length _ h1 (by omega), h2, List.set_append_right _ _ (Nat.le_refl _), Nat.sub_self,
        List.drop_eq_getElem_cons hFn, List.set_cons_zero, List.length_append, List.length_singleton, List.append_assoc,
        List.singleton_append]

theorem oxLoop_eq (n b : Nat) (h1 h2 : List Bool) (l : List Nat) (x1 : List Nat) (k1 : Nat) (x2 : List Nat) (k2 : Nat) :
    l.foldl (oxStep n b h1 h2) ⟨x1, k1, x2, k2⟩ =
      ⟨(l.foldl (oxFillStep n b h1) (x1, k1)).1, (l.foldl (oxFillStep n b h1) (x1, k1)).2,
       (l.foldl (oxFillStep n b h2) (x2, k2)).1, (l.foldl (oxFillStep n b h2) (x2, k2)).2⟩ := by
  induction l generalizing x1 k1 x2 k2 with
  | nil => rfl
  | cons i is ih =>
    simp only [List.foldl_cons]
    exact ih _ _ _ _

theorem keepOf_set (h : List Bool) (u v : Nat) (hu : u < h.length) :
    keepOf (h.set u false) v = if v = u then true else keepOf h v := by
  unfold keepOf
  rw [List.getElem?_set]
  by_cases c : v = u
  · subst c; simp [hu]
  · simp [c, Ne.symm c]

theorem keepOf_foldl (c : Nat → Prop) [DecidablePred c] (f : Nat → Nat) (is : List Nat) (T : List Bool)
    (hf : ∀ i ∈ is, f i < T.length) (v : Nat) :
    keepOf (is.foldl (fun h i => if c i then h.set (f i) false else h) T) v = true ↔
      keepOf T v = true ∨ ∃ i ∈ is, c i ∧ f i = v := by
  induction is generalizing T with
  | nil => simp
  | cons i is ih =>
    rw [List.foldl_cons, ih _ (fun j hj => by split <;> simp [hf j (List.mem_cons_of_mem _ hj)])]
    by_cases hc : c i
    · rw [if_pos hc, keepOf_set _ _ _ (hf i List.mem_cons_self)]
      by_cases e : v = f i
      · simp [e, hc]
      · simp [e, Ne.symm e]
    · simp [hc]

/-- `holes = [True]*n; for i in range(n): if i < a or i > b: holes[ind[i]] = False` -/
def holeTable (n a b : Nat) (ind : List Nat) : List Bool :=
  (List.range n).foldl (fun h i => if i < a ∨ i > b then h.set (gene ind i) false else h) (List.replicate n true)

theorem keepOf_holeTable (n a b : Nat) (ind : List Nat) (hlt : ∀ i < n, gene ind i < n) (v : Nat) :
    keepOf (holeTable n a b ind) v = true ↔ ∃ i < n, (i < a ∨ i > b) ∧ gene ind i = v := by
  rw [holeTable, keepOf_foldl (fun i => i < a ∨ i > b) (gene ind) _ _
    (fun i hi => by rw [List.length_replicate]; exact hlt i (List.mem_range.1 hi))]
  have h0 : keepOf (List.replicate n true) v = false := by
    rw [keepOf, List.getElem?_replicate]; split <;> rfl
  simp [h0]

theorem oxHoles_eq (n a b : Nat) (ind1 ind2 : List Nat) :
    oxHoles n a b ind1 ind2 = (holeTable n a b ind2, holeTable n a b ind1) := by
  unfold oxHoles holeTable
  rw [← foldl_pair (fun (h : List Bool) (i : Nat) => if i < a ∨ i > b then h.set (gene ind2 i) false else h)
    (fun (h : List Bool) (i : Nat) => if i < a ∨ i > b then h.set (gene ind1 i) false else h)]
  congr 1
  funext h i
  by_cases c : i < a ∨ i > b
  · simp only [c, if_true]; rfl
  · simp only [c, if_false]

theorem seg_mem (y : List Nat) (a r v : Nat) (hr : r ≤ y.length) :
    v ∈ (y.take r).drop a ↔ ∃ i, a ≤ i ∧ i < r ∧ gene y i = v := by
  rw [List.mem_drop_iff_getElem]
  constructor
  · rintro ⟨j, hj, e⟩
    have hj' : a + j < r := by
      have := hj
      simp only [List.length_take, Nat.min_eq_left hr] at this
      omega
    refine ⟨a + j, by omega, hj', ?_⟩
    rw [gene_eq_getElem y (a + j) (by omega), ← e, List.getElem_take]
  · rintro ⟨i, h1, h2, e⟩
    refine ⟨i - a, by simp [List.length_take, Nat.min_eq_left hr]; omega, ?_⟩
    rw [List.getElem_take, ← e, gene_eq_getElem y i (by omega)]
    congr 1; omega

theorem hole_iff_seg (n a b : Nat) (y : List Nat) (hy : y.Perm (List.range n)) (hb : b < n) (v : Nat) :
    (v < n ∧ keepOf (holeTable n a b y) v = false) ↔ v ∈ (y.take (b + 1)).drop a := by
  obtain ⟨hlen, hlt, hinj, hsur⟩ := perm_range_facts n y hy
  rw [seg_mem y a (b + 1) v (by omega), Bool.eq_false_iff, Ne, keepOf_holeTable n a b y hlt v]
  constructor
  · rintro ⟨hv, hno⟩
    obtain ⟨j, hj, e⟩ := hsur v hv
    have hin : ¬ (j < a ∨ j > b) := fun c => hno ⟨j, hj, c, e⟩
    exact ⟨j, by omega, by omega, e⟩
  · rintro ⟨i, h1, h2, e⟩
    refine ⟨e ▸ hlt i (by omega), ?_⟩
    rintro ⟨i', hi', hc', e'⟩
    have := hinj i' hi' i (by omega) (e'.trans e.symm)
    omega

theorem seg_perm_holes (n a b : Nat) (y : List Nat) (hy : y.Perm (List.range n)) (hb : b < n) :
    ((y.take (b + 1)).drop a).Perm ((List.range n).filter (fun v => !(keepOf (holeTable n a b y) v))) := by
  have hnd : y.Nodup := hy.nodup_iff.2 List.nodup_range
  rw [List.perm_ext_iff_of_nodup ((hnd.sublist (List.take_sublist _ _)).sublist (List.drop_sublist _ _))
    (List.nodup_range.filter _)]
  intro v
  rw [← hole_iff_seg n a b y hy hb v, List.mem_filter, List.mem_range]
  simp

theorem kept_append_seg_perm (n a b : Nat) (X y : List Nat) (hX : X.Perm (List.range n)) (hy : y.Perm (List.range n))
    (hb : b < n) :
    (X.filter (keepOf (holeTable n a b y)) ++ (y.take (b + 1)).drop a).Perm (List.range n) := by
  have h1 : (X.filter (keepOf (holeTable n a b y))).Perm ((List.range n).filter (keepOf (holeTable n a b y))) :=
    hX.filter _
  exact (List.Perm.append h1 (seg_perm_holes n a b y hy hb)).trans (List.filter_append_perm _ _)

theorem kept_length (n a b : Nat) (X y : List Nat) (hX : X.Perm (List.range n)) (hy : y.Perm (List.range n))
    (hb : b < n) :
    (X.filter (keepOf (holeTable n a b y))).length = n - (b + 1 - a) := by
  have h := (kept_append_seg_perm n a b X y hX hy hb).length_eq
  have hl : y.length = n := by simpa using hy.length_eq
  rw [List.length_append, List.length_drop, List.length_take, List.length_range, hl, Nat.min_eq_left (by omega)] at h
  omega

section
variable {α : Type}

theorem take_rotate_seg (l : List α) (a r : Nat) (har : a ≤ r) (hr : r ≤ l.length) :
    (l.rotate r).take (l.length - (r - a)) = l.drop r ++ l.take a := by
  rw [List.rotate_eq_drop_append_take hr, show l.length - (r - a) = (l.drop r).length + a by rw [List.length_drop]; omega,
    List.take_length_add_append, List.take_take, Nat.min_eq_left har]

theorem drop_rotate_seg (l : List α) (a r : Nat) (har : a ≤ r) (hr : r ≤ l.length) :
    (l.rotate r).drop (l.length - (r - a)) = (l.take r).drop a := by
  rw [List.rotate_eq_drop_append_take hr, show l.length - (r - a) = (l.drop r).length + a by rw [List.length_drop]; omega,
    List.drop_length_add_append]

theorem rotate_sliceAssign (lx ly : List α) (a r : Nat) (har : a ≤ r) (hx : r ≤ lx.length) (hy : r ≤ ly.length)
    (hxy : lx.length = ly.length) :
    (sliceAssign lx a r (pySlice ly a r)).rotate r
      = (lx.rotate r).take (lx.length - (r - a)) ++ (ly.rotate r).drop (lx.length - (r - a)) := by
  have hlen : (lx.take a ++ (ly.take r).drop a).length = r := by
    rw [List.length_append, List.length_take, List.length_drop, List.length_take]; omega
  rw [take_rotate_seg lx a r har hx, hxy, drop_rotate_seg ly a r har hy]
  unfold sliceAssign pySlice
  rw [Nat.max_eq_right har]
  conv => lhs; arg 2; rw [← hlen]
  rw [List.rotate_append_length_eq, List.append_assoc]

end

/-- after the filling loops (`lx`, `ly`: the two individuals, through the rotation by `b + 1` "kept genes, then the
rest"), the exchange of `[a, b]` gives individual `x` the kept genes of `x` followed by the segment of `y` -/
theorem ox_assemble (n a b : Nat) (x y lx ly F : List Nat)
    (hx : x.Perm (List.range n)) (hy : y.Perm (List.range n)) (hab : a ≤ b) (hb : b < n)
    (hlx : lx.length = n) (hly : ly.length = n)
    (rx : lx.rotate (b + 1) = (x.rotate (b + 1)).filter (keepOf (holeTable n a b y))
            ++ (x.rotate (b + 1)).drop (n - (b + 1 - a)))
    (hF : F.length = n - (b + 1 - a))
    (ry : ly.rotate (b + 1) = F ++ (y.rotate (b + 1)).drop (n - (b + 1 - a))) :
    (sliceAssign lx a (b + 1) (pySlice ly a (b + 1))).Perm (List.range n) := by
  have hyl : y.length = n := by simpa using hy.length_eq
  have hX : (x.rotate (b + 1)).Perm (List.range n) := (List.rotate_perm x (b + 1)).trans hx
  have hFx := kept_length n a b (x.rotate (b + 1)) y hX hy hb
  have hseg := drop_rotate_seg y a (b + 1) (by omega) (by omega)
  rw [hyl] at hseg
  have key := rotate_sliceAssign lx ly a (b + 1) (by omega) (by omega) (by omega) (by omega)
  rw [hlx, rx, ry, List.take_left' hFx, List.drop_left' hF, hseg] at key
  exact ((List.rotate_perm _ (b + 1)).symm.trans (key ▸ List.Perm.refl _)).trans
    (kept_append_seg_perm n a b (x.rotate (b + 1)) y hX hy hb)

theorem fill_final (n a b : Nat) (x y : List Nat) (hx : x.Perm (List.range n)) (hy : y.Perm (List.range n))
    (hb : b < n) :
    let l := ((List.range n).foldl (oxFillStep n b (holeTable n a b y)) (x, b + 1)).1
    l.length = n ∧
    l.rotate (b + 1) = (x.rotate (b + 1)).filter (keepOf (holeTable n a b y))
        ++ (x.rotate (b + 1)).drop (n - (b + 1 - a)) ∧
    ((x.rotate (b + 1)).filter (keepOf (holeTable n a b y))).length = n - (b + 1 - a) := by
  have hxl : x.length = n := by simpa using hx.length_eq
  have hX : (x.rotate (b + 1)).Perm (List.range n) := (List.rotate_perm x (b + 1)).trans hx
  have hFx := kept_length n a b (x.rotate (b + 1)) y hX hy hb
  obtain ⟨h1, h2, _⟩ := fill_inv n b (holeTable n a b y) x hxl n (Nat.le_refl n)
  have ht : (x.rotate (b + 1)).take n = x.rotate (b + 1) := List.take_of_length_le (by simp [hxl])
  rw [ht, hFx] at h2
  exact ⟨h1, h2, hFx⟩

theorem ox_core (n a b : Nat) (ind1 ind2 : List Nat) (h1 : ind1.Perm (List.range n)) (h2 : ind2.Perm (List.range n))
    (hab : a ≤ b) (hb : b < n) :
    let h := oxHoles n a b ind1 ind2
    let s := (List.range n).foldl (oxStep n b h.1 h.2) ⟨ind1, b + 1, ind2, b + 1⟩
    let fin := (List.range' a (b + 1 - a)).foldl (fun p i => swapAt2 i p) (s.ind1, s.ind2)
    fin.1.Perm (List.range n) ∧ fin.2.Perm (List.range n) := by
  intro h s fin
  obtain ⟨f1l, f1r, f1c⟩ := fill_final n a b ind1 ind2 h1 h2 hb
  obtain ⟨f2l, f2r, f2c⟩ := fill_final n a b ind2 ind1 h2 h1 hb
  have hh : h = (holeTable n a b ind2, holeTable n a b ind1) := oxHoles_eq n a b ind1 ind2
  have e1 : s.ind1 = ((List.range n).foldl (oxFillStep n b (holeTable n a b ind2)) (ind1, b + 1)).1 := by
    show ((List.range n).foldl (oxStep n b h.1 h.2) _).ind1 = _
    rw [hh, oxLoop_eq]
  have e2 : s.ind2 = ((List.range n).foldl (oxFillStep n b (holeTable n a b ind1)) (ind2, b + 1)).1 := by
    show ((List.range n).foldl (oxStep n b h.1 h.2) _).ind2 = _
    rw [hh, oxLoop_eq]
  have hfin := swapRange_eq_sliceAssign a (b + 1 - a) (s.ind1, s.ind2)
    (by rw [e1, f1l]; omega) (by rw [e2, f2l]; omega)
  rw [show a + (b + 1 - a) = b + 1 by omega] at hfin
  show List.Perm (Prod.fst (List.foldl _ _ _)) _ ∧ List.Perm (Prod.snd (List.foldl _ _ _)) _
  rw [hfin, e1, e2]
  exact ⟨ox_assemble n a b ind1 ind2 _ _ _ h1 h2 hab hb f1l f2l f1r f2c f2r,
    ox_assemble n a b ind2 ind1 _ _ _ h2 h1 hab hb f2l f1l f2r f1c f1r⟩

end C09L
