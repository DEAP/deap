/-
C07 — translation invariance of the NSGA-III normalisation + association over ℝ:
adding a constant vector `c` to every objective vector (and to the remembered ideal / worst /
extreme points) moves the ideal point, the worst point, the extreme points and the intercepts by
`c` and leaves the association `(niche, distance)` of every individual unchanged.

The same `solve` is used on both sides: `solve` only ever sees `A = extreme − ideal` and
`b = ones`, and both are unchanged by the translation.
-/
import DeapModel.Lemmas.C07Norm

set_option linter.unusedVariables false

namespace C07L
namespace Transl
open Nsga3

/-- translation of an objective vector by the constant vector `c` -/
def shift (c : List ℝ) (r : List ℝ) : List ℝ := List.zipWith (· + ·) r c

theorem shift_nil (c : List ℝ) : shift c [] = [] := rfl

theorem shift_length_of_le (c r : List ℝ) (h : r.length ≤ c.length) :
    (shift c r).length = r.length := by
  unfold shift
  rw [List.length_zipWith]
  exact Nat.min_eq_left h

/-- a binary operation that commutes with the translation (`min`, `max`): no length hypothesis,
both sides are truncated to the shortest of the three lists. -/
theorem zipWith_shift_comm (f : ℝ → ℝ → ℝ) (hf : ∀ a b c, f (a + c) (b + c) = f a b + c) :
    ∀ (a b c : List ℝ), List.zipWith f (shift c a) (shift c b) = shift c (List.zipWith f a b) := by
  intro a
  induction a with
  | nil => intro b c; rfl
  | cons x xs ih =>
    intro b c
    cases b with
    | nil => simp [shift]
    | cons y ys =>
      cases c with
      | nil => simp [shift]
      | cons z zs =>
        have := ih ys zs
        unfold shift at this ⊢
        simp only [List.zipWith_cons_cons, this, hf]

/-- a binary operation that is invariant under the translation (`−`, `i − b + eps`, `<`): needs one of
the two lists to be no longer than `c` (otherwise the translated side is truncated more). -/
theorem zipWith_shift_cancel {β : Type} (g : ℝ → ℝ → β) (hg : ∀ a b c, g (a + c) (b + c) = g a b) :
    ∀ (b a c : List ℝ), a.length ≤ c.length ∨ b.length ≤ c.length →
      List.zipWith g (shift c a) (shift c b) = List.zipWith g a b := by
  intro b
  induction b with
  | nil => intro a c _; simp [shift]
  | cons y ys ih =>
    intro a c h
    cases a with
    | nil => simp [shift]
    | cons x xs =>
      cases c with
      | nil => simp at h
      | cons z zs =>
        have := ih xs zs (by simpa using h)
        unfold shift at this ⊢
        simp only [List.zipWith_cons_cons, this, hg]

theorem foldl_shift (f : ℝ → ℝ → ℝ) (hf : ∀ a b c, f (a + c) (b + c) = f a b + c) (c : List ℝ) :
    ∀ (rs : List (List ℝ)) (acc : List ℝ),
      (rs.map (shift c)).foldl (fun acc r => List.zipWith f acc r) (shift c acc) =
        shift c (rs.foldl (fun acc r => List.zipWith f acc r) acc) := by
  intro rs
  induction rs with
  | nil => intro acc; rfl
  | cons r rs ih =>
    intro acc
    simp only [List.map_cons, List.foldl_cons]
    rw [zipWith_shift_comm f hf, ih]

theorem colF_shift (f : ℝ → ℝ → ℝ) (hf : ∀ a b c, f (a + c) (b + c) = f a b + c) (c : List ℝ)
    (rows : List (List ℝ)) (mem : List ℝ) :
    colF f (rows.map (shift c)) (shift c mem) = shift c (colF f rows mem) := by
  cases rows with
  | nil => rfl
  | cons r0 rs =>
    rw [List.map_cons, colF_cons, colF_cons]
    have : rs.map (shift c) ++ [shift c mem] = (rs ++ [mem]).map (shift c) := by
      rw [List.map_append]; rfl
    rw [this, foldl_shift f hf]

theorem ite_lt_shift (x y a b c : ℝ) :
    (if @LT.lt ℝ RealLike.toLT (x + c) (y + c) then a + c else b + c) =
      (if @LT.lt ℝ RealLike.toLT x y then a else b) + c := by
  simp only [RealLike.real_lt, add_lt_add_iff_right]; split <;> rfl

theorem colMin_shift (c : List ℝ) (rows : List (List ℝ)) (mem : List ℝ) :
    @Nsga3.colMin ℝ RealLike.toLT RealLike.instDecidableLT (rows.map (shift c)) (shift c mem) =
      shift c (@Nsga3.colMin ℝ RealLike.toLT RealLike.instDecidableLT rows mem) :=
  colF_shift _ (fun a b c => ite_lt_shift b a b a c) c rows mem

theorem colMax_shift (c : List ℝ) (rows : List (List ℝ)) (mem : List ℝ) :
    @Nsga3.colMax ℝ RealLike.toLT RealLike.instDecidableLT (rows.map (shift c)) (shift c mem) =
      shift c (@Nsga3.colMax ℝ RealLike.toLT RealLike.instDecidableLT rows mem) :=
  colF_shift _ (fun a b c => ite_lt_shift a b b a c) c rows mem

theorem idealPoint_shift (c : List ℝ) (fits : List (List ℝ)) (mb : Option (List ℝ)) :
    idealPoint (fits.map (shift c)) (mb.map (shift c)) = shift c (idealPoint fits mb) := by
  cases mb with
  | some m => exact colMin_shift c fits m
  | none =>
    cases fits with
    | nil => rfl
    | cons r rs => exact colMin_shift c rs r

theorem worstPoint_shift (c : List ℝ) (fits : List (List ℝ)) (mw : Option (List ℝ)) :
    worstPoint (fits.map (shift c)) (mw.map (shift c)) = shift c (worstPoint fits mw) := by
  cases mw with
  | some m => exact colMax_shift c fits m
  | none =>
    cases fits with
    | nil => rfl
    | cons r rs => exact colMax_shift c rs r

theorem idealPoint_length (fits : List (List ℝ)) (mb : Option (List ℝ)) (n : Nat)
    (hne : fits ≠ []) (hfits : ∀ r ∈ fits, r.length = n) (hmb : ∀ m, mb = some m → m.length = n) :
    (idealPoint fits mb).length = n := by
  cases mb with
  | some m => rw [(stepSpec_ideal.1 fits m fun r hr => by rw [hfits r hr, hmb m rfl]).1, hmb m rfl]
  | none =>
    cases fits with
    | nil => exact absurd rfl hne
    | cons r0 rs =>
      have h0 := hfits r0 List.mem_cons_self
      rw [(stepSpec_ideal.2 r0 rs fun r hr => by rw [hfits r (List.mem_cons_of_mem _ hr), h0]).1, h0]

theorem sub_shift (c b r : List ℝ) (h : b.length ≤ c.length) :
    List.zipWith (fun x y => @HSub.hSub ℝ ℝ ℝ (@instHSub ℝ RealLike.toSub) x y) (shift c r) (shift c b) =
      List.zipWith (fun x y => @HSub.hSub ℝ ℝ ℝ (@instHSub ℝ RealLike.toSub) x y) r b :=
  zipWith_shift_cancel _ (fun a b c => by simp only [RealLike.real_sub]; ring) b r c (Or.inr h)

theorem map_sub_shift (c best : List ℝ) (rows : List (List ℝ)) (h : best.length ≤ c.length) :
    (rows.map (shift c)).map (fun r => List.zipWith (· - ·) r (shift c best)) =
      rows.map (fun r => List.zipWith (· - ·) r best) := by
  rw [List.map_map]
  apply List.map_congr_left
  intro r _
  exact sub_shift c best r h

theorem findExtremePoints_shift (c best : List ℝ) (fits : List (List ℝ))
    (me : Option (List (List ℝ))) (h : best.length ≤ c.length) :
    findExtremePoints (fits.map (shift c)) (shift c best) (me.map (List.map (shift c))) =
      (findExtremePoints fits best me).map (shift c) := by
  have key : ∀ rows : List (List ℝ),
      (List.range (shift c best).length).map (fun j =>
        (rows.map (shift c)).getD (argminIdx
          (((rows.map (shift c)).map (fun r => List.zipWith (· - ·) r (shift c best))).map
            (asf (shift c best).length j))) []) =
      ((List.range best.length).map (fun j =>
        rows.getD (argminIdx ((rows.map (fun r => List.zipWith (· - ·) r best)).map
          (asf best.length j))) [])).map (shift c) := by
    intro rows
    rw [map_sub_shift c best rows h, shift_length_of_le c best h, List.map_map]
    apply List.map_congr_left
    intro j _
    have := @List.getD_map _ _ rows [] (argminIdx ((rows.map (fun r => List.zipWith (· - ·) r best)).map
          (asf best.length j))) (shift c)
    rw [shift_nil] at this
    exact this
  cases me with
  | none => exact key fits
  | some e =>
    have := key (fits ++ e)
    rw [List.map_append] at this
    exact this

theorem add_shift : ∀ (ic best c : List ℝ),
    List.zipWith (fun x y => @HAdd.hAdd ℝ ℝ ℝ (@instHAdd ℝ RealLike.toAdd) x y) ic (shift c best) =
      shift c (List.zipWith (fun x y => @HAdd.hAdd ℝ ℝ ℝ (@instHAdd ℝ RealLike.toAdd) x y) ic best) := by
  intro ic
  induction ic with
  | nil => intro best c; rfl
  | cons i is ih =>
    intro best c
    cases best with
    | nil => simp [shift]
    | cons b bs =>
      cases c with
      | nil => simp [shift]
      | cons z zs =>
        have := ih bs zs
        unfold shift at this ⊢
        simp only [List.zipWith_cons_cons, this, RealLike.real_add, add_assoc]

theorem guard_shift (ic best worst c : List ℝ) (h : best.length ≤ c.length) :
    List.zipWith (fun (s w : ℝ) => decide (@LT.lt ℝ RealLike.toLT w s))
        (List.zipWith (fun x y => @HAdd.hAdd ℝ ℝ ℝ (@instHAdd ℝ RealLike.toAdd) x y) ic (shift c best))
        (shift c worst) =
      List.zipWith (fun (s w : ℝ) => decide (@LT.lt ℝ RealLike.toLT w s))
        (List.zipWith (fun x y => @HAdd.hAdd ℝ ℝ ℝ (@instHAdd ℝ RealLike.toAdd) x y) ic best) worst := by
  rw [add_shift]
  exact zipWith_shift_cancel _
    (fun a b c => by simp only [RealLike.real_lt]; exact decide_eq_decide.2 (add_lt_add_iff_right c))
    worst _ c (Or.inl (by rw [List.length_zipWith]; omega))

theorem acceptIntercepts_shift (A : List (List ℝ)) (x best worst c : List ℝ)
    (h : best.length ≤ c.length) :
    acceptIntercepts A x (shift c best) (shift c worst) = acceptIntercepts A x best worst := by
  unfold acceptIntercepts
  simp only []
  rw [guard_shift _ best worst c h]

theorem findIntercepts_shift (solve : List (List ℝ) → List ℝ → Option (List ℝ))
    (extreme : List (List ℝ)) (best worst fw c : List ℝ) (h : best.length ≤ c.length) :
    findIntercepts solve (extreme.map (shift c)) (shift c best) (shift c worst) (shift c fw) =
      shift c (findIntercepts solve extreme best worst fw) := by
  unfold findIntercepts
  simp only []
  rw [map_sub_shift c best extreme h, shift_length_of_le c best h]
  cases solve (extreme.map (fun r => List.zipWith (· - ·) r best))
      (List.replicate best.length (RealLike.ofNat 1 : ℝ)) with
  | none => rfl
  | some x =>
    simp only []
    rw [acceptIntercepts_shift _ x best worst c h]
    by_cases hz : x.any isZero = true
    · rw [if_pos hz, if_pos hz]
    · rw [if_neg hz, if_neg hz]
      by_cases ha : acceptIntercepts (extreme.map (fun r => List.zipWith (· - ·) r best)) x best worst = true
      · rw [if_pos ha, if_pos ha]
        exact add_shift _ best c
      · rw [if_neg ha, if_neg ha]

theorem normalise_shift (best ic f c : List ℝ) (h : best.length ≤ c.length) :
    normalise (shift c best) (shift c ic) (shift c f) = normalise best ic f := by
  unfold normalise
  rw [sub_shift c best f h]
  congr 1
  exact zipWith_shift_cancel _ (fun a b c => by simp only [RealLike.real_sub, RealLike.real_add]; ring)
    best ic c (Or.inr h)

theorem associate1_shift (refs : List (List ℝ)) (best ic f c : List ℝ) (h : best.length ≤ c.length) :
    associate1 refs (shift c best) (shift c ic) (shift c f) = associate1 refs best ic f := by
  unfold associate1
  rw [normalise_shift best ic f c h]

theorem associate_shift (fits refs : List (List ℝ)) (best ic c : List ℝ)
    (h : best.length ≤ c.length) :
    associate (fits.map (shift c)) refs (shift c best) (shift c ic) = associate fits refs best ic := by
  unfold associate
  rw [List.map_map]
  apply List.map_congr_left
  intro f _
  exact associate1_shift refs best ic f c h

theorem normalisation_shift (solve : List (List ℝ) → List ℝ → Option (List ℝ))
    (fits : List (List ℝ)) (c : List ℝ) (mb mw : Option (List ℝ)) (me : Option (List (List ℝ)))
    (h : (idealPoint fits mb).length ≤ c.length) :
    normalisation solve (fits.map (shift c)) (mb.map (shift c)) (mw.map (shift c))
        (me.map (List.map (shift c))) =
      (shift c (normalisation solve fits mb mw me).1,
       shift c (normalisation solve fits mb mw me).2.1,
       (normalisation solve fits mb mw me).2.2.1.map (shift c),
       shift c (normalisation solve fits mb mw me).2.2.2) := by
  unfold normalisation
  simp only []
  rw [idealPoint_shift, worstPoint_shift, show colMax0 (fits.map (shift c)) = shift c (colMax0 fits) from
    worstPoint_shift c fits none, findExtremePoints_shift c _ fits me h,
    findIntercepts_shift solve _ _ _ _ c h]

/-- translation invariance of the association, under the only hypothesis actually used: the ideal
point is no longer than `c`. -/
theorem association_translation_invariant_of_le
    (solve : List (List ℝ) → List ℝ → Option (List ℝ))
    (fits refs : List (List ℝ)) (c : List ℝ)
    (mb mw : Option (List ℝ)) (me : Option (List (List ℝ)))
    (h : (idealPoint fits mb).length ≤ c.length) :
    let n  := Nsga3.normalisation solve fits mb mw me
    let n' := Nsga3.normalisation solve (fits.map (shift c)) (mb.map (shift c)) (mw.map (shift c))
                (me.map (List.map (shift c)))
    Nsga3.associate (fits.map (shift c)) refs n'.1 n'.2.2.2 = Nsga3.associate fits refs n.1 n.2.2.2 := by
  intro n n'
  have e : n' = (shift c n.1, shift c n.2.1, n.2.2.1.map (shift c), shift c n.2.2.2) :=
    normalisation_shift solve fits c mb mw me h
  rw [e]
  exact associate_shift fits refs n.1 n.2.2.2 c h

/-- **Translation invariance of the NSGA-III association.**  Translating every objective vector
and the whole memory (remembered ideal point, worst point, extreme points) by a constant vector
`c` leaves the association `(niche, distance)` of every individual unchanged — with the *same*
`solve` on both sides and no assumption on it. -/
theorem association_translation_invariant
    (solve : List (List ℝ) → List ℝ → Option (List ℝ))
    (fits refs : List (List ℝ)) (c : List ℝ)
    (mb mw : Option (List ℝ)) (me : Option (List (List ℝ)))
    (hne : fits ≠ [])
    (hfits : ∀ r ∈ fits, r.length = c.length)
    (hmb : ∀ m, mb = some m → m.length = c.length)
    (hmw : ∀ m, mw = some m → m.length = c.length)
    (hme : ∀ e, me = some e → ∀ r ∈ e, r.length = c.length) :
    let n  := Nsga3.normalisation solve fits mb mw me
    let n' := Nsga3.normalisation solve (fits.map (shift c)) (mb.map (shift c)) (mw.map (shift c))
                (me.map (List.map (shift c)))
    Nsga3.associate (fits.map (shift c)) refs n'.1 n'.2.2.2 = Nsga3.associate fits refs n.1 n.2.2.2 :=
  association_translation_invariant_of_le solve fits refs c mb mw me
    (le_of_eq (idealPoint_length fits mb c.length hne hfits hmb))

example (solve : List (List ℝ) → List ℝ → Option (List ℝ)) (refs : List (List ℝ)) :
    let fits : List (List ℝ) := [[1, 2], [3, 0]]
    let c : List ℝ := [5, 7]
    let n  := Nsga3.normalisation solve fits none none none
    let n' := Nsga3.normalisation solve (fits.map (shift c)) none none none
    Nsga3.associate (fits.map (shift c)) refs n'.1 n'.2.2.2 = Nsga3.associate fits refs n.1 n.2.2.2 :=
  association_translation_invariant solve [[1, 2], [3, 0]] refs [5, 7] none none none
    (by simp) (by simp) (by simp) (by simp) (by simp)

end Transl
end C07L
