/-
C04 lemmas: correctness of the two 2-objective sweeps of the log-time sort.  Both keep "stairs": a
list of processed fitnesses, descending in the second objective, such that every processed fitness
is covered by a stair of at least its rank and at least its second objective (`BInv`; kept by
`BInv.insert`, used through `BInv.query`).
`sweepA` raises every fitness by its dominators among the earlier ones; `sweepB` raises every
fitness of `worst` by the fitnesses of `best` that are at least as good on the first two objectives.
-/
import DeapModel.Lemmas.C04LogOrder
import DeapModel.Lemmas.ListCore

set_option linter.unusedSectionVars false

namespace C04L
open NDSort

variable {α : Type} [Field α] [LinearOrder α] [IsStrictOrderedRing α] [Inhabited α]

theorem bisectRightBin_spec (a : List α) (x : α) (hs : a.Pairwise (· ≤ ·)) (lo hi : Nat) :
    lo ≤ hi → hi ≤ a.length → (∀ j, j < lo → a.getD j default ≤ x) →
    (∀ j, hi ≤ j → j < a.length → x < a.getD j default) →
    lo ≤ bisectRightBin a x lo hi ∧ bisectRightBin a x lo hi ≤ hi ∧
    (∀ j, j < bisectRightBin a x lo hi → a.getD j default ≤ x) ∧
    (∀ j, bisectRightBin a x lo hi ≤ j → j < a.length → x < a.getD j default) := by
  have hmono : ∀ i j, i ≤ j → j < a.length → a.getD i default ≤ a.getD j default := by
    intro i j hij hj
    have hi' : i < a.length := lt_of_le_of_lt hij hj
    simp only [List.getD_eq_getElem?_getD, List.getElem?_eq_getElem hi', List.getElem?_eq_getElem hj,
      Option.getD_some]
    by_cases e : i = j
    · subst e; exact le_refl _
    · exact List.pairwise_iff_getElem.1 hs i j hi' hj (lt_of_le_of_ne hij e)
  fun_induction bisectRightBin a x lo hi
  case case1 lo hi hlt mid hx ih =>
    intro h1 h2 h3 h4
    obtain ⟨m1, m2⟩ : lo ≤ mid ∧ mid < hi := Nat.mid_bounds hlt
    have hmid : mid < a.length := lt_of_lt_of_le m2 h2
    obtain ⟨r1, r2, r3, r4⟩ := ih m1 (le_of_lt hmid) h3 (by
      intro j hj hjl
      exact lt_of_lt_of_le hx (hmono mid j hj hjl))
    exact ⟨r1, le_trans r2 (le_of_lt m2), r3, r4⟩
  case case2 lo hi hlt mid hx ih =>
    intro h1 h2 h3 h4
    obtain ⟨m1, m2⟩ : lo ≤ mid ∧ mid < hi := Nat.mid_bounds hlt
    have hmid : mid < a.length := lt_of_lt_of_le m2 h2
    obtain ⟨r1, r2, r3, r4⟩ := ih m2 h2 (by
      intro j hj
      exact le_trans (hmono j mid (Nat.le_of_lt_succ hj) hmid) (not_lt.1 hx)) h4
    exact ⟨le_trans m1 (le_trans (Nat.le_succ _) r1), r2, r3, r4⟩
  case case3 lo hi hlt =>
    intro h1 h2 h3 h4
    have : lo = hi := le_antisymm h1 (not_lt.1 hlt)
    subst this
    exact ⟨le_refl _, le_refl _, h3, h4⟩

theorem bisectRight_spec (a : List α) (x : α) (hs : a.Pairwise (· ≤ ·)) :
    bisectRight a x ≤ a.length ∧ (∀ y ∈ a.take (bisectRight a x), y ≤ x) ∧
    (∀ y ∈ a.drop (bisectRight a x), x < y) := by
  obtain ⟨_, r2, r3, r4⟩ := bisectRightBin_spec a x hs 0 a.length (by omega) (le_refl _)
    (by intro j hj; omega) (by intro j h1 h2; omega)
  refine ⟨r2, fun y hy => ?_, fun y hy => ?_⟩
  · obtain ⟨j, hj, rfl⟩ := List.mem_take_iff_getElem.1 hy
    have := r3 j (by unfold bisectRight at hj; omega)
    rwa [List.getD_eq_getElem?_getD, List.getElem?_eq_getElem (by omega), Option.getD_some] at this
  · obtain ⟨j, hj, rfl⟩ := List.mem_iff_getElem.1 hy
    rw [List.length_drop] at hj
    have := r4 (bisectRight a x + j) (Nat.le_add_right _ _) (by omega)
    rwa [List.getD_eq_getElem?_getD, List.getElem?_eq_getElem (by omega), Option.getD_some,
      ← List.getElem_drop] at this

/-- the key under which a fitness sits in `stairs` -/
def neg1 (s : List α) : α := -(nth s 1)

def swIdx (Z : List (List α)) (fit : List α) : Nat := bisectRight (Z.map neg1) (-(nth fit 1))

theorem swIdx_spec (Z : List (List α)) (fit : List α) (hs : Z.Pairwise (fun a b => nth b 1 ≤ nth a 1)) :
    swIdx Z fit ≤ Z.length ∧ (∀ s ∈ Z.take (swIdx Z fit), nth fit 1 ≤ nth s 1) ∧
    (∀ s ∈ Z.drop (swIdx Z fit), nth s 1 < nth fit 1) := by
  obtain ⟨r1, r2, r3⟩ := bisectRight_spec (Z.map neg1) (-(nth fit 1))
    (List.pairwise_map.2 (hs.imp fun h => neg_le_neg h))
  rw [← List.map_take] at r2; rw [← List.map_drop] at r3
  rw [List.length_map] at r1
  exact ⟨r1, fun s hs => le_of_neg_le_neg (r2 _ (List.mem_map_of_mem hs)),
    fun s hs => lt_of_neg_lt_neg (r3 _ (List.mem_map_of_mem hs))⟩

/-- the `front` dictionary after the rank update of `sweepAStep` / of the loop body of `sweepB`:
`fit` is raised above the best-ranked stair left of its insertion point -/
def swFront (Z : List (List α)) (front : FrontDict α) (fit : List α) : FrontDict α :=
  if 0 < swIdx Z fit ∧ swIdx Z fit ≤ (Z.map neg1).length then
    match pyMaxBy (fun f => dget front 0 f) (Z.take (swIdx Z fit)) with
    | some t => bump front fit t
    | none => front
  else front

theorem swFront_ne (Z : List (List α)) (front : FrontDict α) (fit f : List α) (h : f ≠ fit) :
    dget (swFront Z front fit) 0 f = dget front 0 f := by
  unfold swFront
  split
  · split
    · rw [bump, dget_dset_ne _ _ _ (fun e => h e.symm)]
    · rfl
  · rfl

theorem swFront_fit (Z : List (List α)) (front : FrontDict α) (fit : List α) (hidx : swIdx Z fit ≤ Z.length)
    (n : Nat) : dget (swFront Z front fit) 0 fit ≤ n ↔
      dget front 0 fit ≤ n ∧ ∀ s ∈ Z.take (swIdx Z fit), dget front 0 s + 1 ≤ n := by
  unfold swFront
  by_cases h0 : 0 < swIdx Z fit
  · rw [if_pos ⟨h0, by simpa using hidx⟩]
    have hne : Z.take (swIdx Z fit) ≠ [] := by
      intro e
      have hl : (Z.take (swIdx Z fit)).length = swIdx Z fit := by rw [List.length_take]; omega
      rw [e] at hl; simp at hl; omega
    obtain ⟨t, ht⟩ := pyMaxBy_isSome (fun f => dget front 0 f) hne
    obtain ⟨t1, t2⟩ := pyMaxBy_spec _ ht
    rw [ht]
    simp only [bump, dget_dset_self]
    constructor
    · intro h
      refine ⟨by omega, fun s hs => ?_⟩
      have := t2 s hs; omega
    · rintro ⟨h1, h2⟩
      have := h2 t t1; omega
  · rw [if_neg (fun h => h0 h.1)]
    have : swIdx Z fit = 0 := by omega
    simp [this]

/-- stairs invariant: `Z` are the stairs after the fitnesses `C` have been consumed, under the ranks `rk` -/
structure BInv (rk : List α → Nat) (C Z : List (List α)) : Prop where
  sorted : Z.Pairwise (fun a b => nth b 1 ≤ nth a 1)
  sub : ∀ s ∈ Z, s ∈ C
  cover : ∀ g ∈ C, ∃ s ∈ Z, rk g ≤ rk s ∧ nth g 1 ≤ nth s 1

theorem BInv.congr {rk rk' : List α → Nat} {C Z : List (List α)} (inv : BInv rk C Z)
    (h : ∀ g ∈ C, rk' g = rk g) : BInv rk' C Z :=
  ⟨inv.sorted, inv.sub, fun g hg => by
    obtain ⟨s, hs, c1, c2⟩ := inv.cover g hg
    exact ⟨s, hs, by rw [h g hg, h s (inv.sub s hs)]; exact c1, c2⟩⟩

theorem BInv.skip {rk : List α → Nat} {C Z : List (List α)} (inv : BInv rk C Z) (x : List α)
    (hx : ∃ s ∈ Z, rk x ≤ rk s ∧ nth x 1 ≤ nth s 1) : BInv rk (C ++ [x]) Z := by
  refine ⟨inv.sorted, fun s hs => List.mem_append_left _ (inv.sub s hs), fun g hg => ?_⟩
  rcases List.mem_append.1 hg with hg | hg
  · exact inv.cover g hg
  · rw [List.mem_singleton] at hg; exact hg ▸ hx

/-- A new stair `x` is put between the stairs `A` above it and the stairs `B` below it; the stairs
dropped on the way (`sweepA`: one right of the insertion point, `sweepB`: one anywhere) are covered
by `x`. -/
theorem BInv.insert {rk : List α → Nat} {C Z : List (List α)} (inv : BInv rk C Z) (x : List α)
    (A B : List (List α)) (hsub : (A ++ B).Sublist Z) (hA : ∀ s ∈ A, nth x 1 ≤ nth s 1)
    (hB : ∀ s ∈ B, nth s 1 ≤ nth x 1) (hdrop : ∀ t ∈ Z, t ∉ A ++ B → rk t ≤ rk x ∧ nth t 1 ≤ nth x 1) :
    BInv rk (C ++ [x]) (A ++ x :: B) := by
  have hmem : ∀ s, s ∈ A ++ x :: B ↔ s = x ∨ s ∈ A ++ B := fun s => by
    rw [List.mem_append, List.mem_cons, List.mem_append, or_left_comm]
  obtain ⟨pA, pB, pAB⟩ := List.pairwise_append.1 (inv.sorted.sublist hsub)
  refine ⟨List.pairwise_append.2 ⟨pA, List.pairwise_cons.2 ⟨hB, pB⟩, fun a ha b hb => ?_⟩, fun s hs => ?_,
    fun g hg => ?_⟩
  · rcases List.mem_cons.1 hb with rfl | hb
    · exact hA a ha
    · exact pAB a ha b hb
  · rcases (hmem s).1 hs with rfl | h
    · simp
    · exact List.mem_append_left _ (inv.sub s (hsub.subset h))
  · rcases List.mem_append.1 hg with hg | hg
    · obtain ⟨s, hs, c1, c2⟩ := inv.cover g hg
      by_cases hin : s ∈ A ++ B
      · exact ⟨s, (hmem s).2 (Or.inr hin), c1, c2⟩
      · exact ⟨x, (hmem x).2 (Or.inl rfl), le_trans c1 (hdrop s hs hin).1, le_trans c2 (hdrop s hs hin).2⟩
    · rw [List.mem_singleton] at hg
      exact ⟨x, (hmem x).2 (Or.inl rfl), hg ▸ le_refl _, hg ▸ le_refl _⟩

theorem BInv.insert_at {rk : List α → Nat} {C Z Z' : List (List α)} (inv : BInv rk C Z) (x : List α)
    (hsub : Z'.Sublist Z) (hdrop : ∀ t ∈ Z, t ∉ Z' → rk t ≤ rk x ∧ nth t 1 ≤ nth x 1) :
    BInv rk (C ++ [x]) (Z'.take (swIdx Z' x) ++ x :: Z'.drop (swIdx Z' x)) := by
  obtain ⟨-, b2, b3⟩ := swIdx_spec Z' x (inv.sorted.sublist hsub)
  have e := List.take_append_drop (swIdx Z' x) Z'
  exact inv.insert x _ _ (e.symm ▸ hsub) b2 (fun s hs => le_of_lt (b3 s hs)) (e.symm ▸ hdrop)

/-- the stairs left of the insertion point of `x` carry the largest rank among the consumed
fitnesses at least as good as `x` on objective 1 -/
theorem BInv.query {rk : List α → Nat} {C Z : List (List α)} (inv : BInv rk C Z) (x : List α) (n : Nat) :
    (∀ s ∈ Z.take (swIdx Z x), rk s + 1 ≤ n) ↔ ∀ g ∈ C, nth x 1 ≤ nth g 1 → rk g + 1 ≤ n := by
  obtain ⟨-, b2, b3⟩ := swIdx_spec Z x inv.sorted
  refine ⟨fun h g hg hge => ?_, fun h s hs => h s (inv.sub s ((List.take_sublist _ _).subset hs)) (b2 s hs)⟩
  obtain ⟨s, hs, c1, c2⟩ := inv.cover g hg
  rw [← List.take_append_drop (swIdx Z x) Z] at hs
  rcases List.mem_append.1 hs with hsA | hsB
  · exact le_trans (Nat.succ_le_succ c1) (h s hsA)
  · exact absurd (b3 s hsB) (not_lt.2 (le_trans hge c2))

/-- the rank update of both sweeps: `x` is raised above every consumed fitness at least as good on
objective 1 -/
theorem swFront_query {C Z : List (List α)} {front : FrontDict α} (inv : BInv (fun f => dget front 0 f) C Z)
    (x : List α) (n : Nat) : dget (swFront Z front x) 0 x ≤ n ↔
      dget front 0 x ≤ n ∧ ∀ g ∈ C, nth x 1 ≤ nth g 1 → dget front 0 g + 1 ≤ n := by
  rw [swFront_fit Z front x (swIdx_spec Z x inv.sorted).1 n]
  exact and_congr_right fun _ => inv.query x n

theorem keys_swFront (Z : List (List α)) (front : FrontDict α) (x : List α) (hx : x ∈ dkeys front) :
    dkeys (swFront Z front x) = dkeys front :=
  keys_stairs_bump front ⟨Z.map neg1, Z⟩ (swIdx Z x) x hx

/-- the rank update of both sweeps as an `Upd`: sources are the consumed fitnesses -/
theorem Upd.query {C Z : List (List α)} {front : FrontDict α} (inv : BInv (fun f => dget front 0 f) C Z)
    (x : List α) (hx : x ∉ C) : Upd (fun g t => nth t 1 ≤ nth g 1) C [x] front (swFront Z front x) :=
  Upd.of_old (fun hk => keys_swFront Z front x (hk x (by simp))) (fun a ha hc => hx (List.mem_singleton.1 hc ▸ ha))
    ⟨fun f hf => swFront_ne Z front x f (by simpa using hf), fun t ht n => by
      rw [List.mem_singleton] at ht; subst ht; exact swFront_query inv t n⟩

/-- `sweepBInsert` on the list of stair fitnesses, with the ranks given by `rk` -/
def bInsert (rk : List α → Nat) (Z : List (List α)) (nb : List α) : List (List α) :=
  match Z.findIdx? (fun f => rk f == rk nb) with
  | some i =>
    if nth nb 1 < nth (Z.getD i []) 1 then Z
    else (Z.eraseIdx i).take (swIdx (Z.eraseIdx i) nb) ++ nb :: (Z.eraseIdx i).drop (swIdx (Z.eraseIdx i) nb)
  | none => Z.take (swIdx Z nb) ++ nb :: Z.drop (swIdx Z nb)

theorem insertAt_map (Z : List (List α)) (i : Nat) (x : List α) :
    Py.insertAt (Z.map neg1) i (neg1 x) = (Z.take i ++ x :: Z.drop i).map neg1 := by
  simp [Py.insertAt]

/-- the stairs right of the insertion point after the deletion of `sweepAStep` -/
def swRest (Z : List (List α)) (front : FrontDict α) (fit : List α) : List (List α) :=
  match (Z.drop (swIdx Z fit)).findIdx?
      (fun f => dget (swFront Z front fit) 0 f == dget (swFront Z front fit) 0 fit) with
  | some j => (Z.drop (swIdx Z fit)).eraseIdx j
  | none => Z.drop (swIdx Z fit)

theorem eraseIdx_add {γ : Type} (l : List γ) (i j : Nat) (h : i ≤ l.length) :
    l.eraseIdx (i + j) = l.take i ++ (l.drop i).eraseIdx j := by
  have := List.eraseIdx_append_of_length_le (l := l.take i) (k := i + j) (by simp) (l.drop i)
  rw [List.take_append_drop] at this
  rw [this]; simp [Nat.min_eq_left h]

theorem insertAt_append {γ : Type} (A B : List γ) (x : γ) :
    Py.insertAt (A ++ B) A.length x = A ++ x :: B := by
  simp [Py.insertAt]

theorem sweepAStep_eq (Z : List (List α)) (front : FrontDict α) (fit : List α) (hidx : swIdx Z fit ≤ Z.length) :
    sweepAStep (⟨Z.map neg1, Z⟩, front) fit =
      (⟨(Z.take (swIdx Z fit) ++ fit :: swRest Z front fit).map neg1,
        Z.take (swIdx Z fit) ++ fit :: swRest Z front fit⟩, swFront Z front fit) := by
  have hlenA : (Z.take (swIdx Z fit)).length = swIdx Z fit := List.length_take_of_le hidx
  -- the stairs after the deletion, then the insertion
  have key : ∀ S : Stairs α, S = (match (Z.drop (swIdx Z fit)).findIdx?
        (fun f => dget (swFront Z front fit) 0 f == dget (swFront Z front fit) 0 fit) with
      | some j => { stairs := (Z.map neg1).eraseIdx (swIdx Z fit + j), fstairs := Z.eraseIdx (swIdx Z fit + j) }
      | none => ⟨Z.map neg1, Z⟩) →
      sweepAStep (⟨Z.map neg1, Z⟩, front) fit = (⟨Py.insertAt S.stairs (swIdx Z fit) (neg1 fit),
        Py.insertAt S.fstairs (swIdx Z fit) fit⟩, swFront Z front fit) := by
    rintro _ rfl; rfl
  rw [key ⟨(Z.take (swIdx Z fit) ++ swRest Z front fit).map neg1, Z.take (swIdx Z fit) ++ swRest Z front fit⟩]
  · have h1 := insertAt_append (Z.take (swIdx Z fit)) (swRest Z front fit) fit
    have h2 := insertAt_append ((Z.take (swIdx Z fit)).map neg1) ((swRest Z front fit).map neg1) (neg1 fit)
    rw [List.length_map, hlenA] at h2; rw [hlenA] at h1
    simp only [List.map_append, h1, h2, List.map_cons]
  · unfold swRest
    cases (Z.drop (swIdx Z fit)).findIdx?
        (fun f => dget (swFront Z front fit) 0 f == dget (swFront Z front fit) 0 fit) with
    | none => simp only []; rw [List.take_append_drop]
    | some j => simp only []; rw [List.eraseIdx_map, eraseIdx_add Z _ _ hidx]

/-- What holds after `sweepA` has processed the prefix `P`: `Z` are the stairs (ordered by the
second objective, all taken from `P`, every processed fitness is covered by a stair of at least its
rank and at least its second objective), the processed fitnesses have their final rank. -/
structure SwInv (front0 : FrontDict α) (P Z : List (List α)) (front : FrontDict α) : Prop where
  sorted : Z.Pairwise (fun a b => nth b 1 ≤ nth a 1)
  sub : ∀ s ∈ Z, s ∈ P
  cover : ∀ g ∈ P, ∃ s ∈ Z, dget front 0 g ≤ dget front 0 s ∧ nth g 1 ≤ nth s 1
  eqs : ∀ g ∈ P, Raised (fun f => dget front 0 f) (fun f => dget front0 0 f) g (fun g' => g' ∈ P ∧ domOn 2 g' g)
  frame : ∀ f, f ∉ P → dget front 0 f = dget front0 0 f

theorem SwInv.toBInv {front0 : FrontDict α} {P Z : List (List α)} {front : FrontDict α}
    (inv : SwInv front0 P Z front) : BInv (fun f => dget front 0 f) P Z :=
  ⟨inv.sorted, inv.sub, inv.cover⟩

theorem swRest_sublist (Z : List (List α)) (front : FrontDict α) (fit : List α) :
    (swRest Z front fit).Sublist (Z.drop (swIdx Z fit)) := by
  unfold swRest
  split
  · exact List.eraseIdx_sublist _ _
  · exact List.Sublist.refl _

theorem swRest_removed (Z : List (List α)) (front : FrontDict α) (fit t : List α)
    (ht : t ∈ Z.drop (swIdx Z fit)) (hn : t ∉ swRest Z front fit) :
    dget (swFront Z front fit) 0 t = dget (swFront Z front fit) 0 fit := by
  unfold swRest at hn
  split at hn
  · next j hj =>
    obtain ⟨hjl, hp, _⟩ := List.findIdx?_eq_some_iff_getElem.1 hj
    obtain ⟨i, hi, rfl⟩ := List.mem_iff_getElem.1 ht
    by_cases e : i = j
    · subst e; simpa using hp
    · exact absurd (List.mem_eraseIdx_iff_getElem.2 ⟨i, hi, e, rfl⟩) hn
  · exact absurd ht hn

theorem swInv_step (front0 : FrontDict α) (P Z : List (List α)) (front : FrontDict α) (fit : List α)
    (inv : SwInv front0 P Z front) (hfit : fit ∉ P) (hlex : ∀ g ∈ P, lex2 g fit) :
    SwInv front0 (P ++ [fit]) (Z.take (swIdx Z fit) ++ fit :: swRest Z front fit) (swFront Z front fit) := by
  obtain ⟨b1, b2, b3⟩ := swIdx_spec Z fit inv.sorted
  have hZ : Z.take (swIdx Z fit) ++ Z.drop (swIdx Z fit) = Z := List.take_append_drop _ _
  have hR : ∀ g ∈ P, dget (swFront Z front fit) 0 g = dget front 0 g :=
    fun g hg => swFront_ne Z front fit g (fun e => hfit (e ▸ hg))
  have hfit0 : dget front 0 fit = dget front0 0 fit := inv.frame fit hfit
  have hB := (inv.toBInv.congr (rk' := fun f => dget (swFront Z front fit) 0 f) hR).insert fit
    (Z.take (swIdx Z fit)) (swRest Z front fit)
    (by have := (swRest_sublist Z front fit).append_left (Z.take (swIdx Z fit)); rwa [hZ] at this) b2
    (fun s hs => le_of_lt (b3 s ((swRest_sublist Z front fit).subset hs)))
    (fun t ht hn => by
      rw [← hZ] at ht
      rcases List.mem_append.1 ht with h | h
      · exact absurd (List.mem_append_left _ h) hn
      · exact ⟨le_of_eq (swRest_removed Z front fit t h fun h' => hn (List.mem_append_right _ h')),
          le_of_lt (b3 t h)⟩)
  refine ⟨hB.sorted, hB.sub, hB.cover, ?_, ?_⟩
  · intro g hg
    rcases List.mem_append.1 hg with hg | hg
    · refine (inv.eqs g hg).congr (hR g hg) rfl (fun g' => ⟨fun ⟨hm, hd⟩ => ?_, fun ⟨hm, hd⟩ =>
        ⟨List.mem_append_left _ hm, hd⟩⟩) (fun g' hg' => hR g' hg'.1)
      rcases List.mem_append.1 hm with hm | hm
      · exact ⟨hm, hd⟩
      · rw [List.mem_singleton] at hm
        exact absurd (hm ▸ hd) (not_domOn_two_of_lex2 (hlex g hg))
    · simp only [List.mem_singleton] at hg; subst hg
      intro n
      simp only []
      rw [swFront_query inv.toBInv g n, hfit0]
      -- among the earlier fitnesses the dominators of `g` are those at least as good on objective 1
      refine and_congr_right fun _ => ⟨fun h2 g' ⟨hm, hd⟩ => ?_, fun h2 s hs hge =>
        hR s hs ▸ h2 s ⟨List.mem_append_left _ hs, (domOn_two_of_lex2 (hlex s hs)).2 hge⟩⟩
      rcases List.mem_append.1 hm with hm | hm
      · rw [hR g' hm]; exact h2 g' hm ((domOn_two_of_lex2 (hlex g' hm)).1 hd)
      · exact absurd (List.mem_singleton.1 hm ▸ hd) (domOn_irrefl 2 g)
  · intro f hf
    rw [swFront_ne Z front fit f (fun e => hf (by simp [e]))]
    exact inv.frame f (fun h => hf (List.mem_append_left _ h))

theorem sweepA_fold (front0 : FrontDict α) : ∀ (rest P Z : List (List α)) (front : FrontDict α),
    SwInv front0 P Z front → (P ++ rest).Pairwise lex2 →
    ∃ Z', (rest.foldl sweepAStep (⟨Z.map neg1, Z⟩, front)).1 = ⟨Z'.map neg1, Z'⟩ ∧
      SwInv front0 (P ++ rest) Z' (rest.foldl sweepAStep (⟨Z.map neg1, Z⟩, front)).2
  | [], P, Z, front, inv, _ => ⟨Z, rfl, by simpa using inv⟩
  | fit :: rest, P, Z, front, inv, hp => by
    have hp' := List.pairwise_append.1 hp
    have hlex : ∀ g ∈ P, lex2 g fit := fun g hg => hp'.2.2 g hg fit (by simp)
    have hfit : fit ∉ P := fun h => lex2_irrefl fit (hlex fit h)
    have hidx := (swIdx_spec Z fit inv.sorted).1
    have inv' := swInv_step front0 P Z front fit inv hfit hlex
    simp only [List.foldl_cons]
    rw [sweepAStep_eq Z front fit hidx]
    have := sweepA_fold front0 rest (P ++ [fit]) _ _ inv' (by simpa using hp)
    simpa using this

theorem sweepA_spec (S : List (List α)) (front0 : FrontDict α) (hs : S.Pairwise lex2) :
    (∀ f, f ∉ S → dget (sweepA S front0) 0 f = dget front0 0 f) ∧
    ∀ f ∈ S, Raised (fun f => dget (sweepA S front0) 0 f) (fun f => dget front0 0 f) f
      (fun g => g ∈ S ∧ domOn 2 g f) := by
  cases S with
  | nil => exact ⟨fun f _ => rfl, fun f hf => by simp at hf⟩
  | cons f0 rest =>
    have inv0 : SwInv front0 [f0] [f0] front0 := by
      refine ⟨by simp, by simp, fun g hg => ⟨g, hg, le_refl _, le_refl _⟩, fun g hg => ?_, fun f _ => rfl⟩
      refine Raised.of_forall_not (fun g' hg' => ?_) rfl
      rw [List.mem_singleton] at hg hg'
      exact domOn_irrefl 2 g ((hg'.1.trans hg.symm) ▸ hg'.2)
    obtain ⟨Z', _, inv⟩ := sweepA_fold front0 rest [f0] [f0] front0 inv0 (by simpa using hs)
    exact ⟨inv.frame, inv.eqs⟩

theorem sweepBInsert_eq (Z : List (List α)) (front : FrontDict α) (nb : List α) :
    sweepBInsert ⟨Z.map neg1, Z⟩ front nb =
      ⟨(bInsert (fun f => dget front 0 f) Z nb).map neg1, bInsert (fun f => dget front 0 f) Z nb⟩ := by
  simp only [sweepBInsert, bInsert]
  cases hfind : Z.findIdx? (fun f => dget front 0 f == dget front 0 nb) with
  | none =>
    have := insertAt_map Z (swIdx Z nb) nb
    simp only [swIdx, neg1] at this ⊢
    rw [this]; rfl
  | some i =>
    by_cases hlt : nth nb 1 < nth (Z.getD i []) 1
    · simp only [hlt, ↓reduceIte, Bool.false_eq_true]
    · simp only [hlt, ↓reduceIte]
      have e : (Z.map neg1).eraseIdx i = (Z.eraseIdx i).map neg1 := List.eraseIdx_map _ _ _
      rw [e]
      have := insertAt_map (Z.eraseIdx i) (swIdx (Z.eraseIdx i) nb) nb
      simp only [swIdx, neg1] at this ⊢
      rw [this]; rfl

theorem mem_bInsert {rk : List α → Nat} {Z : List (List α)} {nb f : List α} (hf : f ∈ bInsert rk Z nb) :
    f = nb ∨ f ∈ Z := by
  have hins : ∀ (Z' : List (List α)) (i : Nat), Z'.Sublist Z → f ∈ Z'.take i ++ nb :: Z'.drop i → f = nb ∨ f ∈ Z := by
    intro Z' i hsub h
    rcases List.mem_append.1 h with h | h
    · exact Or.inr (hsub.subset ((List.take_sublist _ _).subset h))
    · exact (List.mem_cons.1 h).imp id fun h => hsub.subset ((List.drop_sublist _ _).subset h)
  unfold bInsert at hf
  split at hf
  · split at hf
    · exact Or.inr hf
    · exact hins _ _ (List.eraseIdx_sublist _ _) hf
  · exact hins _ _ (List.Sublist.refl _) hf

theorem bInsert_keeps (rk : List α → Nat) (C Z : List (List α)) (nb : List α) (inv : BInv rk C Z) :
    BInv rk (C ++ [nb]) (bInsert rk Z nb) := by
  unfold bInsert
  cases hfind : Z.findIdx? (fun f => rk f == rk nb) with
  | none => exact inv.insert_at nb (List.Sublist.refl _) (fun t ht hn => absurd ht hn)
  | some i =>
    obtain ⟨hil, hp, _⟩ := List.findIdx?_eq_some_iff_getElem.1 hfind
    have hget : Z.getD i [] = Z[i] := by simp [hil]
    have hrk : rk Z[i] = rk nb := by simpa using hp
    simp only [hget]
    by_cases hlt : nth nb 1 < nth Z[i] 1
    · rw [if_pos hlt]
      exact inv.skip nb ⟨Z[i], List.getElem_mem hil, by rw [hrk], le_of_lt hlt⟩
    · rw [if_neg hlt]
      -- the removed stair: the new one covers what it covered
      refine inv.insert_at nb (List.eraseIdx_sublist _ _) (fun t ht hn => ?_)
      obtain ⟨j, hj, rfl⟩ := List.mem_iff_getElem.1 ht
      by_cases e : j = i
      · subst e; exact ⟨le_of_eq hrk, not_lt.1 hlt⟩
      · exact absurd (List.mem_eraseIdx_iff_getElem.2 ⟨j, hj, e, rfl⟩) hn

theorem findIdx?_congr' {γ : Type} (p q : γ → Bool) : ∀ (l : List γ), (∀ x ∈ l, p x = q x) →
    l.findIdx? p = l.findIdx? q
  | [], _ => rfl
  | a :: l, h => by
    rw [List.findIdx?_cons, List.findIdx?_cons, h a (by simp),
      findIdx?_congr' p q l (fun x hx => h x (by simp [hx]))]

theorem bInsert_congr (rk rk' : List α → Nat) (Z : List (List α)) (nb : List α)
    (h : ∀ f, f = nb ∨ f ∈ Z → rk' f = rk f) : bInsert rk' Z nb = bInsert rk Z nb := by
  unfold bInsert
  have : Z.findIdx? (fun f => rk' f == rk' nb) = Z.findIdx? (fun f => rk f == rk nb) := by
    apply findIdx?_congr'
    intro f hf
    rw [h f (Or.inr hf), h nb (Or.inl rfl)]
  rw [this]

/-- `sweepBWhile` on the list of stair fitnesses -/
def bWhile (rk : List α → Nat) (h : List α) : List (List α) → List (List α) → List (List α) × List (List α)
  | [], Z => (Z, [])
  | nb :: rest, Z =>
    if Py.tupleLe (h.take 2) (nb.take 2) then bWhile rk h rest (bInsert rk Z nb) else (Z, nb :: rest)

theorem sweepBWhile_eq (h : List α) (front : FrontDict α) : ∀ (bs Z : List (List α)),
    sweepBWhile h front bs ⟨Z.map neg1, Z⟩ =
      (⟨(bWhile (fun f => dget front 0 f) h bs Z).1.map neg1, (bWhile (fun f => dget front 0 f) h bs Z).1⟩,
        (bWhile (fun f => dget front 0 f) h bs Z).2)
  | [], Z => rfl
  | nb :: rest, Z => by
    simp only [sweepBWhile, bWhile]
    split
    · rw [sweepBInsert_eq, sweepBWhile_eq h front rest]
    · rfl

/-- what the `while` loop does: it consumes a prefix `C'` of the remaining `best` whose members all
satisfy the loop condition; the first unconsumed one (if any) does not -/
theorem bWhile_spec (rk : List α → Nat) (h : List α) : ∀ (bs C Z : List (List α)), BInv rk C Z →
    ∃ C', bs = C' ++ (bWhile rk h bs Z).2 ∧ BInv rk (C ++ C') (bWhile rk h bs Z).1 ∧
      (∀ b ∈ C', Py.tupleLe (h.take 2) (b.take 2) = true) ∧
      (∀ b, (bWhile rk h bs Z).2.head? = some b → Py.tupleLe (h.take 2) (b.take 2) = false)
  | [], C, Z, inv => ⟨[], by simp [bWhile], by simpa [bWhile] using inv, by simp, by simp [bWhile]⟩
  | nb :: rest, C, Z, inv => by
    simp only [bWhile]
    by_cases hc : Py.tupleLe (h.take 2) (nb.take 2) = true
    · rw [if_pos hc]
      obtain ⟨C', e1, e2, e3, e4⟩ := bWhile_spec rk h rest (C ++ [nb]) _ (bInsert_keeps rk C Z nb inv)
      refine ⟨nb :: C', by rw [List.cons_append, ← e1], by simpa [List.append_assoc] using e2, ?_, e4⟩
      intro b hb
      rcases List.mem_cons.1 hb with rfl | hb
      · exact hc
      · exact e3 b hb
    · rw [if_neg hc]
      refine ⟨[], by simp, by simpa using inv, by simp, ?_⟩
      intro b hb
      simp only [List.head?_cons, Option.some.injEq] at hb
      subst hb; simpa using hc

theorem bWhile_congr (rk rk' : List α → Nat) (h : List α) : ∀ (bs Z : List (List α)),
    (∀ f, f ∈ bs ∨ f ∈ Z → rk' f = rk f) → bWhile rk' h bs Z = bWhile rk h bs Z
  | [], Z, _ => rfl
  | nb :: rest, Z, hk => by
    simp only [bWhile]
    rw [bInsert_congr rk rk' Z nb (fun f hf => hk f (by rcases hf with rfl | hf <;> simp [*]))]
    split
    · apply bWhile_congr
      intro f hf
      rcases hf with hf | hf
      · exact hk f (Or.inl (List.mem_cons_of_mem _ hf))
      · rcases mem_bInsert hf with rfl | h
        · exact hk f (Or.inl (by simp))
        · exact hk f (Or.inr h)
    · rfl

/-- one iteration of the `for h in worst` loop of `sweepB` -/
def bStep (st : (Stairs α × List (List α)) × FrontDict α) (h : List α) :
    (Stairs α × List (List α)) × FrontDict α :=
  let ((s, bs), front) := st
  let (s, bs) := sweepBWhile h front bs s
  let idx := bisectRight s.stairs (-(nth h 1))
  let front :=
    if 0 < idx ∧ idx ≤ s.stairs.length then
      match pyMaxBy (fun f => dget front 0 f) (s.fstairs.take idx) with
      | some fstair => bump front h fstair
      | none => front
    else front
  ((s, bs), front)

theorem sweepB_eq_foldl (best worst : List (List α)) (front : FrontDict α) :
    sweepB best worst front = (worst.foldl bStep (({ stairs := [], fstairs := [] }, best), front)).2 := rfl

theorem bStep_eq (Z bs : List (List α)) (front : FrontDict α) (h : List α) :
    bStep ((⟨Z.map neg1, Z⟩, bs), front) h =
      ((⟨(bWhile (fun f => dget front 0 f) h bs Z).1.map neg1, (bWhile (fun f => dget front 0 f) h bs Z).1⟩,
        (bWhile (fun f => dget front 0 f) h bs Z).2),
       swFront (bWhile (fun f => dget front 0 f) h bs Z).1 front h) := by
  simp only [bStep, sweepBWhile_eq]
  rfl

/-- invariant of the loop over `worst`: `Pw` processed, `ws` still to come, `best = C ++ bs` with
`C` consumed into the stairs `Z` -/
structure OInv (front0 : FrontDict α) (best Pw ws C Z bs : List (List α)) (front : FrontDict α) : Prop where
  split : best = C ++ bs
  binv : BInv (fun f => dget front 0 f) C Z
  /-- what is consumed is at least as good on objective 0 as every `worst` to come: with the stairs'
  order on objective 1 this is `geOn 2` -/
  ahead : ∀ b ∈ C, ∀ h' ∈ ws, nth h' 0 ≤ nth b 0
  upd : Upd (geOn 2) best Pw front0 front

theorem oInv_step (front0 : FrontDict α) (best Pw ws C Z bs : List (List α)) (front : FrontDict α) (h : List α)
    (hbest : best.Pairwise ge2w) (hlenb : ∀ b ∈ best, 2 ≤ b.length) (hlenh : 2 ≤ h.length)
    (hhb : h ∉ best) (hhP : h ∉ Pw) (hws : ∀ h' ∈ ws, ge2w h h')
    (inv : OInv front0 best Pw (h :: ws) C Z bs front) :
    ∃ C', OInv front0 best (Pw ++ [h]) ws (C ++ C') (bWhile (fun f => dget front 0 f) h bs Z).1
      (bWhile (fun f => dget front 0 f) h bs Z).2
      (swFront (bWhile (fun f => dget front 0 f) h bs Z).1 front h) := by
  obtain ⟨C', e1, e2, e3, e4⟩ := bWhile_spec (fun f => dget front 0 f) h bs C Z inv.binv
  set Z'' := (bWhile (fun f => dget front 0 f) h bs Z).1 with hZ''
  set bs' := (bWhile (fun f => dget front 0 f) h bs Z).2 with hbs'
  have hsplit : best = (C ++ C') ++ bs' := by rw [inv.split, e1, List.append_assoc]
  have hCsub : ∀ b ∈ C ++ C', b ∈ best := fun b hb => by rw [hsplit]; exact List.mem_append_left _ hb
  have hne : ∀ b ∈ best, b ≠ h := fun b hb e => hhb (e ▸ hb)
  -- the consumed fitnesses are at least as good as `h` on the first objective
  have hahead : ∀ b ∈ C ++ C', nth h 0 ≤ nth b 0 := by
    intro b hb
    rcases List.mem_append.1 hb with hb | hb
    · exact inv.ahead b hb h (by simp)
    · exact ((tupleLe_take2 h b hlenh (hlenb b (hCsub b (List.mem_append_right _ hb)))).1 (e3 b hb)).le0
  -- the unconsumed ones are not at least as good as `h` on the first two: the first of them fails the
  -- loop condition and precedes the others
  have hrest : ∀ b ∈ bs', ¬ geOn 2 b h := by
    intro b hb hge
    cases hbs'' : bs' with
    | nil => rw [hbs''] at hb; simp at hb
    | cons b0 rest =>
      have hb0best : b0 ∈ best := by rw [hsplit, hbs'']; simp
      have hb0b : ge2w b0 b := by
        rw [hbs''] at hb
        rcases List.mem_cons.1 hb with rfl | hb
        · exact Or.inr ⟨rfl, le_refl _⟩
        · rw [hsplit, hbs''] at hbest
          exact (List.pairwise_cons.1 (List.pairwise_append.1 hbest).2.1).1 b hb
      have := (tupleLe_take2 h b0 hlenh (hlenb b0 hb0best)).2 (ge2w_of_ge2w_of_geOn hb0b hge)
      rw [e4 b0 (by rw [hbs'']; rfl)] at this; exact Bool.noConfusion this
  refine ⟨C', hsplit, e2.congr fun g hg => swFront_ne Z'' front h g (hne g (hCsub g hg)),
    fun b hb h' hh' => le_trans (hws h' hh').le0 (hahead b hb), ?_⟩
  -- `h` is raised by the consumed fitnesses at least as good on objective 1: those of `best` at least as good on both
  refine inv.upd.seq ((Upd.query e2 h fun hc => hhb (hCsub h hc)).congr (fun _ => Iff.rfl) fun t ht a => ?_)
    (fun t ht hc => hhP (List.mem_singleton.1 hc ▸ ht)) fun _ _ a ha _ => by simpa using hne a ha
  rw [List.mem_singleton] at ht; subst ht
  refine ⟨fun ⟨ha, hg⟩ => ⟨?_, ((geOn_two a t).1 hg).2⟩, fun ⟨ha, hg⟩ => ⟨hCsub a ha, (geOn_two a t).2 ⟨hahead a ha, hg⟩⟩⟩
  rw [hsplit] at ha
  exact (List.mem_append.1 ha).elim id fun hh => absurd hg (hrest a hh)

theorem sweepB_fold (front0 : FrontDict α) (best worst : List (List α))
    (hbest : best.Pairwise ge2w) (hlenb : ∀ b ∈ best, 2 ≤ b.length) (hlenw : ∀ w ∈ worst, 2 ≤ w.length)
    (hdisj : ∀ b ∈ best, b ∉ worst) :
    ∀ (ws Pw C Z bs : List (List α)) (front : FrontDict α), Pw ++ ws = worst → ws.Pairwise ge2w →
      (Pw ++ ws).Nodup → OInv front0 best Pw ws C Z bs front →
      ∃ C' Z' bs', OInv front0 best worst [] C' Z' bs' (ws.foldl bStep ((⟨Z.map neg1, Z⟩, bs), front)).2
  | [], Pw, C, Z, bs, front, hw, _, _, inv => by
    rw [List.append_nil] at hw; exact ⟨C, Z, bs, hw ▸ inv⟩
  | h :: ws, Pw, C, Z, bs, front, hw, hsorted, hnd, inv => by
    have hhw : h ∈ worst := by rw [← hw]; simp
    have hhP : h ∉ Pw := fun hc => (List.nodup_append.1 hnd).2.2 h hc h (by simp) rfl
    obtain ⟨C', inv'⟩ := oInv_step front0 best Pw ws C Z bs front h hbest hlenb (hlenw h hhw)
      (fun hb => hdisj h hb hhw) hhP (List.pairwise_cons.1 hsorted).1 inv
    rw [List.foldl_cons, bStep_eq]
    exact sweepB_fold front0 best worst hbest hlenb hlenw hdisj ws (Pw ++ [h]) (C ++ C') _ _ _
      (by rw [← hw]; simp) (List.pairwise_cons.1 hsorted).2 (by simpa using hnd) inv'

theorem sweepB_upd (best worst : List (List α)) (front0 : FrontDict α)
    (hbest : best.Pairwise ge2w) (hworst : worst.Pairwise ge2w) (hnd : worst.Nodup)
    (hlenb : ∀ b ∈ best, 2 ≤ b.length) (hlenw : ∀ w ∈ worst, 2 ≤ w.length)
    (hdisj : ∀ b ∈ best, b ∉ worst) : Upd (geOn 2) best worst front0 (sweepB best worst front0) := by
  have inv0 : OInv front0 best [] worst [] [] best front0 :=
    ⟨rfl, ⟨List.Pairwise.nil, fun _ h => absurd h List.not_mem_nil, fun _ h => absurd h List.not_mem_nil⟩,
      fun _ h => absurd h List.not_mem_nil, Upd.refl fun _ h => absurd h List.not_mem_nil⟩
  obtain ⟨_, _, _, inv⟩ := sweepB_fold front0 best worst hbest hlenb hlenw hdisj worst [] [] [] best front0 rfl
    hworst (by simpa using hnd) inv0
  rw [sweepB_eq_foldl]; exact inv.upd

end C04L
