/-
C07 — `selNSGA3` on top of `niching`, and `selNSGA3Full` (the selection with its own normalisation
and association) on top of `selNSGA3`.
-/
import DeapModel.Lemmas.C07Niching

namespace C07L
open Nsga3

section
variable {α : Type} [LT α] [DecidableLT α]

/-- the niche numbers / distances / initial counts `selNSGA3` hands to `niching` -/
def nichesL (fronts : List (List Nat)) (niches : List Nat) : Nat → Nat :=
  fun p => (niches.drop fronts.dropLast.flatten.length).getD p 0

def counts0L (niches : List Nat) (last : List Nat) : Nat → Nat :=
  fun j => (niches.take (niches.length - last.length)).count j

variable {fronts : List (List Nat)} {k : Nat} {niches : List Nat} {dist : List α} {dflt : α}
  {nref : Nat} {tape : Tape} {res : List Nat}

theorem fronts_split (fronts : List (List Nat)) (last : List Nat) (h : fronts.getLast? = some last) :
    fronts = fronts.dropLast ++ [last] :=
  (List.dropLast_append_getLast? last h).symm

theorem flatten_split (fronts : List (List Nat)) (last : List Nat) (h : fronts.getLast? = some last) :
    fronts.flatten = fronts.dropLast.flatten ++ last := by
  conv => lhs; rw [fronts_split fronts last h]
  simp

/-- `selNSGA3` is `niching` on the last front, between a check of the niche numbers of the earlier
fronts and the concatenation with those fronts. -/
theorem selNSGA3_run (fronts : List (List Nat)) (k : Nat) (niches : List Nat) (dist : List α) (dflt : α)
    (nref : Nat) (tape : Tape) :
    Run (selNSGA3 fronts k niches dist dflt nref tape)
      (fun res => ∃ last st, fronts.getLast? = some last ∧
        (NInv last.length (nichesL fronts niches) (counts0L niches last) st ∧
          st.selected.length = k - fronts.dropLast.flatten.length) ∧
        res = fronts.dropLast.flatten ++ st.selected.map (fun p => last.getD p 0))
      (fun e => fronts ≠ [] → k ≤ fronts.flatten.length → (∀ j ∈ niches, j < nref) →
        niches.length = fronts.flatten.length → e = .badTape) := by
  unfold selNSGA3
  split
  · next hl => exact absurd (List.getLast?_eq_none_iff.1 hl)
  · next last hl =>
    simp only []
    have hfl := flatten_split fronts last hl
    split
    · next hany =>
      intro _ _ hn _
      simp only [List.any_eq_true, decide_eq_true_eq] at hany
      obtain ⟨j, hj, hj2⟩ := hany
      have := hn j (List.mem_of_mem_take hj); omega
    · have hr := niching_run (L := last.length) (k := k - fronts.dropLast.flatten.length) (nref := nref)
        (niches := nichesL fronts niches)
        (dist := fun p => (dist.drop fronts.dropLast.flatten.length).getD p dflt) (counts0L niches last) tape
      split
      · next e hs =>
        intro _ hk hn hlen
        refine hr.err hs ⟨?_, fun p hp => ?_⟩
        · rw [hfl, List.length_append] at hk; omega
        · have hlt : p < (niches.drop fronts.dropLast.flatten.length).length := by
            rw [List.length_drop, hlen, hfl, List.length_append]; omega
          show (niches.drop fronts.dropLast.flatten.length).getD p 0 < nref
          rw [List.getD_eq_getElem _ _ hlt]
          exact hn _ (List.mem_of_mem_drop (List.getElem_mem _))
      · next st hs => exact ⟨last, st, hl, hr.ok hs, rfl⟩

theorem selNSGA3_spec
    (h : selNSGA3 fronts k niches dist dflt nref tape = .ok res) :
    (fronts.dropLast.flatten.length ≤ k → res.length = k) ∧
    (∀ x ∈ res, x ∈ fronts.flatten) ∧ (fronts.flatten.Nodup → res.Nodup) ∧
    (∀ f1 f2, f1 < f2 → f2 < fronts.length → ∀ y ∈ fronts.getD f1 [], y ∈ res) ∧
    ∃ (last sel : List Nat), fronts.getLast? = some last ∧
      res = fronts.dropLast.flatten ++ sel.map (fun p => last.getD p 0) ∧
      sel.Nodup ∧ (∀ p ∈ sel, p < last.length) ∧
      ∀ a b, (∃ p ∈ sel, nichesL fronts niches p = a) →
        (∃ q, q < last.length ∧ q ∉ sel ∧ nichesL fronts niches q = b) →
        counts0L niches last a + sel.countP (fun p => nichesL fronts niches p == a) ≤
          counts0L niches last b + sel.countP (fun p => nichesL fronts niches p == b) + 1 := by
  obtain ⟨last, st, hl, ⟨inv, hlen⟩, rfl⟩ := (selNSGA3_run fronts k niches dist dflt nref tape).ok h
  have hmem : ∀ x ∈ st.selected.map (fun p => last.getD p 0), x ∈ last := by
    intro x hx
    obtain ⟨p, hp, rfl⟩ := List.mem_map.1 hx
    rw [List.getD_eq_getElem _ _ (inv.lt p hp)]; exact List.getElem_mem _
  refine ⟨fun hk => ?_, fun x hx => ?_, fun hnd => ?_, fun f1 f2 h12 h2 y hy => ?_,
    last, st.selected, hl, rfl, inv.nodup, inv.lt, fun a b ha ⟨q, hqL, hqs, hqb⟩ => ?_⟩
  · rw [List.length_append, List.length_map, hlen]; omega
  · rw [flatten_split fronts last hl]
    exact (List.mem_append.1 hx).elim (List.mem_append_left _) fun h => List.mem_append_right _ (hmem x h)
  · rw [flatten_split fronts last hl] at hnd
    obtain ⟨h1, h2, h3⟩ := List.nodup_append.1 hnd
    refine List.nodup_append.2 ⟨h1, ?_, fun a ha b hb => h3 a ha b (hmem b hb)⟩
    refine List.Nodup.map_on (fun p hp q hq he => ?_) inv.nodup
    rw [List.getD_eq_getElem _ _ (inv.lt p hp), List.getD_eq_getElem _ _ (inv.lt q hq)] at he
    exact (List.Nodup.getElem_inj_iff h2).1 he
  · apply List.mem_append_left
    have hf1 : f1 < fronts.dropLast.length := by simp; omega
    have : fronts.getD f1 [] = fronts.dropLast.getD f1 [] := by
      conv => lhs; rw [fronts_split fronts last hl]
      rw [List.getD_eq_getElem?_getD, List.getD_eq_getElem?_getD, List.getElem?_append_left hf1]
    rw [this, List.getD_eq_getElem _ _ hf1] at hy
    exact List.mem_flatten.2 ⟨_, List.getElem_mem _, hy⟩
  · have := inv.bal a b ha ⟨q, hqL, (inv.avail_iff q hqL).2 hqs, hqb⟩
    rwa [inv.counts a, inv.counts b] at this

end

section
variable {α : Type} [RealLike α]

/-- the niche numbers and distances `selNSGA3Full` hands to the selection -/
def assocOf (solve : List (List α) → List α → Option (List α)) (fronts : List (List Nat))
    (fitOf : Nat → List α) (refs : List (List α)) (mb mw : Option (List α))
    (me : Option (List (List α))) : List α → Nat × α :=
  let n := normalisation solve (fronts.flatten.map fitOf) mb mw me
  associate1 refs n.1 n.2.2.2

variable (solve : List (List α) → List α → Option (List α)) (fronts : List (List Nat))
  (fitOf : Nat → List α) (refs : List (List α)) (mb mw : Option (List α)) (me : Option (List (List α)))

theorem selNSGA3Full_eq (k : Nat) (tape : Tape) :
    selNSGA3Full solve fronts k fitOf refs mb mw me tape =
      selNSGA3 fronts k (fronts.flatten.map (fun i => (assocOf solve fronts fitOf refs mb mw me (fitOf i)).1))
        (fronts.flatten.map (fun i => (assocOf solve fronts fitOf refs mb mw me (fitOf i)).2))
        (RealLike.ofNat 0) refs.length tape := by
  unfold selNSGA3Full assocOf associate
  simp only [List.map_map, Function.comp_def]

theorem assocOf_lt (hne : refs ≠ []) (f : List α) :
    (assocOf solve fronts fitOf refs mb mw me f).1 < refs.length := by
  have := argminIdx_lt (refs.map (perpDist (normalise
    (normalisation solve (fronts.flatten.map fitOf) mb mw me).1
    (normalisation solve (fronts.flatten.map fitOf) mb mw me).2.2.2 f)))
    (fun h => hne (List.map_eq_nil_iff.1 h))
  rwa [List.length_map] at this

theorem nichesL_full (fronts : List (List Nat)) (last : List Nat) (g : Nat → Nat)
    (hl : fronts.getLast? = some last) (p : Nat) (hp : p < last.length) :
    nichesL fronts (fronts.flatten.map g) p = g (last.getD p 0) := by
  unfold nichesL
  rw [← List.map_drop]
  have : fronts.flatten.drop fronts.dropLast.flatten.length = last := by
    conv => lhs; arg 2; rw [flatten_split fronts last hl]
    simp
  rw [this, List.getD_eq_getElem _ _ (by simpa using hp), List.getElem_map, List.getD_eq_getElem _ _ hp]

theorem counts0L_full (fronts : List (List Nat)) (last : List Nat) (g : Nat → Nat)
    (hl : fronts.getLast? = some last) (j : Nat) :
    counts0L (fronts.flatten.map g) last j = (fronts.dropLast.flatten.map g).count j := by
  unfold counts0L
  have hlen : (fronts.flatten.map g).length - last.length = fronts.dropLast.flatten.length := by
    rw [List.length_map, flatten_split fronts last hl, List.length_append]; omega
  rw [hlen, ← List.map_take]
  congr 2
  conv => lhs; arg 2; rw [flatten_split fronts last hl]
  simp

end

end C07L
