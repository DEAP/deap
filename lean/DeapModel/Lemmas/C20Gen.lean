/-
C20 — helper lemmas of the TRANSLATOR TIE (`harness/py2lean.py`, `GenEq/C20.lean.tmpl`): the prelude of the
generated definitions (`Core/GenPrelude.lean`) at `α = ℝ`, Python's slices / indices / ranges on the list shapes the
models use, and the tactics the committed equality theorems `Gen.f = Bench.f` are proved with.  `Core.MovingPeaks` is
imported for the template, which elaborates on top of this module alone.
-/
import DeapModel.Lemmas.GenNat
import DeapModel.Lemmas.C20Real
import DeapModel.Lemmas.C20Binary
import DeapModel.Core.MovingPeaks

namespace GenL
open RealLike

@[simp] theorem real_ofInt (i : Int) : (Gen.ofInt i : ℝ) = (i : ℝ) := by
  cases i with
  | ofNat n => simp [Gen.ofInt]
  | negSucc n => simp [Gen.ofInt, Int.negSucc_eq]

@[simp] theorem real_idiv (a b : Int) : (Gen.idiv a b : ℝ) = (a : ℝ) / (b : ℝ) := by
  unfold Gen.idiv
  split
  · rename_i h
    simp only [real_ofRatio]
    congr 1
    exact_mod_cast (Int.toNat_of_nonneg h)
  · simp only [real_ofRatio]
    have hb : ((-b).toNat : Int) = -b := Int.toNat_of_nonneg (by omega)
    have : (((-b).toNat : ℕ) : ℝ) = -(b : ℝ) := by exact_mod_cast hb
    rw [this]; push_cast; rw [neg_div_neg_eq]

@[simp] theorem real_ipow (x : ℝ) (n : Nat) : Gen.ipow x n = x ^ n := by
  induction n using Nat.strongRecOn with
  | _ n ih =>
    match n with
    | 0 => simp [Gen.ipow]
    | 1 => simp [Gen.ipow]
    | k + 2 => rw [Gen.ipow, ih (k + 1) (by omega)]; simp only [real_mul]; ring

/-- `x ** 0.5` and `sqrt(x)` -/
theorem sqrt_eq_rpow_half (x : ℝ) : √x = x ^ ((1 : ℝ) / 2) := by rw [Real.sqrt_eq_rpow]

theorem rpow_half (x : ℝ) : x ^ ((5 : ℝ) / 10) = √x := by
  rw [Real.sqrt_eq_rpow]; norm_num

theorem nz_zero : Gen.nz 0 = none := rfl

theorem nz_of_ne {i : Int} (h : i ≠ 0) : Gen.nz i = some i := by simp [Gen.nz, h]

theorem nz_length_cons {β : Type} (a : β) (l : List β) :
    Gen.nz ((a :: l).length : Int) = some ((a :: l).length : Int) := nz_of_ne (by simp; omega)

theorem nz_length_cons_sub_one {β : Type} (a b : β) (l : List β) :
    Gen.nz (((a :: b :: l).length : Int) - 1) = some (((a :: b :: l).length : Int) - 1) :=
  nz_of_ne (by simp; omega)

theorem nz_length_one_sub_one {β : Type} (a : β) : Gen.nz ((([a] : List β).length : Int) - 1) = none := by
  simp only [Gen.nz, List.length_cons, List.length_nil, zero_add, Nat.cast_one, sub_self, ↓reduceIte]

theorem nz_length_nil_sub_one {β : Type} : Gen.nz ((([] : List β).length : Int) - 1) = some (-1) := by
  simp only [Gen.nz, List.length_nil, CharP.cast_eq_zero, zero_sub, Int.reduceNeg, neg_eq_zero, one_ne_zero,
    ↓reduceIte]

theorem nz_length_nil {β : Type} : Gen.nz (([] : List β).length : Int) = none := by
  simp only [Gen.nz, List.length_nil, CharP.cast_eq_zero, ↓reduceIte]

/-- `zip(l[:-1], l[1:])` is the model's `adjacent` -/
theorem zip_dropLast_tail {β : Type} (l : List β) : l.dropLast.zip l.tail = l.zip l.tail := by
  induction l with
  | nil => simp
  | cons a t ih =>
    cases t with
    | nil => simp
    | cons b u => simp only [List.dropLast_cons_cons, List.tail_cons, List.zip_cons_cons] at ih ⊢; rw [ih]

/-- `enumerate` counts with Python ints, the model's `enumFrom` with naturals -/
theorem enumFrom_eq {β : Type} (k : Nat) (l : List β) :
    Gen.enumFrom (k : Int) l = (Bench.enumFrom k l).map fun p => ((p.1 : Int), p.2) := by
  induction l generalizing k with
  | nil => simp [Gen.enumFrom, Bench.enumFrom]
  | cons a t ih =>
    simp only [Gen.enumFrom, Bench.enumFrom, List.map_cons]
    have := ih (k + 1)
    push_cast at this
    rw [this]

theorem enumerate_eq {β : Type} (l : List β) :
    Gen.enumerate l = (Bench.enumFrom 0 l).map fun p => ((p.1 : Int), p.2) := by
  have := enumFrom_eq 0 l
  simpa [Gen.enumerate] using this

theorem getD_take_of_lt {β : Type} (l : List β) (d : β) {m k : ℕ} (h : m < k) : (l.take k).getD m d = l.getD m d := by
  simp only [List.getD, h, List.getElem?_take_of_lt]

theorem map_range_reverse_congr {γ : Type} (k : ℕ) (F G : ℕ → γ) (h : ∀ m, m < k → F m = G m) :
    (List.range k).reverse.map F = (List.range k).reverse.map G := by
  apply List.map_congr_left
  intro m hm
  exact h m (by simpa using hm)

theorem listMul_singleton {β : Type} (z : β) (n : ℕ) : Gen.listMul [z] (n : ℤ) = List.replicate n z := by
  simp only [Gen.listMul, Int.toNat_natCast]
  induction n with
  | zero => rfl
  | succ k ih => simp [List.replicate_succ, ih]

theorem setItem_natCast {β : Type} (l : List β) (i : ℕ) (v : β) (h : i < l.length) :
    Gen.setItem l (i : ℤ) v = some (l.set i v) :=
  (GenNat.setItem_natCast l i v).trans (if_pos h)

/-- the decoding loop `for i in range(n): dec[i] = g i` on a list of length `n` builds `[g 0, …, g (n-1)]` -/
theorem foldlM_setItem {β : Type} (n : ℕ) (f : List β → ℤ → Option (List β)) (g : ℕ → β) (z : β)
    (hf : ∀ i, i < n → ∀ l : List β, l.length = n → f l (i : ℤ) = some (l.set i (g i))) :
    List.foldlM f (List.replicate n z) ((List.range n).map Int.ofNat) = some ((List.range n).map g) := by
  have key : ∀ k, k ≤ n → List.foldlM f (List.replicate n z) ((List.range k).map Int.ofNat)
      = some ((List.range k).map g ++ List.replicate (n - k) z) := by
    intro k
    induction k with
    | zero => intro _; simp
    | succ k ih =>
      intro hk
      rw [List.range_succ, List.map_append, List.foldlM_append, ih (by omega)]
      simp only [List.map_cons, List.map_nil, List.foldlM_cons, List.foldlM_nil, Option.bind_eq_bind, Option.bind_some,
        Int.ofNat_eq_natCast]
      rw [hf k (by omega) _ (by simp; omega)]
      simp only [Option.bind_some, Option.pure_def, Option.some.injEq]
      have e : n - k = (n - (k + 1)) + 1 := by omega
      rw [e, List.replicate_succ, List.set_append_right _ _ (by simp)]
      simp only [List.length_map, List.length_range, tsub_self, List.set_cons_zero, List.map_append, List.map_cons,
        List.map_nil, List.append_assoc, List.cons_append, List.nil_append]
  simpa using key n (le_refl n)

theorem slice_drop {β : Type} (l : List β) (k : ℕ) : Gen.slice l (some (k : ℤ)) none = l.drop k :=
  GenNat.slice_drop l k

theorem slice_take {β : Type} (l : List β) (k : ℕ) : Gen.slice l none (some (k : ℤ)) = l.take k :=
  GenNat.slice_take l k

theorem slice_one_take {β : Type} (l : List β) (b : ℕ) : Gen.slice l (some 1) (some (b : ℤ)) = (l.take b).drop 1 := by
  simpa using GenNat.slice_take_drop l 1 b

theorem slice_zero_none {β : Type} (l : List β) : Gen.slice l (some 0) none = l := by
  simp only [Gen.slice, Gen.bound, lt_self_iff_false, ↓reduceIte, Int.toNat_zero, zero_le, inf_of_le_left,
    List.take_length, List.drop_zero]

theorem slice_one_zero {β : Type} (l : List β) : Gen.slice l (some 1) (some 0) = [] := by
  simp only [Gen.slice, Gen.bound, Int.reduceLT, ↓reduceIte, Int.toNat_one, lt_self_iff_false, Int.toNat_zero,
    zero_le, inf_of_le_left, List.take_zero, List.drop_nil]

theorem index_natCast {β : Type} (l : List β) (m : ℕ) : Gen.index l (m : ℤ) = l[m]? :=
  GenNat.index_natCast l m

theorem range_zero_natCast (k : ℕ) : Gen.range 0 (k : ℤ) = (List.range k).map Int.ofNat :=
  GenNat.range_zero_natCast k

theorem range_one_natCast (k : ℕ) : Gen.range 1 ((k + 1 : ℕ) : ℤ) = (List.range k).map fun m => ((m + 1 : ℕ) : ℤ) := by
  simp only [Gen.range]
  have : (((k + 1 : ℕ) : ℤ) - 1).toNat = k := by push_cast; simp
  rw [this]
  apply List.map_congr_left
  intro a _
  push_cast; ring

theorem range_one_one : Gen.range 1 1 = [] := by simp [Gen.range]

theorem rangeDown_natCast (k : ℕ) : Gen.rangeDown ((k : ℤ) - 1) (-1) = (List.range k).reverse.map Int.ofNat := by
  simp only [Gen.rangeDown]
  have : ((k : ℤ) - 1 - (-1)).toNat = k := by simp
  rw [this]
  apply List.ext_getElem
  · simp only [List.length_map, List.length_range, List.map_reverse, List.length_reverse]
  · intro i h1 h2
    simp only [List.length_map, List.length_range] at h1
    simp only [List.getElem_map, List.getElem_range, List.map_reverse, List.getElem_reverse, List.length_map,
      List.length_range, Int.ofNat_eq_natCast]
    omega

theorem natCast_add_two_eq_one (m : ℕ) : (((m + 2 : ℕ) : ℤ) = 1) = False := by
  simp; omega

theorem natCast_add_two_sub_one (m : ℕ) : ((m + 2 : ℕ) : ℤ) - 1 = ((m + 1 : ℕ) : ℤ) := by
  push_cast; ring

theorem mapM_some' {β γ : Type} (f : β → γ) (l : List β) :
    l.mapM (fun a => some (f a)) = some (l.map f) := C20L.mapM_some f l

theorem mapM_congr_some {β γ : Type} {g : β → Option γ} {f : β → γ} {l : List β}
    (h : ∀ a ∈ l, g a = some (f a)) : l.mapM g = some (l.map f) := List.mapM_eq_some g f l h

theorem mapM_getElem_some {β γ : Type} (l : List β) (d : β) (G : ℕ → β → γ) (idx : List ℕ)
    (h : ∀ m ∈ idx, m < l.length) :
    idx.mapM (fun m => l[m]?.bind fun t => some (G m t)) = some (idx.map fun m => G m (l.getD m d)) := by
  apply mapM_congr_some
  intro m hm
  have hl := h m hm
  simp only [List.getElem?_eq_getElem hl, Option.bind_some, List.getD, Option.getD_some]

theorem mapM_getElem_none {β γ : Type} (l : List β) (G : ℕ → β → γ) (idx : List ℕ) (m : ℕ) (hm : m ∈ idx)
    (h : l.length ≤ m) :
    idx.mapM (fun m => l[m]?.bind fun t => some (G m t)) = none := by
  apply List.mapM_eq_none hm
  simp only [List.getElem?_eq_none h, Option.bind_none]

/-- `[G(m, l[m]) for m in idx]` when every index exists -/
theorem mapM_index_some {β γ : Type} (l : List β) (d : β) (G : ℤ → β → γ) (idx : List ℕ)
    (h : ∀ m ∈ idx, m < l.length) :
    (idx.map Int.ofNat).mapM (fun p => (Gen.index l p).bind fun t => some (G p t))
      = some (idx.map fun (m : ℕ) => G (m : ℤ) (l.getD m d)) := by
  rw [List.mapM_map]
  simp only [Function.comp_def, Int.ofNat_eq_natCast, index_natCast]
  exact mapM_getElem_some l d (fun m => G m) idx h

/-- … and when one does not: IndexError -/
theorem mapM_index_none {β γ : Type} (l : List β) (G : ℤ → β → γ) (idx : List ℕ) (m : ℕ) (hm : m ∈ idx)
    (h : l.length ≤ m) :
    (idx.map Int.ofNat).mapM (fun p => (Gen.index l p).bind fun t => some (G p t)) = none := by
  rw [List.mapM_map]
  simp only [Function.comp_def, Int.ofNat_eq_natCast, index_natCast]
  exact mapM_getElem_none l (fun m => G m) idx m hm h

/-- `for m in reversed(range(1, k + 2))`: the objectives `m = k+1 … 2`, then `m = 1` -/
theorem mapM_reverse_range_one {γ : Type} (k : ℕ) (g : ℤ → Option γ) :
    (List.reverse (Gen.range 1 ((k + 2 : ℕ) : ℤ))).mapM g
      = ((List.range k).reverse.mapM fun m => g ((m + 2 : ℕ) : ℤ)).bind fun a => (g 1).bind fun b => some (a ++ [b]) := by
  have : ((k + 2 : ℕ) : ℤ) = ((k + 1 + 1 : ℕ) : ℤ) := rfl
  rw [this, range_one_natCast, List.range_succ_eq_map]
  simp only [List.map_cons, List.map_map, List.reverse_cons, List.mapM_append, ← List.map_reverse, List.mapM_map]
  simp only [Function.comp_def, List.mapM_cons, List.mapM_nil]
  have e0 : (((0 + 1 : ℕ)) : ℤ) = 1 := by norm_num
  have e2 : ∀ x : ℕ, ((x.succ + 1 : ℕ) : ℤ) = ((x + 2 : ℕ) : ℤ) := fun x => rfl
  simp only [e0, e2, Option.bind_eq_bind, Option.pure_def]
  cases List.mapM (fun m => g ((m + 2 : ℕ) : ℤ)) (List.range k).reverse <;> simp
  cases g 1 <;> simp

/-- `[G(x[j], r) for j, r in enumerate(row)]`: every `x[j]` must exist -/
theorem mapM_enumFrom_index {γ : Type} (x row : List ℝ) (G : ℝ → ℝ → γ) (k : ℕ) :
    (Gen.enumFrom (k : ℤ) row).mapM (fun p => (Gen.index x p.1).bind fun t => some (G t p.2))
      = if (x.drop k).length < row.length then none else some (((x.drop k).zip row).map fun p => G p.1 p.2) := by
  induction row generalizing k with
  | nil => simp [Gen.enumFrom]
  | cons r rs ih =>
    simp only [Gen.enumFrom, List.mapM_cons, index_natCast]
    have hk : ((k : ℤ) + 1) = ((k + 1 : ℕ) : ℤ) := by push_cast; ring
    rw [hk, ih (k + 1)]
    rcases hx : x.drop k with _ | ⟨v, rest⟩
    · have : x.length ≤ k := by simpa using hx
      simp only [List.getElem?_eq_none this, Option.bind_none, List.length_drop, Option.pure_def,
        Option.bind_eq_bind, List.length_nil, List.length_cons, lt_add_iff_pos_left, Order.lt_add_one_iff, zero_le,
        ↓reduceIte]
    · have hlt : k < x.length := by
        by_contra h
        have : x.drop k = [] := List.drop_eq_nil_of_le (by omega)
        rw [this] at hx; cases hx
      have hv : x[k]? = some v := by
        have := List.getElem?_drop (xs := x) (i := k) (j := 0)
        rw [hx] at this
        simpa using this.symm
      have hr : x.drop (k + 1) = rest := by
        have : x.drop (k + 1) = (x.drop k).drop 1 := by rw [List.drop_drop]
        rw [this, hx]; rfl
      rw [hv, hr]
      by_cases hl : rest.length < rs.length
      · simp only [Option.bind_some, hl, ↓reduceIte, Option.pure_def, Option.bind_eq_bind, Option.bind_none,
          Option.bind_fun_none, List.length_cons, Order.lt_add_one_iff, Order.add_one_le_iff]
      · simp only [Option.bind_some, hl, ↓reduceIte, Option.pure_def, Option.bind_eq_bind, List.length_cons,
          Order.lt_add_one_iff, Order.add_one_le_iff, List.zip_cons_cons, List.map_cons]

theorem mapM_enumerate_index {γ : Type} (x row : List ℝ) (G : ℝ → ℝ → γ) :
    (Gen.enumerate row).mapM (fun p => (Gen.index x p.1).bind fun t => some (G t p.2))
      = if x.length < row.length then none else some ((x.zip row).map fun p => G p.1 p.2) := by
  have := mapM_enumFrom_index x row G 0
  simpa [Gen.enumerate] using this

/-- `[F(c[i], a[i]) for i in range(len(c))]` -/
theorem mapM_range_getElem2 {β β' γ : Type} (c : List β) (a : List β') (F : β → β' → Option γ) :
    (List.range c.length).mapM (fun m => c[m]?.bind fun ci => a[m]?.bind fun row => F ci row)
      = if a.length < c.length then none else (c.zip a).mapM fun p => F p.1 p.2 := by
  induction c generalizing a with
  | nil => simp
  | cons ci c' ih =>
    rw [List.length_cons, List.range_succ_eq_map, List.mapM_cons, List.mapM_map]
    simp only [List.getElem?_cons_zero, Option.bind_some, Function.comp_def, Nat.succ_eq_add_one, List.getElem?_cons_succ]
    rcases a with _ | ⟨r, a'⟩
    · simp only [List.length_nil, lt_self_iff_false, not_false_eq_true, getElem?_neg, Option.bind_none,
        not_lt_zero, Option.bind_fun_none, Option.pure_def, Option.bind_eq_bind, lt_add_iff_pos_left,
        Order.lt_add_one_iff, zero_le, ↓reduceIte]
    · simp only [List.getElem?_cons_zero, Option.bind_some, List.getElem?_cons_succ, List.length_cons, List.zip_cons_cons,
        List.mapM_cons]
      rw [ih a']
      by_cases hl : a'.length < c'.length
      · have : a'.length + 1 < c'.length + 1 := by omega
        simp only [hl, this, if_true]
        cases F ci r <;> simp
      · have : ¬ (a'.length + 1 < c'.length + 1) := by omega
        simp only [hl, this, if_false]

theorem mapM_guard_some {β γ : Type} (c : β → Prop) [DecidablePred c] (g : β → γ) (l : List β) (r : List γ)
    (h : l.mapM (fun f => if c f then some (g f) else none) = some r) : r = l.map g := by
  obtain ⟨hall, rfl⟩ := List.eq_filterMap_of_mapM h
  rw [← List.filterMap_eq_map']
  refine List.filterMap_congr fun x hx => ?_
  have := hall x hx
  split at this
  · exact if_pos ‹c x›
  · cases this

/-- the Python int of a model bit -/
def bit (v : Bool) : ℤ := if v then 1 else 0

/-- the Python bit list (ints 0/1) of a model bit string -/
def bits (b : List Bool) : List ℤ := b.map fun v => if v then 1 else 0

theorem bits_eq_map (b : List Bool) : bits b = b.map bit := rfl

theorem bit_eq_zero (v : Bool) : (bit v = 0) = (v = false) := by cases v <;> simp [bit]

theorem bit_eq_one (v : Bool) : (bit v = 1) = (v = true) := by cases v <;> simp [bit]

theorem length_bits (b : List Bool) : (bits b).length = b.length := by simp [bits]

theorem bits_take (b : List Bool) (n : ℕ) : (bits b).take n = bits (b.take n) := by simp [bits]

theorem bits_drop (b : List Bool) (n : ℕ) : (bits b).drop n = bits (b.drop n) := by simp [bits]

theorem bits_append (a b : List Bool) : bits a ++ bits b = bits (a ++ b) := by simp [bits]

theorem isum_eq_sum (l : List ℤ) : Gen.isum l = l.sum := List.sum_eq_foldl.symm

theorem isum_bits (b : List Bool) : Gen.isum (bits b) = (BenchBin.ones b : ℤ) := by
  rw [isum_eq_sum]
  induction b with
  | nil => simp [bits, BenchBin.ones]
  | cons v t ih =>
    simp only [bits, BenchBin.ones, List.map_cons, List.sum_cons] at ih ⊢
    rw [ih]
    cases v <;> simp
    ring

theorem index_bits_neg_one (b : List Bool) : Gen.index (bits b) (-1) = b.getLast?.map bit := by
  rcases List.eq_nil_or_concat b with rfl | ⟨t, a, rfl⟩
  · simp only [Gen.index, Int.reduceNeg, Int.neg_neg_iff_pos, zero_lt_one, ↓reduceIte, bits, List.map_nil,
      List.length_nil, CharP.cast_eq_zero, add_zero, List.getLast?_nil, Option.map_none]
  · simp [Gen.index, bits, bit]

theorem index_bits_neg_two (b : List Bool) :
    Gen.index (bits b) (-2) = if b.length < 2 then none else some (bit (b.getD (b.length - 2) false)) := by
  by_cases h : b.length < 2
  · simp only [h, if_true, Gen.index, length_bits]
    have : (-2 : ℤ) + (b.length : ℤ) < 0 := by omega
    simp only [Int.reduceNeg, Int.neg_neg_iff_pos, Order.lt_two_iff, zero_le_one, ↓reduceIte, this]
  · simp only [h, if_false, Gen.index, length_bits]
    have h1 : ¬ ((-2 : ℤ) + (b.length : ℤ) < 0) := by omega
    have h2 : ((-2 : ℤ) + (b.length : ℤ)).toNat = b.length - 2 := by omega
    have h3 : b.length - 2 < b.length := by omega
    simp only [Int.reduceNeg, Int.neg_neg_iff_pos, Order.lt_two_iff, zero_le_one, ↓reduceIte, h1, bits, h2,
      List.length_map, h3, getElem?_pos, List.getElem_map, bit, List.getD_eq_getElem?_getD, Option.getD_some]

theorem getLast?_eq_getD (b : List Bool) (h : ¬ b.length < 2) : b.getLast? = some (b.getD (b.length - 1) false) := by
  have h3 : b.length - 1 < b.length := by omega
  simp only [List.getLast?_eq_getElem?, h3, getElem?_pos, List.getD_eq_getElem?_getD, Option.getD_some]

theorem slice_bits_gen (b : List Bool) (i w : ℕ) (lo hi : ℤ) (hlo : lo = i) (hhi : hi = i + w) :
    Gen.slice (bits b) (some lo) (some hi) = bits (BenchBin.slice b i w) := by
  subst hlo
  have : hi = ((i + w : ℕ) : ℤ) := by rw [hhi]; push_cast; rfl
  rw [this, GenNat.slice_take_drop, List.drop_take, BenchBin.slice, bits_drop, bits_take]
  simp only [add_tsub_cancel_left]

theorem slice_bits_4 (b : List Bool) (i : ℕ) :
    Gen.slice (bits b) (some (i : ℤ)) (some ((i : ℤ) + 4)) = bits (BenchBin.slice b i 4) :=
  slice_bits_gen b i 4 _ _ rfl (by norm_num)

theorem slice_bits_4_8 (b : List Bool) (i : ℕ) :
    Gen.slice (bits b) (some ((i : ℤ) + 4)) (some ((i : ℤ) + 8)) = bits (BenchBin.slice b (i + 4) 4) :=
  slice_bits_gen b (i + 4) 4 _ _ (by push_cast; rfl) (by push_cast; ring)

theorem slice_bits_neg_two (b : List Bool) : Gen.slice (bits b) (some (-2)) none = bits (b.drop (b.length - 2)) := by
  simp only [Gen.slice, Gen.bound, length_bits]
  have : ((-2 : ℤ) + (b.length : ℤ)).toNat = b.length - 2 := by omega
  have h2 : List.take b.length (bits b) = bits b := by rw [← length_bits b, List.take_length]
  simp only [Int.reduceNeg, Int.neg_neg_iff_pos, Order.lt_two_iff, zero_le_one, ↓reduceIte, this, h2, bits_drop]

theorem rangeStep_natCast (a n c k : ℕ) (hk : 0 < k) :
    Gen.rangeStep (a : ℤ) ((n : ℤ) - (c : ℤ)) k = (BenchBin.rangeStep a (n - c) k).map fun (m : ℕ) => (m : ℤ) := by
  simp only [Gen.rangeStep, BenchBin.rangeStep, List.map_map]
  have hN : (((n : ℤ) - (c : ℤ) - (a : ℤ) + ((k : ℤ) - 1)) / (k : ℤ)).toNat = (n - c - a + k - 1) / k := by
    by_cases h : a + c ≤ n
    · have : (n : ℤ) - (c : ℤ) - (a : ℤ) + ((k : ℤ) - 1) = ((n - c - a + k - 1 : ℕ) : ℤ) := by omega
      rw [this, ← Int.natCast_ediv, Int.toNat_natCast]
    · have h0 : (n - c - a + k - 1) / k = 0 := by
        apply Nat.div_eq_of_lt; omega
      rw [h0]
      have := Int.ediv_lt_of_lt_mul (Int.natCast_pos.2 hk)
        (by omega : (n : ℤ) - (c : ℤ) - (a : ℤ) + ((k : ℤ) - 1) < 1 * (k : ℤ))
      omega
  rw [hN]
  apply List.map_congr_left
  intro j _
  simp only [Function.comp_apply, Nat.cast_add, Nat.cast_mul]

theorem foldl_add_eq (f : ℤ → ℤ) (l : List ℤ) (a : ℤ) :
    List.foldl (fun acc p => acc + f p) a l = List.foldl (· + ·) a (l.map f) := by
  rw [List.foldl_map]

/-- the inlined `trap` / `inv_trap` on a bit list -/
theorem trap_bits (c : List Bool) :
    (if Gen.isum (bits c) = ((bits c).length : ℤ) then ((bits c).length : ℤ)
      else ((bits c).length : ℤ) - 1 - Gen.isum (bits c)) = BenchBin.trap c := by
  simp only [isum_bits, length_bits, BenchBin.trap, Nat.cast_inj]

theorem invTrap_bits (c : List Bool) :
    (if Gen.isum (bits c) = 0 then ((bits c).length : ℤ) else Gen.isum (bits c) - 1) = BenchBin.invTrap c := by
  simp only [isum_bits, length_bits, BenchBin.invTrap, Nat.cast_eq_zero]

/-- the same, after `isum_bits` / `length_bits` have fired -/
theorem trap_cast (c : List Bool) :
    (if (BenchBin.ones c : ℤ) = (c.length : ℤ) then (c.length : ℤ) else (c.length : ℤ) - 1 - (BenchBin.ones c : ℤ))
      = BenchBin.trap c := by
  simp only [BenchBin.trap, Nat.cast_inj]

theorem invTrap_cast (c : List Bool) :
    (if (BenchBin.ones c : ℤ) = 0 then (c.length : ℤ) else (BenchBin.ones c : ℤ) - 1) = BenchBin.invTrap c := by
  simp only [BenchBin.invTrap, Nat.cast_eq_zero]

theorem fdiv_natCast (a b : ℕ) : Int.fdiv (a : ℤ) (b : ℤ) = ((a / b : ℕ) : ℤ) := by
  rw [Int.fdiv_eq_ediv_of_nonneg _ (by omega)]; simp

theorem ipowInt_natCast (a : ℤ) (n : ℕ) : Gen.ipowInt a (n : ℤ) = some (a ^ n) := by
  simp only [Gen.ipowInt, Int.toNat_natCast, ite_eq_right_iff, reduceCtorEq, imp_false, not_lt, Nat.cast_nonneg]

theorem two_pow_sub_one (n : ℕ) : (2 : ℤ) ^ n - 1 = ((2 ^ n - 1 : ℕ) : ℤ) := by
  have : 1 ≤ 2 ^ n := Nat.one_le_two_pow
  rw [Nat.cast_sub this]; simp

theorem two_pow_sub_one_ne (n : ℕ) (h : n ≠ 0) : ((2 ^ n - 1 : ℕ) : ℤ) ≠ 0 := by
  have : 2 ≤ 2 ^ n := by
    calc 2 = 2 ^ 1 := rfl
      _ ≤ 2 ^ n := Nat.pow_le_pow_right (by norm_num) (by omega)
  omega

theorem binVal_cast (c : List Bool) (a : ℕ) :
    List.foldl (fun (acc : ℤ) (v : Bool) => 2 * acc + if v = true then 1 else 0) (a : ℤ) c
      = ((List.foldl (fun acc bit => 2 * acc + bit.toNat) a c : ℕ) : ℤ) := by
  induction c generalizing a with
  | nil => rfl
  | cons v t ih =>
    simp only [List.foldl_cons]
    have e : (2 * (a : ℤ) + if v = true then 1 else 0) = ((2 * a + v.toNat : ℕ) : ℤ) := by cases v <;> simp
    rw [e]
    exact ih _

theorem binNumeral_bits (c : List Bool) (h : c ≠ []) : Gen.binNumeral (bits c) = some (BenchBin.binVal c : ℤ) := by
  have h1 : (bits c).isEmpty = false := by cases c <;> simp_all [bits]
  have h2 : (bits c).all (fun d => d == 0 || d == 1) = true := by
    rw [List.all_eq_true]; intro x hx
    simp only [bits, List.mem_map] at hx
    obtain ⟨v, _, rfl⟩ := hx
    cases v <;> simp
  simp only [Gen.binNumeral, h1, h2, if_true, Bool.false_eq_true, if_false]
  simp only [BenchBin.binVal, bits, List.foldl_map]
  simpa using binVal_cast c 0

theorem foldlM_nat (f : ℤ → ℤ → Option ℤ) (h : ℕ → ℕ) (l : List ℕ)
    (hf : ∀ i ∈ l, ∀ acc, f acc (i : ℤ) = some (acc + (h i : ℤ))) (a : ℕ) :
    List.foldlM f (a : ℤ) (l.map Int.ofNat) = some (((l.map h).foldl (· + ·) a : ℕ) : ℤ) := by
  induction l generalizing a with
  | nil => rfl
  | cons i t ih =>
    simp only [List.map_cons, List.foldlM_cons, List.foldl_cons]
    have := hf i (by simp) (a : ℤ)
    simp only [Int.ofNat_eq_natCast] at this ⊢
    rw [this]
    exact ih (fun j hj => hf j (by simp [hj])) _

theorem foldlM_nat0 (f : ℤ → ℤ → Option ℤ) (h : ℕ → ℕ) (l : List ℕ)
    (hf : ∀ i ∈ l, ∀ acc, f acc (i : ℤ) = some (acc + (h i : ℤ))) :
    List.foldlM f 0 (l.map Int.ofNat) = some (((l.map h).foldl (· + ·) 0 : ℕ) : ℤ) := by
  simpa using foldlM_nat f h l hf 0

theorem whileLoop_of_not {σ : Type} (cond : σ → Bool) (body : σ → Option σ) {s : σ} (h : cond s = false) (fuel : ℕ) :
    Gen.whileLoop cond body fuel s = some s := by
  cases fuel <;> simp only [Gen.whileLoop, h, Bool.false_eq_true, if_false]

/-- one doubling below the bound `N` keeps "enough fuel": from `n ≥ 1` the doubling gains at least the unit of fuel
it uses -/
theorem doubling_fuel {N n f : ℕ} (h1 : 1 ≤ n ∨ N ≤ n) (hlt : n < N) (h : N < n + (f + 1)) :
    (1 ≤ n * 2 ∨ N ≤ n * 2) ∧ N < n * 2 + f := by
  omega

theorem rr2_loop (b : List Bool) (order : ℕ) (cond : ℤ × ℤ → Bool) (body : ℤ × ℤ → Option (ℤ × ℤ))
    (hc : ∀ (n t : ℕ), cond ((n : ℤ), (t : ℤ)) = decide (n < order * order))
    (hb : ∀ (n t : ℕ), body ((n : ℤ), (t : ℤ)) =
      (BenchBin.royalRoad1 b n).map fun (v : ℕ) => (((n * 2 : ℕ) : ℤ), ((t + v : ℕ) : ℤ)))
    (fuel : ℕ) : ∀ (fuel' n t : ℕ), (1 ≤ n ∨ order * order ≤ n) → order * order < n + fuel → order * order < n + fuel' →
      (Gen.whileLoop cond body fuel ((n : ℤ), (t : ℤ))).map Prod.snd
        = (BenchBin.royalRoad2Loop b order fuel' n t).map fun (v : ℕ) => (v : ℤ) := by
  -- past `order²` both loops stop with the total they have
  have stop : ∀ (fuel fuel' n t : ℕ), ¬ n < order * order →
      (Gen.whileLoop cond body fuel ((n : ℤ), (t : ℤ))).map Prod.snd
        = (BenchBin.royalRoad2Loop b order fuel' n t).map fun (v : ℕ) => (v : ℤ) := fun fuel fuel' n t hlt => by
    rw [whileLoop_of_not cond body ((hc n t).trans (decide_eq_false hlt)), C20L.royalRoad2Loop_of_not_lt b hlt]; rfl
  induction fuel with
  | zero => exact fun fuel' n t _ h2 _ => stop 0 fuel' n t (by omega)
  | succ fuel ih =>
    intro fuel' n t h1 h2 h3
    by_cases hlt : n < order * order
    · obtain ⟨f'', rfl⟩ : ∃ f'', fuel' = f'' + 1 := ⟨fuel' - 1, by omega⟩
      simp only [Gen.whileLoop, BenchBin.royalRoad2Loop, hc, hlt, decide_true, if_true, hb]
      cases hv : BenchBin.royalRoad1 b n with
      | none => rfl
      | some v =>
        exact ih f'' (n * 2) (t + v) (doubling_fuel h1 hlt h2).1 (doubling_fuel h1 hlt h2).2 (doubling_fuel h1 hlt h3).2
    · exact stop _ _ n t hlt

/-- the shape of the regenerated `royal_road2`: any fuel ≥ order² + 1 suffices -/
theorem rr2_main (b : List Bool) (order : ℕ) (cond : ℤ × ℤ → Bool) (body : ℤ × ℤ → Option (ℤ × ℤ)) (fuel : ℕ)
    (hfuel : order * order + 1 ≤ fuel)
    (hc : ∀ (n t : ℕ), cond ((n : ℤ), (t : ℤ)) = decide (n < order * order))
    (hb : ∀ (n t : ℕ), body ((n : ℤ), (t : ℤ)) =
      (BenchBin.royalRoad1 b n).map fun (v : ℕ) => (((n * 2 : ℕ) : ℤ), ((t + v : ℕ) : ℤ))) :
    (Option.bind (Gen.whileLoop cond body fuel ((order : ℤ), (0 : ℤ))) fun w => some [w.2])
      = (BenchBin.royalRoad2 b order).map fun (v : ℕ) => [(v : ℤ)] := by
  have h1 : (1 ≤ order ∨ order * order ≤ order) := by
    rcases Nat.eq_zero_or_pos order with rfl | h
    · right; simp
    · left; exact h
  have := rr2_loop b order cond body hc hb fuel (order * order + 1) order 0 h1 (by omega) (by omega)
  rw [BenchBin.royalRoad2]
  revert this
  cases Gen.whileLoop cond body fuel ((order : ℤ), (0 : ℤ)) <;>
    cases BenchBin.royalRoad2Loop b order (order * order + 1) order 0 <;> simp

end GenL

/-- guards on list lengths, `enumerate` (before the lists are evaluated) -/
macro "gen_guards" : tactic =>
  `(tactic| (
    try (simp only [GenL.nz_length_cons, GenL.nz_length_cons_sub_one, GenL.nz_length_one_sub_one,
      GenL.nz_length_nil_sub_one, GenL.nz_length_nil, GenL.enumerate_eq, List.map_map, Function.comp_def])))

/-- evaluate list accesses / option binds / Python list idioms without touching the arithmetic -/
macro "gen_lists" : tactic =>
  `(tactic| (
    try (simp only [List.getElem?_cons_zero, List.getElem?_cons_succ, List.getElem?_nil, Option.bind_some, Option.bind_none,
      Option.map_some, Option.map_none, List.drop_one, List.tail_cons, List.drop_succ_cons, List.drop_zero,
      GenL.zip_dropLast_tail, GenL.foldl_add_map, List.length_cons, List.length_nil, List.map_map, Function.comp_def,
      List.singleton_append, List.cons_append, List.nil_append, List.map_id', List.map_id_fun', id_eq,
      List.map_nil, List.prod_nil, List.sum_nil, List.take_nil, List.drop_nil, List.zip_nil_left, List.zip_nil_right,
      Nat.add_sub_cancel, Nat.add_one_sub_one, Nat.zero_add])))

/-- rewrite the `RealLike` operations and the translator's prelude at ℝ to Mathlib's -/
macro "gen_bridge" : tactic =>
  `(tactic| (
    try (simp only [real_bridge, GenL.real_ofInt, GenL.real_idiv, GenL.real_ipow])
    try push_cast
    try (simp only [GenL.rpow_half, add_sub_cancel_right, List.prod_nil, List.sum_nil, mul_one, one_mul])))

/-- closes an equation between two renderings of the same formula: syntactic equality, `ring1`, ring normal forms
(also under binders), else one congruence step (an argument, a list element, a function body) and again.  Descending
before normalising keeps the bound variable of two paired `fun`s the same atom on both sides; `ring_nf` orders atoms by
first appearance, so `π` is made the first atom (the dummy hypothesis) before it meets a bound variable. -/
syntax "gen_arith" : tactic
macro_rules
  | `(tactic| gen_arith) => `(tactic| first
      | rfl
      | ring1
      | (funext _; gen_arith)
      | ((fail_if_no_progress congr 1) <;> gen_arith)
      | (have hpi : Real.pi * 1 = Real.pi := mul_one _
         revert hpi; ring_nf; first | done | (intro _; first | done | trivial | rfl))
      | (ring_nf; done)
      | (ring_nf; (fail_if_no_progress congr 1) <;> gen_arith))

/-- the closing step of the equality theorems: guards, list accesses, bridge to ℝ, `gen_arith` -/
macro "gen_eq" : tactic =>
  `(tactic| (
    gen_guards
    gen_lists
    gen_bridge
    first | done | gen_arith))

/-- DTLZ with fewer variables than position variables: the comprehension meets `xc[k-1]` first (IndexError) and the
model's guard `dtlzOk` is false -/
macro "gen_dtlz_short" x:term:max k:term:max hk:term:max : tactic =>
  `(tactic| (
    have hd : decide (1 ≤ $k + 1 ∧ $k ≤ ($x).length) = false := by simp [$hk:term]
    have hlen : (($x).take $k).length = ($x).length := by simp; omega
    have hm : $k - 1 ∈ (List.range $k).reverse := by simp; omega
    have hh : (($x).take $k).length ≤ $k - 1 := by rw [hlen]; omega
    rw [GenL.mapM_index_none (m := $k - 1) (hm := hm) (h := hh)]
    simp only [hd]
    rfl))

/-- syntactic equality at every scalar (`_eq_model_poly`): after unfolding, the regenerated definition and the model
are the same term -/
macro "gen_poly_rfl" : tactic => `(tactic| rfl)
