/-
C03 — translator tie, helper lemmas.

The translator `harness/py2lean_c03.py` renders `deap/algorithms.py` `eaSimple` / `eaMuPlusLambda` / `eaMuCommaLambda` as
state-passing actions over the prelude `Core/GenPreludeC03.lean`.  Here: the CANONICAL renderings (`eaSimpleCanon`, … : what the
translator produces from the source as it is, with the loop bodies named) and the proofs that they are the hand-written model of
`Core/Loops.lean` (`Loops.eaSimple` … = `gen0` + `runGens` over `generation` with the loop's `Step`) on the decision records the
model's own decoders (`decodeAnd` / `decodeOr`) read off the recorded draws.  The committed theorems of `GenEq/C03.lean.tmpl` show
`Gen.<f> = <f>Canon` for the regenerated text and transfer.
-/
import DeapModel.Lemmas.C03
import DeapModel.Core.GenPreludeC03

namespace GenLL
open Variation Loops GenL

variable {σ β γ : Type}

@[simp] theorem bind_apply (m : M σ β) (k : β → M σ γ) (g : LSt σ) :
    GenL.bind m k g = match m g with | none => none | some (x, g1) => k x g1 := rfl
@[simp] theorem pure_apply (x : β) (g : LSt σ) : (GenL.pure x : M σ β) g = some (x, g) := rfl

/-- the model's view of a state of the rendering: `pop` = the content of the caller's list -/
def toLS (x : LSt σ) (pop : List Nat) : LState := ⟨x.st, pop, x.log, x.shown, x.shownObj, x.evals⟩

/-- what the model sees of a finished run: operators' state and `LState` -/
def proj (r : List Nat × LSt σ) : σ × LState := (r.2.tape, toLS r.2 r.1)

def ofLS (t : σ) (s : LState) (g : Nat) (cur : GRec) (recs : List GRec) : LSt σ :=
  ⟨t, s.st, s.log, s.shown, s.shownObj, s.evals, g, cur, recs⟩

theorem zipAssign_map (ev : List Int → List Int) : ∀ (l : List Nat) (h h0 : Heap),
    (∀ o, (h o).genome = (h0 o).genome) →
    zipAssign h l (l.map fun o => ev (h0 o).genome) = assignFits ev h l
  | [], _, _, _ => rfl
  | o :: os, h, h0, hg => by
    simp only [List.map_cons, ← hg o]
    apply zipAssign_map ev os
    intro p
    simp only [Heap.set]
    split
    · rename_i hp; subst hp; exact hg p
    · exact hg p

/-- the evaluation block of the four loops (`invalid_ind = […]`, `toolbox.map(toolbox.evaluate, …)`, the `zip` loop,
`halloffame.update`) is the model's `evalPhase` -/
def afterEval (ev : List Int → List Int) (x : LSt σ) (l : List Nat) : LSt σ :=
  let e := evalPhase ev false x.gen (toLS x []) l
  { x with st := e.1.st, shown := e.1.shown, shownObj := e.1.shownObj, evals := e.1.evals }

theorem evalBlock_apply (ev : List Int → List Int) (l : List Nat) (k : List Nat → M σ β) (x : LSt σ) :
    (GenL.bind (GenL.invalid l) fun inv =>
     GenL.bind (GenL.mapEvaluate ev inv) fun fs =>
     GenL.bind (GenL.assignZip inv fs) fun _ =>
     GenL.bind (GenL.when true (GenL.bind (GenL.hofUpdate l) fun _ => GenL.pure ())) fun _ => k inv) x
      = k (invalidOf x.st.heap l) (afterEval ev x l) := by
  simp only [bind_apply, GenL.invalid, GenL.mapEvaluate, GenL.assignZip, GenL.when, GenL.hofUpdate, if_true,
    zipAssign_map ev _ x.st.heap x.st.heap (fun _ => rfl)]
  rfl

/-- A generational loop whose body, run on the next record of the tape, is one `generation` of the model is `runGens`. -/
theorem forGens_eq_runGens {δ : Type} (ev : List Int → List Int) (body : Nat → List Nat → M σ (List Nat))
    (stepOf : δ → Step σ) (recOf : δ → GRec) (ok : δ → Prop)
    (happly : ∀ (g : Nat) (pop : List Nat) (d : δ), ok d → ∀ (rs : List GRec) (K : List Nat → M σ (List Nat)) (x : LSt σ),
      x.recs = recOf d :: rs →
      (GenL.bind (GenL.nextRec g) fun _ => GenL.bind (body g pop) fun p => GenL.bind GenL.endRec fun _ => K p) x =
        match generation ev (stepOf d) g x.tape (toLS x pop) with
        | none => none
        | some r => K r.2.pop (ofLS r.1 r.2 g ⟨[], [], [], []⟩ rs)) :
    ∀ (ds : List δ), (∀ d ∈ ds, ok d) → ∀ (g : Nat) (pop : List Nat) (x : LSt σ), x.recs = ds.map recOf →
      (GenL.forGens body g ds.length pop x).map proj = runGens ev (ds.map stepOf) g x.tape (toLS x pop)
  | [], _, _, _, _, _ => rfl
  | d :: ds, hds, g, pop, x, hx => by
    simp only [List.length_cons, GenL.forGens, List.map_cons, runGens]
    rw [happly g pop d (hds d (List.mem_cons_self ..)) (ds.map recOf) _ x hx]
    cases generation ev (stepOf d) g x.tape (toLS x pop) with
    | none => rfl
    | some r =>
      exact forGens_eq_runGens ev body stepOf recOf ok happly ds (fun d' h' => hds d' (List.mem_cons_of_mem _ h')) (g + 1)
        r.2.pop _ rfl

/-- generation 0 as rendered (evaluation block, then `logbook.record(gen=0, …)`) leaves a state `y` that the model's `gen0` describes -/
theorem record0_apply (ev : List Int → List Int) (pop : List Nat) (x : LSt σ) (hg : x.gen = 0) :
    ∃ y : LSt σ, y.tape = x.tape ∧ y.recs = x.recs ∧ gen0 ev (toLS x pop) = toLS y pop ∧
      GenL.record 0 (invalidOf x.st.heap pop).length (afterEval ev x pop) = some ((), y) :=
  ⟨{ afterEval ev x pop with log := (afterEval ev x pop).log ++ [(0, (invalidOf x.st.heap pop).length)] }, rfl, rfl,
    by simp only [gen0, toLS, afterEval, evalPhase, hg]; rfl, rfl⟩

/-- canonical body of eaSimple's generational loop (algorithms.py 163-185); yields the new content of `population` -/
def simpleBody (ops : Ops σ) (ev : List Int → List Int) (cxpb mutpb : Float) (hof : Bool) (gen : Nat)
    (population : List Nat) : M σ (List Nat) :=
  GenL.bind (GenL.select population population.length) fun offspring =>
  GenL.bind (GenL.callV (GenVL.varAndCanon ops offspring cxpb mutpb)) fun offspring =>
  GenL.bind (GenL.invalid offspring) fun invalid_ind =>
  GenL.bind (GenL.mapEvaluate ev invalid_ind) fun fitnesses =>
  GenL.bind (GenL.assignZip invalid_ind fitnesses) fun _ =>
  GenL.bind (GenL.when hof (GenL.bind (GenL.hofUpdate offspring) fun _ => GenL.pure ())) fun _ =>
  let population := offspring
  GenL.bind (GenL.record gen invalid_ind.length) fun _ =>
  GenL.pure population

def eaSimpleCanon (population : List Nat) (ops : Ops σ) (ev : List Int → List Int) (cxpb mutpb : Float) (ngen : Nat)
    (hof : Bool) : M σ (List Nat) :=
  GenL.bind (GenL.invalid population) fun invalid_ind =>
  GenL.bind (GenL.mapEvaluate ev invalid_ind) fun fitnesses =>
  GenL.bind (GenL.assignZip invalid_ind fitnesses) fun _ =>
  GenL.bind (GenL.when hof (GenL.bind (GenL.hofUpdate population) fun _ => GenL.pure ())) fun _ =>
  GenL.bind (GenL.record 0 invalid_ind.length) fun _ =>
  GenL.bind (GenL.forGens (simpleBody ops ev cxpb mutpb hof) 1 ngen population) fun population =>
  GenL.pure population

/-- one generation's record on the tape: the selected positions, the `random()` results `varAnd` consumes -/
def recS (d : List Nat × List Float) : GRec := ⟨[d.1], [d.2.map Draw.rnd], [], []⟩

/-- … and the model's decision record for it (`decodeAnd` spelled out) -/
def decS (cxpb mutpb : Float) (d : List Nat × List Float) : SimpleDec :=
  ⟨d.1, (d.2.take (d.1.length / 2)).map (fun r => decide (r < cxpb)),
        (d.2.drop (d.1.length / 2)).map (fun r => decide (r < mutpb))⟩

theorem runExact_varAndCanon (ops : Ops σ) (population : List Nat) (cxpb mutpb : Float) (t : σ) (s : St)
    (fl : List Float) (h : fl.length = population.length / 2 + population.length) :
    GenV.runExact (GenVL.varAndCanon ops population cxpb mutpb) t s (fl.map Draw.rnd) =
      (Variation.varAnd ops t s population ((fl.take (population.length / 2)).map (fun r => decide (r < cxpb)))
        ((fl.drop (population.length / 2)).map (fun r => decide (r < mutpb)))).map GenVL.resExact := by
  have := GenVL.varAndCanon_eq_model ops population cxpb mutpb t s fl [] h
  rw [List.append_nil] at this
  simp only [GenV.runExact, this, decodeAnd, h, if_true, Option.bind_some]
  cases Variation.varAnd ops t s population _ _ <;> rfl

theorem simpleGen_apply (ops : Ops σ) (ev : List Int → List Int) (cxpb mutpb : Float) (g : Nat) (pop : List Nat)
    (d : List Nat × List Float) (hd : d.2.length = d.1.length / 2 + d.1.length) (rs : List GRec)
    (K : List Nat → M σ β) (x : LSt σ) (hx : x.recs = recS d :: rs) :
    (GenL.bind (GenL.nextRec g) fun _ => GenL.bind (simpleBody ops ev cxpb mutpb true g pop) fun p =>
      GenL.bind GenL.endRec fun _ => K p) x
      = match generation ev (simpleStep ops (decS cxpb mutpb d)) g x.tape (toLS x pop) with
        | none => none
        | some r => K r.2.pop (ofLS r.1 r.2 g ⟨[], [], [], []⟩ rs) := by
  simp only [bind_apply, GenL.nextRec, hx, simpleBody, GenL.select, recS, generation, simpleStep, decS, toLS]
  by_cases hl : d.1.length = pop.length
  · simp only [hl, if_true]
    cases hp : pickAll pop d.1 with
    | none => rfl
    | some chosen =>
      have hc : d.2.length = chosen.length / 2 + chosen.length := by
        rw [(pickAll_spec pop d.1 chosen hp).1]; exact hd
      have hlen : chosen.length = pop.length := by rw [(pickAll_spec pop d.1 chosen hp).1]; exact hl
      simp only [GenL.callV, runExact_varAndCanon ops chosen cxpb mutpb _ _ d.2 hc, hlen]
      cases hv : Variation.varAnd ops x.tape x.st chosen
          ((d.2.take (pop.length / 2)).map fun r => decide (r < cxpb))
          ((d.2.drop (pop.length / 2)).map fun r => decide (r < mutpb)) with
      | none => rfl
      | some r =>
        simp only [Option.map_some, GenVL.resExact]
        simp only [GenL.invalid, GenL.mapEvaluate, GenL.assignZip, GenL.when, GenL.hofUpdate, if_true, GenL.record,
          bind_apply, GenL.pure, GenL.endRec, zipAssign_map ev _ r.st.heap r.st.heap (fun _ => rfl), List.isEmpty_nil, Bool.and_self,
          evalPhase, ofLS, Bool.false_eq_true, if_false]
  · simp only [hl, if_false]

/-- The canonical rendering of `eaSimple`, run with a hall of fame on a tape of per-generation records (selected positions, the
`random()` results `varAnd` consumes), is the model's `eaSimple` on the decision records `decodeAnd` reads off them. -/
theorem eaSimpleCanon_eq_model (ops : Ops σ) (ev : List Int → List Int) (cxpb mutpb : Float) (pop : List Nat)
    (ds : List (List Nat × List Float)) (hds : ∀ d ∈ ds, d.2.length = d.1.length / 2 + d.1.length)
    (x : LSt σ) (hg : x.gen = 0) (hx : x.recs = ds.map recS) :
    (eaSimpleCanon pop ops ev cxpb mutpb ds.length true x).map proj =
      Loops.eaSimple ops ev (ds.map (decS cxpb mutpb)) x.tape (toLS x pop) := by
  unfold eaSimpleCanon
  rw [evalBlock_apply]
  obtain ⟨y, e3, e4, e2, e1⟩ := record0_apply ev pop x hg
  have key := forGens_eq_runGens ev (simpleBody ops ev cxpb mutpb true) (fun d => simpleStep ops (decS cxpb mutpb d)) recS _
    (fun g pop d hd rs K x hx => simpleGen_apply ops ev cxpb mutpb g pop d hd rs K x hx) ds hds 1 pop y (e4.trans hx)
  simp only [bind_apply, e1, Loops.eaSimple, runPop, List.map_map, e2, ← e3]
  rw [show (ds.map ((simpleStep ops) ∘ (decS cxpb mutpb))) = ds.map (fun d => simpleStep ops (decS cxpb mutpb d)) from rfl,
    ← key]
  cases GenL.forGens (simpleBody ops ev cxpb mutpb true) 1 ds.length pop y <;> rfl

/-- the two (μ, λ) steps of the model differ in the candidate list the environmental selection is given -/
def mlStep (ops : Ops σ) (mu lam : Nat) (cand : List Nat → List Nat → List Nat) (d : MuLamDec) : Step σ where
  produce := fun t st pop => Variation.varOr ops t st pop lam d.choices
  replace := fun _ pop off => if d.envSel.length = mu then pickAll (cand pop off) d.envSel else none

theorem plusStep_eq (ops : Ops σ) (mu lam : Nat) (d : MuLamDec) :
    plusStep ops mu lam d = mlStep ops mu lam (fun p o => p ++ o) d := rfl
theorem commaStep_eq (ops : Ops σ) (mu lam : Nat) (d : MuLamDec) :
    commaStep ops mu lam d = mlStep ops mu lam (fun _ o => o) d := rfl

/-- canonical body of the generational loop of eaMuPlusLambda (algorithms.py 314-335) / eaMuCommaLambda (415-436) -/
def muLamBody (cand : List Nat → List Nat → List Nat) (ops : Ops σ) (ev : List Int → List Int) (mu lam : Nat)
    (cxpb mutpb : Float) (hof : Bool) (gen : Nat) (population : List Nat) : M σ (List Nat) :=
  GenL.bind (GenL.callV (GenVL.varOrCanon ops population lam cxpb mutpb)) fun offspring =>
  GenL.bind (GenL.invalid offspring) fun invalid_ind =>
  GenL.bind (GenL.mapEvaluate ev invalid_ind) fun fitnesses =>
  GenL.bind (GenL.assignZip invalid_ind fitnesses) fun _ =>
  GenL.bind (GenL.when hof (GenL.bind (GenL.hofUpdate offspring) fun _ => GenL.pure ())) fun _ =>
  GenL.bind (GenL.select (cand population offspring) mu) fun population =>
  GenL.bind (GenL.record gen invalid_ind.length) fun _ =>
  GenL.pure population

def muLamCanon (cand : List Nat → List Nat → List Nat) (population : List Nat) (ops : Ops σ) (ev : List Int → List Int)
    (mu lam : Nat) (cxpb mutpb : Float) (ngen : Nat) (hof : Bool) : M σ (List Nat) :=
  GenL.bind (GenL.invalid population) fun invalid_ind =>
  GenL.bind (GenL.mapEvaluate ev invalid_ind) fun fitnesses =>
  GenL.bind (GenL.assignZip invalid_ind fitnesses) fun _ =>
  GenL.bind (GenL.when hof (GenL.bind (GenL.hofUpdate population) fun _ => GenL.pure ())) fun _ =>
  GenL.bind (GenL.record 0 invalid_ind.length) fun _ =>
  GenL.bind (GenL.forGens (muLamBody cand ops ev mu lam cxpb mutpb hof) 1 ngen population) fun population =>
  GenL.pure population

def eaMuPlusLambdaCanon (population : List Nat) (ops : Ops σ) (ev : List Int → List Int) (mu lam : Nat)
    (cxpb mutpb : Float) (ngen : Nat) (hof : Bool) : M σ (List Nat) :=
  muLamCanon (fun p o => p ++ o) population ops ev mu lam cxpb mutpb ngen hof

/-- the canonical rendering of `eaMuCommaLambda` (line 395: `assert lambda_ >= mu`) -/
def eaMuCommaLambdaCanon (population : List Nat) (ops : Ops σ) (ev : List Int → List Int) (mu lam : Nat)
    (cxpb mutpb : Float) (ngen : Nat) (hof : Bool) : M σ (List Nat) :=
  if mu ≤ lam then muLamCanon (fun _ o => o) population ops ev mu lam cxpb mutpb ngen hof else GenL.fail

/-- one generation's record: (positions of the environmental selection, the draws `varOr` consumes, the choices `decodeOr`
reads off those draws) ↦ the tape record / the model's decision record -/
def recM (d : List Nat × List Draw × List Choice) : GRec := ⟨[d.1], [d.2.1], [], []⟩
def decM (d : List Nat × List Draw × List Choice) : MuLamDec := ⟨d.2.2, d.1⟩

theorem muLamGen_apply (cand : List Nat → List Nat → List Nat) (ops : Ops σ) (ev : List Int → List Int) (mu lam : Nat)
    (cxpb mutpb : Float) (g : Nat) (pop : List Nat)
    (d : List Nat × List Draw × List Choice) (hd : decodeOr cxpb mutpb lam d.2.1 = some d.2.2) (rs : List GRec)
    (K : List Nat → M σ β) (x : LSt σ) (hx : x.recs = recM d :: rs) :
    (GenL.bind (GenL.nextRec g) fun _ => GenL.bind (muLamBody cand ops ev mu lam cxpb mutpb true g pop) fun p =>
      GenL.bind GenL.endRec fun _ => K p) x
      = if orAssert cxpb mutpb then
          match generation ev (mlStep ops mu lam cand (decM d)) g x.tape (toLS x pop) with
          | none => none
          | some r => K r.2.pop (ofLS r.1 r.2 g ⟨[], [], [], []⟩ rs)
        else none := by
  simp only [bind_apply, GenL.nextRec, hx, muLamBody, recM, GenL.callV, GenVL.varOrCanon_eq_model, generation, mlStep, decM,
    toLS, hd, Option.bind_some]
  by_cases ha : orAssert cxpb mutpb = true
  · simp only [ha]
    cases hv : Variation.varOr ops x.tape x.st pop lam d.2.2 with
    | none => rfl
    | some r =>
      simp only [Option.map_some, GenVL.resExact, GenL.invalid, GenL.mapEvaluate, GenL.assignZip, GenL.when,
        GenL.hofUpdate, if_true, bind_apply, GenL.pure, GenL.select,
        zipAssign_map ev _ r.st.heap r.st.heap (fun _ => rfl), evalPhase, Bool.false_eq_true, if_false]
      by_cases hl : d.1.length = mu
      · simp only [hl]
        cases pickAll (cand pop r.off) d.1 with
        | none => rfl
        | some np =>
          simp only [GenL.record, GenL.endRec, List.isEmpty_nil, Bool.and_self, if_true, ofLS]
      · simp only [hl, if_false]
  · simp only [ha]
    rfl

theorem forGens_muLam (cand : List Nat → List Nat → List Nat) (ops : Ops σ) (ev : List Int → List Int) (mu lam : Nat)
    (cxpb mutpb : Float) (ds : List (List Nat × List Draw × List Choice))
    (hds : ∀ d ∈ ds, decodeOr cxpb mutpb lam d.2.1 = some d.2.2) (g : Nat) (pop : List Nat) (x : LSt σ)
    (hx : x.recs = ds.map recM) :
    (GenL.forGens (muLamBody cand ops ev mu lam cxpb mutpb true) g ds.length pop x).map proj =
      if orAssert cxpb mutpb = true ∨ ds = [] then
        runGens ev (ds.map fun d => mlStep ops mu lam cand (decM d)) g x.tape (toLS x pop)
      else none := by
  by_cases ha : orAssert cxpb mutpb = true
  · rw [if_pos (Or.inl ha)]
    exact forGens_eq_runGens ev _ _ recM _ (fun g pop d hd rs K x hx => by
      rw [muLamGen_apply cand ops ev mu lam cxpb mutpb g pop d hd rs K x hx, if_pos ha]) ds hds g pop x hx
  · cases ds with
    | nil => rw [if_pos (Or.inr rfl)]; rfl
    | cons d ds =>
      simp only [List.length_cons, GenL.forGens, ha]
      rw [muLamGen_apply cand ops ev mu lam cxpb mutpb g pop d (hds d (List.mem_cons_self ..)) (ds.map recM) _ x hx,
        if_neg ha]
      rfl

theorem muLamCanon_eq_model (cand : List Nat → List Nat → List Nat) (ops : Ops σ) (ev : List Int → List Int) (mu lam : Nat)
    (cxpb mutpb : Float) (pop : List Nat)
    (ds : List (List Nat × List Draw × List Choice)) (hds : ∀ d ∈ ds, decodeOr cxpb mutpb lam d.2.1 = some d.2.2)
    (x : LSt σ) (hg : x.gen = 0) (hx : x.recs = ds.map recM) :
    (muLamCanon cand pop ops ev mu lam cxpb mutpb ds.length true x).map proj =
      if orAssert cxpb mutpb = true ∨ ds = [] then
        runPop ev (ds.map fun d => mlStep ops mu lam cand (decM d)) x.tape (toLS x pop)
      else none := by
  unfold muLamCanon
  rw [evalBlock_apply]
  obtain ⟨y, e3, e4, e2, e1⟩ := record0_apply ev pop x hg
  have key := forGens_muLam cand ops ev mu lam cxpb mutpb ds hds 1 pop y (e4.trans hx)
  simp only [bind_apply, e1, runPop, e2, ← e3]
  rw [← key]
  cases GenL.forGens (muLamBody cand ops ev mu lam cxpb mutpb true) 1 ds.length pop y <;> rfl

/-- The canonical rendering of `eaMuPlusLambda`, run with a hall of fame on a tape of per-generation records (the draws `varOr`
consumes, the positions of the environmental selection), is the model's `eaMuPlusLambda` on the decision records `decodeOr` reads
off them; `none` when `assert cxpb + mutpb <= 1.0` fails in the first generation. -/
theorem eaMuPlusLambdaCanon_eq_model (ops : Ops σ) (ev : List Int → List Int) (mu lam : Nat) (cxpb mutpb : Float)
    (pop : List Nat) (ds : List (List Nat × List Draw × List Choice))
    (hds : ∀ d ∈ ds, decodeOr cxpb mutpb lam d.2.1 = some d.2.2) (x : LSt σ) (hg : x.gen = 0) (hx : x.recs = ds.map recM) :
    (eaMuPlusLambdaCanon pop ops ev mu lam cxpb mutpb ds.length true x).map proj =
      if orAssert cxpb mutpb = true ∨ ds = [] then
        Loops.eaMuPlusLambda ops ev mu lam (ds.map decM) x.tape (toLS x pop)
      else none := by
  unfold eaMuPlusLambdaCanon
  rw [muLamCanon_eq_model _ ops ev mu lam cxpb mutpb pop ds hds x hg hx]
  simp only [Loops.eaMuPlusLambda, List.map_map]
  rfl

theorem eaMuCommaLambdaCanon_eq_model (ops : Ops σ) (ev : List Int → List Int) (mu lam : Nat) (cxpb mutpb : Float)
    (pop : List Nat) (ds : List (List Nat × List Draw × List Choice))
    (hds : ∀ d ∈ ds, decodeOr cxpb mutpb lam d.2.1 = some d.2.2) (x : LSt σ) (hg : x.gen = 0) (hx : x.recs = ds.map recM) :
    (eaMuCommaLambdaCanon pop ops ev mu lam cxpb mutpb ds.length true x).map proj =
      if orAssert cxpb mutpb = true ∨ ds = [] ∨ ¬ mu ≤ lam then
        Loops.eaMuCommaLambda ops ev mu lam (ds.map decM) x.tape (toLS x pop)
      else none := by
  unfold eaMuCommaLambdaCanon
  by_cases hm : mu ≤ lam
  · simp only [hm, if_true, not_true_eq_false, or_false]
    rw [muLamCanon_eq_model _ ops ev mu lam cxpb mutpb pop ds hds x hg hx]
    simp only [Loops.eaMuCommaLambda, commaAssert, hm, List.map_map]
    rfl
  · simp only [hm, not_false_eq_true, or_true, Loops.eaMuCommaLambda, commaAssert]
    rfl

/-- canonical body of eaGenerateUpdate's loop (algorithms.py 483-503); `_population` = the list of the previous generation -/
def guBody (ev : List Int → List Int) (hof : Bool) (gen : Nat) (_population : List Nat) : M σ (List Nat) :=
  GenL.bind GenL.generate fun population =>
  GenL.bind (GenL.mapEvaluate ev population) fun fitnesses =>
  GenL.bind (GenL.assignZip population fitnesses) fun _ =>
  GenL.bind (GenL.when hof (GenL.bind (GenL.hofUpdate population) fun _ => GenL.pure ())) fun _ =>
  GenL.bind (GenL.update population) fun population =>
  GenL.bind (GenL.record gen population.length) fun _ =>
  GenL.pure population

def eaGenerateUpdateCanon (_ops : Ops σ) (ev : List Int → List Int) (ngen : Nat) (hof : Bool) : M σ (List Nat) :=
  let population : List Nat := []
  GenL.bind (GenL.forGens (guBody ev hof) 0 ngen population) fun population =>
  GenL.pure population

def recG (d : List (Nat × Obj) × List Nat) : GRec := ⟨[], [], [d.1], [d.2]⟩

theorem guGen_apply (ev : List Int → List Int) (g : Nat) (pop : List Nat) (d : List (Nat × Obj) × List Nat)
    (rs : List GRec) (K : List Nat → M σ β) (x : LSt σ) (hx : x.recs = recG d :: rs) :
    (GenL.bind (GenL.nextRec g) fun _ => GenL.bind (guBody ev true g pop) fun p =>
      GenL.bind GenL.endRec fun _ => K p) x
      = match generation ev (guStep (σ := σ) d.1 d.2) g x.tape (toLS x pop) with
        | none => none
        | some r => K r.2.pop (ofLS r.1 r.2 g ⟨[], [], [], []⟩ rs) := by
  simp only [bind_apply, GenL.nextRec, hx, guBody, recG, GenL.generate, generation, guStep, toLS]
  by_cases hn : (d.1.map (·.1)).Nodup
  · simp only [hn, decide_true, if_true, GenL.mapEvaluate, GenL.assignZip, GenL.when, GenL.hofUpdate, bind_apply, GenL.pure,
      GenL.update, zipAssign_map ev _ (writeAll x.st d.1).heap (writeAll x.st d.1).heap (fun _ => rfl), evalPhase]
    by_cases hp : isPerm d.2 (d.1.map (·.1)).length = true
    · simp only [hp]
      cases hq : pickAll (d.1.map (·.1)) d.2 with
      | none => rfl
      | some np =>
        have hl : np.length = (d.1.map (·.1)).length := by
          rw [(pickAll_spec _ _ _ hq).1]; exact isPerm_length _ _ hp
        simp only [GenL.record, GenL.endRec, List.isEmpty_nil, Bool.and_self, if_true, ofLS, hl]
    · simp only [hp, if_false, Bool.false_eq_true]
  · simp only [hn, decide_false, if_false, Bool.false_eq_true]

/-- a run that starts with empty ghost records (the model's `eaGenerateUpdate` starts there) -/
def initG (t : σ) (st : St) (recs : List GRec) : LSt σ := ⟨t, st, [], [], [], [], 0, ⟨[], [], [], []⟩, recs⟩

/-- The canonical rendering of `eaGenerateUpdate`, run with a hall of fame on a tape of per-generation records (what
`toolbox.generate()` hands back, the order `toolbox.update` leaves the list in), is the model's `eaGenerateUpdate`. -/
theorem eaGenerateUpdateCanon_eq_model (ops : Ops σ) (ev : List Int → List Int) (gens : List (List (Nat × Obj) × List Nat))
    (t : σ) (st : St) :
    (eaGenerateUpdateCanon ops ev gens.length true (initG t st (gens.map recG))).map proj =
      Loops.eaGenerateUpdate ev gens t st := by
  have key := forGens_eq_runGens ev (guBody ev true) _ recG (fun _ => True)
    (fun g pop d _ rs K x hx => guGen_apply ev g pop d rs K x hx) gens (fun _ _ => trivial) 0 []
    (initG t st (gens.map recG)) rfl
  simp only [eaGenerateUpdateCanon, bind_apply, Loops.eaGenerateUpdate, runGU]
  rw [show (runGens ev (gens.map fun g => guStep (σ := σ) g.1 g.2) 0 t { st := st, pop := [] }) =
    runGens ev (gens.map fun d => guStep (σ := σ) d.1 d.2) 0 (initG t st (gens.map recG)).tape
      (toLS (initG t st (gens.map recG)) []) from rfl, ← key]
  cases GenL.forGens (guBody ev true) 0 gens.length [] (initG t st (gens.map recG)) <;> rfl

end GenLL
