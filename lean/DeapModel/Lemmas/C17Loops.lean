/-
C17 on the loop model of C03 — helper definitions and lemmas: the loop as a `Resume.Run` whose step consumes one
decision record (`loopRun`), and the loops with `toolbox.map` a parameter (`evalPhaseWith` … `runPopWith`).
Also what the examples and the hidden-state clause of `Props/C17.lean` are stated with: a machine whose operators use
the tape (`tapeOps` … `encNoTape`), and a generator state paired with a hidden component (`KeepsHidden`, `hideEnc` /
`hideDec`, `liftHidden`).

`DeapModel/Core/Resume.lean` is the algebra of checkpointing over an abstract step function.  Here the
step function is the ACTUAL generation of the packaged loops (`Loops.generation`, `DeapModel/Core/Loops.lean`).
-/
import DeapModel.Lemmas.C03
import DeapModel.Lemmas.C17Buf

namespace C17
open Variation Loops Resume

/-- The machine state of the C03 loops: generation counter, tape (state of the random generators), `LState` =
everything else the loop owns (heap of individuals with their fitnesses, fresh-oid counter, the caller's population
list, logbook records, hall-of-fame feed, evaluation calls). -/
abbrev MState (σ : Type) := Nat × σ × LState

/-- What one generation computes, ghost records left out: the new tape, heap/oid counter and population, and
what it will append to the ghost records (`nevals`, the offspring shown to the hall of fame, the same offspring
with the content — genome, fitness — they had when shown, the individuals `toolbox.evaluate` was called on). -/
structure GenOut (σ : Type) where
  tape : σ
  st : St
  pop : List Nat
  nevals : Nat
  offspring : List Nat
  offspringObj : List (Nat × Obj)
  evaluated : List Nat

/-- One generation as a function of the tape, `st` and `pop` alone (not even the generation number). -/
def genCore {σ : Type} (ev : List Int → List Int) (stp : Step σ) (t : σ) (st : St) (pop : List Nat) :
    Option (GenOut σ) :=
  match stp.produce t st pop with
  | none => none
  | some r =>
    let inv := if stp.evalAll then r.off else invalidOf r.st.heap r.off
    let heap := assignFits ev r.st.heap inv
    match stp.replace heap pop r.off with
    | none => none
    | some np =>
      some ⟨r.tape, { r.st with heap := heap }, np, inv.length, r.off, r.off.map (fun o => (o, heap o)), inv⟩

/-- One machine step: consume the next decision record with `Loops.generation` and increment the counter.
No record left: unchanged.  A failed generation (or an already failed machine): `none`. -/
def loopStep {σ : Type} (ev : List Int → List Int) :
    Option (MState σ × List (Step σ)) → Option (MState σ × List (Step σ))
  | none => none
  | some (m, []) => some (m, [])
  | some ((g, t, s), stp :: rest) =>
    match generation ev stp g t s with
    | none => none
    | some (t1, s1) => some ((g + 1, t1, s1), rest)

/-- Checkpoint of the machine: the machine state is pickled with `enc`; the decision records still to come are
not part of the process (they are the future draws) and are kept as they are. -/
def loopEnc {σ B : Type} (enc : MState σ → B) :
    Option (MState σ × List (Step σ)) → Option (B × List (Step σ))
  | none => none
  | some (m, steps) => some (enc m, steps)

def loopDec {σ B : Type} (dec : B → Option (MState σ)) :
    Option (B × List (Step σ)) → Option (Option (MState σ × List (Step σ)))
  | none => some none
  | some (b, steps) => (dec b).map (fun m => some (m, steps))

/-- The C03 loop as a `Resume.Run`. -/
def loopRun {σ B : Type} (ev : List Int → List Int) (enc : MState σ → B) (dec : B → Option (MState σ)) :
    Run (Option (MState σ × List (Step σ))) (Option (B × List (Step σ))) where
  step := loopStep ev
  enc := loopEnc enc
  dec := loopDec dec

theorem loopRun_roundtrip {σ B : Type} (ev : List Int → List Int) (enc : MState σ → B)
    (dec : B → Option (MState σ)) (h : ∀ m, dec (enc m) = some m) :
    ∀ x, (loopRun ev enc dec).dec ((loopRun ev enc dec).enc x) = some x
  | none => rfl
  | some (m, steps) => by simp [loopRun, loopEnc, loopDec, h]

theorem run_loopRun_none {σ B : Type} (ev : List Int → List Int) (enc : MState σ → B)
    (dec : B → Option (MState σ)) : ∀ n, run (loopRun ev enc dec) n none = none
  | 0 => rfl
  | n + 1 => run_loopRun_none ev enc dec n

theorem run_loopRun {σ B : Type} (ev : List Int → List Int) (enc : MState σ → B)
    (dec : B → Option (MState σ)) :
    ∀ (n : Nat) (steps : List (Step σ)) (g : Nat) (t : σ) (s : LState),
      run (loopRun ev enc dec) n (some ((g, t, s), steps)) =
        (runGens ev (steps.take n) g t s).map
          (fun r => ((g + min n steps.length, r.1, r.2), steps.drop n))
  | 0, steps, g, t, s => by rw [Nat.zero_min]; rfl
  | n + 1, [], g, t, s => (run_loopRun ev enc dec n [] g t s).trans (by
      simp only [List.length_nil, Nat.min_zero, List.take_nil, List.drop_nil])
  | n + 1, stp :: rest, g, t, s => by
    show run (loopRun ev enc dec) n (loopStep ev (some ((g, t, s), stp :: rest))) = _
    rw [loopStep, List.take_succ_cons, runGens, List.drop_succ_cons, List.length_cons]
    cases generation ev stp g t s with
    | none => exact run_loopRun_none ev enc dec n
    | some r =>
      rw [run_loopRun ev enc dec n rest (g + 1) r.1 r.2,
        show g + 1 + min n rest.length = g + min (n + 1) (rest.length + 1) by omega]

theorem runGens_take_drop {σ : Type} (ev : List Int → List Int) (steps : List (Step σ)) (k g : Nat) (t : σ)
    (s : LState) :
    runGens ev steps g t s = (runGens ev (steps.take k) g t s).bind fun r =>
      runGens ev (steps.drop k) (g + min k steps.length) r.1 r.2 := by
  have e := runGens_append ev (steps.take k) (steps.drop k) g t s
  rw [List.take_append_drop] at e
  rw [e]
  cases runGens ev (steps.take k) g t s with
  | none => rfl
  | some r => rw [List.length_take]; rfl

/-- `for ind, fit in zip(invalid_ind, fitnesses): ind.fitness.values = fit` -/
def assignZip (h : Heap) (inv : List Nat) (fits : List (List Int)) : Heap :=
  (inv.zip fits).foldl (fun h p => h.set p.1 { h p.1 with fit := some p.2 }) h

theorem assignZip_nil_left (h : Heap) (fits : List (List Int)) : assignZip h [] fits = h := rfl

theorem assignZip_cons (h : Heap) (o : Nat) (os : List Nat) (f : List Int) (fs : List (List Int)) :
    assignZip h (o :: os) (f :: fs) = assignZip (h.set o { h o with fit := some f }) os fs := rfl

theorem set_fit_genome (h : Heap) (o : Nat) (f : Option (List Int)) (p : Nat) :
    ((h.set o { h o with fit := f }) p).genome = (h p).genome := by
  by_cases e : p = o
  · subst e; simp
  · rw [Heap.set_other _ _ _ _ e]

/-- The evaluate-then-assign loop of the model = the fitnesses of the genomes AS THEY WERE BEFORE the block,
assigned through `zip` (also when `inv` has repeated oids: evaluation reads genomes only and assignments do not
change them). -/
theorem assignFits_eq_zip (ev : List Int → List Int) (h : Heap) (inv : List Nat) :
    assignFits ev h inv = assignZip h inv (inv.map (fun o => ev (h o).genome)) := by
  induction inv generalizing h with
  | nil => rfl
  | cons o os ih =>
    rw [List.map_cons, assignZip_cons, assignFits, ih]
    congr 1
    apply List.map_congr_left
    intro p _
    rw [set_fit_genome]

/-- `Loops.evalPhase` with `toolbox.map` a parameter: `fitnesses = toolbox.map(toolbox.evaluate, invalid_ind)`
then the `zip` loop. -/
def evalPhaseWith (mapper : (Nat → List Int) → List Nat → List (List Int)) (ev : List Int → List Int)
    (all : Bool) (g : Nat) (s : LState) (l : List Nat) : LState × Nat :=
  let inv := if all then l else invalidOf s.st.heap l
  ({ s with st := { s.st with heap := assignZip s.st.heap inv (mapper (fun o => ev (s.st.heap o).genome) inv) },
            shown := s.shown ++ l,
            shownObj := s.shownObj ++ l.map (fun o =>
              (o, assignZip s.st.heap inv (mapper (fun o => ev (s.st.heap o).genome) inv) o)),
            evals := s.evals ++ inv.map (fun o => (g, o)) }, inv.length)

/-- `Loops.gen0` with the map a parameter. -/
def gen0With (mapper : (Nat → List Int) → List Nat → List (List Int)) (ev : List Int → List Int)
    (s : LState) : LState :=
  let r := evalPhaseWith mapper ev false 0 s s.pop
  { r.1 with log := r.1.log ++ [(0, r.2)] }

/-- `Loops.generation` with the map a parameter. -/
def generationWith {σ : Type} (mapper : (Nat → List Int) → List Nat → List (List Int))
    (ev : List Int → List Int) (stp : Step σ) (g : Nat) (t : σ) (s : LState) : Option (σ × LState) :=
  match stp.produce t s.st s.pop with
  | none => none
  | some r =>
    let e := evalPhaseWith mapper ev stp.evalAll g { s with st := r.st } r.off
    match stp.replace e.1.st.heap s.pop r.off with
    | none => none
    | some np => some (r.tape, { e.1 with pop := np, log := e.1.log ++ [(g, e.2)] })

/-- `Loops.runGens` with, per generation number, its own map (another pool, another completion order). -/
def runGensWith {σ : Type} (m : Nat → (Nat → List Int) → List Nat → List (List Int))
    (ev : List Int → List Int) : List (Step σ) → Nat → σ → LState → Option (σ × LState)
  | [], _, t, s => some (t, s)
  | stp :: rest, g, t, s =>
    match generationWith (m g) ev stp g t s with
    | none => none
    | some (t1, s1) => runGensWith m ev rest (g + 1) t1 s1

/-- `Loops.runPop` with the maps a parameter (`m 0` is used by generation 0). -/
def runPopWith {σ : Type} (m : Nat → (Nat → List Int) → List Nat → List (List Int))
    (ev : List Int → List Int) (steps : List (Step σ)) (t : σ) (s : LState) :=
  runGensWith m ev steps 1 t (gen0With (m 0) ev s)

theorem evalPhaseWith_eq (mapper : (Nat → List Int) → List Nat → List (List Int))
    (hm : ∀ f xs, mapper f xs = xs.map f) (ev : List Int → List Int) (all : Bool) (g : Nat) (s : LState)
    (l : List Nat) : evalPhaseWith mapper ev all g s l = evalPhase ev all g s l := by
  simp only [evalPhaseWith, evalPhase, hm, assignFits_eq_zip]

theorem generationWith_eq {σ : Type} (mapper : (Nat → List Int) → List Nat → List (List Int))
    (hm : ∀ f xs, mapper f xs = xs.map f) (ev : List Int → List Int) (stp : Step σ) (g : Nat) (t : σ)
    (s : LState) : generationWith mapper ev stp g t s = generation ev stp g t s := by
  simp only [generationWith, generation, evalPhaseWith_eq mapper hm]
  rfl

theorem gen0With_eq (mapper : (Nat → List Int) → List Nat → List (List Int))
    (hm : ∀ f xs, mapper f xs = xs.map f) (ev : List Int → List Int) (s : LState) :
    gen0With mapper ev s = gen0 ev s := by
  simp only [gen0With, gen0, evalPhaseWith_eq mapper hm]

/-- Operators that USE the tape: mutation writes the tape value into the genome and advances the tape. -/
def tapeOps : Ops Nat where
  mate := fun t h n a b => ⟨t, h, n, a, b⟩
  mutate := fun t h n a => ⟨t + 1, h.set a { h a with genome := [(t : Int)] }, n, a⟩

def tapeEv (g : List Int) : List Int := [g.foldl (· + ·) 0]

def tapeHeap : Heap := fun o =>
  match o with
  | 0 => ⟨[1, 2, 3], some [6], none⟩
  | 1 => ⟨[4, 5, 6], none, none⟩
  | _ => ⟨[], none, none⟩

def tapeState : LState := { st := { heap := tapeHeap, next := 2 }, pop := [0, 1] }

/-- the same heap, oid counter and population with other ghost records (those after generation 0) -/
def tapeStateG : LState :=
  { tapeState with
    log := [(0, 1)]
    shown := [0, 1]
    shownObj := [(0, ⟨[1, 2, 3], some [6], none⟩), (1, ⟨[4, 5, 6], some [15], none⟩)]
    evals := [(0, 1)] }

/-- three generations of `eaSimple`: both offspring are mutated in generation 1, none in generation 2, the first
one in generation 3 -/
def tapeDecs : List SimpleDec :=
  [⟨[1, 0], [false], [true, true]⟩, ⟨[0, 0], [false], [false, false]⟩, ⟨[1, 1], [false], [true, false]⟩]

/-- what the examples observe of a result: tape, population, genomes and fitnesses of the population, oid counter,
the ghost records -/
structure Obs where
  tape : Nat
  pop : List Nat
  inds : List Obj
  next : Nat
  log : List (Nat × Nat)
  shown : List Nat
  shownObj : List (Nat × Obj)
  evals : List (Nat × Nat)
deriving DecidableEq, Repr

def observe (r : Nat × LState) : Obs :=
  ⟨r.1, r.2.pop, r.2.pop.map (fun o => r.2.st.heap o), r.2.st.next, r.2.log, r.2.shown, r.2.shownObj, r.2.evals⟩

/-- A checkpoint that forgets the generator state (restarts it at `0`). -/
def encNoTape (m : MState Nat) : MState Nat := (m.1, 0, m.2.2)

section C03Hidden
variable {τ H B : Type}

/-- A decision record of a loop whose generator state is paired with a hidden component leaves the hidden component
as it found it. -/
def KeepsHidden (stp : Step (τ × H)) : Prop :=
  ∀ t st pop r, stp.produce t st pop = some r → r.tape.2 = t.2

/-- The checkpoint of the C03 machine that does not save the hidden half of the tape … -/
def hideEnc (enc : MState τ → B) : MState (τ × H) → B := fun m => enc (m.1, m.2.1.1, m.2.2)

/-- … and the restore in a new process, whose hidden half is the import-time value `h0`. -/
def hideDec (dec : B → Option (MState τ)) (h0 : H) : B → Option (MState (τ × H)) :=
  fun b => (dec b).map (fun m => (m.1, (m.2.1, h0), m.2.2))

theorem generation_keeps_hidden (ev : List Int → List Int) (stp : Step (τ × H)) (hk : KeepsHidden stp) (g : Nat)
    (t : τ × H) (s : LState) (r : (τ × H) × LState) (h : generation ev stp g t s = some r) : r.1.2 = t.2 := by
  unfold generation at h
  split at h
  · cases h
  · next res hp =>
    dsimp only at h
    split at h
    · cases h
    · cases h; exact hk t s.st s.pop res hp

theorem runGens_keeps_hidden (ev : List Int → List Int) :
    ∀ (steps : List (Step (τ × H))), (∀ stp ∈ steps, KeepsHidden stp) → ∀ (g : Nat) (t : τ × H) (s : LState)
      (r : (τ × H) × LState), runGens ev steps g t s = some r → r.1.2 = t.2
  | [], _, g, t, s, r, h => by cases h; rfl
  | stp :: rest, hk, g, t, s, r, h => by
    rw [runGens] at h
    split at h
    · cases h
    · next t1 s1 hg =>
      exact (runGens_keeps_hidden ev rest (fun x hx => hk x (List.mem_cons_of_mem _ hx)) (g + 1) t1 s1 r h).trans
        (generation_keeps_hidden ev stp (hk stp (List.mem_cons_self ..)) g t s (t1, s1) hg)

/-- A decision record that knows nothing about the hidden component, run next to it. -/
def liftHidden (stp : Step τ) : Step (τ × H) where
  produce := fun t st pop => (stp.produce t.1 st pop).map (fun r => ⟨(r.tape, t.2), r.st, r.off⟩)
  replace := stp.replace
  evalAll := stp.evalAll

theorem liftHidden_keeps (stp : Step τ) : KeepsHidden (liftHidden (H := H) stp) := by
  intro t st pop r h
  simp only [liftHidden] at h
  cases hp : stp.produce t.1 st pop with
  | none => rw [hp] at h; cases h
  | some r0 => rw [hp] at h; cases h; rfl

end C03Hidden

end C17
