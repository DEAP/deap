import DeapModel.Lemmas.C15HvCReB3
/-!
C15 — the 3-D base case of `_hv.c` re-entered, Case 3: the two loops of the entry phase.  `skipLoop` (l.855-857) walks
to the first node whose `domr` is at or above the bound; `reconnectLoop` (l.867-876) walks the remaining nodes below the
bound and inserts those whose `domr` is at or above the bound into the tree, which stays a staircase because these
nodes are pairwise incomparable — whichever admissible answer `avl_search_closest` gives (`reconnectWith_spec`).
-/
namespace HvC
open HvSweep (Seg)

theorem skipLoop_spec (S : St) (m₀ : ℕ) (hm : ltBound S 2 (dr S m₀) = false) :
    ∀ (P0 : List ℕ) (s fuel : ℕ), Seg (toSw S) 2 s P0 m₀ → (∀ a ∈ P0, ltBound S 2 (dr S a) = true) → P0.length < fuel →
      skipLoop fuel (nx S 2 s) S = some m₀
  | [], s, fuel, hs, _, hf => by
    obtain ⟨f, rfl, hf'⟩ := HvSweep.exists_fuel_succ hf
    have h1 : nx S 2 s = m₀ := hs.1
    unfold skipLoop
    rw [h1, hm]
    simp
  | a :: P0, s, fuel, hs, hlt, hf => by
    obtain ⟨f, rfl, hf'⟩ := HvSweep.exists_fuel_succ hf
    have h1 : nx S 2 s = a := hs.1.1
    unfold skipLoop
    rw [h1, hlt a (by simp)]
    simp only [if_true]
    exact skipLoop_spec S m₀ hm P0 a f hs.2 (fun x hx => hlt x (List.mem_cons_of_mem _ hx)) hf'

/-- the invariant of `reconnectLoop`: `S` is the state at the entry of `dim3`, `m₀` the node found by `skipLoop`, `D` the
nodes visited so far (`m₀` included) -/
structure RInv (C : Cargo) (R : List ℚ) (b : ℚ) (S : St) (m₀ : ℕ) (D : List ℕ) (S' : St) : Prop where
  next : S'.next = S.next
  prev : S'.prev = S.prev
  bound : S'.bound = S.bound
  area : S'.area = S.area
  vol : S'.vol = S.vol
  ign : S'.ignore = S.ignore.set m₀ 0
  dlen : S'.domr.length = S.domr.length
  tnd : S'.tree.Nodup
  tmem : ∀ t, t ∈ S'.tree ↔ t ∈ D ∧ b ≤ dr S t
  stair : Stair (S'.tree.map (item C))
  drT : ∀ t ∈ S'.tree, dr S' t = rf R 2
  drO : ∀ a, a ∉ S'.tree → dr S' a = dr S a

/-- **l.867-876**, for every admissible search: the nodes of `P1` whose `domr` is at or above the bound are linked
into the tree, which stays a staircase because these nodes are pairwise incomparable -/
theorem reconnectWith_spec {C : Cargo} {search : St → ℚ × ℚ → ℕ × ℤ} (hadm : Admissible C search) (R : List ℚ) (b : ℚ)
    (S : St) (m₀ q0 : ℕ) (Pall : List ℕ)
    (hb : S.bound.getD 2 none = some b)
    (hinc : ∀ p e, p ∈ Pall → e ∈ Pall → b ≤ dr S p → b ≤ dr S e → p ≠ e →
      ¬ ((item C p).1 ≤ (item C e).1 ∧ (item C p).2 ≤ (item C e).2))
    (hq0 : b ≤ cg C q0 2) (hm0 : b ≤ dr S m₀) :
    ∀ (P1 D : List ℕ) (s fuel : ℕ) (S' : St), RInv C R b S m₀ D S' → m₀ ∈ D → (∀ a ∈ D, a ∈ Pall) →
      Seg (toSw S) 2 s P1 q0 → (∀ a ∈ P1, a ∈ Pall ∧ cg C a 2 < b ∧ a ∉ D ∧ a < S.domr.length) → P1.Nodup →
      P1.length < fuel →
      ∃ S'', reconnectLoopWith search C R fuel (nx S' 2 s) S' = some (q0, S'') ∧ RInv C R b S m₀ (D ++ P1) S''
  | [], D, s, fuel, S', hI, hmD, hDP, hs, hP1, hnd, hf => by
    obtain ⟨f, rfl, hf'⟩ := HvSweep.exists_fuel_succ hf
    have hb' : S'.bound.getD 2 none = some b := by rw [hI.bound]; exact hb
    have h1 : nx S' 2 s = q0 := (congrArg (HvSweep.tget · 2 s 0) hI.next).trans hs.1
    refine ⟨S', ?_, by rw [List.append_nil]; exact hI⟩
    unfold reconnectLoopWith
    rw [h1, ltBound_some hb', decide_eq_false (not_lt.mpr hq0)]
    simp
  | p :: P1, D, s, fuel, S', hI, hmD, hDP, hs, hP1, hnd, hf => by
    obtain ⟨f, rfl, hf'⟩ := HvSweep.exists_fuel_succ hf
    have hb' : S'.bound.getD 2 none = some b := by rw [hI.bound]; exact hb
    have h1 : nx S' 2 s = p := (congrArg (HvSweep.tget · 2 s 0) hI.next).trans hs.1.1
    obtain ⟨hpP, hpz, hpD, hpl⟩ := hP1 p (by simp)
    have hnd' := List.nodup_cons.mp hnd
    have hpT : p ∉ S'.tree := fun hm => hpD ((hI.tmem p).mp hm).1
    have hdrp : dr S' p = dr S p := hI.drO p hpT
    have hm0T : m₀ ∈ S'.tree := (hI.tmem m₀).mpr ⟨hmD, hm0⟩
    have hne : S'.tree ≠ [] := fun e => by rw [e] at hm0T; exact absurd hm0T (List.not_mem_nil)
    -- the rest of the walk, from any state that satisfies the invariant for `D ++ [p]`
    have cont : ∀ S2 : St, RInv C R b S m₀ (D ++ [p]) S2 →
        ∃ S'', reconnectLoopWith search C R f (nx S2 2 p) S2 = some (q0, S'') ∧ RInv C R b S m₀ (D ++ p :: P1) S'' := by
      intro S2 hI2
      obtain ⟨S'', h1, h2⟩ := reconnectWith_spec hadm R b S m₀ q0 Pall hb hinc hq0 hm0 P1 (D ++ [p]) p f S2 hI2
        (List.mem_append_left _ hmD)
        (by
          intro a ha
          rcases List.mem_append.mp ha with h | h
          · exact hDP a h
          · simp at h; rw [h]; exact hpP)
        hs.2
        (by
          intro a ha
          obtain ⟨e1, e2, e3, e4⟩ := hP1 a (by simp [ha])
          refine ⟨e1, e2, ?_, e4⟩
          intro hm
          rcases List.mem_append.mp hm with h | h
          · exact e3 h
          · simp at h; exact hnd'.1 (h ▸ ha))
        hnd'.2 hf'
      refine ⟨S'', h1, ?_⟩
      have : D ++ p :: P1 = D ++ [p] ++ P1 := by simp
      rw [this]; exact h2
    unfold reconnectLoopWith
    rw [h1, ltBound_some hb', decide_eq_true hpz]
    simp only [if_true]
    rw [geBound_some hb', hdrp]
    by_cases hge : b ≤ dr S p
    · rw [decide_eq_true hge]
      simp only [if_true]
      obtain ⟨As, B, hAB, hAs, hB⟩ := stair_split C (item C p) S'.tree hI.stair
      have hans := hadm (setDr S' p (rf R 2)) (item C p) As B hAB hne hAs hB
      generalize search (setDr S' p (rf R 2)) (item C p) = ans at hans ⊢
      obtain ⟨tnode, cmp⟩ := ans
      obtain ⟨-, e2, -⟩ := link_spec C (0, 0) (setDr S' p (rf R 2)) p tnode cmp As B hAB hI.tnd hpT hans
      simp only [e2]
      -- the members of the tree are reconnected nodes of `Pall` other than `p`: incomparable with `p`
      have hni : ∀ e ∈ S'.tree, ¬ ((item C p).1 ≤ (item C e).1 ∧ (item C p).2 ≤ (item C e).2) ∧
          ¬ ((item C e).1 ≤ (item C p).1 ∧ (item C e).2 ≤ (item C p).2) := by
        intro e he
        obtain ⟨h1, h2⟩ := (hI.tmem e).mp he
        have hpe : p ≠ e := fun e' => hpD (e' ▸ h1)
        exact ⟨hinc p e hpP (hDP e h1) hge h2 hpe, hinc e p (hDP e h1) hpP h2 hge (Ne.symm hpe)⟩
      have hAsfacts : ∀ e ∈ As, (item C e).1 < (item C p).1 ∧ (item C p).2 < (item C e).2 := by
        intro e he
        have hcmp := (cmpNeg_false_iff _ _).mp (hAs e he)
        have hx : (item C e).1 < (item C p).1 :=
          not_le.mp fun hc => (hni e (by rw [hAB]; exact List.mem_append_left _ he)).1 ⟨hc, hcmp.1⟩
        exact ⟨hx, lt_of_le_of_ne hcmp.1 fun h => absurd (hcmp.2 h) (not_lt.mpr hx.le)⟩
      have hBfacts : ∀ e ∈ B, (item C p).1 < (item C e).1 ∧ (item C e).2 < (item C p).2 := by
        intro e he
        have hn := (hni e (by rw [hAB]; exact List.mem_append_right _ he)).2
        have hy : (item C e).2 < (item C p).2 :=
          ((cmpNeg_true_iff _ _).mp (hB e he)).elim id fun h => absurd ⟨h.2, le_of_eq h.1⟩ hn
        exact ⟨not_le.mp fun hc => hn ⟨hc, hy.le⟩, hy⟩
      have hpl' : p < S'.domr.length := by rw [hI.dlen]; exact hpl
      have hmem : ∀ t, t ∈ As ++ p :: B ↔ t = p ∨ t ∈ S'.tree := fun t => by rw [mem_insert_mid, ← hAB]
      refine cont _
        { hI with
          dlen := List.length_set.trans hI.dlen
          tnd := nodup_insert_mid (A := As) (D := []) (B := B) (by simpa [← hAB] using hI.tnd) (by simpa [← hAB] using hpT)
          tmem := ?_
          stair := stair_insert C (hAB ▸ hI.stair) hAsfacts hBfacts
          drT := ?_
          drO := ?_ }
      · intro t
        show t ∈ As ++ p :: B ↔ _
        rw [hmem, hI.tmem t, List.mem_append, List.mem_singleton]
        constructor
        · rintro (rfl | ⟨g1, g2⟩)
          · exact ⟨Or.inr rfl, hge⟩
          · exact ⟨Or.inl g1, g2⟩
        · rintro ⟨g1 | rfl, g2⟩
          · exact Or.inr ⟨g1, g2⟩
          · exact Or.inl rfl
      · intro t ht
        have ht' := (hmem t).mp ht
        show (S'.domr.set p (rf R 2)).getD t 0 = rf R 2
        by_cases htp : t = p
        · rw [htp]; exact List.getD_set_self _ _ _ _ hpl'
        · rw [List.getD_set_ne _ _ _ htp]
          exact hI.drT t (ht'.resolve_left htp)
      · intro a ha
        have ha' := not_or.mp (mt (hmem a).mpr ha)
        show (S'.domr.set p (rf R 2)).getD a 0 = dr S a
        rw [List.getD_set_ne _ _ _ ha'.1]
        exact hI.drO a ha'.2
    · rw [decide_eq_false hge]
      simp only [Bool.false_eq_true, if_false]
      refine cont S'
        { hI with tmem := ?_ }
      intro t
      rw [hI.tmem t]
      constructor
      · rintro ⟨g1, g2⟩; exact ⟨List.mem_append_left _ g1, g2⟩
      · rintro ⟨g1, g2⟩
        rcases List.mem_append.mp g1 with h | h
        · exact ⟨h, g2⟩
        · simp at h; rw [h] at g2; exact absurd g2 hge

theorem reconnect_spec (C : Cargo) (R : List ℚ) (b : ℚ) (S : St) (m₀ q0 : ℕ) (Pall : List ℕ)
    (hb : S.bound.getD 2 none = some b)
    (hinc : ∀ p e, p ∈ Pall → e ∈ Pall → b ≤ dr S p → b ≤ dr S e → p ≠ e →
      ¬ ((item C p).1 ≤ (item C e).1 ∧ (item C p).2 ≤ (item C e).2))
    (hq0 : b ≤ cg C q0 2) (hm0 : b ≤ dr S m₀) :
    ∀ (P1 D : List ℕ) (s fuel : ℕ) (S' : St), RInv C R b S m₀ D S' → m₀ ∈ D → (∀ a ∈ D, a ∈ Pall) →
      Seg (toSw S) 2 s P1 q0 → (∀ a ∈ P1, a ∈ Pall ∧ cg C a 2 < b ∧ a ∉ D ∧ a < S.domr.length) → P1.Nodup →
      P1.length < fuel →
      ∃ S'', reconnectLoop C R fuel (nx S' 2 s) S' = some (q0, S'') ∧ RInv C R b S m₀ (D ++ P1) S'' :=
  reconnectWith_spec (admissible_searchClosest C) R b S m₀ q0 Pall hb hinc hq0 hm0

end HvC
