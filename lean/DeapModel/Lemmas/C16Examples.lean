/-
C16 — a concrete class table and heap used by the `example`s of `Props/C16.lean` (instances of the
theorems' hypotheses).
-/
import DeapModel.Lemmas.C16Copy

namespace C16
open Heap

namespace Ex

/-- `creator.create("FitnessMin", base.Fitness, weights=(-1.0,))` (class 0),
`creator.create("Individual", list, fitness=creator.FitnessMin)` (class 1, `dict_inst` attribute 1),
`creator.create("Swarm", set, best=creator.Individual)` (class 2, `dict_inst` attribute 2; its
reduce tuple calls the class). -/
def ct : ClassTable :=
  [ ⟨.fitness, [], [(7, .atom (-1))]⟩,
    ⟨.plain, [(1, 0)], [(9, .atom 3)]⟩,
    ⟨.ctor, [(2, 1)], []⟩ ]

theorem ct_ok : CTOk ct := CTOk.of_forall_lt (by decide)

theorem ct_nodup : DictNodup ct := fun _ ci h =>
  (by decide : ∀ ci ∈ ct, (ci.dictInst.map (·.1)).Nodup) ci (List.mem_of_getElem? h)

/-- A swarm (oid 0) whose `best` is an individual (oid 1) whose `fitness` is oid 2. -/
def heap : Oid → Option Obj := fun y =>
  if y = 0 then some ⟨2, [.atom 4], [(2, .ref 1)], true⟩
  else if y = 1 then some ⟨1, [.atom 5, .atom 6], [(1, .ref 2)], true⟩
  else if y = 2 then some ⟨0, [.atom 2], [], true⟩
  else none

theorem heap_closed : Closed heap 3 where
  bound := by
    intro x hx
    unfold heap
    rw [if_neg (show x ≠ 0 by omega), if_neg (show x ≠ 1 by omega), if_neg (show x ≠ 2 by omega)]
  refs := by
    intro x o ho y hy
    unfold heap at ho
    split at ho
    · cases ho; simp [Obj.children] at hy; subst hy; rfl
    · split at ho
      · cases ho; simp [Obj.children] at hy; subst hy; rfl
      · split at ho
        · cases ho; simp [Obj.children] at hy
        · cases ho

/-- The heap of a fresh interpreter. -/
theorem empty_closed : Closed (fun _ => none) 0 where
  bound := fun _ _ => rfl
  refs := by intro x o ho; cases ho

/-- The swarm's graph has these three objects: `Within` asks `P` of each. -/
theorem heap_within {P : (Oid → Option Obj) → ClassInfo → Obj → Prop}
    (h0 : P heap ⟨.ctor, [(2, 1)], []⟩ ⟨2, [.atom 4], [(2, .ref 1)], true⟩)
    (h1 : P heap ⟨.plain, [(1, 0)], [(9, .atom 3)]⟩ ⟨1, [.atom 5, .atom 6], [(1, .ref 2)], true⟩)
    (h2 : P heap ⟨.fitness, [], [(7, .atom (-1))]⟩ ⟨0, [.atom 2], [], true⟩) :
    Within ct P heap 3 (.ref 0) := by
  refine ⟨_, _, rfl, rfl, h0, fun c hc => ?_⟩
  rcases (by simpa [Obj.children] using hc : c = .atom 4 ∨ c = .ref 1) with rfl | rfl
  · trivial
  · refine ⟨_, _, rfl, rfl, h1, fun c hc => ?_⟩
    rcases (by simpa [Obj.children] using hc : c = .atom 5 ∨ c = .atom 6 ∨ c = .ref 2) with rfl | rfl | rfl
    · trivial
    · trivial
    · refine ⟨_, _, rfl, rfl, h2, fun c hc => ?_⟩
      cases (by simpa [Obj.children] using hc : c = .atom 2)
      trivial

theorem heap_pickleOK : Within ct PickleOK heap 3 (.ref 0) :=
  heap_within (fun _ => by decide) nofun nofun

/-- The module `deap.creator` of the pickling interpreter: the classes of `Ex.ct`, the individual
class (class 1, `dict_cls` attribute `9 ↦ 3`) bound to the name 5 … -/
def modSrc : Module := ⟨ct, [(4, 0), (5, 1), (6, 2)], [4, 5, 6]⟩

/-- … and of an unpickling interpreter in which the name 5 is already bound to a *different*
individual class (`dict_cls` attribute `9 ↦ 4`, no fitness). -/
def modDst : Module := ⟨[⟨.plain, [], [(9, .atom 4)]⟩], [(5, 0)], [5]⟩

end Ex

/-- `Within ct CopyOK` for the swarm of `Ex.heap`: the swarm (kind `ctor`, whose copy hook calls
the class) still has its `dict_inst` attribute, the fitness has no `__dict__` entries and numeric
`wvalues`. -/
theorem Ex.heap_copyOK : Within Ex.ct CopyOK Ex.heap 3 (.ref 0) :=
  Ex.heap_within ⟨fun _ => by decide, nofun, nofun, nofun, nofun⟩ ⟨nofun, nofun, nofun, nofun, nofun⟩
    ⟨nofun, fun _ => ⟨rfl, fun _ => rfl, by decide⟩, nofun, nofun, nofun⟩

namespace Ex2

/-- `creator.create("FitnessC", base.ConstrainedFitness, weights=(-1.0,))` (class 0) and
`creator.create("Individual", list, fitness=creator.FitnessC)` (class 1, `dict_inst` attribute 1):
creating an individual creates its constrained fitness, on which `base.__init__` sets
`constraint_violation = None`. -/
def ct : ClassTable :=
  [ ⟨.cfitness, [], [(7, .atom (-1))]⟩,
    ⟨.plain, [(1, 0)], []⟩ ]

theorem ct_ok : CTOk ct := CTOk.of_forall_lt (by decide)

theorem ct_nodup : DictNodup ct := fun _ ci h =>
  (by decide : ∀ ci ∈ ct, (ci.dictInst.map (·.1)).Nodup) ci (List.mem_of_getElem? h)

/-- The only fitness class of the table has no `dict_inst` attributes. -/
theorem ct_createOK (c : ClsId) : CreateOK ct c :=
  Heap.Copy.createOK_of_all (fun _ ci h =>
    (by decide : ∀ ci ∈ ct, (ci.kind = .fitness ∨ ci.kind = .cfitness) → ci.dictInst = []) ci
      (List.mem_of_getElem? h)) c

end Ex2

end C16
