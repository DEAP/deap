/-
C13 helper lemmas: the eigen-decomposition post-processing of cma.py:167-174 (re-ordering by
`argsort`, square root, `BD = B * diagD`) under the `eigh` contract.
-/
import DeapModel.Lemmas.C13Basic
import DeapModel.Lemmas.ListFacts
import Mathlib.LinearAlgebra.Matrix.NonsingularInverse

open Cma

namespace C13L

theorem fin_sum_eq_list (n : Nat) (f : Nat → ℝ) : ∑ i : Fin n, f i.val = ((List.range n).map f).sum := by
  rw [← sumTo_real]; unfold sumTo tab; rw [RealLike.real_sum]

theorem sum_reindex {n : Nat} {indx : List Nat} (hp : indx.Perm (List.range n)) (g : Nat → ℝ) :
    ∑ k : Fin n, g (indx.getD k.val 0) = ∑ k : Fin n, g k.val := by
  have hl : indx.length = n := by simpa using hp.length_eq
  rw [fin_sum_eq_list n (fun k => g (indx.getD k 0)), fin_sum_eq_list n g]
  have : (List.range n).map (fun k => g (indx.getD k 0)) = indx.map g := by
    conv_rhs => rw [← List.map_getD_range indx 0]
    rw [List.map_map, hl]; rfl
  rw [this]
  exact (hp.map g).sum_eq

theorem perm_getD_lt {n : Nat} {indx : List Nat} (hp : indx.Perm (List.range n)) (k : Fin n) :
    indx.getD k.val 0 < n := by
  have hl : indx.length = n := by simpa using hp.length_eq
  have hk : k.val < indx.length := hl ▸ k.isLt
  have : indx.getD k.val 0 ∈ indx := by
    simp [List.getD_eq_getElem?_getD, hk]
  exact List.mem_range.mp (hp.subset this)

theorem perm_getD_inj {n : Nat} {indx : List Nat} (hp : indx.Perm (List.range n)) (k l : Fin n) :
    indx.getD k.val 0 = indx.getD l.val 0 ↔ k = l := by
  have hl : indx.length = n := by simpa using hp.length_eq
  have hk : k.val < indx.length := hl ▸ k.isLt
  have hl' : l.val < indx.length := hl ▸ l.isLt
  have hnd : indx.Nodup := hp.nodup_iff.mpr List.nodup_range
  simp only [List.getD_eq_getElem?_getD, hk, hl', List.getElem?_eq_getElem, Option.getD_some]
  rw [hnd.getElem_inj_iff, Fin.ext_iff]

/-- The contract of `numpy.linalg.eigh` on the symmetric `n × n` matrix `C`: the columns of `V` are
orthonormal (`VᵀV = I`) and `C = V · diag(w) · Vᵀ`. -/
structure EighContract (n : Nat) (C : List (List ℝ)) (w : List ℝ) (V : List (List ℝ)) : Prop where
  cols : ∀ k l : Fin n, ∑ a : Fin n, mget V a.val k.val * mget V a.val l.val = if k = l then 1 else 0
  recon : ∀ a b : Fin n, mget C a.val b.val = ∑ k : Fin n, mget V a.val k.val * vget w k.val * mget V b.val k.val

/-- a square matrix with orthonormal columns has orthonormal rows (`VᵀV = I → V Vᵀ = I`) -/
theorem EighContract.rows {n : Nat} {C : List (List ℝ)} {w : List ℝ} {V : List (List ℝ)}
    (hc : EighContract n C w V) (a b : Fin n) :
    ∑ k : Fin n, mget V a.val k.val * mget V b.val k.val = if a = b then 1 else 0 := by
  let M : Matrix (Fin n) (Fin n) ℝ := fun a k => mget V a.val k.val
  have h1 : M.transpose * M = 1 := by
    ext k l
    rw [Matrix.mul_apply, Matrix.one_apply]
    exact hc.cols k l
  have h2 : M * M.transpose = 1 := mul_eq_one_comm.mp h1
  have := congrFun (congrFun h2 a) b
  rwa [Matrix.mul_apply, Matrix.one_apply] at this

section
variable {n : Nat} {C : List (List ℝ)} {w : List ℝ} {V : List (List ℝ)} {indx : List Nat}

theorem eigSorted_diagD (k : Fin n) :
    vget (eigSorted n w V indx).diagD k.val = Real.sqrt (vget w (indx.getD k.val 0)) := by
  simp only [eigSorted]
  simp only [real_bridge]
  rw [Real.sqrt_eq_rpow]

theorem eigSorted_B (a k : Fin n) : mget (eigSorted n w V indx).B a.val k.val = mget V a.val (indx.getD k.val 0) := by
  simp only [eigSorted, mget_tab2_fin]

theorem eigSorted_BD (a k : Fin n) :
    mget (eigSorted n w V indx).BD a.val k.val
      = mget (eigSorted n w V indx).B a.val k.val * vget (eigSorted n w V indx).diagD k.val := by
  simp only [eigSorted]
  simp only [real_bridge]

/-- `BD · BDᵀ = C` -/
theorem eigSorted_BD_BDT (hc : EighContract n C w V) (hp : indx.Perm (List.range n))
    (hw : ∀ k : Fin n, 0 ≤ vget w k.val) (a b : Fin n) :
    ∑ k : Fin n, mget (eigSorted n w V indx).BD a.val k.val * mget (eigSorted n w V indx).BD b.val k.val
      = mget C a.val b.val := by
  simp only [eigSorted_BD, eigSorted_B, eigSorted_diagD]
  rw [sum_reindex hp (fun j => mget V a.val j * Real.sqrt (vget w j) * (mget V b.val j * Real.sqrt (vget w j))),
    hc.recon]
  refine Finset.sum_congr rfl (fun k _ => ?_)
  have := Real.mul_self_sqrt (hw k)
  calc mget V a.val k.val * √(vget w k.val) * (mget V b.val k.val * √(vget w k.val))
      = mget V a.val k.val * (√(vget w k.val) * √(vget w k.val)) * mget V b.val k.val := by ring
    _ = _ := by rw [this]

/-- `B · diag(diagD²) · Bᵀ = C` -/
theorem eigSorted_B_D2_BT (hc : EighContract n C w V) (hp : indx.Perm (List.range n))
    (hw : ∀ k : Fin n, 0 ≤ vget w k.val) (a b : Fin n) :
    ∑ k : Fin n, mget (eigSorted n w V indx).B a.val k.val
        * (vget (eigSorted n w V indx).diagD k.val * vget (eigSorted n w V indx).diagD k.val)
        * mget (eigSorted n w V indx).B b.val k.val
      = mget C a.val b.val := by
  rw [← eigSorted_BD_BDT hc hp hw a b]
  refine Finset.sum_congr rfl (fun k _ => ?_)
  rw [eigSorted_BD, eigSorted_BD]; ring

/-- `B Bᵀ = I` -/
theorem eigSorted_B_rows (hc : EighContract n C w V) (hp : indx.Perm (List.range n)) (a b : Fin n) :
    ∑ k : Fin n, mget (eigSorted n w V indx).B a.val k.val * mget (eigSorted n w V indx).B b.val k.val
      = if a = b then 1 else 0 := by
  simp only [eigSorted_B]
  rw [sum_reindex hp (fun j => mget V a.val j * mget V b.val j), hc.rows]

/-- `Bᵀ B = I` -/
theorem eigSorted_B_cols (hc : EighContract n C w V) (hp : indx.Perm (List.range n)) (k l : Fin n) :
    ∑ a : Fin n, mget (eigSorted n w V indx).B a.val k.val * mget (eigSorted n w V indx).B a.val l.val
      = if k = l then 1 else 0 := by
  simp only [eigSorted_B]
  have := hc.cols ⟨_, perm_getD_lt hp k⟩ ⟨_, perm_getD_lt hp l⟩
  simp only [Fin.mk.injEq, perm_getD_inj hp] at this
  exact this

end
end C13L
