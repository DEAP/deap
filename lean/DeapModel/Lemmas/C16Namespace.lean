/-
C16 — the creator namespace between dump and load: unpickling under a translated class table
simulates unpickling under the dumper's own table (`rebuild_sim`), the table `loadClasses` builds is
such a translation (`tableMap_load`), histories of `create` / `del` only append classes and names
(`nsRun_spec`), and the identity-free description of a class is invariant (`describe_map`).
-/
import DeapModel.Lemmas.C16Pickle

namespace Heap

/-- The same object as an instance of the translated class. -/
def retag (tr : ClsId → ClsId) (o : Obj) : Obj := { o with cls := tr o.cls }

def TableMap (ct ct' : ClassTable) (tr : ClsId → ClsId) : Prop :=
  ∀ c ci, ct[c]? = some ci → ct'[tr c]? = some (retagInfo tr ci)

/-- Two interpreter states that differ only in the class ids of the objects allocated from
`next0` on: `B` holds the `tr`-image of what `A` holds. -/
structure HRel (tr : ClsId → ClsId) (next0 : Nat) (A B : State) : Prop where
  next : A.next = B.next
  lo : next0 ≤ A.next
  objs : ∀ x, B.objs x = if x < next0 then A.objs x else (A.objs x).map (retag tr)

theorem HRel.reserve {tr : ClsId → ClsId} {next0 : Nat} {A B : State} (h : HRel tr next0 A B) :
    HRel tr next0 ⟨A.objs, A.next + 1, A.memo⟩ ⟨B.objs, B.next + 1, B.memo⟩ :=
  ⟨by rw [h.next], Nat.le_succ_of_le h.lo, h.objs⟩

theorem HRel.init (tr : ClsId → ClsId) {st : State} (hb : Bounded st) : HRel tr st.next st st :=
  ⟨rfl, Nat.le_refl _, fun x => by
    by_cases hx : x < st.next
    · rw [if_pos hx]
    · rw [if_neg hx, hb x (Nat.le_of_not_lt hx)]
      rfl⟩

theorem HRel.defineBoth {tr : ClsId → ClsId} {next0 : Nat} {A B sa sb : State}
    (h : HRel tr next0 A B) (hs : HRel tr next0 sa sb) (o : Obj) :
    HRel tr next0 ⟨Heap.define sa.objs A.next o, sa.next, sa.memo⟩
      ⟨Heap.define sb.objs B.next (retag tr o), sb.next, sb.memo⟩ := by
  refine ⟨hs.next, hs.lo, ?_⟩
  intro x
  show Heap.define sb.objs B.next (retag tr o) x
    = if x < next0 then Heap.define sa.objs A.next o x
      else (Heap.define sa.objs A.next o x).map (retag tr)
  rw [← h.next]
  by_cases hx : x = A.next
  · rw [hx, define_same, define_same, if_neg (Nat.not_lt.2 h.lo)]
    rfl
  · rw [define_ne _ _ _ hx, define_ne _ _ _ hx]
    exact hs.objs x

/-! The loader's table is at least as long as the dumper's, so its instantiation fuel is at least the
dumper's: the simulation is stated for fuels `n ≤ n'`. -/

section Sim
variable {ct ct' : ClassTable} {tr : ClsId → ClsId} (hT : TableMap ct ct' tr) (next0 : Nat)
include hT

def NewInstSim (ct ct' : ClassTable) (tr : ClsId → ClsId) (next0 n n' : Nat) : Prop :=
  ∀ (A B : State) (c : ClsId) (items : List Val) (A' : State) (y : Oid),
    HRel tr next0 A B → newInst ct n A c items = some (A', y) →
    ∃ B', newInst ct' n' B (tr c) items = some (B', y) ∧ HRel tr next0 A' B'

omit hT in
theorem instLoop_sim {n n' : Nat} (ih : NewInstSim ct ct' tr next0 n n') :
    ∀ (l : List (Name × ClsId)) (A B A' : State) (attrs : List (Name × Val)),
      HRel tr next0 A B → mapSt (instStep ct n) A l = some (A', attrs) →
      ∃ B', mapSt (instStep ct' n') B (l.map (fun p => (p.1, tr p.2))) = some (B', attrs) ∧
        HRel tr next0 A' B' := by
  intro l
  induction l with
  | nil =>
    intro A B A' attrs hR h
    cases h
    exact ⟨B, rfl, hR⟩
  | cons p ps ihl =>
    intro A B A' attrs hR h
    obtain ⟨A1, b, bs, h1, h2, rfl⟩ := mapSt_cons_inv h
    obtain ⟨y, hy, rfl⟩ := instStep_of_eq h1
    obtain ⟨B1, hB1, hR1⟩ := ih A B p.2 [] _ y hR hy
    obtain ⟨B2, hB2, hR2⟩ := ihl _ B1 _ _ hR1 h2
    exact ⟨B2, mapSt_cons_some (instStep_of_newInst (p := (p.1, tr p.2)) hB1) hB2, hR2⟩

theorem newInst_sim : ∀ (n n' : Nat), n ≤ n' → NewInstSim ct ct' tr next0 n n' := by
  intro n
  induction n with
  | zero => intro n' _ A B c items A' y _ h; simp [newInst] at h
  | succ n ih =>
    intro n' hle A B c items A' y hR h
    obtain ⟨k, rfl⟩ : ∃ k, n' = k + 1 := ⟨n' - 1, by omega⟩
    obtain ⟨ci, sa, attrs, hci, hrun, rfl, rfl⟩ := newInst_succ_inv h
    obtain ⟨sb, hsb, hRs⟩ := instLoop_sim next0 (ih k (by omega)) ci.dictInst _ _ _ _ hR.reserve hrun
    refine ⟨⟨define sb.objs B.next
        (retag tr ⟨c, items, dictUpdate attrs (baseInitAttrs ci.kind), ci.kind != .node⟩),
        sb.next, sb.memo⟩, ?_, hR.defineBoth hRs _⟩
    rw [newInst_succ, hT c ci hci]
    simp only [retagInfo]
    rw [hsb, hR.next]
    rfl

theorem initStep_sim (hlen : ct.length ≤ ct'.length) (b : Bool) (ci : ClassInfo) {A B A' : State}
    {base : List (Name × Val)} (hR : HRel tr next0 A B)
    (h : (if b = true then instAttrs ct A ci.dictInst else some (A, [])) = some (A', base)) :
    ∃ B', (if b = true then instAttrs ct' B (retagInfo tr ci).dictInst else some (B, []))
        = some (B', base) ∧ HRel tr next0 A' B' := by
  cases b with
  | false =>
    cases h
    exact ⟨B, rfl, hR⟩
  | true =>
    exact instLoop_sim next0 (newInst_sim hT next0 _ _ hlen) ci.dictInst _ _ _ _ hR h

theorem rebuild_sim (hlen : ct.length ≤ ct'.length) :
    (∀ (t : PT) (A B A' : State) (v : Val), HRel tr next0 A B → rebuild ct A t = some (A', v) →
      ∃ B', rebuild ct' B (mapClsPT tr t) = some (B', v) ∧ HRel tr next0 A' B') ∧
    (∀ (ts : List PT) (A B A' : State) (vs : List Val), HRel tr next0 A B →
      rebuilds ct A ts = some (A', vs) →
      ∃ B', rebuilds ct' B (mapClsPTs tr ts) = some (B', vs) ∧ HRel tr next0 A' B') := by
  apply PT.ind2
  · intro a A B A' v hR h
    cases h
    exact ⟨B, by rw [mapClsPT, rebuild.eq_1], hR⟩
  · intro c m is names vs ihis ihvs A B A' v hR h
    obtain ⟨ci, s1, is', s2, base, s3, vs', hci, h1, h2, h3, rfl, rfl⟩ := rebuild_node_inv h
    obtain ⟨b1, hb1, hR1⟩ := ihis _ _ _ _ hR.reserve h1
    obtain ⟨b2, hb2, hR2⟩ := initStep_sim hT next0 hlen ci.kind.initOnPickle ci hR1 h2
    obtain ⟨b3, hb3, hR3⟩ := ihvs _ _ _ _ hR2 h3
    refine ⟨⟨define b3.objs B.next (retag tr ⟨c, is', dictUpdate base (names.zip vs'), m⟩),
        b3.next, b3.memo⟩, ?_, hR.defineBoth hR3 _⟩
    rw [mapClsPT, rebuild.eq_2, hT c ci hci]
    have hk : (retagInfo tr ci).kind = ci.kind := rfl
    simp only [hk, hb1, hb2, hb3]
    rw [hR.next]
    rfl
  · intro A B A' vs hR h
    cases h
    exact ⟨B, by rw [mapClsPTs, rebuilds.eq_1], hR⟩
  · intro t ts iht ihts A B A' l hR h
    obtain ⟨s1, v, vs, h1, h2, rfl⟩ := rebuilds_cons_inv h
    obtain ⟨b1, hb1, hR1⟩ := iht _ _ _ _ hR h1
    obtain ⟨b2, hb2, hR2⟩ := ihts _ _ _ _ hR1 h2
    refine ⟨b2, ?_, hR2⟩
    rw [mapClsPTs, rebuilds.eq_2]
    simp only [hb1, hb2]

end Sim

theorem recreateAll_spec (tr : ClsId → ClsId) (used : List ClsId) (names : List Name) :
    ∀ (l : List ClassInfo) (m : Module) (c : ClsId),
      (recreateAll tr used names m c l).classes = m.classes ++ l.map (retagInfo tr) ∧
      (recreateAll tr used names m c l).names
        = m.names ++ (List.range' c l.length).map (fun i => (names[i]?).getD 0) := by
  intro l
  induction l with
  | nil => intro m c; simp [recreateAll]
  | cons ci r ih =>
    intro m c
    have h1 : (recreate tr (used.contains c) m ((names[c]?).getD 0) ci).classes
          = m.classes ++ [retagInfo tr ci] ∧
        (recreate tr (used.contains c) m ((names[c]?).getD 0) ci).names
          = m.names ++ [(names[c]?).getD 0] := by cases used.contains c <;> exact ⟨rfl, rfl⟩
    rw [recreateAll, (ih _ _).1, (ih _ _).2, h1.1, h1.2]
    simp [List.range'_succ]

theorem loadClasses_classes (m' : Module) (P : Pickle) :
    (loadClasses m' P).classes
      = m'.classes ++ (P.classes.drop P.nb).map (retagInfo (trLoad P.nb m'.classes.length)) :=
  (recreateAll_spec _ _ _ _ _ _).1

/-- Classes that pickle by reference are classes of every interpreter; the by-value classes of the
dump are found, translated, behind the classes of the loading module. -/
theorem tableMap_load (ct pre : ClassTable) (nb : Nat) (hct : CTOk ct)
    (hnb : nb ≤ pre.length) (hpre : ∀ c, c < nb → pre[c]? = ct[c]?) :
    TableMap ct (pre ++ (ct.drop nb).map (retagInfo (trLoad nb pre.length))) (trLoad nb pre.length) := by
  intro c ci hci
  by_cases hc : c < nb
  · have htr : ∀ c', c' < nb → trLoad nb pre.length c' = c' := fun c' h => if_pos h
    rw [htr c hc, List.getElem?_append_left (Nat.lt_of_lt_of_le hc hnb), hpre c hc, hci]
    have : ci.dictInst.map (fun p => (p.1, trLoad nb pre.length p.2)) = ci.dictInst :=
      (List.map_congr_left fun p hp => by rw [htr p.2 (Nat.lt_trans (hct c ci hci p hp) hc)]; rfl).trans
        (List.map_id _)
    simp only [retagInfo, this]
  · have htr : trLoad nb pre.length c = pre.length + (c - nb) := if_neg hc
    rw [htr, List.getElem?_append_right (Nat.le_add_right _ _), Nat.add_sub_cancel_left,
      List.getElem?_map, List.getElem?_drop, Nat.add_sub_cancel' (Nat.le_of_not_lt hc), hci]
    rfl

theorem loadClasses_names (m' : Module) (P : Pickle) :
    (loadClasses m' P).names
      = m'.names ++ (List.range' P.nb (P.classes.length - P.nb)).map (fun i => (P.names[i]?).getD 0) := by
  show (recreateAll _ _ _ _ _ _).names = _
  rw [(recreateAll_spec _ _ _ _ _ _).2, List.length_drop]

theorem names_load (m' : Module) (P : Pickle) (hm' : m'.names.length = m'.classes.length)
    (hP : P.names.length = P.classes.length)
    (hnb : P.nb ≤ m'.classes.length) (hpre : ∀ c, c < P.nb → m'.names[c]? = P.names[c]?) :
    ∀ c, c < P.classes.length →
      (loadClasses m' P).names[trLoad P.nb m'.classes.length c]? = P.names[c]? := by
  intro c hc
  rw [loadClasses_names]
  by_cases hlt : c < P.nb
  · have htr : trLoad P.nb m'.classes.length c = c := if_pos hlt
    have h1 : c < m'.names.length := by rw [hm']; exact Nat.lt_of_lt_of_le hlt hnb
    rw [htr, List.getElem?_append_left h1, hpre c hlt]
  · have hge : P.nb ≤ c := Nat.le_of_not_lt hlt
    have htr : trLoad P.nb m'.classes.length c = m'.names.length + (c - P.nb) := by
      rw [hm']; exact if_neg hlt
    rw [htr, List.getElem?_append_right (Nat.le_add_right _ _), Nat.add_sub_cancel_left,
      List.getElem?_map, List.getElem?_range' (by omega : c - P.nb < P.classes.length - P.nb)]
    have h4 : c < P.names.length := by rw [hP]; exact hc
    simp only [Option.map_some, Nat.one_mul, Nat.add_sub_cancel' hge, List.getElem?_eq_getElem h4, Option.getD_some]

theorem CTOk.append_one {ct : ClassTable} (h : CTOk ct) (ci : ClassInfo)
    (hci : ∀ p ∈ ci.dictInst, p.2 < ct.length) : CTOk (ct ++ [ci]) := by
  intro c ci' hc p hp
  by_cases hlt : c < ct.length
  · rw [List.getElem?_append_left hlt] at hc
    exact h c ci' hc p hp
  · have hge : ct.length ≤ c := Nat.le_of_not_lt hlt
    rw [List.getElem?_append_right hge] at hc
    obtain ⟨_, rfl⟩ := List.getElem?_eq_some_iff.1 hc
    exact Nat.lt_of_lt_of_le (hci p (by simpa using hp)) hge

theorem getElem?_of_append {α : Type} {l l' r : List α} (h : l' = l ++ r) :
    l.length ≤ l'.length ∧ ∀ c, c < l.length → l'[c]? = l[c]? :=
  h ▸ ⟨by simp, fun _ hc => List.getElem?_append_left hc⟩

/-- Whatever is created or deleted, class objects and their `__name__`s are only ever appended — the
class objects that exist stay what they are — and the namespace stays well-founded: a class only ever
mentions classes that existed before it. -/
theorem nsRun_spec (ops : List NsOp) : ∀ (m : Module), ∃ cs ns,
    (nsRun m ops).classes = m.classes ++ cs ∧ (nsRun m ops).names = m.names ++ ns ∧
    cs.length = ns.length ∧ (CTOk m.classes → CTOk (nsRun m ops).classes) := by
  induction ops with
  | nil => intro m; exact ⟨[], [], by simp [nsRun], by simp [nsRun], rfl, fun h => h⟩
  | cons op ops ih =>
    intro m
    have hstep : ∃ cs ns, (nsStep m op).classes = m.classes ++ cs ∧
        (nsStep m op).names = m.names ++ ns ∧ cs.length = ns.length ∧
        (CTOk m.classes → CTOk (nsStep m op).classes) := by
      cases op with
      | create name ci =>
        simp only [nsStep]
        split
        · rename_i hall
          exact ⟨[ci], [name], rfl, rfl, rfl, fun h => h.append_one ci fun p hp =>
            of_decide_eq_true (List.all_eq_true.1 hall p hp)⟩
        · exact ⟨[], [], by simp, by simp, rfl, fun h => h⟩
      | delete name => exact ⟨[], [], by simp [nsStep, unbind], by simp [nsStep, unbind], rfl, fun h => h⟩
    obtain ⟨cs1, ns1, hc1, hn1, hl1, hk1⟩ := hstep
    obtain ⟨cs2, ns2, hc2, hn2, hl2, hk2⟩ := ih (nsStep m op)
    refine ⟨cs1 ++ cs2, ns1 ++ ns2, ?_, ?_, by simp [hl1, hl2], fun h => hk2 (hk1 h)⟩
    · show (nsRun (nsStep m op) ops).classes = _
      rw [hc2, hc1, List.append_assoc]
    · show (nsRun (nsStep m op) ops).names = _
      rw [hn2, hn1, List.append_assoc]

theorem nsRun_classes (m0 : Module) (ops : List NsOp) :
    m0.classes.length ≤ (nsRun m0 ops).classes.length ∧
      ∀ c, c < m0.classes.length → (nsRun m0 ops).classes[c]? = m0.classes[c]? :=
  let ⟨_, _, hc, _⟩ := nsRun_spec ops m0
  getElem?_of_append hc

theorem nsRun_names (m0 : Module) (ops : List NsOp) (hwf : m0.names.length = m0.classes.length) :
    (nsRun m0 ops).names.length = (nsRun m0 ops).classes.length ∧
      ∀ c, c < m0.classes.length → (nsRun m0 ops).names[c]? = m0.names[c]? := by
  obtain ⟨cs, ns, hc, hn, hl, _⟩ := nsRun_spec ops m0
  exact ⟨by rw [hc, hn, List.length_append, List.length_append, hwf, hl],
    fun c h => (getElem?_of_append hn).2 c (hwf ▸ h)⟩

theorem nsRun_byRef {m0 : Module} {ct : ClassTable} {nb : Nat} (hnb : nb ≤ m0.classes.length)
    (hpre : ∀ c, c < nb → m0.classes[c]? = ct[c]?) (ops : List NsOp) :
    nb ≤ (nsRun m0 ops).classes.length ∧ ∀ c, c < nb → (nsRun m0 ops).classes[c]? = ct[c]? :=
  ⟨Nat.le_trans hnb (nsRun_classes m0 ops).1,
    fun c hc => ((nsRun_classes m0 ops).2 c (Nat.lt_of_lt_of_le hc hnb)).trans (hpre c hc)⟩

theorem mapOpt_map_congr {α β γ : Type} {f : β → Option γ} {f' : α → Option γ} {g : α → β}
    {l : List α} (h : ∀ a ∈ l, f (g a) = f' a) : mapOpt f (l.map g) = mapOpt f' l := by
  induction l with
  | nil => rfl
  | cons a as ih =>
    simp only [List.map_cons, mapOpt]
    rw [h a List.mem_cons_self, ih (fun b hb => h b (List.mem_cons_of_mem _ hb))]

/-- The description of a class does not depend on where the class sits in the table: under a
translation that keeps records and names, every class of `ct` is described by the same words. -/
theorem describe_map {ct ct' : ClassTable} {tr : ClsId → ClsId} {names names' : List Name}
    (hct : CTOk ct) (hT : TableMap ct ct' tr)
    (hN : ∀ c, c < ct.length → names'[tr c]? = names[c]?) :
    ∀ (k : Nat) (c : ClsId), c < ct.length → describe ct' names' k (tr c) = describe ct names k c := by
  intro k
  induction k with
  | zero => intro c _; rfl
  | succ k ih =>
    intro c hc
    have hci : ct[c]? = some ct[c] := List.getElem?_eq_getElem hc
    rw [describe, describe, hT c _ hci, hN c hc, hci]
    cases hn : names[c]? with
    | none => rfl
    | some nm =>
      simp only [retagInfo]
      rw [mapOpt_map_congr (f' := descEntry (describe ct names k))]
      intro p hp
      simp only [descEntry]
      rw [ih p.2 (Nat.lt_trans (hct c _ hci p hp) hc)]

theorem trLoad_ge {nb c : ClsId} (off : Nat) (hc : nb ≤ c) : off ≤ trLoad nb off c := by
  rw [trLoad, if_neg (Nat.not_lt.2 hc)]
  exact Nat.le_add_right _ _

section Load
variable {m' : Module} {P : Pickle} (hct : CTOk P.classes) (hnb : P.nb ≤ m'.classes.length)
  (hpre : ∀ c, c < P.nb → m'.classes[c]? = P.classes[c]?)
include hct hnb hpre

theorem tableMap_loadClasses :
    TableMap P.classes (loadClasses m' P).classes (trLoad P.nb m'.classes.length) :=
  loadClasses_classes m' P ▸ tableMap_load P.classes m'.classes P.nb hct hnb hpre

/-- Loading in any module that has the by-reference classes of the dump: the heap is the one the dumper's own class
table rebuilds, with the class of every object allocated by the load translated. -/
theorem loadP_sim {objs0 : Oid → Option Obj} {next0 : Nat} (hb : ∀ x, next0 ≤ x → objs0 x = none) {stS : State}
    {vS : Val} (hreb : rebuild P.classes ⟨objs0, next0, []⟩ P.root = some (stS, vS)) :
    ∃ objs', loadP m' P objs0 next0 = some (loadClasses m' P, objs', stS.next, vS) ∧
      ∀ x, objs' x = if x < next0 then stS.objs x
        else (stS.objs x).map (retag (trLoad P.nb m'.classes.length)) := by
  have hlen : P.classes.length ≤ (loadClasses m' P).classes.length := by
    rw [loadClasses_classes, List.length_append, List.length_map, List.length_drop]
    omega
  obtain ⟨B', hB', hR'⟩ := (rebuild_sim (tableMap_loadClasses hct hnb hpre) next0 hlen).1 P.root _ _ _ _
    (HRel.init _ (st := ⟨objs0, next0, []⟩) hb) hreb
  exact ⟨B'.objs, by simp only [loadP, hB', hR'.next], hR'.objs⟩

end Load

end Heap
