/-
Helper lemmas for C12: the tokenizer of `from_string` recovers the node texts of a printed tree.
-/
import DeapModel.Core.GpCompile
import DeapModel.Lemmas.C11Basic

namespace GpCompile
open GpTree

/-- a printable node text: non-empty and free of the separator characters -/
def NameOK (p : Prim) : Prop :=
  (tok p ≠ [] ∧ ∀ c ∈ tok p, isSep c = false) ∧ (p.kind ≠ .prim → p.args = [])

/-- what may follow a token: the end of the string or a separator -/
def Delim (rest : Str) : Prop := rest = [] ∨ ∃ c r, rest = c :: r ∧ isSep c = true

theorem tokGo_word : ∀ (w rest cur : Str), (∀ c ∈ w, isSep c = false) →
    tokGo (w ++ rest) cur = tokGo rest (w.reverse ++ cur)
  | [], rest, cur, _ => by simp
  | c :: w, rest, cur, h => by
    have hc := h c (by simp)
    simp only [List.cons_append, tokGo, hc]
    rw [tokGo_word w rest (c :: cur) (fun x hx => h x (by simp [hx]))]
    simp

theorem tokGo_end {rest cur : Str} (hd : Delim rest) (hc : cur ≠ []) :
    tokGo rest cur = cur.reverse :: tokGo rest [] := by
  rcases hd with rfl | ⟨c, r, rfl, hs⟩
  · simp [tokGo, hc]
  · simp [tokGo, hs, hc]

theorem tokGo_token {w rest : Str} (hne : w ≠ []) (hw : ∀ c ∈ w, isSep c = false) (hd : Delim rest) :
    tokGo (w ++ rest) [] = w :: tokGo rest [] := by
  rw [tokGo_word w rest [] hw, tokGo_end hd (by simpa using hne)]
  simp

theorem tokGo_sep {c : Char} (hs : isSep c = true) (rest : Str) : tokGo (c :: rest) [] = tokGo rest [] := by
  simp [tokGo, hs]

mutual
theorem tokGo_render : ∀ (t : Tree) (rest : Str), wf t = true → (∀ p ∈ flatten t, NameOK p) → Delim rest →
    tokGo (render t ++ rest) [] = (flatten t).map tok ++ tokGo rest []
  | .node p as, rest, hw, h, hd => by
    obtain ⟨hp, has⟩ := forall_flatten_node.1 h
    simp [wf] at hw
    simp only [render, fmt, flatten, List.map_cons]
    by_cases hk : p.kind = .prim
    · have htok : tok p = p.name.toList := by simp [tok, hk]
      simp only [hk, if_true, List.append_assoc, List.cons_append, List.nil_append]
      rw [tokGo_token (w := p.name.toList) (by rw [← htok]; exact hp.1.1) (by rw [← htok]; exact hp.1.2)
        (Or.inr ⟨'(', _, rfl, by decide⟩)]
      rw [tokGo_sep (by decide), tokGo_renderF as (')' :: rest) hw.2 has (Or.inr ⟨')', rest, rfl, by decide⟩),
        tokGo_sep (by decide)]
      simp [htok]
    · have htok : tok p = p.text.toList := by simp [tok, hk]
      simp only [hk, if_false]
      rw [tokGo_token (w := p.text.toList) (by rw [← htok]; exact hp.1.1) (by rw [← htok]; exact hp.1.2) hd]
      have : as = [] := by
        have := hw.1; rw [Prim.arity, hp.2 hk] at this; exact List.eq_nil_of_length_eq_zero this
      subst this
      simp [flattenF, htok]
theorem tokGo_renderF : ∀ (ts : List Tree) (rest : Str), wfF ts = true → (∀ p ∈ flattenF ts, NameOK p) → Delim rest →
    tokGo (joinArgs (renderF ts) ++ rest) [] = (flattenF ts).map tok ++ tokGo rest []
  | [], rest, _, _, _ => by simp [renderF, joinArgs, flattenF]
  | [t], rest, hw, h, hd => by
    simp [wfF] at hw
    simp only [renderF, joinArgs, flattenF, List.append_nil]
    exact tokGo_render t rest hw (by simpa [flattenF] using h) hd
  | t :: t2 :: ts, rest, hw, h, hd => by
    simp only [wfF, Bool.and_eq_true] at hw
    simp only [renderF, joinArgs, flattenF, List.append_assoc, List.map_append, List.cons_append, List.nil_append]
    obtain ⟨ht, hts⟩ := forall_flattenF_cons.1 h
    rw [tokGo_render t _ hw.1 ht (Or.inr ⟨',', _, rfl, by decide⟩)]
    rw [tokGo_sep (by decide), tokGo_sep (by decide)]
    have := tokGo_renderF (t2 :: ts) rest (by simp [wfF, hw.2]) hts hd
    simp only [renderF, flattenF, List.map_append] at this
    rw [this]; simp [List.append_assoc]
end

end GpCompile
