/-
C08 — list and order facts under the archive model (`Core/Archive.lean`): what `insert` / `del` at a position do to
membership, pairwise relations and the mirrored `keys` / `items` lists, and CPython's `bisect_right` on an ascending
key list (`Asc`, `Cut`), which returns the position of the linear scan; deleting the positions `idxs p l` from the
back is `filter` (`foldl_eraseIdx_idxs`).
-/
import DeapModel.Lemmas.C08Model
import DeapModel.Props.C01
import Mathlib.Data.List.InsertIdx

namespace C08L
open Archive Fitness

section Lists
variable {β : Type}

theorem removeAt_eq_eraseIdx (l : List β) (i : Nat) : Py.removeAt l i = l.eraseIdx i := by
  simp [Py.removeAt, List.eraseIdx_eq_take_drop_succ]

theorem insertAt_perm (l : List β) (i : Nat) (a : β) : (Py.insertAt l i a).Perm (a :: l) := by
  have h : (l.take i ++ a :: l.drop i).Perm (a :: (l.take i ++ l.drop i)) := List.perm_middle
  rwa [List.take_append_drop] at h

theorem mem_insertAt (l : List β) (i : Nat) (a x : β) : x ∈ Py.insertAt l i a ↔ x = a ∨ x ∈ l :=
  (insertAt_perm l i a).mem_iff.trans List.mem_cons

theorem pairwise_insertAt {R : β → β → Prop} {l : List β} (i : Nat) {a : β} (hl : l.Pairwise R)
    (h1 : ∀ x ∈ l.take i, R x a) (h2 : ∀ x ∈ l.drop i, R a x) : (Py.insertAt l i a).Pairwise R := by
  rw [← List.take_append_drop i l, List.pairwise_append] at hl
  exact List.pairwise_append.2 ⟨hl.1, List.pairwise_cons.2 ⟨h2, hl.2.1⟩,
    fun x hx y hy => (List.mem_cons.1 hy).elim (fun e => e ▸ h1 x hx) (hl.2.2 x hx y)⟩

theorem pairwise_insertAt_of_forall {R : β → β → Prop} {l : List β} (i : Nat) {a : β} (hl : l.Pairwise R)
    (h1 : ∀ x ∈ l, R x a) (h2 : ∀ x ∈ l, R a x) : (Py.insertAt l i a).Pairwise R :=
  pairwise_insertAt i hl (fun x hx => h1 x (List.mem_of_mem_take hx)) (fun x hx => h2 x (List.mem_of_mem_drop hx))

theorem map_insertAt {γ : Type} (f : β → γ) (l : List β) (i : Nat) (a : β) :
    (Py.insertAt l i a).map f = Py.insertAt (l.map f) i (f a) := by
  simp [Py.insertAt, List.map_take, List.map_drop]

theorem reverse_insertAt (l : List β) (k : Nat) (a : β) (hk : k ≤ l.length) :
    (Py.insertAt l k a).reverse = Py.insertAt l.reverse (l.length - k) a := by
  simp only [Py.insertAt, List.reverse_append, List.reverse_cons, List.take_reverse, List.drop_reverse,
    List.append_assoc, List.singleton_append]
  have : l.length - (l.length - k) = k := by omega
  rw [this]

theorem reverse_eraseIdx (l : List β) (j : Nat) (hj : j < l.length) :
    (l.eraseIdx j).reverse = l.reverse.eraseIdx (l.length - 1 - j) := by
  rw [List.eraseIdx_eq_take_drop_succ, List.eraseIdx_eq_take_drop_succ, List.reverse_append,
    List.take_reverse, List.drop_reverse]
  have h1 : l.length - (l.length - 1 - j) = j + 1 := by omega
  have h2 : l.length - (l.length - 1 - j + 1) = j := by omega
  rw [h1, h2]

/-- `keys` and `items`: two lists, one the reversed image of the other, stay so under `insert` … -/
theorem mirror_insertAt {γ : Type} (f : β → γ) {ks : List γ} {xs : List β} (hm : ks = (xs.map f).reverse)
    {i : Nat} (hi : i ≤ ks.length) (x : β) :
    Py.insertAt ks i (f x) = ((Py.insertAt xs (xs.length - i) x).map f).reverse := by
  have hl : ks.length = xs.length := by rw [hm]; simp
  rw [map_insertAt, reverse_insertAt _ _ _ (by simp), ← hm, List.length_map]
  congr 1
  omega

/-- … and under `remove`. -/
theorem mirror_eraseIdx {γ : Type} (f : β → γ) {ks : List γ} {xs : List β} (hm : ks = (xs.map f).reverse)
    {j : Nat} (hj : j < xs.length) :
    ks.eraseIdx (xs.length - 1 - j) = ((xs.eraseIdx j).map f).reverse := by
  rw [← List.eraseIdx_map, reverse_eraseIdx _ _ (by simpa using hj), ← hm, List.length_map]

def idxs (p : β → Bool) : List β → Nat → List Nat
  | [], _ => []
  | a :: t, i => if p a then i :: idxs p t (i + 1) else idxs p t (i + 1)

theorem idxs_succ (p : β → Bool) (l : List β) (i : Nat) :
    idxs p l (i + 1) = (idxs p l i).map (· + 1) := by
  induction l generalizing i with
  | nil => simp [idxs]
  | cons a t ih =>
    simp only [idxs]
    split <;> simp [ih]

theorem foldl_eraseIdx_succ (a : β) (t : List β) (js : List Nat) :
    (js.map (· + 1)).foldl List.eraseIdx (a :: t) = a :: js.foldl List.eraseIdx t := by
  induction js generalizing t with
  | nil => simp
  | cons j js ih => simp [List.foldl_cons, List.eraseIdx_cons_succ, ih]

theorem foldl_eraseIdx_idxs (p : β → Bool) (l : List β) :
    (idxs p l 0).reverse.foldl List.eraseIdx l = l.filter (fun x => !p x) := by
  induction l with
  | nil => simp [idxs]
  | cons a t ih =>
    simp only [idxs, idxs_succ]
    by_cases h : p a = true
    · simp only [h, ↓reduceIte, List.reverse_cons, List.foldl_append, ← List.map_reverse, foldl_eraseIdx_succ, ih]
      simp [h]
    · simp only [h, Bool.false_eq_true, ↓reduceIte, ← List.map_reverse, foldl_eraseIdx_succ, ih]
      simp [h]

end Lists

section Order
variable {α : Type} [LinearOrder α]

theorem fitlt_iff (a b : Fit α) : (a < b) ↔ a.wvalues < b.wvalues :=
  C01.lt_iff_lex a b

theorem gt_iff (a b : Fit α) : Fitness.gt a b = true ↔ b.wvalues < a.wvalues := by
  rw [C01.gt_iff_swap]; exact C01.lt_iff_lex b a

theorem gt_false_iff (a b : Fit α) : Fitness.gt a b = false ↔ a.wvalues ≤ b.wvalues := by
  rw [← not_lt, ← gt_iff]; simp

theorem eq_iff (a b : Fit α) : Fitness.eq a b = true ↔ a = b := by
  rw [C01.eq_iff]
  constructor
  · intro h; cases a; cases b; simp_all
  · intro h; rw [h]

set_option linter.unusedSectionVars false in
theorem deepcopy_eq (f : Fit α) : deepcopy f = f := rfl

def Asc (keys : List (Fit α)) : Prop := keys.Pairwise (fun a b => a.wvalues ≤ b.wvalues)

/-- `i` is where `bisect_right(a, x)` has to point: the keys before `i` are `≤ x`, the keys from `i` on are `> x`. -/
def Cut (a : List (Fit α)) (x : Fit α) (i : Nat) : Prop :=
  i ≤ a.length ∧ (∀ y ∈ a.take i, ¬ x < y) ∧ ∀ y ∈ a.drop i, x < y

theorem Cut.asc_insert {a : List (Fit α)} {x : Fit α} {i : Nat} (hc : Cut a x i) (h : Asc a) :
    Asc (Py.insertAt a i x) :=
  pairwise_insertAt i h (fun y hy => not_lt.1 fun hlt => hc.2.1 y hy ((fitlt_iff x y).2 hlt))
    (fun y hy => le_of_lt ((fitlt_iff x y).1 (hc.2.2 y hy)))

/-- CPython's loop on an ascending list: the keys before `lo` are `≤ x`, the keys from `hi` on are `> x`, and
the interval closes on a cut. -/
theorem bisectLoop_cut (a : List (Fit α)) (x : Fit α) (hasc : Asc a) :
    ∀ fuel lo hi, hi < lo + fuel → lo ≤ hi → hi ≤ a.length →
      (∀ y ∈ a.take lo, ¬ x < y) → (∀ y ∈ a.drop hi, x < y) → Cut a x (bisectLoop a x fuel lo hi) := by
  intro fuel
  induction fuel with
  | zero => intro lo hi h hle; exact absurd h (Nat.not_lt.2 hle)
  | succ fuel ih =>
    intro lo hi hf hle hlen hlo hhi
    unfold bisectLoop
    by_cases hlt : lo < hi
    · have hm := Nat.mid_bounds hlt
      have hfuel := Gen08L.mid_fuel hlt hf
      rw [if_pos hlt]
      generalize (lo + hi) / 2 = mid at hm hfuel
      have hmid : mid < a.length := Nat.lt_of_lt_of_le hm.2 hlen
      have hmem : a[mid] ∈ a.drop mid := by rw [List.drop_eq_getElem_cons hmid]; exact List.mem_cons_self
      have hmem' : a[mid] ∈ a.take (mid + 1) := List.mem_take_iff_getElem.2 ⟨mid, Nat.lt_min.2 ⟨Nat.lt_succ_self _, hmid⟩, rfl⟩
      simp only [List.getElem?_eq_getElem hmid]
      by_cases hx : x < a[mid]
      · rw [if_pos hx]
        refine ih lo mid hfuel.1 hm.1 (Nat.le_of_lt hmid) hlo fun y hy => ?_
        rw [List.drop_eq_getElem_cons hmid, List.mem_cons] at hy
        rcases hy with rfl | hy
        · exact hx
        · exact (fitlt_iff _ _).2 (lt_of_lt_of_le ((fitlt_iff _ _).1 hx)
            (hasc.rel_of_mem_take_of_mem_drop hmem' hy))
      · rw [if_neg hx]
        refine ih (mid + 1) hi hfuel.2 hm.2 hlen (fun y hy hxy => ?_) hhi
        rw [List.take_succ_eq_append_getElem hmid, List.mem_append, List.mem_singleton] at hy
        rcases hy with hy | rfl
        · exact hx ((fitlt_iff _ _).2 (lt_of_lt_of_le ((fitlt_iff _ _).1 hxy)
            (hasc.rel_of_mem_take_of_mem_drop hy hmem)))
        · exact hx hxy
    · rw [if_neg hlt]
      obtain rfl : lo = hi := Nat.le_antisymm hle (Nat.le_of_not_lt hlt)
      exact ⟨hlen, hlo, hhi⟩

theorem bisectRight_cut (a : List (Fit α)) (x : Fit α) (hasc : Asc a) : Cut a x (Archive.bisectRight a x) :=
  bisectLoop_cut a x hasc _ 0 a.length (Nat.zero_add _ ▸ Nat.lt_succ_self _) (Nat.zero_le _) (Nat.le_refl _)
    (by simp) (by simp)

theorem Cut.eq_scan {a : List (Fit α)} {x : Fit α} {i : Nat} (hc : Cut a x i) : Py.bisectRight a x = i := by
  induction a generalizing i with
  | nil => obtain ⟨h, _⟩ := hc; simp only [List.length_nil, Nat.le_zero] at h; rw [h]; rfl
  | cons y ys ih =>
    obtain ⟨h1, h2, h3⟩ := hc
    rw [Py.bisectRight]
    cases i with
    | zero => rw [if_pos (h3 y (by simp))]
    | succ i =>
      rw [List.take_succ_cons] at h2
      rw [if_neg (h2 y List.mem_cons_self),
        ih ⟨by simpa using h1, fun z hz => h2 z (List.mem_cons_of_mem _ hz), by simpa using h3⟩]

/-- On an ascending key list CPython's binary search returns the position of the linear scan. -/
theorem bisectRight_eq (a : List (Fit α)) (x : Fit α) (hasc : Asc a) :
    Archive.bisectRight a x = Py.bisectRight a x :=
  (bisectRight_cut a x hasc).eq_scan.symm

end Order

end C08L
