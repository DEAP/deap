import DeapModel.Lemmas.C15HvCStair
/-!
C15 — `fpli_hv` of the transcription `Core/HvC.lean` in one and two dimensions, and the shared glue
(`setup_cdllist`, `filter`, the cases `n == 0`, `n == 1`).
-/
namespace HvC
open Hypervolume
open HvSweep (Seg ids)

/-- what `fpli_hv` knows after `setup_cdllist` and `filter` -/
structure Ready (data : List (List ℚ)) (R : List ℚ) (n' : ℕ) (S : St) : Prop where
  shape : ShapeC R.length data.length S
  same : SameData (initSt R.length data.length) S
  count : n' = ((ids data.length).filter (goodUpTo ([] :: data) R R.length)).length
  lists : ∀ j < R.length, ∃ L, Order ([] :: data) data.length j L ∧
    DLc data.length S j (L.filter (goodUpTo ([] :: data) R R.length))

theorem ready (data : List (List ℚ)) (R : List ℚ) :
    Ready data R (filter ([] :: data) R R.length data.length (setupCdllist ([] :: data) R.length data.length)).1
      (filter ([] :: data) R R.length data.length (setupCdllist ([] :: data) R.length data.length)).2 := by
  obtain ⟨h1, h2, h3, h4⟩ := setup_filter_spec ([] :: data) R R.length data.length
  exact ⟨h1, h2, h3, h4⟩

theorem fpliHvSt_unfold (data : List (List ℚ)) (R : List ℚ) :
    fpliHvSt data R =
      (let r := filter ([] :: data) R R.length data.length (setupCdllist ([] :: data) R.length data.length)
       if r.1 = 0 then some (0, r.2)
       else if r.1 = 1 then
         some ((List.range R.length).foldl (fun h i => h * (rf R i - cg ([] :: data) (nx r.2 0 0) i)) 1, r.2)
       else hvRecursive ([] :: data) R (data.length + 2) (R.length - 1) r.1 r.2) := rfl

theorem Ready.list_facts {data : List (List ℚ)} {R : List ℚ} {n' : ℕ} {S : St} (h : Ready data R n' S) {j : ℕ}
    (hj : j < R.length) : ∃ G : List ℕ, DLc data.length S j G ∧ G.length = n' ∧
      G.Pairwise (fun a b => cg ([] :: data) a j ≤ cg ([] :: data) b j) ∧
      (∀ a ∈ G, goodUpTo ([] :: data) R R.length a = true ∧ a ∈ ids data.length) ∧
      hvCells R data = hvCells R (G.map (ptOf ([] :: data))) := by
  obtain ⟨L, hO, hD⟩ := h.lists j hj
  refine ⟨L.filter (goodUpTo ([] :: data) R R.length), hD, ?_, hO.sorted.filter _, ?_, hvCells_data_eq_good data R L hO.perm⟩
  · rw [h.count]; exact length_filter_perm hO.perm _
  · intro a ha
    have := List.mem_filter.mp ha
    exact ⟨this.2, hO.perm.mem_iff.mp this.1⟩

theorem good_lt {C : Cargo} {R : List ℚ} {a : ℕ} (h : goodUpTo C R R.length a = true) {i : ℕ} (hi : i < R.length) :
    cg C a i < rf R i := (goodUpTo_iff C R R.length a).mp h i hi

theorem fpliHv_small (data : List (List ℚ)) (R : List ℚ) (hd : 1 ≤ R.length) {n' : ℕ} {S : St}
    (h : Ready data R n' S) :
    (n' = 0 → hvCells R data = 0) ∧
    (n' = 1 → (List.range R.length).foldl (fun h i => h * (rf R i - cg ([] :: data) (nx S 0 0) i)) 1 = hvCells R data) := by
  obtain ⟨G, hD, hlen, hs, hg, hv⟩ := h.list_facts (j := 0) (by omega)
  refine ⟨?_, ?_⟩
  · intro h0
    have : G = [] := List.length_eq_zero_iff.mp (hlen.trans h0)
    rw [hv, this]; exact hvCells_nil_pts R
  · intro h1
    obtain ⟨p, rfl⟩ : ∃ p, G = [p] := List.length_eq_one_iff.mp (hlen.trans h1)
    have hnx : nx S 0 0 = p := hD.1.1.1
    rw [hnx, hv]
    exact single_eq_hvCells ([] :: data) R p (hg p (by simp)).1

/-- `fpli_hv` around the call of `hv_recursive` (l.1473-1482): it is enough to show that the call, made with at least
two surviving points, returns the hypervolume -/
theorem fpliHv_of_rec (data : List (List ℚ)) (R : List ℚ) (hd : 1 ≤ R.length)
    (hrec : ∀ {n' : ℕ} {S : St}, Ready data R n' S → 2 ≤ n' →
      ∃ S', hvRecursive ([] :: data) R (data.length + 2) (R.length - 1) n' S = some (hvCells R data, S')) :
    fpliHv data R = some (hvCells R data) := by
  unfold fpliHv
  rw [fpliHvSt_unfold]
  have hR := ready data R
  obtain ⟨h0, h1⟩ := fpliHv_small data R hd hR
  simp only
  split
  · rw [h0 ‹_›]; rfl
  · split
    · rw [h1 ‹_›]; rfl
    · obtain ⟨S', hrun⟩ := hrec hR (by omega)
      rw [hrun]; rfl

theorem fpliHv_dim1 (data : List (List ℚ)) (r : ℚ) : fpliHv data [r] = some (hvCells [r] data) := by
  refine fpliHv_of_rec data [r] (by simp) (fun {n' S} hR hn => ?_)
  obtain ⟨G, hD, hlen, hs, hg, hv⟩ := hR.list_facts (j := 0) (by simp)
  cases G with
  | nil => simp at hlen; omega
  | cons a G =>
    have hnx : nx S 0 0 = a := hD.1.1.1
    have hlt : cg ([] :: data) a 0 < r := by
      have := good_lt (hg a (by simp)).1 (i := 0) (by simp)
      simpa [rf] using this
    have key := dim1_eq_hvCells ([] :: data) r a G hs (le_of_lt hlt)
    simp only [List.length_cons, List.length_nil, Nat.zero_add, Nat.sub_self]
    rw [hvRecursive_zero, hnx, hv, ← key]
    exact ⟨_, rfl⟩

theorem fpliHv_dim2 (data : List (List ℚ)) (r₁ r₂ : ℚ) (hlen2 : ∀ p ∈ data, p.length = 2) :
    fpliHv data [r₁, r₂] = some (hvCells [r₁, r₂] data) := by
  refine fpliHv_of_rec data [r₁, r₂] (by simp) (fun {n' S} hR hn => ?_)
  obtain ⟨G, hD, hlen, hs, hg, hv⟩ := hR.list_facts (j := 1) (by simp)
  cases G with
  | nil => simp at hlen; omega
  | cons a G =>
    have hnx : nx S 1 0 = a := hD.1.1.1
    have hle : ∀ x ∈ a :: G, cg ([] :: data) x 0 ≤ r₁ ∧ cg ([] :: data) x 1 ≤ r₂ := by
      intro x hx
      have e0 := good_lt (hg x hx).1 (i := 0) (by simp)
      have e1 := good_lt (hg x hx).1 (i := 1) (by simp)
      simp [rf] at e0 e1
      exact ⟨le_of_lt e0, le_of_lt e1⟩
    have hl2 : ∀ x ∈ a :: G, (ptOf ([] :: data) x).length = 2 := fun x hx =>
      hlen2 _ (mem_data_of_mem_ids data x (hg x hx).2)
    have key := dim2_eq_hvCells ([] :: data) r₁ r₂ a G hs hl2 hle
    have hne : ∀ p ∈ G, p ≠ 0 := by
      intro p hp e
      have := (hD.2.2 p (by simp [hp])).1
      omega
    have hfuel : G.length < data.length + 2 := by
      have := HvSweep.dl_length_le hD
      simp at this; omega
    have hseg : Seg (toSw (tick S 1)) 1 a G 0 := hD.1.2
    obtain ⟨S', hrun⟩ := loop2d_eq ([] :: data) [r₁, r₂] G (data.length + 2) a (cg ([] :: data) a 0) 0 (tick S 1)
      hfuel hseg hne
    simp only [List.length_cons, List.length_nil, Nat.zero_add, Nat.add_one_sub_one]
    rw [hvRecursive_one, hnx, hrun, hv, ← key]
    exact ⟨_, rfl⟩

/-- the points strictly below the reference in every coordinate -/
def strictlyBelow (R : List ℚ) (p : List ℚ) : Bool := (List.range R.length).all (fun i => decide (p.getD i 0 < R.getD i 0))

theorem good_eq_strictlyBelow (data : List (List ℚ)) (R : List ℚ) (a : ℕ) :
    goodUpTo ([] :: data) R R.length a = strictlyBelow R (ptOf ([] :: data) a) := rfl

theorem count_good (data : List (List ℚ)) (R : List ℚ) :
    ((ids data.length).filter (goodUpTo ([] :: data) R R.length)).length = (data.filter (strictlyBelow R)).length := by
  conv_rhs => rw [← map_ptOf_ids data, List.filter_map, List.length_map]
  rfl

end HvC
