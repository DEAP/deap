/-
C08 — the hall of fame: `HStr` (the structural invariant plus the capacity), the hypotheses on the similarity operator
(`SimSym` ⊂ `SimBase` ⊂ `SimHyp`) and the semantic invariants of one `update` iteration: members pairwise dissimilar,
everything seen represented while there is room (`SemK`), members the best of everything seen (`Best`).
-/
import DeapModel.Lemmas.C08Hof

namespace C08L
open Archive

variable {G α : Type} [LinearOrder α]

structure HStr (base m : Nat) (seen : List (Ind G α)) (h : HoF G α) : Prop extends Str base seen h where
  msz : h.maxsize = m
  size : h.items.length ≤ m

theorem hstr_empty (m base : Nat) : HStr base m ([] : List (Ind G α)) (empty m base : HoF G α) :=
  { str_empty m base with msz := rfl, size := by simp [empty] }

theorem step_hstr (sim : Ind G α → Ind G α → Bool) (ind : Ind G α) {base m : Nat}
    {seen : List (Ind G α)} {h : HoF G α} (hs : HStr base m seen h) (hm : 1 ≤ m) :
    ∃ h', step sim ind h ind = some h' ∧ HStr base m (seen ++ [ind]) h' := by
  have hs' : Str base (seen ++ [ind]) h := hs.toStr.mono (fun x hx => by simp [hx])
  have hind : ind ∈ seen ++ [ind] := by simp
  have hsz := hs.size
  have hmsz := hs.msz
  rcases step_cases sim ind h (hmsz ▸ hm) with ⟨e, _⟩ | ⟨e, hlt, _⟩ | ⟨ys, w, hys, hyi, e, hge, _, _⟩
  · exact ⟨_, e, { hs' with msz := hmsz, size := hsz }⟩
  · exact ⟨_, e, { insert_str hs' ind hind with msz := hmsz, size := by rw [length_insert]; omega }⟩
  · have hlen : h.items.length = ys.length + 1 := by rw [hys, List.length_append]; rfl
    exact ⟨_, e, { insert_str (erased_str hs' _ (by omega)) ind hind with
      msz := hmsz, size := by rw [length_insert, hyi]; omega }⟩

/-- The similarity operator is symmetric and does not look at object identity. -/
structure SimSym (sim : Ind G α → Ind G α → Bool) : Prop where
  symm : ∀ x y, sim x y = true → sim y x = true
  same : ∀ x x' y y', same x x' → same y y' → sim x y = sim x' y'

/-- … and reflexive. -/
structure SimBase (sim : Ind G α → Ind G α → Bool) : Prop extends SimSym sim where
  refl : ∀ x, sim x x = true

/-- Hypotheses of the reading (DESIGN §6): the similarity operator is reflexive and symmetric, does not look
at object identity, and similar individuals of the universe `U` carry equal fitness.
(Transitivity is not needed by any proof.) -/
structure SimHyp (sim : Ind G α → Ind G α → Bool) (U : List (Ind G α)) : Prop extends SimBase sim where
  fit : ∀ x ∈ U, ∀ y ∈ U, sim x y = true → x.fit = y.fit

def Dissim (sim : Ind G α → Ind G α → Bool) (l : List (Ind G α)) : Prop :=
  l.Pairwise (fun a b => sim a b = false)

/-- "at most `m` distinct individuals exist in `seen`" -/
def Room (sim : Ind G α → Ind G α → Bool) (m : Nat) (seen : List (Ind G α)) : Prop :=
  ∀ l : List (Ind G α), (∀ y ∈ l, y ∈ seen) → Dissim sim l → l.length ≤ m

def Repr (sim : Ind G α → Ind G α → Bool) (h : HoF G α) (x : Ind G α) : Prop :=
  ∃ it ∈ h.items, sim x it = true

/-- The semantic invariant of `all_kept_while_room` (`K` for "kept"): pairwise dissimilar members, and: while
room, everything seen is represented. -/
structure SemK (sim : Ind G α → Ind G α → Bool) (m : Nat) (seen : List (Ind G α)) (h : HoF G α) : Prop where
  dissim : Dissim sim h.items
  kept : Room sim m seen → ∀ x ∈ seen, Repr sim h x

/-- Every individual seen is represented by a similar member, or the archive is full and the individual is no
better than the worst member. -/
def Best (sim : Ind G α → Ind G α → Bool) (m : Nat) (seen : List (Ind G α)) (h : HoF G α) : Prop :=
  ∀ x ∈ seen, Repr sim h x ∨
    (h.items.length = m ∧ ∀ w, h.items.getLast? = some w → x.fit.wvalues ≤ w.fit.wvalues)

variable {sim : Ind G α → Ind G α → Bool} {U : List (Ind G α)}

theorem sim_copy_left (hh : SimSym sim) (o : Nat) (x y : Ind G α) : sim (copyInd o x) y = sim x y :=
  hh.same _ _ _ _ (same_copy o x) (same_refl y)

theorem sim_copy_right (hh : SimSym sim) (o : Nat) (x y : Ind G α) : sim y (copyInd o x) = sim y x :=
  hh.same _ _ _ _ (same_refl y) (same_copy o x)

theorem repr_insert (hh : SimBase sim) (h : HoF G α) (ind : Ind G α) : Repr sim (insert h ind) ind :=
  ⟨copyInd h.next ind, (mem_insert _ _ _).2 (Or.inl rfl), by rw [sim_copy_right hh.toSimSym, hh.refl]⟩

theorem repr_insert_of (h : HoF G α) (ind x : Ind G α) (hx : Repr sim h x) : Repr sim (insert h ind) x := by
  obtain ⟨it, hit, e⟩ := hx
  exact ⟨it, (mem_insert _ _ _).2 (Or.inr hit), e⟩

theorem exists_originals (hh : SimSym sim) (seen : List (Ind G α)) (ind : Ind G α) (l : List (Ind G α))
    (ho : ∀ it ∈ l, ∃ x ∈ seen, same it x) (hp : Dissim sim l) (hi : ∀ it ∈ l, sim ind it = false) :
    ∃ os : List (Ind G α), os.length = l.length ∧ (∀ o ∈ os, o ∈ seen) ∧ Dissim sim os ∧
      (∀ o ∈ os, sim ind o = false) ∧ ∀ o ∈ os, ∃ it ∈ l, same it o := by
  induction l with
  | nil => exact ⟨[], rfl, nofun, .nil, nofun, nofun⟩
  | cons it t ih =>
    rw [List.forall_mem_cons] at ho hi
    obtain ⟨⟨x, hx, sx⟩, ho⟩ := ho
    obtain ⟨hp1, hp2⟩ := List.pairwise_cons.1 hp
    obtain ⟨os, h1, h2, h3, h4, h5⟩ := ih ho hp2 hi.2
    refine ⟨x :: os, by simp [h1], List.forall_mem_cons.2 ⟨hx, h2⟩,
      List.pairwise_cons.2 ⟨fun o ho' => ?_, h3⟩, List.forall_mem_cons.2 ⟨?_, h4⟩,
      List.forall_mem_cons.2 ⟨⟨it, List.mem_cons_self, sx⟩, fun o ho' => ?_⟩⟩
    · obtain ⟨it', hit', s'⟩ := h5 o ho'
      rw [← hh.same it x it' o sx s']
      exact hp1 it' hit'
    · rw [← hh.same ind ind it x (same_refl _) sx]
      exact hi.1
    · obtain ⟨it', hit', s'⟩ := h5 o ho'
      exact ⟨it', List.mem_cons_of_mem _ hit', s'⟩

theorem no_room (hh : SimSym sim) {base m : Nat} {seen : List (Ind G α)} {h : HoF G α}
    (hs : HStr base m seen h) (hd : Dissim sim h.items) (ind : Ind G α)
    (hfull : m ≤ h.items.length) (hns : ∀ hofer ∈ h.items, sim ind hofer = false) :
    ¬ Room sim m (seen ++ [ind]) := by
  intro hroom
  obtain ⟨os, h1, h2, h3, h4, _⟩ := exists_originals hh seen ind h.items hs.origin hd hns
  have := hroom (ind :: os)
    (List.forall_mem_cons.2 ⟨by simp, fun y hy => List.mem_append_left _ (h2 y hy)⟩)
    (List.pairwise_cons.2 ⟨h4, h3⟩)
  rw [List.length_cons, h1] at this
  omega

set_option linter.unusedSectionVars false in
theorem room_mono {m : Nat} {seen : List (Ind G α)} (ind : Ind G α) (hr : Room sim m (seen ++ [ind])) :
    Room sim m seen :=
  fun l hl hd => hr l (fun y hy => List.mem_append_left _ (hl y hy)) hd

theorem dissim_insert (hh : SimSym sim) (h : HoF G α) (ind : Ind G α) (hd : Dissim sim h.items)
    (hns : ∀ hofer ∈ h.items, sim ind hofer = false) : Dissim sim (insert h ind).items := by
  refine pairwise_insertAt_of_forall _ hd (fun x hx => ?_) (fun x hx => ?_)
  · rw [sim_copy_right hh, Bool.eq_false_iff]
    exact fun hq => Bool.false_ne_true ((hns x hx).symm.trans (hh.symm _ _ hq))
  · rw [sim_copy_left hh]; exact hns x hx

section Step
variable {base m : Nat} {seen : List (Ind G α)} {h h' : HoF G α} {ind : Ind G α}

theorem step_dissim (hh : SimSym sim) (hs : HStr base m seen h) (hd : Dissim sim h.items) (hm : 1 ≤ m)
    (e : step sim ind h ind = some h') : Dissim sim h'.items := by
  rcases step_cases sim ind h (hs.msz ▸ hm) with ⟨e', _⟩ | ⟨e', _, hns⟩ | ⟨ys, w, hys, hyi, e', _, _, hns⟩ <;>
    cases e'.symm.trans e
  · exact hd
  · exact dissim_insert hh h ind hd hns
  · rw [hys, Dissim, List.pairwise_append] at hd
    apply dissim_insert hh
    · rw [hyi]; exact hd.1
    · rw [hyi]; exact fun y hy => hns y (hys ▸ List.mem_append_left _ hy)

theorem step_semk (hh : SimBase sim) (hs : HStr base m seen h) (hsem : SemK sim m seen h) (hm : 1 ≤ m)
    (e : step sim ind h ind = some h') : SemK sim m (seen ++ [ind]) h' := by
  refine ⟨step_dissim hh.toSimSym hs hsem.dissim hm e, fun hr x hx => ?_⟩
  have hmsz := hs.msz
  have hold : x ∈ seen → Repr sim h x := hsem.kept (room_mono ind hr) x
  rw [List.mem_append, List.mem_singleton] at hx
  rcases step_cases sim ind h (hmsz ▸ hm) with ⟨e', hk⟩ | ⟨e', _, _⟩ | ⟨ys, w, hys, _, e', hge, _, hns⟩ <;>
    cases e'.symm.trans e
  · rcases hx with hx | rfl
    · exact hold hx
    · -- not represented and full would mean more than `m` distinct individuals
      rcases hk with hsim | ⟨hge, _⟩
      · exact hsim
      · refine Classical.by_contradiction fun hrep => no_room hh.toSimSym hs hsem.dissim x (by omega) ?_ hr
        exact fun hofer hh' => Bool.eq_false_iff.2 fun hq => hrep ⟨hofer, hh', hq⟩
  · rcases hx with hx | rfl
    · exact repr_insert_of h ind x (hold hx)
    · exact repr_insert hh h x
  · exact absurd hr (no_room hh.toSimSym hs hsem.dissim ind (by omega) hns)

theorem step_best (hh : SimHyp sim U) (hs : HStr base m seen h) (hbest : Best sim m seen h)
    (hm : 1 ≤ m) (hU : ∀ x ∈ seen ++ [ind], x ∈ U)
    (e : step sim ind h ind = some h') : Best sim m (seen ++ [ind]) h' := by
  have hsz := hs.size
  have hmsz := hs.msz
  have hb := hh.toSimBase
  intro x hx
  rw [List.mem_append, List.mem_singleton] at hx
  rcases step_cases sim ind h (hmsz ▸ hm) with
    ⟨e', hk⟩ | ⟨e', hlt, _⟩ | ⟨ys, w, hys, hyi, e', hge, hgt, _⟩ <;> cases e'.symm.trans e
  · rcases hx with hx | rfl
    · exact hbest x hx
    · rcases hk with hsim | ⟨hge, hle⟩
      · exact Or.inl hsim
      · exact Or.inr ⟨by omega, fun w hw => (gt_false_iff _ _).1 (hle w hw)⟩
  · rcases hx with hx | rfl
    · rcases hbest x hx with hr | ⟨hl, _⟩
      · exact Or.inl (repr_insert_of h ind x hr)
      · omega
    · exact Or.inl (repr_insert hb h x)
  · rcases hx with hx | rfl
    · have hlen : h.items.length = ys.length + 1 := by rw [hys, List.length_append]; rfl
      have hw : w ∈ h.items := hys ▸ List.mem_append_right _ (List.mem_singleton_self w)
      -- `x` has a similar member other than the evicted `w`, or is no better than `w`
      have hxw : (∃ it ∈ ys, sim x it = true) ∨ x.fit.wvalues ≤ w.fit.wvalues := by
        rcases hbest x hx with ⟨it, hit, hsi⟩ | ⟨_, hle⟩
        · rw [hys, List.mem_append, List.mem_singleton] at hit
          rcases hit with hit | rfl
          · exact Or.inl ⟨it, hit, hsi⟩
          · obtain ⟨y, hy, sy⟩ := hs.origin it hw
            rw [hh.same x x it y (same_refl x) sy] at hsi
            rw [hh.fit x (hU x (List.mem_append_left _ hx)) y (hU y (List.mem_append_left _ hy)) hsi, ← sy.2]
            exact Or.inr (le_refl _)
        · exact Or.inr (hle w (hys ▸ List.getLast?_concat))
      rcases hxw with ⟨it, hit, hsi⟩ | hle
      · exact Or.inl ⟨it, (mem_insert _ _ _).2 (Or.inr (hyi ▸ hit)), hsi⟩
      · -- every member of the new archive is at least as good as `w`
        refine Or.inr ⟨by rw [length_insert, hyi]; omega, fun w' hw' => le_trans hle ?_⟩
        rcases (mem_insert _ _ _).1 (List.mem_of_getLast? hw') with rfl | hmem
        · exact le_of_lt ((gt_iff _ _).1 hgt)
        · exact hs.toStr.last_le hys w' (hys ▸ List.mem_append_left _ (hyi ▸ hmem))
    · exact Or.inl (repr_insert hb _ x)

/-- A lower bound `b` on the members of a full archive survives an iteration (`lb`: lower bound). -/
theorem step_lb (sim : Ind G α → Ind G α → Bool) (b : List α) (hs : HStr base m seen h) (hm : 1 ≤ m)
    (hlb : h.items.length = m ∧ ∀ it ∈ h.items, b ≤ it.fit.wvalues)
    (e : step sim ind h ind = some h') :
    h'.items.length = m ∧ ∀ it ∈ h'.items, b ≤ it.fit.wvalues := by
  have hmsz := hs.msz
  obtain ⟨hfull, hlb⟩ := hlb
  rcases step_cases sim ind h (hmsz ▸ hm) with
    ⟨e', _⟩ | ⟨e', hlt, _⟩ | ⟨ys, w, hys, hyi, e', hge, hgt, _⟩ <;> cases e'.symm.trans e
  · exact ⟨hfull, hlb⟩
  · omega
  · have hlen : h.items.length = ys.length + 1 := by rw [hys, List.length_append]; rfl
    refine ⟨by rw [length_insert, hyi]; omega, fun it hit => ?_⟩
    rw [mem_insert, hyi] at hit
    rcases hit with rfl | hit
    · exact le_trans (hlb w (hys ▸ List.mem_append_right _ (List.mem_singleton_self w)))
        (le_of_lt ((gt_iff _ _).1 hgt))
    · exact hlb it (hys ▸ List.mem_append_left _ hit)

end Step

end C08L
