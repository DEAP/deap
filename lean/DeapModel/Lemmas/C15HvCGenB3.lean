import DeapModel.Lemmas.C15HvCGenB1
/-!
C15 — the general case of `hv_recursive` in `_hv.c`: what `delete` / `delete_dom` (l.646-669, one iteration `delStep` of
the deletion loop) do, and what `reinsert` (l.672-684) and `reinsert_dom` (l.687-700) do to a state whose pointers are
those left by the deletion of the same node: the pointers are those before the deletion; frames for the other fields.
-/
namespace HvC
open HvSweep (DimEq NodeFacts UStep RStep)

theorem gB3_mem_dimRange (dim i : ℕ) : i ∈ dimRange dim ↔ 2 ≤ i ∧ i < dim := by
  unfold dimRange stopDimension
  simp only [List.mem_map, List.mem_range]
  constructor
  · rintro ⟨a, ha, rfl⟩; omega
  · rintro ⟨h1, h2⟩; exact ⟨i - 2, by omega, by omega⟩

theorem gB3_dimRange_lt {dim d : ℕ} (h : dim ≤ d) : ∀ i ∈ dimRange dim, i < d :=
  fun i hi => lt_of_lt_of_le ((gB3_mem_dimRange dim i).mp hi).2 h

theorem gB3_not_mem_dimRange {dim i : ℕ} (h : i < 2 ∨ dim ≤ i) : i ∉ dimRange dim := fun hm => by
  have := (gB3_mem_dimRange dim i).mp hm; omega

theorem gB3_nodup_dimRange (dim : ℕ) : (dimRange dim).Nodup := by
  exact List.Nodup.map (fun a b h => by simpa using h) List.nodup_range

/-- the two pointer assignments of `delete` / `delete_dom` -/
def gB3_ddStep (x : ℕ) (S : St) (i : ℕ) : St :=
  setPv (setNx S i (pv S i x) (nx S i x)) i (nx (setNx S i (pv S i x) (nx S i x)) i x)
    (pv (setNx S i (pv S i x) (nx S i x)) i x)
/-- the body of the loop of `delete` -/
def gB3_dStep (C : Cargo) (x : ℕ) (S : St) (i : ℕ) : St := lowerBound C (gB3_ddStep x S i) x i
/-- the two pointer assignments of `reinsert` / `reinsert_dom` -/
def gB3_rl (x : ℕ) (S : St) (i : ℕ) : St :=
  setPv (setNx S i (pv S i x) x) i (nx (setNx S i (pv S i x) x) i x) x
/-- the body of the loop of `reinsert` -/
def gB3_rStep (C : Cargo) (x : ℕ) (S : St) (i : ℕ) : St := lowerBound C (gB3_rl x S i) x i
/-- the body of the loop of `reinsert_dom` -/
def gB3_rdStep (C : Cargo) (x : ℕ) (S : St) (i : ℕ) : St :=
  setVl (setAr (gB3_rl x S i) x i (ar (gB3_rl x S i) (pv S i x) i)) x i
    (vl (setAr (gB3_rl x S i) x i (ar (gB3_rl x S i) (pv S i x) i)) (pv S i x) i +
      ar (setAr (gB3_rl x S i) x i (ar (gB3_rl x S i) (pv S i x) i)) (pv S i x) i * (cg C x i - cg C (pv S i x) i))

theorem gB3_delete_eq (C : Cargo) (S : St) (x dim : ℕ) : delete C S x dim = (dimRange dim).foldl (gB3_dStep C x) S := rfl
theorem gB3_deleteDom_eq (S : St) (x dim : ℕ) : deleteDom S x dim = (dimRange dim).foldl (gB3_ddStep x) S := rfl
theorem gB3_reinsert_eq (C : Cargo) (S : St) (x dim : ℕ) : reinsert C S x dim = (dimRange dim).foldl (gB3_rStep C x) S := rfl
theorem gB3_reinsertDom_eq (C : Cargo) (S : St) (x dim : ℕ) :
    reinsertDom C S x dim = (dimRange dim).foldl (gB3_rdStep C x) S := rfl

theorem gB3_toSw_lowerBound (C : Cargo) (S : St) (x i : ℕ) : toSw (lowerBound C S x i) = toSw S := by
  unfold lowerBound; split <;> rfl

theorem gB3_toSw_ddStep {x : ℕ} {S : St} {i : ℕ} (h : pv S i x ≠ x) :
    toSw (gB3_ddStep x S i) = HvSweep.unlink (toSw S) i x := by
  unfold gB3_ddStep
  rw [nx_setNx_ne _ _ _ _ _ _ (Or.inr (Ne.symm h)), pv_setNx]
  rfl

theorem gB3_toSw_dStep (C : Cargo) (x : ℕ) (S : St) (i : ℕ) : toSw (gB3_dStep C x S i) = toSw (gB3_ddStep x S i) :=
  gB3_toSw_lowerBound C _ x i

theorem gB3_toSw_rl (x : ℕ) (S : St) (i : ℕ) : toSw (gB3_rl x S i) = HvSweep.relink (toSw S) i x := rfl

theorem gB3_toSw_rStep (C : Cargo) (x : ℕ) (S : St) (i : ℕ) :
    toSw (gB3_rStep C x S i) = HvSweep.relink (toSw S) i x :=
  gB3_toSw_lowerBound C _ x i

theorem gB3_toSw_rdStep (C : Cargo) (x : ℕ) (S : St) (i : ℕ) :
    toSw (gB3_rdStep C x S i) = HvSweep.relink (toSw S) i x := rfl

theorem gB3_uStep_dd (d n x : ℕ) : UStep toSw d n x (gB3_ddStep x) :=
  { other := fun S i j hj a => by
      show nx (gB3_ddStep x S i) j a = nx S j a ∧ pv (gB3_ddStep x S i) j a = pv S j a
      unfold gB3_ddStep
      exact ⟨by rw [nx_setPv, nx_setNx_ne _ _ _ _ _ _ (Or.inl hj)], by rw [pv_setPv_ne _ _ _ _ _ _ (Or.inl hj), pv_setNx]⟩
    shape := fun _ _ h => shapeC_setPv (shapeC_setNx h _ _ _) _ _ _
    self := fun _ _ h _ => by rw [gB3_toSw_ddStep h]; exact DimEq.refl _ _ }

theorem gB3_uStep_d (C : Cargo) (d n x : ℕ) : UStep toSw d n x (gB3_dStep C x) :=
  { other := fun S i j hj => by rw [gB3_toSw_dStep]; exact (gB3_uStep_dd d n x).other S i j hj
    shape := fun S i h => by rw [gB3_toSw_dStep]; exact (gB3_uStep_dd d n x).shape S i h
    self := fun S i h h' => by rw [gB3_toSw_dStep]; exact (gB3_uStep_dd d n x).self S i h h' }

theorem gB3_rStep_r (C : Cargo) (d n x : ℕ) : RStep toSw d n x (gB3_rStep C x) :=
  { other := fun S i j hj => by rw [gB3_toSw_rStep]; exact HvSweep.relink_other (toSw S) i x j hj
    shape := fun S i h => by rw [gB3_toSw_rStep]; exact HvSweep.shape_relink h i x
    self := fun S i => by rw [gB3_toSw_rStep]; exact DimEq.refl _ _ }

theorem gB3_rStep_rd (C : Cargo) (d n x : ℕ) : RStep toSw d n x (gB3_rdStep C x) :=
  { other := fun S i j hj => HvSweep.relink_other (toSw S) i x j hj
    shape := fun _ i h => HvSweep.shape_relink h i x
    self := fun _ _ => DimEq.refl _ _ }

/-- `delete` and `delete_dom` are loops over `2 .. dim-1` that unlink the node -/
theorem gB3_uStep_delStep (C : Cargo) (d n x dim : ℕ) (U : St) :
    ∃ u, UStep toSw d n x u ∧ delStep C dim U x = (dimRange dim).foldl u U := by
  unfold delStep
  split
  · exact ⟨_, gB3_uStep_dd d n x, rfl⟩
  · exact ⟨_, gB3_uStep_d C d n x, rfl⟩

theorem gB3_delStep_ptr {d n : ℕ} (C : Cargo) (x dim : ℕ) (U : St) (hU : ShapeC d n U) (hdim : dim ≤ d)
    (hnf : ∀ i, 2 ≤ i → i < dim → NodeFacts n (toSw U) i x) :
    (∀ i, 2 ≤ i → i < dim → DimEq i (HvSweep.unlink (toSw U) i x) (toSw (delStep C dim U x))) ∧
      (∀ i, (i < 2 ∨ dim ≤ i) → DimEq i (toSw U) (toSw (delStep C dim U x))) ∧ ShapeC d n (delStep C dim U x) := by
  obtain ⟨u, hu, e⟩ := gB3_uStep_delStep C d n x dim U
  rw [e]
  exact ⟨fun i h2 hid => hu.fold_unlink hU U (gB3_nodup_dimRange dim) (gB3_dimRange_lt hdim) hU
      ((gB3_mem_dimRange dim i).mpr ⟨h2, hid⟩) (hnf i h2 hid) (DimEq.refl _ _),
    fun i hi => hu.toDimStep.fold_other _ U i (gB3_not_mem_dimRange hi), hu.toDimStep.fold_shape _ U hU⟩

/-- a relinking loop over `2 .. dim-1` undoes `delStep` on the pointers -/
theorem gB3_undo {d n : ℕ} (C : Cargo) (x dim : ℕ) (U T : St) (hU : ShapeC d n U) (hT : ShapeC d n T) (hdim : dim ≤ d)
    (hnf : ∀ i, 2 ≤ i → i < dim → NodeFacts n (toSw U) i x)
    (hpe : PtrEqC (delStep C dim U x) T) {f : St → ℕ → St} (hf : RStep toSw d n x f) :
    PtrEqC U ((dimRange dim).foldl f T) ∧ ShapeC d n ((dimRange dim).foldl f T) := by
  obtain ⟨u, hu, e⟩ := gB3_uStep_delStep C d n x dim U
  rw [e] at hpe
  exact ⟨HvSweep.fold_undo hu hf (gB3_nodup_dimRange dim) (gB3_dimRange_lt hdim) U T hU hT
      (fun i hi => hnf i ((gB3_mem_dimRange dim i).mp hi).1 ((gB3_mem_dimRange dim i).mp hi).2) (fun i a => hpe i a),
    hf.toDimStep.fold_shape _ T hT⟩

theorem gB3_lowerBound_frame (C : Cargo) (S : St) (x i : ℕ) :
    gA_Data S (lowerBound C S x i) ∧ (lowerBound C S x i).bound.length = S.bound.length ∧
    (∀ j, j ≠ i → (lowerBound C S x i).bound.getD j none = S.bound.getD j none) ∧
    (∀ b', (lowerBound C S x i).bound.getD i none = some b' →
      ∃ b, S.bound.getD i none = some b ∧ b' ≤ b ∧ b' ≤ cg C x i) := by
  unfold lowerBound
  cases hb : S.bound.getD i none with
  | none =>
    have hbg : boundGt S i (cg C x i) = false := by unfold boundGt; rw [hb]
    rw [hbg, if_neg Bool.false_ne_true]
    exact ⟨gA_Data.refl S, rfl, fun _ _ => rfl, fun b' h => by rw [hb] at h; cases h⟩
  | some b =>
    by_cases hlt : cg C x i < b
    · have hbg : boundGt S i (cg C x i) = true := by unfold boundGt; rw [hb]; simpa using hlt
      rw [hbg, if_pos rfl]
      refine ⟨⟨rfl, rfl, rfl, rfl, rfl, rfl⟩, List.length_set, fun j hj => gB_bound_setBound_ne S i j _ hj, fun b' h => ?_⟩
      rw [gB_bound_setBound_self S i _ (HvSweep.getD_some_lt S.bound i b hb)] at h
      cases h
      exact ⟨b, rfl, le_of_lt hlt, le_refl _⟩
    · have hbg : boundGt S i (cg C x i) = false := by unfold boundGt; rw [hb]; simpa using hlt
      rw [hbg, if_neg Bool.false_ne_true]
      refine ⟨gA_Data.refl S, rfl, fun _ _ => rfl, fun b' h => ?_⟩
      rw [hb] at h
      cases h
      exact ⟨b, rfl, le_refl _, not_lt.mp hlt⟩

/-- a loop over dimensions whose body moves pointers (`g`) and then lowers the bound of its dimension to the coordinate
of `x` (`delete`, `reinsert`) writes nothing else, and leaves the bounds of the other dimensions alone -/
theorem gB3_lbFold_frame (C : Cargo) (x : ℕ) {g : St → ℕ → St} (hg : ∀ S i, gA_Data S (g S i) ∧ (g S i).bound = S.bound) :
    ∀ (ds : List ℕ) (T : St),
    gA_Data T (ds.foldl (fun S i => lowerBound C (g S i) x i) T) ∧
    (ds.foldl (fun S i => lowerBound C (g S i) x i) T).bound.length = T.bound.length ∧
    (∀ j, j ∉ ds → (ds.foldl (fun S i => lowerBound C (g S i) x i) T).bound.getD j none = T.bound.getD j none) ∧
    (∀ j ∈ ds, ∀ b', (ds.foldl (fun S i => lowerBound C (g S i) x i) T).bound.getD j none = some b' →
      ∃ b, T.bound.getD j none = some b ∧ b' ≤ b ∧ b' ≤ cg C x j)
  | [], T => ⟨gA_Data.refl T, rfl, fun _ _ => rfl, fun j hj => absurd hj List.not_mem_nil⟩
  | i :: ds, T => by
    obtain ⟨a1, a2, a3, a4⟩ := gB3_lowerBound_frame C (g T i) x i
    obtain ⟨b1, b2, b3, b4⟩ := gB3_lbFold_frame C x hg ds (lowerBound C (g T i) x i)
    rw [(hg T i).2] at a2 a3 a4
    rw [List.foldl_cons]
    refine ⟨((hg T i).1.trans a1).trans b1, b2.trans a2, fun j hj => ?_, fun j hj b' hb' => ?_⟩
    · rw [b3 j (fun hm => hj (List.mem_cons_of_mem _ hm))]
      exact a3 j (fun e => hj (by simp [e]))
    · by_cases hjd : j ∈ ds
      · obtain ⟨b, h1, h2, h3⟩ := b4 j hjd b' hb'
        by_cases hji : j = i
        · subst hji
          obtain ⟨b0, e1, e2, _⟩ := a4 b h1
          exact ⟨b0, e1, h2.trans e2, h3⟩
        · rw [a3 j hji] at h1
          exact ⟨b, h1, h2, h3⟩
      · obtain rfl : j = i := (List.mem_cons.mp hj).resolve_right hjd
        rw [b3 j hjd] at hb'
        exact a4 b' hb'

theorem gB3_ddFold_frame (x : ℕ) : ∀ (ds : List ℕ) (S : St),
    gA_Data S (ds.foldl (gB3_ddStep x) S) ∧ (ds.foldl (gB3_ddStep x) S).bound = S.bound
  | [], S => ⟨gA_Data.refl S, rfl⟩
  | i :: ds, S => by
    obtain ⟨h1, h2⟩ := gB3_ddFold_frame x ds (gB3_ddStep x S i)
    exact ⟨gA_Data.trans (T := gB3_ddStep x S i) ⟨rfl, rfl, rfl, rfl, rfl, rfl⟩ h1, h2⟩

/-- **`reinsert` undoes `delStep`** on the pointers (whatever happened to the other fields in between); it writes
nothing but the pointers and the bounds `2 .. dim-1`, which drop to at most the coordinates of the node -/
theorem reinsert_spec {d n : ℕ} (C : Cargo) (x dim : ℕ) (U T : St) (hU : ShapeC d n U) (hT : ShapeC d n T) (hdim : dim ≤ d)
    (hnf : ∀ i, 2 ≤ i → i < dim → NodeFacts n (toSw U) i x)
    (hpe : PtrEqC (delStep C dim U x) T) :
    PtrEqC U (reinsert C T x dim) ∧ ShapeC d n (reinsert C T x dim) ∧ gA_Data T (reinsert C T x dim) ∧
      (reinsert C T x dim).bound.length = T.bound.length ∧
      (∀ i, (i < 2 ∨ dim ≤ i) → (reinsert C T x dim).bound.getD i none = T.bound.getD i none) ∧
      (∀ i, 2 ≤ i → i < dim → ∀ b', (reinsert C T x dim).bound.getD i none = some b' →
        ∃ b, T.bound.getD i none = some b ∧ b' ≤ b ∧ b' ≤ cg C x i) := by
  obtain ⟨p1, p2⟩ := gB3_undo C x dim U T hU hT hdim hnf hpe (gB3_rStep_r C d n x)
  obtain ⟨b1, b2, b3, b4⟩ := gB3_lbFold_frame C x (g := gB3_rl x) (fun _ _ => ⟨⟨rfl, rfl, rfl, rfl, rfl, rfl⟩, rfl⟩)
    (dimRange dim) T
  exact ⟨p1, p2, b1, b2, fun i hi => b3 i (gB3_not_mem_dimRange hi),
    fun i h2 hid => b4 i ((gB3_mem_dimRange dim i).mpr ⟨h2, hid⟩)⟩

theorem gA_delStep_frame (C : Cargo) (dim : ℕ) (S : St) (x : ℕ) :
    gA_Data S (delStep C dim S x) ∧ (delStep C dim S x).bound.length = S.bound.length ∧
    (∀ j, (j < 2 ∨ dim ≤ j) → (delStep C dim S x).bound.getD j none = S.bound.getD j none) ∧
    ∀ j, (j < 2 ∨ dim ≤ j) → ∀ a, nx (delStep C dim S x) j a = nx S j a ∧ pv (delStep C dim S x) j a = pv S j a := by
  unfold delStep
  split
  · obtain ⟨h1, h2⟩ := gB3_ddFold_frame x (dimRange dim) S
    exact ⟨h1, by rw [gB3_deleteDom_eq, h2], fun j _ => by rw [gB3_deleteDom_eq, h2],
      fun j hj => (gB3_uStep_dd 0 0 x).toDimStep.fold_other (dimRange dim) S j (gB3_not_mem_dimRange hj)⟩
  · obtain ⟨h1, h2, h3, _⟩ := gB3_lbFold_frame C x (g := gB3_ddStep x) (fun _ _ => ⟨⟨rfl, rfl, rfl, rfl, rfl, rfl⟩, rfl⟩)
      (dimRange dim) S
    exact ⟨h1, h2, fun j hj => h3 j (gB3_not_mem_dimRange hj),
      fun j hj => (gB3_uStep_d C 0 0 x).toDimStep.fold_other (dimRange dim) S j (gB3_not_mem_dimRange hj)⟩

theorem gA_delStep_lists {d n : ℕ} (C : Cargo) (k : ℕ) (hk : k ≤ d) (S : St) (x : ℕ) (Ls : ℕ → List ℕ)
    (hS : ShapeC d n S) (hL : ∀ i, 2 ≤ i → i < k → DLc n S i (Ls i) ∧ x ∈ Ls i) :
    ShapeC d n (delStep C k S x) ∧ ∀ i, 2 ≤ i → i < k → DLc n (delStep C k S x) i ((Ls i).erase x) := by
  obtain ⟨p1, _, hsh⟩ := gB3_delStep_ptr C x k S hS hk (fun i h1 h2 => HvSweep.dl_nodeFacts (hL i h1 h2).1 (hL i h1 h2).2)
  exact ⟨hsh, fun i h1 h2 => HvSweep.dl_congr (p1 i h1 h2) (HvSweep.dl_unlink hS (by omega) (hL i h1 h2).1 (hL i h1 h2).2).1⟩

theorem gA_delStep_bound_delete (C : Cargo) (k : ℕ) (S : St) (x : ℕ) (h : ¬ (k : ℤ) ≤ ign S x) :
    ∀ i, 2 ≤ i → i < k → ∀ b', (delStep C k S x).bound.getD i none = some b' →
      ∃ b, S.bound.getD i none = some b ∧ b' ≤ b ∧ b' ≤ cg C x i := by
  intro i h1 h2
  unfold delStep
  rw [if_neg h]
  exact (gB3_lbFold_frame C x (g := gB3_ddStep x) (fun _ _ => ⟨⟨rfl, rfl, rfl, rfl, rfl, rfl⟩, rfl⟩) (dimRange k) S).2.2.2 i ((gB3_mem_dimRange k i).mpr ⟨h1, h2⟩)

theorem gA_delStep_bound_dom (C : Cargo) (k : ℕ) (S : St) (x : ℕ) (h : (k : ℤ) ≤ ign S x) :
    (delStep C k S x).bound = S.bound := by
  unfold delStep
  rw [if_pos h]
  exact (gB3_ddFold_frame x (dimRange k) S).2

theorem gB3_tsh_rl {d n : ℕ} {S : St} (h : TSh d n S) (x i : ℕ) : TSh d n (gB3_rl x S i) :=
  ⟨h.area, h.vol, h.ign, h.domr, h.bound⟩

theorem gB3_rdStep_frame {d n : ℕ} (C : Cargo) (x : ℕ) (S : St) (i : ℕ) (hS : TSh d n S) :
    (gB3_rdStep C x S i).ignore = S.ignore ∧ (gB3_rdStep C x S i).bound = S.bound ∧
    (gB3_rdStep C x S i).domr = S.domr ∧ (gB3_rdStep C x S i).tree = S.tree ∧ (gB3_rdStep C x S i).calls = S.calls ∧
    TSh d n (gB3_rdStep C x S i) ∧
    (∀ a j, (a ≠ x ∨ j ≠ i) → ar (gB3_rdStep C x S i) a j = ar S a j ∧ vl (gB3_rdStep C x S i) a j = vl S a j) := by
  refine ⟨rfl, rfl, rfl, rfl, rfl, gB_tsh_setVl (gB_tsh_setAr (gB3_tsh_rl hS x i) _ _ _) _ _ _, ?_⟩
  intro a j h
  refine ⟨?_, ?_⟩
  · have e1 : ar (gB3_rdStep C x S i) a j =
        ar (setAr (gB3_rl x S i) x i (ar (gB3_rl x S i) (pv S i x) i)) a j := rfl
    rw [e1, ar_setAr_ne _ x i a j _ h]
    rfl
  · unfold gB3_rdStep
    rw [vl_setVl_ne _ x i a j _ h]
    rfl

theorem gB3_rdStep_self {d n : ℕ} (C : Cargo) (x : ℕ) (S : St) (i : ℕ) (hS : TSh d n S) (hx : x ≤ n) (hi : i < d)
    (hp : pv S i x ≠ x) :
    ar (gB3_rdStep C x S i) x i = ar S (pv S i x) i ∧
    vl (gB3_rdStep C x S i) x i = vl S (pv S i x) i + ar S (pv S i x) i * (cg C x i - cg C (pv S i x) i) := by
  have hrl := gB3_tsh_rl hS x i
  refine ⟨?_, ?_⟩
  · have e1 : ar (gB3_rdStep C x S i) x i =
        ar (setAr (gB3_rl x S i) x i (ar (gB3_rl x S i) (pv S i x) i)) x i := rfl
    rw [e1, ar_setAr_self hrl.area hx hi]
    rfl
  · unfold gB3_rdStep
    rw [vl_setVl_self (gB_tsh_setAr hrl x i _).vol hx hi, ar_setAr_ne _ x i (pv S i x) i _ (Or.inl hp)]
    rfl

theorem gB3_rdStep_pv_other (C : Cargo) (x : ℕ) (S : St) (i j a : ℕ) (hj : j ≠ i) :
    pv (gB3_rdStep C x S i) j a = pv S j a := by
  have := (HvSweep.relink_other (toSw S) i x j hj a).2
  rw [← gB3_toSw_rdStep C x S i] at this
  exact this

theorem gB3_rdfold_frame {d n : ℕ} (C : Cargo) (x : ℕ) (hx : x ≤ n) : ∀ (ds : List ℕ) (T : St), ds.Nodup →
    (∀ i ∈ ds, i < d) → TSh d n T →
    (ds.foldl (gB3_rdStep C x) T).ignore = T.ignore ∧ (ds.foldl (gB3_rdStep C x) T).bound = T.bound ∧
    (ds.foldl (gB3_rdStep C x) T).domr = T.domr ∧ (ds.foldl (gB3_rdStep C x) T).tree = T.tree ∧
    (ds.foldl (gB3_rdStep C x) T).calls = T.calls ∧ TSh d n (ds.foldl (gB3_rdStep C x) T) ∧
    (∀ a j, (a ≠ x ∨ j ∉ ds) →
      ar (ds.foldl (gB3_rdStep C x) T) a j = ar T a j ∧ vl (ds.foldl (gB3_rdStep C x) T) a j = vl T a j) ∧
    (∀ j ∈ ds, pv T j x ≠ x →
      ar (ds.foldl (gB3_rdStep C x) T) x j = ar T (pv T j x) j ∧
      vl (ds.foldl (gB3_rdStep C x) T) x j = vl T (pv T j x) j + ar T (pv T j x) j * (cg C x j - cg C (pv T j x) j))
  | [], T, _, _, hT => ⟨rfl, rfl, rfl, rfl, rfl, hT, fun _ _ _ => ⟨rfl, rfl⟩, fun j hj => absurd hj List.not_mem_nil⟩
  | i :: ds, T, hnd, hlt, hT => by
    have hnd' := List.nodup_cons.mp hnd
    obtain ⟨a1, a2, a3, a4, a5, a6, a7⟩ := gB3_rdStep_frame C x T i hT
    obtain ⟨b1, b2, b3, b4, b5, b6, b7, b8⟩ := gB3_rdfold_frame C x hx ds (gB3_rdStep C x T i) hnd'.2
      (fun k hk => hlt k (List.mem_cons_of_mem _ hk)) a6
    rw [List.foldl_cons]
    refine ⟨b1.trans a1, b2.trans a2, b3.trans a3, b4.trans a4, b5.trans a5, b6, ?_, ?_⟩
    · intro a j h
      have h1 : a ≠ x ∨ j ∉ ds := h.imp_right fun h hm => h (List.mem_cons_of_mem _ hm)
      have h2 : a ≠ x ∨ j ≠ i := h.imp_right fun h e => h (by simp [e])
      obtain ⟨c1, c2⟩ := b7 a j h1
      obtain ⟨c3, c4⟩ := a7 a j h2
      exact ⟨c1.trans c3, c2.trans c4⟩
    · intro j hj hp
      by_cases hji : j = i
      · subst hji
        obtain ⟨c1, c2⟩ := b7 x j (Or.inr hnd'.1)
        obtain ⟨c3, c4⟩ := gB3_rdStep_self C x T j hT hx (hlt j (by simp)) hp
        exact ⟨c1.trans c3, c2.trans c4⟩
      · have hjm : j ∈ ds := (List.mem_cons.mp hj).resolve_left hji
        have hpv : pv (gB3_rdStep C x T i) j x = pv T j x := gB3_rdStep_pv_other C x T i j x hji
        obtain ⟨c1, c2⟩ := b8 j hjm (by rw [hpv]; exact hp)
        rw [hpv] at c1 c2
        obtain ⟨c3, c4⟩ := a7 (pv T j x) j (Or.inl hp)
        rw [c3] at c1 c2
        rw [c4] at c2
        exact ⟨c1, c2⟩

/-- **`reinsert_dom` undoes `delStep`** on the pointers; it writes nothing but the pointers and the caches
`area[x][i]`, `vol[x][i]`, `2 ≤ i < dim`, which are computed from those of the predecessor of `x` in dimension `i` -/
theorem reinsertDom_spec {d n : ℕ} (C : Cargo) (x dim : ℕ) (U T : St) (hU : ShapeC d n U) (hT : ShapeC d n T) (hdim : dim ≤ d)
    (hTs : TSh d n T) (hx : x ≤ n)
    (hnf : ∀ i, 2 ≤ i → i < dim → NodeFacts n (toSw U) i x)
    (hpe : PtrEqC (delStep C dim U x) T) :
    PtrEqC U (reinsertDom C T x dim) ∧ ShapeC d n (reinsertDom C T x dim) ∧ TSh d n (reinsertDom C T x dim) ∧
      (reinsertDom C T x dim).ignore = T.ignore ∧ (reinsertDom C T x dim).bound = T.bound ∧
      (reinsertDom C T x dim).domr = T.domr ∧ (reinsertDom C T x dim).tree = T.tree ∧
      (reinsertDom C T x dim).calls = T.calls ∧
      (∀ a i, (a ≠ x ∨ i < 2 ∨ dim ≤ i) →
        ar (reinsertDom C T x dim) a i = ar T a i ∧ vl (reinsertDom C T x dim) a i = vl T a i) ∧
      (∀ i, 2 ≤ i → i < dim →
        ar (reinsertDom C T x dim) x i = ar T (pv U i x) i ∧
        vl (reinsertDom C T x dim) x i = vl T (pv U i x) i + ar T (pv U i x) i * (cg C x i - cg C (pv U i x) i)) := by
  obtain ⟨p1, p2⟩ := gB3_undo C x dim U T hU hT hdim hnf hpe (gB3_rStep_rd C d n x)
  obtain ⟨q1, _, _⟩ := gB3_delStep_ptr C x dim U hU hdim hnf
  obtain ⟨b1, b2, b3, b4, b5, b6, b7, b8⟩ :=
    gB3_rdfold_frame C x hx (dimRange dim) T (gB3_nodup_dimRange dim) (gB3_dimRange_lt hdim) hTs
  rw [gB3_reinsertDom_eq]
  refine ⟨p1, p2, b6, b1, b2, b3, b4, b5, ?_, ?_⟩
  · intro a i h
    refine b7 a i ?_
    exact h.imp_right gB3_not_mem_dimRange
  · intro i h2 hid
    have hpv : pv T i x = pv U i x :=
      ((hpe i x).2.trans (q1 i h2 hid x).2).trans (HvSweep.unlink_self hU (by omega) (hnf i h2 hid)).2
    have hne : pv T i x ≠ x := by rw [hpv]; exact (hnf i h2 hid).pv_ne
    have := b8 i ((gB3_mem_dimRange dim i).mpr ⟨h2, hid⟩) hne
    rw [hpv] at this
    exact this

end HvC
