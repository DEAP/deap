/-
C09 — the operators of `Core/CrossMutBuf.lean` against the list model: each loop on buffers simulates the corresponding
list loop of `Core/CrossMut.lean` step by step (`…_sim`), the invariants `Idx` / `PMQ` keeping every subscript of the
PMX / UPMX / OX loops in range.
-/
import DeapModel.Lemmas.C09Buffer
import DeapModel.Lemmas.C09PMX

namespace C09B
open Buffer C09L

variable {α β : Type}

/-- the loop of `cxUniform` (`idx`, `sel` = the two components) and the last loop of `cxOrdered` (every index selected) -/
theorem swapLoop_sim {ι : Type} (ind1 ind2 : Nat) (hne : ind1 ≠ ind2) (idx : ι → Nat) (sel : ι → Bool) (ids : List ι)
    (h hh : Heap α) (fr : Frame2 ind1 ind2 h hh)
    (hids : ∀ x ∈ ids, idx x < (hh.cell ind1).length ∧ idx x < (hh.cell ind2).length) :
    ∃ h', forFold ids () (fun _ x => if sel x then CrossMutBuf.swapItems ind1 ind2 (idx x) else pure ()) hh = .ok () h' ∧
      (h'.cell ind1, h'.cell ind2)
        = ids.foldl (fun p x => if sel x then CrossMut.swapAt2 (idx x) p else p) (hh.cell ind1, hh.cell ind2) ∧
      Frame2 ind1 ind2 h h' := by
  obtain ⟨_, h', e, c, f, _⟩ := forFold_sim
    (R := fun (_ : Unit) h' p => (h'.cell ind1, h'.cell ind2) = p ∧ Frame2 ind1 ind2 h h' ∧
      (h'.cell ind1).length = (hh.cell ind1).length ∧ (h'.cell ind2).length = (hh.cell ind2).length)
    (body := fun _ x => if sel x then CrossMutBuf.swapItems ind1 ind2 (idx x) else pure ())
    (f := fun p x => if sel x then CrossMut.swapAt2 (idx x) p else p) (l := ids)
    (by
      intro _ h1 p x hx ⟨c, f, l1, l2⟩
      cases sel x with
      | false => exact ⟨(), h1, rfl, c, f, l1, l2⟩
      | true =>
        obtain ⟨hx1, hx2⟩ := hids x hx
        obtain ⟨h2, e2, c2, f2⟩ := swapItems_sim ind1 ind2 (idx x) hne h1 (l1 ▸ hx1) (l2 ▸ hx2)
        have hl := swapAt2_length (idx x) (h1.cell ind1, h1.cell ind2)
        rw [← c2] at hl
        exact ⟨(), h2, e2, c ▸ c2, f.trans f2, hl.1.trans l1, hl.2.trans l2⟩)
    () hh _ ⟨rfl, fr, rfl, rfl⟩
  exact ⟨h', e, c, f⟩

theorem getElem?_gene (l : List Nat) (i : Nat) (h : i < l.length) : l[i]? = some (gene l i) := by
  rw [gene_eq_getElem l i h]; exact List.getElem?_eq_getElem h

theorem getItem_gene {ind i : Nat} {h : Heap Nat} (hi : i < (h.cell ind).length) :
    getItem ind i h = .ok (gene (h.cell ind) i) h := getItem_ok (getElem?_gene _ _ hi)

/-- what `pmGenesOk` says of each parent, and what keeps every subscript of the PMX / UPMX / OX loops inside its list -/
def Idx (n : Nat) (l : List Nat) : Prop := n ≤ l.length ∧ ∀ j < n, gene l j < n

theorem Idx.lt {n : Nat} {l : List Nat} (hl : Idx n l) {x : Nat} (hx : x < n) : x < l.length := Nat.lt_of_lt_of_le hx hl.1

theorem Idx.set {n : Nat} {l : List Nat} (hl : Idx n l) (i a : Nat) (ha : a < n) : Idx n (l.set i a) := by
  refine ⟨by rw [List.length_set]; exact hl.1, fun j hj => ?_⟩
  rw [gene_set]
  split
  · exact ha
  · exact hl.2 j hj

theorem idx_replicate (n : Nat) : Idx n (List.replicate n 0) := by
  refine ⟨Nat.le_of_eq List.length_replicate.symm, fun j hj => ?_⟩
  rw [gene, List.getElem?_replicate, if_pos hj]
  exact Nat.lt_of_le_of_lt (Nat.zero_le j) hj

theorem idx_of_genesOk {l1 l2 : List Nat} {n : Nat} (hn : min l1.length l2.length = n) (hg : CrossMut.pmGenesOk l1 l2) :
    Idx n l1 ∧ Idx n l2 := by
  unfold CrossMut.pmGenesOk at hg
  simp only [hn] at hg
  have key : ∀ l : List Nat, n ≤ l.length → (∀ x ∈ l.take n, x < n) → Idx n l := fun l hl h =>
    ⟨hl, fun j hj => by
      rw [gene_eq_getElem l j (Nat.lt_of_lt_of_le hj hl)]
      exact h _ (List.mem_take_iff_getElem.2 ⟨j, by omega, rfl⟩)⟩
  exact ⟨key l1 (hn ▸ Nat.min_le_left _ _) hg.1, key l2 (hn ▸ Nat.min_le_right _ _) hg.2⟩

/-- the in-range invariant of the PMX / UPMX loop (individuals and position tables): no subscript of the loop body can fail -/
def PMQ (n : Nat) (s : CrossMut.PMState) : Prop := Idx n s.ind1 ∧ Idx n s.ind2 ∧ Idx n s.p1 ∧ Idx n s.p2

theorem pmq_step (n : Nat) (s : CrossMut.PMState) (i : Nat) (hi : i < n) (q : PMQ n s) : PMQ n (CrossMut.pmStep s i) := by
  obtain ⟨q1, q2, q3, q4⟩ := q
  have t1 : gene s.ind1 i < n := q1.2 i hi
  have t2 : gene s.ind2 i < n := q2.2 i hi
  exact ⟨(q1.set _ _ t2).set _ _ t1, (q2.set _ _ t1).set _ _ t2,
    (q3.set _ _ (q3.2 _ t2)).set _ _ (q3.2 _ t1), (q4.set _ _ (q4.2 _ t2)).set _ _ (q4.2 _ t1)⟩

/-- `ind[i], ind[p[o]] = o, t` (right-hand side already evaluated), then `k` -/
def exchM (ind : Nat) (p : List Nat) (i o t : Nat) (k : M Nat β) : M Nat β :=
  setItem ind i o >>= fun _ => tabGet p o >>= fun j => setItem ind j t >>= fun _ => k

theorem exchM_run (ind : Nat) (p l : List Nat) (i o t : Nat) (k : M Nat β) (hh : Heap Nat) (hc : hh.cell ind = l)
    (hi : i < l.length) (ho : o < p.length) (hj : gene p o < l.length) :
    exchM ind p i o t k hh = k ((hh.write ind (l.set i o)).write ind ((l.set i o).set (gene p o) t)) := by
  unfold exchM
  rw [bind_ok (setItem_ok _ (hc ▸ hi)), hc, bind_ok (tabGet_ok (getElem?_gene p o ho)),
    bind_ok (setItem_ok _ (by rw [cell_write_same, List.length_set]; exact hj)), cell_write_same]

/-- `p[a], p[b] = p[b], p[a]` on a local table, then `k` on the table afterwards -/
def tswapM (p : List Nat) (a b : Nat) (k : List Nat → M Nat β) : M Nat β :=
  tabGet p b >>= fun x => tabGet p a >>= fun y => tabSet p a x >>= fun p' => tabSet p' b y >>= k

theorem tswapM_run (p : List Nat) (a b : Nat) (k : List Nat → M Nat β) (hh : Heap Nat) (ha : a < p.length) (hb : b < p.length) :
    tswapM p a b k hh = k ((p.set a (gene p b)).set b (gene p a)) hh := by
  unfold tswapM
  rw [bind_ok (tabGet_ok (getElem?_gene p b hb)), bind_ok (tabGet_ok (getElem?_gene p a ha)), bind_ok (tabSet_ok _ ha),
    bind_ok (tabSet_ok _ (by rw [List.length_set]; exact hb))]

theorem pmStep_eq (ind1 ind2 : Nat) (p1 p2 : List Nat) (i : Nat) :
    CrossMutBuf.pmStep ind1 ind2 (p1, p2) i = getItem ind1 i >>= fun t1 => getItem ind2 i >>= fun t2 =>
      exchM ind1 p1 i t2 t1 (exchM ind2 p2 i t1 t2
        (tswapM p1 t1 t2 fun p1 => tswapM p2 t1 t2 fun p2 => pure (p1, p2))) := rfl

theorem pmStep_sim (ind1 ind2 : Nat) (hne : ind1 ≠ ind2) (n : Nat) (hh : Heap Nat) (s : CrossMut.PMState) (i : Nat)
    (hi : i < n) (c1 : hh.cell ind1 = s.ind1) (c2 : hh.cell ind2 = s.ind2) (q : PMQ n s) :
    ∃ h', CrossMutBuf.pmStep ind1 ind2 (s.p1, s.p2) i hh
        = .ok ((CrossMut.pmStep s i).p1, (CrossMut.pmStep s i).p2) h' ∧
      h'.cell ind1 = (CrossMut.pmStep s i).ind1 ∧ h'.cell ind2 = (CrossMut.pmStep s i).ind2 ∧
      Frame2 ind1 ind2 hh h' := by
  obtain ⟨q1, q2, q3, q4⟩ := q
  have t1 : gene s.ind1 i < n := q1.2 i hi
  have t2 : gene s.ind2 i < n := q2.2 i hi
  have i1 : i < s.ind1.length := q1.lt hi
  have i2 : i < s.ind2.length := q2.lt hi
  refine ⟨(((hh.write ind1 (s.ind1.set i (gene s.ind2 i))).write ind1 (CrossMut.pmStep s i).ind1).write ind2
      (s.ind2.set i (gene s.ind1 i))).write ind2 (CrossMut.pmStep s i).ind2,
    ?_, ?_, cell_write_same _ _ _, (((Frame2.write1 _ _ _ _).trans (Frame2.write1 _ _ _ _)).trans
      (Frame2.write2 _ _ _ _)).trans (Frame2.write2 _ _ _ _)⟩
  · rw [pmStep_eq, bind_ok (getItem_gene (c1 ▸ i1)), bind_ok (getItem_gene (c2 ▸ i2)), c1, c2,
      exchM_run ind1 s.p1 s.ind1 i _ _ _ hh c1 i1 (q3.lt t2) (q1.lt (q3.2 _ t2)),
      exchM_run ind2 s.p2 s.ind2 i _ _ _ _
        (by rw [cell_write_ne _ _ _ _ hne.symm, cell_write_ne _ _ _ _ hne.symm]; exact c2) i2 (q4.lt t1) (q2.lt (q4.2 _ t1)),
      tswapM_run _ _ _ _ _ (q3.lt t1) (q3.lt t2), tswapM_run _ _ _ _ _ (q4.lt t1) (q4.lt t2)]
    rfl
  · rw [cell_write_ne _ _ _ _ hne, cell_write_ne _ _ _ _ hne]; exact cell_write_same _ _ _

theorem pmInit_sim (ind1 ind2 : Nat) (h : Heap Nat) (n : Nat)
    (hn : n = min (h.cell ind1).length (h.cell ind2).length)
    (hg : CrossMut.pmGenesOk (h.cell ind1) (h.cell ind2)) :
    CrossMutBuf.pmInit ind1 ind2 n h = .ok (CrossMut.pmInit n (h.cell ind1) (h.cell ind2)) h ∧
    PMQ n ⟨h.cell ind1, h.cell ind2, (CrossMut.pmInit n (h.cell ind1) (h.cell ind2)).1,
      (CrossMut.pmInit n (h.cell ind1) (h.cell ind2)).2⟩ := by
  obtain ⟨a1, a2⟩ := idx_of_genesOk hn.symm hg
  obtain ⟨e, q1, q2⟩ := forFold_readonly (Q := fun (t : List Nat × List Nat) => Idx n t.1 ∧ Idx n t.2)
    (body := fun p i => getItem ind1 i >>= fun x => tabSet p.1 x i >>= fun p1 => getItem ind2 i >>= fun y =>
      tabSet p.2 y i >>= fun p2 => pure (p1, p2))
    (f := fun p i => (p.1.set (gene (h.cell ind1) i) i, p.2.set (gene (h.cell ind2) i) i)) (List.range n) h
    (by
      intro p i hi ⟨q1, q2⟩
      have hi' : i < n := List.mem_range.1 hi
      refine ⟨?_, q1.set _ _ hi', q2.set _ _ hi'⟩
      rw [bind_ok (getItem_gene (a1.lt hi')), bind_ok (tabSet_ok _ (q1.lt (a1.2 i hi'))),
        bind_ok (getItem_gene (a2.lt hi')), bind_ok (tabSet_ok _ (q2.lt (a2.2 i hi')))]
      rfl)
    (List.replicate n 0, List.replicate n 0) ⟨idx_replicate n, idx_replicate n⟩
  exact ⟨e, a1, a2, q1, q2⟩

/-- PMX and UPMX in one: the position tables, then the loop body at the selected ones of the indices `ids` -/
theorem pmLoop_sim {ι : Type} (ind1 ind2 : Nat) (hne : ind1 ≠ ind2) (h : Heap Nat)
    (hg : CrossMut.pmGenesOk (h.cell ind1) (h.cell ind2)) (idx : ι → Nat) (sel : ι → Bool) (ids : List ι)
    (hids : ∀ x ∈ ids, idx x < min (h.cell ind1).length (h.cell ind2).length) :
    ∃ h', (len ind1 >>= fun n1 => len ind2 >>= fun n2 => CrossMutBuf.pmInit ind1 ind2 (min n1 n2) >>= fun p =>
        forFold ids p (fun p x => if sel x then CrossMutBuf.pmStep ind1 ind2 p (idx x) else pure p) >>= fun _ =>
        pure (ind1, ind2)) h = .ok (ind1, ind2) h' ∧
      (h'.cell ind1, h'.cell ind2)
        = (fun s : CrossMut.PMState => (s.ind1, s.ind2))
            (ids.foldl (fun s x => if sel x then CrossMut.pmStep s (idx x) else s)
              ⟨h.cell ind1, h.cell ind2,
                (CrossMut.pmInit (min (h.cell ind1).length (h.cell ind2).length) (h.cell ind1) (h.cell ind2)).1,
                (CrossMut.pmInit (min (h.cell ind1).length (h.cell ind2).length) (h.cell ind1) (h.cell ind2)).2⟩) ∧
      Frame2 ind1 ind2 h h' := by
  generalize hn : min (h.cell ind1).length (h.cell ind2).length = n at hids ⊢
  obtain ⟨ei, qi⟩ := pmInit_sim ind1 ind2 h n hn.symm hg
  obtain ⟨p', h', hl, ⟨r1, r2, _, r4⟩, _⟩ := forFold_sim
    (R := fun p hh s => (hh.cell ind1 = s.ind1 ∧ hh.cell ind2 = s.ind2 ∧ p = (s.p1, s.p2) ∧ Frame2 ind1 ind2 h hh) ∧ PMQ n s)
    (body := fun p x => if sel x then CrossMutBuf.pmStep ind1 ind2 p (idx x) else pure p)
    (f := fun s x => if sel x then CrossMut.pmStep s (idx x) else s) (l := ids)
    (by
      intro p hh s x hx ⟨⟨r1, r2, r3, r4⟩, q⟩
      cases sel x with
      | false => exact ⟨p, hh, rfl, ⟨r1, r2, r3, r4⟩, q⟩
      | true =>
        obtain ⟨h', e, c1, c2, fr⟩ := pmStep_sim ind1 ind2 hne n hh s (idx x) (hids x hx) r1 r2 q
        exact ⟨_, h', by rw [r3]; exact e, ⟨c1, c2, rfl, r4.trans fr⟩, pmq_step n s (idx x) (hids x hx) q⟩)
    (CrossMut.pmInit n (h.cell ind1) (h.cell ind2)) h _ ⟨⟨rfl, rfl, rfl, Frame2.refl _ _ _⟩, qi⟩
  refine ⟨h', ?_, by rw [r1, r2], r4⟩
  rw [bind_ok (len_apply ind1 h), bind_ok (len_apply ind2 h), hn, bind_ok ei, bind_ok hl]
  rfl

theorem oxHoles_sim (ind1 ind2 : Nat) (h : Heap Nat) (n a b : Nat)
    (a1 : Idx n (h.cell ind1)) (a2 : Idx n (h.cell ind2)) :
    CrossMutBuf.oxHoles ind1 ind2 n a b h = .ok (CrossMut.oxHoles n a b (h.cell ind1) (h.cell ind2)) h ∧
    (CrossMut.oxHoles n a b (h.cell ind1) (h.cell ind2)).1.length = n ∧
    (CrossMut.oxHoles n a b (h.cell ind1) (h.cell ind2)).2.length = n :=
  forFold_readonly (Q := fun (t : List Bool × List Bool) => t.1.length = n ∧ t.2.length = n)
    (body := fun hs i =>
      if i < a ∨ i > b then
        (getItem ind2 i >>= fun x => tabSet hs.1 x false >>= fun h1 => getItem ind1 i >>= fun y =>
          tabSet hs.2 y false >>= fun h2 => pure (h1, h2))
      else pure hs)
    (f := fun hs i =>
      if i < a ∨ i > b then (hs.1.set (gene (h.cell ind2) i) false, hs.2.set (gene (h.cell ind1) i) false) else hs)
    (List.range n) h
    (by
      intro p i hi ⟨q1, q2⟩
      have hi' : i < n := List.mem_range.1 hi
      by_cases hc : i < a ∨ i > b
      · simp only [if_pos hc]
        refine ⟨?_, by rw [List.length_set]; exact q1, by rw [List.length_set]; exact q2⟩
        rw [bind_ok (getItem_gene (a2.lt hi')), bind_ok (tabSet_ok _ (q1.symm ▸ a2.2 i hi')),
          bind_ok (getItem_gene (a1.lt hi')), bind_ok (tabSet_ok _ (q2.symm ▸ a1.2 i hi'))]
        rfl
      · simp only [if_neg hc]
        exact ⟨rfl, q1, q2⟩)
    (List.replicate n true, List.replicate n true) ⟨List.length_replicate, List.length_replicate⟩

theorem oxFill_sim (ind : Nat) (n b : Nat) (hn : 0 < n) (holes : List Bool) (hhl : holes.length = n)
    (hh : Heap Nat) (al : Idx n (hh.cell ind)) (k i : Nat) :
    ∃ h', CrossMutBuf.oxFill ind n b holes k i hh = .ok (CrossMut.oxFillStep n b holes (hh.cell ind, k) i).2 h' ∧
      h'.cell ind = (CrossMut.oxFillStep n b holes (hh.cell ind, k) i).1 ∧ Frame1 ind hh h' ∧ Idx n (h'.cell ind) := by
  have hm : (i + b + 1) % n < n := Nat.mod_lt _ hn
  have e1 := getItem_gene (h := hh) (ind := ind) (al.lt hm)
  have hstep : CrossMut.oxFillStep n b holes (hh.cell ind, k) i
      = if (!(holes[gene (hh.cell ind) ((i + b + 1) % n)]?.getD true)) = true
        then ((hh.cell ind).set (k % n) (gene (hh.cell ind) ((i + b + 1) % n)), k + 1) else (hh.cell ind, k) := rfl
  have hv : gene (hh.cell ind) ((i + b + 1) % n) < n := al.2 _ hm
  generalize gene (hh.cell ind) ((i + b + 1) % n) = v at e1 hstep hv
  rw [hstep, List.getElem?_eq_getElem (hhl ▸ hv), Option.getD_some]
  unfold CrossMutBuf.oxFill
  rw [bind_ok e1, bind_ok (tabGet_ok (List.getElem?_eq_getElem (hhl ▸ hv)))]
  cases holes[v]'(hhl ▸ hv) with
  | true => exact ⟨hh, rfl, rfl, Frame1.refl _ _, al⟩
  | false =>
    refine ⟨_, ?_, cell_write_same _ _ _, Frame1.write _ _ _, ?_⟩
    · show (getItem ind ((i + b + 1) % n) >>= _) hh = _
      rw [bind_ok e1, bind_ok (setItem_ok _ (al.lt (Nat.mod_lt k hn)))]
      rfl
    · rw [cell_write_same]; exact al.set _ _ hv

/-- the hole-filling loop of `cxOrdered` over any index list: one `oxFill` on each buffer per index, the two write
indices as loop state -/
theorem oxFillLoop_sim (ind1 ind2 : Nat) (hne : ind1 ≠ ind2) (n b : Nat) (hn : 0 < n) (hs : List Bool × List Bool)
    (hl1 : hs.1.length = n) (hl2 : hs.2.length = n) (l : List Nat) (h : Heap Nat)
    (a1 : Idx n (h.cell ind1)) (a2 : Idx n (h.cell ind2)) (k : Nat × Nat) :
    ∃ kk h', forFold l k (fun (k : Nat × Nat) i => CrossMutBuf.oxFill ind1 n b hs.1 k.1 i >>= fun k1 =>
        CrossMutBuf.oxFill ind2 n b hs.2 k.2 i >>= fun k2 => pure (k1, k2)) h = .ok kk h' ∧
      (fun s : CrossMut.OXState => h'.cell ind1 = s.ind1 ∧ h'.cell ind2 = s.ind2)
        (l.foldl (CrossMut.oxStep n b hs.1 hs.2) ⟨h.cell ind1, k.1, h.cell ind2, k.2⟩) ∧
      Frame2 ind1 ind2 h h' ∧ Idx n (h'.cell ind1) ∧ Idx n (h'.cell ind2) := by
  obtain ⟨kk, hF, eF, r1, r2, _, r4, q1, q2⟩ := forFold_sim
    (R := fun (k : Nat × Nat) (hh : Heap Nat) (s : CrossMut.OXState) =>
      hh.cell ind1 = s.ind1 ∧ hh.cell ind2 = s.ind2 ∧ k = (s.k1, s.k2) ∧ Frame2 ind1 ind2 h hh ∧
      Idx n (hh.cell ind1) ∧ Idx n (hh.cell ind2))
    (body := fun (k : Nat × Nat) i => CrossMutBuf.oxFill ind1 n b hs.1 k.1 i >>= fun k1 =>
      CrossMutBuf.oxFill ind2 n b hs.2 k.2 i >>= fun k2 => pure (k1, k2))
    (f := CrossMut.oxStep n b hs.1 hs.2) (l := l)
    (by
      intro k hh s i hi ⟨r1, r2, r3, r4, q1, q2⟩
      obtain ⟨hX, eX, cX, fX, aX⟩ := oxFill_sim ind1 n b hn hs.1 hl1 hh q1 s.k1 i
      have cX2 : hX.cell ind2 = hh.cell ind2 := fX.1 ind2 hne.symm
      obtain ⟨hY, eY, cY, fY, aY⟩ := oxFill_sim ind2 n b hn hs.2 hl2 hX (cX2 ▸ q2) s.k2 i
      have cY1 : hY.cell ind1 = hX.cell ind1 := fY.1 ind1 hne
      rw [r1] at eX cX
      rw [cX2, r2] at eY cY
      exact ⟨_, hY, by rw [r3, bind_ok eX, bind_ok eY]; rfl,
        cY1.trans cX, cY, rfl, r4.trans (fX.to2l.trans fY.to2r), cY1 ▸ aX, aY⟩)
    k h ⟨h.cell ind1, k.1, h.cell ind2, k.2⟩ ⟨rfl, rfl, rfl, Frame2.refl _ _ _, a1, a2⟩
  exact ⟨kk, hF, eF, ⟨r1, r2⟩, r4, q1, q2⟩

theorem clampSlice_some_of_le (n x y : Nat) (hxy : x ≤ y) (hy : y ≤ n) : clampSlice n x (some y) = (x, y - x) := by
  show (min x n, min y n - min x n) = _
  rw [Nat.min_eq_left (Nat.le_trans hxy hy), Nat.min_eq_left hy]

theorem swapSlices_view_cut (ind1 ind2 : Nat) (hne : ind1 ≠ ind2) (h : Heap α) (x y : Nat) (hxy : x ≤ y)
    (h1 : y ≤ (h.cell ind1).length) (h2 : y ≤ (h.cell ind2).length) :
    ∃ h', CrossMutBuf.swapSlices .view ind1 ind2 x (some y) x (some y) h = .ok () h' ∧
      h'.cell ind1 = CrossMut.sliceAssign (h.cell ind1) x y (CrossMut.pySlice (h.cell ind2) x y) ∧
      h'.cell ind2 = h.cell ind2 ∧ Frame2 ind1 ind2 h h' := by
  have k1 := clampSlice_some_of_le (h.cell ind1).length x y hxy h1
  have k2 := clampSlice_some_of_le (h.cell ind2).length x y hxy h2
  obtain ⟨h', e, e1, e2, fr⟩ := swapSlices_view ind1 ind2 hne h x (some y) x (some y) (by rw [k1, k2])
  refine ⟨h', e, ?_, e2, fr⟩
  rw [e1, k1, CrossMut.sliceAssign, Nat.max_eq_right hxy, Nat.add_sub_cancel' hxy]
  rfl

theorem es_run {σ : Type} (dg ds : Disc) (ind1 ind2 s1 s2 pt1 pt2 : Nat) (h : Heap α × Heap σ) (hg : Heap α) (hs : Heap σ)
    (eg : CrossMutBuf.swapSlices dg ind1 ind2 (CrossMut.normCx pt1 pt2).1 (some (CrossMut.normCx pt1 pt2).2)
      (CrossMut.normCx pt1 pt2).1 (some (CrossMut.normCx pt1 pt2).2) h.1 = .ok () hg)
    (es : CrossMutBuf.swapSlices ds s1 s2 (CrossMut.normCx pt1 pt2).1 (some (CrossMut.normCx pt1 pt2).2)
      (CrossMut.normCx pt1 pt2).1 (some (CrossMut.normCx pt1 pt2).2) h.2 = .ok () hs) :
    CrossMutBuf.cxESTwoPoint dg ds ind1 ind2 s1 s2 pt1 pt2 h = .ok (ind1, ind2) (hg, hs) := by
  unfold CrossMutBuf.cxESTwoPoint
  simp only [eg, es]

theorem inversion_view_sim (ind : Nat) (h : Heap α) (i1 i2 : Nat)
    (hok : CrossMut.mutInversionOk (h.cell ind) i1 i2) :
    ∃ h', CrossMutBuf.mutInversion .view ind i1 i2 h = .ok ind h' ∧
      h'.cell ind = CrossMut.mutInversion (h.cell ind) i1 i2 ∧ Frame1 ind h h' := by
  unfold CrossMutBuf.mutInversion CrossMut.mutInversion
  rw [bind_ok (len_apply ind h)]
  by_cases h0 : (h.cell ind).length = 0
  · rw [if_pos h0, if_pos h0]
    exact ⟨h, rfl, rfl, Frame1.refl _ _⟩
  · rw [if_neg h0, if_neg h0]
    have hb : i1 < (h.cell ind).length ∧ i2 < (h.cell ind).length := by
      rcases hok with ⟨e, _, _⟩ | hh
      · exact absurd e h0
      · exact hh
    have hse : min i1 i2 ≤ max i1 i2 := Nat.le_trans (Nat.min_le_left _ _) (Nat.le_max_left _ _)
    have hel : max i1 i2 ≤ (h.cell ind).length := Nat.max_le.2 ⟨Nat.le_of_lt hb.1, Nat.le_of_lt hb.2⟩
    generalize min i1 i2 = s at hse
    generalize max i1 i2 = e at hse hel
    have k := clampSlice_some_of_le (h.cell ind).length s e hse hel
    have hv : h.read (.win ind s (e - s) true) = (CrossMut.pySlice (h.cell ind) s e).reverse := by
      simp only [Heap.read, window, if_true, CrossMut.pySlice, List.drop_take]
    have s3 := sliceAssign_view_ok ind s (some e) (.win ind s (e - s) true) h (s, e - s) k
      (by rw [hv, List.length_reverse, CrossMut.pySlice, List.length_drop, List.length_take, Nat.min_eq_left hel])
    rw [hv, Nat.add_sub_cancel' hse] at s3
    refine ⟨_, ?_, cell_write_same _ _ _, Frame1.write _ _ _⟩
    rw [bind_ok (slice_view_buf ind s (some e) h), k,
      bind_ok (show (rev .view (.win ind s (e - s) false) : M α Obj) h = .ok (.win ind s (e - s) true) h from rfl), bind_ok s3,
      CrossMut.sliceAssign, Nat.max_eq_right hse]
    rfl

/-- the loop of `mutShuffleIndexes` over any list of (index, draw) pairs whose indices exist and whose draws are possible
for an individual of length `size` -/
theorem shuffleLoop_sim (ind : Nat) (ids : List (Nat × Option Nat)) (h : Heap α)
    (hids : ∀ id ∈ ids, id.1 < (h.cell ind).length ∧ ∀ s, id.2 = some s → s + 2 ≤ (h.cell ind).length) :
    ∃ h', forFold ids () (fun _ (id : Nat × Option Nat) =>
        match id.2 with
        | none => pure ()
        | some s =>
          if s + 2 ≤ (h.cell ind).length then
            (getItem ind (if s ≥ id.1 then s + 1 else s) >>= fun x => getItem ind id.1 >>= fun y =>
              setItem ind id.1 x >>= fun _ => setItem ind (if s ≥ id.1 then s + 1 else s) y)
          else raise .value) h = .ok () h' ∧
      ids.foldl (CrossMut.shuffleStep (h.cell ind).length) (some (h.cell ind)) = some (h'.cell ind) ∧ Frame1 ind h h' := by
  obtain ⟨_, h', hl, hR1, _, hR2⟩ := forFold_sim
    (R := fun (_ : Unit) (hh : Heap α) (t : Option (List α)) =>
      t = some (hh.cell ind) ∧ (hh.cell ind).length = (h.cell ind).length ∧ Frame1 ind h hh)
    (body := fun _ (id : Nat × Option Nat) =>
      match id.2 with
      | none => pure ()
      | some s =>
        if s + 2 ≤ (h.cell ind).length then
          (getItem ind (if s ≥ id.1 then s + 1 else s) >>= fun x => getItem ind id.1 >>= fun y =>
            setItem ind id.1 x >>= fun _ => setItem ind (if s ≥ id.1 then s + 1 else s) y)
        else raise .value)
    (f := CrossMut.shuffleStep (h.cell ind).length) (l := ids)
    (by
      intro s hh t id hid ⟨r1, q, r2⟩
      obtain ⟨hlt, hds⟩ := hids id hid
      subst r1
      cases hd : id.2 with
      | none => exact ⟨(), hh, rfl, by simp only [CrossMut.shuffleStep, hd], q, r2⟩
      | some sv =>
        have hs := hds sv hd
        -- the partner index (after `>= i: += 1`) is an existing position
        have hj : (if sv ≥ id.1 then sv + 1 else sv) < (hh.cell ind).length := by rw [q]; split <;> omega
        rw [← q] at hlt
        simp only [if_pos hs, CrossMut.shuffleStep, hd]
        generalize (if sv ≥ id.1 then sv + 1 else sv) = j at hj
        refine ⟨(), (hh.write ind ((hh.cell ind).set id.1 (hh.cell ind)[j])).write ind _, ?_,
          (pySwap?_eq_some_iff _ _ _ _).2 ⟨hlt, hj, cell_write_same _ _ _⟩, ?_,
          (r2.trans (Frame1.write _ _ _)).trans (Frame1.write _ _ _)⟩
        · rw [bind_ok (getItem_ok (List.getElem?_eq_getElem hj)), bind_ok (getItem_ok (List.getElem?_eq_getElem hlt)),
            bind_ok (setItem_ok _ hlt), setItem_ok _ (by rw [cell_write_same, List.length_set]; exact hj), cell_write_same]
        · rw [cell_write_same, List.length_set, List.length_set, q])
    () h (some (h.cell ind)) ⟨rfl, rfl, Frame1.refl _ _⟩
  exact ⟨h', hl, by rw [← hR1], hR2⟩

/-- the loop of `mutFlipBit` over any list of (index, decision) pairs whose indices exist -/
theorem flipLoop_sim [CrossMut.PyNot α] (ind : Nat) (ids : List (Nat × Bool)) (h : Heap α)
    (hids : ∀ id ∈ ids, id.1 < (h.cell ind).length) :
    ∃ h', forFold ids () (fun _ (id : Nat × Bool) =>
        if id.2 then (getItem ind id.1 >>= fun x => setItem ind id.1 (CrossMut.PyNot.pyNot x)) else pure ()) h = .ok () h' ∧
      h'.cell ind = ids.foldl GenCL.flipStep (h.cell ind) ∧ Frame1 ind h h' := by
  obtain ⟨_, h', hl, hR1, _, hR2⟩ := forFold_sim
    (R := fun (_ : Unit) (hh : Heap α) (l : List α) =>
      hh.cell ind = l ∧ l.length = (h.cell ind).length ∧ Frame1 ind h hh)
    (body := fun _ (id : Nat × Bool) =>
      if id.2 then (getItem ind id.1 >>= fun x => setItem ind id.1 (CrossMut.PyNot.pyNot x)) else pure ())
    (f := GenCL.flipStep) (l := ids)
    (by
      intro s hh l id hid ⟨r1, q, r2⟩
      have hi : id.1 < (hh.cell ind).length := by rw [r1, q]; exact hids id hid
      subst r1
      cases hd : id.2 with
      | false =>
        exact ⟨(), hh, rfl, by simp only [GenCL.flipStep, hd, Bool.false_eq_true, if_false],
          (GenCL.flipStep_length _ _).trans q, r2⟩
      | true =>
        have hx := List.getElem?_eq_getElem hi
        simp only [if_true, GenCL.flipStep, hd, hx]
        exact ⟨(), _, by rw [bind_ok (getItem_ok hx), setItem_ok _ hi], cell_write_same _ _ _,
          by rw [List.length_set]; exact q, r2.trans (Frame1.write _ _ _)⟩)
    () h (h.cell ind) ⟨rfl, rfl, Frame1.refl _ _⟩
  exact ⟨h', hl, hR1, hR2⟩

theorem uniformIntLoop_sim (ind : Nat) (trip : List (Nat × Int × Int)) (ds : List (Option Int)) (h : Heap Int)
    (out : List Int) (hin : ∀ t ∈ trip, t.1 < (h.cell ind).length)
    (hm : CrossMut.mutUniformIntLoop trip ds (h.cell ind) = some out) :
    ∃ h', CrossMutBuf.mutUniformIntLoop ind trip ds h = .ok () h' ∧ h'.cell ind = out ∧ Frame1 ind h h' := by
  induction trip generalizing ds h with
  | nil =>
    simp only [CrossMut.mutUniformIntLoop, Option.some.injEq] at hm
    exact ⟨h, rfl, hm, Frame1.refl _ _⟩
  | cons t rest ih =>
    obtain ⟨i, xl, xu⟩ := t
    cases ds with
    | nil => simp [CrossMut.mutUniformIntLoop] at hm
    | cons dd ds =>
      cases dd with
      | none =>
        exact ih ds h (fun t ht => hin t (by simp [ht])) hm
      | some v =>
        simp only [CrossMut.mutUniformIntLoop] at hm
        cases hr : CrossMut.randint xl xu v with
        | none => simp [hr] at hm
        | some w =>
          simp only [hr] at hm
          have hi : i < (h.cell ind).length := hin (i, xl, xu) (by simp)
          obtain ⟨h', e, c, fr⟩ := ih ds (h.write ind ((h.cell ind).set i w))
            (fun t ht => by rw [cell_write_same]; simpa using hin t (by simp [ht]))
            (by rw [cell_write_same]; exact hm)
          refine ⟨h', ?_, c, (Frame1.write _ _ _).trans fr⟩
          simp only [CrossMutBuf.mutUniformIntLoop, hr]
          rw [bind_ok (setItem_ok _ hi)]; exact e

end C09B
