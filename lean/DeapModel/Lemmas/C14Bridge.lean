/-
C14 helper lemmas: the list-based numpy-style linear algebra of `Core/CmaElitist.lean`, at `α = ℝ`,
is Mathlib's matrix algebra on `Fin n`.  `matOf`/`vecOf` read a list (entries with `getD`); `lm`/`lv` write one.
A list of the right shape is the image `lm A` / `lv v` of what it reads as (`exists_lm`, `exists_lv`), and the
operations of `LA` that the update rules use, applied to images, give the image of the Mathlib operation — an equation
with no shape side condition, so proofs about well-shaped lists replace them by images once and never speak of
lengths again.  At the end, the readings that need no shape: `vsub`, `vdivs`, `mdivs` commute with `vecOf` / `matOf` for
lists of any length.
-/
import DeapModel.Core.CmaElitist
import DeapModel.RealInst
import DeapModel.Lemmas.ListFacts
import Mathlib.Data.List.GetD

namespace C14Bridge
open CmaElitist CmaElitist.LA Matrix

def vecOf (n : Nat) (l : List ℝ) : Fin n → ℝ := fun i => l.getD i 0
def matOf (n : Nat) (M : List (List ℝ)) : Matrix (Fin n) (Fin n) ℝ :=
  Matrix.of fun i j => (M.getD i []).getD j 0

def IsMat (n : Nat) (M : List (List ℝ)) : Prop := M.length = n ∧ ∀ r ∈ M, r.length = n

theorem dot_eq_list (u v : List ℝ) : dot u v = (List.zipWith (fun a b => a * b) u v).sum := RealLike.real_sum _

theorem normSq_eq_dot (w : List ℝ) : normSq w = dot w w := by
  unfold normSq; rw [RealLike.real_sum, dot_eq_list]
  congr 1
  induction w with
  | nil => rfl
  | cons x xs ih => simp only [List.map_cons, List.zipWith_cons_cons, ih]

@[simp] theorem length_vadd (u v : List ℝ) : (vadd u v).length = min u.length v.length := by
  simp [vadd]
@[simp] theorem length_vsub (u v : List ℝ) : (vsub u v).length = min u.length v.length := by
  simp [vsub]
@[simp] theorem length_vscale (c : ℝ) (v : List ℝ) : (vscale c v).length = v.length := by
  simp [vscale]
@[simp] theorem length_vdivs (c : ℝ) (v : List ℝ) : (vdivs v c).length = v.length := by
  simp [vdivs]
@[simp] theorem length_matVec (M : List (List ℝ)) (v : List ℝ) : (matVec M v).length = M.length := by
  simp [matVec]
@[simp] theorem length_vecMat (n : Nat) (M : List (List ℝ)) (v : List ℝ) : (vecMat n v M).length = n := by
  simp [vecMat]

theorem matOf_two (a b c d : ℝ) : matOf 2 [[a, b], [c, d]] = !![a, b; c, d] := eta_fin_two _

theorem matOf_two_one : matOf 2 ([[1, 0], [0, 1]] : List (List ℝ)) = 1 :=
  (matOf_two 1 0 0 1).trans one_fin_two.symm

theorem isMat_two (a b c d : ℝ) : IsMat 2 [[a, b], [c, d]] :=
  ⟨rfl, fun r hr => by rcases List.mem_pair.1 hr with rfl | rfl <;> rfl⟩

variable {n : Nat}

def lv (v : Fin n → ℝ) : List ℝ := List.ofFn v
def lm (A : Matrix (Fin n) (Fin n) ℝ) : List (List ℝ) := List.ofFn fun i => lv (A i)

@[simp] theorem length_lv (v : Fin n → ℝ) : (lv v).length = n := List.length_ofFn
@[simp] theorem vecOf_lv (v : Fin n → ℝ) : vecOf n (lv v) = v := by
  funext i; simp [vecOf, lv, List.getD_eq_getElem?_getD]
@[simp] theorem isMat_lm (A : Matrix (Fin n) (Fin n) ℝ) : IsMat n (lm A) :=
  ⟨List.length_ofFn, fun r hr => by obtain ⟨i, rfl⟩ := List.mem_ofFn.1 hr; exact length_lv _⟩
@[simp] theorem matOf_lm (A : Matrix (Fin n) (Fin n) ℝ) : matOf n (lm A) = A := by
  ext i j; simp [matOf, lm, lv, List.getD_eq_getElem?_getD]

theorem exists_lv {v : List ℝ} (h : v.length = n) : ∃ x : Fin n → ℝ, v = lv x := by
  subst h; exact ⟨fun i => v[i], List.ofFn_getElem.symm⟩

theorem exists_lm {M : List (List ℝ)} (h : IsMat n M) : ∃ A : Matrix (Fin n) (Fin n) ℝ, M = lm A := by
  obtain ⟨h1, h2⟩ := h
  subst h1
  choose A hA using fun i : Fin M.length => exists_lv (h2 M[i] (List.getElem_mem i.2))
  exact ⟨A, List.ofFn_getElem.symm.trans (congrArg List.ofFn (funext hA))⟩

theorem zipWith_lv (f : ℝ → ℝ → ℝ) (u v : Fin n → ℝ) :
    List.zipWith f (lv u) (lv v) = lv fun i => f (u i) (v i) :=
  List.zipWith_ofFn f u v

theorem map_lv (f : ℝ → ℝ) (v : Fin n → ℝ) : (lv v).map f = lv fun i => f (v i) := List.map_ofFn

theorem range_map (g : Nat → ℝ) : (List.range n).map g = lv fun j : Fin n => g j := by
  rw [lv, List.ofFn_eq_map, ← List.map_coe_finRange_eq_range, List.map_map]; rfl

@[simp] theorem vadd_lv (u v : Fin n → ℝ) : vadd (lv u) (lv v) = lv (u + v) := zipWith_lv _ u v
@[simp] theorem vsub_lv (u v : Fin n → ℝ) : vsub (lv u) (lv v) = lv (u - v) := zipWith_lv _ u v
@[simp] theorem vscale_lv (c : ℝ) (v : Fin n → ℝ) : vscale c (lv v) = lv (c • v) := map_lv _ v

@[simp] theorem dot_lv (u v : Fin n → ℝ) : dot (lv u) (lv v) = u ⬝ᵥ v := by
  rw [dot_eq_list, zipWith_lv, lv, List.sum_ofFn]; rfl

@[simp] theorem normSq_lv (w : Fin n → ℝ) : normSq (lv w) = w ⬝ᵥ w := by rw [normSq_eq_dot, dot_lv]

@[simp] theorem matVec_lm (A : Matrix (Fin n) (Fin n) ℝ) (v : Fin n → ℝ) :
    matVec (lm A) (lv v) = lv (A *ᵥ v) := by
  simp only [matVec, lm, List.map_ofFn, Function.comp_def, dot_lv]; rfl

theorem col_lm (A : Matrix (Fin n) (Fin n) ℝ) (j : Fin n) : LA.col (lm A) j = lv fun i => A i j := by
  simp only [LA.col, lm, List.map_ofFn, Function.comp_def, RealLike.real_lit_zero]
  exact congrArg lv (funext fun i => congrFun (vecOf_lv (A i)) j)

@[simp] theorem vecMat_lm (v : Fin n → ℝ) (A : Matrix (Fin n) (Fin n) ℝ) :
    vecMat n (lv v) (lm A) = lv (v ᵥ* A) := by
  rw [vecMat, range_map]
  exact congrArg lv (funext fun j => by rw [col_lm, dot_lv]; rfl)

@[simp] theorem outer_lv (u v : Fin n → ℝ) : outer (lv u) (lv v) = lm (vecMulVec u v) := by
  simp only [outer, map_lv]; exact List.map_ofFn

theorem map_lm (f : List ℝ → List ℝ) (g : ℝ → ℝ) (hf : ∀ v : Fin n → ℝ, f (lv v) = lv fun j => g (v j))
    (A : Matrix (Fin n) (Fin n) ℝ) : (lm A).map f = lm (A.map g) := by
  simp only [lm, List.map_ofFn, Function.comp_def, hf]; rfl

@[simp] theorem mscale_lm (c : ℝ) (A : Matrix (Fin n) (Fin n) ℝ) : mscale c (lm A) = lm (c • A) :=
  map_lm _ (c * ·) (fun v => vscale_lv c v) A
@[simp] theorem mdivs_lm (c : ℝ) (A : Matrix (Fin n) (Fin n) ℝ) : mdivs (lm A) c = lm ((1 / c) • A) :=
  (map_lm _ (· / c) (fun v => map_lv _ v) A).trans (congrArg lm (by ext i j; simp [div_eq_inv_mul]))

theorem zipWith_lm (f : List ℝ → List ℝ → List ℝ) (g : ℝ → ℝ → ℝ)
    (hf : ∀ u v : Fin n → ℝ, f (lv u) (lv v) = lv fun j => g (u j) (v j)) (A B : Matrix (Fin n) (Fin n) ℝ) :
    List.zipWith f (lm A) (lm B) = lm (of fun i j => g (A i j) (B i j)) :=
  List.ext_getElem (by simp [lm]) fun i _ _ => by simp [lm, hf]; rfl

@[simp] theorem madd_lm (A B : Matrix (Fin n) (Fin n) ℝ) : madd (lm A) (lm B) = lm (A + B) :=
  zipWith_lm _ (· + ·) (fun u v => vadd_lv u v) A B
@[simp] theorem msub_lm (A B : Matrix (Fin n) (Fin n) ℝ) : msub (lm A) (lm B) = lm (A - B) :=
  zipWith_lm _ (· - ·) (fun u v => vsub_lv u v) A B

@[simp] theorem matMul_lm (A B : Matrix (Fin n) (Fin n) ℝ) : matMul n (lm A) (lm B) = lm (A * B) := by
  simp only [matMul, lm, List.map_ofFn, Function.comp_def]
  exact congrArg List.ofFn (funext fun i => vecMat_lm (A i) B)

theorem identity_lm : (identity n : List (List ℝ)) = lm (1 : Matrix (Fin n) (Fin n) ℝ) := by
  unfold identity
  refine List.ext_getElem (by simp [lm]) fun i h1 _ => ?_
  simp only [List.getElem_map, List.getElem_range, lm, List.getElem_ofFn, range_map]
  refine congrArg lv (funext fun j => ?_)
  simp only [one_apply, Fin.ext_iff, RealLike.real_lit_one, RealLike.real_lit_zero]

/-! Readings that need no shape: `vsub` and the divisions by a scalar commute with `vecOf` / `matOf` for lists of
any length (the image equations above speak of lists of length `n` only). -/

theorem getD_map' {α β : Type} (f : α → β) (l : List α) (i : Nat) (d : α) (e : β) (h : f d = e) :
    (l.map f).getD i e = f (l.getD i d) := by
  subst h
  exact List.getD_map l d f

theorem vecOf_vsub (n : Nat) (u v : List ℝ) (h : u.length = v.length) :
    vecOf n (vsub u v) = vecOf n u - vecOf n v := by
  funext i
  show (List.zipWith (fun a b => a - b) u v).getD i 0 = u.getD i 0 - v.getD i 0
  by_cases hi : (i : Nat) < u.length
  · exact List.getD_zipWith _ u v i 0 0 0 hi (h ▸ hi)
  · have hv := h ▸ not_lt.1 hi
    rw [List.getD_eq_default _ _ (not_lt.1 hi), List.getD_eq_default _ _ hv,
      List.getD_eq_default _ _ (by simp [hv]), sub_zero]

theorem vecOf_vdivs (n : Nat) (v : List ℝ) (c : ℝ) : vecOf n (vdivs v c) = (1 / c) • vecOf n v := by
  funext i; simp only [vecOf, vdivs, Pi.smul_apply, smul_eq_mul]
  rw [getD_map' _ v i 0 0 (by simp)]; exact div_eq_inv_mul _ _ |>.trans (by rw [one_div])

theorem matOf_apply (n : Nat) (M : List (List ℝ)) (i j : Fin n) :
    matOf n M i j = (M.getD i []).getD j 0 := rfl

theorem matOf_mdivs (n : Nat) (A : List (List ℝ)) (c : ℝ) : matOf n (mdivs A c) = (1 / c) • matOf n A := by
  ext i j
  simp only [matOf_apply, mdivs, Matrix.smul_apply, smul_eq_mul]
  rw [getD_map' (fun r => vdivs r c) A i [] [] rfl]
  exact congrFun (vecOf_vdivs n _ c) j

end C14Bridge
