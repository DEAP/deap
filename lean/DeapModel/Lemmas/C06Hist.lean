/-
Helper lemmas for C06: sessions of selector calls over a family of fitness classes
(`Core/SelectionHist.lean`) and counting over the positions that hold one object.
-/
import DeapModel.Core.SelectionHist
import DeapModel.Lemmas.C01Class
import Mathlib.Tactic.Linarith

namespace C06L
open Selection Fitness

theorem runHistory_append (tbl : ClassTable Rat) (h1 h2 : List Event) (t : Tape) :
    runHistory tbl (h1 ++ h2) t =
      match runHistory tbl h1 t with
      | none => none
      | some (tbl1, os1, t1) =>
        match runHistory tbl1 h2 t1 with
        | none => none
        | some (tbl2, os2, t2) => some (tbl2, os1 ++ os2, t2) := by
  induction h1 generalizing tbl t with
  | nil =>
    simp only [List.nil_append, runHistory]
    rcases runHistory tbl h2 t with _ | ⟨a, b, c⟩ <;> rfl
  | cons e es ih =>
    simp only [List.cons_append, runHistory, ih]
    rcases runEvent tbl e t with _ | ⟨tbl1, o, t1⟩; · rfl
    dsimp only
    rcases runHistory tbl1 es t1 with _ | ⟨tbl2, os, t2⟩; · rfl
    dsimp only
    rcases runHistory tbl2 h2 t2 with _ | ⟨tbl3, os2, t3⟩; · rfl
    cases o <;> rfl

theorem runEvent_table {tbl tbl1 : ClassTable Rat} {e : Event} {t t1 : Tape} {o : Option (List Nat)}
    (h : runEvent tbl e t = some (tbl1, o, t1)) : tbl1 = tbl ++ defsOf [e] := by
  cases e with
  | defclass k =>
    rw [runEvent] at h
    split at h
    · cases h
    · next tb hd => cases h; exact (C01.defClass_eq tbl _ k hd).1
  | call c p s =>
    rw [runEvent] at h
    split at h
    · cases h
    · split at h
      · cases h
      · cases h; exact (List.append_nil tbl).symm

/-- The world after a session is the initial class table extended by the session's class statements —
selector calls leave nothing behind. -/
theorem runHistory_table (tbl : ClassTable Rat) (h : List Event) (t t' : Tape) (tbl' : ClassTable Rat)
    (os : List (List Nat)) (hr : runHistory tbl h t = some (tbl', os, t')) :
    tbl' = tbl ++ defsOf h := by
  induction h generalizing tbl t os with
  | nil => rw [← (Prod.mk.inj (Option.some.inj hr)).1]; exact (List.append_nil tbl).symm
  | cons e es ih =>
    rw [runHistory] at hr
    split at hr
    · cases hr
    next tbl1 o t1 he =>
    split at hr
    · cases hr
    next tbl2 os2 t2 h1 =>
    cases hr
    rw [ih tbl1 t1 os2 h1, runEvent_table he, List.append_assoc]
    cases e <;> rfl

/-- Mathlib's `List.sum_le_sum`, whose module is not among the imports -/
theorem sum_map_le_sum_map {ι : Type} (l : List ι) (f g : ι → ℤ) (h : ∀ i ∈ l, f i ≤ g i) :
    (l.map f).sum ≤ (l.map g).sum := by
  induction l with
  | nil => exact le_rfl
  | cons a l ih =>
    rw [List.map_cons, List.map_cons, List.sum_cons, List.sum_cons]
    exact add_le_add (h a List.mem_cons_self) (ih fun i hi => h i (List.mem_cons_of_mem _ hi))

theorem sum_map_natCast {ι : Type} (l : List ι) (f : ι → ℕ) :
    (l.map fun i => ((f i : ℕ) : ℤ)).sum = (((l.map f).sum : ℕ) : ℤ) := by
  induction l with
  | nil => rfl
  | cons a l ih => rw [List.map_cons, List.map_cons, List.sum_cons, List.sum_cons, Nat.cast_add, ih]

theorem countP_mem_cons (a : Nat) (l res : List Nat) (hal : a ∉ l) :
    res.countP (fun x => decide (x ∈ a :: l)) = res.count a + res.countP (fun x => decide (x ∈ l)) := by
  induction res with
  | nil => simp
  | cons x xs ihx =>
    rw [List.countP_cons, ihx]
    by_cases hxa : x = a
    · subst hxa
      simp [hal]
      omega
    · by_cases hxl : x ∈ l
      · simp [hxa, hxl]; omega
      · simp [hxa, hxl]

theorem sum_count_eq_countP (obj res : List Nat) (hnd : obj.Nodup) :
    (obj.map (fun i => res.count i)).sum = res.countP (fun x => decide (x ∈ obj)) := by
  induction obj with
  | nil => simp
  | cons a l ih =>
    rw [List.map_cons, List.sum_cons, ih (List.nodup_cons.1 hnd).2,
      countP_mem_cons a l res (List.nodup_cons.1 hnd).1]

end C06L
