/-
Helper lemmas for C12: the token loop of `from_string` is the tree recursion `reparse`; what
`reparse` preserves.
-/
import DeapModel.Core.GpCompile
import DeapModel.Lemmas.C11Basic

namespace GpCompile
open GpTree

mutual
theorem fromStringGo_tree (E : ParseEnv) : ∀ (t t' : Tree) (rt : List Nat) (rest : List Str),
    reparse E rt.head? t = some t' →
    fromStringGo E ((flatten t).map tok ++ rest) rt = (fromStringGo E rest rt.tail).map (flatten t' ++ ·)
  | .node p as, t', rt, rest, h => by
    simp only [reparse] at h
    split at h
    · simp at h
    · rename_i q hq
      split at h
      · simp at h
      · rename_i as' has
        simp at h; subst h
        simp only [flatten, List.map_cons, List.cons_append, fromStringGo, hq]
        by_cases hk : q.kind = .prim
        · simp only [hk, if_true] at has ⊢
          rw [fromStringGo_forest E as as' q.args rt.tail rest has]
          cases fromStringGo E rest rt.tail <;> simp
        · simp only [hk, if_false] at has ⊢
          have := fromStringGo_forest E as as' [] rt.tail rest has
          simp only [List.nil_append] at this
          rw [this]
          cases fromStringGo E rest rt.tail <;> simp
theorem fromStringGo_forest (E : ParseEnv) : ∀ (ts ts' : List Tree) (τs rt0 : List Nat) (rest : List Str),
    reparseF E τs ts = some ts' →
    fromStringGo E ((flattenF ts).map tok ++ rest) (τs ++ rt0) = (fromStringGo E rest rt0).map (flattenF ts' ++ ·)
  | [], ts', [], rt0, rest, h => by
    simp [reparseF] at h; subst h
    simp [flattenF]
  | t :: ts, ts', τ :: τs, rt0, rest, h => by
    simp only [reparseF] at h
    split at h
    · rename_i t1 ts1 h1 h2
      simp at h; subst h
      simp only [flattenF, List.map_append, List.append_assoc, List.cons_append]
      rw [fromStringGo_tree E t t1 (τ :: (τs ++ rt0)) _ (by simpa using h1)]
      simp only [List.tail_cons]
      rw [fromStringGo_forest E ts ts1 τs rt0 rest h2]
      cases fromStringGo E rest rt0 <;> simp
    · simp at h
  | [], _, _ :: _, _, _, h => by simp [reparseF] at h
  | _ :: _, _, [], _, _, h => by simp [reparseF] at h
end

/-- the node relation `from_string` establishes when it succeeds on printed text:
same arguments, same kind class, same printed text -/
def SameNode (p q : Prim) : Prop :=
  q.args = p.args ∧ (q.kind = .prim ↔ p.kind = .prim) ∧ (p.kind = .prim → q.name = p.name) ∧
  (p.kind ≠ .prim → q.text = p.text)

mutual
def SameTree : Tree → Tree → Prop
  | .node p as, .node q bs => SameNode p q ∧ SameForest as bs
def SameForest : List Tree → List Tree → Prop
  | [], [] => True
  | a :: as, b :: bs => SameTree a b ∧ SameForest as bs
  | _, _ => False
end

theorem sameNode_fmt {p q : Prim} (h : SameNode p q) (args : List Str) : fmt q args = fmt p args := by
  obtain ⟨_, hk, hn, ht⟩ := h
  unfold fmt
  by_cases hp : p.kind = .prim
  · simp [hp, hk.2 hp, hn hp]
  · have : ¬ q.kind = .prim := fun hq => hp (hk.1 hq)
    simp [hp, this, ht hp]

mutual
theorem sameTree_all : ∀ (t t' : Tree), SameTree t t' →
    render t' = render t ∧ (∀ env, evalTree env t' = evalTree env t) ∧
    (flatten t').map (·.args) = (flatten t).map (·.args) ∧ (wf t = true → wf t' = true)
  | .node p as, .node q bs, h => by
    obtain ⟨h1, h2, h3, h4, h5⟩ := sameForest_all as bs h.2
    obtain ⟨ha, hk, hn, ht⟩ := h.1
    refine ⟨by rw [render, render, h1, sameNode_fmt h.1], fun env => ?_, by simp only [flatten, List.map_cons, h3, ha],
      fun hw => ?_⟩
    · simp only [evalTree, h2 env]
      by_cases hp : p.kind = .prim
      · simp [hp, hk.2 hp, hn hp]
      · have hq : ¬ q.kind = .prim := fun hq => hp (hk.1 hq)
        simp [hp, hq, ht hp]
    · simp only [wf, Bool.and_eq_true, beq_iff_eq] at hw ⊢
      exact ⟨by rw [← h5, hw.1, Prim.arity, Prim.arity, ha], h4 hw.2⟩
theorem sameForest_all : ∀ (ts ts' : List Tree), SameForest ts ts' →
    renderF ts' = renderF ts ∧ (∀ env, evalF env ts' = evalF env ts) ∧
    (flattenF ts').map (·.args) = (flattenF ts).map (·.args) ∧ (wfF ts = true → wfF ts' = true) ∧ ts.length = ts'.length
  | [], [], _ => ⟨rfl, fun _ => rfl, rfl, id, rfl⟩
  | a :: as, b :: bs, h => by
    obtain ⟨a1, a2, a3, a4⟩ := sameTree_all a b h.1
    obtain ⟨f1, f2, f3, f4, f5⟩ := sameForest_all as bs h.2
    refine ⟨by rw [renderF, renderF, a1, f1], fun env => by rw [evalF, evalF, a2, f2],
      by simp only [flattenF, List.map_append, a3, f3], fun hw => ?_, by simp [f5]⟩
    simp only [wfF, Bool.and_eq_true] at hw ⊢
    exact ⟨a4 hw.1, f4 hw.2⟩
  | [], _ :: _, h => by simp [SameForest] at h
  | _ :: _, [], h => by simp [SameForest] at h
end

theorem sameTree_eval {t t' : Tree} (h : SameTree t t') (env : Env) : evalTree env t' = evalTree env t :=
  (sameTree_all t t' h).2.1 env

theorem sameTree_wf {t t' : Tree} (h : SameTree t t') (hw : wf t = true) : wf t' = true := (sameTree_all t t' h).2.2.2 hw

theorem sameForest_render : ∀ (ts ts' : List Tree), SameForest ts ts' → renderF ts' = renderF ts :=
  fun ts ts' h => (sameForest_all ts ts' h).1

theorem sameForest_eval (env : Env) : ∀ (ts ts' : List Tree), SameForest ts ts' → evalF env ts' = evalF env ts :=
  fun ts ts' h => (sameForest_all ts ts' h).2.1 env

theorem sameForest_arities : ∀ (ts ts' : List Tree), SameForest ts ts' →
    (flattenF ts').map (·.args) = (flattenF ts).map (·.args) :=
  fun ts ts' h => (sameForest_all ts ts' h).2.2.1

theorem sameForest_wf : ∀ (ts ts' : List Tree), SameForest ts ts' → wfF ts = true → wfF ts' = true :=
  fun ts ts' h => (sameForest_all ts ts' h).2.2.2.1

/-- how a node of the printed tree is known to `from_string`: it is registered in `pset.mapping`
under its printed text (primitives, arguments, named and constant terminals), or it is a terminal
whose printed text is mapped to another terminal printing the same text (an ephemeral whose value
coincides with a constant terminal), or a literal that `eval`s to a value of a compatible type
and prints back identically (ephemeral values, terminals created by an earlier `from_string`). -/
def Registered (E : ParseEnv) (p : Prim) : Prop :=
  E.mapping (tok p) = some p ∨
  (p.kind ≠ .prim ∧
    ((∃ q, E.mapping (tok p) = some q ∧ q.kind ≠ .prim ∧ q.args = [] ∧ q.text = p.text ∧ E.sub q.ret p.ret = true) ∨
     (E.mapping (tok p) = none ∧ ∃ ty, E.ev (tok p) = some (ty, tok p) ∧ E.sub ty p.ret = true)))

theorem reparseNode_ok (E : ParseEnv) (refl : ∀ a, E.sub a a = true)
    (trans : ∀ a b c, E.sub a b = true → E.sub b c = true → E.sub a c = true)
    {p : Prim} {exp : Option Nat} (hreg : Registered E p) (hargs : p.kind ≠ .prim → p.args = [])
    (hexp : ∀ σ, exp = some σ → E.sub p.ret σ = true) :
    ∃ q, reparseNode E exp (tok p) = some q ∧ SameNode p q := by
  rcases hreg with hself | ⟨hk, ⟨q, hq, hqk, hqa, hqt, hqs⟩ | ⟨hnone, ty, hev, hts⟩⟩
  · refine ⟨p, ?_, rfl, Iff.rfl, fun _ => rfl, fun _ => rfl⟩
    unfold reparseNode; rw [hself]
    cases exp with
    | none => rfl
    | some σ => simp [hexp σ rfl]
  · refine ⟨q, ?_, by rw [hqa, hargs hk], ⟨fun h => absurd h hqk, fun h => absurd h hk⟩, fun h => absurd h hk, fun _ => hqt⟩
    unfold reparseNode; rw [hq]
    cases exp with
    | none => rfl
    | some σ => simp [trans _ _ _ hqs (hexp σ rfl)]
  · have hsn : ∀ τ, SameNode p ⟨String.ofList (tok p), τ, [], .term, String.ofList (tok p)⟩ := by
      intro τ
      refine ⟨by simp [hargs hk], ⟨fun h => by simp at h, fun h => absurd h hk⟩, fun h => absurd h hk, fun _ => ?_⟩
      simp [tok, hk, String.ofList_toList]
    cases exp with
    | none =>
      exact ⟨_, by unfold reparseNode; rw [hnone, hev]; simp only [refl, if_true], hsn ty⟩
    | some σ =>
      have := trans _ _ _ hts (hexp σ rfl)
      exact ⟨_, by unfold reparseNode; rw [hnone, hev]; simp only [this, if_true], hsn σ⟩

mutual
theorem reparse_ok (E : ParseEnv) (refl : ∀ a, E.sub a a = true)
    (trans : ∀ a b c, E.sub a b = true → E.sub b c = true → E.sub a c = true) :
    ∀ (t : Tree) (exp : Option Nat), (∀ p ∈ flatten t, Registered E p ∧ (p.kind ≠ .prim → p.args = [])) →
      wt E.sub t.root.ret t = true → (∀ σ, exp = some σ → E.sub t.root.ret σ = true) →
      ∃ t', reparse E exp t = some t' ∧ SameTree t t'
  | .node p as, exp, hreg, hw, hexp => by
    obtain ⟨⟨hp, hpa⟩, hregs⟩ := forall_flatten_node.1 hreg
    obtain ⟨q, hq, hsame⟩ := reparseNode_ok E refl trans hp hpa (by simpa [Tree.root] using hexp)
    simp [wt, Tree.root] at hw
    have hforest : ∃ as', reparseF E (if q.kind = .prim then q.args else []) as = some as' ∧ SameForest as as' := by
      by_cases hk : q.kind = .prim
      · simp only [hk, if_true, hsame.1]
        exact reparseF_ok E refl trans as p.args hregs hw.2
      · have hpk : p.kind ≠ .prim := fun h => hk (hsame.2.1.2 h)
        simp only [hk, if_false]
        have := hw.2; rw [hpa hpk] at this
        cases as with
        | nil => exact ⟨[], by simp [reparseF], by simp [SameForest]⟩
        | cons a b => simp [wtF] at this
    obtain ⟨as', has, hsf⟩ := hforest
    exact ⟨.node q as', by simp [reparse, hq, has], by simp [SameTree, hsame, hsf]⟩
theorem reparseF_ok (E : ParseEnv) (refl : ∀ a, E.sub a a = true)
    (trans : ∀ a b c, E.sub a b = true → E.sub b c = true → E.sub a c = true) :
    ∀ (ts : List Tree) (τs : List Nat), (∀ p ∈ flattenF ts, Registered E p ∧ (p.kind ≠ .prim → p.args = [])) →
      wtF E.sub τs ts = true → ∃ ts', reparseF E τs ts = some ts' ∧ SameForest ts ts'
  | [], [], _, _ => ⟨[], by simp [reparseF], by simp [SameForest]⟩
  | t :: ts, τ :: τs, hreg, hw => by
    simp [wtF] at hw
    obtain ⟨ht, hts⟩ := forall_flattenF_cons.1 hreg
    obtain ⟨t', h1, h2⟩ := reparse_ok E refl trans t (some τ) ht
      (wt_mono hw.1 (refl _)) (by intro σ hσ; cases hσ; exact wt_root hw.1)
    obtain ⟨ts', h3, h4⟩ := reparseF_ok E refl trans ts τs hts hw.2
    exact ⟨t' :: ts', by simp [reparseF, h1, h3], by simp [SameForest, h2, h4]⟩
  | [], _ :: _, _, hw => by simp [wtF] at hw
  | _ :: _, [], _, hw => by simp [wtF] at hw
end

end GpCompile
