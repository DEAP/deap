/-
C03 — helper lemmas for the loops of `Core/Loops.lean`.  A generation is one `Step` (produce offspring, evaluate,
replace); `StepContract` is what the theorems need of a step, `Inv` what holds at every generation boundary, and
`Iterates` says that a run is the iteration of an `Option`-valued step (shared by `runGens` and the composed runs of
`Lemmas/C03Compose.lean`).  Each packaged loop (`eaSimple`, μ+λ, μ,λ, generate–update, HARM-GP) is shown to meet the contract.
-/
import DeapModel.Core.Loops
import DeapModel.Props.C02

namespace Loops
open Variation

theorem assignFits_apply (ev : List Int → List Int) (l : List Nat) (h : Heap) (o : Nat) :
    assignFits ev h l o = if o ∈ l then { h o with fit := some (ev (h o).genome) } else h o := by
  induction l generalizing h with
  | nil => rfl
  | cons a as ih =>
    rw [assignFits, ih]
    by_cases e : o = a
    · subst e; by_cases m : o ∈ as <;> simp [m]
    · simp [e]

theorem assignFits_not_mem (ev : List Int → List Int) (l : List Nat) (h : Heap) (o : Nat) (ho : o ∉ l) :
    assignFits ev h l o = h o := by
  rw [assignFits_apply, if_neg ho]

theorem assignFits_genome (ev : List Int → List Int) (l : List Nat) (h : Heap) (o : Nat) :
    (assignFits ev h l o).genome = (h o).genome := by
  rw [assignFits_apply]; split <;> rfl

theorem assignFits_mem (ev : List Int → List Int) (l : List Nat) (h : Heap) (o : Nat) (ho : o ∈ l) :
    (assignFits ev h l o).fit = some (ev (h o).genome) := by
  rw [assignFits_apply, if_pos ho]

theorem assignFits_truthful (ev : List Int → List Int) (l : List Nat) (h : Heap) (o : Nat)
    (ho : o ∈ l ∨ (h o).fit = some (ev (h o).genome)) :
    (assignFits ev h l o).fit = some (ev (assignFits ev h l o).genome) := by
  rw [assignFits_genome]
  by_cases m : o ∈ l
  · exact assignFits_mem ev l h o m
  · rw [assignFits_not_mem ev l h o m]; exact ho.resolve_left m

theorem mem_invalidOf {h : Heap} {l : List Nat} {o : Nat} :
    o ∈ invalidOf h l ↔ o ∈ l ∧ (h o).fit = none := by
  simp [invalidOf]

/-- What the generic theorems need from a loop's `produce` / `replace` (for a population of allocated
individuals).  Always: the offspring are allocated, pairwise distinct objects and the next population
consists of members of the old population and offspring.  For a loop that evaluates only the invalid
offspring: the offspring are fresh, nothing that existed is written, and an offspring with a fitness is an
exact copy of a member of the population.  For a loop that evaluates every offspring (generate–update,
where `generate` may hand back persistent individuals it has moved in place): the next population consists
of offspring only. -/
structure StepContract {σ : Type} (stp : Step σ) : Prop where
  next_le : ∀ t st pop r, (∀ p ∈ pop, p < st.next) → stp.produce t st pop = some r → st.next ≤ r.st.next
  off_alloc : ∀ t st pop r, (∀ p ∈ pop, p < st.next) → stp.produce t st pop = some r →
    ∀ o ∈ r.off, o < r.st.next
  frame : stp.evalAll = false → ∀ t st pop r, (∀ p ∈ pop, p < st.next) → stp.produce t st pop = some r →
    ∀ o, o < st.next → r.st.heap o = st.heap o
  fresh : stp.evalAll = false → ∀ t st pop r, (∀ p ∈ pop, p < st.next) → stp.produce t st pop = some r →
    ∀ o ∈ r.off, st.next ≤ o ∧ o < r.st.next
  nodup : ∀ t st pop r, (∀ p ∈ pop, p < st.next) → stp.produce t st pop = some r → r.off.Nodup
  copy_or_invalid : stp.evalAll = false → ∀ t st pop r, (∀ p ∈ pop, p < st.next) →
    stp.produce t st pop = some r →
    ∀ o ∈ r.off, (r.st.heap o).fit = none ∨ ∃ p ∈ pop, r.st.heap o = st.heap p
  replace_mem : ∀ h pop off np, stp.replace h pop off = some np → ∀ o ∈ np, o ∈ pop ∨ o ∈ off
  replace_off : stp.evalAll = true → ∀ h pop off np, stp.replace h pop off = some np → ∀ o ∈ np, o ∈ off

/-- The contract of a step that evaluates the invalid offspring only: its offspring are bred from the population
(`Vary`: C02's theorems for `varAnd`/`varOr`, `genpop_spec` for HARM) and it selects among population and offspring. -/
theorem StepContract.of_vary {σ : Type} {stp : Step σ} (he : stp.evalAll = false)
    (hv : ∀ t st pop r, (∀ p ∈ pop, p < st.next) → stp.produce t st pop = some r →
      Vary st.heap st.next pop r.st.heap r.st.next r.off)
    (hm : ∀ h pop off np, stp.replace h pop off = some np → ∀ o ∈ np, o ∈ pop ∨ o ∈ off) : StepContract stp where
  next_le := fun t st pop r hp h => (hv t st pop r hp h).1.next_le
  off_alloc := fun t st pop r hp h o ho => ((hv t st pop r hp h).1.fresh o ho).2
  frame := fun _ t st pop r hp h => (hv t st pop r hp h).1.unchanged
  fresh := fun _ t st pop r hp h => (hv t st pop r hp h).1.fresh
  nodup := fun t st pop r hp h => (hv t st pop r hp h).1.nodup
  copy_or_invalid := fun _ t st pop r hp h => (hv t st pop r hp h).2
  replace_mem := hm
  replace_off := fun hall => by rw [he] at hall; cases hall

/-- The individuals `toolbox.evaluate` is called on in a generation with offspring `r`. -/
def evalSet {σ : Type} (stp : Step σ) (r : Res σ) : List Nat :=
  if stp.evalAll then r.off else invalidOf r.st.heap r.off

/-- Invariant at the boundary before generation `g` (`g` = number of records written so far). -/
structure Inv (ev : List Int → List Int) (g : Nat) (s : LState) : Prop where
  alloc : ∀ p ∈ s.pop, p < s.st.next
  truthful : ∀ p ∈ s.pop, (s.st.heap p).fit = some (ev (s.st.heap p).genome)
  shownPop : ∀ p ∈ s.pop, p ∈ s.shown
  shownEvals : ∀ e ∈ s.evals, e.2 ∈ s.shown
  evalsLt : ∀ e ∈ s.evals, e.1 < g
  evalsNodup : s.evals.Nodup
  logGens : s.log.map (·.1) = List.range g
  logCount : ∀ rec ∈ s.log, rec.2 = (s.evals.filter (fun e => e.1 == rec.1)).length

/-- what one generation that ran with offspring `r` left behind, in the source order of the statements (the relation the
invariant proofs read; `C17.genCore` computes the same as a function) -/
structure GenOut {σ : Type} (ev : List Int → List Int) (stp : Step σ) (g : Nat) (t : σ) (s : LState) (t' : σ)
    (s' : LState) (r : Res σ) : Prop where
  produce : stp.produce t s.st s.pop = some r
  heap : s'.st.heap = assignFits ev r.st.heap (evalSet stp r)
  replace : stp.replace (assignFits ev r.st.heap (evalSet stp r)) s.pop r.off = some s'.pop
  tape : t' = r.tape
  next : s'.st.next = r.st.next
  evals : s'.evals = s.evals ++ (evalSet stp r).map (fun o => (g, o))
  log : s'.log = s.log ++ [(g, (evalSet stp r).length)]
  shown : s'.shown = s.shown ++ r.off
  shownObj : s'.shownObj = s.shownObj ++ r.off.map (fun o => (o, s'.st.heap o))

theorem generation_unfold {σ : Type} {ev : List Int → List Int} {stp : Step σ} {g : Nat} {t t' : σ}
    {s s' : LState} (h : generation ev stp g t s = some (t', s')) : ∃ r, GenOut ev stp g t s t' s' r := by
  simp only [generation] at h
  split at h
  · simp at h
  next r hr =>
    split at h
    · simp at h
    next np hnp =>
      simp only [Option.some.injEq, Prod.mk.injEq] at h
      obtain ⟨ht, rfl⟩ := h
      exact ⟨r, hr, by simp [evalPhase, evalSet], by simpa [evalPhase, evalSet] using hnp, ht.symm, rfl,
        by simp [evalPhase, evalSet], by simp [evalPhase, evalSet], rfl, by simp [evalPhase]⟩

theorem evalSet_sub {σ : Type} (stp : Step σ) (r : Res σ) : ∀ o ∈ evalSet stp r, o ∈ r.off := by
  intro o ho
  simp only [evalSet] at ho
  split at ho
  · exact ho
  · exact (mem_invalidOf.1 ho).1

theorem evalSet_nodup {σ : Type} (stp : Step σ) (r : Res σ) (h : r.off.Nodup) : (evalSet stp r).Nodup := by
  simp only [evalSet]
  split
  · exact h
  · exact h.sublist List.filter_sublist

theorem not_mem_evalSet {σ : Type} {stp : Step σ} {r : Res σ} {o : Nat} (ho : o ∈ r.off) (hn : o ∉ evalSet stp r) :
    stp.evalAll = false ∧ (r.st.heap o).fit ≠ none := by
  cases hb : stp.evalAll <;> simp only [evalSet, hb] at hn
  · exact ⟨rfl, fun c => hn (mem_invalidOf.2 ⟨ho, c⟩)⟩
  · exact absurd ho hn

theorem nodup_map_pair (g : Nat) (l : List Nat) (h : l.Nodup) : (l.map (fun o => (g, o))).Nodup :=
  List.Pairwise.map _ (fun _ _ hab e => hab (Prod.mk.inj e).2) h

theorem filter_gen_map (l : List Nat) (g g' : Nat) :
    (l.map (fun o => (g, o))).filter (fun e => e.1 == g') = if g = g' then l.map (fun o => (g, o)) else [] := by
  by_cases e : g = g'
  · rw [if_pos e, List.filter_eq_self]
    intro x hx
    obtain ⟨o, _, rfl⟩ := List.mem_map.1 hx
    simpa using e
  · rw [if_neg e, List.filter_eq_nil_iff]
    intro x hx
    obtain ⟨o, _, rfl⟩ := List.mem_map.1 hx
    simpa using e

theorem filter_gen_lt {evals : List (Nat × Nat)} {g : Nat} (hlt : ∀ e ∈ evals, e.1 < g) :
    evals.filter (fun e => e.1 == g) = [] :=
  List.filter_eq_nil_iff.2 fun e he => by have := hlt e he; simp; omega

section generation
variable {σ : Type} {ev : List Int → List Int} {stp : Step σ} (hc : StepContract stp) {g : Nat} {t : σ} {s : LState}
  {r : Res σ} (hinv : Inv ev g s) (hr : stp.produce t s.st s.pop = some r)
include hc hinv hr

theorem generation_old_kept (hall : stp.evalAll = false) {p : Nat} (hp : p ∈ s.pop) :
    assignFits ev r.st.heap (evalSet stp r) p = s.st.heap p := by
  have hold : p ∉ evalSet stp r := fun hin => by
    have := (hc.fresh hall t s.st s.pop r hinv.alloc hr p (evalSet_sub stp r p hin)).1
    have := hinv.alloc p hp
    omega
  rw [assignFits_not_mem _ _ _ _ hold, hc.frame hall t s.st s.pop r hinv.alloc hr p (hinv.alloc p hp)]

theorem generation_off_truthful : ∀ p ∈ r.off, (assignFits ev r.st.heap (evalSet stp r) p).fit =
    some (ev (assignFits ev r.st.heap (evalSet stp r) p).genome) := by
  intro p h1
  refine assignFits_truthful _ _ _ _ (Classical.or_iff_not_imp_left.2 fun hin => ?_)
  obtain ⟨hall, hvalid⟩ := not_mem_evalSet h1 hin
  obtain ⟨q, hq, hcopy⟩ := (hc.copy_or_invalid hall t s.st s.pop r hinv.alloc hr p h1).resolve_left hvalid
  rw [hcopy]; exact hinv.truthful q hq

theorem generation_pop_cases {np : List Nat}
    (hnp : stp.replace (assignFits ev r.st.heap (evalSet stp r)) s.pop r.off = some np) :
    ∀ p ∈ np, p ∈ r.off ∨ (p ∈ s.pop ∧ assignFits ev r.st.heap (evalSet stp r) p = s.st.heap p) := by
  intro p hp
  cases hb : stp.evalAll
  · exact (hc.replace_mem _ _ _ _ hnp p hp).symm.imp_right fun h1 => ⟨h1, generation_old_kept hc hinv hr hb h1⟩
  · exact Or.inl (hc.replace_off hb _ _ _ _ hnp p hp)

end generation

theorem generation_inv {σ : Type} {ev : List Int → List Int} {stp : Step σ} (hc : StepContract stp)
    {g : Nat} {t t' : σ} {s s' : LState} (hinv : Inv ev g s)
    (h : generation ev stp g t s = some (t', s')) : Inv ev (g + 1) s' := by
  obtain ⟨r, u⟩ := generation_unfold h
  have hr := u.produce
  have hnl := hc.next_le t s.st s.pop r hinv.alloc hr
  have hcases := generation_pop_cases hc hinv hr u.replace
  refine ⟨fun p hp => ?_, fun p hp => ?_, fun p hp => ?_, fun e he => ?_, fun e he => ?_, ?_, ?_, fun rec hrec => ?_⟩
  · rw [u.next]
    rcases hcases p hp with h1 | h1
    · exact hc.off_alloc t s.st s.pop r hinv.alloc hr p h1
    · have := hinv.alloc p h1.1; omega
  · rw [u.heap]
    rcases hcases p hp with h1 | h1
    · exact generation_off_truthful hc hinv hr p h1
    · rw [h1.2]; exact hinv.truthful p h1.1
  · rw [u.shown]
    exact (hcases p hp).elim (List.mem_append_right _) fun h1 => List.mem_append_left _ (hinv.shownPop p h1.1)
  · rw [u.shown]
    rcases List.mem_append.1 (u.evals ▸ he) with h1 | h1
    · exact List.mem_append_left _ (hinv.shownEvals e h1)
    · obtain ⟨o, ho, rfl⟩ := List.mem_map.1 h1
      exact List.mem_append_right _ (evalSet_sub stp r o ho)
  · rcases List.mem_append.1 (u.evals ▸ he) with h1 | h1
    · exact Nat.lt_succ_of_lt (hinv.evalsLt e h1)
    · obtain ⟨o, _, rfl⟩ := List.mem_map.1 h1
      exact Nat.lt_succ_self g
  · rw [u.evals]
    refine List.nodup_append.2 ⟨hinv.evalsNodup, nodup_map_pair g _ (evalSet_nodup stp r
      (hc.nodup t s.st s.pop r hinv.alloc hr)), fun a ha b hb hab => ?_⟩
    obtain ⟨o, _, rfl⟩ := List.mem_map.1 hb
    exact Nat.lt_irrefl g (by simpa [hab] using hinv.evalsLt a ha)
  · rw [u.log, List.map_append, hinv.logGens, List.range_succ]; rfl
  · rw [u.evals, List.filter_append, filter_gen_map, List.length_append]
    rcases List.mem_append.1 (u.log ▸ hrec) with h1 | h1
    · have hlt : rec.1 < g := List.mem_range.1 (hinv.logGens ▸ List.mem_map.2 ⟨rec, h1, rfl⟩)
      rw [if_neg (by omega), hinv.logCount rec h1]; rfl
    · cases List.mem_singleton.1 h1
      simp [filter_gen_lt hinv.evalsLt]

theorem gen0_truthful (ev : List Int → List Int) (s : LState)
    (htruth : ∀ p ∈ s.pop, ∀ f, (s.st.heap p).fit = some f → f = ev (s.st.heap p).genome) :
    ∀ p ∈ s.pop, ((gen0 ev s).st.heap p).fit = some (ev ((gen0 ev s).st.heap p).genome) := fun p hp => by
  refine assignFits_truthful ev _ _ p (Classical.or_iff_not_imp_left.2 fun hin => ?_)
  cases hf : (s.st.heap p).fit with
  | none => exact absurd (mem_invalidOf.2 ⟨hp, hf⟩) hin
  | some f => rw [htruth p hp f hf]

theorem gen0_inv (ev : List Int → List Int) (s : LState) (halloc : ∀ p ∈ s.pop, p < s.st.next)
    (htruth : ∀ p ∈ s.pop, ∀ f, (s.st.heap p).fit = some f → f = ev (s.st.heap p).genome)
    (hdistinct : (invalidOf s.st.heap s.pop).Nodup)
    (hlog : s.log = []) (hevals : s.evals = []) : Inv ev 1 (gen0 ev s) := by
  have hev : (gen0 ev s).evals = (invalidOf s.st.heap s.pop).map (fun o => (0, o)) := by
    show s.evals ++ _ = _; rw [hevals]; rfl
  refine ⟨halloc, gen0_truthful ev s htruth, fun p hp => List.mem_append_right _ hp, fun e he => ?_, fun e he => ?_, ?_, ?_,
    fun rec hrec => ?_⟩
  · obtain ⟨o, ho, rfl⟩ := List.mem_map.1 (hev ▸ he)
    exact List.mem_append_right _ (mem_invalidOf.1 ho).1
  · obtain ⟨o, _, rfl⟩ := List.mem_map.1 (hev ▸ he)
    exact Nat.zero_lt_one
  · rw [hev]; exact nodup_map_pair 0 _ hdistinct
  · show (s.log ++ [_]).map _ = _; rw [hlog]; rfl
  · have : rec = (0, (invalidOf s.st.heap s.pop).length) := by
      have : rec ∈ s.log ++ [(0, (invalidOf s.st.heap s.pop).length)] := hrec
      simpa [hlog] using this
    rw [this, hev, filter_gen_map]; simp

structure Iterates {α T S : Type} (run : List α → Nat → T → S → Option (T × S))
    (step : α → Nat → T → S → Option (T × S)) : Prop where
  nil : ∀ g t s, run [] g t s = some (t, s)
  cons : ∀ x rest g t s, run (x :: rest) g t s = (step x g t s).bind fun y => run rest (g + 1) y.1 y.2

namespace Iterates
variable {α β T S S' : Type} {run : List α → Nat → T → S → Option (T × S)} {step : α → Nat → T → S → Option (T × S)}

theorem induct (I : Iterates run step) {P : Nat → S → Prop} :
    ∀ (l : List α) (g : Nat) (t t' : T) (s s' : S),
      (∀ x ∈ l, ∀ g t t' s s', P g s → step x g t s = some (t', s') → P (g + 1) s') →
      P g s → run l g t s = some (t', s') → P (g + l.length) s'
  | [], g, t, t', s, s', _, hP, h => by
    rw [I.nil] at h
    cases h; exact hP
  | x :: rest, g, t, t', s, s', hstep, hP, h => by
    rw [I.cons] at h
    obtain ⟨⟨t1, s1⟩, h1, h⟩ := Option.bind_eq_some_iff.1 h
    have := I.induct rest (g + 1) t1 t' s1 s' (fun y hy => hstep y (List.mem_cons_of_mem _ hy))
      (hstep x (List.mem_cons_self ..) g t t1 s s1 hP h1) h
    rwa [List.length_cons, Nat.add_comm rest.length, ← Nat.add_assoc]

theorem append (I : Iterates run step) :
    ∀ (a b : List α) (g : Nat) (t : T) (s : S),
      run (a ++ b) g t s =
        match run a g t s with
        | none => none
        | some (t1, s1) => run b (g + a.length) t1 s1
  | [], b, g, t, s => by simp [I.nil]
  | x :: rest, b, g, t, s => by
    rw [List.cons_append, I.cons, I.cons]
    cases step x g t s with
    | none => rfl
    | some y => simp [I.append rest b, Nat.add_assoc, Nat.add_comm 1]

theorem proj (I : Iterates run step) {run' : List β → Nat → T → S' → Option (T × S')}
    {step' : β → Nat → T → S' → Option (T × S')} (I' : Iterates run' step') (f : α → β) (π : S → S')
    (h : ∀ x g t t' s s', step x g t s = some (t', s') → step' (f x) g t (π s) = some (t', π s')) :
    ∀ (l : List α) (g : Nat) (t t' : T) (s s' : S), run l g t s = some (t', s') →
      run' (l.map f) g t (π s) = some (t', π s')
  | [], g, t, t', s, s', hr => by
    rw [I.nil] at hr
    cases hr; exact I'.nil ..
  | x :: rest, g, t, t', s, s', hr => by
    rw [I.cons] at hr
    obtain ⟨⟨t1, s1⟩, h1, hr⟩ := Option.bind_eq_some_iff.1 hr
    rw [List.map_cons, I'.cons, h x g t t1 s s1 h1]
    exact I.proj I' f π h rest (g + 1) t1 t' s1 s' hr

end Iterates

theorem runGens_iterates {σ : Type} (ev : List Int → List Int) : Iterates (runGens (σ := σ) ev) (generation ev) :=
  ⟨fun _ _ _ => rfl, fun stp rest g t s => by simp only [runGens]; split <;> simp [*]⟩

theorem runGens_inv {σ : Type} {ev : List Int → List Int} (steps : List (Step σ)) (g : Nat) (t t' : σ)
    (s s' : LState) (hc : ∀ stp ∈ steps, StepContract stp) (hinv : Inv ev g s)
    (h : runGens ev steps g t s = some (t', s')) : Inv ev (g + steps.length) s' :=
  (runGens_iterates ev).induct steps g t t' s s' (fun stp hs _ _ _ _ _ hi hg => generation_inv (hc stp hs) hi hg) hinv h

theorem runGens_append {σ : Type} (ev : List Int → List Int) :
    ∀ (a b : List (Step σ)) (g : Nat) (t : σ) (s : LState),
      runGens ev (a ++ b) g t s =
        match runGens ev a g t s with
        | none => none
        | some (t1, s1) => runGens ev b (g + a.length) t1 s1 := fun a b g t s => by
  rw [(runGens_iterates ev).append]
  cases runGens ev a g t s <;> rfl

/-- every individual shown to the hall of fame carried, when it was shown, the fitness `evaluate` gives for
the genotype it had then; `shownObj` lists the same individuals as `shown` -/
def ShownOk (ev : List Int → List Int) (s : LState) : Prop :=
  (∀ e ∈ s.shownObj, e.2.fit = some (ev e.2.genome)) ∧ s.shownObj.map (·.1) = s.shown

theorem ShownOk.append {ev : List Int → List Int} {s s' : LState} (hsh : ShownOk ev s) (l : List Nat) (h : Heap)
    (hso : s'.shownObj = s.shownObj ++ l.map (fun o => (o, h o))) (hs : s'.shown = s.shown ++ l)
    (htr : ∀ o ∈ l, (h o).fit = some (ev (h o).genome)) : ShownOk ev s' := by
  refine ⟨fun e he => ?_, by
    rw [hso, hs, List.map_append, hsh.2, List.map_map]; exact congrArg _ (List.map_id'' (fun _ => rfl) _)⟩
  rcases List.mem_append.1 (hso ▸ he) with h1 | h1
  · exact hsh.1 e h1
  · obtain ⟨o, ho, rfl⟩ := List.mem_map.1 h1
    exact htr o ho

theorem generation_shown {σ : Type} {ev : List Int → List Int} {stp : Step σ} (hc : StepContract stp)
    {g : Nat} {t t' : σ} {s s' : LState} (hinv : Inv ev g s) (hsh : ShownOk ev s)
    (h : generation ev stp g t s = some (t', s')) : ShownOk ev s' := by
  obtain ⟨r, u⟩ := generation_unfold h
  exact hsh.append r.off _ u.shownObj u.shown (u.heap ▸ generation_off_truthful hc hinv u.produce)

theorem gen0_shown (ev : List Int → List Int) (s : LState)
    (htruth : ∀ p ∈ s.pop, ∀ f, (s.st.heap p).fit = some f → f = ev (s.st.heap p).genome)
    (hshown : s.shown = []) (hshownObj : s.shownObj = []) : ShownOk ev (gen0 ev s) :=
  ShownOk.append (s := s) ⟨by simp [hshownObj], by simp [hshown, hshownObj]⟩ s.pop _ rfl rfl (gen0_truthful ev s htruth)

theorem runGens_shown {σ : Type} {ev : List Int → List Int} (steps : List (Step σ)) (g : Nat) (t t' : σ)
    (s s' : LState) (hc : ∀ stp ∈ steps, StepContract stp) (hinv : Inv ev g s) (hsh : ShownOk ev s)
    (h : runGens ev steps g t s = some (t', s')) : ShownOk ev s' :=
  ((runGens_iterates ev).induct (P := fun g s => Inv ev g s ∧ ShownOk ev s) steps g t t' s s'
    (fun stp hs _ _ _ _ _ hi hg => ⟨generation_inv (hc stp hs) hi.1 hg, generation_shown (hc stp hs) hi.1 hi.2 hg⟩)
    ⟨hinv, hsh⟩ h).2

theorem pickAll_eq_some {l idx r : List Nat} :
    pickAll l idx = some r ↔ (∀ i ∈ idx, i < l.length) ∧ r = idx.map (fun i => l.getD i 0) := by
  induction idx generalizing r with
  | nil => simp [pickAll]
  | cons i is ih =>
    simp only [pickAll]
    split
    next x xs hx hxs =>
      obtain ⟨hi, rfl⟩ := List.getElem?_eq_some_iff.1 hx
      obtain ⟨hlt, rfl⟩ := ih.1 hxs
      simp only [Option.some.injEq, List.map_cons, List.getD, hx, List.forall_mem_cons, hi, true_and,
        eq_comm (a := r)]
      exact ⟨fun e => ⟨hlt, e⟩, fun e => e.2⟩
    next hno =>
      simp only [reduceCtorEq, false_iff, not_and]
      intro hlt hr
      exact hno _ _ (List.getElem?_eq_getElem (hlt i (List.mem_cons_self ..)))
        (ih.2 ⟨fun j hj => hlt j (List.mem_cons_of_mem _ hj), rfl⟩)

theorem pickAll_spec (l : List Nat) (pos r : List Nat) (h : pickAll l pos = some r) :
    r.length = pos.length ∧ ∀ o ∈ r, o ∈ l := by
  obtain ⟨hlt, rfl⟩ := pickAll_eq_some.1 h
  refine ⟨by simp, fun o ho => ?_⟩
  obtain ⟨i, hi, rfl⟩ := List.mem_map.1 ho
  simp [hlt i hi]

theorem pickAll_guard {c : Prop} [Decidable c] {l idx r : List Nat} (h : (if c then pickAll l idx else none) = some r) :
    c ∧ r.length = idx.length ∧ ∀ o ∈ r, o ∈ l := by
  split at h
  · exact ⟨‹c›, pickAll_spec l idx r h⟩
  · cases h

def SizeIs {σ : Type} (stp : Step σ) (f : Nat → Nat) : Prop :=
  ∀ t st pop r h np, (∀ p ∈ pop, p < st.next) → stp.produce t st pop = some r →
    stp.replace h pop r.off = some np → np.length = f pop.length

theorem generation_size {σ : Type} {ev : List Int → List Int} {stp : Step σ} {f : Nat → Nat}
    (hs : SizeIs stp f) {g : Nat} {t t' : σ} {s s' : LState} (hinv : Inv ev g s)
    (h : generation ev stp g t s = some (t', s')) : s'.pop.length = f s.pop.length := by
  obtain ⟨r, u⟩ := generation_unfold h
  exact hs t s.st s.pop r _ _ hinv.alloc u.produce u.replace

theorem runGens_size_id {σ : Type} {ev : List Int → List Int} (steps : List (Step σ)) (g : Nat) (t t' : σ)
    (s s' : LState) (hc : ∀ stp ∈ steps, StepContract stp ∧ SizeIs stp id) (hinv : Inv ev g s)
    (h : runGens ev steps g t s = some (t', s')) : s'.pop.length = s.pop.length :=
  ((runGens_iterates ev).induct (P := fun g s1 => Inv ev g s1 ∧ s1.pop.length = s.pop.length) steps g t t' s s'
    (fun stp hs _ _ _ _ _ hi hg =>
      ⟨generation_inv (hc stp hs).1 hi.1 hg, (generation_size (hc stp hs).2 hi.1 hg).trans hi.2⟩) ⟨hinv, rfl⟩ h).2

theorem runGens_size_const {σ : Type} {ev : List Int → List Int} (mu : Nat) (steps : List (Step σ)) (g : Nat)
    (t t' : σ) (s s' : LState) (hne : steps ≠ []) (hc : ∀ stp ∈ steps, StepContract stp ∧ SizeIs stp (fun _ => mu))
    (hinv : Inv ev g s) (h : runGens ev steps g t s = some (t', s')) : s'.pop.length = mu :=
  ((runGens_iterates ev).induct (P := fun g1 s1 => Inv ev g1 s1 ∧ (g < g1 → s1.pop.length = mu)) steps g t t' s s'
    (fun stp hs _ _ _ _ _ hi hg => ⟨generation_inv (hc stp hs).1 hi.1 hg, fun _ => generation_size (hc stp hs).2 hi.1 hg⟩)
    ⟨hinv, fun c => absurd c (Nat.lt_irrefl g)⟩ h).2
    (Nat.lt_add_of_pos_right (List.length_pos_iff.2 hne))

theorem keyLe_iff_not_lt (a b : List Int) : keyLe a b ↔ ¬ b < a := Iff.rfl

def KeepsBest {σ : Type} (stp : Step σ) : Prop :=
  ∀ h pop off np, stp.replace h pop off = some np → ∀ p ∈ pop ++ off, ∃ q ∈ np, keyLe (fitKey h p) (fitKey h q)

theorem generation_monotone {σ : Type} {ev : List Int → List Int} {stp : Step σ} (hc : StepContract stp)
    (hall : stp.evalAll = false) (hk : KeepsBest stp) {g : Nat} {t t' : σ} {s s' : LState} (hinv : Inv ev g s)
    (h : generation ev stp g t s = some (t', s')) :
    ∀ p ∈ s.pop, ∃ q ∈ s'.pop, keyLe (fitKey s.st.heap p) (fitKey s'.st.heap q) := by
  obtain ⟨r, u⟩ := generation_unfold h
  intro p hp
  obtain ⟨q, hq, hle⟩ := hk _ _ _ _ u.replace p (List.mem_append_left _ hp)
  refine ⟨q, hq, ?_⟩
  rw [u.heap]
  simpa only [fitKey, generation_old_kept hc hinv u.produce hall hp] using hle

theorem runGens_monotone {σ : Type} {ev : List Int → List Int} (steps : List (Step σ)) (g : Nat) (t t' : σ)
    (s s' : LState) (hc : ∀ stp ∈ steps, StepContract stp ∧ stp.evalAll = false ∧ KeepsBest stp) (hinv : Inv ev g s)
    (h : runGens ev steps g t s = some (t', s')) :
    ∀ p ∈ s.pop, ∃ q ∈ s'.pop, keyLe (fitKey s.st.heap p) (fitKey s'.st.heap q) :=
  ((runGens_iterates ev).induct
    (P := fun g s1 => Inv ev g s1 ∧ ∀ p ∈ s.pop, ∃ q ∈ s1.pop, keyLe (fitKey s.st.heap p) (fitKey s1.st.heap q))
    steps g t t' s s'
    (fun stp hs _ _ _ _ _ hi hg => ⟨generation_inv (hc stp hs).1 hi.1 hg, fun p hp => by
      obtain ⟨q1, hq1, hle1⟩ := hi.2 p hp
      obtain ⟨q, hq, hle⟩ := generation_monotone (hc stp hs).1 (hc stp hs).2.1 (hc stp hs).2.2 hi.1 hg q1 hq1
      exact ⟨q, hq, List.le_trans hle1 hle⟩⟩)
    ⟨hinv, fun p hp => ⟨p, hp, List.le_refl _⟩⟩ h).2

theorem simple_produce {σ : Type} {ops : Ops σ} {d : SimpleDec} {t : σ} {st : St} {pop : List Nat} {r : Res σ}
    (h : (simpleStep ops d).produce t st pop = some r) :
    ∃ chosen, pickAll pop d.sel = some chosen ∧ d.sel.length = pop.length ∧
      varAnd ops t st chosen d.mateD d.mutD = some r := by
  simp only [simpleStep] at h
  split at h
  next hl =>
    split at h
    · simp at h
    next chosen hch => exact ⟨chosen, hch, hl, h⟩
  · simp at h

theorem simpleStep_contract {σ : Type} {ops : Ops σ} (hc : OpContract ops) (d : SimpleDec) :
    StepContract (simpleStep ops d) :=
  .of_vary rfl (fun t st pop r hpop h => by
      obtain ⟨chosen, hch, _, hv⟩ := simple_produce h
      exact varAnd_vary hc (pickAll_spec pop d.sel chosen hch).2 hpop hv)
    (fun h pop off np hr o ho => by cases hr; exact Or.inr ho)

theorem simpleStep_size {σ : Type} {ops : Ops σ} (d : SimpleDec) :
    SizeIs (simpleStep ops d) id := by
  intro t st pop r h np _ hp hr
  obtain ⟨chosen, hch, hl, hv⟩ := simple_produce hp
  cases hr
  exact (varAnd_length hv).trans ((pickAll_spec pop d.sel chosen hch).1.trans hl)

theorem plusStep_contract {σ : Type} {ops : Ops σ} (hc : OpContract ops) (mu lam : Nat) (d : MuLamDec) :
    StepContract (plusStep ops mu lam d) :=
  .of_vary rfl (fun _ _ _ _ hpop h => varOr_vary hc hpop h) fun _ _ _ _ hr o ho =>
    List.mem_append.1 ((pickAll_guard hr).2.2 o ho)

theorem commaStep_contract {σ : Type} {ops : Ops σ} (hc : OpContract ops) (mu lam : Nat) (d : MuLamDec) :
    StepContract (commaStep ops mu lam d) :=
  .of_vary rfl (fun _ _ _ _ hpop h => varOr_vary hc hpop h) fun _ _ _ _ hr o ho =>
    Or.inr ((pickAll_guard hr).2.2 o ho)

theorem plusStep_size {σ : Type} {ops : Ops σ} (mu lam : Nat) (d : MuLamDec) :
    SizeIs (plusStep ops mu lam d) (fun _ => mu) :=
  fun _ _ _ _ _ _ _ _ hr => (pickAll_guard hr).2.1.trans (pickAll_guard hr).1

theorem commaStep_size {σ : Type} {ops : Ops σ} (mu lam : Nat) (d : MuLamDec) :
    SizeIs (commaStep ops mu lam d) (fun _ => mu) :=
  fun _ _ _ _ _ _ _ _ hr => (pickAll_guard hr).2.1.trans (pickAll_guard hr).1

theorem mem_selBest {h : Heap} {l : List Nat} {k o : Nat} (ho : o ∈ selBest h l k) : o ∈ l :=
  (List.mergeSort_perm l _).mem_iff.1 (List.mem_of_mem_take ho)

theorem length_selBest (h : Heap) (l : List Nat) (k : Nat) : (selBest h l k).length = min k l.length := by
  simp [selBest]

theorem plusBestStep_contract {σ : Type} {ops : Ops σ} (hc : OpContract ops) (mu lam : Nat)
    (choices : List Choice) : StepContract (plusBestStep ops mu lam choices) :=
  .of_vary rfl (fun _ _ _ _ hpop h => varOr_vary hc hpop h) fun h pop off np hr o ho => by
    cases hr; exact List.mem_append.1 (mem_selBest ho)

/-- μ+λ with `selBest` and μ ≤ λ: the selection finds μ individuals among the μ… + λ candidates. -/
theorem plusBestStep_size {σ : Type} {ops : Ops σ} (mu lam : Nat) (hle : mu ≤ lam)
    (choices : List Choice) : SizeIs (plusBestStep ops mu lam choices) (fun _ => mu) := by
  intro t st pop r h np hpop hp hr
  cases hr
  have hcount : r.off.length = lam := varOr_length hp
  show (selBest _ (pop ++ r.off) mu).length = mu
  rw [length_selBest, List.length_append]
  omega

theorem writeAll_next_le (s : St) (ws : List (Nat × Obj)) : s.next ≤ (writeAll s ws).next := by
  induction ws generalizing s with
  | nil => simp [writeAll]
  | cons w ws ih => exact Nat.le_trans (Nat.le_max_left _ (w.1 + 1)) (ih ⟨_, _, _⟩)

theorem writeAll_alloc (s : St) (ws : List (Nat × Obj)) : ∀ w ∈ ws, w.1 < (writeAll s ws).next := by
  induction ws generalizing s with
  | nil => simp
  | cons w ws ih =>
    intro x hx
    rcases List.mem_cons.1 hx with e | e
    · subst e
      exact Nat.lt_of_lt_of_le (show x.1 < max s.next (x.1 + 1) by omega) (writeAll_next_le ⟨_, _, _⟩ ws)
    · exact ih _ x e

theorem gu_produce {σ : Type} {objs : List (Nat × Obj)} {order : List Nat} {t : σ} {st : St} {pop : List Nat}
    {r : Res σ} (h : (guStep objs order).produce t st pop = some r) :
    (objs.map (·.1)).Nodup ∧ r.st = writeAll st objs ∧ r.off = objs.map (·.1) := by
  simp only [guStep] at h
  split at h
  next hnd => cases h; exact ⟨by simpa using hnd, rfl, rfl⟩
  · simp at h

theorem isPerm_length (order : List Nat) (n : Nat) (h : isPerm order n = true) : order.length = n := by
  simp only [isPerm, Bool.and_eq_true, beq_iff_eq] at h; exact h.1

theorem gu_replace {σ : Type} {objs : List (Nat × Obj)} {order : List Nat} {h : Heap} {pop off np : List Nat}
    (hr : (guStep (σ := σ) objs order).replace h pop off = some np) : np.length = off.length ∧ ∀ o ∈ np, o ∈ off := by
  obtain ⟨hperm, hlen, hmem⟩ := pickAll_guard hr
  exact ⟨hlen.trans (isPerm_length _ _ hperm), hmem⟩

theorem guStep_contract {σ : Type} (objs : List (Nat × Obj)) (order : List Nat) :
    StepContract (guStep (σ := σ) objs order) where
  next_le := fun t st pop r _ h => (gu_produce h).2.1 ▸ writeAll_next_le st objs
  off_alloc := fun t st pop r _ h o ho => by
    obtain ⟨_, hst, hoff⟩ := gu_produce h
    obtain ⟨w, hw, rfl⟩ := List.mem_map.1 (hoff ▸ ho)
    exact hst ▸ writeAll_alloc st objs w hw
  frame := fun hall => by cases hall
  fresh := fun hall => by cases hall
  nodup := fun t st pop r _ h => (gu_produce h).2.2 ▸ (gu_produce h).1
  copy_or_invalid := fun hall => by cases hall
  replace_mem := fun h pop off np hr o ho => Or.inr ((gu_replace hr).2 o ho)
  replace_off := fun _ h pop off np hr => (gu_replace hr).2

theorem guStep_size {σ : Type} (objs : List (Nat × Obj)) (order : List Nat) :
    SizeIs (guStep (σ := σ) objs order) (fun _ => objs.length) := fun _ _ _ _ _ _ _ hp hr => by
  rw [(gu_replace hr).1, (gu_produce hp).2.2, List.length_map]

theorem harmGen_vary {σ : Type} {ops : Ops σ} (hc : OpContract ops) (pop : List Nat) {δ : Type} {t t1 : σ}
    {s s1 : St} {g : HStep δ} {asp : List Nat} (h : harmGen ops pop t s g = some (t1, s1, asp)) :
    Vary s.heap s.next pop s1.heap s1.next asp := by
  cases g <;> simp only [harmGen, reduceCtorEq] at h <;> split at h <;>
    simp only [Option.some.injEq, Prod.mk.injEq, reduceCtorEq] at h <;> obtain ⟨_, rfl, rfl⟩ := h
  · next p q hp hq _ =>
    have e := (hc.mate_eff (t := t) (h := (clone (clone s p).1 q).1.heap) (n := s.next + 1 + 1) rfl
      (show s.next ≠ s.next + 1 by omega))
    refine ⟨((clone_eff s p).trans (clone_eff (clone s p).1 q) (by simp)).trans
      ((e.delFit (List.mem_cons_self ..)).delFit (List.mem_cons_of_mem _ (List.mem_cons_self ..))) (by simp; omega),
      fun o ho => Or.inl ?_⟩
    simp only [List.mem_cons, List.not_mem_nil, or_false] at ho
    rcases ho with rfl | rfl
    · exact delFit_fit_none _ _ _ (by simp)
    · simp
  · next p hp _ =>
    exact ⟨(clone_eff s p).trans ((hc.mutate_eff (t := t) rfl).delFit (List.mem_cons_self ..)) (by simp),
      fun o ho => Or.inl (by cases List.mem_singleton.1 ho; simp)⟩
  · next p hp _ =>
    exact ⟨clone_eff s p, fun o ho => Or.inr ⟨p, List.mem_of_getElem? hp, by cases List.mem_singleton.1 ho; simp⟩⟩

theorem acceptInto_sublist (n : Nat) :
    ∀ (asp : List Nat) (produced : List Nat) (accs : List Bool),
      (acceptInto n produced asp accs).Sublist (produced ++ asp)
  | [], produced, accs => by simp [acceptInto]
  | a :: as, produced, [] => by simp [acceptInto]
  | a :: as, produced, c :: cs => by
    simp only [acceptInto]
    split
    · simpa [List.append_assoc] using acceptInto_sublist n as (produced ++ [a]) cs
    · exact (acceptInto_sublist n as produced cs).trans
        (List.Sublist.append (List.Sublist.refl produced) (List.sublist_cons_self a as))

/-- `_genpop`: whatever it has picked up and produced so far was bred from the population as it was at the start
(`h0`, `n0`), and it ends with exactly `n` produced. -/
theorem genpop_spec {σ δ : Type} {ops : Ops σ} (hc : OpContract ops) (pop : List Nat) (h0 : Heap) (n0 : Nat)
    (hpop : ∀ p ∈ pop, p < n0) (n : Nat) (accept : St → Nat → δ → Bool) :
    ∀ (steps : List (HStep δ)) (t : σ) (s : St) (pickfrom produced : List Nat) (t' : σ) (s' : St)
      (pf' prod' : List Nat),
      genpop ops pop n accept steps t s pickfrom produced = some (t', s', pf', prod') →
      Vary h0 n0 pop s.heap s.next (pickfrom ++ produced) →
      Vary h0 n0 pop s'.heap s'.next (pf' ++ prod') ∧ prod'.length = n
  | [], t, s, pickfrom, produced, t', s', pf', prod', h, hv => by
    simp only [genpop] at h
    split at h
    next hlen =>
      obtain ⟨_, rfl, rfl, rfl⟩ := h
      exact ⟨hv, hlen⟩
    · simp at h
  | stp :: rest, t, s, pickfrom, produced, t', s', pf', prod', h, hv => by
    simp only [genpop] at h
    split at h
    case isFalse => simp at h
    split at h
    next acc a hlast =>
      -- pickfrom.pop()
      obtain ⟨ys, rfl⟩ := List.getLast?_eq_some_iff.1 hlast
      rw [List.dropLast_concat] at h
      refine genpop_spec hc pop h0 n0 hpop n accept rest t s _ _ t' s' pf' prod' h ?_
      split
      · exact hv.subset ((List.perm_append_comm.append_left ys).nodup_iff.1 (by simpa using hv.1.nodup))
          fun o ho => by simp at ho ⊢; exact ho.imp_right Or.symm
      · exact hv.subset (hv.1.nodup.sublist (by simp)) fun o ho => by simp at ho ⊢; exact ho.imp_right Or.inr
    · simp at h
    · simp at h
    next g _ _ _ hlast =>
      cases List.getLast?_eq_none_iff.1 hlast
      split at h
      · simp at h
      next t1 s1 asp hgen =>
        have hv1 := hv.append (harmGen_vary hc pop hgen) hpop
        have hsub := acceptInto_sublist n asp produced (List.zipWith (fun a d => accept s1 a d) asp g.accs)
        exact genpop_spec hc pop h0 n0 hpop n accept rest t1 s1 [] _ t' s' pf' prod' h
          (hv1.subset (hv1.1.nodup.sublist hsub) hsub.subset)

theorem harm_produce {σ δ : Type} {ops : Ops σ} {nbr : Nat}
    {mk : St → List Nat → List Nat → Option (St → Nat → δ → Bool)} {d : HarmDec δ} {t : σ} {st : St}
    {pop : List Nat} {r : Res σ} (h : (harmStepG ops nbr mk d).produce t st pop = some r) :
    ∃ t1 s1 pf1 natural pf2 acc,
      genpop ops pop nbr (fun _ _ _ => true) d.natural t st [] [] = some (t1, s1, pf1, natural) ∧
      genpop ops pop pop.length acc d.accepted t1 s1 natural [] = some (r.tape, r.st, pf2, r.off) := by
  simp only [harmStepG] at h
  split at h
  · simp at h
  next t1 s1 pf1 natural h1 =>
    split at h
    · simp at h
    next acc hacc =>
      split at h
      · simp at h
      next t2 s2 pf2 off h2 =>
        cases h
        exact ⟨t1, s1, pf1, natural, pf2, acc, h1, h2⟩

theorem harm_produce_vary {σ δ : Type} {ops : Ops σ} (hc : OpContract ops) {nbr : Nat}
    {mk : St → List Nat → List Nat → Option (St → Nat → δ → Bool)} {d : HarmDec δ} {t : σ}
    {st : St} {pop : List Nat} {r : Res σ} (hpop : ∀ p ∈ pop, p < st.next)
    (h : (harmStepG ops nbr mk d).produce t st pop = some r) :
    Vary st.heap st.next pop r.st.heap r.st.next r.off ∧ r.off.length = pop.length := by
  obtain ⟨t1, s1, pf1, natural, pf2, acc, h1, h2⟩ := harm_produce h
  obtain ⟨v1, _⟩ := genpop_spec hc pop st.heap st.next hpop nbr _ _ _ _ _ _ _ _ _ _ h1
    ⟨Eff.refl _ _ List.nodup_nil, by simp⟩
  obtain ⟨v2, hlen⟩ := genpop_spec hc pop st.heap st.next hpop pop.length acc _ _ _ _ _ _ _ _ _ h2
    (by simpa using v1.subset (List.nodup_append.1 v1.1.nodup).2.1 (fun o ho => List.mem_append_right _ ho))
  exact ⟨v2.subset (List.nodup_append.1 v2.1.nodup).2.1 (fun o ho => List.mem_append_right _ ho), hlen⟩

/-- Whatever the acceptance function of the second `_genpop` is (Booleans read off the tape, or the
modelled arithmetic on the recorded draws), a HARM generation meets the step contract. -/
theorem harmStepG_contract {σ δ : Type} {ops : Ops σ} (hc : OpContract ops) (nbr : Nat)
    (mk : St → List Nat → List Nat → Option (St → Nat → δ → Bool)) (d : HarmDec δ) :
    StepContract (harmStepG ops nbr mk d) :=
  .of_vary rfl (fun _ _ _ _ hpop h => (harm_produce_vary hc hpop h).1)
    fun h pop off np hr o ho => by cases hr; exact Or.inr ho

theorem harmStepG_size {σ δ : Type} {ops : Ops σ} (hc : OpContract ops) (nbr : Nat)
    (mk : St → List Nat → List Nat → Option (St → Nat → δ → Bool)) (d : HarmDec δ) :
    SizeIs (harmStepG ops nbr mk d) id := by
  intro t st pop r h np hpop hp hr
  cases hr
  exact (harm_produce_vary hc hpop hp).2

end Loops
