/-
C14 helper lemmas: shape invariants (lengths of vectors, `n × n` matrices) through the constraint
update of the active strategy; membership lemmas for `_select`.
-/
import DeapModel.Lemmas.C14Bridge
import DeapModel.Lemmas.C14Select

namespace C14Shapes
open CmaElitist CmaElitist.LA C14Bridge

section Act
open Active
variable {φ : Type}

theorem length_vzero (n : Nat) : (vzero n : List ℝ).length = n := by simp [vzero]

theorem cvecs_shape (s : State φ ℝ) (ind : AInd φ ℝ) (n : Nat) (hdim : s.dim = n)
    (hy : ind.y.length = n) (hcv : ∀ vs, s.constraintVecs = some vs → ∀ v ∈ vs, v.length = n) :
    ∀ v ∈ constraintVecsUpdate s ind, v.length = n := by
  unfold constraintVecsUpdate
  have key : ∀ (c : ℝ) (vecs0 : List (List ℝ)), (∀ v ∈ vecs0, v.length = n) →
      ∀ v ∈ (List.zip vecs0 ind.cv).map (fun vc =>
        if vc.2 then vadd (vscale c vc.1) (vscale s.prm.cconst ind.y) else vc.1),
        v.length = n := by
    intro c vecs0 h0 v hv
    simp only [List.mem_map] at hv
    obtain ⟨vc, hvc, rfl⟩ := hv
    have h1 := h0 vc.1 (List.of_mem_zip hvc).1
    split
    · simp [h1, hy]
    · exact h1
  cases hc : s.constraintVecs with
  | none =>
    apply key _
    intro v hv
    simp only [List.mem_replicate] at hv
    rw [hv.2, hdim]; exact length_vzero n
  | some vs => exact key _ vs (hcv vs hc)

theorem aPrime_shape (beta : ℝ) (A invA : List (List ℝ)) (vecs : List (List ℝ)) (cv : List Bool)
    (n : Nat) (hA : IsMat n A) (hI : IsMat n invA) (hv : ∀ v ∈ vecs, v.length = n)
    (A' : List (List ℝ)) (h : aPrime beta A invA vecs cv = some A') : IsMat n A' := by
  unfold aPrime at h
  simp only at h
  have hterm : ∀ t ∈ ((List.zip (List.zip vecs (vecs.map (fun v => matVec invA v))) cv).filter (·.2)).map
      (fun t => mdivs (outer t.1.1 t.1.2) (dot t.1.2 t.1.2)), IsMat n t := by
    intro t ht
    simp only [List.mem_map, List.mem_filter] at ht
    obtain ⟨x, ⟨hx, _⟩, rfl⟩ := ht
    have hx1 := List.of_mem_zip (List.of_mem_zip hx).1
    obtain ⟨v, _, hv2⟩ := List.mem_map.1 hx1.2
    obtain ⟨u, hu⟩ := exists_lv (hv _ hx1.1)
    obtain ⟨w, hw⟩ := exists_lv (n := n) (v := x.1.2) (by rw [← hv2, length_matVec, hI.1])
    rw [hu, hw, outer_lv, mdivs_lm]; exact isMat_lm _
  split at h
  · cases h
  · next t0 ts heq =>
    obtain rfl := Option.some.inj h
    rw [heq] at hterm
    have hF := List.foldlRecOn ts madd (motive := IsMat n) (hterm t0 List.mem_cons_self) fun b hb t ht => by
      obtain ⟨B, rfl⟩ := exists_lm hb
      obtain ⟨T, rfl⟩ := exists_lm (hterm t (List.mem_cons_of_mem _ ht))
      rw [madd_lm]; exact isMat_lm _
    obtain ⟨A, rfl⟩ := exists_lm hA
    obtain ⟨F, hF⟩ := exists_lm hF
    rw [hF, mscale_lm, msub_lm]; exact isMat_lm _

end Act

section Sel
open MO C14Select
variable {ι : Type}

theorem dropLeast_mem (indicator : List ι → Nat) : ∀ (cnt : Nat) (mid nc mid' nc' : List ι),
    dropLeast indicator cnt mid nc = some (mid', nc') → ∀ x ∈ mid', x ∈ mid
  | 0, mid, nc, mid', nc', h => by
    obtain ⟨rfl, _⟩ := h; exact fun x hx => hx
  | cnt + 1, mid, nc, mid', nc', h => by
    simp only [dropLeast] at h
    cases hg : mid[indicator mid]? with
    | none => rw [hg] at h; cases h
    | some y =>
      rw [hg] at h
      intro x hx
      have := dropLeast_mem indicator cnt _ _ mid' nc' h x hx
      exact (List.eraseIdx_sublist _ _).subset this

theorem fill_mem (mu : Nat) (fs : List (List ι)) :
    (∀ x ∈ (fillFronts mu fs [] none [] false).1, x ∈ fs.flatten) ∧
    (∀ m, (fillFronts mu fs [] none [] false).2.1 = some m → m ∈ fs) := by
  rw [fill_start]
  refine ⟨fun x hx => (List.take_sublist _ fs).flatten.subset hx, fun m hm => ?_⟩
  dsimp only at hm
  split at hm
  · exact List.mem_of_mem_drop (List.mem_of_mem_head? hm)
  · cases hm
theorem selectFronts_mem (mu : Nat) (fronts : List (List ι)) (indicator : List ι → Nat)
    (cands c nc : List ι) (h : selectFronts mu fronts indicator cands = some (c, nc)) :
    ∀ x ∈ c, x ∈ cands ∨ x ∈ fronts.flatten := by
  obtain ⟨a, b⟩ := fill_mem mu fronts
  unfold selectFronts at h
  split at h
  · cases h; exact fun x hx => Or.inl hx
  · dsimp only at h
    split at h
    · split at h
      · cases h
      · next mid hm =>
        split at h
        · cases h
        · next mid' nc' hd =>
          cases h
          intro x hx
          rcases List.mem_append.1 hx with hx | hx
          · exact Or.inr (a x hx)
          · exact Or.inr (List.mem_flatten.2 ⟨mid, b mid hm, dropLeast_mem indicator _ _ _ _ _ hd x hx⟩)
    · cases h; exact fun x hx => Or.inr (a x hx)
end Sel

end C14Shapes
