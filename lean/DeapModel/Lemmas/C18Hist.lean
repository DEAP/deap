/-
C18 helper lemmas: whole histories — the specification on the plain list of surviving records, the
representation invariants along a history (flat records: `Rep`; records with sub-dictionaries: `RepDeep`),
the stream invariant (delivered / not yet delivered rows), header counting.
-/
import DeapModel.Lemmas.C18Rep

namespace C18L
open Logbook

/-- what an operation does to the list of surviving records, by list semantics alone -/
def specStep (es : List Entry) : Op → List Entry
  | .record e => es ++ [e]
  | .pop i => match pos? es.length i with | some p => es.eraseIdx p | none => es
  | .delIndex i => match pos? es.length i with | some p => es.eraseIdx p | none => es
  | .delSlice idx => removeIdx idx es
  | _ => es

def specRunFrom (es : List Entry) (ops : List Op) : List Entry := ops.foldl specStep es
def specRun (ops : List Op) : List Entry := specRunFrom [] ops

/-- premise of the chapter clauses for one operation, `es` being the surviving records before it:
records carry exactly the chapters `C` (DESIGN §6), slice index lists are what `slice.indices`
produces (distinct, in range).  Integer indices of `pop` / `del` may be anything (out of range:
`IndexError`, nothing changes). -/
def OpOk (C : List Name) (es : List Entry) : Op → Prop
  | .record e => EntryOk C e
  | .delSlice idx => idx.Nodup ∧ ∀ i ∈ idx, i < es.length
  | _ => True

def Valid (C : List Name) : List Entry → List Op → Prop
  | _, [] => True
  | es, o :: os => OpOk C es o ∧ Valid C (specStep es o) os

/-- premise for one operation when every record carries the chapter tree `sh` (at every level) -/
def OpOkDeep (sh : Shape) (es : List Entry) : Op → Prop
  | .record e => Fits [] sh e
  | .delSlice idx => idx.Nodup ∧ ∀ i ∈ idx, i < es.length
  | _ => True

/-- `Valid` for nested dictionaries: every record of the history carries the chapter tree `sh` -/
def ValidDeep (sh : Shape) : List Entry → List Op → Prop
  | _, [] => True
  | es, o :: os => OpOkDeep sh es o ∧ ValidDeep sh (specStep es o) os

theorem Valid.deep {C : List Name} {ops : List Op} {es : List Entry} (hv : Valid C es ops) :
    ValidDeep (flatShape C) es ops := by
  induction ops generalizing es with
  | nil => trivial
  | cons o os ih => exact ⟨by cases o <;> first | exact fits_flatShape C _ hv.1 | exact hv.1, ih hv.2⟩

theorem valid_append {C : List Name} (xs ys : List Op) (es : List Entry) :
    Valid C es (xs ++ ys) ↔ Valid C es xs ∧ Valid C (specRunFrom es xs) ys := by
  induction xs generalizing es with
  | nil => exact ⟨fun h => ⟨trivial, h⟩, fun h => h.2⟩
  | cons o os ih => simp only [List.cons_append, Valid, ih, specRunFrom, List.foldl_cons, and_assoc]

theorem valid_snoc_stream {C : List Name} {ops : List Op} (hv : Valid C [] ops) : Valid C [] (ops ++ [.stream]) :=
  (valid_append ops _ []).2 ⟨hv, trivial, trivial⟩

theorem runFrom_append (lb : LB) (xs ys : List Op) :
    runFrom lb (xs ++ ys) = runFrom (runFrom lb xs) ys := List.foldl_append

theorem run_snoc_stream (ops : List Op) : run (ops ++ [.stream]) = (stream (run ops)).2 :=
  runFrom_append _ ops _

theorem step_rep {C : List Name} {lb : LB} {es : List Entry} (h : Rep C lb es) (o : Op)
    (ho : OpOk C es o) : Rep C (step lb o).1 (specStep es o) := by
  cases o
  case record e => exact h.record e ho
  case select | str => exact h
  case pickle => rw [show (step lb .pickle).1 = lb from pickle_eq lb]; exact h
  case stream => cases lb; exact h.congr rfl rfl (Nat.le_refl _)
  case setHeader | setLogHeader => cases lb; exact h.congr rfl rfl h.buff
  case streamAt c rest =>
    exact .of_shaped (modifyAt_shaped _ _ _ h.shaped) ((modifyAt_stream_rows _ lb).trans h.rows)
      fun k hk => (chRows_streamAt _ k lb).symm ▸ h.chapters k hk
  case pop i | delIndex i =>
    simp only [step, specStep, delIndex_eq_pop]
    cases hp : pos? es.length i with
    | none => rw [pop_out_deep i lb h.deep (h.length ▸ hp)]; exact h
    | some p => rw [pop_deep i p lb h.deep (h.length ▸ hp)]; exact h.erase p
  case delSlice idx => exact (h.delSlice idx ho.1 ho.2).1

theorem history_rep {C : List Name} (ops : List Op) {lb : LB} {es : List Entry} (h : Rep C lb es)
    (hv : Valid C es ops) : Rep C (runFrom lb ops) (specRunFrom es ops) := by
  induction ops generalizing lb es with
  | nil => exact h
  | cons o os ih => exact ih (step_rep h o hv.1) hv.2

/-- aligned w.r.t. the chapter tree `sh`, and the rows are the surviving records -/
structure RepDeep (sh : Shape) (lb : LB) (es : List Entry) : Prop where
  shaped : ShapedAligned sh lb
  rows : lb.rows = es.map Entry.scalars

theorem RepDeep.length {sh : Shape} {lb : LB} {es : List Entry} (h : RepDeep sh lb es) : lb.rows.length = es.length := by
  rw [h.rows, List.length_map]

theorem RepDeep.deep {sh : Shape} {lb : LB} {es : List Entry} (h : RepDeep sh lb es) : DeepAligned lb :=
  shaped_deep sh lb h.shaped

theorem step_repDeep {sh : Shape} {lb : LB} {es : List Entry} (h : RepDeep sh lb es) (o : Op)
    (ho : OpOkDeep sh es o) : RepDeep sh (step lb o).1 (specStep es o) := by
  have hlen := h.length
  have hd := h.deep
  cases o
  case record e =>
    exact ⟨record_shaped sh e [] lb ho h.shaped, (record_rows e lb).trans (by rw [h.rows, specStep, List.map_append]; rfl)⟩
  case select | str => exact h
  case pickle => rw [show (step lb .pickle).1 = lb from pickle_eq lb]; exact h
  case stream => exact ⟨stream_shaped sh lb h.shaped, (stream_state lb).1.trans h.rows⟩
  case setHeader | setLogHeader => cases lb; exact ⟨h.shaped.congr rfl rfl hd.1, h.rows⟩
  case streamAt c rest => exact ⟨modifyAt_shaped _ sh lb h.shaped, (modifyAt_stream_rows _ lb).trans h.rows⟩
  case pop i | delIndex i =>
    simp only [step, specStep, delIndex_eq_pop]
    cases hp : pos? es.length i with
    | none => rw [pop_out_deep i lb hd (hlen ▸ hp)]; exact h
    | some p =>
      rw [pop_deep i p lb hd (hlen ▸ hp)]
      exact ⟨erase_shaped sh lb p h.shaped, by rw [eraseDeep_rows, h.rows, List.eraseIdx_map]⟩
  case delSlice idx =>
    rw [step_delSlice hd ho.1 (hlen ▸ ho.2)]
    exact ⟨eraseAll_shaped sh _ lb h.shaped, by
      rw [eraseAllDeep_rows, eraseAll_sortDesc idx ho.1, h.rows, removeIdx_map]; rfl⟩

theorem history_repDeep {sh : Shape} (ops : List Op) {lb : LB} {es : List Entry} (h : RepDeep sh lb es)
    (hv : ValidDeep sh es ops) : RepDeep sh (runFrom lb ops) (specRunFrom es ops) := by
  induction ops generalizing lb es with
  | nil => exact h
  | cons o os ih => exact ih (step_repDeep h o hv.1) hv.2

theorem validDeep_prefix_deep {sh : Shape} {ops : List Op} {lb : LB} {es : List Entry} (h : RepDeep sh lb es)
    (hv : ValidDeep sh es ops) {pre : List Op} (hp : pre <+: ops) : DeepAligned (runFrom lb pre) := by
  obtain ⟨suf, rfl⟩ := hp
  induction pre generalizing lb es with
  | nil => exact h.deep
  | cons o os ih => exact ih (step_repDeep h o hv.1) hv.2

/-- `D` = everything delivered so far.  The rows split into the delivered ones (`buffindex` of
them, at the front) and the ones not yet delivered. -/
def Inv (lb : LB) (D : List Row) : Prop :=
  ∃ A B, lb.rows = A ++ B ∧ lb.buffindex = A.length ∧ (A ++ B).Nodup ∧ D.Nodup ∧
    (∀ r ∈ A, r ∈ D) ∧ (∀ r ∈ B, r ∉ D)

theorem Inv.empty : Inv LB.empty [] := ⟨[], [], rfl, rfl, .nil, .nil, fun _ h => (nomatch h), fun _ h => (nomatch h)⟩

theorem Inv.congr {lb lb' : LB} {D : List Row} (h : Inv lb D) (hr : lb'.rows = lb.rows)
    (hb : lb'.buffindex = lb.buffindex) : Inv lb' D := by
  obtain ⟨A, B, h1, h2, h3⟩ := h
  exact ⟨A, B, hr ▸ h1, hb ▸ h2, h3⟩

theorem Inv.buff_le {lb : LB} {D : List Row} (h : Inv lb D) : lb.buffindex ≤ lb.rows.length := by
  obtain ⟨A, B, h1, h2, _⟩ := h
  rw [h1, List.length_append]; omega

theorem Inv.nodup {lb : LB} {D : List Row} (h : Inv lb D) : D.Nodup := by
  obtain ⟨_, _, _, _, _, h4, _⟩ := h; exact h4

/-- the rows before the stream position have been delivered … -/
theorem Inv.delivered {lb : LB} {D : List Row} (h : Inv lb D) : ∀ r ∈ lb.rows.take lb.buffindex, r ∈ D := by
  obtain ⟨A, B, h1, h2, _, _, h5, _⟩ := h
  rw [h1, h2, List.take_left' rfl]; exact h5

/-- … and those from it on have not -/
theorem Inv.pending {lb : LB} {D : List Row} (h : Inv lb D) : ∀ r ∈ lb.rows.drop lb.buffindex, r ∉ D := by
  obtain ⟨A, B, h1, h2, _, _, _, h6⟩ := h
  rw [h1, h2, List.drop_left' rfl]; exact h6

theorem Inv.erase {lb : LB} {D : List Row} (h : Inv lb D) (p : Nat) : Inv (eraseDeep p lb) D := by
  obtain ⟨A, B, h1, h2, h3, h4, h5, h6⟩ := h
  have hsub : ∀ {l : List Row} (k : Nat), ∀ r ∈ l.eraseIdx k, r ∈ l := fun _ _ => List.mem_of_mem_eraseIdx
  by_cases hpa : p < A.length
  · refine ⟨A.eraseIdx p, B, ?_, ?_, ?_, h4, fun r hr => h5 r (hsub p r hr), h6⟩
    · rw [eraseDeep_rows, h1, List.eraseIdx_append_of_lt_length hpa]
    · rw [eraseDeep_buffindex, h2, if_pos hpa, List.length_eraseIdx_of_lt hpa]
    · exact List.eraseIdx_append_of_lt_length hpa B ▸ h3.sublist (List.eraseIdx_sublist _ _)
  · have hpa' : A.length ≤ p := Nat.le_of_not_lt hpa
    refine ⟨A, B.eraseIdx (p - A.length), ?_, ?_, ?_, h4, h5, fun r hr => h6 r (hsub _ r hr)⟩
    · rw [eraseDeep_rows, h1, List.eraseIdx_append_of_length_le hpa']
    · rw [eraseDeep_buffindex, h2, if_neg hpa]
    · exact List.eraseIdx_append_of_length_le hpa' B ▸ h3.sublist (List.eraseIdx_sublist _ _)

theorem Inv.eraseEach {lb : LB} {D : List Row} (h : Inv lb D) (ds : List Nat) : Inv (eraseAllDeep ds lb) D := by
  induction ds generalizing lb with
  | nil => exact h
  | cons i is ih => exact ih (h.erase i)

theorem Inv.pop {lb : LB} {D : List Row} (h : Inv lb D) (hd : DeepAligned lb) (i : Int) :
    Inv (Logbook.pop i lb).2 D := by
  cases hp : pos? lb.rows.length i with
  | none => rw [pop_out_deep i lb hd hp]; exact h
  | some p => rw [pop_deep i p lb hd hp]; exact h.erase p

theorem Inv.delIndex {lb : LB} {D : List Row} (h : Inv lb D) (hd : DeepAligned lb) (i : Int) :
    Inv (Logbook.delIndex i lb).1 D ∧ ∀ r ∈ (Logbook.delIndex i lb).1.rows, r ∈ lb.rows := by
  rw [delIndex_eq_pop]; exact ⟨h.pop hd i, fun r hr => (pop_frame i lb).1.subset hr⟩

theorem Inv.stream {lb : LB} {D : List Row} (h : Inv lb D) :
    Inv (Logbook.stream lb).2 (D ++ (Logbook.stream lb).1.rows) ∧
    ∀ r ∈ (Logbook.stream lb).1.rows, r ∈ lb.rows := by
  obtain ⟨A, B, h1, h2, h3, h4, h5, h6⟩ := h
  obtain ⟨e1, _, e3, _⟩ := stream_state lb
  have hrows : (Logbook.stream lb).1.rows = B := by rw [stream_text, txt_rows, h1, h2, List.drop_left]
  rw [hrows]
  refine ⟨⟨A ++ B, [], by rw [e1, h1, List.append_nil], by rw [e3, h1], by rwa [List.append_nil], ?_, ?_,
    fun _ h => (nomatch h)⟩, fun r hr => h1 ▸ List.mem_append_right _ hr⟩
  · exact List.nodup_append.2 ⟨h4, (List.nodup_append.1 h3).2.1, fun a ha b hb e => h6 b hb (e ▸ ha)⟩
  · exact fun r hr => (List.mem_append.1 hr).elim (fun hr => List.mem_append_left _ (h5 r hr)) (List.mem_append_right _)

theorem Inv.record {lb : LB} {D : List Row} (h : Inv lb D) (e : Entry)
    (h1 : e.scalars ∉ lb.rows) (h2 : e.scalars ∉ D) : Inv (Logbook.record e lb) D := by
  obtain ⟨A, B, g1, g2, g3, g4, g5, g6⟩ := h
  refine ⟨A, B ++ [e.scalars], ?_, (recordAux_fields [] e lb).1.trans g2, ?_, g4, g5, ?_⟩
  · rw [record_rows, g1, List.append_assoc]
  · rw [← List.append_assoc]
    exact List.nodup_append.2 ⟨g3, List.nodup_singleton _,
      fun a ha b hb e' => h1 (g1 ▸ List.mem_singleton.1 hb ▸ e' ▸ ha)⟩
  · exact fun r hr => (List.mem_append.1 hr).elim (g6 r) fun hr => List.mem_singleton.1 hr ▸ h2

/-- the rows recorded by a history (the scalar parts of the `record` operations) -/
def recordedOf : List Op → List Row
  | [] => []
  | .record e :: os => e.scalars :: recordedOf os
  | _ :: os => recordedOf os

theorem recordedOf_append (xs ys : List Op) : recordedOf (xs ++ ys) = recordedOf xs ++ recordedOf ys := by
  induction xs with
  | nil => rfl
  | cons o os ih => cases o <;> simp [recordedOf, ih]

/-- what one operation delivers on the stream -/
def streamOf (lb : LB) : Op → List Text
  | .stream => [(stream lb).1]
  | _ => []

theorem streamsFrom_cons (lb : LB) (o : Op) (os : List Op) :
    streamsFrom lb (o :: os) = streamOf lb o ++ streamsFrom (step lb o).1 os := by
  cases o <;> rfl

theorem step_frame (lb : LB) (o : Op) :
    (∀ r ∈ (step lb o).1.rows, r ∈ lb.rows ∨ r ∈ recordedOf [o]) ∧
    (lb.headerStreamed = true → (step lb o).1.headerStreamed = true) := by
  cases o
  case record e =>
    refine ⟨fun r hr => ?_, (recordAux_fields [] e lb).2.2.2.trans⟩
    exact List.mem_append.1 (record_rows e lb ▸ hr)
  case stream =>
    exact ⟨fun r hr => Or.inl ((stream_state lb).1 ▸ hr), fun h => by
      rw [show (step lb .stream).1 = (stream lb).2 from rfl, (stream_header lb).2, h]; rfl⟩
  case pop i => exact ⟨fun r hr => Or.inl ((pop_frame i lb).1.subset hr), (pop_frame i lb).2.trans⟩
  case delIndex i =>
    have := delIndex_eq_pop lb i ▸ pop_frame i lb
    exact ⟨fun r hr => Or.inl (this.1.subset hr), this.2.trans⟩
  case delSlice idx => exact ⟨fun r hr => Or.inl ((delEach_frame _ lb).1.subset hr), (delEach_frame _ lb).2.trans⟩
  case streamAt c rest =>
    exact ⟨fun r hr => Or.inl (modifyAt_stream_rows _ lb ▸ hr), (modifyAt_cons_state _ c rest lb).2.2.2.1.trans⟩
  all_goals cases lb; exact ⟨fun r hr => Or.inl hr, id⟩

theorem inv_step {sh : Shape} {lb : LB} {es : List Entry} {D : List Row} (hrep : RepDeep sh lb es)
    (h : Inv lb D) (o : Op) (ho : OpOkDeep sh es o) (hnew : ∀ r ∈ recordedOf [o], r ∉ lb.rows ∧ r ∉ D) :
    Inv (step lb o).1 (D ++ (streamOf lb o).flatMap (·.rows)) := by
  cases o
  case stream => exact (List.flatMap_singleton ..).symm ▸ h.stream.1
  all_goals rw [show (streamOf lb _).flatMap (·.rows) = [] from rfl, List.append_nil]
  case record e => exact h.record e (hnew _ (List.mem_singleton_self _)).1 (hnew _ (List.mem_singleton_self _)).2
  case pop i => exact h.pop hrep.deep i
  case delIndex i => exact (h.delIndex hrep.deep i).1
  case delSlice idx =>
    rw [step_delSlice hrep.deep ho.1 (hrep.length ▸ ho.2)]
    exact h.eraseEach _
  case streamAt c rest => exact h.congr (modifyAt_stream_rows _ lb) (modifyAt_cons_state _ c rest lb).2.1
  all_goals cases lb; exact h

theorem streamed_subset (ops : List Op) (lb : LB) :
    ∀ r ∈ (streamsFrom lb ops).flatMap (·.rows), r ∈ lb.rows ∨ r ∈ recordedOf ops := by
  induction ops generalizing lb with
  | nil => exact fun _ h => (nomatch h)
  | cons o os ih =>
    intro r hr
    rw [streamsFrom_cons, List.flatMap_append, List.mem_append] at hr
    rw [show o :: os = [o] ++ os from rfl, recordedOf_append, List.mem_append]
    rcases hr with hr | hr
    · cases o <;> first | exact absurd hr List.not_mem_nil | skip
      rw [show streamOf lb .stream = [(stream lb).1] from rfl, List.flatMap_singleton, stream_text,
        txt_rows] at hr
      exact Or.inl (List.mem_of_mem_drop hr)
    · rcases ih _ r hr with h' | h'
      · exact ((step_frame lb o).1 r h').imp id Or.inl
      · exact Or.inr (Or.inr h')

theorem stream_inv {sh : Shape} (ops : List Op) (lb : LB) (es : List Entry) (D : List Row)
    (hrep : RepDeep sh lb es) (hv : ValidDeep sh es ops) (h : Inv lb D)
    (hn : (recordedOf ops).Nodup) (hf : ∀ r ∈ recordedOf ops, r ∉ lb.rows ∧ r ∉ D) :
    Inv (runFrom lb ops) (D ++ (streamsFrom lb ops).flatMap (·.rows)) := by
  induction ops generalizing lb es D with
  | nil => exact (List.append_nil D).symm ▸ h
  | cons o os ih =>
    rw [show o :: os = [o] ++ os from rfl, recordedOf_append] at hn hf
    obtain ⟨-, hn2, hn3⟩ := List.nodup_append.1 hn
    rw [streamsFrom_cons, List.flatMap_append, ← List.append_assoc]
    refine ih _ _ _ (step_repDeep hrep o hv.1) hv.2
      (inv_step hrep h o hv.1 fun r hr => hf r (List.mem_append_left _ hr)) hn2 fun r hr => ?_
    obtain ⟨f1, f2⟩ := hf r (List.mem_append_right _ hr)
    refine ⟨fun hm => ((step_frame lb o).1 r hm).elim f1 fun hm => hn3 r hm r hr rfl, fun hm => ?_⟩
    rcases List.mem_append.1 hm with hm | hm
    · exact f2 hm
    · cases o <;> first | exact absurd hm List.not_mem_nil | skip
      exact f1 (h.stream.2 r (by simpa [streamOf] using hm))

theorem run_inv {sh : Shape} {ops : List Op} (hv : ValidDeep sh [] ops) (hd : (recordedOf ops).Nodup) :
    Inv (run ops) (delivered ops) :=
  stream_inv ops LB.empty [] [] ⟨shaped_empty sh, rfl⟩ hv Inv.empty hd fun _ _ => ⟨List.not_mem_nil, List.not_mem_nil⟩

/-- the header blocks delivered from `lb` on, plus one if the header had been delivered before: no stream
delivers a header once `header_streamed` is set, and a stream that delivers one sets it -/
theorem headers_le_one (ops : List Op) (lb : LB) :
    ((streamsFrom lb ops).filter (·.header)).length + lb.headerStreamed.toNat ≤ 1 := by
  induction ops generalizing lb with
  | nil => exact (Nat.zero_add _).symm ▸ Bool.toNat_le lb.headerStreamed
  | cons o os ih =>
    have key : ((streamOf lb o).filter (·.header)).length + lb.headerStreamed.toNat ≤
        (step lb o).1.headerStreamed.toNat := by
      have hf := (step_frame lb o).2
      cases o
      case stream =>
        obtain ⟨h1, h2⟩ := stream_header lb
        simp only [streamOf, step, List.filter_cons, List.filter_nil, h1, h2]
        cases lb.headerStreamed <;> cases (lb.buffindex == 0 && decide (0 < lb.rows.length) && lb.logHeader) <;>
          exact Nat.le_refl _
      all_goals
        cases h : lb.headerStreamed
        · exact Nat.zero_le _
        · rw [hf h]; exact Nat.le_refl _
    have := ih (step lb o).1
    rw [streamsFrom_cons, List.filter_append, List.length_append]
    omega

end C18L
