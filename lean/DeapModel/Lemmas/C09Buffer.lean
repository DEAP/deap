/-
C09 — the buffer heap of `Core/Buffer.lean`: frames (`Frame1`, `Frame2`, `Frame2A`: which buffers an operator leaves
alone and whether it allocates), the `ok` / `raise` equations of the monad `M` and of `forFold`, and the slice-swapping
tuple assignment under the `copy` and the `view` discipline.
-/
import DeapModel.Core.CrossMutBuf
import DeapModel.Lemmas.C09Basic

namespace C09B
open Buffer

variable {α β γ : Type}

@[simp] theorem cell_write_same (h : Heap α) (id : Nat) (v : List α) : (h.write id v).cell id = v := by
  simp [Heap.write]

theorem cell_write_ne (h : Heap α) (id o : Nat) (v : List α) (hne : o ≠ id) : (h.write id v).cell o = h.cell o := by
  simp [Heap.write, hne]

@[simp] theorem next_write (h : Heap α) (id : Nat) (v : List α) : (h.write id v).next = h.next := rfl

@[simp] theorem cell_alloc_next (h : Heap α) (v : List α) : (h.alloc v).cell h.next = v := by
  simp [Heap.alloc]

theorem cell_alloc_ne (h : Heap α) (o : Nat) (v : List α) (hne : o ≠ h.next) : (h.alloc v).cell o = h.cell o := by
  simp [Heap.alloc, hne]

theorem cell_alloc_lt (h : Heap α) (o : Nat) (v : List α) (hlt : o < h.next) : (h.alloc v).cell o = h.cell o :=
  cell_alloc_ne h o v (by omega)

@[simp] theorem next_alloc (h : Heap α) (v : List α) : (h.alloc v).next = h.next + 1 := rfl

/-- a two-parent operator that does not allocate: every other buffer keeps its contents, no id is used up -/
def Frame2 (ind1 ind2 : Nat) (h h' : Heap α) : Prop :=
  (∀ o, o ≠ ind1 → o ≠ ind2 → h'.cell o = h.cell o) ∧ h'.next = h.next

theorem Frame2.refl (ind1 ind2 : Nat) (h : Heap α) : Frame2 ind1 ind2 h h := ⟨fun _ _ _ => rfl, rfl⟩

theorem Frame2.trans {ind1 ind2 : Nat} {h h1 h2 : Heap α} (a : Frame2 ind1 ind2 h h1) (b : Frame2 ind1 ind2 h1 h2) :
    Frame2 ind1 ind2 h h2 :=
  ⟨fun o o1 o2 => by rw [b.1 o o1 o2, a.1 o o1 o2], by rw [b.2, a.2]⟩

theorem Frame2.write1 (ind1 ind2 : Nat) (h : Heap α) (v : List α) : Frame2 ind1 ind2 h (h.write ind1 v) :=
  ⟨fun _ o1 _ => cell_write_ne _ _ _ _ o1, rfl⟩

theorem Frame2.write2 (ind1 ind2 : Nat) (h : Heap α) (v : List α) : Frame2 ind1 ind2 h (h.write ind2 v) :=
  ⟨fun _ _ o2 => cell_write_ne _ _ _ _ o2, rfl⟩

/-- a mutation that does not allocate: every other buffer keeps its contents, no id is used up -/
def Frame1 (ind : Nat) (h h' : Heap α) : Prop :=
  (∀ o, o ≠ ind → h'.cell o = h.cell o) ∧ h'.next = h.next

theorem Frame1.refl (ind : Nat) (h : Heap α) : Frame1 ind h h := ⟨fun _ _ => rfl, rfl⟩

theorem Frame1.trans {ind : Nat} {h h1 h2 : Heap α} (a : Frame1 ind h h1) (b : Frame1 ind h1 h2) : Frame1 ind h h2 :=
  ⟨fun o ho => by rw [b.1 o ho, a.1 o ho], by rw [b.2, a.2]⟩

theorem Frame1.write (ind : Nat) (h : Heap α) (v : List α) : Frame1 ind h (h.write ind v) :=
  ⟨fun _ ho => cell_write_ne _ _ _ _ ho, rfl⟩

theorem Frame1.to2l {ind1 ind2 : Nat} {h h' : Heap α} (a : Frame1 ind1 h h') : Frame2 ind1 ind2 h h' :=
  ⟨fun o o1 _ => a.1 o o1, a.2⟩

theorem Frame1.to2r {ind1 ind2 : Nat} {h h' : Heap α} (a : Frame1 ind2 h h') : Frame2 ind1 ind2 h h' :=
  ⟨fun o _ o2 => a.1 o o2, a.2⟩

/-- a two-parent operator that allocates fresh buffers (slices that are copies): every other EXISTING buffer
keeps its contents -/
def Frame2A (ind1 ind2 : Nat) (h h' : Heap α) : Prop :=
  (∀ o, o < h.next → o ≠ ind1 → o ≠ ind2 → h'.cell o = h.cell o) ∧ h.next ≤ h'.next

theorem pure_apply (v : β) (h : Heap α) : (pure v : M α β) h = .ok v h := rfl

theorem bind_apply (m : M α β) (f : β → M α γ) (h : Heap α) :
    (m >>= f) h = (match m h with | .ok v h' => f v h' | .raise e h' => .raise e h') := rfl

theorem bind_ok {m : M α β} {f : β → M α γ} {h h1 : Heap α} {v : β} (hm : m h = .ok v h1) :
    (m >>= f) h = f v h1 := by
  rw [bind_apply, hm]

theorem bind_raise {m : M α β} {f : β → M α γ} {h h1 : Heap α} {e : Err} (hm : m h = .raise e h1) :
    (m >>= f) h = .raise e h1 := by
  rw [bind_apply, hm]

theorem len_apply (id : Nat) (h : Heap α) : (len id : M α Nat) h = .ok (h.cell id).length h := rfl

theorem getItem_ok {id i : Nat} {h : Heap α} {x : α} (hx : (h.cell id)[i]? = some x) :
    getItem id i h = .ok x h := by
  simp [getItem, hx]

theorem setItem_ok {id i : Nat} {h : Heap α} (v : α) (hi : i < (h.cell id).length) :
    setItem id i v h = .ok () (h.write id ((h.cell id).set i v)) := by
  simp [setItem, hi]

theorem tabGet_ok {t : List γ} {i : Nat} {x : γ} {h : Heap α} (hx : t[i]? = some x) :
    (tabGet t i : M α γ) h = .ok x h := by
  simp [tabGet, hx]

theorem tabSet_ok {t : List γ} {i : Nat} (v : γ) {h : Heap α} (hi : i < t.length) :
    (tabSet t i v : M α (List γ)) h = .ok (t.set i v) h := by
  simp [tabSet, hi]

theorem forFold_nil {ι σ : Type} (s : σ) (body : σ → ι → M α σ) : forFold [] s body = pure s := rfl

theorem forFold_cons {ι σ : Type} (i : ι) (is : List ι) (s : σ) (body : σ → ι → M α σ) :
    forFold (i :: is) s body = body s i >>= fun s' => forFold is s' body := rfl

theorem forFold_sim {ι σ τ : Type} (R : σ → Heap α → τ → Prop)
    (body : σ → ι → M α σ) (f : τ → ι → τ) (l : List ι)
    (hstep : ∀ s h t i, i ∈ l → R s h t → ∃ s' h', body s i h = .ok s' h' ∧ R s' h' (f t i))
    (s : σ) (h : Heap α) (t : τ) (hR : R s h t) :
    ∃ s' h', forFold l s body h = .ok s' h' ∧ R s' h' (l.foldl f t) := by
  induction l generalizing s h t with
  | nil => exact ⟨s, h, rfl, hR⟩
  | cons i is ih =>
    obtain ⟨s1, h1, hb, hR1⟩ := hstep s h t i (by simp) hR
    obtain ⟨s2, h2, hf, hR2⟩ := ih (fun s h t j hj => hstep s h t j (by simp [hj])) s1 h1 (f t i) hR1
    exact ⟨s2, h2, by rw [forFold_cons, bind_ok hb]; exact hf, hR2⟩

theorem forFold_readonly {ι σ : Type} (Q : σ → Prop) (body : σ → ι → M α σ) (f : σ → ι → σ) (l : List ι) (h : Heap α)
    (hstep : ∀ s i, i ∈ l → Q s → body s i h = .ok (f s i) h ∧ Q (f s i)) (s : σ) (hQ : Q s) :
    forFold l s body h = .ok (l.foldl f s) h ∧ Q (l.foldl f s) := by
  induction l generalizing s with
  | nil => exact ⟨rfl, hQ⟩
  | cons i is ih =>
    obtain ⟨hb, hQ1⟩ := hstep s i (by simp) hQ
    rw [forFold_cons, bind_ok hb]
    exact ih (fun s j hj => hstep s j (by simp [hj])) (f s i) hQ1

theorem swapItems_sim (ind1 ind2 i : Nat) (hne : ind1 ≠ ind2) (h : Heap α)
    (h1 : i < (h.cell ind1).length) (h2 : i < (h.cell ind2).length) :
    ∃ h', CrossMutBuf.swapItems ind1 ind2 i h = .ok () h' ∧
      (h'.cell ind1, h'.cell ind2) = CrossMut.swapAt2 i (h.cell ind1, h.cell ind2) ∧ Frame2 ind1 ind2 h h' := by
  have hx : (h.cell ind2)[i]? = some (h.cell ind2)[i] := List.getElem?_eq_getElem h2
  have hy : (h.cell ind1)[i]? = some (h.cell ind1)[i] := List.getElem?_eq_getElem h1
  refine ⟨(h.write ind1 ((h.cell ind1).set i (h.cell ind2)[i])).write ind2 ((h.cell ind2).set i (h.cell ind1)[i]),
    ?_, ?_, (Frame2.write1 _ _ _ _).trans (Frame2.write2 _ _ _ _)⟩
  · unfold CrossMutBuf.swapItems
    rw [bind_ok (getItem_ok hx), bind_ok (getItem_ok hy), bind_ok (setItem_ok _ h1)]
    have h2' : i < ((h.write ind1 ((h.cell ind1).set i (h.cell ind2)[i])).cell ind2).length := by
      rw [cell_write_ne _ _ _ _ (Ne.symm hne)]; exact h2
    rw [setItem_ok _ h2', cell_write_ne _ _ _ _ (Ne.symm hne)]
  · simp only [CrossMut.swapAt2, hx, hy, cell_write_same, cell_write_ne _ _ _ _ hne]

theorem clampSlice_le (n a : Nat) (b : Option Nat) : (clampSlice n a b).1 + (clampSlice n a b).2 ≤ n := by
  have h : ∀ stop, stop ≤ n → min a n + (stop - min a n) ≤ n := fun stop hs => by
    have := Nat.min_le_right a n
    omega
  cases b with
  | none => exact h n (Nat.le_refl n)
  | some b => exact h (min b n) (Nat.min_le_right b n)

theorem pySliceO_eq_window (l : List α) (a : Nat) (b : Option Nat) :
    pySliceO l a b = (l.drop (clampSlice l.length a b).1).take (clampSlice l.length a b).2 := by
  rcases Nat.le_total a l.length with h | h
  · cases b with
    | none =>
      show l.drop a = (l.drop (min a l.length)).take (l.length - min a l.length)
      rw [Nat.min_eq_left h, List.take_of_length_le (by rw [List.length_drop])]
    | some b =>
      show (l.take b).drop a = (l.drop (min a l.length)).take (min b l.length - min a l.length)
      rw [Nat.min_eq_left h, List.drop_take, List.take_eq_take_iff, List.length_drop, Nat.sub_min_sub_right,
        Nat.min_eq_left (Nat.sub_le_sub_right (Nat.min_le_right _ _) _)]
  · -- the start lies behind the end of the list: both sides are empty
    have e : (clampSlice l.length a b).1 = l.length := Nat.min_eq_right h
    rw [e, List.drop_length, List.take_nil]
    cases b with
    | none => exact List.drop_eq_nil_of_le h
    | some b => exact List.drop_eq_nil_of_le ((List.length_take_le' _ _).trans h)

theorem slice_view_buf (id a : Nat) (b : Option Nat) (h : Heap α) :
    (slice .view (.buf id) a b : M α Obj) h
      = .ok (.win id (clampSlice (h.cell id).length a b).1 (clampSlice (h.cell id).length a b).2 false) h := rfl

theorem sliceAssign_view_ok (id a : Nat) (b : Option Nat) (src : Obj) (h : Heap α) (c : Nat × Nat)
    (hc : clampSlice (h.cell id).length a b = c) (hl : (h.read src).length = c.2) :
    (sliceAssign .view id a b src : M α Unit) h
      = .ok () (h.write id ((h.cell id).take c.1 ++ h.read src ++ (h.cell id).drop (c.1 + c.2))) := by
  unfold sliceAssign
  simp only [hc, if_pos hl]

/-- `l[a:b] = v` on a list / array.array -/
def splice (l : List α) (a : Nat) (b : Option Nat) (v : List α) : List α :=
  l.take a ++ v ++ l.drop (max a (b.getD l.length))

theorem splice_none (l v : List α) (a : Nat) : splice l a none v = l.take a ++ v := by
  simp only [splice, Option.getD_none]
  rw [List.drop_of_length_le (by omega), List.append_nil]

theorem splice_some (l v : List α) (a b : Nat) : splice l a (some b) v = CrossMut.sliceAssign l a b v := rfl

/-- the slice-swapping tuple assignment under `copy`: each buffer receives the items the other one held
BEFORE the statement -/
theorem swapSlices_copy (ind1 ind2 : Nat) (hne : ind1 ≠ ind2) (h : Heap α) (h1 : ind1 < h.next) (h2 : ind2 < h.next)
    (a1 : Nat) (b1 : Option Nat) (a2 : Nat) (b2 : Option Nat) :
    ∃ h', CrossMutBuf.swapSlices .copy ind1 ind2 a1 b1 a2 b2 h = .ok () h' ∧
      h'.cell ind1 = splice (h.cell ind1) a1 b1 (pySliceO (h.cell ind2) a2 b2) ∧
      h'.cell ind2 = splice (h.cell ind2) a2 b2 (pySliceO (h.cell ind1) a1 b1) ∧ Frame2A ind1 ind2 h h' := by
  -- under `copy` no statement can fail: the run is a computation; it remains to read the cells of the final heap
  refine ⟨_, rfl, ?_, ?_, fun o ho o1 o2 => ?_, Nat.le_add_right h.next 2⟩
  · rw [cell_write_ne _ _ _ _ hne, cell_write_same]
    simp only [Heap.read, cell_alloc_lt _ _ _ h1, cell_alloc_lt (h.alloc _) _ _ (Nat.lt_succ_of_lt h1),
      cell_alloc_lt (h.alloc _) _ _ (Nat.lt_succ_self h.next), cell_alloc_next]
    rfl
  · have n1 : (h.alloc (pySliceO (h.cell ind2) a2 b2)).next ≠ ind1 := Nat.ne_of_gt (Nat.lt_succ_of_lt h1)
    rw [cell_write_same]
    simp only [Heap.read, cell_write_ne _ _ _ _ hne.symm, cell_write_ne _ _ _ _ n1, cell_alloc_lt _ _ _ h1,
      cell_alloc_lt _ _ _ h2, cell_alloc_lt (h.alloc _) _ _ (Nat.lt_succ_of_lt h2), cell_alloc_next]
    rfl
  · rw [cell_write_ne _ _ _ _ o2, cell_write_ne _ _ _ _ o1, cell_alloc_lt (h.alloc _) _ _ (Nat.lt_succ_of_lt ho),
      cell_alloc_lt _ _ _ ho]

/-- the same statement under `view`, for segments of equal length: the first store copies the other
buffer's items in, the second store reads them back through the window — the second buffer is
unchanged (`doc/tutorials/advanced/numpy.rst`) -/
theorem swapSlices_view (ind1 ind2 : Nat) (hne : ind1 ≠ ind2) (h : Heap α)
    (a1 : Nat) (b1 : Option Nat) (a2 : Nat) (b2 : Option Nat)
    (hlen : (clampSlice (h.cell ind1).length a1 b1).2 = (clampSlice (h.cell ind2).length a2 b2).2) :
    ∃ h', CrossMutBuf.swapSlices .view ind1 ind2 a1 b1 a2 b2 h = .ok () h' ∧
      h'.cell ind1 = (h.cell ind1).take (clampSlice (h.cell ind1).length a1 b1).1 ++ pySliceO (h.cell ind2) a2 b2
        ++ (h.cell ind1).drop ((clampSlice (h.cell ind1).length a1 b1).1 + (clampSlice (h.cell ind1).length a1 b1).2) ∧
      h'.cell ind2 = h.cell ind2 ∧ Frame2 ind1 ind2 h h' := by
  generalize hc1 : clampSlice (h.cell ind1).length a1 b1 = c1 at hlen ⊢
  generalize hc2 : clampSlice (h.cell ind2).length a2 b2 = c2 at hlen ⊢
  have le1 := clampSlice_le (h.cell ind1).length a1 b1
  have le2 := clampSlice_le (h.cell ind2).length a2 b2
  rw [hc1] at le1; rw [hc2] at le2
  have hv : pySliceO (h.cell ind2) a2 b2 = ((h.cell ind2).drop c2.1).take c2.2 := by rw [pySliceO_eq_window, hc2]
  have hvl : (pySliceO (h.cell ind2) a2 b2).length = c2.2 := by rw [hv, List.length_take, List.length_drop]; omega
  generalize pySliceO (h.cell ind2) a2 b2 = v at hv hvl ⊢
  have r2 : h.read (.win ind2 c2.1 c2.2 false) = v := hv.symm
  have s3 := sliceAssign_view_ok ind1 a1 b1 (.win ind2 c2.1 c2.2 false) h c1 hc1 (by rw [r2, hvl, hlen])
  rw [r2] at s3
  generalize eA : h.write ind1 ((h.cell ind1).take c1.1 ++ v ++ (h.cell ind1).drop (c1.1 + c1.2)) = hA at s3
  have cA1 : hA.cell ind1 = (h.cell ind1).take c1.1 ++ v ++ (h.cell ind1).drop (c1.1 + c1.2) := by rw [← eA, cell_write_same]
  have cA2 : hA.cell ind2 = h.cell ind2 := by rw [← eA, cell_write_ne _ _ _ _ hne.symm]
  -- what the window onto buffer 1 shows now: the items that came from buffer 2
  have r1 : hA.read (.win ind1 c1.1 c1.2 false) = v := by
    have tl : ((h.cell ind1).take c1.1).length = c1.1 := by
      rw [List.length_take, Nat.min_eq_left (Nat.le_trans (Nat.le_add_right _ _) le1)]
    show ((hA.cell ind1).drop c1.1).take c1.2 = v
    rw [cA1, List.append_assoc, List.drop_left' tl, List.take_left' (hvl.trans hlen.symm)]
  -- so the second store writes buffer 2's own items back
  have s4 := sliceAssign_view_ok ind2 a2 b2 (.win ind1 c1.1 c1.2 false) hA c2 (by rw [cA2, hc2]) (by rw [r1, hvl])
  rw [r1, cA2, hv, List.append_assoc, ← List.drop_drop, List.take_append_drop, List.take_append_drop] at s4
  refine ⟨hA.write ind2 (h.cell ind2), ?_, ?_, cell_write_same _ _ _, ?_⟩
  · unfold CrossMutBuf.swapSlices
    rw [bind_ok (slice_view_buf ind2 a2 b2 h), bind_ok (slice_view_buf ind1 a1 b1 h), hc1, hc2, bind_ok s3, s4]
  · rw [cell_write_ne _ _ _ _ hne]; exact cA1
  · rw [← eA]; exact (Frame2.write1 _ _ _ _).trans (Frame2.write2 _ _ _ _)

theorem run2_of_ok {β : Type} {m : M α β} {l1 l2 : List α} {v : β} {h' : Heap α}
    (e : m (heap2 l1 l2) = .ok v h') : run2 m l1 l2 = some (h'.cell 0, h'.cell 1) := by
  simp only [run2, e]

theorem run1_of_ok {β : Type} {m : M α β} {l : List α} {v : β} {h' : Heap α}
    (e : m (heap1 l) = .ok v h') : run1 m l = some (h'.cell 0) := by
  simp only [run1, e]

theorem run2_of_sim {β : Type} {m : M α β} {l1 l2 : List α} {r : β} {p : List α × List α} {F : Heap α → Prop}
    (h : ∃ h', m (heap2 l1 l2) = .ok r h' ∧ (h'.cell 0, h'.cell 1) = p ∧ F h') : run2 m l1 l2 = some p := by
  obtain ⟨h', e, c, _⟩ := h
  rw [run2_of_ok e, c]

theorem run1_of_sim {β : Type} {m : M α β} {l out : List α} {r : β} {F : Heap α → Prop}
    (h : ∃ h', m (heap1 l) = .ok r h' ∧ h'.cell 0 = out ∧ F h') : run1 m l = some out := by
  obtain ⟨h', e, c, _⟩ := h
  rw [run1_of_ok e, c]

end C09B
