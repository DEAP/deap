import DeapModel.Core.Py
import DeapModel.Core.Scalar
import DeapModel.Core.Fitness
import DeapModel.Core.FitClass
import DeapModel.RealInst
import DeapModel.Props.C01
import DeapModel.Props.C02
import DeapModel.Props.C09
import DeapModel.Props.C19
import DeapModel.Props.C10
import DeapModel.Props.C04
import DeapModel.Props.C06
import DeapModel.Props.C20
import DeapModel.Props.C08
import DeapModel.Props.C11
-- the translator-tie module of C11 is built from the root: no property file needs it
import DeapModel.Lemmas.C11Tie
import DeapModel.Props.C12
import DeapModel.Props.C13
import DeapModel.Props.C15
import DeapModel.Props.C18
import DeapModel.Props.C05
import DeapModel.Props.C03
import DeapModel.Props.C07
import DeapModel.Props.C14
import DeapModel.Props.C16
import DeapModel.Props.C17
